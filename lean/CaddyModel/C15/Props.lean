/-
C15 — the property theorems.

Statement: for every response body, sequence of writes and flushes, status and header set, and every
Accept-Encoding header, a client that decodes the response according to its Content-Encoding obtains exactly
the bytes the handler wrote. A content coding is applied only if the client accepts it with non-zero quality
and the response is eligible (matcher, minimum length, not already encoded, no no-transform), in which case
Content-Encoding and Vary are set, no stale Content-Length remains, and a strong ETag is made distinct per
coding and is recognised again in If-None-Match.

All theorems quantify over every script of handler calls (`ops : List (Op α)`: WriteHeader / Write / Flush /
ReadFrom with arbitrary chunking / header edits, in any order and number), every payload type `α`
(instantiate `α := Bytes`, `size := List.length`), every matcher, every `DetectContentType`, every request, and
every configuration: every `minimum_length`, negative ones included (Witness.lean keeps the `ReadFrom` of before
commit 954786b and proves that the same statements FAIL for it, `…_old_code_fails`).
The script needs no hypothesis either: a handler that answers `101 Switching Protocols` before anything is
committed fixes the response as 101 (the writer forwards it like any 1xx, net/http treats it as final and
refuses a body) — the per-clause theorems say "… or the response was fixed as 101" (`Final101`),
`transparent_total` states transparency with net/http's body rule (HEAD, 1xx/101, 204, 304) as an explicit
outcome. (`transparent`, `transparent_wrapped`, `transparent_bytes`, `final_shape_no101` assume `No101` instead.)
-/
import CaddyModel.C15.Lemmas
import CaddyModel.C15.Negotiation
import CaddyModel.C15.Neighbours
import CaddyModel.C15.Witness  -- used by nothing here: the root module reaches Witness.lean through this line
import CaddyModel.Gen.Encode
import CaddyModel.Gen.ProxyFlush
import CaddyModel.Gen.DirectiveOrder
import CaddyModel.Gen.Sidecar
import CaddyModel.Util.StrLemmas  -- `repeat rw [str_ofList]` below is silent without it

namespace CaddyModel.C15

section
variable {α : Type}

/-- the response went through the encoder -/
def Encoded (st : St α) : Prop := plainOnly st.log = false

/-- every finished response of a handler that never answers 101 has one of the two legal shapes -/
theorem final_shape_no101 (cfg : Cfg α) (name : Bytes) (ic : Bool) (ops : List (Op α))
    (h101 : No101 ops) : Shape cfg name (runWrapped cfg name ic ops) :=
  shape_rwClose (inv_run ops _ h101 (inv_init cfg name ic))

/-- **every finished response, of every script**, has one of the two legal shapes — or was fixed as
    `101 Switching Protocols` before anything was committed (then no HTTP body follows at all) -/
theorem final_shape (cfg : Cfg α) (name : Bytes) (ic : Bool) (ops : List (Op α)) :
    Shape cfg name (runWrapped cfg name ic ops) ∨ Final101 (runWrapped cfg name ic ops) := by
  rcases inv_or_101_run ops (St.init name ic) (inv_init cfg name ic) with h | h
  · exact Or.inl (shape_rwClose h)
  · exact Or.inr (final101_rwClose cfg _ h)

/-- **decision once.** As soon as the writer has committed the header (`wroteHeader`, which happens before the
    first body byte is handed on: see `no_body_before_commit`) the choice encode / identity never changes,
    whatever the handler does next — for every configuration. -/
theorem decision_once (cfg : Cfg α) (st : St α) (ops : List (Op α)) (hw : st.wroteHeader = true) :
    (run cfg st ops).encOpen = st.encOpen ∧ (run cfg st ops).wroteHeader = true :=
  List.foldlRecOn (motive := fun s : St α => s.encOpen = st.encOpen ∧ s.wroteHeader = true) ops _ ⟨rfl, hw⟩
    fun s hs op _ => ⟨(committed_step cfg s op hs.2).2.trans hs.1, (committed_step cfg s op hs.2).1⟩

/-- nothing but (1xx) headers reaches the client, and no encoder is open, before the header is committed -/
theorem no_body_before_commit (cfg : Cfg α) (name : Bytes) (ic : Bool) (ops : List (Op α))
    (hw : (run cfg (St.init name ic) ops).wroteHeader = false) :
    (headerOnly (run cfg (St.init name ic) ops).log = true ∧ (run cfg (St.init name ic) ops).encOpen = false ∧
      (run cfg (St.init name ic) ops).sent = none) ∨ Final101 (run cfg (St.init name ic) ops) := by
  rcases inv_or_101_run ops (St.init name ic) (inv_init cfg name ic) with h | h
  · have h' := h.pre hw
    exact Or.inl ⟨h'.2.2, h'.2.1, h'.1⟩
  · exact Or.inr h

/-- **no mixed streams.** The finished response is either plain bytes only, or encoder output only that is
    terminated by the encoder's `Close`. -/
theorem no_mixed_stream (cfg : Cfg α) (name : Bytes) (ic : Bool) (ops : List (Op α)) :
    plainOnly (runWrapped cfg name ic ops).log = true ∨
      (∃ rest, (runWrapped cfg name ic ops).log = Ev.ec :: rest ∧ encOnly rest = true) ∨
      Final101 (runWrapped cfg name ic ops) := by
  rcases final_shape cfg name ic ops with hs | h
  · cases hs with
    | identity h => exact Or.inl h
    | encoded rest _ _ _ hlog henc _ _ _ => exact Or.inr (Or.inl ⟨rest, hlog, henc⟩)
  · exact Or.inr (Or.inr h)

/-- the handler's payloads are handed on completely, in order, exactly once — in every configuration -/
theorem nothing_lost_or_duplicated (cfg : Cfg α) (name : Bytes) (ic : Bool) (ops : List (Op α)) :
    payloads (runWrapped cfg name ic ops).log = written cfg ops := by
  unfold runWrapped run written
  rw [payloads_rwClose, foldl_accum (g := fun s : St α => payloads s.log) (payloads_step cfg)]
  rfl

/-- a response of one of the two legal shapes decodes to the payloads that were handed on -/
theorem clientBody_of_shape (cfg : Cfg α) (name : Bytes) (st : St α) (hsh : Shape cfg name st) :
    clientBody (some name) st = some (payloads st.log) := by
  cases hsh with
  | identity h => simp [clientBody, h]
  | encoded rest s sc h0 hlog henc hsent _ _ =>
    have hnp : plainOnly st.log = false := by
      rw [hlog]; simp [plainOnly, Ev.plainOk]
    have hce : sentCE st = [name] := by
      simp [sentCE, hsent, initHdr_CE]
    unfold clientBody
    rw [hnp, hlog]
    simp [henc, hce, payloads]

/-- **transparency** of the response writer: for ALL scripts, a client that decodes according to the
    Content-Encoding it received obtains exactly what the handler wrote. -/
theorem transparent_wrapped (cfg : Cfg α) (name : Bytes) (ic : Bool) (ops : List (Op α))
    (h101 : No101 ops) :
    clientBody (some name) (runWrapped cfg name ic ops) = some (written cfg ops) := by
  rw [clientBody_of_shape cfg name _ (final_shape_no101 cfg name ic ops h101), nothing_lost_or_duplicated]

/-- **transparency without any hypothesis on the script**, with net/http's body rule as an explicit outcome:
    for EVERY script (101 Switching Protocols included), every configuration, HEAD or not — the client of a real
    server obtains nothing when the request is HEAD or the final status forbids a body (1xx/101, 204, 304:
    net/http refuses the handler's writes with or without this handler), and otherwise exactly the bytes the
    handler wrote. -/
theorem transparent_total (cfg : Cfg α) (name : Bytes) (ic head : Bool) (ops : List (Op α)) :
    delivered head (some name) (runWrapped cfg name ic ops) =
      some (if head || noBodyStatus (runWrapped cfg name ic ops) then [] else written cfg ops) := by
  refine delivered_of _ _ _ _ fun hnb => ?_
  rcases final_shape cfg name ic ops with hsh | ⟨hh, e⟩
  · rw [clientBody_of_shape cfg name _ hsh, nothing_lost_or_duplicated]
  · -- fixed as 101: a status that forbids a body
    rw [noBodyStatus, e] at hnb
    cases hnb

/-- the same for the whole handler — whatever `ServeHTTP` negotiates for whatever request, wrapped or not -/
theorem transparent_total_serve (cfg : Cfg α) (offered prefer : List Bytes) (req : Req) (head : Bool)
    (ops : List (Op α)) :
    delivered head (serve cfg offered prefer req ops).sel (serve cfg offered prefer req ops).final =
      some (if head || noBodyStatus (serve cfg offered prefer req ops).final then [] else written cfg ops) := by
  unfold serve
  split
  · exact transparent_total cfg _ _ head ops
  · exact delivered_of _ _ _ _ fun _ => clientBody_runPlain cfg _ ops _

/-- a handler that answers `101 Switching Protocols` before anything else is committed has fixed the response:
    101 is what the client is told, whatever the handler writes afterwards — the body clauses do not apply -/
theorem switching_protocols_is_final (cfg : Cfg α) (name : Bytes) (ic : Bool) (pre rest : List (Op α))
    (hpre : ∀ op ∈ pre, Preliminary op) :
    ∃ h, (runWrapped cfg name ic (pre ++ Op.writeHeader 101 :: rest)).sent = some (101, h) := by
  obtain ⟨_, hun⟩ := preliminary_run cfg name ic pre hpre
  rw [runWrapped_append]
  exact final101_rwClose cfg _ (final101_run cfg rest _ (uncommitted_101 hun.2.1))

/-- **transparency**, whole handler: whatever `ServeHTTP` negotiates for whatever request. -/
theorem transparent (cfg : Cfg α) (offered prefer : List Bytes) (req : Req) (ops : List (Op α))
    (h101 : No101 ops) :
    clientBody (serve cfg offered prefer req ops).sel (serve cfg offered prefer req ops).final
      = some (written cfg ops) := by
  unfold serve
  split
  · exact transparent_wrapped cfg _ _ ops h101
  · exact clientBody_runPlain cfg _ ops _

/-- **a coding is negotiated only if** the client lists it with non-zero quality, it is offered, the request
    does not forbid transformation, and (WebSocket handshake) it is `identity`. -/
theorem negotiated_only_if (offered prefer : List Bytes) (req : Req) (c : Bytes)
    (h : chooseEncoding offered prefer req = some c) :
    Accepts req.acceptEnc c ∧ c ∈ offered ∧ transformAllowed req.cacheControl = true ∧
      (req.wsKey = true → c = vIdentity) := by
  obtain ⟨ht, h⟩ := chooseEncoding_some h
  obtain ⟨elem, he, hn, hq, hws⟩ := mem_acceptedEncodings (List.mem_of_find?_eq_some h)
  exact ⟨⟨elem, he, hn, hq⟩, by simpa using List.find?_some h, ht, hws⟩

/-- **first offered among accepted.** `ServeHTTP` takes the first offered name in `AcceptedEncodings`' order
    (every name before it is not offered). -/
theorem first_offered_among_accepted (offered prefer : List Bytes) (req : Req) (c : Bytes)
    (h : chooseEncoding offered prefer req = some c) :
    ∃ before after, acceptedEncodings req.acceptEnc req.wsKey prefer = before ++ c :: after ∧
      ∀ n ∈ before, n ∉ offered := by
  obtain ⟨as, bs, h1, h2⟩ := (List.find?_eq_some_iff_append.mp (chooseEncoding_some h).2).2
  exact ⟨as, bs, h1, fun n hn => by simpa using h2 n hn⟩

/-- **the chosen coding is a most preferred one**: among the offered codings the client accepts, none has a
    higher q-value, nor the same q-value and a higher server preference (`prefer`), than the chosen one. -/
theorem chosen_is_most_preferred (offered prefer : List Bytes) (req : Req) (c : Bytes)
    (h : chooseEncoding offered prefer req = some c) :
    ∃ pc ∈ acceptedPrefs req.acceptEnc req.wsKey prefer, pc.name = c ∧
      ∀ p ∈ acceptedPrefs req.acceptEnc req.wsKey prefer, p.name ∈ offered → PrefGe pc p := by
  have h := (chooseEncoding_some h).2
  unfold acceptedEncodings at h
  split at h
  · cases h
  · rw [List.find?_map] at h
    obtain ⟨pc, hf, rfl⟩ := Option.map_eq_some_iff.mp h
    exact ⟨pc, (mem_goSort _ _).mp (List.mem_of_find?_eq_some hf), rfl, fun p hp hoff =>
      find?_pairwise prefGe_refl (goSort_sorted _) hf p ((mem_goSort _ _).mpr hp) (by simpa using hoff)⟩

/-- **encoded only if eligible, and then with the right headers.** If the response went through the encoder,
    the header the client received is exactly `init`'s edit of a handler header `h0` that was not already
    encoded, carried no `no-transform`, satisfied the response matcher, and met the minimum length. -/
theorem encoded_only_if (cfg : Cfg α) (name : Bytes) (ic : Bool) (ops : List (Op α))
    (henc : Encoded (runWrapped cfg name ic ops)) :
    (∃ s sc h0 rest, (runWrapped cfg name ic ops).sent = some (s, initHdr name h0) ∧
      (runWrapped cfg name ic ops).log = Ev.ec :: rest ∧ InitOk cfg sc h0 ∧ MinLenOk cfg h0 rest) ∨
      Final101 (runWrapped cfg name ic ops) := by
  rcases final_shape cfg name ic ops with hs | h
  · cases hs with
    | identity h => simp [Encoded, h] at henc
    | encoded rest s sc h0 hlog _ hsent hok hm => exact Or.inl ⟨s, sc, h0, rest, hsent, hlog, hok, hm⟩
  · exact Or.inr h

/-- **headers when encoded.** `Content-Encoding` is exactly the coding, `Vary` lists `Accept-Encoding`, no
    `Content-Length` (and no `Accept-Ranges`) remains — in the header the client received. -/
theorem headers_when_encoded (cfg : Cfg α) (name : Bytes) (ic : Bool) (ops : List (Op α))
    (henc : Encoded (runWrapped cfg name ic ops)) :
    (∃ s h, (runWrapped cfg name ic ops).sent = some (s, h) ∧ hValues h kCE = [name] ∧ hasVary h = true ∧
      hValues h kCL = [] ∧ hValues h kAR = []) ∨ Final101 (runWrapped cfg name ic ops) := by
  rcases encoded_only_if cfg name ic ops henc with ⟨s, _, h0, _, hsent, _, _, _⟩ | h
  · exact Or.inl ⟨s, _, hsent, initHdr_CE name h0, initHdr_vary name h0, initHdr_CL name h0, initHdr_AR name h0⟩
  · exact Or.inr h

/-- what `init` does to the other headers: nothing. -/
theorem init_touches_nothing_else (name : Bytes) (h0 : Hdr) (k : Bytes)
    (h1 : k ≠ kCL) (h2 : k ≠ kCE) (h3 : k ≠ kVary) (h4 : k ≠ kAR) (h5 : k ≠ kEtag) :
    hValues (initHdr name h0) k = hValues h0 k := by
  unfold initHdr
  rw [hValues_etagStep_ne _ _ h5, initHdr_pre name h0 h1 h2 h3 h4]

/-- **ETag of an encoded response**: a non-empty tag without `W/` prefix gets the coding appended inside the
    closing quote; weak tags and absent tags are left alone. -/
theorem etag_when_encoded (name : Bytes) (h0 : Hdr) :
    hValues (initHdr name h0) kEtag =
      if !(hGet h0 kEtag).isEmpty && !hasPrefix vWeakPrefix (hGet h0 kEtag) then [adjustEtag name (hGet h0 kEtag)]
      else hValues h0 kEtag := by
  have pre := initHdr_pre name h0 (k := kEtag) (by decide) (by decide) (by decide) (by decide)
  unfold initHdr etagStep
  rw [hGet_congr pre]
  split
  · rw [hValues_set_self]
  · exact pre

/-- **headers are edited only when the encoder is opened.** One call on the writer changes the values of a
    header `k` (other than `Vary`, which a 304 gets, and a sniffed `Content-Type`) exactly as the handler's own
    edit does — unless this very call, starting from an uncommitted writer, opened the encoder (`init`). In
    particular `Content-Encoding`, `Content-Length` and `ETag` are never touched on a response that is not
    encoded. Holds for every configuration. -/
theorem header_untouched_unless_init (cfg : Cfg α) (st : St α) (op : Op α) (k : Bytes)
    (h1 : k ≠ kVary) (h2 : k ≠ kCT) :
    hValues (step cfg st op).hdr k = hValues (hdrEffect op st.hdr) k ∨
      (st.wroteHeader = false ∧ (step cfg st op).encOpen = true) := by
  by_cases hwh : ∃ s, op = .writeHeader s
  · obtain ⟨s, rfl⟩ := hwh
    exact Or.inl (hdr_rwWriteHeader st s h1)
  · cases he : op.isHeaderEdit with
    | true => rw [step_edit cfg st he]; exact Or.inl rfl
    | false =>
      have hb : hdrEffect op st.hdr = st.hdr := by cases op <;> first | rfl | cases he
      rw [hb]
      have body : ∀ {P : St α → Prop}, Kept cfg P → P st → P (step cfg st op) := fun k h =>
        kept_step k op (fun s e => absurd ⟨s, e⟩ hwh) (fun h => by rw [he] at h; cases h) h
      cases hw : st.wroteHeader with
      | true => exact Or.inl (by rw [(body (committed_kept cfg st.encOpen (· = st.hdr)) ⟨hw, rfl, rfl⟩).2.2])
      | false => exact (body (hdr_kept cfg h2 (hValues st.hdr k)) (Or.inl rfl)).imp id (fun h => ⟨rfl, h⟩)

/-- the deferred `Close` leaves the header map alone unless it opens (and at once closes) the encoder -/
theorem close_untouched_unless_init (cfg : Cfg α) (st : St α) :
    (rwClose cfg st).hdr = st.hdr ∨ (st.wroteHeader = false ∧ (rwClose cfg st).log.head? = some Ev.ec) := by
  by_cases hw : st.wroteHeader = true
  · rw [rwClose_committed cfg hw]; left; split <;> rfl
  · unfold rwClose
    rw [closeHeader_eq, if_neg hw]
    by_cases hc : (clGtMin cfg st.hdr && initOk cfg st) = true
    · rw [if_pos hc, if_pos (by rw [commitHeader_encOpen])]
      exact Or.inr ⟨Bool.eq_false_iff.mpr hw, rfl⟩
    · rw [if_neg hc]; left
      split <;> exact commitHeader_hdr st

/-- **304 Not Modified carries `Vary: Accept-Encoding`** (issue 5849) although no body — hence no `init` — ever
    comes: `WriteHeader(304)` adds it at once unless the handler listed it already; nothing else is touched. -/
theorem vary_on_304 (st : St α) :
    hasVary (rwWriteHeader st 304).hdr = true ∧
      ∀ k, k ≠ kVary → hValues (rwWriteHeader st 304).hdr k = hValues st.hdr k := by
  refine ⟨?_, fun k hk => hdr_rwWriteHeader st 304 hk⟩
  have e : (rwWriteHeader st 304).hdr = varyStep st.hdr := by
    rw [rwWriteHeader_hdr]
    unfold vary304 varyStep
    cases hasVary st.hdr <;> rfl
  rw [e]; exact hasVary_varyStep st.hdr

/-- **Flush before the header is committed is swallowed** (bug 4314: flushing would send the header before it is
    known whether Content-Encoding must be added) — whatever status the handler has announced, 1xx included;
    the only exception is a CONNECT request that has not announced a status. -/
theorem flush_before_commit_is_deferred (st : St α) (hw : st.wroteHeader = false)
    (hc : (st.isConnect && st.statusCode == 0) = false) : rwFlush st = st := by
  have e : connectDefault st = st := connectDefault_noop (by rw [Bool.and_right_comm, hc]; rfl)
  simp [rwFlush, e, hw]

/-- **Flush after the header is committed goes through**: first the encoder (if one is open), then the wrapped
    writer — and changes nothing else. -/
theorem flush_after_commit_goes_through (st : St α) (hw : st.wroteHeader = true) :
    (rwFlush st).log = (if st.encOpen then [Ev.fl, Ev.ef] else [Ev.fl]) ++ st.log ∧
      (rwFlush st).encOpen = st.encOpen ∧ (rwFlush st).hdr = st.hdr := by
  have e : connectDefault st = st := connectDefault_noop (by simp [hw])
  simp only [rwFlush, e, hw, flushThrough_eq]
  exact ⟨rfl, rfl, rfl⟩

/-- **1xx is forwarded at once**, with the header map as it is, and decides nothing. -/
theorem informational_forwarded (st : St α) (s : Nat) (h1 : is1xx s = true) :
    (rwWriteHeader st s).log = Ev.wh s st.hdr :: st.log ∧
    (rwWriteHeader st s).wroteHeader = st.wroteHeader ∧ (rwWriteHeader st s).encOpen = st.encOpen ∧
    (s ≠ 101 → (rwWriteHeader st s).sent = st.sent) := by
  have hs : 100 ≤ s ∧ s ≤ 199 := by simpa [is1xx] using h1
  have hv : vary304 s st = st := by
    unfold vary304; rw [if_neg]; simp; omega
  have h2 := connect2xx_1xx st h1
  refine ⟨by rw [rwWriteHeader_log, hv, h1]; rfl, by rw [rwWriteHeader_wroteHeader, h2, Bool.or_false],
    rwWriteHeader_encOpen st s, fun h => ?_⟩
  rw [rwWriteHeader_sent, if_neg (by simp [isInformational, h1, h])]

/-- **a response the handler marked as encoded, or as `no-transform`, is left alone** (precompressed
    file_server sidecars, upstreams that compress themselves: no double encoding). If — after the handler's
    header edits and 1xx responses — the header map carries a Content-Encoding or `Cache-Control: no-transform`,
    then whatever the handler does next short of editing headers again (any status, Write / Flush / ReadFrom in
    any chunking), for every configuration: the encoder is never opened, nothing but plain bytes goes out,
    Content-Encoding and Cache-Control stay exactly what the handler set, and the client gets the handler's bytes. -/
theorem ineligible_response_never_encoded (cfg : Cfg α) (name : Bytes) (ic : Bool) (pre body : List (Op α))
    (hpre : ∀ op ∈ pre, Preliminary op) (hbody : ∀ op ∈ body, op.isHeaderEdit = false)
    (hin : ineligible (run cfg (St.init name ic) pre).hdr = true) :
    plainOnly (runWrapped cfg name ic (pre ++ body)).log = true ∧
    hValues (runWrapped cfg name ic (pre ++ body)).hdr kCE = hValues (run cfg (St.init name ic) pre).hdr kCE ∧
    hValues (runWrapped cfg name ic (pre ++ body)).hdr kCC = hValues (run cfg (St.init name ic) pre).hdr kCC ∧
    clientBody (some name) (runWrapped cfg name ic (pre ++ body)) = some (written cfg (pre ++ body)) := by
  obtain ⟨hinv, hun⟩ := preliminary_run cfg name ic pre hpre
  have hfin : LeftAlone _ _ (runWrapped cfg name ic (pre ++ body)) :=
    runWrapped_append cfg name ic pre body ▸ la_rwClose cfg (la_run cfg body _ hbody
      ⟨hun.2.2, hin, rfl, rfl, headerOnly_plainOnly _ (hinv.pre hun.1).2.2⟩)
  exact ⟨hfin.plain, hfin.ce_eq, hfin.cc_eq, (clientBody_of_shape cfg name _ (.identity hfin.plain)).trans
    (congrArg some (nothing_lost_or_duplicated cfg name ic _))⟩

/-- **the status survives**, for every configuration: a handler that edits headers / sends 1xx, announces the
    final status `s` and then writes its body in any way without calling WriteHeader again gets exactly `s`
    delivered. (Fails for the `ReadFrom` of before 954786b: `status_old_code_fails` (Witness.lean).) -/
theorem status_preserved (cfg : Cfg α) (name : Bytes) (ic : Bool) (pre body : List (Op α)) (s : Nat)
    (hs : is1xx s = false) (hs0 : s ≠ 0)
    (hpre : ∀ op ∈ pre, Preliminary op) (hbody : ∀ op ∈ body, ∀ i, op ≠ Op.writeHeader i) :
    ∃ h, (runWrapped cfg name ic (pre ++ Op.writeHeader s :: body)).sent = some (s, h) := by
  have hni := isInformational_of_not_1xx hs
  rw [runWrapped_append]
  exact held_rwClose cfg hs0 hni _ (held_run cfg hs0 hni body _ hbody
    (held_after_final_writeHeader _ s hs (preliminary_run cfg name ic pre hpre).2))

end

/-- **transparency in bytes**: with byte-string payloads, the concatenation of what the client decodes is the
    concatenation of everything the handler wrote (empty writes included). -/
theorem transparent_bytes (cfg : Cfg Bytes) (hsz : cfg.size = List.length) (offered prefer : List Bytes)
    (req : Req) (ops : List (Op Bytes)) (h101 : No101 ops) :
    (clientBody (serve cfg offered prefer req ops).sel (serve cfg offered prefer req ops).final).map List.flatten
      = some (writtenBytes ops) := by
  rw [transparent cfg offered prefer req ops h101]
  simp only [Option.map_some, Option.some.injEq]
  exact written_flatten cfg hsz ops

/-- **transparency in bytes, no hypothesis**: nothing where HTTP forbids a body, otherwise the concatenation of
    everything the handler wrote -/
theorem transparent_total_bytes (cfg : Cfg Bytes) (hsz : cfg.size = List.length) (offered prefer : List Bytes)
    (req : Req) (head : Bool) (ops : List (Op Bytes)) :
    (delivered head (serve cfg offered prefer req ops).sel (serve cfg offered prefer req ops).final).map List.flatten
      = some (if head || noBodyStatus (serve cfg offered prefer req ops).final then [] else writtenBytes ops) := by
  rw [transparent_total_serve cfg offered prefer req head ops]
  simp only [Option.map_some, Option.some.injEq]
  split
  · rfl
  · exact written_flatten cfg hsz ops

/-! ### a buffering middleware behind the encode handler (`templates`, `intercept`, `handle_response`) -/

/-- **the recorder passes on every byte, in order**: whatever the handler does and whatever the recorder decides
    (stream, buffer, re-decide after a 1xx), the calls that reach the wrapped writer — including the one big
    `Write` of `WriteResponse` — carry exactly the bytes the handler wrote. -/
theorem recorder_passes_all_bytes (shouldBuffer : Nat → Bool) (ops : List (Op Bytes)) :
    writtenBytes (recorderOps shouldBuffer List.flatten List.isEmpty ops) = writtenBytes ops := by
  unfold recorderOps
  obtain ⟨a, b⟩ := recAcc_foldl shouldBuffer ops RecSt.init (Or.inl rfl)
  rw [recFinish_bytes shouldBuffer _ b, a]
  simp [recAcc, RecSt.init, writtenBytes]

/-- **so the chain encode → recorder → handler is transparent**: the client obtains the handler's bytes (or
    nothing where HTTP forbids a body), whichever coding is negotiated and whatever is buffered. -/
theorem buffering_middleware_is_transparent (cfg : Cfg Bytes) (hsz : cfg.size = List.length)
    (offered prefer : List Bytes) (req : Req) (head : Bool) (shouldBuffer : Nat → Bool) (ops : List (Op Bytes)) :
    (delivered head
        (serve cfg offered prefer req (recorderOps shouldBuffer List.flatten List.isEmpty ops)).sel
        (serve cfg offered prefer req (recorderOps shouldBuffer List.flatten List.isEmpty ops)).final).map List.flatten
      = some (if head || noBodyStatus
            (serve cfg offered prefer req (recorderOps shouldBuffer List.flatten List.isEmpty ops)).final
          then [] else writtenBytes ops) := by
  rw [transparent_total_bytes cfg hsz, recorder_passes_all_bytes]

/-! ### entity tags -/

/-- **distinct per coding**: the adjusted tag differs from the handler's tag, and two codings give two tags -/
theorem etag_distinct (name name' e : Bytes) :
    adjustEtag name e ≠ e ∧ (name ≠ name' → adjustEtag name e ≠ adjustEtag name' e) := by
  constructor
  · intro h
    have hl := congrArg List.length h
    have := trimSuffix_length [34] e
    simp [adjustEtag, etagSuffix] at hl this
    omega
  · intro hne h
    simp only [adjustEtag, etagSuffix, List.append_cancel_left_eq, List.cons.injEq, true_and] at h
    exact hne (List.append_cancel_right h)

/-- **recognised again**: the tag a client got from an encoded response, sent back in `If-None-Match` while the
    same coding is negotiated, reaches the handler as the handler's own tag (single strong tag). -/
theorem etag_recognised (name e : Bytes) (h : StrongTag e) : rewriteINM name (adjustEtag name e) = e := by
  obtain ⟨hweak, b, rfl⟩ := h
  have h1 : adjustEtag name (b ++ [34]) = b ++ etagSuffix name := by
    simp [adjustEtag, trimSuffix_append]
  rw [h1]
  unfold rewriteINM
  have h2 : (b ++ etagSuffix name).isEmpty = false := by simp [etagSuffix]
  have h3 : hasSuffix (etagSuffix name) (b ++ etagSuffix name) = true := isSuffixOf_append _ _
  rw [h2, weakPrefix_append b name hweak, h3]
  simp [trimSuffix_append]

/-- weak validators and `*` are never rewritten -/
theorem weak_inm_untouched (name inm : Bytes) (h : hasPrefix vWeakPrefix inm = true) : rewriteINM name inm = inm := by
  simp [rewriteINM, h]

/-! ### Accept-Encoding read as RFC 9110 means it (§12.5.3): refusals by name, the wildcard `*` -/

/-- **every RFC spelling of a refusal is read as a refusal**: a list element `name OWS ";" OWS q=0` — the coding
    name in any case, `q` or `Q`, any white space (SP / HTAB) before and after `;` and around the element, the
    weight written `0`, `0.`, `0.0`, `0.00` or `0.000` — names `toLower name` and carries the weight 0. -/
theorem rfc_refusal_read_as_refusal (lead name ows1 ows2 : Bytes) (qc : UInt8) (qv trail : Bytes)
    (hlead : IsOWS lead) (hname : IsToken name) (h1 : IsOWS ows1) (h2 : IsOWS ows2) (ht : IsOWS trail)
    (hq : qc = 113 ∨ qc = 81) (hz : qv ∈ zeroSpellings) :
    elemName (weightedElem lead name ows1 ows2 qc qv trail) = toLower name ∧
      elemQ (weightedElem lead name ows1 ows2 qc qv trail) = 0 := by
  obtain ⟨hsemi, hf, hl, h0⟩ := zero_weight qc (by rcases hq with rfl | rfl <;> decide) qv hz
  have hs := splitOn_weighted lead name ows1 ows2 qc qv trail hlead hname h1 h2 ht hsemi
  constructor
  · unfold elemName; rw [hs]
    exact elemName_padded lead name ows1 hlead hname h1
  · unfold elemQ; rw [hs]
    exact (qOfParam_padded ows2 _ trail h2 ht (List.cons_ne_nil _ _) hf hl).trans h0

/-- an element without a weight names its coding (lower-cased) with the weight 1 -/
theorem rfc_plain_element (lead name trail : Bytes) (hlead : IsOWS lead) (hname : IsToken name) (ht : IsOWS trail) :
    elemName (plainElem lead name trail) = toLower name ∧ elemQ (plainElem lead name trail) = 1000 := by
  have hs : splitOn 59 (plainElem lead name trail) = [lead ++ name ++ trail] :=
    splitOn_not_mem 59 _ (padded_no_semicolon hlead hname ht)
  constructor
  · unfold elemName; rw [hs]; exact elemName_padded lead name trail hlead hname ht
  · unfold elemQ; rw [hs]

/-- **a coding refused by name is never applied, whatever `*` (or anything else) says**: if every element of
    the header that names `c` carries the weight 0, `ServeHTTP` does not negotiate `c`. -/
theorem refused_by_name_never_applied (offered prefer : List Bytes) (req : Req) (c : Bytes)
    (h : ∀ elem ∈ splitOn 44 req.acceptEnc, elemName elem = c → elemQ elem = 0) :
    chooseEncoding offered prefer req ≠ some c := by
  intro hc
  obtain ⟨⟨elem, he, hn, hq⟩, _⟩ := negotiated_only_if offered prefer req c hc
  have := h elem he hn
  omega

/-- **the wildcard never stands in for a coding**: a coding no element names is not applied — `*` (with any
    weight, `*;q=0` included) and `identity;q=0` neither enable nor force a coding. -/
theorem unlisted_never_applied (offered prefer : List Bytes) (req : Req) (c : Bytes)
    (h : ∀ elem ∈ splitOn 44 req.acceptEnc, elemName elem ≠ c) :
    chooseEncoding offered prefer req ≠ some c := by
  intro hc
  obtain ⟨⟨elem, he, hn, _⟩, _⟩ := negotiated_only_if offered prefer req c hc
  exact h elem he hn

/-- **`gzip;q=0, *` means "anything but gzip"**: in a header made of list elements, if the elements that name
    `c` are refusals (in any RFC spelling, see `rfc_refusal_read_as_refusal`) then `c` is not applied — however
    many `*` elements with whatever weight stand next to them. -/
theorem rfc_named_refusal_beats_wildcard (offered prefer : List Bytes) (req : Req) (es : List Bytes) (c : Bytes)
    (hne : es ≠ []) (hcomma : ∀ e ∈ es, (44 : UInt8) ∉ e) (hae : req.acceptEnc = joinElems es)
    (href : ∀ e ∈ es, elemName e = c → elemQ e = 0) :
    chooseEncoding offered prefer req ≠ some c := by
  apply refused_by_name_never_applied
  rw [hae, splitOn_joinElems es hne hcomma]
  exact href

/-! ### the glue: from an `encode` directive of a Caddyfile to the configuration the handler runs with -/

/-- `Validate` accepts `prefer` exactly when it lists enabled encodings only and none twice -/
theorem validate_iff (offered prefer : List Bytes) :
    validatePrefer offered prefer = true ↔ prefer.Nodup ∧ ∀ p ∈ prefer, p ∈ offered := by
  induction prefer with
  | nil => simp [validatePrefer]
  | cons p ps ih =>
    simp only [validatePrefer, Bool.and_eq_true, Bool.not_eq_true', ih,
      List.nodup_cons, List.mem_cons, forall_eq_or_imp]
    simp only [List.contains_eq_mem, decide_eq_true_eq, decide_eq_false_iff_not]
    constructor
    · rintro ⟨⟨a, b⟩, c, d⟩; exact ⟨⟨b, c⟩, a, d⟩
    · rintro ⟨⟨b, c⟩, a, d⟩; exact ⟨⟨a, b⟩, c, d⟩

/-- **the preference list is the set of enabled encodings**: whatever the directive looks like, every enabled
    encoding is in `prefer` and every preferred one is enabled. -/
theorem caddyfile_prefer_is_enabled_set (args : List Bytes) (block : List Line) (st : CfState)
    (h : parseEncode args block = .ok st) : ∀ n, n ∈ st.prefer ↔ n ∈ st.encs := by
  obtain ⟨stB, _, hs, ha⟩ := parseEncode_spec h
  exact (procArgs_spec _ stB st ha hs).1

/-- **block first, then the line; listed once** (commit e21a4a9): `prefer` starts with the block's encoders in
    block order, continues with formats of the directive line, and if the block names no encoder twice then no
    encoding is listed twice — naming a format on the line AND configuring it in the block is fine. -/
theorem caddyfile_line_and_block_listed_once (args : List Bytes) (block : List Line) (stB st : CfState)
    (hb : procBlock block CfState.empty = .ok stB) (h : parseEncode args block = .ok st) :
    (∃ added, st.prefer = stB.prefer ++ added) ∧ (stB.prefer.Nodup → st.prefer.Nodup) ∧
      st.minLen = stB.minLen ∧ st.matcher = stB.matcher := by
  obtain ⟨stB', hb', hs, ha⟩ := parseEncode_spec h
  cases hb.symm.trans hb'
  obtain ⟨_, i2, i3, i4, i5⟩ := procArgs_spec _ stB st ha hs
  exact ⟨i3, i2, i4, i5⟩

/-- nothing named at all: the documented default `zstd gzip`, in that order -/
theorem caddyfile_default_encodings (block : List Line) (stB st : CfState)
    (hb : procBlock block CfState.empty = .ok stB) (hnone : stB.prefer = [])
    (h : parseEncode [] block = .ok st) : st.prefer = [vZstd, vGzip] := by
  obtain ⟨stB', hb', hs, h⟩ := parseEncode_spec h
  cases hb.symm.trans hb'
  have henc : stB.encs = [] :=
    List.eq_nil_iff_forall_not_mem.mpr fun x hx => by have := (hs x).mpr hx; rw [hnone] at this; cases this
  simp [procArgs, henc, hnone] at h
  rw [if_neg (by decide)] at h
  injection h with h
  rw [← h]

/-- **a directive whose block names each encoder at most once loads**: `Validate` cannot reject it (only a
    gzip level outside [-3, 9] can still fail), and the handler runs with exactly the parsed preference list,
    the provisioned minimum length (never 0) and — without a `match` — the default matcher. -/
theorem caddyfile_valid_unless_block_repeats (args : List Bytes) (block : List Line) (stB st : CfState)
    (hb : procBlock block CfState.empty = .ok stB) (h : parseEncode args block = .ok st)
    (hnd : stB.prefer.Nodup) (hlvl : gzipLevelOk st.gzipLevel = true) :
    ∃ c, adaptEncode args block = .ok c ∧ c.prefer = st.prefer ∧ c.offered = st.encs ∧
      c.minLen = provisionMinLen st.minLen ∧ c.minLen ≠ 0 ∧ c.matcher = provisionMatcher st.matcher := by
  have hset := caddyfile_prefer_is_enabled_set args block st h
  have hnd' := (caddyfile_line_and_block_listed_once args block stB st hb h).2.1 hnd
  have hv : validatePrefer st.encs st.prefer = true :=
    (validate_iff _ _).mpr ⟨hnd', fun p hp => (hset p).mp hp⟩
  refine ⟨⟨st.encs, st.prefer, provisionMinLen st.minLen, provisionMatcher st.matcher⟩, ?_, rfl, rfl, rfl, ?_, rfl⟩
  · unfold adaptEncode loadEncode
    rw [h]
    simp [hlvl, hv]
  · show provisionMinLen st.minLen ≠ 0
    by_cases hz : st.minLen = 0
    · simp [provisionMinLen, hz, defaultMinLength]
    · simp [provisionMinLen, hz]

/-- `Provision`'s defaults -/
theorem provision_defaults :
    provisionMinLen 0 = 512 ∧ (∀ n : Int, n ≠ 0 → provisionMinLen n = n) ∧ provisionMatcher none = defaultMatcher ∧
      (∀ m, provisionMatcher (some m) = m) :=
  ⟨rfl, fun n hn => by simp [provisionMinLen, hn], rfl, fun _ => rfl⟩

/-- **what is applied was asked for**: with a configuration adapted from a directive, the coding `ServeHTTP`
    negotiates is one the directive names (or a default), and the client accepts it. -/
theorem adapted_negotiation_within_directive (args : List Bytes) (block : List Line) (c : Loaded) (req : Req)
    (n : Bytes) (ha : adaptEncode args block = .ok c) (hn : chooseEncoding c.offered c.prefer req = some n) :
    n ∈ c.prefer ∧ Accepts req.acceptEnc n := by
  have hneg := negotiated_only_if c.offered c.prefer req n hn
  refine ⟨?_, hneg.1⟩
  unfold adaptEncode at ha
  split at ha
  case h_1 st hp =>
    -- a configuration that loads carries the parsed lists unchanged
    unfold loadEncode at ha
    split at ha
    · cases ha
    · split at ha
      · cases ha
      · cases ha
        exact (caddyfile_prefer_is_enabled_set args block st hp n).mpr hneg.2.1
  all_goals cases ha

/-! ### pooled encoders: state shared between responses -/

/-- **reuse is invisible**: whatever object the pool hands out — dirty, still pointing at another response, or
    none at all — a response emits exactly what it would with a brand-new encoder, and hands back a clean one. -/
theorem pool_reuse_invisible (slot : Option (EncObj α)) (id : Nat) (calls : List (EncCall α)) :
    serveWithPool slot id calls = serveWithPool none id calls ∧ (serveWithPool slot id calls).2 = ⟨none, []⟩ := by
  cases slot <;> exact ⟨rfl, rfl⟩

/-- every byte the encoder emits goes to the CURRENT response's writer … -/
theorem pooled_encoder_emits_to_current_response (slot : Option (EncObj α)) (id : Nat) (calls : List (EncCall α)) :
    ∀ e ∈ (serveWithPool slot id calls).1, e.dest = some id := by
  rw [(pool_reuse_invisible slot id calls).1]
  intro e he
  obtain ⟨a, b⟩ := calls_dest calls (⟨some id, []⟩ : EncObj α)
  rcases List.mem_append.mp he with h1 | h1
  · exact b e h1
  · exact ((call_dest _ .close).2 e h1).trans a

/-- … and what it emits is exactly what THIS response handed to it, in order -/
theorem pooled_encoder_emits_what_was_written (slot : Option (EncObj α)) (id : Nat) (calls : List (EncCall α)) :
    (serveWithPool slot id calls).1.flatMap Emit.payloads = writesOf calls := by
  rw [(pool_reuse_invisible slot id calls).1]
  have hc : ∀ o : EncObj α, (o.call .close).2.flatMap Emit.payloads = o.pending := by
    intro o; simp [EncObj.call, Emit.payloads]
  refine List.flatMap_append.trans ?_
  rw [hc]
  exact calls_payloads calls (⟨some id, []⟩ : EncObj α)

/-- any number of responses through one pool slot: each is served as if it were alone -/
theorem pooled_sequence_independent : ∀ (rs : List (Nat × List (EncCall α))) (slot : Option (EncObj α)),
    serveSeq slot rs = rs.map (fun r => (serveWithPool none r.1 r.2).1)
  | [], _ => rfl
  | (id, calls) :: rest, slot => by
    simp only [serveSeq, List.map_cons]
    rw [pooled_sequence_independent rest, (pool_reuse_invisible slot id calls).1]

/-- the `Reset` of `init` is what makes it so: without it a dirty pooled object sends the previous response's
    leftovers, and this response's bytes, to the previous response's writer -/
theorem reset_is_needed :
    (serveWithoutReset (some (⟨some 7, [99]⟩ : EncObj Nat)) [.write 1]).1 = [.data (some 7) [99, 1], .trailer (some 7)] := by
  decide

/-! ### file_server's precompressed sidecars: the other producer of `Content-Encoding`
    (the second call site of `AcceptedEncodings`; an encode handler in front trusts the header it sets) -/

/-- **the announced coding is the coding of the bytes sent** — for every order of accepted codings, every set of
    configured sidecars, every pattern of `Stat` / `Open` outcomes (absent, refused, removed in between …), with or
    without etag files: a successful response that sends a body announces `Content-Encoding: c` exactly when the
    body is the `c` sidecar, and nothing when it is the plain file; a sidecar is served only for a coding the client
    accepts (it is in `AcceptedEncodings`' answer), that is configured, and whose sidecar opened. -/
theorem sidecar_header_matches_body (accepted : List Bytes) (configured : Bytes → Bool) (state : Bytes → SideState)
    (etagFails post head : Bool) (status : Nat) (ce : Option Bytes) (body : Served)
    (h : serveFile false true accepted configured state etagFails post head = .served status ce (some body)) :
    ce = body.coding ∧
      (∀ c, body = .sidecar c → c ∈ accepted ∧ configured c = true ∧ state c = .ok) := by
  revert h
  fun_cases serveFile false true accepted configured state etagFails post head
  all_goals intro h
  case case4 ce' opened hl _ _ =>  -- the only branch that serves
    injection h with _ hce hb
    subst hce
    cases head
    · injection hb with hb
      subst hb
      rcases sidecarLoop_spec true configured state etagFails accepted none ce' opened hl with
        ⟨rfl, rfl⟩ | ⟨c, rfl, rfl, hm⟩
      · exact ⟨rfl, fun c hc => nomatch hc⟩
      · exact ⟨rfl, fun c' hc => by cases hc; exact hm⟩
    · cases hb
  all_goals cases h

/-- the same for HEAD: it announces what GET would announce -/
theorem sidecar_head_like_get (accepted : List Bytes) (configured : Bytes → Bool) (state : Bytes → SideState)
    (etagFails : Bool) (status : Nat) (ce : Option Bytes)
    (h : serveFile false true accepted configured state etagFails false true = .served status ce none) :
    ∃ body, serveFile false true accepted configured state etagFails false false = .served status ce (some body) := by
  revert h
  fun_cases serveFile false true accepted configured state etagFails false true
  all_goals intro h
  case case4 ce' opened hl hc _ =>  -- the only branch that serves: GET takes it too
    injection h with hs hce _
    unfold serveFile
    rw [hl, ← hs, ← hce]
    exact ⟨_, by simp only [if_neg hc]; rfl⟩
  all_goals cases h

/-- **announcing the coding before the sidecar is open mislabels the fallback**: with the header set first, a
    sidecar that `Stat` sees and `Open` refuses leaves `Content-Encoding: gzip` on a response whose body is the
    plain file — which an encode handler in front then leaves alone (`ineligible_response_never_encoded`). -/
theorem sidecar_header_first_mislabels :
    serveFile true true [vGzip] (fun _ => true) (fun _ => .openRefused) false false false
      = .served 200 (some vGzip) (some .plain) ∧
    serveFile false true [vGzip] (fun _ => true) (fun _ => .openRefused) false false false
      = .served 200 none (some .plain) := by decide

/-- **an error response never carries a sidecar's coding** (commit ce4ac64): whatever error `ServeHTTP` returns
    from the sidecar loop on — 503 from a failed open, 500 from an unreadable etag file, 405 for a method other than
    GET / HEAD, before or after a sidecar was chosen — no `Content-Encoding` is left in the header map for whoever
    writes the error page. -/
theorem sidecar_error_drops_header (accepted : List Bytes) (configured : Bytes → Bool) (state : Bytes → SideState)
    (etagFails post head : Bool) (status : Nat) (ce : Option Bytes)
    (h : serveFile false true accepted configured state etagFails post head = .error status ce) : ce = none := by
  revert h
  fun_cases serveFile false true accepted configured state etagFails post head
  all_goals intro h
  case case1 st ce' hl =>  -- the loop ended with an error
    injection h with _ h
    exact h ▸ (sidecarLoop_error configured state etagFails accepted st none ce' hl).elim id id
  case case2 ce' opened hl hc =>  -- nothing opened and the etag file is unreadable: 500
    injection h with _ h
    rcases sidecarLoop_spec true configured state etagFails accepted none ce' opened hl with ⟨_, hce⟩ | ⟨c, rfl, _⟩
    · exact h ▸ hce
    · cases etagFails <;> cases hc
  case case3 => injection h with _ h; exact h.symm  -- 405
  case case4 => cases h

/-- the code of before ce4ac64 (`dropOnError = false`): a 405, or a failing etag file, AFTER the sidecar was chosen
    was returned with the sidecar's `Content-Encoding` still in the header map — an error page written by
    `handle_errors` went out as plain bytes labelled gzip -/
theorem sidecar_error_old_code_fails :
    serveFile false false [vGzip] (fun _ => true) (fun _ => .ok) false true false = .error 405 (some vGzip) ∧
    serveFile false false [vGzip] (fun _ => true) (fun _ => .ok) true false false = .error 500 (some vGzip) ∧
    serveFile false true [vGzip] (fun _ => true) (fun _ => .ok) false true false = .error 405 none := by decide

/-- the source announces the sidecar's coding after the sidecar is open — the `headerFirst = false` the theorems
    above are about (regenerated from fileserver/staticfiles.go) -/
theorem sidecar_header_after_open_matches_source :
    CaddyModel.Gen.fileServerSidecarHeaderAfterOpen = true := by decide

/-! ### the caller contract: calls into the response writer are serialised (reverse_proxy's two goroutines; Proxy.lean) -/

/-- **under the lock discipline every interleaving is serial**: whatever the scheduler does with the copy loop
    (its `Write`s) and the timer goroutine (its `Flush`es), no two calls into the response writer overlap. -/
theorem lock_discipline_serialises (ws fs : List (Op α)) (sched : List Bool) :
    noOverlap ((Sys.start true true ws fs).exec sched).trace = true :=
  noOverlap_of_lockInv (lockInv_exec sched _ (lockInv_start ws fs))

/-- a trace without overlap (and without a call still in progress) IS a sequential script: every call ends
    before the next begins, and `callsOf` lists the calls in the order they were made -/
theorem serialised_trace_is_a_script (tr : List (CallEv α)) (h : okRev tr none = true) :
    ∃ script : List (Bool × Op α), tr = scriptTrace script ∧ callsOf tr = (script.reverse).map (·.2) :=
  match tr, h with
  | [], _ => ⟨[], rfl, rfl⟩
  | [.beg _ _], h => by simp [okRev] at h
  | [.fin _], h => by simp [okRev] at h
  | .beg _ _ :: _ :: _, h => by simp [okRev] at h
  | .fin _ :: .fin _ :: _, h => by simp [okRev] at h
  | .fin t :: .beg u c :: rest, h => by
    simp only [okRev, Option.isNone_none, Bool.true_and, Bool.and_eq_true, beq_iff_eq, Option.some.injEq] at h
    obtain ⟨htu, hr⟩ := h
    obtain ⟨script, e1, e2⟩ := serialised_trace_is_a_script rest hr
    refine ⟨(t, c) :: script, ?_, ?_⟩
    · simp [scriptTrace, e1, htu]
    · simp [callsOf, e2]

/-- **so transparency applies to what reverse_proxy does**: after the handler's own header calls `pre`, whatever
    the interleaving of the two goroutines, the calls that reached the writer form a script for which the client
    obtains exactly the bytes written (or nothing where HTTP forbids a body) -/
theorem proxy_under_lock_is_transparent (cfg : Cfg α) (name : Bytes) (ic head : Bool) (pre ws fs : List (Op α))
    (sched : List Bool) :
    noOverlap ((Sys.start true true ws fs).exec sched).trace = true ∧
    delivered head (some name)
        (runWrapped cfg name ic (pre ++ callsOf ((Sys.start true true ws fs).exec sched).trace)) =
      some (if head || noBodyStatus
          (runWrapped cfg name ic (pre ++ callsOf ((Sys.start true true ws fs).exec sched).trace))
        then [] else written cfg (pre ++ callsOf ((Sys.start true true ws fs).exec sched).trace)) :=
  ⟨lock_discipline_serialises ws fs sched, transparent_total cfg name ic head _⟩

/-- **without the lock around the flush, calls overlap**: if the timer releases the lock before it calls `Flush`
    (`guarded = false`), there is a schedule in which a `Write` of the copy loop begins while the `Flush` is still
    running — outside the domain of every theorem above (and, in the real code, two goroutines inside one
    gzip / zstd encoder). -/
theorem without_lock_calls_overlap :
    ∃ sched : List Bool,
      noOverlap ((Sys.start true false ([.write 1, .write 2] : List (Op Nat)) [.flush]).exec sched).trace = false :=
  -- copy loop: lock, begin, end, unlock; timer: lock, unlock, begin; copy loop: lock, begin — inside the `Flush`
  ⟨[false, false, false, false, true, true, true, false, false], by decide⟩

/-- the same schedule under the discipline: the `Write` waits for the `Flush` (the lock is busy) -/
example : noOverlap ((Sys.start true true ([.write 1, .write 2] : List (Op Nat)) [.flush]).exec
    [false, false, false, false, true, true, true, false, false]).trace = true := by decide

/-- the source keeps every call into the destination writer inside the critical section — in `Write` (copy
    loop) and in `delayedFlush` (timer): the discipline `Sys.start true true` models -/
theorem proxy_flush_under_lock_matches_source :
    CaddyModel.Gen.proxyMlwWriteUnderLock = true ∧ CaddyModel.Gen.proxyDelayedFlushUnderLock = true := by decide

/-! ### ties to the source: facts REGENERATED from /repo on every run (tools/extract → Gen/Encode.lean, Gen/DirectiveOrder.lean).
    A change of one of these literals / call sequences in the Go source changes `Gen.*` and the theorem below
    no longer elaborates — the proof obligation breaks without any sampled case having to hit it. -/

/-- `init`'s header edits are the fold of the edit list … -/
theorem initHdr_is_its_edit_list (name : Bytes) (h : Hdr) :
    initHdr name h = initEdits.foldl (applyInitEdit name) h := by
  simp only [initEdits, List.foldl_cons, List.foldl_nil, applyInitEdit]; rfl

/-- … and that list is, call for call and in order, what `responseWriter.init` does in the source:
    Del Content-Length, Set Content-Encoding, Add Vary, Del Accept-Ranges, Set Etag -/
theorem init_edits_match_source :
    initEdits.map InitEdit.describe = CaddyModel.Gen.encodeInitHeaderEdits.map str := by
  simp only [CaddyModel.Gen.encodeInitHeaderEdits, List.map_cons, List.map_nil]
  repeat rw [str_ofList]
  decide +kernel

/-- the default response matcher of the model is the literal of `Provision` -/
theorem default_matcher_matches_source :
    defaultCtPats = CaddyModel.Gen.encodeDefaultContentTypes.map str := by
  simp only [CaddyModel.Gen.encodeDefaultContentTypes, List.map_cons, List.map_nil]
  repeat rw [str_ofList]
  decide +kernel

/-- `defaultMinLength` and `sniffLen` are the constants of encode.go -/
theorem constants_match_source :
    CaddyModel.Gen.encodeDefaultMinLength = some defaultMinLength ∧ CaddyModel.Gen.encodeSniffLen = some sniffLen := by
  decide

/-- the lifecycle of a pooled encoder in the model (`serveWithPool`: Get, Reset to the current response; Close,
    Reset(nil), Put) is the call sequence of `responseWriter.init` / `Close` in the source — a change that
    forgets a `Reset` changes the regenerated fact and this obligation breaks -/
theorem encoder_lifecycle_matches_source :
    lifecycleInit = CaddyModel.Gen.encodeEncoderLifecycleInit ∧
      lifecycleClose = CaddyModel.Gen.encodeEncoderLifecycleClose := by decide +kernel

/-- position of a directive in the Caddyfile's default handler order -/
def dirIndex (d : String) : Option Nat := CaddyModel.Gen.defaultDirectiveOrder.findIdx? (· == d)

def dirBefore (a b : String) : Bool :=
  match dirIndex a, dirIndex b with
  | some i, some j => decide (i < j)
  | _, _ => false

/-- **where `encode` sits in a Caddyfile site**: after `header` (whose non-deferred response edits — e.g.
    `Cache-Control: no-transform` — are therefore in the header map when `init` decides, and whose deferred ones
    run in ITS WriteHeader, i.e. after the decision), and before every handler whose output it is meant to encode —
    the buffering middlewares `intercept` / `templates` (so that they buffer plain bytes: the `rr` op and
    `buffering_middleware_is_transparent` are about exactly this nesting), `respond`, `reverse_proxy`,
    `php_fastcgi`, `file_server`. A reordering in httpcaddyfile/directives.go breaks this obligation. -/
theorem encode_directive_position_matches_source :
    dirBefore "header" "encode" = true ∧ dirBefore "encode" "intercept" = true ∧
    dirBefore "encode" "templates" = true ∧ dirBefore "encode" "respond" = true ∧
    dirBefore "encode" "reverse_proxy" = true ∧ dirBefore "encode" "php_fastcgi" = true ∧
    dirBefore "encode" "file_server" = true := by decide +kernel

/-- the formats used when a directive names none are those of `UnmarshalCaddyfile` -/
theorem caddyfile_defaults_match_source :
    [vZstd, vGzip] = CaddyModel.Gen.encodeCaddyfileDefaultFormats.map str := by
  simp only [CaddyModel.Gen.encodeCaddyfileDefaultFormats, List.map_cons, List.map_nil]
  repeat rw [str_ofList]
  decide

/-! ### non-vacuity: the hypotheses are met by concrete, non-trivial runs (kernel-evaluated) -/

/-- `text/html` -/
def exTextHtml : Bytes := [116, 101, 120, 116, 47, 104, 116, 109, 108]
/-- `"abc"` (with the quotes) -/
def exTag : Bytes := [34, 97, 98, 99, 34]
/-- `gzip;q=0.5, zstd` -/
def exAE : Bytes := [103, 122, 105, 112, 59, 113, 61, 48, 46, 53, 44, 32, 122, 115, 116, 100]

/-- default minimum length and default matcher; payloads are their lengths -/
def exCfg : Cfg Nat := ⟨512, defaultMatcher.matches, id, fun _ => []⟩

/-- Content-Type, strong ETag, a stale Content-Length, 103 then 200, a big write, flush, a small write, a ReadFrom -/
def exOps : List (Op Nat) :=
  [.hset kCT exTextHtml, .hset kEtag exTag, .hset kCL [57, 57], .writeHeader 103, .writeHeader 200,
   .write 600, .flush, .write 10, .readFrom [100, 0, 50]]

def exReq : Req := ⟨false, exAE, false, [], adjustEtag vZstd exTag⟩

theorem exOps_no101 : No101 exOps := by
  intro op h
  simp [exOps] at h
  rcases h with rfl | rfl | rfl | rfl | rfl | rfl | rfl | rfl | rfl <;> simp

-- zstd (q = 1) wins over gzip (q = 0.5); the response is encoded; the client gets all four non-empty payloads;
-- the If-None-Match the client sent back reaches the handler as the handler's own tag
example : (serve exCfg [vGzip, vZstd] [] exReq exOps).sel = some vZstd ∧
    plainOnly (serve exCfg [vGzip, vZstd] [] exReq exOps).final.log = false ∧
    clientBody (some vZstd) (serve exCfg [vGzip, vZstd] [] exReq exOps).final = some [600, 10, 100, 50] ∧
    (serve exCfg [vGzip, vZstd] [] exReq exOps).inm = exTag := by decide +kernel

-- hypotheses of `transparent`, `encoded_only_if`, `headers_when_encoded` hold for it
example : No101 exOps ∧ Encoded (runWrapped exCfg vZstd false exOps) := by
  refine ⟨exOps_no101, ?_⟩; unfold Encoded; decide +kernel

-- the header the client received: Content-Encoding zstd, no Content-Length, the adjusted ETag, status 200
example : (runWrapped exCfg vZstd false exOps).sent.map (fun x => (x.1, hValues x.2 kCE, hValues x.2 kCL, hValues x.2 kEtag))
    = some (200, [vZstd], [], [adjustEtag vZstd exTag]) := by decide +kernel

-- a script whose first write is small stays plain — and is transparent as well
example : clientBody (some vZstd) (runWrapped exCfg vZstd false [.hset kCT exTextHtml, .write 10, .write 600])
    = some [10, 600] ∧ plainOnly (runWrapped exCfg vZstd false [.hset kCT exTextHtml, .write 10, .write 600]).log = true := by
  decide

-- `negotiated_only_if` / `first_offered_among_accepted`: q=0 is refused, the not-offered `br` is skipped
example : chooseEncoding [vGzip] [] ⟨false, [98, 114, 44, 103, 122, 105, 112], false, [], []⟩ = some vGzip := by decide +kernel
example : chooseEncoding [vGzip] [] ⟨false, [103, 122, 105, 112, 59, 113, 61, 48], false, [], []⟩ = none := by decide

-- `chosen_is_most_preferred`: gzip;q=0.5, zstd — zstd is preferred although gzip comes first in `prefer`
set_option maxRecDepth 8000 in
example : chooseEncoding [vGzip, vZstd] [vGzip, vZstd] exReq = some vZstd ∧
    acceptedPrefs exAE false [vGzip, vZstd] = [⟨vGzip, 500, 2⟩, ⟨vZstd, 1000, 1⟩] := by decide +kernel

-- the glue theorems: `encode gzip { gzip 5 ; minimum_length 100 ; zstd }` — gzip is named on the line AND
-- configured in the block: listed once, block order first, loads; `encode` alone gives zstd, gzip, 512
example : loadedSummary (adaptEncode [vGzip] [⟨[vGzip, [53]], none⟩, ⟨[tMinimumLength, [49, 48, 48]], none⟩, ⟨[vZstd], none⟩])
    = some ([vGzip, vZstd], [vGzip, vZstd], 100) := by decide +kernel
example : loadedSummary (adaptEncode [] []) = some ([vZstd, vGzip], [vZstd, vGzip], 512) := by decide
-- an encoder named twice IN THE BLOCK is still rejected by Validate (the hypothesis of
-- `caddyfile_valid_unless_block_repeats` is needed), and so is gzip level 99
example : isLoadErr (adaptEncode [] [⟨[vGzip], none⟩, ⟨[vGzip], none⟩]) = true := by decide
example : isLoadErr (adaptEncode [] [⟨[vGzip, [57, 57]], none⟩]) = true := by decide
-- the token-stream quirk: `minimum_length 5 zstd` on one line enables zstd
example : loadedSummary (adaptEncode [] [⟨[tMinimumLength, [53], vZstd], none⟩]) = some ([vZstd], [vZstd], 5) := by decide +kernel

-- the RFC theorems: `GZIP ;\tQ=0.000 ` is an instance of `weightedElem`; `gzip;q=0, *` and `GZIP ;\tQ=0.000 ,*;q=1` with
-- gzip preferred and offered negotiate nothing, `gzip;q=0, *,zstd` negotiates zstd; `identity;q=0, *;q=0` nothing
example : weightedElem [] [71, 90, 73, 80] [32] [9] 81 [48, 46, 48, 48, 48] [32]
    = [71, 90, 73, 80, 32, 59, 9, 81, 61, 48, 46, 48, 48, 48, 32] ∧ IsToken [71, 90, 73, 80] :=
  ⟨by decide, by decide, by decide⟩
example : chooseEncoding [vGzip, vZstd] [vGzip] ⟨false, [103, 122, 105, 112, 59, 113, 61, 48, 44, 32, 42], false, [], []⟩ = none := by decide +kernel
example : chooseEncoding [vGzip] [vGzip] ⟨false, [71, 90, 73, 80, 32, 59, 9, 81, 61, 48, 46, 48, 48, 48, 32, 44, 42, 59, 113, 61, 49], false, [], []⟩ = none := by decide +kernel
example : chooseEncoding [vGzip, vZstd] [vGzip] ⟨false, [103, 122, 105, 112, 59, 113, 61, 48, 44, 32, 42, 44, 122, 115, 116, 100], false, [], []⟩ = some vZstd := by decide +kernel
example : chooseEncoding [vGzip, vZstd] [] ⟨false, [105, 100, 101, 110, 116, 105, 116, 121, 59, 113, 61, 48, 44, 32, 42, 59, 113, 61, 48], false, [], []⟩ = none := by decide +kernel

-- `transparent_total`: its outcomes occur — HEAD delivers nothing, a 204 delivers nothing, a 101 with a
-- "body" delivers nothing (and is final), a 200 delivers the bytes
example : delivered true (some vZstd) (runWrapped exCfg vZstd false exOps) = some [] ∧
    delivered false (some vZstd) (runWrapped exCfg vZstd false exOps) = some [600, 10, 100, 50] ∧
    delivered false (some vZstd) (runWrapped exCfg vZstd false [.writeHeader 204, .write 600]) = some [] ∧
    delivered false (some vZstd) (runWrapped exCfg vZstd false [.hset kCT exTextHtml, .writeHeader 101, .write 600]) = some [] ∧
    (runWrapped exCfg vZstd false [.hset kCT exTextHtml, .writeHeader 101, .write 600]).sent.map (·.1) = some 101 := by
  decide +kernel

-- `ineligible_response_never_encoded`: a precompressed response (Content-Encoding gzip set by file_server, big body
-- through ReadFrom) and a `no-transform` response both meet its hypothesis; the former stays plain
example : ineligible (run exCfg (St.init vZstd false) [.hset kCT exTextHtml, .hset kCE vGzip]).hdr = true ∧
    ineligible (run exCfg (St.init vZstd false) [.hset kCC vNoTransform, .writeHeader 103]).hdr = true ∧
    (runWrapped exCfg vZstd false ([.hset kCT exTextHtml, .hset kCE vGzip] ++ [.writeHeader 200, .readFrom [512, 2000]])).log
      = [.w 2000, .w 512, .wh 200 [(kCE, [vGzip]), (kCT, [exTextHtml])]] := by decide +kernel

-- the recorder: buffering turns [Write 3 bytes, Flush, ReadFrom 2+1 bytes] under status 200 into one WriteHeader and one
-- 6-byte Write; streaming passes the calls on; after a 103 the decision is taken again at the final header
example : recorderOps (bufferMode 1) List.flatten List.isEmpty
      ([.hset kCT exTextHtml, .writeHeader 103, .writeHeader 200, .write [1, 2, 3], .flush, .readFrom [[4, 5], [6]]] : List (Op Bytes))
    = [.hset kCT exTextHtml, .writeHeader 103, .writeHeader 200, .write [1, 2, 3, 4, 5, 6]] ∧
    recorderOps (bufferMode 0) List.flatten List.isEmpty ([.flush, .write [1], .flush] : List (Op Bytes))
    = [.writeHeader 200, .write [1], .flush] ∧
    recorderOps (bufferMode 2) List.flatten List.isEmpty ([.writeHeader 404, .write [1]] : List (Op Bytes))
    = [.writeHeader 404, .write [1]] := by decide +kernel

-- `status_preserved`: a prefix of header edits and a 103 (the shape of exOps' first four calls) is `Preliminary`
example : ∀ op ∈ ([.hset kCT exTextHtml, .writeHeader 103] : List (Op Nat)), Preliminary op := by
  intro op h
  simp at h
  rcases h with rfl | rfl
  · exact Or.inl ⟨_, _, rfl⟩
  · exact Or.inr (Or.inr (Or.inr ⟨103, rfl, by decide, by decide⟩))

-- `etag_recognised` / `etag_distinct`: "abc" ↦ "abc-zstd" ↦ "abc"
example : StrongTag exTag ∧ adjustEtag vZstd exTag = [34, 97, 98, 99, 45, 122, 115, 116, 100, 34] :=
  ⟨⟨by decide, [34, 97, 98, 99], rfl⟩, by decide⟩

-- `header_untouched_unless_init`: both alternatives occur — a small first write leaves Content-Length alone,
-- a big one opens the encoder from an uncommitted writer
example : hValues (step exCfg (run exCfg (St.init vZstd false) [.hset kCT exTextHtml, .hset kCL [57, 57]]) (.write 10)).hdr kCL = [[57, 57]] ∧
    (step exCfg (run exCfg (St.init vZstd false) [.hset kCT exTextHtml, .hset kCL [57, 57]]) (.write 600)).encOpen = true := by
  decide +kernel

-- `informational_forwarded`: 103 goes out at once with the header as it is
example : ((rwWriteHeader (St.init vGzip false : St Nat) 103).log, (rwWriteHeader (St.init vGzip false : St Nat) 103).wroteHeader)
    = ([Ev.wh 103 []], false) := by decide

-- `decision_once`: its hypothesis is met with an encoder open — `exOps` leaves the writer committed and encoding
example : (run exCfg (St.init vZstd false) exOps).wroteHeader = true ∧ (run exCfg (St.init vZstd false) exOps).encOpen = true := by
  decide +kernel

/-! ### the responseWriter's per-request state; sequences of requests on ONE Encode instance; bodiless responses -/

section
variable {α : Type}

/-- the writer `openResponseWriter` makes IS the initial state of the main model — whatever the memory it
    occupies held before (`var rw responseWriter` is the zero value) -/
theorem open_response_writer_is_fresh (mem : RW) (name : Bytes) (ic : Bool) :
    (St.ofRW (openResponseWriter mem name ic) : St α) = St.init name ic := rfl

/-- **a request's outcome is a function of this request's handler actions and the configuration only.** Any
    number of requests, one after the other, on one `Encode` instance, starting from any leftover writer memory:
    the k-th result is `serve` of the k-th request alone. -/
theorem request_outcome_is_its_own (cfg : Cfg α) (offered prefer : List Bytes) :
    ∀ (reqs : List (Req × List (Op α))) (mem : RW),
      serveRequests openResponseWriter cfg offered prefer mem reqs =
        reqs.map (fun r => serve cfg offered prefer r.1 r.2)
  | [], _ => rfl
  | r :: rest, mem => by
    have h1 : (serveFrom openResponseWriter cfg offered prefer mem r.1 r.2).1 = serve cfg offered prefer r.1 r.2 := by
      unfold serveFrom serve
      cases chooseEncoding offered prefer r.1 <;> rfl
    simp only [serveRequests, List.map_cons]
    rw [h1, request_outcome_is_its_own cfg offered prefer rest]

/-- the encoder objects the instance DOES hand from response to response do not show either: driven by the
    encoder calls of the successive responses of the main model, one pool slot — in whatever state it starts —
    emits for each response what a brand-new encoder emits for that response alone -/
theorem encoder_reuse_across_requests_invisible (cfg : Cfg α) (offered prefer : List Bytes)
    (reqs : List (Req × List (Op α))) (mem : RW) (slot : Option (EncObj α)) (i0 : Nat) :
    serveSeq slot (numbered i0 (serveRequests openResponseWriter cfg offered prefer mem reqs)) =
      (numbered i0 (reqs.map (fun r => serve cfg offered prefer r.1 r.2))).map
        (fun r => (serveWithPool none r.1 r.2).1) := by
  rw [request_outcome_is_its_own, pooled_sequence_independent]

end

/-- configuration and client of the witnesses below: gzip offered and accepted, every response eligible -/
def mrCfg : Cfg Nat := ⟨512, fun _ _ => true, id, fun _ => []⟩
def mrReq : Req := ⟨false, vGzip, false, [], []⟩

/-- a writer that is taken back from a pool of writers WITHOUT zeroing (`reuseResponseWriter`, not the code)
    shows the previous request: after any response `wroteHeader` is still true, so the next handler's
    `WriteHeader(404)` is never forwarded and the client is told 200 -/
theorem pooled_writer_would_leak :
    (serveRequests reuseResponseWriter mrCfg [vGzip] [] RW.zero
        [(mrReq, [.write 10]), (mrReq, [.writeHeader 404, .write 10])]).map (fun r => r.final.sent.map (·.1))
      = [some 200, some 200] ∧
    (serve mrCfg [vGzip] [] mrReq [.writeHeader 404, .write 10]).final.sent.map (·.1) = some 404 := by decide +kernel

-- the same two requests through the code's `openResponseWriter`: 200 then 404; and two encoded responses in a row
example : (serveRequests openResponseWriter mrCfg [vGzip] [] ⟨[1], true, 500, true, true⟩
    [(mrReq, [.write 10]), (mrReq, [.writeHeader 404, .write 10])]).map (fun r => r.final.sent.map (·.1))
      = [some 200, some 404] := by decide +kernel
example : numbered 0 (serveRequests openResponseWriter mrCfg [vGzip] [] RW.zero
    [(mrReq, [.write 600, .flush, .write 5]), (mrReq, [.write 700])]) =
      [(0, [.write 600, .flush, .write 5]), (1, [.write 700])] := by decide +kernel

/-- **responseWriter values are created per request, as zero values**: in the source the only place such a
    value comes into being is `var rw responseWriter` in `openResponseWriter` (no composite literal, no `new`,
    nothing taken out of a pool or cache), `initResponseWriter` assigns exactly the four fields it is given, and
    the fields left at zero are `w`, `statusCode`, `wroteHeader` — what `RW.zero` / `St.init` say. A pool of
    writers, a cached writer or a new field changes the regenerated facts and this obligation breaks. -/
theorem response_writer_fresh_matches_source :
    rwOrigins = CaddyModel.Gen.encodeResponseWriterOrigins ∧
    rwStructFields = CaddyModel.Gen.encodeResponseWriterFields ∧
    rwFieldsAssignedByInit = CaddyModel.Gen.encodeInitResponseWriterAssigns ∧
    rwStructFields.filter (fun f => !rwFieldsAssignedByInit.contains f) = rwFieldsLeftZero := by decide +kernel

section
variable {α : Type}

/-- a bodiless call (header edit, `WriteHeader` other than 101) on an uncommitted non-CONNECT writer leaves it
    uncommitted: nothing is decided, nothing is sent as final -/
theorem bodiless_keeps_uncommitted (cfg : Cfg α) (st : St α) (op : Op α) (hb : op.bodiless = true)
    (hc : st.isConnect = false) (hw : st.wroteHeader = false) (hs : st.sent = none) (ho : st.encOpen = false) :
    (step cfg st op).isConnect = false ∧ (step cfg st op).wroteHeader = false ∧ (step cfg st op).sent = none ∧
      (step cfg st op).encOpen = false ∧ (step cfg st op).encName = st.encName := by
  obtain ⟨⟨a, b, c⟩, d, e⟩ := bodiless_step cfg st op hb (fun s _ => by rw [connect2xx, hc]; rfl) ⟨hw, hs, ho⟩
  exact ⟨d.trans hc, a, b, c, e⟩

theorem bodiless_run_uncommitted (cfg : Cfg α) : ∀ (ops : List (Op α)) (st : St α),
    (∀ op ∈ ops, op.bodiless = true) → st.isConnect = false → st.wroteHeader = false → st.sent = none →
    st.encOpen = false →
    (run cfg st ops).wroteHeader = false ∧ (run cfg st ops).sent = none ∧ (run cfg st ops).encOpen = false ∧
      (run cfg st ops).encName = st.encName := fun ops st hb hc hw hs ho =>
  (List.foldlRecOn (motive := fun s : St α => s.isConnect = false ∧ s.wroteHeader = false ∧ s.sent = none ∧
      s.encOpen = false ∧ s.encName = st.encName) ops _ ⟨hc, hw, hs, ho, rfl⟩
    fun s ⟨a, b, c, d, e⟩ op hop =>
      let ⟨a', b', c', d', e'⟩ := bodiless_keeps_uncommitted cfg s op (hb op hop) a b c d
      ⟨a', b', c', d', e'.trans e⟩).2

/-- **the deferred `Close` of an uncommitted writer relabels all or nothing.** Either the declared
    `Content-Length` exceeds `minimum_length` and the header is eligible — then the client is sent `init`'s edit of
    the handler's header (all five edits together) under the handler's status, and the encoder is opened and
    closed; or not — then the header map is not touched at all and whatever is sent is the handler's own header. -/
theorem close_relabels_all_or_nothing (cfg : Cfg α) (st : St α)
    (hw : st.wroteHeader = false) (hs : st.sent = none) (ho : st.encOpen = false) :
    ((clGtMin cfg st.hdr && initOk cfg st) = true ∧
        (rwClose cfg st).sent = some (closeStatus st, initHdr st.encName st.hdr) ∧
        (rwClose cfg st).log.head? = some Ev.ec) ∨
    ((clGtMin cfg st.hdr && initOk cfg st) = false ∧ (rwClose cfg st).hdr = st.hdr ∧
        (rwClose cfg st).encOpen = false ∧ ∀ s h, (rwClose cfg st).sent = some (s, h) → h = st.hdr) := by
  rw [rwClose_uncommitted cfg hw ho]
  by_cases hc : (clGtMin cfg st.hdr && initOk cfg st) = true
  · have c6 := (commitHeader_spec { st with encOpen := true, hdr := initHdr st.encName st.hdr } hw hs).2
    rw [if_pos hc]
    exact Or.inl ⟨hc, by show fixSent 200 (commitHeader _).hdr _ = _; rw [c6]; rfl, rfl⟩
  · have c6 := (commitHeader_spec st hw hs).2
    rw [if_neg hc]
    refine Or.inr ⟨Bool.eq_false_iff.mpr hc, commitHeader_hdr st, (commitHeader_encOpen st).trans ho, fun s h e' => ?_⟩
    rw [e'] at c6
    exact (Prod.mk.inj (Option.some.inj c6)).2

/-- **bodiless responses (HEAD answered from metadata, 204, 304, 1xx then nothing …) are relabelled all or
    nothing.** For every script of header edits and `WriteHeader` calls (any number, any order, any status but
    101), with `h0` the header map as the handler left it: either the response is announced as encoded — then the
    header the client receives is `init`'s edit of `h0`: `Content-Encoding` is the coding, NO `Content-Length` of
    the identity representation remains, no `Accept-Ranges`, `Vary` lists `Accept-Encoding` (the ETag is adjusted by
    `etag_when_encoded`), and `h0` was eligible with a declared length above the minimum — or nothing is
    relabelled: the header map is `h0` and what is sent is `h0`. There is no third case (such as
    `Content-Encoding` set while the identity `Content-Length` stays). -/
theorem bodiless_response_all_or_nothing (cfg : Cfg α) (name : Bytes) (ops : List (Op α))
    (hb : ∀ op ∈ ops, op.bodiless = true) :
    (∃ s h, (runWrapped cfg name false ops).sent = some (s, h) ∧
        h = initHdr name (run cfg (St.init name false) ops).hdr ∧
        hValues h kCE = [name] ∧ hValues h kCL = [] ∧ hValues h kAR = [] ∧ hasVary h = true ∧
        clGtMin cfg (run cfg (St.init name false) ops).hdr = true ∧
        initOk cfg (run cfg (St.init name false) ops) = true) ∨
    ((runWrapped cfg name false ops).hdr = (run cfg (St.init name false) ops).hdr ∧
      ∀ s h, (runWrapped cfg name false ops).sent = some (s, h) →
        h = (run cfg (St.init name false) ops).hdr) := by
  obtain ⟨hw, hs, ho, hn⟩ := bodiless_run_uncommitted cfg ops (St.init name false) hb rfl rfl rfl rfl
  have hn' : (run cfg (St.init name false) ops).encName = name := hn
  rcases close_relabels_all_or_nothing cfg _ hw hs ho with ⟨hc, hsent, _⟩ | ⟨_, hh, _, hall⟩
  · left
    rw [hn'] at hsent
    simp only [Bool.and_eq_true] at hc
    exact ⟨_, _, hsent, rfl, initHdr_CE _ _, initHdr_CL _ _, initHdr_AR _ _, initHdr_vary _ _, hc.1, hc.2⟩
  · right
    exact ⟨hh, hall⟩

end

-- HEAD answered from metadata: Content-Type, a declared length of 2000, a strong tag, 200, no body — relabelled
-- as a whole: gzip, no Content-Length, adjusted tag
example : (∀ op ∈ ([.hset kCT exTextHtml, .hset kCL [50, 48, 48, 48], .hset kEtag exTag, .writeHeader 200] : List (Op Nat)),
      op.bodiless = true) ∧
    (runWrapped exCfg vGzip false [.hset kCT exTextHtml, .hset kCL [50, 48, 48, 48], .hset kEtag exTag, .writeHeader 200]).sent.map
      (fun x => (x.1, hValues x.2 kCE, hValues x.2 kCL, hValues x.2 kEtag)) = some (200, [vGzip], [], [adjustEtag vGzip exTag]) := by
  decide +kernel
-- 304 with a small declared length: nothing relabelled, Content-Length stays, Vary added by WriteHeader itself
example : (runWrapped exCfg vGzip false [.hset kCT exTextHtml, .hset kCL [53], .writeHeader 304]).sent.map
      (fun x => (x.1, hValues x.2 kCE, hValues x.2 kCL, hasVary x.2)) = some (304, [], [[53]], true) := by decide +kernel
-- hypotheses of `close_relabels_all_or_nothing` / `bodiless_keeps_uncommitted`
example : (St.init vGzip false : St Nat).wroteHeader = false ∧ (St.init vGzip false : St Nat).sent = none ∧
    (St.init vGzip false : St Nat).encOpen = false ∧ (Op.writeHeader 204 : Op Nat).bodiless = true := by decide

end CaddyModel.C15
