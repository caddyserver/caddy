/-
C15 — the small abstract account the property talks about.

* `Accepts ae c`     : the Accept-Encoding header lists coding `c` with a non-zero quality.
* `written cfg ops`  : the bytes the handler wrote (non-empty payloads of its Write / ReadFrom calls, in order).
* `clientBody`       : what a client obtains that decodes the response according to its Content-Encoding.
                       The ONLY assumption about the codecs is built in here: a stream that consists of
                       encoder output alone, closed by the encoder's `Close`, decodes to exactly the bytes
                       that were handed to the encoder (decode ∘ encode = id for gzip / zstd); anything else
                       (plain bytes mixed with encoder output, an unterminated stream, encoder output
                       that is not announced by `Content-Encoding: <coding>`) cannot be decoded (`none`).
* `InitOk`, `MinLenOk` : the eligibility conditions of the statement (matcher, not already encoded,
                       no `no-transform`, minimum length).
-/
import CaddyModel.C15.Model

namespace CaddyModel.C15

/-- the client accepts coding `c` with non-zero quality: some element of the comma-separated header
    names `c` (case-insensitively, trimmed) and its q-value is not zero -/
def Accepts (ae c : Bytes) : Prop :=
  ∃ elem ∈ splitOn 44 ae, elemName elem = c ∧ elemQ elem > 0

/-- `a` is at least as preferred as `b`: higher q, or equal q and at least the server preference -/
def PrefGe (a b : Pref) : Prop := a.q > b.q ∨ (a.q = b.q ∧ a.order ≥ b.order)

section
variable {α : Type}

/-- payloads of one handler call that actually carry bytes -/
def opPayloads (cfg : Cfg α) : Op α → List α
  | .write p => if cfg.size p == 0 then [] else [p]
  | .readFrom cs => nonEmpty cfg cs
  | _ => []

/-- everything the handler wrote, in order -/
def written (cfg : Cfg α) (ops : List (Op α)) : List α := ops.flatMap (opPayloads cfg)

def Ev.isWh : Ev α → Bool
  | .wh _ _ => true
  | _ => false

/-- may occur in a response that was never handed to an encoder -/
def Ev.plainOk : Ev α → Bool
  | .e _ => false
  | .ef => false
  | .ec => false
  | _ => true

/-- may occur in a response that goes through the encoder and is not closed yet -/
def Ev.encOk : Ev α → Bool
  | .w _ => false
  | .ec => false
  | _ => true

def headerOnly (log : List (Ev α)) : Bool := log.all Ev.isWh
def plainOnly (log : List (Ev α)) : Bool := log.all Ev.plainOk
def encOnly (log : List (Ev α)) : Bool := log.all Ev.encOk

/-- body payloads of a log (which is kept newest first), in chronological order -/
def payloads : List (Ev α) → List α
  | [] => []
  | .w c :: t => payloads t ++ [c]
  | .e c :: t => payloads t ++ [c]
  | _ :: t => payloads t

/-- `Content-Encoding` values of the header the client received -/
def sentCE (st : St α) : List Bytes :=
  match st.sent with
  | some (_, h) => hValues h kCE
  | none => []

/-- What the client obtains. `coding` is the coding the encode handler negotiated (if any).
    * no encoder involved: the bytes on the wire are the handler's own bytes;
    * otherwise the stream must be encoder output only, closed, and announced as `Content-Encoding: coding`
      — then (decode ∘ encode = id) the client obtains what went into the encoder. -/
def clientBody (coding : Option Bytes) (st : St α) : Option (List α) :=
  if plainOnly st.log then some (payloads st.log)
  else match coding, st.log with
    | some name, .ec :: rest =>
      if encOnly rest && sentCE st == [name] then some (payloads rest) else none
    | _, _ => none

/-- the response as the handler left it (header `h0`, status `sc` as far as the writer knows it) may be
    encoded: not already encoded, no `no-transform`, accepted by the response matcher -/
def InitOk (cfg : Cfg α) (sc : Nat) (h0 : Hdr) : Prop :=
  hGet h0 kCE = [] ∧ isEncodeAllowed h0 = true ∧ cfg.matcher sc h0 = true

/-- minimum length: the first body write is longer than `minimum_length`, or the declared Content-Length is -/
def MinLenOk (cfg : Cfg α) (h0 : Hdr) (log : List (Ev α)) : Prop :=
  (∃ p, (payloads log).head? = some p ∧ (Int.ofNat (cfg.size p)) > cfg.minLen) ∨ clGtMin cfg h0 = true

/-- the two shapes a finished response can have: never handed to an encoder, or encoder output only, closed,
    under the header `init` produced from an eligible handler header `h0` -/
inductive Shape (cfg : Cfg α) (name : Bytes) (st : St α) : Prop where
  | identity (h : plainOnly st.log = true)
  | encoded (rest : List (Ev α)) (s sc : Nat) (h0 : Hdr)
      (hlog : st.log = Ev.ec :: rest) (henc : encOnly rest = true)
      (hsent : st.sent = some (s, initHdr name h0)) (hok : InitOk cfg sc h0) (hmin : MinLenOk cfg h0 rest)

/-- the handler never switches protocols (101 hijacks the connection: no HTTP body follows) -/
def No101 (ops : List (Op α)) : Prop := ∀ op ∈ ops, op ≠ Op.writeHeader 101

/-- the handler's own edit of the header map -/
def hdrEffect : Op α → Hdr → Hdr
  | .hset k v, h => hSet h k v
  | .hadd k v, h => hAdd h k v
  | .hdel k, h => hDel h k
  | _, h => h

/-- what a handler may do before it announces its final status: edit headers, send informational (1xx,
    not 101) responses -/
def Preliminary (op : Op α) : Prop :=
  (∃ k v, op = Op.hset k v) ∨ (∃ k v, op = Op.hadd k v) ∨ (∃ k, op = Op.hdel k) ∨
    (∃ i, op = Op.writeHeader i ∧ is1xx i = true ∧ i ≠ 101)

end

/-- the bytes of one call, when payloads are byte strings -/
def opBytes : Op Bytes → Bytes
  | .write p => p
  | .readFrom cs => cs.flatten
  | _ => []

/-- all the bytes a handler wrote, when payloads are byte strings -/
def writtenBytes (ops : List (Op Bytes)) : Bytes := (ops.map opBytes).flatten

/-! ### entity tags -/

/-- a strong entity tag in the shape every server emits: no `W/` prefix, closing quote -/
def StrongTag (e : Bytes) : Prop := hasPrefix vWeakPrefix e = false ∧ ∃ b, e = b ++ [34]

end CaddyModel.C15

/-! ### what a real HTTP server delivers: no body for HEAD and for statuses that forbid one -/
namespace CaddyModel.C15

/-- net/http `bodyAllowedForStatus`: 1xx (that includes the final 101), 204 and 304 carry no body; the server
    refuses the handler's writes (`ErrBodyNotAllowed`) -/
def bodyAllowed (s : Nat) : Bool := !(is1xx s || s == 204 || s == 304)

section
variable {α : Type}

/-- the final status forbids a body (an uncommitted response is sent as 200) -/
def noBodyStatus (st : St α) : Bool :=
  match st.sent with
  | some (s, _) => !bodyAllowed s
  | none => false

/-- the response has been fixed as `101 Switching Protocols` (the handler answered 101 before anything else
    was committed: the connection is given away, no HTTP body follows) -/
def Final101 (st : St α) : Prop := ∃ h, st.sent = some (101, h)

/-- what the client of a real server obtains: nothing for a HEAD request or a body-less status, otherwise what
    it decodes according to Content-Encoding -/
def delivered (head : Bool) (coding : Option Bytes) (st : St α) : Option (List α) :=
  if head || noBodyStatus st then some [] else clientBody coding st

end
end CaddyModel.C15

/-! ### Accept-Encoding as RFC 9110 writes it (§12.5.3, §12.4.2, §5.6.1) -/
namespace CaddyModel.C15

/-- `tchar` of RFC 9110 §5.6.2 -/
def tchar (b : UInt8) : Bool :=
  (48 ≤ b && b ≤ 57) || (65 ≤ b && b ≤ 90) || (97 ≤ b && b ≤ 122) ||
  b == 33 || b == 35 || b == 36 || b == 37 || b == 38 || b == 39 || b == 42 || b == 43 || b == 45 || b == 46 ||
  b == 94 || b == 95 || b == 96 || b == 124 || b == 126

/-- a coding name (or `*`): a non-empty token -/
def IsToken (t : Bytes) : Prop := t ≠ [] ∧ ∀ b ∈ t, tchar b = true

/-- optional white space: `*( SP / HTAB )` -/
def IsOWS (s : Bytes) : Prop := ∀ b ∈ s, b = 32 ∨ b = 9

/-- every spelling of the weight zero: `"0" [ "." 0*3DIGIT ]` with the digits all `0` -/
def zeroSpellings : List Bytes := [[48], [48, 46], [48, 46, 48], [48, 46, 48, 48], [48, 46, 48, 48, 48]]

/-- `codings OWS ";" OWS ("q" / "Q") "=" qvalue`, with white space around it as a list element may have -/
def weightedElem (lead name ows1 ows2 : Bytes) (qc : UInt8) (qv trail : Bytes) : Bytes :=
  lead ++ name ++ ows1 ++ [59] ++ ows2 ++ [qc, 61] ++ qv ++ trail

/-- a list element without a weight -/
def plainElem (lead name trail : Bytes) : Bytes := lead ++ name ++ trail

/-- `#element`: the elements joined by commas -/
def joinElems : List Bytes → Bytes
  | [] => []
  | [e] => e
  | e :: es => e ++ 44 :: joinElems es

end CaddyModel.C15

/-! ### responses that must be left alone -/
namespace CaddyModel.C15

/-- the handler's header forbids encoding: a Content-Encoding is already there (precompressed file, upstream
    that compressed itself) or `Cache-Control` says `no-transform` -/
def ineligible (h : Hdr) : Bool := !(hGet h kCE).isEmpty || !isEncodeAllowed h

/-- a call that is an edit of the header map -/
def Op.isHeaderEdit {α : Type} : Op α → Bool
  | .hset _ _ => true
  | .hadd _ _ => true
  | .hdel _ => true
  | _ => false

end CaddyModel.C15
