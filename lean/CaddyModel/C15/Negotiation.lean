/-
C15 — negotiation: `AcceptedEncodings` returns accepted names in the order Go's insertion sort leaves them,
entity tags, and Accept-Encoding elements written in the RFC 9110 grammar are read as the RFC means them.
-/
import CaddyModel.C15.Spec
import CaddyModel.Util.GoStrings
import CaddyModel.C16.Lemmas

namespace CaddyModel.C15

/-- the sorter is C16's insertion sort at `prefLess`; what holds of that for any comparison holds here -/
theorem insertRev_eq : insertRev = C16.insR prefLess := by
  funext x l
  induction l with
  | nil => rfl
  | cons y ys ih => rw [insertRev, C16.insR, ih]

theorem goSort_eq (l : List Pref) : goSort l = C16.insertionSort prefLess l := by
  rw [goSort, insertRev_eq]; rfl

theorem mem_goSort (y : Pref) (l : List Pref) : y ∈ goSort l ↔ y ∈ l :=
  goSort_eq l ▸ (C16.insertionSort_perm' prefLess l).mem_iff

theorem mem_acceptedEncodings {ae : Bytes} {ws : Bool} {prefer : List Bytes} {c : Bytes}
    (h : c ∈ acceptedEncodings ae ws prefer) :
    ∃ elem ∈ splitOn 44 ae, elemName elem = c ∧ elemQ elem > 0 ∧ (ws = true → c = vIdentity) := by
  unfold acceptedEncodings at h
  split at h
  · cases h
  · obtain ⟨p, hp, rfl⟩ := List.mem_map.mp h
    rw [mem_goSort, acceptedPrefs, List.mem_filterMap] at hp
    obtain ⟨elem, he, hpe⟩ := hp
    refine ⟨elem, he, ?_⟩
    revert hpe
    fun_cases elemPref prefer ws elem
    case case3 hq hws =>
      rintro ⟨⟩
      exact ⟨rfl, Nat.pos_of_ne_zero hq, fun hw => by simpa [hw] using hws⟩
    all_goals exact fun h => nomatch h

theorem chooseEncoding_some {offered prefer : List Bytes} {req : Req} {c : Bytes}
    (h : chooseEncoding offered prefer req = some c) :
    transformAllowed req.cacheControl = true ∧
      (acceptedEncodings req.acceptEnc req.wsKey prefer).find? (fun n => offered.contains n) = some c := by
  unfold chooseEncoding at h
  split at h
  · exact ⟨‹_›, h⟩
  · cases h

/-! ### `sort.Slice` (insertion sort) sorts by (q, server preference) -/

theorem prefGe_iff (a b : Pref) : PrefGe a b ↔ prefLess b a = false := by
  unfold PrefGe prefLess
  by_cases h : b.q = a.q
  · simp [h]
  · simp [h]; omega

theorem prefGe_of_less {a b : Pref} (h : prefLess a b = true) : PrefGe a b := by
  unfold PrefGe; unfold prefLess at h
  by_cases hq : a.q = b.q
  · simp [hq] at h ⊢; omega
  · simp [hq] at h; exact Or.inl h

theorem prefGe_trans {a b c : Pref} (h1 : PrefGe a b) (h2 : PrefGe b c) : PrefGe a c := by
  unfold PrefGe at *; omega

theorem prefGe_refl (a : Pref) : PrefGe a a := Or.inr ⟨rfl, Int.le_refl _⟩

theorem goSort_sorted (l : List Pref) : (goSort l).Pairwise PrefGe :=
  goSort_eq l ▸ C16.insertionSort_pairwise PrefGe prefLess (fun _ _ _ => prefGe_trans) l
    (List.pairwise_of_forall (l := l) fun y x => ⟨prefGe_of_less, (prefGe_iff y x).mpr⟩)

/-! ### the first hit in a sorted list; suffixes of entity tags -/

theorem find?_pairwise {β : Type} {R : β → β → Prop} (hr : ∀ a, R a a) {p : β → Bool} {x : β} {l : List β}
    (hs : l.Pairwise R) (h : l.find? p = some x) : ∀ y ∈ l, p y = true → R x y := by
  obtain ⟨_, as, bs, rfl, hn⟩ := List.find?_eq_some_iff_append.mp h
  rw [List.pairwise_append, List.pairwise_cons] at hs
  intro y hy hpy
  rcases List.mem_append.mp hy with hy | hy
  · exact absurd hpy (by simpa using hn y hy)
  · rcases List.mem_cons.mp hy with rfl | hy
    · exact hr _
    · exact hs.2.1.1 y hy

theorem isSuffixOf_append (s b : Bytes) : s.isSuffixOf (b ++ s) = true := by
  rw [List.isSuffixOf_iff_suffix]; exact List.suffix_append b s

theorem trimSuffix_append (s b : Bytes) : trimSuffix s (b ++ s) = b := by
  unfold trimSuffix hasSuffix
  rw [isSuffixOf_append]; simp

theorem trimSuffix_length (suf s : Bytes) : (trimSuffix suf s).length + suf.length ≥ s.length := by
  unfold trimSuffix
  split
  · simp [List.length_take]; omega
  · omega

theorem weakPrefix_append (b : Bytes) (name : Bytes) (h : hasPrefix vWeakPrefix (b ++ [34]) = false) :
    hasPrefix vWeakPrefix (b ++ etagSuffix name) = false := by
  match b with
  | [] => simp [hasPrefix, vWeakPrefix, etagSuffix, List.isPrefixOf]
  | [c] =>
    simp [hasPrefix, vWeakPrefix, etagSuffix, List.isPrefixOf] at h ⊢
  | c1 :: c2 :: r =>
    simp [hasPrefix, vWeakPrefix, List.isPrefixOf] at h ⊢
    exact h

/-! ## Accept-Encoding elements in the RFC grammar are read as the RFC means them -/

theorem splitOn_eq (sep : UInt8) : splitOn sep = Go.split sep := Go.split_unique rfl fun _ _ => rfl

theorem joinElems_eq : joinElems = Go.join 44 := Go.join_unique rfl (fun _ => rfl) fun _ _ _ => rfl

theorem splitOn_not_mem (sep : UInt8) (l : Bytes) (h : sep ∉ l) : splitOn sep l = [l] :=
  splitOn_eq sep ▸ Go.split_of_not_mem h

theorem trimLeft_eq : ∀ s : Bytes, trimLeft s = s.dropWhile isSpace
  | [] => rfl
  | b :: bs => by rw [trimLeft, List.dropWhile_cons, trimLeft_eq bs]

theorem trimLeft_ows (a x : Bytes) (h : ∀ b ∈ a, isSpace b = true) : trimLeft (a ++ x) = trimLeft x := by
  rw [trimLeft_eq, trimLeft_eq, List.dropWhile_append_of_pos h]

theorem trimLeft_nonspace (x : Bytes) (h : ∀ b, x.head? = some b → isSpace b = false) : trimLeft x = x := by
  cases x with
  | nil => rfl
  | cons b bs => simp [trimLeft, h b rfl]

theorem trimSpace_padded (a w b : Bytes) (ha : ∀ c ∈ a, isSpace c = true) (hb : ∀ c ∈ b, isSpace c = true)
    (hw : w ≠ []) (hf : ∀ c, w.head? = some c → isSpace c = false)
    (hl : ∀ c, w.getLast? = some c → isSpace c = false) : trimSpace (a ++ w ++ b) = w := by
  unfold trimSpace
  obtain ⟨c, cs, rfl⟩ := List.exists_cons_of_ne_nil hw
  rw [List.append_assoc, trimLeft_ows a _ ha, trimLeft_nonspace (c :: cs ++ b) (fun d hd => hf d hd),
    List.reverse_append,
    trimLeft_ows b.reverse _ (fun d hd => hb d (List.mem_reverse.mp hd)),
    trimLeft_nonspace _ (fun d hd => hl d (by rw [List.getLast?_eq_head?_reverse]; exact hd))]
  exact List.reverse_reverse _

theorem tchar_not_space_semicolon {b : UInt8} (h : tchar b = true) : isSpace b = false ∧ b ≠ 59 := by
  simp [tchar, isSpace, UInt8.le_iff_toNat_le, ← UInt8.toNat_inj] at h ⊢
  omega

theorem ows_isSpace {s : Bytes} (h : IsOWS s) : ∀ c ∈ s, isSpace c = true := by
  intro c hc
  rcases h c hc with rfl | rfl <;> decide

theorem ows_no_semicolon {s : Bytes} (h : IsOWS s) : (59 : UInt8) ∉ s := by
  intro hm
  rcases h 59 hm with e | e <;> cases e

theorem token_no_semicolon {t : Bytes} (h : IsToken t) : (59 : UInt8) ∉ t :=
  fun hm => (tchar_not_space_semicolon (h.2 59 hm)).2 rfl

theorem padded_no_semicolon {a t b : Bytes} (ha : IsOWS a) (ht : IsToken t) (hb : IsOWS b) :
    (59 : UInt8) ∉ a ++ t ++ b := by
  simp only [List.mem_append, not_or]
  exact ⟨⟨ows_no_semicolon ha, token_no_semicolon ht⟩, ows_no_semicolon hb⟩

theorem token_ends {t : Bytes} (h : IsToken t) :
    (∀ c, t.head? = some c → isSpace c = false) ∧ (∀ c, t.getLast? = some c → isSpace c = false) :=
  ⟨fun c hc => (tchar_not_space_semicolon (h.2 c (List.mem_of_mem_head? hc))).1,
   fun c hc => (tchar_not_space_semicolon (h.2 c (List.mem_of_getLast? hc))).1⟩

theorem splitOn_weighted (lead name ows1 ows2 : Bytes) (qc : UInt8) (qv trail : Bytes)
    (hlead : IsOWS lead) (hname : IsToken name) (h1 : IsOWS ows1) (h2 : IsOWS ows2) (ht : IsOWS trail)
    (hw : (59 : UInt8) ∉ [qc, 61] ++ qv) :
    splitOn 59 (weightedElem lead name ows1 ows2 qc qv trail) =
      [lead ++ name ++ ows1, ows2 ++ ([qc, 61] ++ qv) ++ trail] := by
  have e : weightedElem lead name ows1 ows2 qc qv trail =
      (lead ++ name ++ ows1) ++ 59 :: (ows2 ++ ([qc, 61] ++ qv) ++ trail) := by
    simp [weightedElem, List.append_assoc]
  have hr : (59 : UInt8) ∉ ows2 ++ ([qc, 61] ++ qv) ++ trail := by
    rw [List.mem_append, List.mem_append, not_or, not_or]
    exact ⟨⟨ows_no_semicolon h2, hw⟩, ows_no_semicolon ht⟩
  rw [e, splitOn_eq, Go.split_append_sep, Go.split_of_not_mem (padded_no_semicolon hlead hname h1), Go.split_of_not_mem hr]; rfl

theorem elemName_padded (lead name ows1 : Bytes)
    (hlead : IsOWS lead) (hname : IsToken name) (h1 : IsOWS ows1) :
    toLower (trimSpace (lead ++ name ++ ows1)) = toLower name := by
  rw [trimSpace_padded lead name ows1 (ows_isSpace hlead) (ows_isSpace h1) hname.1 (token_ends hname).1
    (token_ends hname).2]

/-- the five spellings of the weight zero after `q=` / `Q=` (`∀ c ∈ o` on an `Option` is `∀ c, o = some c → …`,
    the form `qOfParam_padded` asks for, stated so that it can be evaluated) -/
theorem zero_weight : ∀ qc ∈ ([113, 81] : Bytes), ∀ z ∈ zeroSpellings,
    (59 : UInt8) ∉ [qc, 61] ++ z ∧ (∀ c ∈ ([qc, 61] ++ z).head?, isSpace c = false) ∧
      (∀ c ∈ ([qc, 61] ++ z).getLast?, isSpace c = false) ∧ qOfParam ([qc, 61] ++ z) = 0 := by decide +kernel

theorem qOfParam_congr {p p' : Bytes} (h : trimSpace p = trimSpace p') : qOfParam p = qOfParam p' := by
  unfold qOfParam; rw [h]

theorem qOfParam_padded (a w b : Bytes) (ha : IsOWS a) (hb : IsOWS b) (hw : w ≠ [])
    (hf : ∀ c, w.head? = some c → isSpace c = false) (hl : ∀ c, w.getLast? = some c → isSpace c = false) :
    qOfParam (a ++ w ++ b) = qOfParam w := by
  have hpad := trimSpace_padded a w b (ows_isSpace ha) (ows_isSpace hb) hw hf hl
  have hself := trimSpace_padded [] w [] (fun _ h => nomatch h) (fun _ h => nomatch h) hw hf hl
  rw [List.nil_append, List.append_nil] at hself
  exact qOfParam_congr (hpad.trans hself.symm)

theorem splitOn_joinElems (es : List Bytes) (hne : es ≠ []) (h : ∀ e ∈ es, (44 : UInt8) ∉ e) :
    splitOn 44 (joinElems es) = es := by
  rw [splitOn_eq, joinElems_eq]; exact Go.split_join 44 hne h

end CaddyModel.C15
