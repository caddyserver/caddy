/-
C15 — the neighbours of the writer: payloads as bytes, the Caddyfile glue, pooled encoders, reverse_proxy's
lock discipline, the buffering recorder behind the handler, file_server's sidecar loop.
-/
import CaddyModel.C15.Spec
import CaddyModel.C15.Pool
import CaddyModel.C15.Caddyfile
import CaddyModel.C15.Proxy
import CaddyModel.C15.Recorder
import CaddyModel.C15.Sidecar

namespace CaddyModel.C15

theorem flatten_nonEmpty (cfg : Cfg Bytes) (hsz : cfg.size = List.length) (cs : List Bytes) :
    (nonEmpty cfg cs).flatten = cs.flatten := by
  unfold nonEmpty
  rw [hsz, List.filter_congr (q := fun c => !c.isEmpty) fun c _ => by cases c <;> rfl]
  exact List.flatten_filter_not_isEmpty

theorem opPayloads_flatten (cfg : Cfg Bytes) (hsz : cfg.size = List.length) (op : Op Bytes) :
    (opPayloads cfg op).flatten = opBytes op := by
  cases op with
  | write p =>
    show (if cfg.size p == 0 then [] else [p]).flatten = p
    rw [hsz]
    cases p with
    | nil => rfl
    | cons b t => exact List.append_nil _
  | readFrom cs => exact flatten_nonEmpty cfg hsz cs
  | _ => rfl

theorem written_flatten (cfg : Cfg Bytes) (hsz : cfg.size = List.length) (ops : List (Op Bytes)) :
    (written cfg ops).flatten = writtenBytes ops := by
  unfold written writtenBytes
  rw [List.flatMap_def, List.flatten_flatten, List.map_map]
  exact congrArg (fun f => (ops.map f).flatten) (funext (opPayloads_flatten cfg hsz))

def SameNames (st : CfState) : Prop := ∀ n, n ∈ st.prefer ↔ n ∈ st.encs

theorem mem_addKey (l : List Bytes) (k n : Bytes) : n ∈ addKey l k ↔ n ∈ l ∨ n = k := by
  unfold addKey
  by_cases h : l.contains k = true
  · rw [if_pos h]
    constructor
    · exact Or.inl
    · rintro (h1 | rfl)
      · exact h1
      · simpa using h
  · rw [if_neg h, List.mem_append, List.mem_singleton]

theorem procToks_names (sub : Option (List (List Bytes))) (toks : List Bytes) (st st' : CfState)
    (h : procToks sub toks st = .ok st') :
    (st'.prefer = st.prefer ∧ st'.encs = st.encs) ∨
      ∃ k, st'.prefer = st.prefer ++ [k] ∧ st'.encs = addKey st.encs k := by
  fun_induction procToks sub toks st
  case case5 ih => exact ih h  -- `minimum_length n`: the rest of the line is read on
  all_goals cases h
  all_goals first | exact Or.inl ⟨rfl, rfl⟩ | exact Or.inr ⟨_, rfl, rfl⟩

theorem procToks_sameNames (sub : Option (List (List Bytes))) (toks : List Bytes) (st st' : CfState)
    (h : procToks sub toks st = .ok st') (hs : SameNames st) : SameNames st' := by
  intro n
  rcases procToks_names sub toks st st' h with ⟨e1, e2⟩ | ⟨k, e1, e2⟩ <;> rw [e1, e2]
  · exact hs n
  · rw [mem_addKey, List.mem_append, List.mem_singleton, hs n]

theorem procBlock_sameNames (block : List Line) (st st' : CfState) (h : procBlock block st = .ok st')
    (hs : SameNames st) : SameNames st' := by
  fun_induction procBlock block st
  case case1 => cases h; exact hs
  case case2 l _ st st1 h1 ih => exact ih h (procToks_sameNames l.sub l.toks st st1 h1 hs)
  all_goals cases h

theorem procArgs_spec (args : List Bytes) (st st' : CfState) (h : procArgs args st = .ok st') (hs : SameNames st) :
    SameNames st' ∧ (st.prefer.Nodup → st'.prefer.Nodup) ∧ (∃ added, st'.prefer = st.prefer ++ added) ∧
      st'.minLen = st.minLen ∧ st'.matcher = st.matcher := by
  fun_induction procArgs args st
  case case1 => cases h; exact ⟨hs, id, ⟨[], (List.append_nil _).symm⟩, rfl, rfl⟩
  case case2 ih => exact ih h hs
  case case3 a as st hc _ ih =>
    have hna : a ∉ st.prefer := by rw [hs a]; simpa using hc
    obtain ⟨i1, i2, ⟨added, e⟩, i4⟩ := ih h (fun n => by simp [hs n])
    refine ⟨i1, fun hn => i2 ?_, ⟨a :: added, by rw [e]; exact List.append_assoc ..⟩, i4⟩
    simp only [List.nodup_append, List.nodup_cons, List.not_mem_nil, not_false_eq_true, List.nodup_nil,
      and_self, List.mem_singleton, true_and]
    exact ⟨hn, fun x hx y hy => by subst hy; exact fun e => hna (e ▸ hx)⟩
  case case4 => cases h

theorem parseEncode_spec {args : List Bytes} {block : List Line} {st : CfState} (h : parseEncode args block = .ok st) :
    ∃ stB, procBlock block CfState.empty = .ok stB ∧ SameNames stB ∧
      procArgs (if stB.prefer.isEmpty && args.isEmpty then [vZstd, vGzip] else args) stB = .ok st := by
  unfold parseEncode at h
  cases hb : procBlock block CfState.empty with
  | ok stB =>
    rw [hb] at h
    exact ⟨stB, rfl, procBlock_sameNames block _ stB hb (fun n => by simp [CfState.empty]), h⟩
  | _ => rw [hb] at h; cases h


section
variable {α : Type}

theorem call_dest (o : EncObj α) (c : EncCall α) :
    (o.call c).1.dest = o.dest ∧ ∀ e ∈ (o.call c).2, e.dest = o.dest := by
  cases c <;> simp [EncObj.call, Emit.dest]

theorem calls_dest : ∀ (cs : List (EncCall α)) (o : EncObj α),
    (o.calls cs).1.dest = o.dest ∧ ∀ e ∈ (o.calls cs).2, e.dest = o.dest
  | [], o => by simp [EncObj.calls]
  | c :: cs, o => by
    obtain ⟨a, b⟩ := call_dest o c
    obtain ⟨i1, i2⟩ := calls_dest cs (o.call c).1
    simp only [EncObj.calls, prependEmits, List.mem_append]
    refine ⟨by rw [i1, a], fun e he => ?_⟩
    rcases he with he | he
    · exact b e he
    · rw [i2 e he, a]

theorem calls_payloads : ∀ (cs : List (EncCall α)) (o : EncObj α),
    (o.calls cs).2.flatMap Emit.payloads ++ (o.calls cs).1.pending = o.pending ++ writesOf cs
  | [], o => by simp [EncObj.calls, writesOf]
  | c :: cs, o => by
    have ih := calls_payloads cs (o.call c).1
    simp only [EncObj.calls, prependEmits, List.flatMap_append, List.append_assoc]
    rw [ih]
    cases c <;> simp [EncObj.call, Emit.payloads, writesOf]

/-! ## reverse_proxy as a caller: the lock discipline serialises the calls -/

def heldOk (ph : Phase) (t : Bool) (tr : List (CallEv α)) : Prop :=
  (ph = .locked ∧ okRev tr none = true) ∨ (ph = .inCall ∧ okRev tr (some t) = true) ∨
    (ph = .after ∧ okRev tr none = true)

/-- every thread keeps the discipline; who does not hold the lock is between calls; the holder is the only one
    that can be inside a call, and the trace so far has no overlap -/
structure LockInv (s : Sys α) : Prop where
  guarded : ∀ u, (s.callers u).guarded = true
  others : ∀ u, s.lock ≠ some u → (s.callers u).phase = .idle
  held : match s.lock with
    | none => okRev s.trace none = true
    | some t => heldOk (s.callers t).phase t s.trace

theorem setCaller_self (s : Sys α) (t : Bool) (c : Caller α) : s.setCaller t c t = c := by
  simp [Sys.setCaller]

theorem setCaller_other (s : Sys α) {t u : Bool} (c : Caller α) (h : u ≠ t) : s.setCaller t c u = s.callers u := by
  simp [Sys.setCaller, h]

theorem lockInv_update {s : Sys α} (h : LockInv s) (t : Bool) (c : Caller α) (l : Option Bool)
    (tr : List (CallEv α)) (hfree : ∀ u, s.lock = some u → u = t) (hg : c.guarded = true)
    (hl : (l = some t ∧ heldOk c.phase t tr) ∨ (l = none ∧ c.phase = .idle ∧ okRev tr none = true)) :
    LockInv ⟨l, s.setCaller t c, tr⟩ := by
  refine ⟨fun u => ?_, fun u hu => ?_, ?_⟩
  · show (s.setCaller t c u).guarded = true
    by_cases e : u = t
    · subst e; rw [setCaller_self]; exact hg
    · rw [setCaller_other s c e]; exact h.guarded u
  · show (s.setCaller t c u).phase = .idle
    by_cases e : u = t
    · subst e
      rw [setCaller_self]
      rcases hl with ⟨rfl, _⟩ | ⟨_, hp, _⟩
      · exact absurd rfl hu
      · exact hp
    · rw [setCaller_other s c e]; exact h.others u (fun hlk => e (hfree u hlk))
  · rcases hl with ⟨rfl, hh⟩ | ⟨rfl, _, ho⟩
    · show heldOk (s.setCaller t c t).phase t tr
      rw [setCaller_self]; exact hh
    · exact ho

theorem lockInv_step (s : Sys α) (t : Bool) (h : LockInv s) : LockInv (s.step t) := by
  have hg := h.guarded t
  have holder : ∀ ph, (s.callers t).phase = ph → ph ≠ .idle → s.lock = some t ∧ heldOk ph t s.trace := by
    intro ph hph hp
    have hl : s.lock = some t := Classical.byContradiction fun hne => hp (hph ▸ h.others t hne)
    have hh := h.held
    rw [hl] at hh
    exact ⟨hl, hph ▸ hh⟩
  have mine : s.lock = some t → ∀ u, s.lock = some u → u = t := fun hl u hu => Option.some.inj (hu.symm.trans hl)
  fun_cases Sys.step s t
  case case1 hfree =>  -- idle, the lock is free: take it
    have hl : s.lock = none := Option.isNone_iff_eq_none.mp hfree
    have htr := h.held
    rw [hl] at htr
    exact lockInv_update h t _ _ _ (fun u hu => by rw [hl] at hu; cases hu) hg (Or.inl ⟨rfl, Or.inl ⟨rfl, htr⟩⟩)
  case case3 hph _ =>  -- locked: the call begins
    obtain ⟨hl, hh⟩ := holder _ hph (by decide)
    have ho : okRev s.trace none = true := by simpa [heldOk] using hh
    exact lockInv_update h t _ _ _ (mine hl) hg (Or.inl ⟨hl, Or.inr (Or.inl ⟨rfl, by simp [okRev, ho]⟩)⟩)
  case case6 hph _ =>  -- inCall: the call returns, the lock is still held
    obtain ⟨hl, hh⟩ := holder _ hph (by decide)
    have ho : okRev s.trace (some t) = true := by simpa [heldOk] using hh
    exact lockInv_update h t _ _ _ (mine hl) hg (Or.inl ⟨hl, Or.inr (Or.inr ⟨rfl, by simp [okRev, ho]⟩)⟩)
  case case8 hph =>  -- after: unlock
    obtain ⟨hl, hh⟩ := holder _ hph (by decide)
    have ho : okRev s.trace none = true := by simpa [heldOk] using hh
    exact lockInv_update h t _ _ _ (mine hl) hg (Or.inr ⟨rfl, rfl, ho⟩)
  case case5 hph =>  -- ready: only a thread that released the lock before its call gets here
    exact absurd (holder _ hph (by decide)).2 (by simp [heldOk])
  case case4 hn => exact absurd hg hn
  case case7 hn => exact absurd hg hn
  all_goals exact h

theorem lockInv_exec : ∀ (sched : List Bool) (s : Sys α), LockInv s → LockInv (s.exec sched)
  | [], _, h => h
  | t :: ts, s, h => lockInv_exec ts _ (lockInv_step s t h)

theorem lockInv_start (ws fs : List (Op α)) : LockInv (Sys.start true true ws fs) :=
  ⟨fun u => by cases u <;> rfl, fun u _ => by cases u <;> rfl, rfl⟩

theorem noOverlap_of_lockInv {s : Sys α} (h : LockInv s) : noOverlap s.trace = true := by
  have hh := h.held
  unfold noOverlap
  cases hl : s.lock with
  | none => rw [hl] at hh; simp [hh]
  | some t =>
    rw [hl] at hh
    rcases hh with ⟨_, ho⟩ | ⟨_, ho⟩ | ⟨_, ho⟩
    · simp [ho]
    · cases t <;> simp [ho]
    · simp [ho]

end
/-- what has been passed on plus what is still buffered = what the handler has written so far -/
def recAcc (s : RecSt Bytes) : Bytes := writtenBytes s.out.reverse ++ s.buf.flatten

/-- something is buffered only after the final header decided for buffering -/
def RecInv (s : RecSt Bytes) : Prop := s.buf = [] ∨ (s.wrote = true ∧ s.stream = false)

theorem recAcc_out (s : RecSt Bytes) (op : Op Bytes) (h : s.buf = [] ∨ opBytes op = []) :
    recAcc { s with out := op :: s.out } = recAcc s ++ opBytes op := by
  show writtenBytes (op :: s.out).reverse ++ s.buf.flatten = writtenBytes s.out.reverse ++ s.buf.flatten ++ opBytes op
  unfold writtenBytes
  rw [List.reverse_cons, List.map_append, List.flatten_append]
  rcases h with h | h <;> simp [h]

theorem recAcc_buf (s : RecSt Bytes) (x : List Bytes) :
    recAcc { s with buf := s.buf ++ x } = recAcc s ++ x.flatten := by
  show _ ++ (s.buf ++ x).flatten = _ ++ s.buf.flatten ++ _
  rw [List.flatten_append, List.append_assoc]

theorem stream_buf_nil {s : RecSt Bytes} (hi : RecInv s) (hs : s.stream = true) : s.buf = [] :=
  hi.elim id fun h => by rw [hs] at h; cases h.2

theorem rec_writeHeader (sb : Nat → Bool) (s : RecSt Bytes) (status : Nat) (hi : RecInv s) :
    recAcc (recWriteHeader sb s status) = recAcc s ∧ RecInv (recWriteHeader sb s status) ∧
      (status = 200 → (recWriteHeader sb s status).wrote = true) := by
  unfold recWriteHeader
  cases hw : s.wrote with
  | true => exact ⟨rfl, hi, fun _ => hw⟩
  | false =>
    have hb : s.buf = [] := hi.elim id fun h => by rw [hw] at h; cases h.1
    refine ⟨?_, Or.inl hb, fun e => by subst e; rfl⟩
    simp only [Bool.false_eq_true, if_false]
    split
    · exact (recAcc_out _ (.writeHeader status) (Or.inr rfl)).trans (List.append_nil _)
    · rfl

theorem rec_body (s1 : RecSt Bytes) (op : Op Bytes) (x : List Bytes) (hx : x.flatten = opBytes op)
    (hi : RecInv s1) (hw : s1.wrote = true) :
    recAcc (if s1.stream then { s1 with out := op :: s1.out } else { s1 with buf := s1.buf ++ x }) =
        recAcc s1 ++ opBytes op ∧
      RecInv (if s1.stream then { s1 with out := op :: s1.out } else { s1 with buf := s1.buf ++ x }) := by
  by_cases hs : s1.stream = true
  · have hb := stream_buf_nil hi hs
    rw [if_pos hs]
    exact ⟨recAcc_out s1 op (Or.inl hb), Or.inl hb⟩
  · rw [if_neg hs]
    exact ⟨(recAcc_buf s1 x).trans (by rw [hx]), Or.inr ⟨hw, Bool.eq_false_iff.mpr hs⟩⟩

theorem recAcc_step (sb : Nat → Bool) (s : RecSt Bytes) (op : Op Bytes) (hi : RecInv s) :
    recAcc (recStep sb s op) = recAcc s ++ opBytes op ∧ RecInv (recStep sb s op) := by
  obtain ⟨a, b, c⟩ := rec_writeHeader sb s 200 hi
  cases op with
  | writeHeader status =>
    obtain ⟨a, b, _⟩ := rec_writeHeader sb s status hi
    exact ⟨a.trans (List.append_nil _).symm, b⟩
  | write p => rw [← a]; exact rec_body _ (.write p) [p] (List.append_nil p) b (c rfl)
  | readFrom cs => rw [← a]; exact rec_body _ (.readFrom cs) cs rfl b (c rfl)
  | flush =>
    show recAcc (if s.stream then _ else s) = _ ∧ RecInv (if s.stream then _ else s)
    split
    · exact ⟨recAcc_out s .flush (Or.inr rfl), hi⟩
    · exact ⟨(List.append_nil _).symm, hi⟩
  | _ => exact ⟨recAcc_out s _ (Or.inr rfl), hi⟩

theorem recAcc_foldl (sb : Nat → Bool) : ∀ (ops : List (Op Bytes)) (s : RecSt Bytes), RecInv s →
    recAcc (ops.foldl (recStep sb) s) = recAcc s ++ writtenBytes ops ∧ RecInv (ops.foldl (recStep sb) s)
  | [], s, hi => ⟨by simp [writtenBytes], hi⟩
  | op :: ops, s, hi => by
    obtain ⟨a, b⟩ := recAcc_step sb s op hi
    obtain ⟨c, d⟩ := recAcc_foldl sb ops _ b
    rw [List.foldl_cons]
    exact ⟨by rw [c, a]; simp [writtenBytes, List.append_assoc], d⟩

theorem recFinish_bytes (sb : Nat → Bool) (s : RecSt Bytes) (hi : RecInv s) :
    writtenBytes (recFinish sb List.flatten List.isEmpty s).out.reverse = recAcc s := by
  have hout : ∀ s' : RecSt Bytes, s'.buf = [] → writtenBytes s'.out.reverse = recAcc s' := fun s' hb => by
    unfold recAcc; rw [hb]; exact (List.append_nil _).symm
  unfold recFinish
  by_cases hs : s.stream = true
  · rw [if_pos hs]; exact hout s (stream_buf_nil hi hs)
  · rw [if_neg hs]
    have h1 : recAcc (if s.status == 0 then recWriteHeader sb s 200 else s) = recAcc s ∧
        RecInv (if s.status == 0 then recWriteHeader sb s 200 else s) := by
      split
      · exact ⟨(rec_writeHeader sb s 200 hi).1, (rec_writeHeader sb s 200 hi).2.1⟩
      · exact ⟨rfl, hi⟩
    generalize (if (s.status == 0) = true then recWriteHeader sb s 200 else s) = s1 at h1 ⊢
    rw [← h1.1]
    by_cases hs1 : s1.stream = true
    · simp only [hs1, if_true]; exact hout s1 (stream_buf_nil h1.2 hs1)
    · simp only [hs1, Bool.false_eq_true, if_false]
      -- `WriteResponse`: the status, then the whole buffer in one `Write` (none when it is empty)
      unfold recAcc writtenBytes
      cases hb : s1.buf.flatten <;> simp [opBytes]

theorem sidecarLoop_spec (drop : Bool) (configured : Bytes → Bool) (state : Bytes → SideState) (etagFails : Bool)
    (accepted : List Bytes) (ce0 ce : Option Bytes) (opened : Option Served)
    (h : sidecarLoop false drop configured state etagFails accepted ce0 = .inl (ce, opened)) :
    (opened = none ∧ ce = ce0) ∨
      ∃ c, opened = some (.sidecar c) ∧ ce = some c ∧ c ∈ accepted ∧ configured c = true ∧ state c = .ok := by
  have later : ∀ {L : Prop} {ae : Bytes} {rest : List Bytes},
      (L ∨ ∃ c, opened = some (.sidecar c) ∧ ce = some c ∧ c ∈ rest ∧ configured c = true ∧ state c = .ok) →
      L ∨ ∃ c, opened = some (.sidecar c) ∧ ce = some c ∧ c ∈ ae :: rest ∧ configured c = true ∧ state c = .ok :=
    fun r => r.imp id fun ⟨c, a, b, m, d⟩ => ⟨c, a, b, List.mem_cons_of_mem _ m, d⟩
  fun_induction sidecarLoop false drop configured state etagFails accepted ce0
  case case1 => cases h; exact Or.inl ⟨rfl, rfl⟩  -- no coding left
  case case2 ih => exact later (ih h)  -- not configured
  case case3 ih => exact later (ih h)  -- absent
  case case4 ih => exact later (ih h)  -- open refused
  case case5 => cases h  -- open fails otherwise: 503
  case case6 => cases h  -- etag file unreadable: 500
  case case7 hc hs _ =>  -- opened
    cases h; exact Or.inr ⟨_, rfl, rfl, List.mem_cons_self, by simpa using hc, hs⟩

/-- (code as it is) whatever error the loop ends with, it leaves no Content-Encoding of its own in the header map -/
theorem sidecarLoop_error (configured : Bytes → Bool) (state : Bytes → SideState) (etagFails : Bool)
    (accepted : List Bytes) (status : Nat) (ce0 ce : Option Bytes)
    (h : sidecarLoop false true configured state etagFails accepted ce0 = .inr (status, ce)) :
    ce = none ∨ ce = ce0 := by
  fun_induction sidecarLoop false true configured state etagFails accepted ce0
  -- the cases in the order of `sidecarLoop_spec`
  case case1 => cases h
  case case2 ih => exact ih h
  case case3 ih => exact ih h
  case case4 ih => exact ih h
  case case5 => exact Or.inr (Prod.mk.inj (Sum.inr.inj h)).2.symm
  case case6 => exact Or.inl (Prod.mk.inj (Sum.inr.inj h)).2.symm
  case case7 => cases h
end CaddyModel.C15

