/-
C15 — the response writer. http.Header algebra and the header edits of `init`; the small steps in closed form
(`rwWriteHeader_eq`, `commitHeader_eq`, `flushThrough_eq`); `KeptW`, the induction principle over `Write`, `Flush` and
`ReadFrom` (`Kept`: properties that do not look at the payloads); the run invariant `Inv` (with `Uncommitted`), then `Close`
(`closeHeader_eq`, `rwClose_committed` / `rwClose_uncommitted`, `kept_rwClose`, `shape_rwClose`); then a section each: payloads, the
plain writer, what was sent (`StatusHeld`) and calls that commit nothing, the committed writer, header edits, 101, `LeftAlone`.
-/
import CaddyModel.C15.Spec
import CaddyModel.C15.Writer

namespace CaddyModel.C15

theorem hValues_del_self (h : Hdr) (k : Bytes) : hValues (hDel h k) k = [] := by
  induction h with
  | nil => rfl
  | cons e t ih =>
    obtain ⟨k', vs⟩ := e
    unfold hDel at *
    by_cases hk : k' = k
    · simp [List.filter, hk, ih]
    · have : (k' == k) = false := by simpa using hk
      simp [List.filter, this, hValues, hk, ih]

theorem hValues_del_ne (h : Hdr) {k k' : Bytes} (hne : k' ≠ k) : hValues (hDel h k) k' = hValues h k' := by
  induction h with
  | nil => rfl
  | cons e t ih =>
    obtain ⟨k2, vs⟩ := e
    unfold hDel at *
    by_cases hk : k2 = k
    · have : k2 ≠ k' := fun h => hne (h ▸ hk)
      simp [List.filter, hk, hValues, ih]
      intro h2; exact absurd (hk ▸ h2) (Ne.symm hne)
    · have : (k2 == k) = false := by simpa using hk
      simp [List.filter, this, hValues, ih]

theorem hValues_set_self (h : Hdr) (k v : Bytes) : hValues (hSet h k v) k = [v] := by
  simp [hSet, hValues]

theorem hValues_set_ne (h : Hdr) {k k' : Bytes} (v : Bytes) (hne : k' ≠ k) :
    hValues (hSet h k v) k' = hValues h k' := by
  simp [hSet, hValues, Ne.symm hne, hValues_del_ne h hne]

theorem hValues_add_self (h : Hdr) (k v : Bytes) : hValues (hAdd h k v) k = hValues h k ++ [v] := by
  simp [hAdd, hValues]

theorem hValues_add_ne (h : Hdr) {k k' : Bytes} (v : Bytes) (hne : k' ≠ k) :
    hValues (hAdd h k v) k' = hValues h k' := by
  simp [hAdd, hValues, Ne.symm hne, hValues_del_ne h hne]

theorem hGet_congr {h h' : Hdr} {k : Bytes} (e : hValues h k = hValues h' k) : hGet h k = hGet h' k := by
  unfold hGet; rw [e]

theorem hasVary_congr {h h' : Hdr} (e : hValues h kVary = hValues h' kVary) : hasVary h = hasVary h' := by
  unfold hasVary; rw [e]

theorem hValues_etagStep_ne (name : Bytes) (h : Hdr) {k : Bytes} (hne : k ≠ kEtag) :
    hValues (etagStep name h) k = hValues h k := by
  unfold etagStep
  split
  · exact hValues_set_ne h _ hne
  · rfl

theorem hValues_varyStep_ne (h : Hdr) {k : Bytes} (hne : k ≠ kVary) :
    hValues (varyStep h) k = hValues h k := by
  unfold varyStep
  split
  · rfl
  · exact hValues_add_ne h _ hne

theorem hasVary_varyStep (h : Hdr) : hasVary (varyStep h) = true := by
  unfold varyStep
  by_cases hv : hasVary h = true
  · simp [hv]
  · simp [hv]
    unfold hasVary
    rw [hValues_add_self, List.any_append]
    have : varyValueHas vAE = true := by decide
    simp [this]

theorem initHdr_CE (name : Bytes) (h : Hdr) : hValues (initHdr name h) kCE = [name] := by
  unfold initHdr
  rw [hValues_etagStep_ne _ _ (by decide), hValues_del_ne _ (by decide), hValues_varyStep_ne _ (by decide),
    hValues_set_self]

theorem initHdr_CL (name : Bytes) (h : Hdr) : hValues (initHdr name h) kCL = [] := by
  unfold initHdr
  rw [hValues_etagStep_ne _ _ (by decide), hValues_del_ne _ (by decide), hValues_varyStep_ne _ (by decide),
    hValues_set_ne _ _ (by decide), hValues_del_self]

theorem initHdr_AR (name : Bytes) (h : Hdr) : hValues (initHdr name h) kAR = [] := by
  unfold initHdr
  rw [hValues_etagStep_ne _ _ (by decide), hValues_del_self]

theorem initHdr_vary (name : Bytes) (h : Hdr) : hasVary (initHdr name h) = true := by
  unfold initHdr
  rw [hasVary_congr (hValues_etagStep_ne _ _ (by decide)), hasVary_congr (hValues_del_ne _ (by decide))]
  exact hasVary_varyStep _

theorem initHdr_pre (name : Bytes) (h : Hdr) {k : Bytes} (h1 : k ≠ kCL) (h2 : k ≠ kCE) (h3 : k ≠ kVary) (h4 : k ≠ kAR) :
    hValues (hDel (varyStep (hSet (hDel h kCL) kCE name)) kAR) k = hValues h k := by
  rw [hValues_del_ne _ h4, hValues_varyStep_ne _ h3, hValues_set_ne _ _ h2, hValues_del_ne _ h1]

section
variable {α : Type}

theorem headerOnly_payloads : ∀ (log : List (Ev α)), headerOnly log = true → payloads log = []
  | [], _ => rfl
  | ev :: t, h => by
    obtain ⟨h1, h2⟩ := Bool.and_eq_true_iff.mp (show (ev.isWh && headerOnly t) = true from h)
    cases ev <;> first | exact headerOnly_payloads t h2 | cases h1

theorem isWh_ok {ev : Ev α} (h : ev.isWh = true) : ev.plainOk = true ∧ ev.encOk = true := by
  cases ev <;> first | exact ⟨rfl, rfl⟩ | cases h

theorem headerOnly_plainOnly (log : List (Ev α)) (h : headerOnly log = true) : plainOnly log = true :=
  List.all_eq_true.mpr fun ev hev => (isWh_ok (List.all_eq_true.mp h ev hev)).1

theorem headerOnly_encOnly (log : List (Ev α)) (h : headerOnly log = true) : encOnly log = true :=
  List.all_eq_true.mpr fun ev hev => (isWh_ok (List.all_eq_true.mp h ev hev)).2

theorem all_cons_of {ok : Ev α → Bool} {ev : Ev α} {log : List (Ev α)} (h1 : ok ev = true)
    (h2 : log.all ok = true) : (ev :: log).all ok = true := by
  rw [List.all_cons, h1, h2]; rfl

theorem payloads_cons (ev : Ev α) (log : List (Ev α)) : ∃ l, payloads (ev :: log) = payloads log ++ l := by
  cases ev <;> first | exact ⟨_, rfl⟩ | exact ⟨[], (List.append_nil _).symm⟩

theorem minLenOk_mono (cfg : Cfg α) (h0 : Hdr) (log : List (Ev α)) (ev : Ev α)
    (h : MinLenOk cfg h0 log) : MinLenOk cfg h0 (ev :: log) := by
  rcases h with ⟨p, hp, hs⟩ | h
  · obtain ⟨l, e⟩ := payloads_cons ev log
    exact Or.inl ⟨p, by rw [e, List.head?_append, hp]; rfl, hs⟩
  · exact Or.inr h

/-- `WriteHeader s` is the 2xx answer to a CONNECT, which the writer hands on at once (`connectImmediate`) -/
def connect2xx (st : St α) (s : Nat) : Bool := st.isConnect && (200 ≤ s && s ≤ 299)

theorem isInformational_of_not_1xx {s : Nat} (h : is1xx s = false) : isInformational s = false := by
  rw [isInformational, h]; rfl

theorem is1xx_not_2xx {s : Nat} (h : is1xx s = true) : (decide (200 ≤ s) && decide (s ≤ 299)) = false := by
  simp [is1xx] at h ⊢; omega

theorem connect2xx_1xx (st : St α) {s : Nat} (h : is1xx s = true) : connect2xx st s = false := by
  rw [connect2xx, is1xx_not_2xx h, Bool.and_false]

theorem rwWriteHeader_eq (st : St α) (s : Nat) :
    rwWriteHeader st s =
      { st with
        statusCode := s
        hdr := (vary304 s st).hdr
        wroteHeader := st.wroteHeader || connect2xx st s
        log := if is1xx s || connect2xx st s then .wh s (vary304 s st).hdr :: st.log else st.log
        sent := if (is1xx s || connect2xx st s) && !isInformational s
                then fixSent s (vary304 s st).hdr st.sent else st.sent } := by
  have hv : vary304 s { st with statusCode := s } = { st with statusCode := s, hdr := (vary304 s st).hdr } := by
    unfold vary304; split <;> rfl
  unfold rwWriteHeader informational connectImmediate connect2xx
  rw [hv]
  by_cases h1 : is1xx s = true
  · simp only [h1, is1xx_not_2xx h1, Bool.and_false, Bool.false_eq_true, if_false, if_true, Bool.or_false, Bool.true_and, dsWriteHeader]
    cases isInformational s <;> rfl
  · have hi := isInformational_of_not_1xx (Bool.eq_false_iff.mpr h1)
    simp only [h1, Bool.false_eq_true, if_false, Bool.false_or, hi, Bool.not_false, Bool.and_true]
    cases hc : (st.isConnect && (decide (200 ≤ s) && decide (s ≤ 299))) <;> simp [dsWriteHeader, hi]

theorem rwWriteHeader_hdr (st : St α) (s : Nat) : (rwWriteHeader st s).hdr = (vary304 s st).hdr := by
  rw [rwWriteHeader_eq]

theorem rwWriteHeader_encOpen (st : St α) (s : Nat) : (rwWriteHeader st s).encOpen = st.encOpen := by
  rw [rwWriteHeader_eq]

theorem rwWriteHeader_wroteHeader (st : St α) (s : Nat) :
    (rwWriteHeader st s).wroteHeader = (st.wroteHeader || connect2xx st s) := by
  rw [rwWriteHeader_eq]

theorem rwWriteHeader_log (st : St α) (s : Nat) :
    (rwWriteHeader st s).log =
      if is1xx s || connect2xx st s then .wh s (vary304 s st).hdr :: st.log else st.log := by
  rw [rwWriteHeader_eq]

theorem all_rwWriteHeader_log (st : St α) (s : Nat) {ok : Ev α → Bool}
    (h1 : ok (.wh s (vary304 s st).hdr) = true) (h2 : st.log.all ok = true) : (rwWriteHeader st s).log.all ok = true := by
  rw [rwWriteHeader_log]; split
  · exact all_cons_of h1 h2
  · exact h2

theorem rwWriteHeader_sent (st : St α) (s : Nat) :
    (rwWriteHeader st s).sent =
      if (is1xx s || connect2xx st s) && !isInformational s
      then fixSent s (vary304 s st).hdr st.sent else st.sent := by
  rw [rwWriteHeader_eq]

theorem sent_rwWriteHeader (st : St α) (s : Nat) (x : Nat × Hdr) (h : st.sent = some x) :
    (rwWriteHeader st s).sent = some x := by
  rw [rwWriteHeader_sent, h]; split <;> rfl

theorem connectDefault_noop {st : St α} (h : (st.isConnect && !st.wroteHeader && st.statusCode == 0) = false) :
    connectDefault st = st := by
  unfold connectDefault; rw [h]; rfl

/-- The moves `Write`, `Flush` and `ReadFrom` are made of. `P r st`: the payloads `r` are still to be handed on;
    a move that hands on `p` takes it from the front, so that one walk through the method bodies (`keptW_step`)
    serves properties of the state alone (`Kept`, which ignore `r`) and the account of the payloads.
    `firstWrite` is one move because `Inv` does not hold between its parts. `Close` is not made of these
    moves (its `commitHeader` may follow `init`): see `kept_rwClose`. -/
structure KeptW (cfg : Cfg α) (P : List α → St α → Prop) : Prop where
  connect : ∀ {r} st, st.wroteHeader = false → st.statusCode = 0 → P r st → P r (rwWriteHeader st 200)
  firstWrite : ∀ {r} st p, st.wroteHeader = false → P (p :: r) st → P r (emit (commitHeader (decide1 cfg st p)) p)
  encWrite : ∀ {r} st p, st.encOpen = true → P (p :: r) st → P r (encWrite st p)
  dsWrite : ∀ {r} st p, st.wroteHeader = true → st.encOpen = false → P (p :: r) st → P r (dsWrite st p)
  flush : ∀ {r} st, st.wroteHeader = true → P r st → P r (flushThrough st)
  commit : ∀ {r} st, st.encOpen = false → P r st → P r (commitHeader st)
  unreal : ∀ {r} st u, P r st → P r { st with unreal := u }

abbrev Kept (cfg : Cfg α) (P : St α → Prop) : Prop := KeptW cfg fun _ => P

theorem commitHeader_eq (st : St α) : commitHeader st =
    if st.wroteHeader then st else
      { st with wroteHeader := true,
                log := if st.statusCode != 0 then .wh st.statusCode st.hdr :: st.log else st.log,
                sent := if st.statusCode != 0 && !isInformational st.statusCode
                        then fixSent st.statusCode st.hdr st.sent else st.sent } := by
  unfold commitHeader dsWriteHeader
  cases st.wroteHeader <;> cases st.statusCode != 0 <;> try rfl
  cases isInformational st.statusCode <;> rfl

theorem commitHeader_noop (st : St α) (hw : st.wroteHeader = true) : commitHeader st = st := by
  rw [commitHeader_eq, if_pos hw]

theorem flushThrough_eq (st : St α) : flushThrough st =
    { st with log := (if st.encOpen then [Ev.fl, Ev.ef] else [Ev.fl]) ++ st.log,
              sent := fixSent 200 st.hdr st.sent } := by
  unfold flushThrough dsFlush encFlush implicitHeader
  split <;> cases st.sent <;> rfl

theorem decide1_noop (cfg : Cfg α) (st : St α) (p : α) (hw : st.wroteHeader = true) : decide1 cfg st p = st := by
  simp [decide1, hw]

theorem commitHeader_wroteHeader (st : St α) : (commitHeader st).wroteHeader = true := by
  rw [commitHeader_eq]; split <;> first | assumption | rfl

theorem commitHeader_encOpen (st : St α) : (commitHeader st).encOpen = st.encOpen := by
  rw [commitHeader_eq]; split <;> rfl

theorem commitHeader_hdr (st : St α) : (commitHeader st).hdr = st.hdr := by
  rw [commitHeader_eq]; split <;> rfl

theorem commitHeader_log (st : St α) : (commitHeader st).log =
    if !st.wroteHeader && st.statusCode != 0 then .wh st.statusCode st.hdr :: st.log else st.log := by
  rw [commitHeader_eq]; cases st.wroteHeader <;> rfl

theorem all_commitHeader_log (st : St α) {ok : Ev α → Bool}
    (h1 : ok (.wh st.statusCode st.hdr) = true) (h2 : st.log.all ok = true) : (commitHeader st).log.all ok = true := by
  rw [commitHeader_log]; split
  · exact all_cons_of h1 h2
  · exact h2

theorem commitHeader_sent (st : St α) : (commitHeader st).sent =
    if !st.wroteHeader && (st.statusCode != 0 && !isInformational st.statusCode)
    then fixSent st.statusCode st.hdr st.sent else st.sent := by
  rw [commitHeader_eq]; cases st.wroteHeader <;> rfl

theorem nonEmpty_size (cfg : Cfg α) (chunks : List α) : ∀ c ∈ nonEmpty cfg chunks, (cfg.size c == 0) = false := by
  intro c hc
  simpa [nonEmpty] using (List.mem_filter.mp hc).2

section
variable {cfg : Cfg α} {P : List α → St α → Prop}

theorem keptW_connectDefault (k : KeptW cfg P) {r : List α} {st : St α} (h : P r st) : P r (connectDefault st) := by
  unfold connectDefault; split
  · rename_i hg
    simp only [Bool.and_eq_true, Bool.not_eq_true', beq_iff_eq] at hg
    exact k.connect st hg.1.2 hg.2 h
  · exact h

theorem keptW_write (k : KeptW cfg P) {r : List α} {st : St α} (p : α)
    (h : P ((if cfg.size p == 0 then [] else [p]) ++ r) st) : P r (rwWrite cfg st p) := by
  unfold rwWrite
  split
  · rwa [if_pos ‹_›] at h
  · rw [if_neg ‹_›] at h
    have h1 := keptW_connectDefault k h
    cases hw : (connectDefault st).wroteHeader with
    | false => exact k.firstWrite _ p hw h1
    | true =>
      rw [decide1_noop _ _ _ hw, commitHeader_noop _ hw]
      unfold emit
      cases ho : (connectDefault st).encOpen with
      | true => exact k.encWrite _ p ho h1
      | false => exact k.dsWrite _ p hw ho h1

theorem keptW_sniff (k : KeptW cfg P) (r : List α) (cs : List α) (n : Nat) (st : St α)
    (hne : ∀ c ∈ cs, (cfg.size c == 0) = false) (h : P (cs ++ r) st) :
    P ((sniffLoop cfg cs n st).2.1 ++ r) (sniffLoop cfg cs n st).1 := by
  fun_induction sniffLoop cfg cs n st
  case case3 c cs n st _ ih =>
    exact ih (fun x hx => hne x (List.mem_cons_of_mem _ hx))
      (k.unreal _ _ (keptW_write k c (by rw [hne c List.mem_cons_self]; exact h)))
  all_goals exact h

theorem sniffLoop_rest (cfg : Cfg α) (cs : List α) (n : Nat) (st : St α) :
    (sniffLoop cfg cs n st).2.2 ≠ 0 → (sniffLoop cfg cs n st).2.1 = [] := by
  fun_induction sniffLoop cfg cs n st
  case case1 => exact fun _ => rfl
  case case2 => exact fun h => absurd rfl h
  case case3 ih => exact ih

theorem keptW_foldl (f : St α → α → St α) (I : St α → Prop)
    (hf : ∀ r s c, I s → P (c :: r) s → I (f s c) ∧ P r (f s c)) (r : List α) :
    ∀ (cs : List α) (s : St α), I s → P (cs ++ r) s → P r (cs.foldl f s)
  | [], _, _, hp => hp
  | c :: cs, s, hi, hp => keptW_foldl f I hf r cs (f s c) (hf _ s c hi hp).1 (hf _ s c hi hp).2

theorem keptW_copy (k : KeptW cfg P) {r : List α} {st : St α} (cs : List α) (h : P (cs ++ r) st) :
    P r (copyRest st cs) := by
  unfold copyRest
  cases ho : st.encOpen with
  | true =>
    exact keptW_foldl (P := P) encWrite (·.encOpen = true) (fun _ s c hi hp => ⟨hi, k.encWrite s c hi hp⟩) r cs st ho h
  | false =>
    exact keptW_foldl (P := P) dsWrite (fun s => s.wroteHeader = true ∧ s.encOpen = false)
      (fun _ s c hi hp => ⟨hi, k.dsWrite s c hi.1 hi.2 hp⟩) r cs _
      ⟨commitHeader_wroteHeader st, by rw [commitHeader_encOpen, ho]⟩ (k.commit st ho h)

/-- `WriteHeader` and the handler's header edits are not made of moves and are left to the caller -/
theorem keptW_step (k : KeptW cfg P) {r : List α} {st : St α} (op : Op α)
    (hwh : ∀ s, op = .writeHeader s → P r (rwWriteHeader st s))
    (hed : op.isHeaderEdit = true → P r { st with hdr := hdrEffect op st.hdr }) (h : P (opPayloads cfg op ++ r) st) :
    P r (step cfg st op) := by
  cases op with
  | writeHeader s => exact hwh s rfl
  | write p => exact keptW_write k p h
  | flush =>
    show P r (rwFlush st)
    unfold rwFlush
    have h1 := keptW_connectDefault k h
    cases hw : (connectDefault st).wroteHeader with
    | false => exact h1
    | true => exact k.flush _ hw h1
  | readFrom cs =>
    show P r (rwReadFrom cfg st cs)
    unfold rwReadFrom afterSniff
    split
    · have hs := keptW_sniff k r (nonEmpty cfg cs) sniffLen st (nonEmpty_size cfg cs) h
      split
      · exact keptW_copy k _ hs
      · rwa [sniffLoop_rest cfg _ _ _ ‹_›] at hs
    · exact keptW_copy k _ h
  | _ => exact hed rfl

end

theorem kept_step {cfg : Cfg α} {P : St α → Prop} (k : Kept cfg P) {st : St α} (op : Op α)
    (hwh : ∀ s, op = .writeHeader s → P (rwWriteHeader st s))
    (hed : op.isHeaderEdit = true → P { st with hdr := hdrEffect op st.hdr }) (h : P st) : P (step cfg st op) :=
  keptW_step (r := []) k op hwh hed h

/-! ## the run invariant -/

/-- * before the writer has committed (`wroteHeader = false`) nothing but 1xx headers went down, the final
      header is not fixed and no encoder is open;
    * while an encoder is open only encoder output went down and the header that was (or will be) sent is the
      one `init` produced from an eligible handler header;
    * committed without an encoder: only plain bytes went down. -/
structure Inv (cfg : Cfg α) (name : Bytes) (st : St α) : Prop where
  nm : st.encName = name
  pre : st.wroteHeader = false → st.sent = none ∧ st.encOpen = false ∧ headerOnly st.log = true
  opn : st.encOpen = true → encOnly st.log = true ∧
    ∃ s sc h0, st.sent = some (s, initHdr name h0) ∧ InitOk cfg sc h0 ∧ MinLenOk cfg h0 st.log
  pln : st.wroteHeader = true → st.encOpen = false → plainOnly st.log = true

theorem Inv.congr {cfg : Cfg α} {name : Bytes} {st st' : St α} (h : Inv cfg name st)
    (h1 : st'.encName = st.encName) (h2 : st'.encOpen = st.encOpen) (h3 : st'.wroteHeader = st.wroteHeader)
    (h4 : st'.sent = st.sent) (h5 : st'.log = st.log) : Inv cfg name st' :=
  ⟨by rw [h1]; exact h.nm, by rw [h3, h4, h2, h5]; exact h.pre, by rw [h2, h4, h5]; exact h.opn,
    by rw [h3, h2, h5]; exact h.pln⟩

theorem inv_init (cfg : Cfg α) (name : Bytes) (ic : Bool) : Inv cfg name (St.init name ic) :=
  ⟨rfl, fun _ => ⟨rfl, rfl, rfl⟩, fun h => by simp [St.init] at h, fun h => by simp [St.init] at h⟩

theorem fixSent_some (s : Nat) (h : Hdr) (x : Nat × Hdr) : fixSent s h (some x) = some x := rfl

theorem fixSent_of {o : Option (Nat × Hdr)} {x : Nat × Hdr} (h : o = some x) (s : Nat) (hd : Hdr) :
    fixSent s hd o = some x := by
  rw [h]; rfl

theorem Inv.wrote_of_open {cfg : Cfg α} {name : Bytes} {st : St α} (h : Inv cfg name st)
    (ho : st.encOpen = true) : st.wroteHeader = true := by
  cases hw : st.wroteHeader with
  | true => rfl
  | false => rw [(h.pre hw).2.1] at ho; cases ho

/-- one more event that is legal in the current phase, passed on through `implicitHeader` (which changes
    nothing, the header being fixed) or not -/
theorem Inv.push {cfg : Cfg α} {name : Bytes} {st st' : St α} (h : Inv cfg name st) (ev : Ev α)
    (hw : st.wroteHeader = true)
    (h1 : st'.encName = st.encName) (h2 : st'.encOpen = st.encOpen) (h3 : st'.wroteHeader = st.wroteHeader)
    (h4 : st'.sent = fixSent 200 st.hdr st.sent) (h5 : st'.log = ev :: st.log)
    (hev : if st.encOpen then ev.encOk = true else ev.plainOk = true) : Inv cfg name st' := by
  refine ⟨by rw [h1]; exact h.nm, fun hw' => (by rw [h3, hw] at hw'; cases hw'), fun ho => ?_, fun _ ho => ?_⟩
  · rw [h2] at ho
    obtain ⟨a, s, sc, h0, b, c, d⟩ := h.opn ho
    rw [ho] at hev
    exact ⟨by rw [h5]; exact all_cons_of hev a, s, sc, h0, h4.trans (fixSent_of b _ _), c,
      by rw [h5]; exact minLenOk_mono cfg h0 _ ev d⟩
  · rw [h2] at ho
    rw [ho] at hev
    rw [h5]; exact all_cons_of hev (h.pln hw ho)

/-- nothing is decided and nothing final was sent. Under `Inv` this is `wroteHeader = false` (`Inv.pre`); with the
    status the writer holds it is (up to the order) the first alternative of `StatusHeld`. -/
def Uncommitted (st : St α) : Prop := st.wroteHeader = false ∧ st.sent = none ∧ st.encOpen = false

theorem uncommitted_rwWriteHeader (st : St α) (s : Nat) (h101 : s ≠ 101)
    (hc : connect2xx st s = false) (h : Uncommitted st) :
    Uncommitted (rwWriteHeader st s) := by
  refine ⟨by rw [rwWriteHeader_wroteHeader, hc, h.1]; rfl, ?_, (rwWriteHeader_encOpen st s).trans h.2.2⟩
  rw [rwWriteHeader_sent, hc, if_neg (by simp [isInformational, h101])]; exact h.2.1

/-- `WriteHeader`: any status but an uncommitted 101 (which net/http takes as final although the writer forwards
    it like a 1xx) -/
theorem inv_rwWriteHeader {cfg : Cfg α} {name : Bytes} {st : St α} (s : Nat)
    (hs : s ≠ 101 ∨ st.wroteHeader = true) (h : Inv cfg name st) : Inv cfg name (rwWriteHeader st s) := by
  refine ⟨by rw [rwWriteHeader_eq]; exact h.nm, fun hw => ?_, fun ho => ?_,
    fun _ ho => all_rwWriteHeader_log st s rfl ?_⟩
  · rw [rwWriteHeader_wroteHeader] at hw
    obtain ⟨hw1, hc⟩ := Bool.or_eq_false_iff.mp hw
    obtain ⟨a, b, d⟩ := h.pre hw1
    -- an uncommitted status that is passed on is a 1xx other than 101: it fixes nothing
    have hu := uncommitted_rwWriteHeader st s (hs.resolve_right (Bool.eq_false_iff.mp hw1)) hc ⟨hw1, a, b⟩
    exact ⟨hu.2.1, hu.2.2, all_rwWriteHeader_log st s rfl d⟩
  · rw [rwWriteHeader_encOpen] at ho
    obtain ⟨a, s0, sc, h0, b, d, e⟩ := h.opn ho
    refine ⟨all_rwWriteHeader_log st s rfl a, s0, sc, h0, sent_rwWriteHeader st s _ b, d, ?_⟩
    rw [rwWriteHeader_log]; split
    · exact minLenOk_mono cfg h0 _ _ e
    · exact e
  · rw [rwWriteHeader_encOpen] at ho
    cases hw1 : st.wroteHeader with
    | true => exact h.pln hw1 ho
    | false => exact headerOnly_plainOnly _ (h.pre hw1).2.2

theorem initOk_spec (cfg : Cfg α) (st : St α) (h : initOk cfg st = true) : InitOk cfg st.statusCode st.hdr := by
  simp only [initOk, Bool.and_eq_true, List.isEmpty_iff] at h
  exact ⟨h.1.1, h.1.2, h.2⟩

theorem rwInit_spec (cfg : Cfg α) (st : St α) :
    rwInit cfg st = st ∨
    (rwInit cfg st = { st with encOpen := true, hdr := initHdr st.encName st.hdr } ∧ InitOk cfg st.statusCode st.hdr) := by
  unfold rwInit
  by_cases h : initOk cfg st = true
  · exact Or.inr ⟨if_pos h, initOk_spec cfg st h⟩
  · exact Or.inl (if_neg h)

/-- the deferred status goes down (if there is one); what net/http then sends as the final header is the
    header map as it is now, under `closeStatus` -/
theorem commitHeader_spec (st : St α) (hw : st.wroteHeader = false) (hs : st.sent = none) :
    (commitHeader st).encName = st.encName ∧
    fixSent 200 (commitHeader st).hdr (commitHeader st).sent = some (closeStatus st, st.hdr) := by
  refine ⟨by rw [commitHeader_eq, hw]; rfl, ?_⟩
  rw [commitHeader_hdr, commitHeader_sent, hw, hs]; unfold closeStatus bne
  cases st.statusCode == 0 <;> cases isInformational st.statusCode <;> rfl

/-- all that `decide1` does: short of `init` only a sniffed `Content-Type` changes (`h0` is the header map after
    sniffing); `init` is run on `h0`, which is then eligible and meets the minimum length -/
theorem decide1_spec (cfg : Cfg α) (st : St α) (p : α) :
    (decide1 cfg st p).log = st.log ∧ (decide1 cfg st p).sent = st.sent ∧
    (decide1 cfg st p).wroteHeader = st.wroteHeader ∧ (decide1 cfg st p).encName = st.encName ∧
    (decide1 cfg st p).statusCode = st.statusCode ∧
    ∃ h0, (∀ k, k ≠ kCT → hValues h0 k = hValues st.hdr k) ∧
      (((decide1 cfg st p).encOpen = st.encOpen ∧ (decide1 cfg st p).hdr = h0) ∨
        ((decide1 cfg st p).encOpen = true ∧ (decide1 cfg st p).hdr = initHdr st.encName h0 ∧
          InitOk cfg st.statusCode h0 ∧ ((Int.ofNat (cfg.size p)) > cfg.minLen ∨ clGtMin cfg h0 = true))) := by
  fun_cases decide1 cfg st p
  case case1 hg =>
    have hsn : (sniffType cfg st p).log = st.log ∧ (sniffType cfg st p).sent = st.sent ∧
        (sniffType cfg st p).wroteHeader = st.wroteHeader ∧ (sniffType cfg st p).encName = st.encName ∧
        (sniffType cfg st p).statusCode = st.statusCode ∧ (sniffType cfg st p).encOpen = st.encOpen ∧
        ∀ k, k ≠ kCT → hValues (sniffType cfg st p).hdr k = hValues st.hdr k := by
      fun_cases sniffType cfg st p
      · exact ⟨rfl, rfl, rfl, rfl, rfl, rfl, fun k hk => hValues_set_ne _ _ hk⟩
      · exact ⟨rfl, rfl, rfl, rfl, rfl, rfl, fun _ _ => rfl⟩
    obtain ⟨a1, a2, a3, a4, a5, a6, hk⟩ := hsn
    rcases rwInit_spec cfg (sniffType cfg st p) with e | ⟨e, ok⟩ <;> rw [e]
    · exact ⟨a1, a2, a3, a4, a5, _, hk, Or.inl ⟨a6, rfl⟩⟩
    · refine ⟨a1, a2, a3, a4, a5, _, hk, Or.inr ⟨rfl, by rw [a4], a5 ▸ ok, ?_⟩⟩
      have : clGtMin cfg (sniffType cfg st p).hdr = clGtMin cfg st.hdr := by
        unfold clGtMin; rw [hGet_congr (hk kCL (by decide))]
      rw [this]
      simpa only [gtMinLength, Bool.or_eq_true, decide_eq_true_eq] using hg
  all_goals exact ⟨rfl, rfl, rfl, rfl, rfl, _, fun _ _ => rfl, Or.inl ⟨rfl, rfl⟩⟩

theorem inv_first_write {cfg : Cfg α} {name : Bytes} {st : St α} (p : α)
    (h : Inv cfg name st) (hw : st.wroteHeader = false) :
    Inv cfg name (emit (commitHeader (decide1 cfg st p)) p) := by
  obtain ⟨hs, ho, hl⟩ := h.pre hw
  obtain ⟨d1, d2, d3, d4, d5, h0, _, d6⟩ := decide1_spec cfg st p
  generalize decide1 cfg st p = st2 at *
  obtain ⟨e1, e6⟩ := commitHeader_spec st2 (d3 ▸ hw) (d2 ▸ hs)
  have e2 := commitHeader_encOpen st2
  have e3 := commitHeader_wroteHeader st2
  have e5 : headerOnly (commitHeader st2).log = true := all_commitHeader_log st2 rfl (d1 ▸ hl)
  generalize commitHeader st2 = st3 at *
  have hnm : st3.encName = name := by rw [e1, d4, h.nm]
  unfold emit
  cases ho3 : st3.encOpen with
  | false =>
    exact ⟨hnm, fun hw' => Bool.noConfusion (e3.symm.trans hw'),
      fun ho' => Bool.noConfusion (ho3.symm.trans ho'),
      fun _ _ => all_cons_of rfl (headerOnly_plainOnly _ e5)⟩
  | true =>
    rcases d6 with ⟨d6, _⟩ | ⟨_, f1, f2, f3⟩
    · rw [e2, d6, ho] at ho3; cases ho3
    · refine ⟨hnm, fun hw' => Bool.noConfusion (e3.symm.trans hw'),
        fun _ => ⟨all_cons_of rfl (headerOnly_encOnly _ e5), closeStatus st2, st.statusCode, h0, ?_, f2, ?_⟩,
        fun _ ho' => Bool.noConfusion (ho'.symm.trans ho3)⟩
      · show fixSent 200 st3.hdr st3.sent = _
        rw [e6, f1, h.nm]
      · have hp : (payloads (encWrite st3 p).log).head? = some p := by
          show (payloads st3.log ++ [p]).head? = some p
          rw [headerOnly_payloads _ e5]; rfl
        exact f3.elim (fun f3 => Or.inl ⟨p, hp, f3⟩) Or.inr

theorem inv_kept (cfg : Cfg α) (name : Bytes) : Kept cfg (Inv cfg name) where
  connect st _ _ h := inv_rwWriteHeader 200 (Or.inl (by decide)) h
  firstWrite _ p hw h := inv_first_write p h hw
  encWrite st p ho h := h.push (.e p) (h.wrote_of_open ho) rfl rfl rfl rfl rfl (by rw [ho]; rfl)
  dsWrite st p hw ho h := h.push (.w p) hw rfl rfl rfl rfl rfl (by rw [ho]; rfl)
  flush st hw h := by
    unfold flushThrough
    have hfl : ∀ {s : St α}, Inv cfg name s → s.wroteHeader = true → Inv cfg name (dsFlush s) := fun {s} hi hs =>
      hi.push .fl hs rfl rfl rfl rfl rfl (by split <;> rfl)
    cases ho : st.encOpen with
    | true => exact hfl (h.push .ef hw rfl rfl rfl rfl rfl (by rw [ho]; rfl)) hw
    | false => exact hfl h hw
  commit st ho h := by
    cases hw : st.wroteHeader with
    | true => rw [commitHeader_noop _ hw]; exact h
    | false =>
      obtain ⟨hs, _, hl⟩ := h.pre hw
      exact ⟨by rw [(commitHeader_spec st hw hs).1]; exact h.nm,
        fun hw' => Bool.noConfusion ((commitHeader_wroteHeader st).symm.trans hw'),
        fun ho' => Bool.noConfusion (((commitHeader_encOpen st).trans ho).symm.trans ho'),
        fun _ _ => headerOnly_plainOnly _ (all_commitHeader_log st rfl hl)⟩
  unreal _ _ h := h.congr rfl rfl rfl rfl rfl

theorem step_edit (cfg : Cfg α) (st : St α) {op : Op α} (h : op.isHeaderEdit = true) :
    step cfg st op = { st with hdr := hdrEffect op st.hdr } := by
  cases op <;> first | rfl | cases h

theorem inv_step {cfg : Cfg α} {name : Bytes} {st : St α} (op : Op α)
    (h101 : op ≠ Op.writeHeader 101) (h : Inv cfg name st) : Inv cfg name (step cfg st op) :=
  kept_step (inv_kept cfg name) op (fun s e => inv_rwWriteHeader s (Or.inl fun e' => h101 (e' ▸ e)) h)
    (fun _ => h.congr rfl rfl rfl rfl rfl) h

theorem inv_run {cfg : Cfg α} {name : Bytes} (ops : List (Op α)) (st : St α) (h101 : No101 ops)
    (h : Inv cfg name st) : Inv cfg name (run cfg st ops) :=
  List.foldlRecOn ops _ h fun _ h op hop => inv_step op (h101 op hop) h

/-! ## `Close` -/

theorem closeHeader_eq (cfg : Cfg α) (st : St α) :
    closeHeader cfg st = if st.wroteHeader then st else
      commitHeader (if clGtMin cfg st.hdr && initOk cfg st then
        { st with encOpen := true, hdr := initHdr st.encName st.hdr } else st) := by
  unfold closeHeader rwInit
  cases st.wroteHeader <;> cases clGtMin cfg st.hdr <;> cases initOk cfg st <;> rfl

theorem rwClose_committed (cfg : Cfg α) {st : St α} (hw : st.wroteHeader = true) :
    rwClose cfg st = if st.encOpen then encClose st else st := by
  unfold rwClose; rw [closeHeader_eq, if_pos hw]

theorem rwClose_uncommitted (cfg : Cfg α) {st : St α} (hw : st.wroteHeader = false) (ho : st.encOpen = false) :
    rwClose cfg st = if clGtMin cfg st.hdr && initOk cfg st then
        encClose (commitHeader { st with encOpen := true, hdr := initHdr st.encName st.hdr })
      else commitHeader st := by
  unfold rwClose
  rw [closeHeader_eq, hw, if_neg Bool.false_ne_true]
  cases clGtMin cfg st.hdr && initOk cfg st
  · exact if_neg (show ¬(commitHeader st).encOpen = true by rw [commitHeader_encOpen, ho]; exact Bool.false_ne_true)
  · exact if_pos (commitHeader_encOpen _)

/-- what `Close` is made of: `init` on an uncommitted writer whose declared length suffices, the commit, the
    encoder's `Close` -/
theorem kept_rwClose (cfg : Cfg α) {P : St α → Prop} {st : St α}
    (hinit : ∀ s, s.wroteHeader = false → initOk cfg s = true → P s →
      P { s with encOpen := true, hdr := initHdr s.encName s.hdr })
    (hcommit : ∀ s, P s → P (commitHeader s)) (hclose : ∀ s, s.encOpen = true → P s → P (encClose s))
    (h : P st) : P (rwClose cfg st) := by
  have hc : P (closeHeader cfg st) := by
    rw [closeHeader_eq]; split
    · exact h
    · rename_i hw; split
      · exact hcommit _ (hinit st (Bool.eq_false_iff.mpr hw) (Bool.and_eq_true_iff.mp ‹_›).2 h)
      · exact hcommit _ h
  unfold rwClose; split
  · exact hclose _ ‹_› hc
  · exact hc

theorem shape_rwClose {cfg : Cfg α} {name : Bytes} {st : St α} (h : Inv cfg name st) :
    Shape cfg name (rwClose cfg st) := by
  cases hw : st.wroteHeader with
  | true =>
    rw [rwClose_committed cfg hw]
    cases ho : st.encOpen with
    | true =>
      obtain ⟨a, s, sc, h0, b, c, d⟩ := h.opn ho
      exact .encoded st.log s sc h0 rfl a (by show fixSent _ _ st.sent = _; rw [b]; rfl) c d
    | false => exact .identity (h.pln hw ho)
  | false =>
    obtain ⟨hs, ho, hl⟩ := h.pre hw
    rw [rwClose_uncommitted cfg hw ho]
    split
    · rename_i hc
      have c6 := (commitHeader_spec { st with encOpen := true, hdr := initHdr st.encName st.hdr } hw hs).2
      rw [Bool.and_eq_true] at hc
      exact .encoded _ _ st.statusCode st.hdr rfl (headerOnly_encOnly _ (all_commitHeader_log (ok := Ev.isWh) _ rfl hl))
        (by show fixSent 200 (commitHeader _).hdr _ = _; rw [c6, h.nm]) (initOk_spec cfg st hc.2) (Or.inr hc.1)
    · exact .identity (headerOnly_plainOnly _ (all_commitHeader_log st rfl hl))

/-! ## payload bookkeeping (holds for every configuration) -/

theorem foldl_accum {σ β γ : Type} {g : σ → List γ} {f : σ → β → σ} {k : β → List γ}
    (h : ∀ s b, g (f s b) = g s ++ k b) : ∀ (l : List β) (s : σ), g (l.foldl f s) = g s ++ l.flatMap k
  | [], s => (List.append_nil _).symm
  | b :: l, s => by rw [List.foldl_cons, foldl_accum h l, h, List.flatMap_cons, List.append_assoc]

theorem payloads_dsWriteHeader (st : St α) (s : Nat) : payloads (dsWriteHeader st s).log = payloads st.log := rfl

theorem payloads_rwWriteHeader (st : St α) (s : Nat) : payloads (rwWriteHeader st s).log = payloads st.log := by
  rw [rwWriteHeader_log]; split <;> rfl

theorem payloads_commitHeader (st : St α) : payloads (commitHeader st).log = payloads st.log := by
  rw [commitHeader_log]; split <;> rfl

theorem payloads_emit (st : St α) (p : α) : payloads (emit st p).log = payloads st.log ++ [p] := by
  unfold emit; split <;> rfl

theorem payloads_kept (cfg : Cfg α) (all : List α) : KeptW cfg (fun r st => payloads st.log ++ r = all) where
  connect st _ _ h := by rwa [payloads_rwWriteHeader]
  firstWrite st p _ h := by
    rwa [payloads_emit, payloads_commitHeader, (decide1_spec cfg st p).1, List.append_assoc]
  encWrite _ _ _ h := (List.append_assoc ..).trans h
  dsWrite _ _ _ _ h := (List.append_assoc ..).trans h
  flush st _ h := by rw [flushThrough_eq]; split <;> exact h
  commit st _ h := by rwa [payloads_commitHeader]
  unreal _ _ h := h

theorem payloads_step (cfg : Cfg α) (st : St α) (op : Op α) :
    payloads (step cfg st op).log = payloads st.log ++ opPayloads cfg op :=
  (List.append_nil _).symm.trans <| keptW_step (payloads_kept cfg _) (r := []) op
    (fun s e => by subst e; exact congrArg (· ++ []) (payloads_rwWriteHeader st s))
    (fun he => by cases op <;> first | rfl | cases he) (by rw [List.append_nil])

theorem payloads_rwClose (cfg : Cfg α) (st : St α) : payloads (rwClose cfg st).log = payloads st.log :=
  kept_rwClose cfg (P := fun s => payloads s.log = payloads st.log) (fun _ _ _ h => h)
    (fun s h => (payloads_commitHeader s).trans h) (fun _ _ h => h) rfl

/-! ## no encoding negotiated: the handler talks to the wrapped writer itself -/

theorem plainOnly_plainStep (cfg : Cfg α) (st : St α) (op : Op α) (h : plainOnly st.log = true) :
    plainOnly (plainStep cfg st op).log = true := by
  cases op with
  | write p =>
    show plainOnly (if cfg.size p == 0 then implicitHeader st else dsWrite st p).log = true
    split
    · exact h
    · exact all_cons_of rfl h
  | readFrom cs =>
    exact List.foldlRecOn (motive := fun s : St α => plainOnly s.log = true) _ _ h fun _ hs _ _ => all_cons_of rfl hs
  | writeHeader s => exact all_cons_of rfl h
  | flush => exact all_cons_of rfl h
  | _ => exact h

theorem payloads_plainStep (cfg : Cfg α) (st : St α) (op : Op α) :
    payloads (plainStep cfg st op).log = payloads st.log ++ opPayloads cfg op := by
  cases op with
  | write p =>
    show payloads (if cfg.size p == 0 then implicitHeader st else dsWrite st p).log =
      _ ++ (if cfg.size p == 0 then [] else [p])
    by_cases hz : (cfg.size p == 0) = true
    · rw [if_pos hz, if_pos hz]; exact (List.append_nil _).symm
    · rw [if_neg hz, if_neg hz]; rfl
  | readFrom cs =>
    show payloads (List.foldl dsWrite st (nonEmpty cfg cs)).log = _
    rw [foldl_accum (g := fun s : St α => payloads s.log) (k := fun c => [c]) (fun _ _ => rfl), List.flatMap_singleton']
    rfl
  | _ => exact (List.append_nil _).symm

theorem runPlain_spec (cfg : Cfg α) (ops : List (Op α)) (st : St α) (h : plainOnly st.log = true) :
    plainOnly (ops.foldl (plainStep cfg) st).log = true ∧
    payloads (ops.foldl (plainStep cfg) st).log = payloads st.log ++ written cfg ops :=
  ⟨List.foldlRecOn (motive := fun s : St α => plainOnly s.log = true) ops _ h fun s hs op _ => plainOnly_plainStep cfg s op hs,
    foldl_accum (g := fun s : St α => payloads s.log) (payloads_plainStep cfg) ops st⟩

theorem clientBody_runPlain (cfg : Cfg α) (ic : Bool) (ops : List (Op α)) (sel : Option Bytes) :
    clientBody sel (runPlain cfg ic ops) = some (written cfg ops) := by
  obtain ⟨a, b⟩ := runPlain_spec cfg ops (St.init [] ic) rfl
  unfold clientBody runPlain
  rw [a, if_pos rfl, b]
  rfl

theorem delivered_of (head : Bool) (sel : Option Bytes) (st : St α) (x : List α)
    (h : noBodyStatus st = false → clientBody sel st = some x) :
    delivered head sel st = some (if head || noBodyStatus st then [] else x) := by
  unfold delivered
  cases hh : head <;> cases hn : noBodyStatus st
  · exact h hn
  all_goals rfl

/-! ## the header that was sent stays sent; the deferred status is the one that is sent -/

theorem sent_commitHeader (st : St α) (x : Nat × Hdr) (h : st.sent = some x) :
    (commitHeader st).sent = some x := by
  rw [commitHeader_sent, h]; split <;> rfl

theorem emit_sent (st : St α) (p : α) : (emit st p).sent = fixSent 200 st.hdr st.sent := by
  unfold emit; split <;> rfl

theorem sent_kept (cfg : Cfg α) (x : Nat × Hdr) : Kept cfg (fun st => st.sent = some x) where
  connect st _ _ h := sent_rwWriteHeader st 200 x h
  firstWrite st p _ h := by
    rw [emit_sent]; exact fixSent_of (sent_commitHeader _ x ((decide1_spec cfg st p).2.1.trans h)) _ _
  encWrite _ _ _ h := fixSent_of h _ _
  dsWrite _ _ _ _ h := fixSent_of h _ _
  flush st _ h := by rw [flushThrough_eq]; exact fixSent_of h _ _
  commit st _ h := sent_commitHeader st x h
  unreal _ _ h := h

theorem sent_step (cfg : Cfg α) (st : St α) (op : Op α) (x : Nat × Hdr) (h : st.sent = some x) :
    (step cfg st op).sent = some x :=
  kept_step (sent_kept cfg x) op (fun s _ => sent_rwWriteHeader st s x h)
    (fun _ => h) h

theorem sent_rwClose (cfg : Cfg α) (st : St α) (x : Nat × Hdr) (h : st.sent = some x) :
    (rwClose cfg st).sent = some x :=
  kept_rwClose cfg (P := fun s => s.sent = some x) (fun _ _ _ h => h) (fun s h => sent_commitHeader s x h)
    (fun _ _ h => fixSent_of h _ _) h

/-- the state of a handler that has announced the final status `s` and not called WriteHeader since:
    either nothing is committed and the writer still holds `s`, or `s` is what was sent -/
def StatusHeld (s : Nat) (st : St α) : Prop :=
  (st.wroteHeader = false ∧ st.sent = none ∧ st.statusCode = s ∧ st.encOpen = false) ∨ ∃ h, st.sent = some (s, h)

theorem commitHeader_held {s : Nat} (hs0 : s ≠ 0) (hs1 : isInformational s = false) {st : St α}
    (hw : st.wroteHeader = false) (hn : st.sent = none) (hc : st.statusCode = s) :
    (commitHeader st).sent = some (s, st.hdr) := by
  rw [commitHeader_sent, hw, hc, hs1, hn, if_pos (by simpa using hs0)]; rfl

theorem held_kept (cfg : Cfg α) {s : Nat} (hs0 : s ≠ 0) (hs1 : isInformational s = false) :
    Kept cfg (StatusHeld s) where
  connect st _ h0 h := by
    rcases h with ⟨_, _, hc, _⟩ | ⟨hh, e⟩
    · exact absurd (hc.symm.trans h0) hs0
    · exact Or.inr ⟨hh, sent_rwWriteHeader st 200 _ e⟩
  firstWrite st p hw h := by
    rcases h with ⟨hw, hn, hc, _⟩ | ⟨hh, e⟩
    · obtain ⟨_, d2, d3, _, d5, _⟩ := decide1_spec cfg st p
      refine Or.inr ⟨(decide1 cfg st p).hdr, ?_⟩
      rw [emit_sent]
      exact fixSent_of (commitHeader_held hs0 hs1 (d3.trans hw) (d2.trans hn) (d5.trans hc)) _ _
    · exact Or.inr ⟨hh, (sent_kept cfg _).firstWrite (r := []) st p hw e⟩
  encWrite st p ho h := by
    rcases h with ⟨_, _, _, he⟩ | ⟨hh, e⟩
    · rw [he] at ho; cases ho
    · exact Or.inr ⟨hh, fixSent_of e _ _⟩
  dsWrite st p hw _ h := by
    rcases h with ⟨hw', _⟩ | ⟨hh, e⟩
    · rw [hw'] at hw; cases hw
    · exact Or.inr ⟨hh, fixSent_of e _ _⟩
  flush st hw h := by
    rcases h with ⟨hw', _⟩ | ⟨hh, e⟩
    · rw [hw'] at hw; cases hw
    · exact Or.inr ⟨hh, (sent_kept cfg _).flush (r := []) st hw e⟩
  commit st _ h := by
    rcases h with ⟨hw, hn, hc, _⟩ | ⟨hh, e⟩
    · exact Or.inr ⟨_, commitHeader_held hs0 hs1 hw hn hc⟩
    · exact Or.inr ⟨hh, sent_commitHeader st _ e⟩
  unreal _ _ h := h

theorem held_run (cfg : Cfg α) {s : Nat} (hs0 : s ≠ 0) (hs1 : isInformational s = false) (ops : List (Op α))
    (st : St α) (hops : ∀ op ∈ ops, ∀ i, op ≠ Op.writeHeader i) (h : StatusHeld s st) :
    StatusHeld s (run cfg st ops) :=
  List.foldlRecOn ops _ h fun _ h op hop => kept_step (held_kept cfg hs0 hs1) op (fun i e => absurd e (hops op hop i))
    (fun _ => h) h

theorem held_rwClose (cfg : Cfg α) {s : Nat} (hs0 : s ≠ 0) (hs1 : isInformational s = false) (st : St α)
    (h : StatusHeld s st) : ∃ h, (rwClose cfg st).sent = some (s, h) := by
  rcases h with ⟨hw, hn, hc, ho⟩ | ⟨hh, e⟩
  · rw [rwClose_uncommitted cfg hw ho]
    split
    · exact ⟨_, fixSent_of (commitHeader_held hs0 hs1 (st := { st with encOpen := true, hdr := _ }) hw hn hc) _ _⟩
    · exact ⟨_, commitHeader_held hs0 hs1 hw hn hc⟩
  · exact ⟨hh, sent_rwClose cfg st _ e⟩

/-! ## calls that commit nothing -/

theorem bodiless_step (cfg : Cfg α) (st : St α) (op : Op α) (hb : op.bodiless = true)
    (hc : ∀ s, op = .writeHeader s → connect2xx st s = false) (h : Uncommitted st) :
    Uncommitted (step cfg st op) ∧ (step cfg st op).isConnect = st.isConnect ∧
      (step cfg st op).encName = st.encName := by
  cases op with
  | writeHeader s =>
    exact ⟨uncommitted_rwWriteHeader st s (by simpa [Op.bodiless] using hb) (hc s rfl) h,
      by show (rwWriteHeader st s).isConnect = _; rw [rwWriteHeader_eq],
      by show (rwWriteHeader st s).encName = _; rw [rwWriteHeader_eq]⟩
  | write p => cases hb
  | flush => cases hb
  | readFrom cs => cases hb
  | _ => exact ⟨h, rfl, rfl⟩

/-- the two hypotheses of `bodiless_step` -/
theorem Preliminary.bodiless {op : Op α} (h : Preliminary op) :
    op.bodiless = true ∧ ∀ (st : St α) s, op = .writeHeader s → connect2xx st s = false := by
  rcases h with ⟨k, v, rfl⟩ | ⟨k, v, rfl⟩ | ⟨k, rfl⟩ | ⟨i, rfl, h1, h2⟩
  case inr.inr.inr =>
    exact ⟨by simpa [Op.bodiless] using h2, fun st s e => Op.writeHeader.inj e ▸ connect2xx_1xx st h1⟩
  all_goals exact ⟨rfl, fun _ _ e => nomatch e⟩

theorem uncommitted_run (cfg : Cfg α) (ops : List (Op α)) (st : St α) (hops : ∀ op ∈ ops, Preliminary op)
    (h : Uncommitted st) : Uncommitted (run cfg st ops) :=
  List.foldlRecOn ops _ h fun st h op hop =>
    (bodiless_step cfg st op (hops op hop).bodiless.1 ((hops op hop).bodiless.2 st) h).1

theorem runWrapped_append (cfg : Cfg α) (name : Bytes) (ic : Bool) (pre body : List (Op α)) :
    runWrapped cfg name ic (pre ++ body) = rwClose cfg (run cfg (run cfg (St.init name ic) pre) body) := by
  unfold runWrapped run; rw [List.foldl_append]

theorem preliminary_run (cfg : Cfg α) (name : Bytes) (ic : Bool) (pre : List (Op α))
    (hpre : ∀ op ∈ pre, Preliminary op) :
    Inv cfg name (run cfg (St.init name ic) pre) ∧ Uncommitted (run cfg (St.init name ic) pre) := by
  refine ⟨inv_run pre _ (fun op hop e => ?_) (inv_init cfg name ic),
    uncommitted_run cfg pre (St.init name ic) hpre ⟨rfl, rfl, rfl⟩⟩
  have hb := (hpre op hop).bodiless.1
  rw [e] at hb; cases hb

theorem held_after_final_writeHeader (st : St α) (s : Nat) (hs1 : is1xx s = false) (h : Uncommitted st) :
    StatusHeld s (rwWriteHeader st s) := by
  cases hc : connect2xx st s with
  | true =>
    exact Or.inr ⟨_, by rw [rwWriteHeader_sent, hs1, isInformational_of_not_1xx hs1, hc, h.2.1]; rfl⟩
  | false =>
    obtain ⟨a, b, c⟩ := uncommitted_rwWriteHeader st s (fun e => by subst e; cases hs1) hc h
    exact Or.inl ⟨a, b, by rw [rwWriteHeader_eq], c⟩

/-! ## once the header is committed the choice never changes, and the writer leaves the header map alone -/

theorem committed_kept (cfg : Cfg α) (b : Bool) (Q : Hdr → Prop) :
    Kept cfg (fun st => st.wroteHeader = true ∧ st.encOpen = b ∧ Q st.hdr) where
  connect st hw _ h := by rw [h.1] at hw; cases hw
  firstWrite st _ hw h := by rw [h.1] at hw; cases hw
  encWrite _ _ _ h := h
  dsWrite _ _ _ _ h := h
  flush st _ h := by rw [flushThrough_eq]; exact h
  commit st _ h := by rw [commitHeader_noop st h.1]; exact h
  unreal _ _ h := h

theorem committed_step (cfg : Cfg α) (st : St α) (op : Op α) (hw : st.wroteHeader = true) :
    (step cfg st op).wroteHeader = true ∧ (step cfg st op).encOpen = st.encOpen :=
  have := kept_step (committed_kept cfg st.encOpen fun _ => True) op
    (fun s _ => ⟨by rw [rwWriteHeader_wroteHeader, hw]; rfl, rwWriteHeader_encOpen st s, trivial⟩)
    (fun _ => ⟨hw, rfl, trivial⟩) ⟨hw, rfl, trivial⟩
  ⟨this.1, this.2.1⟩

/-! ## the writer edits headers only in `init` (plus `Vary` on 304 and a sniffed `Content-Type`) -/

theorem emit_hdr (st : St α) (p : α) : (emit st p).hdr = st.hdr ∧ (emit st p).encOpen = st.encOpen := by
  unfold emit; split <;> exact ⟨rfl, rfl⟩

theorem hdr_kept (cfg : Cfg α) {k : Bytes} (hk : k ≠ kCT) (v : List Bytes) :
    Kept cfg (fun st => hValues st.hdr k = v ∨ st.encOpen = true) where
  connect st _ _ h := by rw [rwWriteHeader_hdr, rwWriteHeader_encOpen]; exact h
  firstWrite st p _ h := by
    rw [(emit_hdr _ p).1, (emit_hdr _ p).2, commitHeader_hdr, commitHeader_encOpen]
    obtain ⟨h0, hk0, ⟨a, b⟩ | ⟨a, _⟩⟩ := (decide1_spec cfg st p).2.2.2.2.2
    · rw [a, b, hk0 k hk]; exact h
    · exact Or.inr a
  encWrite _ _ _ h := h
  dsWrite _ _ _ _ h := h
  flush st _ h := by rw [flushThrough_eq]; exact h
  commit st _ h := by rw [commitHeader_hdr, commitHeader_encOpen]; exact h
  unreal _ _ h := h

theorem hValues_vary304_ne (st : St α) (s : Nat) {k : Bytes} (hk : k ≠ kVary) :
    hValues (vary304 s st).hdr k = hValues st.hdr k := by
  unfold vary304; split
  · exact hValues_add_ne _ _ hk
  · rfl

theorem hdr_rwWriteHeader (st : St α) (s : Nat) {k : Bytes} (hk : k ≠ kVary) :
    hValues (rwWriteHeader st s).hdr k = hValues st.hdr k := by
  rw [rwWriteHeader_hdr]; exact hValues_vary304_ne st s hk

/-! ## 101 Switching Protocols: final for net/http, "informational" for the writer -/

theorem uncommitted_101 {st : St α} (hs : st.sent = none) : Final101 (rwWriteHeader st 101) :=
  ⟨(vary304 101 st).hdr, by rw [rwWriteHeader_sent, hs]; rfl⟩

theorem final101_run (cfg : Cfg α) (ops : List (Op α)) (st : St α) (h : Final101 st) : Final101 (run cfg st ops) :=
  h.imp fun hh e => List.foldlRecOn (motive := fun s : St α => s.sent = some (101, hh)) ops _ e
    fun s hs op _ => sent_step cfg s op _ hs

theorem inv_or_101_run {cfg : Cfg α} {name : Bytes} : ∀ (ops : List (Op α)) (st : St α),
    Inv cfg name st → Inv cfg name (run cfg st ops) ∨ Final101 (run cfg st ops)
  | [], _, h => Or.inl h
  | op :: ops, st, h => by
    show Inv cfg name (run cfg (step cfg st op) ops) ∨ Final101 (run cfg (step cfg st op) ops)
    by_cases h101 : op = Op.writeHeader 101
    · subst h101
      cases hw : st.wroteHeader with
      | true => exact inv_or_101_run ops _ (inv_rwWriteHeader 101 (Or.inr hw) h)
      | false => exact Or.inr (final101_run cfg ops _ (uncommitted_101 (h.pre hw).1))
    · exact inv_or_101_run ops _ (inv_step op h101 h)

theorem final101_rwClose (cfg : Cfg α) (st : St α) (h : Final101 st) : Final101 (rwClose cfg st) :=
  h.imp fun _ e => sent_rwClose cfg st _ e

/-! ## a response whose header forbids encoding is never encoded -/

theorem ineligible_congr {h h' : Hdr} (e1 : hValues h kCE = hValues h' kCE) (e2 : hValues h kCC = hValues h' kCC) :
    ineligible h = ineligible h' := by
  unfold ineligible isEncodeAllowed
  rw [hGet_congr e1, hGet_congr e2]

structure LeftAlone (ce cc : List Bytes) (st : St α) : Prop where
  closed : st.encOpen = false
  inel : ineligible st.hdr = true
  ce_eq : hValues st.hdr kCE = ce
  cc_eq : hValues st.hdr kCC = cc
  plain : plainOnly st.log = true

theorem LeftAlone.congr {ce cc : List Bytes} {st st' : St α} (h : LeftAlone ce cc st)
    (h1 : st'.encOpen = st.encOpen) (h2 : hValues st'.hdr kCE = hValues st.hdr kCE)
    (h3 : hValues st'.hdr kCC = hValues st.hdr kCC) (h4 : plainOnly st'.log = true) : LeftAlone ce cc st' :=
  ⟨by rw [h1]; exact h.closed, by rw [ineligible_congr h2 h3]; exact h.inel, by rw [h2]; exact h.ce_eq,
    by rw [h3]; exact h.cc_eq, h4⟩

theorem la_rwWriteHeader {ce cc : List Bytes} {st : St α} (s : Nat) (h : LeftAlone ce cc st) :
    LeftAlone ce cc (rwWriteHeader st s) :=
  h.congr (rwWriteHeader_encOpen st s) (hdr_rwWriteHeader st s (by decide)) (hdr_rwWriteHeader st s (by decide))
    (all_rwWriteHeader_log st s rfl h.plain)

theorem InitOk.eligible {cfg : Cfg α} {sc : Nat} {h : Hdr} (ok : InitOk cfg sc h) : ineligible h = false := by
  simp [ineligible, ok.1, ok.2.1]

theorem la_decide1 {ce cc : List Bytes} (cfg : Cfg α) {st : St α} (p : α) (h : LeftAlone ce cc st) :
    LeftAlone ce cc (decide1 cfg st p) := by
  obtain ⟨l, _, _, _, _, h0, hk, ⟨o, e⟩ | ⟨_, _, ok, _⟩⟩ := decide1_spec cfg st p
  · exact h.congr o (e ▸ hk _ (by decide)) (e ▸ hk _ (by decide)) (l ▸ h.plain)
  · exact nomatch h.inel.symm.trans ((ineligible_congr (hk kCE (by decide)) (hk kCC (by decide))).symm.trans ok.eligible)

theorem la_commitHeader {ce cc : List Bytes} {st : St α} (h : LeftAlone ce cc st) :
    LeftAlone ce cc (commitHeader st) :=
  h.congr (commitHeader_encOpen st) (by rw [commitHeader_hdr]) (by rw [commitHeader_hdr])
    (all_commitHeader_log st rfl h.plain)

theorem la_kept (cfg : Cfg α) (ce cc : List Bytes) : Kept cfg (LeftAlone ce cc) where
  connect _ _ _ h := la_rwWriteHeader 200 h
  firstWrite st p _ h := by
    have h3 := la_commitHeader (la_decide1 cfg p h)
    generalize commitHeader (decide1 cfg st p) = st3 at h3 ⊢
    unfold emit
    rw [h3.closed, if_neg Bool.false_ne_true]
    exact h3.congr rfl rfl rfl (all_cons_of rfl h3.plain)
  encWrite st _ ho h := by rw [h.closed] at ho; cases ho
  dsWrite _ _ _ _ h := h.congr rfl rfl rfl (all_cons_of rfl h.plain)
  flush st _ h := by
    unfold flushThrough
    rw [h.closed, if_neg Bool.false_ne_true]
    exact h.congr rfl rfl rfl (all_cons_of rfl h.plain)
  commit _ _ h := la_commitHeader h
  unreal _ _ h := h.congr rfl rfl rfl h.plain

theorem la_run {ce cc : List Bytes} (cfg : Cfg α) (ops : List (Op α)) (st : St α)
    (hops : ∀ op ∈ ops, op.isHeaderEdit = false) (h : LeftAlone ce cc st) : LeftAlone ce cc (run cfg st ops) :=
  List.foldlRecOn ops _ h fun _ h op hop => kept_step (la_kept cfg ce cc) op (fun s _ => la_rwWriteHeader s h)
    (fun he => by rw [hops op hop] at he; cases he) h

theorem la_rwClose {ce cc : List Bytes} (cfg : Cfg α) {st : St α} (h : LeftAlone ce cc st) :
    LeftAlone ce cc (rwClose cfg st) :=
  kept_rwClose cfg (fun s _ hi h => nomatch h.inel.symm.trans (initOk_spec cfg s hi).eligible)
    (fun _ h => la_commitHeader h) (fun _ ho h => nomatch ho.symm.trans h.closed) h

end

end CaddyModel.C15
