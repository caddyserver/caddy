/-
C15 — the defect that transparency (`transparent_*`) and status preservation (`status_preserved`) had in the OLD
code, kept to show that the statements of Props.lean are not vacuous: they FAIL for the old `ReadFrom` on concrete scripts.

Before /repo commit 954786b ("fix: encode: write the deferred status before handing a reader to the underlying
writer") `ReadFrom` with a negative `minimum_length` (accepted by `Validate`, left alone by `Provision`)
skipped the sniffing phase and handed the reader straight to the wrapped writer without ever going through
`Write`: the deferred status was never written (net/http answered 200), `wroteHeader` stayed false, and
`Close` could still run `init()` and append an encoder trailer to a response whose plain body and header were
already out. `copyRestOld` / `rwReadFromOld` are that code; the neighbouring examples show the same scripts are
fine for the code as it is now, with the same negative `minimum_length`. The two scripts are replayed on the real
code on every run from corpus/C15/regression-minlen-negative.txt.
-/
import CaddyModel.C15.Spec

namespace CaddyModel.C15

section
variable {α : Type}

/-- OLD `ReadFrom` tail (before 954786b): no header commit before `rf.ReadFrom(r)` -/
def copyRestOld (st : St α) (chunks : List α) : St α :=
  if st.encOpen then chunks.foldl encWrite st else chunks.foldl dsWrite st

/-- OLD `ReadFrom` (before 954786b) -/
def rwReadFromOld (cfg : Cfg α) (st : St α) (chunks : List α) : St α :=
  if !st.wroteHeader && decide (cfg.minLen > 0) then
    (fun res : St α × List α × Nat => if res.2.2 = 0 then copyRestOld res.1 res.2.1 else res.1)
      (sniffLoop cfg (nonEmpty cfg chunks) sniffLen st)
  else copyRestOld st (nonEmpty cfg chunks)

end

/-- `minimum_length: -1`, any matcher; payloads are their lengths -/
def wCfg : Cfg Nat := ⟨-1, fun _ _ => true, id, fun _ => []⟩

/-- `Content-Length: 5`, then the 5 body bytes arrive through `ReadFrom` -/
def wMixed : List (Op Nat) := [.hset kCL [53], .readFrom [5]]

/-- `WriteHeader(404)`, then the body arrives through `ReadFrom` -/
def wStatus : List (Op Nat) := [.writeHeader 404, .readFrom [5]]

/-- the same two scripts run on the OLD `ReadFrom`, then the deferred `Close` -/
def wMixedOld : St Nat :=
  rwClose wCfg (rwReadFromOld wCfg (step wCfg (St.init vGzip false) (.hset kCL [53])) [5])
def wStatusOld : St Nat :=
  rwClose wCfg (rwReadFromOld wCfg (step wCfg (St.init vGzip false) (.writeHeader 404)) [5])

/-- old code: 5 plain bytes under a header without Content-Encoding, then the encoder's trailer -/
theorem old_code_mixes_streams : wMixedOld.log = [.ec, .w 5] ∧ sentCE wMixedOld = [] := by decide

/-- transparency fails for the old `ReadFrom`: the client cannot decode what it receives -/
theorem transparent_old_code_fails : clientBody (some vGzip) wMixedOld ≠ some (written wCfg wMixed) := by decide

/-- status preservation fails for the old `ReadFrom`: the handler answered 404, the client is told 200 -/
theorem status_old_code_fails : wStatusOld.sent.map (·.1) = some 200 := by decide

/-- the code as it is now, same negative `minimum_length`, same scripts: transparent, status kept -/
example : clientBody (some vGzip) (runWrapped wCfg vGzip false wMixed) = some [5] ∧
    (runWrapped wCfg vGzip false wMixed).log = [.w 5] := by decide
example : (runWrapped wCfg vGzip false wStatus).sent.map (·.1) = some 404 := by decide

/-- Why `No101` is a hypothesis of the body clauses (NOT a defect of the tree): the writer forwards 101 like
    any 1xx, net/http treats it as the final header; the recording writer of the model does not drop the body
    net/http would refuse (`ErrBodyNotAllowed`), so in the model an "encoded body" follows a header that was
    fixed before `init` ran. -/
theorem no101_hypothesis_is_needed :
    clientBody (some vGzip) (runWrapped { wCfg with minLen := 1 } vGzip false [.writeHeader 101, .write 5]) = none := by
  decide

end CaddyModel.C15
