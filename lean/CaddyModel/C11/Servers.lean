/-
C11 — the last loop of phase 1: the redirect routes are handed to the servers that listen on
their address, or to a generated server (`Pointwise` / `SrvRel`: what becomes of a configured
server; `Placed`: where a block of routes goes; `Shaped`: where it is inserted).  Defines `flagsOf`, the observation of a server used
in `old_code_order_independent_part` (Props.lean).  At the end: `Spec.serve` as `findSome?`.
-/
import CaddyModel.C11.Redirects
namespace CaddyModel.C11
open List

def recvAt (c : Config) (b : Bool) (routes : List Route) (k : Nat) (kv : Nat × SrvOut) : Nat × SrvOut :=
  if kv.1 = k then (kv.1, receive c b routes kv.2) else kv

theorem mem_receive {c : Config} {b : Bool} {routes : List Route} {s : SrvOut} {rt : Route} :
    rt ∈ (receive c b routes s).routes ↔
      rt ∈ s.routes ∨ rt = catchAllRoute c ∨ (b = true ∧ rt ∈ routes) := by
  have htd : rt ∈ s.routes ↔ rt ∈ s.routes.take (findLast s.routes) ∨ rt ∈ s.routes.drop (findLast s.routes) := by
    rw [← mem_append, take_append_drop]
  unfold receive
  cases b
  · simp
  · simp only [if_true, mem_append, mem_singleton, true_and, htd]
    grind

theorem recvAt_listen {c : Config} {b : Bool} {routes : List Route} {k : Nat} {y : Nat × SrvOut} :
    (recvAt c b routes k y).2.listen = y.2.listen := by
  unfold recvAt; split <;> rfl

theorem recvAt_mono {c : Config} {b : Bool} {routes : List Route} {k : Nat} {y : Nat × SrvOut} {rt : Route}
    (h : rt ∈ y.2.routes) : rt ∈ (recvAt c b routes k y).2.routes := by
  unfold recvAt
  split
  · exact mem_receive.mpr (.inl h)
  · exact h

theorem stepF_cases (c : Config) (b : Bool) (π : Orders) (st : LoopF) (rr : Addr × List Route) :
    (∃ kv ∈ st.srvs, hasListener kv.2.listen rr.1 = true ∧
        stepF c b π st rr = { st with srvs := st.srvs.map (recvAt c b rr.2 kv.1) }) ∨
    ((∀ kv ∈ st.srvs, hasListener kv.2.listen rr.1 = false) ∧
        stepF c b π st rr = { st with newAddrs := st.newAddrs ++ [rr.1], newRoutes := st.newRoutes ++ rr.2 }) := by
  unfold stepF
  split
  · rename_i kv hfind
    exact .inl ⟨kv, mem_pull.mp (mem_of_find?_eq_some hfind), by simpa using find?_some hfind, rfl⟩
  · rename_i hfind
    exact .inr ⟨fun kv hkv => by simpa using find?_eq_none.mp hfind kv (mem_pull.mpr hkv), rfl⟩

def initSrvs (c : Config) : List (Nat × SrvOut) := indexed (c.servers.map (srvInit c)) 0

theorem loopF_eq (c : Config) (b : Bool) (π : Orders) (rs : RS) :
    loopF c b π rs = (pull π.raddr rs).foldl (stepF c b π) ⟨initSrvs c, [], []⟩ := rfl

theorem serversOf_eq (c : Config) (P : Params) (π : Orders) :
    serversOf c P π = finalServers c π (loopF c (!(certsOf c P π).isEmpty) π (rsOf c P π)) := rfl

def flagsOf (so : SrvOut) : List Addr × Bool × Nat := (so.listen, so.disabled, so.tls)

theorem receive_listen {c : Config} {b : Bool} {routes : List Route} {s : SrvOut} :
    (receive c b routes s).listen = s.listen := rfl

def skel (srvs : List (Nat × SrvOut)) : List (Nat × List Addr × Bool × Nat) := srvs.map fun kv => (kv.1, flagsOf kv.2)

theorem stepF_skel (c : Config) (b : Bool) (π : Orders) (st : LoopF) (rr : Addr × List Route) :
    skel (stepF c b π st rr).srvs = skel st.srvs := by
  rcases stepF_cases c b π st rr with ⟨kv, _, _, e⟩ | ⟨_, e⟩ <;> rw [e]
  simp only [skel, map_map]
  refine map_congr_left fun kv' _ => ?_
  simp only [Function.comp, recvAt]
  split <;> rfl

theorem loopF_skel (c : Config) (b : Bool) (π : Orders) (rs : RS) : skel (loopF c b π rs).srvs = skel (initSrvs c) :=
  foldlRecOn (motive := fun st : LoopF => skel st.srvs = skel (initSrvs c)) _ _ rfl fun _ h _ _ => (stepF_skel ..).trans h

theorem keys_of_skel {l l' : List (Nat × SrvOut)} (h : skel l = skel l') : keysOfMap l = keysOfMap l' := by
  simpa [skel, keysOfMap, Function.comp_def] using congrArg (map (·.1)) h

theorem anyListener_of_skel {l l' : List (Nat × SrvOut)} (h : skel l = skel l') (R : Addr) :
    (l.any fun kv => hasListener kv.2.listen R) = l'.any fun kv => hasListener kv.2.listen R := by
  simpa [skel, flagsOf, any_map, Function.comp_def] using congrArg (any · fun q => hasListener q.2.1 R) h

theorem lookupSrv_flags (k : Nat) (l : List (Nat × SrvOut)) : (lookupSrv k l).map flagsOf = (skel l).lookup k := by
  fun_induction lookupSrv k l
  · rfl
  · simp [skel, *]
  · rename_i h ih
    simpa [skel, lookup, beq_false_of_ne (Ne.symm h)] using ih

/-- `fwd`: every final server comes from an initial one by `R` (what the results say of a final
    server); `bwd`: every initial server has such a descendant (what becomes of a configured server) -/
structure Pointwise (R : Nat × SrvOut → Nat × SrvOut → Prop) (s0 srvs : List (Nat × SrvOut)) : Prop where
  fwd : ∀ y ∈ srvs, ∃ x ∈ s0, R x y
  bwd : ∀ x ∈ s0, ∃ y ∈ srvs, R x y

theorem Pointwise.refl {R : Nat × SrvOut → Nat × SrvOut → Prop} (hR : ∀ x, R x x) (s0 : List (Nat × SrvOut)) :
    Pointwise R s0 s0 :=
  ⟨fun y h => ⟨y, h, hR y⟩, fun x h => ⟨x, h, hR x⟩⟩

theorem foldF_pointwise {R : Nat × SrvOut → Nat × SrvOut → Prop} {c : Config} {b : Bool} {π : Orders}
    {s0 : List (Nat × SrvOut)} {l : RS} {st : LoopF}
    (hrecv : ∀ rr ∈ l, ∀ x y, R x y → R x (y.1, receive c b rr.2 y.2)) (h : Pointwise R s0 st.srvs) :
    Pointwise R s0 (l.foldl (stepF c b π) st).srvs := by
  refine foldlRecOn (motive := fun st : LoopF => Pointwise R s0 st.srvs) _ _ h fun st h rr hrr => ?_
  rcases stepF_cases c b π st rr with ⟨kv, _, _, e⟩ | ⟨_, e⟩ <;> rw [e]
  · have hg : ∀ x y, R x y → R x (recvAt c b rr.2 kv.1 y) := by
      intro x y hr
      unfold recvAt
      split
      · exact hrecv rr hrr x y hr
      · exact hr
    exact ⟨forall_mem_map.mpr fun y hy => by
        obtain ⟨x, hx, hr⟩ := h.fwd y hy
        exact ⟨x, hx, hg x y hr⟩,
      fun x hx => by
        obtain ⟨y, hy, hr⟩ := h.bwd x hx
        exact ⟨_, mem_map_of_mem hy, hg x y hr⟩⟩
  · exact h

/-- `y` is what has become of the initial server `x` -/
structure SrvRel (c : Config) (rs : RS) (x y : Nat × SrvOut) : Prop where
  key : y.1 = x.1
  listen : y.2.listen = x.2.listen
  disabled : y.2.disabled = x.2.disabled
  tls : y.2.tls = x.2.tls
  sound : ∀ rt ∈ y.2.routes, rt ∈ x.2.routes ∨ rt = catchAllRoute c ∨ ∃ R, assocMem rs R rt
  mono : ∀ rt ∈ x.2.routes, rt ∈ y.2.routes

theorem SrvRel.refl (c : Config) (rs : RS) (x : Nat × SrvOut) : SrvRel c rs x x :=
  ⟨rfl, rfl, rfl, rfl, fun _ h => .inl h, fun _ h => h⟩

theorem SrvRel.receive {c : Config} {rs : RS} {x y : Nat × SrvOut} {b : Bool} {R : Addr} {routes : List Route}
    (h : SrvRel c rs x y) (hr : ∀ rt ∈ routes, assocMem rs R rt) :
    SrvRel c rs x (y.1, receive c b routes y.2) :=
  ⟨h.key, h.listen, h.disabled, h.tls,
   fun rt hrt => by
     rcases mem_receive.mp hrt with h1 | h1 | ⟨_, h1⟩
     · exact h.sound rt h1
     · exact Or.inr (Or.inl h1)
     · exact Or.inr (Or.inr ⟨R, hr rt h1⟩),
   fun rt hrt => mem_receive.mpr (Or.inl (h.mono rt hrt))⟩

theorem loopF_rel (c : Config) (b : Bool) (π : Orders) (rs : RS) :
    Pointwise (SrvRel c rs) (initSrvs c) (loopF c b π rs).srvs :=
  foldF_pointwise (fun rr hrr _ _ h => h.receive fun _ hrt => ⟨rr.2, mem_pull.mp hrr, hrt⟩)
    (.refl (SrvRel.refl c rs) _)

def unplaced (s0 : List (Nat × SrvOut)) (rr : Addr × List Route) : Bool :=
  !s0.any fun kv => hasListener kv.2.listen rr.1

theorem foldF_new {c : Config} {b : Bool} {π : Orders} {s0 : List (Nat × SrvOut)} :
    ∀ (l : RS) (st : LoopF), skel st.srvs = skel s0 →
      (l.foldl (stepF c b π) st).newAddrs = st.newAddrs ++ (l.filter (unplaced s0)).map (·.1) ∧
      (l.foldl (stepF c b π) st).newRoutes = st.newRoutes ++ (l.filter (unplaced s0)).flatMap (·.2)
  | [], st, _ => by simp
  | rr :: l, st, hs => by
    have ih := foldF_new (c := c) (b := b) (π := π) l (stepF c b π st rr) ((stepF_skel ..).trans hs)
    have hany := anyListener_of_skel hs rr.1
    rw [foldl_cons, ih.1, ih.2, filter_cons]
    rcases stepF_cases c b π st rr with ⟨kv, hkv, hl, e⟩ | ⟨hno, e⟩
    · have : unplaced s0 rr = false := by
        rw [unplaced, ← hany, Bool.not_eq_false', any_eq_true]
        exact ⟨kv, hkv, hl⟩
      simp [this, e]
    · have : unplaced s0 rr = true := by
        rw [unplaced, ← hany, Bool.not_eq_true', any_eq_false]
        exact fun kv hkv => by simp [hno kv hkv]
      simp [this, e]

theorem loopF_new (c : Config) (b : Bool) (π : Orders) (rs : RS) :
    (loopF c b π rs).newAddrs = ((pull π.raddr rs).filter (unplaced (initSrvs c))).map (·.1) ∧
    (loopF c b π rs).newRoutes = ((pull π.raddr rs).filter (unplaced (initSrvs c))).flatMap (·.2) := by
  simpa [loopF_eq] using foldF_new (c := c) (b := b) (π := π) (pull π.raddr rs) ⟨initSrvs c, [], []⟩ rfl

theorem loopF_newRoutes {c : Config} {b : Bool} {π : Orders} {rs : RS} {rt : Route}
    (h : rt ∈ (loopF c b π rs).newRoutes) : ∃ R, assocMem rs R rt := by
  rw [(loopF_new c b π rs).2] at h
  obtain ⟨rr, hrr, hrt⟩ := mem_flatMap.mp h
  exact ⟨rr.1, rr.2, mem_pull.mp (mem_filter.mp hrr).1, hrt⟩

/-- the routes of redirect address `rr.1` have been handed to a server that listens there
    (inserted only if some name has a managed certificate — issue 4829), or queued for the
    generated redirect server when nobody listens there -/
def Placed (b : Bool) (st : LoopF) (rr : Addr × List Route) : Prop :=
  (∃ y ∈ st.srvs, hasListener y.2.listen rr.1 = true ∧ (b = true → ∀ rt ∈ rr.2, rt ∈ y.2.routes)) ∨
  ((∀ y ∈ st.srvs, hasListener y.2.listen rr.1 = false) ∧ rr.1 ∈ st.newAddrs ∧ ∀ rt ∈ rr.2, rt ∈ st.newRoutes)

theorem stepF_placed {c : Config} {b : Bool} {π : Orders} {st : LoopF} {rr rr' : Addr × List Route}
    (h : Placed b st rr' ∨ rr = rr') : Placed b (stepF c b π st rr) rr' := by
  rcases stepF_cases c b π st rr with ⟨kv, hkv, hl, e⟩ | ⟨hno, e⟩ <;> rw [e]
  · rcases h with (⟨y, hy, h1, h3⟩ | ⟨h1, h2, h3⟩) | rfl
    · exact .inl ⟨_, mem_map_of_mem hy, by rwa [recvAt_listen], fun hb rt hrt => recvAt_mono (h3 hb rt hrt)⟩
    · refine .inr ⟨forall_mem_map.mpr fun y hy => ?_, h2, h3⟩
      rw [recvAt_listen]; exact h1 y hy
    · refine .inl ⟨_, mem_map_of_mem hkv, by rwa [recvAt_listen], fun hb rt hrt => ?_⟩
      simp [recvAt, mem_receive, hb, hrt]
  · rcases h with (h | ⟨h1, h2, h3⟩) | rfl
    · exact .inl h
    · exact .inr ⟨h1, mem_append_left _ h2, fun rt hrt => mem_append_left _ (h3 rt hrt)⟩
    · exact .inr ⟨hno, by simp, fun rt hrt => mem_append_right _ hrt⟩

theorem loopF_placed (c : Config) (b : Bool) (π : Orders) (rs : RS) {rr : Addr × List Route} (h : rr ∈ rs) :
    Placed b (loopF c b π rs) rr :=
  foldl_mem_of (M := fun st => Placed b st rr) (N := (· = rr)) (fun _ _ => stepF_placed)
    (.inr ⟨rr, mem_pull.mpr h, rfl⟩)

theorem mem_finalServers_imp {c : Config} {π : Orders} {f : LoopF} {kv : Nat × SrvOut}
    (h : kv ∈ finalServers c π f) : kv ∈ f.srvs ∨ kv.2 = newServer c π f := by
  unfold finalServers at h
  split at h
  · exact .inl h
  · split at h
    · obtain ⟨y, hy, rfl⟩ := mem_map.mp h
      split
      · exact .inr rfl
      · exact .inl hy
    · exact (mem_append.mp h).imp_right fun h => by rw [mem_singleton.mp h]

theorem mem_finalServers {c : Config} {π : Orders} {f : LoopF} {kv : Nat × SrvOut} (hres : c.reserved = none) :
    kv ∈ finalServers c π f ↔ kv ∈ f.srvs ∨ (f.newAddrs ≠ [] ∧ kv = (c.servers.length, newServer c π f)) := by
  unfold finalServers
  rw [hres]
  split
  · rename_i he; simp [isEmpty_iff.mp he]
  · rename_i he; simp [mt isEmpty_iff.mpr he]

theorem userRoutes_eq_indexed : ∀ (l : List URoute) (n : Nat),
    userRoutes l n = (indexed l n).map fun ir => Route.user ir.1 (!ir.2.hms.isEmpty)
  | [], _ => rfl
  | _ :: l, n => by simp [userRoutes, indexed, userRoutes_eq_indexed l]

theorem mem_userRoutes {l : List URoute} {n : Nat} {rt : Route} :
    rt ∈ userRoutes l n ↔ ∃ id r, rt = Route.user id (!r.hms.isEmpty) ∧ n ≤ id ∧ l[id - n]? = some r := by
  rw [userRoutes_eq_indexed, mem_map]
  exact ⟨fun ⟨⟨id, r⟩, h, e⟩ => ⟨id, r, e.symm, mem_indexed_iff.mp h⟩,
    fun ⟨id, r, e, h⟩ => ⟨(id, r), mem_indexed_iff.mpr h, e.symm⟩⟩

theorem mem_initSrvs {c : Config} {x : Nat × SrvOut} (h : x ∈ initSrvs c) : ∃ s ∈ c.servers, x.2 = srvInit c s := by
  obtain ⟨s, hs, e⟩ := mem_map.mp (mem_indexed h)
  exact ⟨s, hs, e.symm⟩

theorem exists_initSrvs {c : Config} {s : Server} (h : s ∈ c.servers) : ∃ i, (i, srvInit c s) ∈ initSrvs c :=
  exists_indexed 0 (mem_map_of_mem h)

theorem not_redir_of_initSrvs {c : Config} {x : Nat × SrvOut} {rt : Route} (hx : x ∈ initSrvs c)
    (hred : rt.isRedir = true) : rt ∉ x.2.routes := by
  obtain ⟨s, _, e⟩ := mem_initSrvs hx
  intro hrt
  obtain ⟨_, _, rfl, _⟩ := mem_userRoutes.mp (e ▸ hrt)
  cases hred

theorem serversOf_redir_sound (c : Config) (P : Params) (π : Orders) {kv : Nat × SrvOut} {rt : Route}
    (hkv : kv ∈ serversOf c P π) (hrt : rt ∈ kv.2.routes) (hred : rt.isRedir = true) :
    rt = catchAllRoute c ∨ ∃ R, assocMem (rsOf c P π) R rt := by
  rw [serversOf_eq] at hkv
  rcases mem_finalServers_imp hkv with hy | e
  · obtain ⟨x, hx, hrel⟩ := (loopF_rel c _ π (rsOf c P π)).fwd kv hy
    exact (hrel.sound rt hrt).resolve_left (not_redir_of_initSrvs hx hred)
  · simp only [e, newServer, mem_append, mem_singleton] at hrt
    exact hrt.symm.imp_right loopF_newRoutes

theorem serversOf_lists (c : Config) (P : Params) (π : Orders) {kv : Nat × SrvOut} {rt : Route} {d : Name}
    (hkv : kv ∈ serversOf c P π) (hrt : rt ∈ kv.2.routes) (hl : rt.lists d = true) :
    ∃ s ∈ c.servers, contributes c s d ∧ ∃ a ∈ s.listen, rt.port = portRule c a.sp := by
  have hred : rt.isRedir = true := by
    cases rt with
    | user => simp [Route.lists] at hl
    | redir => rfl
  rcases serversOf_redir_sound c P π hkv hrt hred with h | ⟨R, h⟩
  · simp [h, catchAllRoute, Route.lists] at hl
  · obtain ⟨a, doms, _, rfl, _, h4⟩ := rsOf_sound c P π h
    obtain ⟨s, hs, hc, ha⟩ := h4 d (mkRedirRoute_lists hl)
    exact ⟨s, hs, hc, a, ha, rfl⟩

theorem hasListener_of_mem {l : List Addr} {R : Addr} (h : R ∈ l) (hR : R.sp = R.ep) : hasListener l R = true := by
  simp only [hasListener, any_eq_true, Bool.and_eq_true, decide_eq_true_eq]
  exact ⟨R, h, ⟨rfl, by omega⟩, by omega⟩

theorem hasListener_redirAddr_self (c : Config) (a : Addr) : hasListener [redirAddr c a] (redirAddr c a) = true :=
  hasListener_of_mem mem_cons_self rfl

theorem serversOf_redir_complete (c : Config) (P : Params) (π : Orders) (hres : c.reserved = none)
    {a : Addr} {rt : Route} (h : assocMem (rsOf c P π) (redirAddr c a) rt)
    (hins : (certsOf c P π).isEmpty = false ∨ ∀ s ∈ c.servers, hasListener s.listen (redirAddr c a) = false) :
    ∃ kv ∈ serversOf c P π, hasListener kv.2.listen (redirAddr c a) = true ∧ rt ∈ kv.2.routes := by
  obtain ⟨routes, hm, hrt⟩ := h
  rw [serversOf_eq]
  rcases loopF_placed c (!(certsOf c P π).isEmpty) π (rsOf c P π) hm with ⟨y, hy, h1, h3⟩ | ⟨_, h2, h3⟩
  · refine ⟨y, (mem_finalServers hres).mpr (.inl hy), h1, h3 ?_ rt hrt⟩
    refine hins.elim (by simp [·]) fun h => ?_
    obtain ⟨x, hx, hrel⟩ := (loopF_rel c _ π (rsOf c P π)).fwd y hy
    obtain ⟨s, hs, e⟩ := mem_initSrvs hx
    rw [hrel.listen, e, srvInit, h s hs] at h1
    cases h1
  · refine ⟨_, (mem_finalServers hres).mpr (.inr ⟨ne_nil_of_mem h2, rfl⟩),
      hasListener_of_mem (mem_pullKeys.mpr h2) rfl, mem_append_left _ (h3 rt hrt)⟩

theorem redirect_of_kept (c : Config) (P : Params) (π : Orders) (hres : c.reserved = none) {d : Name} {a : Addr}
    (h : assocMem (mainLoop c P π).2 d a)
    (hins : (certsOf c P π).isEmpty = false ∨ ∀ s ∈ c.servers, hasListener s.listen (redirAddr c a) = false) :
    ∃ kv ∈ serversOf c P π, hasListener kv.2.listen (redirAddr c a) = true ∧
      ∃ rt ∈ kv.2.routes, rt.isRedir = true ∧ rt.covers d = true ∧ rt.port = portRule c a.sp := by
  obtain ⟨doms, hm, hdm⟩ := (mem_domainsByAddr (π := π)).mpr h
  obtain ⟨kv, hkv, hl, hin⟩ := serversOf_redir_complete c P π hres
    (mem_redirServers.mpr ⟨(a, doms), hm, rfl, rfl⟩) hins
  exact ⟨kv, hkv, hl, _, hin, mkRedirRoute_isRedir, mkRedirRoute_covers hdm, mkRedirRoute_port⟩

/-! ### `if len(uniqueDomainsForCerts) != 0` (issue 4829): what happens when it is false -/

/-- **the defect behind `redirect_exists_full_fails`, in general**: if no name ends up with
    a managed certificate and every redirect address already has a configured listener, then
    the only redirect routes anywhere are catch-alls to the HTTPS port — for every iteration
    order, whatever ports the names are served on -/
theorem only_catchAll_when_no_certs (c : Config) (P : Params) (π : Orders)
    (hc : (certsOf c P π).isEmpty = true)
    (hrecv : ∀ s ∈ c.servers, redirOn c s = true → ∀ a ∈ s.listen,
      ∃ s' ∈ c.servers, hasListener s'.listen (redirAddr c a) = true) :
    ∀ kv ∈ serversOf c P π, ∀ rt ∈ kv.2.routes, rt.isRedir = true → rt = catchAllRoute c := by
  -- with no managed names, existing servers receive catch-all redirects only (`SrvRel.sound` does
  -- not record the flag, so `loopF_rel` does not say this)
  have hno : Pointwise (fun x y => ∀ rt ∈ y.2.routes, rt ∈ x.2.routes ∨ rt = catchAllRoute c) (initSrvs c)
      (loopF c false π (rsOf c P π)).srvs :=
    foldF_pointwise (fun _ _ _ _ h rt hrt => by simpa [mem_receive, or_assoc] using (mem_receive.mp hrt).imp_left (h rt))
      (.refl (fun _ _ h => .inl h) _)
  have hnil : (loopF c false π (rsOf c P π)).newAddrs = [] := by
    rw [(loopF_new ..).1, map_eq_nil_iff, filter_eq_nil_iff]
    intro rr hrr
    obtain ⟨s, hs, hron, a, ha, e⟩ := rs_key_listen c P π (mem_pull.mp hrr)
    obtain ⟨s', hs', hl⟩ := hrecv s hs hron a ha
    obtain ⟨i, hi⟩ := exists_initSrvs hs'
    simpa [unplaced] using ⟨_, _, hi, by rw [e]; exact hl⟩
  intro kv hkv rt hrt hred
  rw [serversOf_eq, hc, Bool.not_true, finalServers, hnil] at hkv
  obtain ⟨x, hx, hs⟩ := hno.fwd kv hkv
  exact (hs rt hrt).resolve_left (not_redir_of_initSrvs hx hred)

theorem lookupSrv_indexed : ∀ (l : List SrvOut) (n j : Nat), lookupSrv (n + j) (indexed l n) = l[j]?
  | [], _, _ => rfl
  | x :: xs, n, 0 => by simp [indexed, lookupSrv]
  | x :: xs, n, j + 1 => by
    have := lookupSrv_indexed xs (n + 1) j
    rw [Nat.add_right_comm, Nat.add_assoc] at this
    simpa [indexed, lookupSrv] using this

theorem lookupSrv_append_of_isSome {k : Nat} {l l' : List (Nat × SrvOut)} (h : (lookupSrv k l).isSome = true) :
    lookupSrv k (l ++ l') = lookupSrv k l := by
  fun_induction lookupSrv k l <;> simp_all [lookupSrv]

/-- **the configured servers' listeners and flags**, for every iteration order: a server
    keeps its listen list; it is marked disabled exactly when it was disabled or listens only
    on the HTTP port; it ends with TLS connection policies exactly by the rule `tlsOut` -/
theorem server_flags (c : Config) (P : Params) (π : Orders) (hres : c.reserved = none) (k : Nat) (s : Server)
    (hk : c.servers[k]? = some s) :
    obsAt (phase1Result c P π) k flagsOf = some (s.listen, disabledOut c s, tlsOut c s) := by
  have h1 : (lookupSrv k (loopF c (!(certsOf c P π).isEmpty) π (rsOf c P π)).srvs).map flagsOf =
      some (s.listen, disabledOut c s, tlsOut c s) := by
    rw [lookupSrv_flags, loopF_skel, ← lookupSrv_flags, initSrvs, ← Nat.zero_add k, lookupSrv_indexed]
    simp [hk, flagsOf, srvInit]
  simp only [obsAt, phase1Result, serversOf_eq]
  unfold finalServers
  split
  · exact h1
  · rw [hres]
    simp only
    rw [lookupSrv_append_of_isSome, h1]
    rw [← Option.isSome_map (f := flagsOf), h1]
    rfl

def noHost (l : List Route) : Prop := ∀ r ∈ l, r.hasHost = false

theorem lastHostIdx_append (l1 l2 : List Route) (i : Nat) (acc : Option Nat) :
    lastHostIdx (l1 ++ l2) i acc = lastHostIdx l2 (i + l1.length) (lastHostIdx l1 i acc) := by
  fun_induction lastHostIdx l1 i acc
  · simp
  · rename_i ih
    simp only [cons_append, lastHostIdx, length_cons, ih]
    congr 1; omega

theorem lastHostIdx_noHost {l : List Route} (i : Nat) (acc : Option Nat) (h : noHost l) : lastHostIdx l i acc = acc := by
  fun_induction lastHostIdx l i acc
  · rfl
  · rename_i ih
    rw [ih fun r' hr' => h r' (mem_cons_of_mem _ hr'), h _ mem_cons_self]
    rfl

theorem lastHostIdx_spec (l : List Route) (i : Nat) (acc : Option Nat) :
    (lastHostIdx l i acc = acc ∧ noHost l) ∨
    ∃ j, lastHostIdx l i acc = some (i + j + 1) ∧ j < l.length ∧ noHost (l.drop (j + 1)) := by
  fun_induction lastHostIdx l i acc
  · exact .inl ⟨rfl, fun _ h => nomatch h⟩
  · rename_i r l i acc ih
    rcases ih with ⟨h1, h2⟩ | ⟨j, h1, h2, h3⟩
    · by_cases hr : r.hasHost = true
      · exact .inr ⟨0, by rw [h1]; simp [hr], by simp, by simpa using h2⟩
      · exact .inl ⟨by rw [h1]; simp [hr], forall_mem_cons.mpr ⟨by simpa using hr, h2⟩⟩
    · exact .inr ⟨j + 1, by rw [h1]; congr 1; omega, by simp; omega, by simpa using h3⟩

theorem findLast_spec (u : List Route) : findLast u ≤ u.length ∧ noHost (u.drop (findLast u)) := by
  unfold findLast
  rcases lastHostIdx_spec u 0 none with ⟨h1, h2⟩ | ⟨j, h1, h2, h3⟩
  · rw [h1]; exact ⟨Nat.zero_le _, h2⟩
  · rw [h1]; simp only [Nat.zero_add]; exact ⟨by omega, h3⟩

/-- the shape of a server's route list: the user routes `u`, cut at `findLast u`, with
    redirect routes `mid` in the cut and redirect routes `cs` at the end -/
def Shaped (u : List Route) (routes : List Route) : Prop :=
  ∃ mid cs, routes = u.take (findLast u) ++ mid ++ u.drop (findLast u) ++ cs ∧
    (∀ r ∈ mid, r.isRedir = true) ∧ (∀ r ∈ cs, r.isRedir = true)

theorem Shaped.init (u : List Route) : Shaped u u :=
  ⟨[], [], by simp, by simp, by simp⟩

theorem noHost_of_redir {l : List Route} (h : ∀ r ∈ l, r.isRedir = true) : noHost l := by
  intro r hr
  have := h r hr
  cases r with
  | user => cases this
  | redir => rfl

theorem findLast_append_noHost (A X : List Route) (hX : noHost X) : findLast (A ++ X) = findLast A := by
  unfold findLast
  rw [lastHostIdx_append, lastHostIdx_noHost _ _ hX]

theorem findLast_shaped {u mid cs : List Route} (hm : noHost mid) (hc : noHost cs) :
    findLast (u.take (findLast u) ++ mid ++ u.drop (findLast u) ++ cs) = findLast u := by
  have hd := (findLast_spec u).2
  have hrest : noHost (mid ++ u.drop (findLast u) ++ cs) :=
    forall_mem_append.mpr ⟨forall_mem_append.mpr ⟨hm, hd⟩, hc⟩
  rw [append_assoc, append_assoc, ← append_assoc mid, findLast_append_noHost _ _ hrest,
    ← findLast_append_noHost _ _ hd, take_append_drop]

theorem Shaped.receive {c : Config} {u : List Route} {s : SrvOut} {b : Bool} {routes : List Route}
    (h : Shaped u s.routes) (hr : ∀ r ∈ routes, r.isRedir = true) : Shaped u (receive c b routes s).routes := by
  obtain ⟨mid, cs, he, hm, hc⟩ := h
  have hfl : findLast s.routes = findLast u := by
    rw [he]; exact findLast_shaped (noHost_of_redir hm) (noHost_of_redir hc)
  have hlen : (u.take (findLast u)).length = findLast u := length_take_of_le (findLast_spec u).1
  have hcatch : ∀ r ∈ cs ++ [catchAllRoute c], r.isRedir = true :=
    forall_mem_append.mpr ⟨hc, forall_mem_singleton.mpr rfl⟩
  unfold CaddyModel.C11.receive
  cases b
  · exact ⟨mid, cs ++ [catchAllRoute c], by simp [he, append_assoc], hm, hcatch⟩
  · refine ⟨routes ++ mid, cs ++ [catchAllRoute c], ?_, forall_mem_append.mpr ⟨hr, hm⟩, hcatch⟩
    simp only [if_true, hfl]
    rw [he]
    simp only [append_assoc, take_left' hlen, drop_left' hlen]

theorem serversOf_shaped (c : Config) (P : Params) (π : Orders) (hres : c.reserved = none)
    {kv : Nat × SrvOut} (hkv : kv ∈ serversOf c P π) (hk : kv.1 < c.servers.length) :
    ∃ s ∈ c.servers, Shaped (userRoutes s.routes 0) kv.2.routes := by
  have hinv : Pointwise (fun x y => Shaped x.2.routes y.2.routes) (initSrvs c)
      (loopF c (!(certsOf c P π).isEmpty) π (rsOf c P π)).srvs :=
    foldF_pointwise
      (fun rr hrr _ _ h => h.receive fun _ hrt => rsOf_isRedir c P π ⟨rr.2, mem_pull.mp hrr, hrt⟩)
      (.refl (fun x => Shaped.init x.2.routes) _)
  rw [serversOf_eq] at hkv
  rcases (mem_finalServers hres).mp hkv with hy | ⟨_, rfl⟩
  · obtain ⟨x, hx, hs⟩ := hinv.fwd kv hy
    obtain ⟨s, hs', e⟩ := mem_initSrvs hx
    exact ⟨s, hs', by rw [e] at hs; exact hs⟩
  · exact absurd hk (Nat.lt_irrefl _)

theorem serve_eq_findSome (P : Params) (us : List URoute) (d : Option Name) :
    ∀ l : List Route, serve P us d l = (l.findSome? (routeServes P us d)).getD .nothing
  | [] => rfl
  | r :: l => by
    simp only [serve, findSome?_cons]
    split <;> simp [*, serve_eq_findSome P us d l]

theorem serve_append_left {P : Params} {us : List URoute} {d : Option Name} {l1 l2 : List Route}
    (h : ∃ r ∈ l1, (routeServes P us d r).isSome = true) : serve P us d (l1 ++ l2) = serve P us d l1 := by
  rw [serve_eq_findSome, serve_eq_findSome, findSome?_append, Option.or_of_isSome (findSome?_isSome_iff.mpr h)]

theorem serve_eq_of_mem {P : Params} {us : List URoute} {d : Option Name} {l : List Route}
    (h : ∃ r ∈ l, (routeServes P us d r).isSome = true) : ∃ r ∈ l, routeServes P us d r = some (serve P us d l) := by
  obtain ⟨a, ha⟩ := Option.isSome_iff_exists.mp (findSome?_isSome_iff.mpr h)
  rw [serve_eq_findSome, ha]
  exact exists_of_findSome?_eq_some ha

theorem routeServes_redir {P : Params} {us : List URoute} {d : Option Name} {p : Nat} {r : Route}
    (h : routeServes P us d r = some (Served.redir p)) : ∃ hs, r = Route.redir hs p := by
  revert h
  fun_cases routeServes P us d r <;> simp

theorem serve_redir_mem {P : Params} {us : List URoute} {d : Option Name} {p : Nat} {l : List Route}
    (h : serve P us d l = Served.redir p) : ∃ hs, Route.redir hs p ∈ l := by
  rw [serve_eq_findSome] at h
  rcases Option.getD_eq_iff.mp h with hf | ⟨_, h0⟩
  · obtain ⟨r, hr, hrs⟩ := exists_of_findSome?_eq_some hf
    obtain ⟨hs, rfl⟩ := routeServes_redir hrs
    exact ⟨hs, hr⟩
  · cases h0

end CaddyModel.C11
