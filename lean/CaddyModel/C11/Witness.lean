/-
C11 — proved counter-examples.
* `…_old_code_…`: the model with ARBITRARY iteration orders `π` is the code before the repair
  "automatic HTTPS phase 1 iterates its maps in sorted key order"; these theorems show that the
  determinism clause was false there (non-vacuity of `deterministic`, Props.lean).  Their protocol
  lines are regression cases in `corpus/C11/`.
* `…_full_fails`: clauses the current tree still violates; their configurations are protocol
  lines in `witnessLines` (Driver.lean), replayed on the implementation on every run (and listed in
  `known_findings.jsonl`).
-/
import CaddyModel.C11.Sorted

namespace CaddyModel.C11

/-- names: 0 = "", 1 = "a.test" -/
def wP : Params :=
  { q := fun d => d == 1, pub := fun d => d == 1, ip := fun _ => false, internal := fun _ => false,
    loaded := fun _ => false, ts := fun _ => false, mw := fun a b => a == b,
    hm := fun a b => a == b }

def tcp (host : Bytes) (port : Nat) : Addr := ⟨0, host, port, port⟩

/-- a server naming "a.test" in its only route -/
def site (listen : List Addr) : Server := ⟨listen, false, false, false, false, 0, [], [], [⟨[[1]]⟩]⟩

/-- a server with one catch-all user route -/
def plain (listen : List Addr) (tls : Nat) : Server := ⟨listen, false, false, false, false, tls, [], [], [⟨[]⟩]⟩

/-! #### DESIGN F16: a name on two servers, one of them off the HTTPS port -/

/-- "a.test" on :8443 and on :9443 -/
def cfgF16 : Config := ⟨0, 0, [site [tcp [] 8443], site [tcp [] 9443]], [], none⟩

/-- **determinism at full strength is false**: for the same configuration the redirect for
    "a.test" names :8443 when the servers map yields `s0` first and :9443 when it yields `s1`
    first.  (Full statement: `∀ c P π π', SameResult (phase1Result c P π) (phase1Result c P π')`.) -/
theorem deterministic_old_code_fails :
    ∃ (c : Config) (P : Params) (π π' : Orders), ¬ SameResult (phase1Result c P π) (phase1Result c P π') := by
  refine ⟨cfgF16, wP, { Orders.id with srv := [0, 1] }, { Orders.id with srv := [1, 0] }, fun h => ?_⟩
  exact absurd (h.redir 2 1 8443) (by decide)  -- server 2 is the generated one; name 1, port 8443

example : ambiguous cfgF16 = true := by decide

/-- "a.test" on :443, two user servers on 10.1.1.1:80 and 127.0.0.1:80 -/
def cfgRecv : Config :=
  ⟨0, 0, [site [tcp [] 443], plain [tcp (str "10.1.1.1") 80] 0, plain [tcp (str "127.0.0.1") 80] 0], [], none⟩

/-- the redirect routes land in `s1` or in `s2` depending on the order of the inner
    `range app.Servers` (`hasListenerAddress` ignores the host on linux) -/
theorem receiver_old_code_depends_on_order :
    ∃ (c : Config) (P : Params) (π π' : Orders), ¬ SameResult (phase1Result c P π) (phase1Result c P π') := by
  refine ⟨cfgRecv, wP, { Orders.id with recv := fun _ => [1, 2] }, { Orders.id with recv := fun _ => [2, 1] }, fun h => ?_⟩
  exact absurd (h.redir 1 1 0) (by decide)  -- server 1, name 1, no explicit port

example : ambRecv cfgRecv = true := by decide

/-- one server on :8443 and :443 naming "a.test" -/
def cfgTwoPorts : Config := ⟨0, 0, [site [tcp [] 8443, tcp [] 443]], [], none⟩

/-- same routes, different order: a request for "a.test" is redirected to :8443 or to the
    default port depending on the iteration order of `domainsByAddr` — although the config
    is not `ambiguous` (the set of routes is the same) -/
theorem effective_old_code_depends_on_route_order :
    ∃ (c : Config) (P : Params) (π π' : Orders), ambiguous c = false ∧
      ¬ SameResult (phase1Result c P π) (phase1Result c P π') := by
  refine ⟨cfgTwoPorts, wP, Orders.id, { Orders.id with addr := [tcp [] 443] }, by decide, fun h => ?_⟩
  exact absurd (h.effective 1 1) (by decide)  -- server 1 (the generated one), name 1

theorem servedPort_mem {c : Config} {d : Name} {q : Nat} (h : servedPort c d q = true) :
    q ∈ c.servers.flatMap fun s => s.listen.map (·.sp) := by
  simp only [servedPort, List.any_eq_true, Bool.and_eq_true, decide_eq_true_eq] at h
  obtain ⟨s, hs, _, a, ha, rfl⟩ := h
  exact List.mem_flatMap.mpr ⟨s, hs, List.mem_map_of_mem ha⟩

theorem RedirectRight.single {c : Config} {servers : List (Nat × SrvOut)} (h : RedirectRight c servers)
    {s : Server} {d : Name} {q₀ : Nat} (hs : s ∈ c.servers) (hr : redirectsOn c s d = true)
    (hq : ∀ q ∈ c.servers.flatMap (fun s => s.listen.map (·.sp)), servedPort c d q = true → q = q₀) :
    ∃ kv ∈ servers, effective d kv.2.routes = some (portRule c q₀) := by
  obtain ⟨kv, hkv, p, hp, q, hq', rfl⟩ := h s hs d hr
  exact ⟨kv, hkv, hq q (servedPort_mem hq') hq' ▸ hp⟩

theorem effective_of_only_catchAll {c : Config} {d : Name} {p : Nat} : ∀ {rs : List Route},
    (∀ rt ∈ rs, rt.isRedir = true → rt = catchAllRoute c) → effective d rs = some p → p = portRule c (httpsPort c)
  | .user _ _ :: _, hall, h => effective_of_only_catchAll (fun rt hrt => hall rt (List.mem_cons_of_mem _ hrt)) h
  | .redir hs q :: _, hall, h => by
    obtain ⟨rfl, rfl⟩ := Route.redir.inj (hall _ List.mem_cons_self rfl)
    exact (Option.some.inj h).symm

/-- "a.test" on :9443; a second server on :8443 with TLS connection policies and no names -/
def cfgShadow : Config := ⟨0, 0, [site [tcp [] 9443], ⟨[tcp [] 8443], false, false, false, false, 2, [], [], []⟩], [], none⟩

/-- the sorted key lists of `cfgShadow` (":8443" < ":9443") -/
def κShadow : Orders :=
  ⟨[0, 1], [1], [0, 1], [tcp [] 8443, tcp [] 9443], [tcp [] 80], fun _ => [0, 1], [tcp [] 80]⟩

-- `show`: the instance for the bounded quantifier wants the literal bound
theorem κShadow_complete : Complete cfgShadow κShadow :=
  ⟨by decide, fun _ => show ∀ i, i < 2 → i ∈ [0, 1] by decide, by decide, by decide, by decide, by decide, by decide, by decide⟩

/-- **the redirect clause (`RedirectRight`) at full strength is false** (1), also with sorted iteration:
    the matcher-less redirect of the name-less TLS server (→ :8443, sorted first) is placed
    before the redirect for "a.test" (→ :9443); "a.test" is sent to a port it is not served on,
    whatever the runtime order of the maps -/
theorem redirect_port_full_fails :
    ∃ (c : Config) (P : Params) (κ : Orders), Complete c κ ∧ ∀ ρ : Orders, ¬ RedirectRight c (serversOf c P (κ.over ρ)) := by
  refine ⟨cfgShadow, wP, κShadow, κShadow_complete, fun ρ h => ?_⟩
  rw [serversOf_over _ _ κShadow_complete] at h
  obtain ⟨kv, hkv, hp⟩ := h.single (s := site [tcp [] 9443]) (d := 1) (q₀ := 9443) (by simp [cfgShadow])
    (by decide) (by decide)
  have : ∀ kv ∈ serversOf cfgShadow wP κShadow, effective 1 kv.2.routes ≠ some 9443 := by decide
  exact this kv hkv hp

/-- "a.test" on :8443 with certificate management disabled; the user's own server on :80 -/
def cfgNoCerts : Config :=
  ⟨0, 0, [⟨[tcp [] 8443], false, false, true, false, 0, [], [], [⟨[[1]]⟩]⟩, plain [tcp [] 80] 0], [], none⟩

/-- **the redirect clause (`RedirectRight`) at full strength is false** (2), on a
    configuration excluded by `redirect_exists_partial`: when no name of the app has a managed
    certificate, an existing HTTP-port server receives only the catch-all redirect
    (`if len(uniqueDomainsForCerts) != 0`) and no redirect route for "a.test" exists, for every
    iteration order; "a.test" is sent to the default port although it is served on :8443 only -/
theorem redirect_exists_full_fails :
    ∃ (c : Config) (P : Params), ∀ π : Orders, ¬ RedirectRight c (serversOf c P π) := by
  refine ⟨cfgNoCerts, wP, fun π h => ?_⟩
  obtain ⟨kv, hkv, hp⟩ := h.single (s := ⟨[tcp [] 8443], false, false, true, false, 0, [], [], [⟨[[1]]⟩]⟩)
    (d := 1) (q₀ := 8443) (by simp [cfgNoCerts]) (by decide) (by decide)
  have hc : (certsOf cfgNoCerts wP π).isEmpty = true := by
    have : ∀ d ∈ cfgNoCerts.servers.flatMap allHosts, qualifies cfgNoCerts wP d = false := by decide
    refine List.isEmpty_iff.mpr (List.eq_nil_iff_forall_not_mem.mpr fun d hd => ?_)
    have hq := certs_only_qualifying _ _ _ _ hd
    rw [this d (qualifies_mem hq)] at hq; cases hq
  have honly := only_catchAll_when_no_certs cfgNoCerts wP π hc (by
    intro s hs hr a ha
    refine ⟨plain [tcp [] 80] 0, by simp [cfgNoCerts], ?_⟩
    have : ∀ s ∈ cfgNoCerts.servers, ∀ a ∈ s.listen, hasListener (plain [tcp [] 80] 0).listen (redirAddr cfgNoCerts a) = true := by
      simp [cfgNoCerts, plain, tcp, hasListener, redirAddr, httpPort, defaultHTTPPort]
    exact this s hs a ha)
  exact absurd (effective_of_only_catchAll (honly kv hkv) hp) (by decide)

end CaddyModel.C11
