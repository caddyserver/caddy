/-
C11 — certificates and automation policies: which names the main loop collects, the loop over
`uniqueDomainsForCerts` in closed form, what `AddAutomationPolicy` does to the policy a name
resolves to, and that none of it depends on the iteration orders.
-/
import CaddyModel.C11.Maps
import CaddyModel.C11.Spec
namespace CaddyModel.C11
open List

theorem mem_addSet {l : List Name} {d x : Name} : x ∈ addSet l d ↔ x ∈ l ∨ x = d := by
  unfold addSet
  split
  · rename_i h
    exact (or_iff_left_of_imp fun e => e ▸ by simpa using h).symm
  · simp

theorem mem_foldl_addSet {x : Name} {ds l : List Name} : x ∈ ds.foldl addSet l ↔ x ∈ l ∨ x ∈ ds :=
  (foldl_mem_iff (M := (x ∈ ·)) (N := (x = ·)) fun _ _ => mem_addSet).trans (by simp)

theorem mem_domainSet {s : Server} {d : Name} : d ∈ domainSet s ↔ d ∈ allHosts s ∧ d ∉ s.skip := by
  unfold domainSet
  rw [foldl_mem_iff (M := (d ∈ ·)) (N := fun h => d = h ∧ h ∉ s.skip)]
  · exact ⟨fun h => h.elim (nomatch ·) fun ⟨_, h1, e, h2⟩ => e ▸ ⟨h1, h2⟩, fun ⟨h1, h2⟩ => .inr ⟨d, h1, rfl, h2⟩⟩
  · intro acc h
    by_cases hs : h ∈ s.skip <;> simp [hs, mem_addSet]

theorem hosts_iff {s : Server} {d : Name} : hosts s d = true ↔ d ∈ domainSet s := by
  simp [mem_domainSet, hosts]

theorem mem_certNames {P : Params} {s : Server} {d : Name} :
    d ∈ certNames P s ↔ s.disableCerts = false ∧ d ∈ domainSet s ∧ certOk P s d = true := by
  unfold certNames
  split <;> simp [*]

theorem engaged_of_mem_domainSet {c : Config} {s : Server} {d : Name} (h : d ∈ domainSet s) :
    engaged c s = active c s := by
  simp [engaged, ne_nil_of_mem h]

theorem qualifies_iff {c : Config} {P : Params} {d : Name} :
    qualifies c P d = true ↔ ∃ s ∈ c.servers, qualifiesOn c P s d = true := by
  simp [qualifies]

theorem qualifiesOn_iff {c : Config} {P : Params} {s : Server} {d : Name} :
    qualifiesOn c P s d = true ↔
      active c s = true ∧ s.disableCerts = false ∧ d ∈ domainSet s ∧ certOk P s d = true := by
  simp [qualifiesOn, hosts_iff, and_assoc]

theorem qualifiesOn_iff_certNames {c : Config} {P : Params} {s : Server} {d : Name} :
    qualifiesOn c P s d = true ↔ engaged c s = true ∧ d ∈ certNames P s := by
  rw [qualifiesOn_iff, mem_certNames]
  exact ⟨fun ⟨ha, h1, h2, h3⟩ => ⟨engaged_of_mem_domainSet h2 ▸ ha, h1, h2, h3⟩,
    fun ⟨he, h1, h2, h3⟩ => ⟨engaged_of_mem_domainSet h2 ▸ he, h1, h2, h3⟩⟩

/-- `uniqueDomainsForCerts` after the main loop, for every iteration order: exactly the
    names that qualify on some server -/
theorem mem_uniq_iff (c : Config) (P : Params) (π : Orders) (d : Name) :
    d ∈ (mainLoop c P π).1 ↔ qualifies c P d = true := by
  unfold mainLoop
  refine (foldl_mem_iff (M := fun st : List Name × RD => d ∈ st.1)
    (N := fun ks : Nat × Server => qualifiesOn c P ks.2 d = true) ?_).trans ?_
  · intro st ks
    unfold mainStep
    split <;> simp [qualifiesOn_iff_certNames, mem_foldl_addSet, *]
  · simp [exists_mem_pull_indexed (p := fun s => qualifiesOn c P s d = true), qualifies_iff]

def listsName (pols : List Policy) (d : Name) : Bool := pols.any fun p => p.subjects.contains d

theorem listsName_eq_explicit (c : Config) (d : Name) : listsName c.policies d = explicitPolicy c d := rfl

def markOne (P : Params) (p : Policy) : Policy :=
  if p.issuers.isEmpty && allInternal P p then { p with issuers := [Issuer.internal] } else p

theorem markOne_subjects (P : Params) (p : Policy) : (markOne P p).subjects = p.subjects := by
  unfold markOne; split <;> rfl

theorem markPolicy_cons (P : Params) (d : Name) (p : Policy) (ps : List Policy) :
    markPolicy P d (p :: ps) = if p.subjects.contains d then markOne P p :: ps else p :: markPolicy P d ps := rfl

theorem markPolicy_subjects (P : Params) (d : Name) :
    ∀ (pols : List Policy), (markPolicy P d pols).map (·.subjects) = pols.map (·.subjects)
  | [] => rfl
  | p :: ps => by
    rw [markPolicy_cons]
    split <;> simp [markOne_subjects, markPolicy_subjects P d ps]

def markIf (P : Params) (pols0 : List Policy) (ps : List Policy) (d : Name) : List Policy :=
  if listsName pols0 d then markPolicy P d ps else ps

/-- the name goes to the implicit internal-issuer policy -/
def predI (P : Params) (pols0 : List Policy) (d : Name) : Bool :=
  !listsName pols0 d && !P.ts d && (!P.pub d || (P.ip d && pols0.isEmpty))

/-- the name goes to the implicit tailscale policy (and leaves `uniqueDomainsForCerts`) -/
def predT (P : Params) (pols0 : List Policy) (d : Name) : Bool := !listsName pols0 d && P.ts d

theorem markIf_subjects (P : Params) (pols0 ps : List Policy) (d : Name) :
    (markIf P pols0 ps d).map (·.subjects) = ps.map (·.subjects) := by
  unfold markIf
  split
  · exact markPolicy_subjects P d ps
  · rfl

/-- the test on the current policies is the test on the configured ones: marking does not
    change subjects -/
theorem stepB_eq {P : Params} {pols0 : List Policy} {b : LoopB} (d : Name)
    (hb : b.pols.map (·.subjects) = pols0.map (·.subjects)) :
    stepB P pols0.isEmpty b d =
      ⟨markIf P pols0 b.pols d,
       if predI P pols0 d then b.internal ++ [d] else b.internal,
       if predT P pols0 d then b.tailscale ++ [d] else b.tailscale,
       if predT P pols0 d then b.uniq.filter (· ≠ d) else b.uniq⟩ := by
  have hl : (b.pols.any fun p => p.subjects.contains d) = listsName pols0 d := by
    simpa [listsName, any_map, Function.comp_def] using congrArg (any · (·.contains d)) hb
  unfold stepB markIf predI predT
  rw [hl]
  cases listsName pols0 d <;> cases P.ts d <;> simp <;> split <;> rfl

/-- from any state: of `b.uniq`, only the names met so far (`ds.contains`) have been taken out;
    `loopB_eq` starts with all of `uniq` still to come, where that test is vacuous -/
theorem foldB_closed (P : Params) (pols0 : List Policy) :
    ∀ (ds : List Name) (b : LoopB), b.pols.map (·.subjects) = pols0.map (·.subjects) →
      ds.foldl (stepB P pols0.isEmpty) b =
        ⟨ds.foldl (markIf P pols0) b.pols, b.internal ++ ds.filter (predI P pols0),
         b.tailscale ++ ds.filter (predT P pols0), b.uniq.filter fun x => !(ds.contains x && predT P pols0 x)⟩
  | [], b, _ => by cases b; simp [filter_eq_self.mpr]
  | d :: ds, b, hb => by
    rw [foldl_cons, stepB_eq d hb, foldB_closed P pols0 ds _ ((markIf_subjects ..).trans hb)]
    simp only [foldl_cons, filter_cons, LoopB.mk.injEq, true_and]
    refine ⟨?_, ?_, ?_⟩
    · split <;> simp
    · split <;> simp
    · split
      · rename_i ht
        rw [filter_filter]
        refine filter_congr fun x _ => ?_
        by_cases e : x = d <;> simp [e, ht]
      · rename_i ht
        refine filter_congr fun x _ => ?_
        by_cases e : x = d <;> simp [e, ht]

theorem loopB_eq (P : Params) (pols : List Policy) (π : Orders) (uniq : List Name) :
    loopB P pols π uniq =
      ⟨(pullKeys π.uniq uniq).foldl (markIf P pols) pols, (pullKeys π.uniq uniq).filter (predI P pols),
       (pullKeys π.uniq uniq).filter (predT P pols), uniq.filter fun x => !predT P pols x⟩ := by
  unfold loopB
  rw [foldB_closed P pols _ _ rfl]
  simp only [nil_append, LoopB.mk.injEq, true_and]
  refine filter_congr fun x hx => ?_
  simp [mem_pullKeys.mpr hx]

/-- `allCertDomains` for every iteration order: the qualifying names, minus tailscale
    names that no explicit policy lists -/
theorem mem_certsOf (c : Config) (P : Params) (π : Orders) (d : Name) :
    d ∈ certsOf c P π ↔ qualifies c P d = true ∧ ¬(explicitPolicy c d = false ∧ P.ts d = true) := by
  simp only [certsOf, loopB_eq, mem_filter, mem_uniq_iff, predT, listsName_eq_explicit]
  cases explicitPolicy c d <;> cases P.ts d <;> simp

/-- no name is managed that does not qualify (in particular: nothing that only disabled or
    HTTP-port-only servers name, nothing skipped, nothing with a loaded certificate) -/
theorem certs_only_qualifying (c : Config) (P : Params) (π : Orders) (d : Name) (h : d ∈ certsOf c P π) :
    qualifies c P d = true :=
  ((mem_certsOf c P π d).mp h).1

theorem qualifies_mem {c : Config} {P : Params} {d : Name} (h : qualifies c P d = true) :
    d ∈ c.servers.flatMap allHosts := by
  obtain ⟨s, hs, hq⟩ := qualifies_iff.mp h
  obtain ⟨_, _, hd, _⟩ := qualifiesOn_iff.mp hq
  exact mem_flatMap.mpr ⟨s, hs, (mem_domainSet.mp hd).1⟩

theorem mem_internalOf (c : Config) (P : Params) (π : Orders) (d : Name) :
    d ∈ (loopB P c.policies π (mainLoop c P π).1).internal ↔
      qualifies c P d = true ∧ explicitPolicy c d = false ∧ P.ts d = false ∧
        (P.pub d = false ∨ (P.ip d = true ∧ c.policies.isEmpty = true)) := by
  simp [loopB_eq, mem_pullKeys, mem_uniq_iff, predI, listsName_eq_explicit, and_assoc]

theorem mem_tailscaleOf (c : Config) (P : Params) (π : Orders) (d : Name) :
    d ∈ (loopB P c.policies π (mainLoop c P π).1).tailscale ↔
      qualifies c P d = true ∧ explicitPolicy c d = false ∧ P.ts d = true := by
  simp [loopB_eq, mem_pullKeys, mem_uniq_iff, predT, listsName_eq_explicit]

theorem mem_addPolicy {P : Params} {ap x : Policy} {pols : List Policy} :
    x ∈ addPolicy P ap pols ↔ x = ap ∨ x ∈ pols := by
  fun_induction addPolicy P ap pols <;> simp_all [or_left_comm]

/-- the policy's subject list admits `d` (`getAutomationPolicyForName`'s test) -/
def admits (P : Params) (p : Policy) (d : Name) : Bool := p.subjects.isEmpty || p.subjects.any fun o => P.mw d o

theorem admits_iff {P : Params} {p : Policy} {d : Name} :
    admits P p d = true ↔ p.subjects = [] ∨ ∃ o ∈ p.subjects, P.mw d o = true := by
  simp [admits]

theorem policyFor_cons (P : Params) (d : Name) (p : Policy) (ps : List Policy) :
    policyFor P d (p :: ps) = if admits P p d then some p else policyFor P d ps := rfl

theorem policyFor_addPolicy_cases {P : Params} {ap : Policy} {d : Name} :
    ∀ l : List Policy, (admits P ap d = true ∧ policyFor P d (addPolicy P ap l) = some ap) ∨
      policyFor P d (addPolicy P ap l) = policyFor P d l
  | [] => by
    by_cases h : admits P ap d = true <;> simp [addPolicy, policyFor_cons, h, policyFor]
  | ex :: rest => by
    unfold addPolicy
    split
    · by_cases h : admits P ap d = true <;> simp [policyFor_cons, h]
    · rcases policyFor_addPolicy_cases (P := P) (ap := ap) (d := d) rest with ⟨h1, h2⟩ | h2
      · by_cases hx : admits P ex d = true <;> simp [policyFor_cons, hx, h1, h2]
      · right; simp [policyFor_cons, h2]

theorem policyFor_addPolicy_other {P : Params} {ap : Policy} {d : Name} (h : admits P ap d = false)
    (pols : List Policy) : policyFor P d (addPolicy P ap pols) = policyFor P d pols :=
  (policyFor_addPolicy_cases pols).resolve_left fun h' => by simp [h] at h'

/-- the new policy is put in front of the first policy that has a subject matching one of its
    own, or fewer subjects — and a policy that admits `d` is one or the other -/
theorem policyFor_addPolicy_self {P : Params} {ap : Policy} {d : Name} (hd : d ∈ ap.subjects)
    (hmw : P.mw d d = true) (pols : List Policy) : policyFor P d (addPolicy P ap pols) = some ap := by
  have hadm : admits P ap d = true := admits_iff.mpr (.inr ⟨d, hd, hmw⟩)
  fun_induction addPolicy P ap pols
  · simp [policyFor_cons, hadm]
  · simp [policyFor_cons, hadm]
  · rename_i ex rest hc ih
    have : admits P ex d = false := by
      rw [Bool.eq_false_iff]
      intro hx
      apply hc
      simp only [Bool.or_eq_true, decide_eq_true_eq, supersetOf, any_eq_true]
      rcases admits_iff.mp hx with hx | ⟨o, ho, hmo⟩
      · exact .inr (hx ▸ length_pos_of_mem hd)
      · exact .inl ⟨d, hd, o, ho, hmo⟩
    simp [policyFor_cons, this, ih]

theorem policyFor_isSome_of_catchAll {P : Params} {d : Name} {pols : List Policy}
    (h : ∃ p ∈ pols, p.subjects = []) : (policyFor P d pols).isSome = true := by
  fun_induction policyFor P d pols
  · simp at h
  · rfl
  · rename_i hadm ih
    obtain ⟨q, hq, he⟩ := h
    rcases mem_cons.mp hq with rfl | hq
    · simp [he] at hadm
    · exact ih ⟨q, hq, he⟩

theorem findBase_some {pols : List Policy} {p : Policy} (h : findBase pols = some p) : p ∈ pols ∧ p.subjects = [] := by
  fun_induction findBase pols <;> simp_all

theorem withBase_has_catchAll (P : Params) (pols : List Policy) : ∃ p ∈ withBase P pols, p.subjects = [] := by
  unfold withBase
  split
  · rename_i p h; exact ⟨p, findBase_some h⟩
  · exact ⟨newBase, mem_addPolicy.mpr (.inl rfl), rfl⟩

theorem createPolicies_has_catchAll (P : Params) (pols : List Policy) (il tl : List Name) :
    ∃ p ∈ createPolicies P pols il tl, p.subjects = [] := by
  obtain ⟨p, hp, he⟩ := withBase_has_catchAll P (pols.map fillDefault)
  refine ⟨p, ?_, he⟩
  unfold createPolicies withTailscale withInternal
  split <;> split <;> simp [mem_addPolicy, hp]

theorem createPolicies_tailscale (P : Params) (pols : List Policy) (il : List Name) {tl : List Name} {d : Name}
    (hd : d ∈ tl) : ∃ p ∈ createPolicies P pols il tl, d ∈ p.subjects ∧ 0 < p.managers := by
  refine ⟨⟨tl, [], (baseOf (pols.map fillDefault)).managers + 1⟩, ?_, hd, Nat.succ_pos _⟩
  simp [createPolicies, withTailscale, ne_nil_of_mem hd, mem_addPolicy]

theorem policyFor_withTailscale {P : Params} {d : Name} {tl : List Name} (hts : ∀ o ∈ tl, P.mw d o = false)
    (base : Policy) (pols : List Policy) : policyFor P d (withTailscale P base tl pols) = policyFor P d pols := by
  unfold withTailscale
  split
  · rfl
  · rename_i htl
    refine policyFor_addPolicy_other ?_ pols
    exact Bool.eq_false_iff.mpr <| mt admits_iff.mp <| not_or.mpr
      ⟨by simpa using htl, fun ⟨o, ho, hm⟩ => by simp [hts o ho] at hm⟩

theorem policyFor_createPolicies_internal {P : Params} {d : Name} (pols : List Policy) {il tl : List Name}
    (hd : d ∈ il) (hrefl : P.mw d d = true) (hts : ∀ o ∈ tl, P.mw d o = false) :
    policyFor P d (createPolicies P pols il tl) = some ⟨il, [Issuer.internal], (baseOf (pols.map fillDefault)).managers⟩ := by
  rw [createPolicies, policyFor_withTailscale hts, withInternal, if_neg (by simp [ne_nil_of_mem hd])]
  exact policyFor_addPolicy_self hd hrefl _

theorem markOne_idem (P : Params) (p : Policy) : markOne P (markOne P p) = markOne P p := by
  unfold markOne
  split
  · simp [allInternal]
  · simp

theorem markPolicy_comm (P : Params) (d e : Name) :
    ∀ ps : List Policy, markPolicy P d (markPolicy P e ps) = markPolicy P e (markPolicy P d ps)
  | [] => rfl
  | p :: ps => by
    cases he : p.subjects.contains e <;> cases hd : p.subjects.contains d <;>
      simp only [markPolicy_cons, he, hd, if_true, if_false, Bool.false_eq_true, markOne_subjects, markOne_idem,
        markPolicy_comm P d e ps]

theorem markIf_comm (P : Params) (pols0 : List Policy) (ps : List Policy) (d e : Name) :
    markIf P pols0 (markIf P pols0 ps d) e = markIf P pols0 (markIf P pols0 ps e) d := by
  unfold markIf
  split <;> split <;> first | rfl | exact markPolicy_comm P e d ps

theorem nodup_addSet {l : List Name} {d : Name} (h : l.Nodup) : (addSet l d).Nodup := by
  unfold addSet
  split
  · exact h
  · rename_i hc
    exact (perm_append_singleton ..).nodup_iff.mpr (nodup_cons.mpr ⟨by simpa using hc, h⟩)

theorem nodup_mainLoop_uniq (c : Config) (P : Params) (π : Orders) : (mainLoop c P π).1.Nodup := by
  refine foldlRecOn (motive := fun st : List Name × RD => st.1.Nodup) _ _ nodup_nil fun st h ks _ => ?_
  unfold mainStep
  split
  · exact foldlRecOn _ _ h fun _ h _ _ => nodup_addSet h
  · exact h

theorem processed_perm (c : Config) (P : Params) (π π' : Orders) :
    (pullKeys π.uniq (mainLoop c P π).1).Perm (pullKeys π'.uniq (mainLoop c P π').1) := by
  refine ((pullKeys_perm _ _).trans ?_).trans (pullKeys_perm _ _).symm
  rw [perm_ext_iff_of_nodup (nodup_mainLoop_uniq c P π) (nodup_mainLoop_uniq c P π')]
  intro d
  rw [mem_uniq_iff, mem_uniq_iff]

theorem samePolicies_refl : ∀ l : List Policy, samePolicies l l
  | [] => trivial
  | _ :: ps => ⟨⟨.refl _, rfl, rfl⟩, samePolicies_refl ps⟩

theorem supersetOf_perm {P : Params} {subs subs' : List Name} {ex ex' : Policy}
    (h : subs.Perm subs') (he : ex.subjects.Perm ex'.subjects) : supersetOf P subs ex = supersetOf P subs' ex' := by
  unfold supersetOf
  rw [h.any_eq]
  congr 1
  funext s
  exact he.any_eq

theorem addPolicy_same {P : Params} {ap ap' : Policy} (ha : samePolicy ap ap') :
    ∀ {pols pols' : List Policy}, samePolicies pols pols' → samePolicies (addPolicy P ap pols) (addPolicy P ap' pols')
  | [], [], _ => ⟨ha, trivial⟩
  | [], _ :: _, h => by cases h
  | _ :: _, [], h => by cases h
  | ex :: rest, ex' :: rest', h => by
    obtain ⟨h1, h2⟩ := h
    unfold addPolicy
    rw [supersetOf_perm ha.1 h1.1, h1.1.length_eq, ha.1.length_eq]
    split
    · exact ⟨ha, h1, h2⟩
    · exact ⟨h1, addPolicy_same ha h2⟩

/-- the implicit internal and the implicit tailscale policy are added alike -/
theorem addUnlessEmpty_same {P : Params} {l l' : List Name} (hl : l.Perm l') (iss : List Issuer) (m : Nat)
    {pols pols' : List Policy} (h : samePolicies pols pols') :
    samePolicies (if l.isEmpty then pols else addPolicy P ⟨l, iss, m⟩ pols)
      (if l'.isEmpty then pols' else addPolicy P ⟨l', iss, m⟩ pols') := by
  rw [hl.isEmpty_eq]
  split
  · exact h
  · exact addPolicy_same (ap := ⟨l, iss, m⟩) (ap' := ⟨l', iss, m⟩) ⟨hl, rfl, rfl⟩ h

theorem createPolicies_same {P : Params} (pols : List Policy) {il il' tl tl' : List Name}
    (hi : il.Perm il') (ht : tl.Perm tl') :
    samePolicies (createPolicies P pols il tl) (createPolicies P pols il' tl') := by
  unfold createPolicies withTailscale withInternal
  exact addUnlessEmpty_same ht _ _ (addUnlessEmpty_same hi _ _ (samePolicies_refl _))

/-- the automation policies are the same (up to the order of the subjects of the implicit
    internal / tailscale policies) for every iteration order: marking commutes, and the
    implicit policies collect the processed names through a filter -/
theorem policies_same (c : Config) (P : Params) (π π' : Orders) :
    samePolicies (policiesOf c P π) (policiesOf c P π') := by
  have hp := processed_perm c P π π'
  unfold policiesOf
  simp only [loopB_eq]
  rw [hp.foldl_eq' (fun x _ y _ z => markIf_comm P c.policies z x y)]
  exact createPolicies_same _ (hp.filter _) (hp.filter _)

/-! ### an explicit policy with issuers survives phase 1 -/

theorem policyFor_markPolicy {P : Params} {d : Name} {p : Policy} (hp : p.issuers ≠ []) (e : Name) :
    ∀ {l : List Policy}, policyFor P d l = some p → policyFor P d (markPolicy P e l) = some p
  | q :: l, h => by
    have hadm : admits P (markOne P q) d = admits P q d := by simp [admits, markOne_subjects]
    rw [policyFor_cons] at h
    rw [markPolicy_cons]
    split <;> rw [policyFor_cons] <;> split at h
    · -- `q` is the policy `d` resolves to: it has issuers, so marking leaves it alone
      cases h
      simp [*, markOne, isEmpty_iff]
    · simp [*]
    · simp [*]
    · simpa [*] using policyFor_markPolicy hp e h

theorem policyFor_loopB_pols {P : Params} {d : Name} {p : Policy} (hp : p.issuers ≠ []) {pols : List Policy}
    (h : policyFor P d pols = some p) (π : Orders) (uniq : List Name) :
    policyFor P d (loopB P pols π uniq).pols = some p := by
  rw [loopB_eq]
  refine foldlRecOn (motive := (policyFor P d · = some p)) _ _ h fun l h e _ => ?_
  unfold markIf
  split
  · exact policyFor_markPolicy hp e h
  · exact h

theorem policyFor_map_fillDefault {P : Params} {d : Name} {p : Policy} (hp : p.issuers ≠ []) :
    ∀ {l : List Policy}, policyFor P d l = some p → policyFor P d (l.map fillDefault) = some p
  | q :: l, h => by
    have hadm : admits P (fillDefault q) d = admits P q d := by
      unfold fillDefault; split <;> rfl
    rw [map_cons, policyFor_cons, hadm]
    rw [policyFor_cons] at h
    split at h
    · cases h
      simp [*, fillDefault, isEmpty_iff]
    · simpa [*] using policyFor_map_fillDefault hp h

/-- the fresh base policy (no subjects) is appended behind every existing policy -/
theorem policyFor_addBase {P : Params} {d : Name} (l : List Policy) (h : (policyFor P d l).isSome = true) :
    policyFor P d (addPolicy P newBase l) = policyFor P d l := by
  fun_induction addPolicy P newBase l
  · simp [policyFor] at h
  · rename_i hc; simp [supersetOf, newBase] at hc
  · rename_i ih
    simp only [policyFor_cons] at h ⊢
    split
    · rfl
    · rename_i ha; simp only [ha] at h; exact ih h

/-- of the policies `createAutomationPolicies` adds, only the implicit internal one can come
    in front of the policy `p` the name resolved to -/
theorem policyFor_createPolicies_explicit {P : Params} {d : Name} {p : Policy} (hp : p.issuers ≠ [])
    {pols : List Policy} (h : policyFor P d pols = some p) (il : List Name) {tl : List Name}
    (hts : ∀ o ∈ tl, P.mw d o = false) :
    policyFor P d (createPolicies P pols il tl) = some p ∨
    ∃ q, policyFor P d (createPolicies P pols il tl) = some q ∧ q.issuers = [Issuer.internal] := by
  have h2 := policyFor_map_fillDefault hp h
  have h3 : policyFor P d (withBase P (pols.map fillDefault)) = some p := by
    unfold withBase
    split
    · exact h2
    · rw [policyFor_addBase _ (by rw [h2]; rfl)]; exact h2
  rw [createPolicies, policyFor_withTailscale hts, withInternal]
  split
  · exact .inl h3
  · rcases policyFor_addPolicy_cases (P := P) (d := d)
      (ap := ⟨il, [Issuer.internal], (baseOf (pols.map fillDefault)).managers⟩) (withBase P (pols.map fillDefault)) with ⟨_, h⟩ | h
    · exact .inr ⟨_, h, rfl⟩
    · exact .inl (h.trans h3)

end CaddyModel.C11
