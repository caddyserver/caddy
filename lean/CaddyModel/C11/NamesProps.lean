/-
C11 — theorems about the byte-level name predicates (`Names.lean`), over ALL byte strings;
`realParams`, the parameters of the phase-1 model computed from the name strings (no certmagic
value is a free parameter except the loaded-certificate lookup and the HTTP host matcher; the
phase-1 theorem instantiated with them is `internal_issuer_for_nonpublic_real`, Props.lean);
and what phase 2 manages of the names phase 1 hands it.
-/
import CaddyModel.C11.Names
import CaddyModel.C10.GlueLemmas
import CaddyModel.Util.StrLemmas

namespace CaddyModel.C11

theorem matchWildcard_refl (s : Bytes) : matchWildcard s s = true := by
  simp [matchWildcard]

theorem public_implies_cert (s : Bytes) (h : qualifiesForPublic s = true) : qualifiesForCert s = true := by
  simp only [qualifiesForPublic, Bool.and_eq_true] at h
  exact h.1.1

theorem internal_not_public (s : Bytes) (h : isInternal s = true) : qualifiesForPublic s = false := by
  simp [qualifiesForPublic, h]

/-- localhost and every name under `.localhost`, `.local`, `.internal`, `.home.arpa` (written
    in any case, with or without a trailing dot or a port) is internal — hence never public -/
theorem local_suffix_internal (s : Bytes)
    (h : internalKey s = str "localhost" ∨ hasSuffixB (str ".localhost") (internalKey s) = true ∨
      hasSuffixB (str ".local") (internalKey s) = true ∨ hasSuffixB (str ".internal") (internalKey s) = true ∨
      hasSuffixB (str ".home.arpa") (internalKey s) = true) :
    isInternal s = true ∧ qualifiesForPublic s = false := by
  have hi : isInternal s = true := by
    unfold isInternal
    rcases h with h | h | h | h | h <;> simp [h]
  exact ⟨hi, internal_not_public s hi⟩

example : isInternal (str "App.LocalHost.") = true ∧ isInternal (str "h.internal:8443") = true ∧
    isInternal (str "10.1.2.3") = true ∧ isInternal (str "::ffff:192.168.0.1") = true ∧ isInternal (str "fe80::1") = true ∧
    isInternal (str "8.8.8.8") = false ∧ isInternal (str "172.32.0.1") = false ∧ isInternal (str "internal.example.com") = false := by
  -- one literal each: the kernel is slow on `String.toList` of a literal, fast on the byte list
  rw [str_ofList, str_ofList, str_ofList, str_ofList, str_ofList, str_ofList, str_ofList, str_ofList]
  decide +kernel

/-- every private IPv4 address of the CIDR list is internal, for all octets -/
theorem private_v4_internal (a b c d : Nat)
    (h : a = 127 ∨ (a = 0 ∧ b = 0) ∨ a = 10 ∨ (a = 172 ∧ 16 ≤ b ∧ b ≤ 31) ∨ (a = 192 ∧ b = 168) ∨ (a = 169 ∧ b = 254)) :
    inPrivateNet ([0, 0, 0, 0, 0, 0, 0, 0, 0, 0, 255, 255] ++ [a, b, c, d]) = true := by
  simpa [inPrivateNet, to4, and_assoc, or_assoc] using h

def realParams (names : List Bytes) (loaded : Name → Bool) (hm : Name → Name → Bool) : Params :=
  { q := fun d => match names[d]? with | some s => qualifiesForCert s | none => false
    pub := fun d => match names[d]? with | some s => qualifiesForPublic s | none => false
    ip := fun d => match names[d]? with | some s => isIP s | none => false
    internal := fun d => match names[d]? with | some s => isInternal s | none => false
    loaded := loaded
    ts := fun d => match names[d]? with | some s => isTailscale s | none => false
    mw := fun d e => match names[d]?, names[e]? with | some s, some t => matchWildcard s t | _, _ => false
    hm := hm }

theorem realParams_mw_refl (names : List Bytes) (loaded : Name → Bool) (hm : Name → Name → Bool) (d : Name)
    (hd : d < names.length) : (realParams names loaded hm).mw d d = true := by
  have : names[d]? = some names[d] := by simp [hd]
  simp only [realParams, this, matchWildcard_refl]

open CaddyModel.C10 (splitOn joinWith splitOn_eq joinWith_eq)

/-- `L'` is `L` with some labels replaced by `*` -/
def StarRel : List Bytes → List Bytes → Prop
  | [], [] => True
  | a :: L, b :: L' => (b = a ∨ b = [star]) ∧ StarRel L L'
  | _, _ => False

theorem StarRel.refl : ∀ L : List Bytes, StarRel L L
  | [] => trivial
  | _ :: L => ⟨Or.inl rfl, StarRel.refl L⟩

theorem StarRel.append {A A' B B' : List Bytes} (h1 : StarRel A A') (h2 : StarRel B B') : StarRel (A ++ B) (A' ++ B') := by
  fun_induction StarRel A A'
  · simpa using h2
  · rename_i ih; exact ⟨h1.1, ih h1.2⟩
  · cases h1

theorem StarRel.dot_free {L L' : List Bytes} (h : StarRel L L') (hf : ∀ l ∈ L, dot ∉ l) : ∀ l ∈ L', dot ∉ l := by
  fun_induction StarRel L L'
  · simp
  · rename_i ih
    obtain ⟨hf1, hf2⟩ := List.forall_mem_cons.mp hf
    refine List.forall_mem_cons.mpr ⟨?_, ih h.2 hf2⟩
    rcases h.1 with rfl | rfl
    · exact hf1
    · simp [star, dot]
  · cases h

theorem StarRel.length_eq {L L' : List Bytes} (h : StarRel L L') : L.length = L'.length := by
  fun_induction StarRel L L'
  · rfl
  · rename_i ih; simp [ih h.2]
  · cases h

theorem StarRel.eq_of_no_star {L L' : List Bytes} (h : StarRel L L') (hs : ∀ l ∈ L', l ≠ [star]) : L = L' := by
  fun_induction StarRel L L'
  · rfl
  · rename_i ih
    rw [h.1.resolve_right (hs _ List.mem_cons_self), ih h.2 fun l hl => hs l (List.mem_cons_of_mem _ hl)]
  · cases h

theorem StarRel.of_append {S : List Bytes} : ∀ {L P : List Bytes}, StarRel L (P ++ S) →
    ∃ A B, L = A ++ B ∧ StarRel A P ∧ StarRel B S
  | L, [], h => ⟨[], L, rfl, trivial, h⟩
  | [], _ :: _, h => by cases h
  | a :: L, p :: P, h => by
    obtain ⟨A, B, e, h1, h2⟩ := StarRel.of_append (L := L) (P := P) h.2
    exact ⟨a :: A, B, by rw [e]; rfl, ⟨h.1, h1⟩, h2⟩

theorem wildLoop_starRel (target : Bytes) (rest done : List Bytes) (h : wildLoop target done rest = true) :
    ∃ rest', StarRel rest rest' ∧ joinWith [dot] (done ++ rest') = target := by
  fun_induction wildLoop target done rest
  · cases h
  · rename_i l rest _ ih
    obtain ⟨r', h1, h2⟩ := ih h
    exact ⟨l :: r', ⟨.inl rfl, h1⟩, by simpa [List.append_assoc] using h2⟩
  · rename_i done l rest _ ih
    rcases Bool.or_eq_true _ _ ▸ h with h | h
    · exact ⟨[star] :: rest, ⟨.inr rfl, StarRel.refl rest⟩, by simpa [List.append_assoc] using h⟩
    · obtain ⟨r', h1, h2⟩ := ih h
      exact ⟨[star] :: r', ⟨.inr rfl, h1⟩, by simpa [List.append_assoc] using h2⟩

theorem wildLoop_labels {s t : Bytes} (h : wildLoop t [] (splitOn dot s) = true) :
    StarRel (splitOn dot s) (splitOn dot t) := by
  obtain ⟨L', hrel, hjoin⟩ := wildLoop_starRel t (splitOn dot s) [] h
  rw [splitOn_eq] at hrel ⊢
  rw [joinWith_eq] at hjoin
  have hne : L' ≠ [] := List.ne_nil_of_length_pos (hrel.length_eq ▸ List.length_pos_iff.mpr (Go.split_ne_nil dot s))
  rw [← hjoin, List.nil_append, Go.split_join dot hne (hrel.dot_free fun _ => Go.not_mem_of_mem_split)]
  exact hrel

def tsSuffix : Bytes := [46, 116, 115, 46, 110, 101, 116]   -- ".ts.net"

theorem isTailscale_iff (x : Bytes) : isTailscale x = true ↔ ∃ pre, lowerB x = pre ++ tsSuffix := by
  unfold isTailscale lowerB
  rw [decide_eq_true_eq, List.take_reverse, List.reverse_reverse]
  constructor
  · intro h
    exact ⟨_, (List.take_append_drop _ _).symm.trans (congrArg _ h)⟩
  · rintro ⟨pre, h⟩
    simp [h, tsSuffix]

/-- **a tailscale pattern matches tailscale names only**: if `MatchWildcard(d, o)` and `o` ends
    in `.ts.net` (any case), so does `d` — for all byte strings.  (The hypothesis `hts` of
    `internal_issuer_for_nonpublic`, as a theorem.) -/
theorem tailscale_pattern_matches_tailscale_only (d o : Bytes) (hm : matchWildcard d o = true)
    (ho : isTailscale o = true) : isTailscale d = true := by
  obtain ⟨pre, hpre⟩ := (isTailscale_iff o).mp ho
  unfold matchWildcard at hm
  simp only [Bool.or_eq_true, Bool.and_eq_true] at hm
  rcases hm with hm | ⟨_, hm⟩
  · have : lowerB d = lowerB o := by simpa using hm
    exact (isTailscale_iff d).mpr ⟨pre, by rw [this, hpre]⟩
  · -- the labels of `o` are those of `d` with some starred, and they end in `ts`, `net`
    have hrel := wildLoop_labels hm
    have hsplit : Go.split dot (lowerB o) = Go.split dot pre ++ [[116, 115], [110, 101, 116]] := by
      have e1 : pre ++ tsSuffix = pre ++ dot :: ([116, 115] ++ dot :: [110, 101, 116]) := rfl
      rw [hpre, e1, Go.split_append_sep, Go.split_append_sep]
      simp [Go.split_of_not_mem, dot]
    rw [splitOn_eq, hsplit] at hrel
    -- so the labels of `d` end in `ts`, `net` too, after at least one more label
    obtain ⟨A, B, hL, hA, hB⟩ := hrel.of_append
    have hA' : A ≠ [] := List.ne_nil_of_length_pos (hA.length_eq ▸ List.length_pos_iff.mpr (Go.split_ne_nil dot pre))
    refine (isTailscale_iff d).mpr ⟨Go.join dot A, ?_⟩
    have := Go.join_split dot (lowerB d)
    rw [hL, hB.eq_of_no_star (by simp [star]), Go.join_append dot hA' (by simp)] at this
    rw [← this]
    rfl

example : matchWildcard (str "Node.TS.net") (str "*.ts.NET") = true ∧ isTailscale (str "*.ts.NET") = true := by decide +kernel

theorem realParams_ts_mw {names : List Bytes} {loaded : Name → Bool} {hm : Name → Name → Bool} {d o : Name}
    (hto : (realParams names loaded hm).ts o = true) (hmw : (realParams names loaded hm).mw d o = true) :
    (realParams names loaded hm).ts d = true := by
  simp only [realParams] at hto hmw ⊢
  split at hmw
  · rename_i hd ho
    simp only [hd, ho] at hto ⊢
    exact tailscale_pattern_matches_tailscale_only _ _ hmw hto
  · cases hmw

theorem starCands_contain_star : ∀ (rest done : List Bytes), ∀ cand ∈ starCands done rest, star ∈ cand
  | [], _, _, h => by simp [starCands] at h
  | l :: rest, done, cand, h => by
    unfold starCands at h
    split at h
    · exact starCands_contain_star rest _ cand h
    · rcases List.mem_cons.mp h with rfl | h
      · exact joinWith_eq dot ▸ Go.mem_join (l := [star]) (by simp) (by simp)
      · exact starCands_contain_star rest _ cand h

/-- **phase 2 hands over every name or a wildcard among the names that covers it**: each name
    of `allCertDomains` is in `TLS.managing` afterwards, unless one of the cumulative-star
    forms of it (`*.b.c`, `*.*.c`, … of `a.b.c`) is itself a name of `allCertDomains` — and
    nothing outside `allCertDomains` is managed -/
theorem phase2_manages_or_covers (names : List Bytes) (certs : List Name) (d : Name) (hd : d ∈ certs) :
    d ∈ managedOf names certs ∨
    ∃ s e cand, names[d]? = some s ∧ e ∈ certs ∧ cand ∈ starCands [] (splitOn dot s) ∧ names[e]? = some cand := by
  by_cases hc : coveredByManagedWildcard names certs d = true
  · right
    unfold coveredByManagedWildcard at hc
    cases hs : names[d]? with
    | none => simp [hs] at hc
    | some s =>
      simp only [hs] at hc
      split at hc
      · cases hc
      · simp only [List.any_eq_true, beq_iff_eq] at hc
        obtain ⟨cand, h1, e, h2, h3⟩ := hc
        exact ⟨s, e, cand, rfl, h2, h1, h3⟩
  · left
    exact List.mem_filter.mpr ⟨hd, by simpa using hc⟩

theorem managedOf_subset (names : List Bytes) (certs : List Name) (d : Name) (h : d ∈ managedOf names certs) : d ∈ certs :=
  (List.mem_filter.mp h).1

/-- if no name of `allCertDomains` contains a `*`, phase 2 hands over exactly `allCertDomains` -/
theorem phase2_manages_all_without_wildcards (names : List Bytes) (certs : List Name)
    (h : ∀ e ∈ certs, ∀ s, names[e]? = some s → star ∉ s) : managedOf names certs = certs := by
  unfold managedOf
  apply List.filter_eq_self.mpr
  intro d hd
  rcases phase2_manages_or_covers names certs d hd with h1 | ⟨s, e, cand, _, he, hc, hn⟩
  · exact (List.mem_filter.mp h1).2
  · exact absurd (starCands_contain_star _ _ cand hc) (h e he cand hn)

example : managedOf [[], str "x.w.test", str "*.w.test", str "a.test"] [1, 2, 3] = [2, 3] := by decide +kernel

end CaddyModel.C11
