/-
C11 — the property theorems, with the definitions their statements use (the exclusion
`singlePort`, the source-fact vocabulary `RangeRow` … `sortedRangesOK`), the load histories
`histA` / `histB` of the history witness, and the examples that instantiate them.

Statement: for every HTTP app configuration, each hostname named in a host matcher of a
server that is not confined to the HTTP port, and not excluded by the skip settings, gets
certificate management (an applicable automation policy, with the internal issuer for
names no public CA can certify) and, where the HTTP port carries no user route for it, an
HTTP to HTTPS redirect to the right port; servers confined to the HTTP port get neither.
The resulting servers, routes and policies are the same every time the same configuration
is provisioned.

Every theorem about phase 1 quantifies over ALL configurations, ALL values of the certmagic
predicates (`Params`) and ALL iteration orders `π : Orders` of the Go maps phase 1 ranges over.
Clauses the unchanged tree violates are proved false in `Witness.lean` (`…_full_fails`)
and proved here under an explicit decidable exclusion (`…_partial`).
-/
import CaddyModel.C11.Witness
import CaddyModel.C11.CaddyfileProps  -- not used here: `CaddyModel.lean` and `Audit.lean` reach its theorems through this file
import CaddyModel.C11.NamesProps
import CaddyModel.Gen.Glue
import CaddyModel.C11.History
import CaddyModel.Gen.Consts

namespace CaddyModel.C11

/-- names: 0 = "", 1 = a public name, 2 = a local name, 3 = a tailscale name -/
def exP : Params :=
  { q := fun d => d == 1 || d == 2 || d == 3, pub := fun d => d == 1 || d == 3, ip := fun _ => false,
    internal := fun d => d == 2, loaded := fun _ => false, ts := fun d => d == 3, mw := fun a b => a == b,
    hm := fun a b => a == b }

def exTcp (p : Nat) : Addr := ⟨0, [], p, p⟩

/-- `s0` serves names 1 2 3 on :8443; `s1` is the user's own HTTP server on :80 with a
    host route for name 1 and a catch-all -/
def exCfg : Config :=
  ⟨0, 0,
   [⟨[exTcp 8443], false, false, false, false, 0, [], [], [⟨[[1, 2]]⟩, ⟨[[3]]⟩]⟩,
    ⟨[exTcp 80], false, false, false, false, 0, [], [], [⟨[[1]]⟩, ⟨[]⟩]⟩],
   [], none⟩

/-- **coverage.** Every name that qualifies (named by a server that is not disabled and not
    confined to the HTTP port, not skipped, a certifiable subject without a loaded
    certificate) is handed to certificate management and some automation policy applies to
    it — or it is a tailscale name no explicit policy lists, and then it sits in an implicit
    policy with the tailscale certificate manager.  For every iteration order. -/
theorem coverage (c : Config) (P : Params) (π : Orders) (d : Name) (h : qualifies c P d = true) :
    (d ∈ certsOf c P π ∧ (policyFor P d (policiesOf c P π)).isSome = true) ∨
    (P.ts d = true ∧ explicitPolicy c d = false ∧ ∃ p ∈ policiesOf c P π, d ∈ p.subjects ∧ 0 < p.managers) := by
  by_cases ht : explicitPolicy c d = false ∧ P.ts d = true
  · exact .inr ⟨ht.2, ht.1, createPolicies_tailscale P _ _ ((mem_tailscaleOf c P π d).mpr ⟨h, ht⟩)⟩
  · exact .inl ⟨(mem_certsOf c P π d).mpr ⟨h, ht⟩,
      policyFor_isSome_of_catchAll (createPolicies_has_catchAll P _ _ _)⟩

example : qualifies exCfg exP 1 = true ∧ qualifies exCfg exP 3 = true := by decide

example : 2 ∈ certsOf exCfg exP Orders.id := by decide

/-- **internal issuer.** A managed name that no public CA can certify and that no explicit
    policy lists resolves (`getAutomationPolicyForName`) to a policy whose only issuer is the
    internal one.  Hypotheses on certmagic: `MatchWildcard d d`, and a tailscale subject
    never matches a non-tailscale name. -/
theorem internal_issuer_for_nonpublic (c : Config) (P : Params) (π : Orders) (d : Name)
    (hd : d ∈ certsOf c P π) (hpub : P.pub d = false) (hexp : explicitPolicy c d = false)
    (hrefl : P.mw d d = true) (hts : ∀ o, P.ts o = true → P.mw d o = false) :
    ∃ p, policyFor P d (policiesOf c P π) = some p ∧ p.issuers = [Issuer.internal] ∧ d ∈ p.subjects := by
  obtain ⟨hq, hnt⟩ := (mem_certsOf c P π d).mp hd
  have htsd : P.ts d = false := by simpa [hexp] using hnt
  have hin := (mem_internalOf c P π d).mpr ⟨hq, hexp, htsd, .inl hpub⟩
  exact ⟨_, policyFor_createPolicies_internal _ hin hrefl
    fun o ho => hts o ((mem_tailscaleOf c P π o).mp ho).2.2, rfl, hin⟩

example : 2 ∈ certsOf exCfg exP Orders.id ∧ exP.pub 2 = false ∧ explicitPolicy exCfg 2 = false := by decide

/-- names: 1 = "wiki.h.internal", 2 = "localhost", 3 = "*.h.internal" (matches name 1 only) -/
def wildP : Params :=
  { q := fun d => d == 1 || d == 2 || d == 3, pub := fun _ => false, ip := fun _ => false,
    internal := fun _ => true, loaded := fun _ => false, ts := fun _ => false,
    mw := fun a b => a == b || (a == 1 && b == 3), hm := fun a b => a == b || (a == 1 && b == 3) }

/-- the user has a policy for the wildcard `*.h.internal` with the public ACME issuer; the
    server names `wiki.h.internal` (covered by it) and `localhost` (not covered) -/
def wildCfg : Config :=
  ⟨0, 0, [⟨[exTcp 443], false, false, false, false, 0, [], [], [⟨[[1]]⟩, ⟨[[2]]⟩]⟩],
   [⟨[3], [Issuer.acme], 0⟩], none⟩

/-- the instance of `internal_issuer_for_nonpublic` the seeded change
    `C11-internal-policy-after-user-wildcard` breaks: the implicit internal policy is placed in
    front of the user's partially covering wildcard policy, so the covered name resolves to it -/
example : 1 ∈ certsOf wildCfg wildP Orders.id ∧ wildP.pub 1 = false ∧ explicitPolicy wildCfg 1 = false ∧
    policiesOf wildCfg wildP Orders.id =
      [⟨[1, 2], [Issuer.internal], 0⟩, ⟨[3], [Issuer.acme], 0⟩, ⟨[], [Issuer.acme], 0⟩] ∧
    policyFor wildP 1 (policiesOf wildCfg wildP Orders.id) = some ⟨[1, 2], [Issuer.internal], 0⟩ := by decide

/-- **internal issuer, with certmagic's real predicates**: the same statement for the
    parameters computed from the name STRINGS by the byte-level models of `Names.lean`
    (`SubjectQualifiesForPublicCert`, `MatchWildcard`, `isTailscaleDomain`, …) — the two
    hypotheses about certmagic are theorems over all byte strings
    (`matchWildcard_refl`, `tailscale_pattern_matches_tailscale_only`).  What remains a
    parameter: the loaded-certificate lookup and the HTTP host matcher (neither is used here). -/
theorem internal_issuer_for_nonpublic_real (c : Config) (names : List Bytes) (loaded : Name → Bool)
    (hm : Name → Name → Bool) (π : Orders) (d : Name) (hlt : d < names.length)
    (hd : d ∈ certsOf c (realParams names loaded hm) π)
    (hpub : qualifiesForPublic names[d] = false) (hexp : explicitPolicy c d = false) :
    ∃ p, policyFor (realParams names loaded hm) d (policiesOf c (realParams names loaded hm) π) = some p ∧
      p.issuers = [Issuer.internal] ∧ d ∈ p.subjects := by
  have hget : names[d]? = some names[d] := by simp [hlt]
  refine internal_issuer_for_nonpublic c _ π d hd ?_ hexp (realParams_mw_refl names loaded hm d hlt)
    fun o hto => Bool.eq_false_iff.mpr fun hmw => ((mem_certsOf c _ π d).mp hd).2 ⟨hexp, realParams_ts_mw hto hmw⟩
  simp only [realParams, hget, hpub]

example : qualifiesForPublic (str "wiki.h.internal") = false ∧ matchWildcard (str "wiki.h.internal") (str "*.h.internal") = true ∧
    isTailscale (str "wiki.h.internal") = false := by
  rw [str_ofList, str_ofList]
  decide +kernel

/-- **the user's explicit choice of issuers survives automatic HTTPS** (the consumer side of the
    TLS app's policy list: `getAutomationPolicyForName` after phase 1).  If, in the configured
    policies — as written in JSON, or as `buildTLSApp` emits them for `tls internal`, `tls
    <issuer>` … in a Caddyfile — the first policy that admits `d` is `p` and `p` names issuers,
    then after phase 1 `d` resolves to `p` itself or to the implicit internal-issuer policy:
    marking, default issuers, the base policy, the implicit internal and tailscale policies
    never put a policy with OTHER issuers in front of it.  (`hts`: a tailscale subject does not
    match `d`, e.g. by `tailscale_pattern_matches_tailscale_only` when `d` is no tailscale name.) -/
theorem explicit_issuer_choice_survives (c : Config) (P : Params) (π : Orders) (d : Name) (p : Policy)
    (hp : policyFor P d c.policies = some p) (hiss : p.issuers ≠ [])
    (hts : ∀ o, P.ts o = true → P.mw d o = false) :
    policyFor P d (policiesOf c P π) = some p ∨
    ∃ q, policyFor P d (policiesOf c P π) = some q ∧ q.issuers = [Issuer.internal] :=
  policyFor_createPolicies_explicit hiss (policyFor_loopB_pols hiss hp π _) _
    fun o ho => hts o ((mem_tailscaleOf c P π o).mp ho).2.2

example : policyFor exP 1 [⟨[1], [Issuer.internal], 0⟩] = some ⟨[1], [Issuer.internal], 0⟩ := by decide

/-- **what a server contributes depends on that server alone**: if server `s` makes `d`
    qualify in one configuration, `d` qualifies in every configuration with the same HTTP port
    that contains `s` — whatever the other servers and THEIR skip lists are (the seeded change
    `C11-skip-set-shared-across-servers` shares one skip set between the servers) -/
theorem skip_is_per_server (c c' : Config) (P : Params) (s : Server) (d : Name)
    (hport : httpPort c = httpPort c') (hs' : s ∈ c'.servers) (h : qualifiesOn c P s d = true) :
    qualifies c' P d = true := by
  exact qualifies_iff.mpr ⟨s, hs', by simpa [qualifiesOn, active, hport] using h⟩

example : qualifiesOn exCfg exP ⟨[exTcp 8443], false, false, false, false, 0, [], [], [⟨[[1, 2]]⟩, ⟨[[3]]⟩]⟩ 1 = true := by decide

/-- **HTTP-only servers get neither.** A server that is disabled or listens only on the HTTP
    port keeps its TLS connection policies (none are added) and is marked disabled; a name
    that only such servers name is neither managed nor listed by any redirect route.
    (`d ≠ 0`: name 0 is the empty string, the code's key for the catch-all redirect.) -/
theorem http_only_server_gets_nothing (c : Config) (P : Params) (π : Orders) (hres : c.reserved = none) :
    (∀ s ∈ c.servers, active c s = false →
      ∃ kv ∈ serversOf c P π, kv.2.listen = s.listen ∧ kv.2.tls = s.tls ∧
        kv.2.disabled = (s.disabled || !usesOther s.listen (httpPort c)) ∧
        ∀ rt ∈ userRoutes s.routes 0, rt ∈ kv.2.routes) ∧
    (∀ d, d ≠ 0 → (∀ s ∈ c.servers, hosts s d = true → active c s = false) →
      d ∉ certsOf c P π ∧ ∀ kv ∈ serversOf c P π, ∀ rt ∈ kv.2.routes, rt.lists d = false) := by
  constructor
  · intro s hs ha
    rw [serversOf_eq]
    obtain ⟨i, hi⟩ := exists_initSrvs hs
    obtain ⟨y, hy, hrel⟩ := (loopF_rel c (!(certsOf c P π).isEmpty) π (rsOf c P π)).bwd _ hi
    refine ⟨y, (mem_finalServers hres).mpr (.inl hy), hrel.listen, ?_, hrel.disabled, hrel.mono⟩
    rw [hrel.tls]
    simp [srvInit, tlsOut, ha]
  · intro d hd0 hall
    constructor
    · intro hin
      obtain ⟨s, hs, hq⟩ := qualifies_iff.mp (certs_only_qualifying c P π d hin)
      obtain ⟨ha, _, hd, _⟩ := qualifiesOn_iff.mp hq
      rw [hall s hs (hosts_iff.mpr hd)] at ha; cases ha
    · intro kv hkv rt hrt
      rw [Bool.eq_false_iff]
      intro hl
      obtain ⟨s, hs, ⟨hr, hk⟩, _⟩ := serversOf_lists c P π hkv hrt hl
      rcases mem_keysOf_cases.mp hk with ⟨_, h0⟩ | ⟨_, hds⟩
      · exact hd0 h0
      · have := hall s hs (hosts_iff.mpr hds)
        rw [active_of_engaged (redirOn_iff.mp hr).1] at this; cases this

example : active exCfg ⟨[exTcp 80], false, false, false, false, 0, [], [], [⟨[[1]]⟩, ⟨[]⟩]⟩ = false := by decide

/-- **port rule.** Every redirect route of every resulting server either names no port, or
    names the start port of a listener of a redirect-enabled server — and never 80, 443, the
    configured HTTP port or the configured HTTPS port. -/
theorem redirect_port_rule (c : Config) (P : Params) (π : Orders) {kv : Nat × SrvOut} {rt : Route}
    (hkv : kv ∈ serversOf c P π) (hrt : rt ∈ kv.2.routes) (hred : rt.isRedir = true) :
    rt.port = 0 ∨
    (rt.port ≠ httpPort c ∧ rt.port ≠ httpsPort c ∧ rt.port ≠ 80 ∧ rt.port ≠ 443 ∧
      ∃ s ∈ c.servers, redirOn c s = true ∧ ∃ a ∈ s.listen, a.sp = rt.port) := by
  rcases serversOf_redir_sound c P π hkv hrt hred with h | ⟨R, h⟩
  · exact .inl (h ▸ portRule_httpsPort c)
  · obtain ⟨a, doms, _, rfl, h3, h4⟩ := rsOf_sound c P π h
    obtain ⟨d, hd⟩ := List.exists_mem_of_ne_nil doms h3
    obtain ⟨s, hs, hc, ha⟩ := h4 d hd
    rw [mkRedirRoute_port]
    unfold portRule
    split
    · rename_i hp
      exact .inr ⟨hp.1, hp.2.1, hp.2.2.1, hp.2.2.2, s, hs, hc.1, a, ha, rfl⟩
    · exact .inl rfl

example : ∃ kv ∈ serversOf exCfg exP Orders.id, ∃ rt ∈ kv.2.routes, rt.isRedir = true ∧ rt.port = 8443 := by decide

/-- **redirect exists** (the provable part; the full clause is false: `redirect_exists_full_fails`, Witness.lean).
    If server `s` is not disabled, not confined to the HTTP port, has redirects enabled and
    names `d` (not skipped), then some resulting server that listens on the HTTP port of the
    network/host of a listener `a` of a redirect-enabled server naming `d` holds a redirect
    route that covers `d` (lists it, or has no host matcher) and names `a`'s port by the port
    rule.  Exclusions: no user server carries the reserved name of the generated redirect
    server, and either some name has a managed certificate or no configured server listens on
    any redirect address (the `len(uniqueDomainsForCerts) != 0` test of issue 4829). -/
theorem redirect_exists_partial (c : Config) (P : Params) (π : Orders) (hres : c.reserved = none)
    {s : Server} {d : Name} (hs : s ∈ c.servers) (h : redirectsOn c s d = true)
    (hins : (certsOf c P π).isEmpty = false ∨
      ∀ s' ∈ c.servers, ∀ a, hasListener s'.listen (redirAddr c a) = false) :
    ∃ a, (∃ s' ∈ c.servers, redirOn c s' = true ∧ d ∈ keysOf s' ∧ a ∈ s'.listen) ∧
      ∃ kv ∈ serversOf c P π, hasListener kv.2.listen (redirAddr c a) = true ∧
        ∃ rt ∈ kv.2.routes, rt.isRedir = true ∧ rt.covers d = true ∧ rt.port = portRule c a.sp := by
  obtain ⟨a, ha⟩ := mainLoop_rd_complete c P π hs (contributes_of_redirectsOn h)
  obtain ⟨s', hs', hc, ha'⟩ := mainLoop_rd_mem c P π ha
  exact ⟨a, ⟨s', hs', hc.1, hc.2, ha'⟩,
    redirect_of_kept c P π hres ha (hins.imp_right fun h s' hs' => h s' hs' a)⟩

example : redirectsOn exCfg ⟨[exTcp 8443], false, false, false, false, 0, [], [], [⟨[[1, 2]]⟩, ⟨[[3]]⟩]⟩ 2 = true ∧
    (certsOf exCfg exP Orders.id).isEmpty = false := by decide

/-- **every interface on the HTTPS port gets its redirect** (the `bind` case, upstream issue
    3443; what the seeded change `C11-redirdomains-overwrite` breaks).  For EVERY listener `a`
    on the HTTPS port of a redirect-enabled server naming `d` — not just for one of them — some
    resulting server that listens on `a`'s interface at the HTTP port holds a redirect route
    covering `d`, without an explicit port.  Exclusions as in `redirect_exists_partial`, the second for this `a` only. -/
theorem redirect_on_every_https_interface (c : Config) (P : Params) (π : Orders) (hres : c.reserved = none)
    {s : Server} {d : Name} {a : Addr} (hs : s ∈ c.servers) (h : redirectsOn c s d = true)
    (ha : a ∈ s.listen) (hp : a.sp = httpsPort c)
    (hins : (certsOf c P π).isEmpty = false ∨ ∀ s' ∈ c.servers, hasListener s'.listen (redirAddr c a) = false) :
    ∃ kv ∈ serversOf c P π, hasListener kv.2.listen (redirAddr c a) = true ∧
      ∃ rt ∈ kv.2.routes, rt.isRedir = true ∧ rt.covers d = true ∧ rt.port = 0 := by
  obtain ⟨kv, hkv, hl, rt, hrt, h1, h2, h3⟩ := redirect_of_kept c P π hres
    (mainLoop_keeps_https c P π hs (contributes_of_redirectsOn h) ha hp) hins
  exact ⟨kv, hkv, hl, rt, hrt, h1, h2, by rw [h3, hp, portRule_httpsPort]⟩

example : redirectsOn ⟨0, 0, [⟨[exTcp 443, ⟨0, [49], 443, 443⟩], false, false, false, false, 0, [], [], [⟨[[1]]⟩]⟩], [], none⟩
    ⟨[exTcp 443, ⟨0, [49], 443, 443⟩], false, false, false, false, 0, [], [], [⟨[[1]]⟩]⟩ 1 = true := by decide

/-- **position of the inserted redirects.** In every configured server of the result the
    route list is: the user routes up to and including the last one with a host matcher (none
    if no user route has one), then redirect routes, then the remaining user routes — none of
    which has a host matcher — then redirect routes (the appended catch-alls).  So the
    redirects sit after every host-matcher route and before the user's catch-all routes. -/
theorem redirect_position (c : Config) (P : Params) (π : Orders) (hres : c.reserved = none)
    {kv : Nat × SrvOut} (hkv : kv ∈ serversOf c P π) (hk : kv.1 < c.servers.length) :
    ∃ s ∈ c.servers, ∃ mid cs,
      kv.2.routes = (userRoutes s.routes 0).take (findLast (userRoutes s.routes 0)) ++ mid ++
        (userRoutes s.routes 0).drop (findLast (userRoutes s.routes 0)) ++ cs ∧
      (∀ r ∈ mid, r.isRedir = true) ∧ (∀ r ∈ cs, r.isRedir = true) ∧
      (∀ r ∈ (userRoutes s.routes 0).drop (findLast (userRoutes s.routes 0)), r.hasHost = false) := by
  obtain ⟨s, hs, mid, cs, h1, h2, h3⟩ := serversOf_shaped c P π hres hkv hk
  exact ⟨s, hs, mid, cs, h1, h2, h3, (findLast_spec _).2⟩

example : ∃ kv ∈ serversOf exCfg exP Orders.id, kv.1 = 1 ∧
    kv.2.routes = [Route.user 0 true, Route.redir (some [1, 2, 3]) 8443, Route.user 1 false, Route.redir none 0] := by
  decide

/-- **a served redirect obeys the port rule**: whenever the route list of a resulting server
    answers a plain-HTTP request (for any host, known or not) with a redirect, the redirect
    names no port or the start port of a listener of a redirect-enabled server — never 80, 443,
    the HTTP or the HTTPS port -/
theorem served_redirect_port_rule (c : Config) (P : Params) (π : Orders) {kv : Nat × SrvOut}
    (hkv : kv ∈ serversOf c P π) (us : List URoute) (d : Option Name) (p : Nat)
    (h : serve P us d kv.2.routes = Served.redir p) :
    p = 0 ∨ (p ≠ httpPort c ∧ p ≠ httpsPort c ∧ p ≠ 80 ∧ p ≠ 443 ∧
      ∃ s ∈ c.servers, redirOn c s = true ∧ ∃ a ∈ s.listen, a.sp = p) := by
  obtain ⟨hs, hm⟩ := serve_redir_mem h
  exact redirect_port_rule c P π hkv hm rfl

example : ∃ kv ∈ serversOf exCfg exP Orders.id, serve exP [⟨[[1]]⟩, ⟨[]⟩] (some 2) kv.2.routes = Served.redir 8443 := by
  decide

/-- **where the HTTP port carries a user route for a name, that route answers**: in every
    configured server of the result, if one of the user's routes WITH a host matcher matches a
    request for `d`, the request is answered by a user route — the inserted redirects never
    get in front of it -/
theorem user_host_route_answers (c : Config) (P : Params) (π : Orders) (hres : c.reserved = none)
    {kv : Nat × SrvOut} (hkv : kv ∈ serversOf c P π) (hk : kv.1 < c.servers.length) :
    ∃ s ∈ c.servers, ∀ (id : Nat) (r : URoute) (d : Name), s.routes[id]? = some r → r.hms.isEmpty = false →
      userMatches P s.routes id (some d) = true →
      ∃ id', serve P s.routes (some d) kv.2.routes = Served.user id' := by
  obtain ⟨s, hs, mid, cs, he, _, _⟩ := serversOf_shaped c P π hres hkv hk
  refine ⟨s, hs, ?_⟩
  intro id r d hget hne hmatch
  -- the matching route sits in the prefix of user routes before the inserted redirects
  have hmem : Route.user id true ∈ userRoutes s.routes 0 :=
    mem_userRoutes.mpr ⟨id, r, by simp [hne], Nat.zero_le _, hget⟩
  have hsplit := List.take_append_drop (findLast (userRoutes s.routes 0)) (userRoutes s.routes 0)
  have hin : Route.user id true ∈ (userRoutes s.routes 0).take (findLast (userRoutes s.routes 0)) := by
    rw [← hsplit] at hmem
    rcases List.mem_append.mp hmem with h | h
    · exact h
    · have := (findLast_spec (userRoutes s.routes 0)).2 _ h
      simp [Route.hasHost] at this
  have hserves : ∃ rt ∈ (userRoutes s.routes 0).take (findLast (userRoutes s.routes 0)),
      (routeServes P s.routes (some d) rt).isSome = true :=
    ⟨_, hin, by simp [routeServes, hmatch]⟩
  rw [he, List.append_assoc, List.append_assoc, serve_append_left hserves]
  obtain ⟨rt, hrt, hrs⟩ := serve_eq_of_mem hserves
  obtain ⟨id', r', hrt', _, _⟩ := mem_userRoutes.mp (List.mem_of_mem_take hrt)
  rw [hrt'] at hrs
  simp only [routeServes] at hrs
  exact ⟨id', (Option.some.inj (Option.ite_none_right_eq_some.mp hrs).2).symm⟩

example : ∃ kv ∈ serversOf exCfg exP Orders.id, kv.1 = 1 ∧
    serve exP [⟨[[1]]⟩, ⟨[]⟩] (some 1) kv.2.routes = Served.user 0 ∧
    serve exP [⟨[[1]]⟩, ⟨[]⟩] (some 2) kv.2.routes = Served.redir 8443 ∧
    serve exP [⟨[[1]]⟩, ⟨[]⟩] none kv.2.routes = Served.user 1 := by decide

/-- **what the redirect matcher depended on before it was provisioned** (old code: `MatchHost(domains)`
    built by phase 1 and never provisioned; for more than `Gen.matchHostLargeThreshold` names its
    lookup is a binary search that is only correct on a list in MatchHost's own sort order).  What
    phase 1 guarantees instead: `domains` is in the order `redirDomains` is ranged in (byte-wise
    sorted, `sorted_ranges_matches_source`).  With the /repo fix "provision the host matcher of the
    automatic HTTP->HTTPS redirect route" the matcher is de-duplicated and provisioned
    (`mkRedirRoute`) and does not depend on this order; the statement is the dependency of the
    code before that fix (seeded change
    `C11-matchhost-order-breaks-unprovisioned-redirect-matcher` breaks exactly it and is harmless
    for the provisioned matcher). -/
theorem redirect_hosts_sorted_old_code_dependency (R : Name → Name → Prop) (π : Orders) (rd : RD)
    (h : ((pull π.dom rd).map (·.1)).Pairwise R) :
    ∀ ad ∈ domainsByAddr π rd, ad.2.Pairwise (fun x y => R x y ∨ x = y) :=
  fun ad had => (DbaInv.outer (R := R) (pull π.dom rd) [] [] h (by simp) (fun _ h' => nomatch h') ad had).1

example : ∀ ad ∈ domainsByAddr { Orders.id with dom := [1, 2, 3] } (mainLoop exCfg exP Orders.id).2,
    ad.2.Pairwise (fun x y => x < y ∨ x = y) := by decide

/-- **phase 1 runs before anything else of `App.Provision`** (regenerated: the first of the
    tracked calls) — the routes it inserts are provisioned with the user's, and the TLS app it
    asks for (`ctx.App("tls")`) is provisioned on demand before it -/
theorem phase1_runs_first_matches_source : Gen.httpProvisionOrder.head? = some "automaticHTTPSPhase1" := rfl

/-- the Caddyfile global options the `cf` stream drives are registered under these names -/
theorem auto_https_options_registered_match_source :
    ["auto_https", "http_port", "https_port"].all Gen.registeredGlobalOptions.contains = true := by decide +kernel

/-- the large-list threshold the big-server cases of the harness are sized for -/
theorem large_host_list_threshold_matches_source : Gen.matchHostLargeThreshold = some 100 := by decide

/-- every listener of every redirect-enabled server that contributes key `d` starts at port `p₀`
    (the name is served on one port only) -/
def singlePort (c : Config) (d : Name) (p₀ : Nat) : Bool :=
  c.servers.all fun s => !(redirOn c s && (keysOf s).contains d) || s.listen.all fun a => decide (a.sp = p₀)

/-- a name served on a single port is redirected to that port by every redirect route that
    lists it, in every server, for every iteration order -/
theorem redirect_port_deterministic (c : Config) (P : Params) (π : Orders) (d : Name) (p₀ : Nat)
    (h : singlePort c d p₀ = true) {kv : Nat × SrvOut} {rt : Route}
    (hkv : kv ∈ serversOf c P π) (hrt : rt ∈ kv.2.routes) (hl : rt.lists d = true) :
    rt.port = portRule c p₀ := by
  obtain ⟨s, hs, ⟨hr, hk⟩, a, ha, hp⟩ := serversOf_lists c P π hkv hrt hl
  simp only [singlePort, List.all_eq_true, Bool.or_eq_true, Bool.not_eq_true', Bool.and_eq_false_iff,
    decide_eq_true_eq] at h
  rcases h s hs with (h1 | h1) | h1
  · rw [hr] at h1; cases h1
  · have : (keysOf s).contains d = true := by simpa using hk
    rw [this] at h1; cases h1
  · rw [hp, h1 a ha]

/-- **DESIGN F16, the positive side.** For a key `d` that is not `ambName` (it is NOT the case
    that two redirect-enabled servers contribute `d` and one with names of its own listens off
    the HTTPS port) the set of listener addresses kept in `redirDomains[d]` — the addresses the
    redirect routes for `d` are built from, one route per address (`mem_domainsByAddr`,
    `mem_redirServers`) — is the same for every iteration order of the servers map: it is what
    each contributing server keeps on its own (`keep`). -/
theorem redirect_sources_deterministic (c : Config) (P : Params) (π π' : Orders) (d : Name)
    (h : ambName c d = false) (a : Addr) :
    (assocMem (mainLoop c P π).2 d a ↔ assocMem (mainLoop c P π').2 d a) ∧
    (assocMem (domainsByAddr π (mainLoop c P π).2) a d ↔ assocMem (domainsByAddr π' (mainLoop c P π').2) a d) := by
  have h1 : assocMem (mainLoop c P π).2 d a ↔ assocMem (mainLoop c P π').2 d a := by
    rw [redirDomains_col c P π d h a, redirDomains_col c P π' d h a]
  exact ⟨h1, by rw [mem_domainsByAddr, mem_domainsByAddr]; exact h1⟩

example : ambName exCfg 2 = false ∧ ambName cfgF16 1 = true := by decide

/-- **what never depended on the iteration orders** (a statement about the model with
    arbitrary orders, i.e. also about the code before the repair), for ALL configurations and
    ALL pairs of iteration orders: (1) `allCertDomains` is the same set; (2) the automation policies are the same list
    up to the order of the subjects inside the implicit internal / tailscale policies;
    (3) every configured server keeps its listeners and gets the same `Disabled` flag and the
    same TLS-connection-policy state; (4) every name that is served on one port only (the
    decidable exclusion `singlePort`) is redirected to that port by every redirect route that
    lists it; (5) for every key that is not `ambName` (the decidable exclusion that carves out
    DESIGN F16) the redirect routes are built from the same set of listener addresses.
    NOT independent of the orders: which server receives a block when `ambRecv c`
    (`receiver_old_code_depends_on_order`), and the relative order of the redirect routes, hence
    `effective`, even when `ambiguous c = false` (`effective_old_code_depends_on_route_order`). -/
theorem old_code_order_independent_part (c : Config) (P : Params) (π π' : Orders) :
    (∀ d, d ∈ (phase1Result c P π).certs ↔ d ∈ (phase1Result c P π').certs) ∧
    samePolicies (phase1Result c P π).policies (phase1Result c P π').policies ∧
    (c.reserved = none → ∀ k, k < c.servers.length →
      obsAt (phase1Result c P π) k flagsOf = obsAt (phase1Result c P π') k flagsOf) ∧
    (∀ d p₀, singlePort c d p₀ = true →
      ∀ r, (r = phase1Result c P π ∨ r = phase1Result c P π') →
        ∀ kv ∈ r.servers, ∀ rt ∈ kv.2.routes, rt.lists d = true → rt.port = portRule c p₀) ∧
    (∀ d, ambName c d = false → ∀ a,
      assocMem (domainsByAddr π (mainLoop c P π).2) a d ↔ assocMem (domainsByAddr π' (mainLoop c P π').2) a d) := by
  refine ⟨?_, policies_same c P π π', ?_, ?_, ?_⟩
  · intro d
    change d ∈ certsOf c P π ↔ d ∈ certsOf c P π'
    rw [mem_certsOf, mem_certsOf]
  · intro hres k hk
    have hs := List.getElem?_eq_getElem hk
    rw [server_flags c P π hres k _ hs, server_flags c P π' hres k _ hs]
  · intro d p₀ h r hr kv hkv rt hrt hl
    rcases hr with rfl | rfl
    · exact redirect_port_deterministic c P π d p₀ h hkv hrt hl
    · exact redirect_port_deterministic c P π' d p₀ h hkv hrt hl
  · intro d h a
    exact (redirect_sources_deterministic c P π π' d h a).2

example : singlePort exCfg 2 8443 = true ∧ ambiguous exCfg = false := by decide

/-- **determinism, at full strength, of the repaired code.**  Every `range` of phase 1 runs
    over `slices.Sorted(maps.Keys(m))`: with `κ` the sorted key lists (naming every key the
    maps can hold — `Complete`) and `ρ`, `ρ'` any two runtime iteration orders of the maps,
    provisioning yields the SAME outcome: the same error, or structurally the same
    `allCertDomains`, automation policies, servers and route lists.  (For the code before the
    repair, whose orders are arbitrary, this is false: `deterministic_old_code_fails`, Witness.lean.) -/
theorem deterministic (c : Config) (P : Params) (κ ρ ρ' : Orders) (h : Complete c κ) :
    phase1 c P (κ.over ρ) = phase1 c P (κ.over ρ') ∧
    certsOf c P (κ.over ρ) = certsOf c P (κ.over ρ') ∧
    policiesOf c P (κ.over ρ) = policiesOf c P (κ.over ρ') ∧
    serversOf c P (κ.over ρ) = serversOf c P (κ.over ρ') := by
  refine ⟨?_, ?_, ?_, ?_⟩
  · rw [phase1_over P ρ h, phase1_over P ρ' h]
  · rw [certsOf_over P ρ h, certsOf_over P ρ' h]
  · rw [policiesOf_over P ρ h, policiesOf_over P ρ' h]
  · rw [serversOf_over P ρ h, serversOf_over P ρ' h]

/-- a load on its own, in a fresh process -/
def freshOutcome (l : Load) : Outcome := loadOutcome ownLookup ⟨[]⟩ l

/-- **history independence.** With the lookup of the code that exists (`HasCertificateForSubject`
    reads the receiver's own loaded / managed sets), provisioning a config after ANY history of
    earlier loads that are still alive gives exactly what provisioning it in a fresh process
    gives — so loading the same config twice gives the same result, whatever came in between
    (determinism across reloads), and a name qualifies by its own config alone (coverage). -/
theorem history_independent (st : Proc) (l : Load) : loadOutcome ownLookup st l = freshOutcome l := rfl

/-- … for whole histories: every load of a history is answered as if it were the only one -/
theorem history_independent_all : ∀ (st : Proc) (h : List Load),
    runHistory ownLookup st h = h.map freshOutcome
  | _, [] => rfl
  | st, l :: rest => by
    simp only [runHistory, List.map_cons, history_independent]
    rw [history_independent_all _ rest]

/-- config A hand-loads a certificate for name 1 and serves nothing; config B names it on :443 -/
def histA : Load := ⟨⟨0, 0, [], [], none⟩, wP, Orders.id, [1]⟩
def histB : Load := ⟨⟨0, 0, [⟨[exTcp 443], false, false, false, false, 0, [], [], [⟨[[1]]⟩]⟩], [], none⟩, wP, Orders.id, []⟩

def outcomeCerts : Outcome → List Name
  | .ok r => r.certs
  | _ => []

/-- **a process-wide "some live config loaded it" lookup breaks history independence** (the seeded
    change `C11-loaded-cert-count-shared-across-configs`): after A, config B no longer manages
    name 1 although B loads no certificate for it; in a fresh process it does -/
theorem shared_lookup_breaks_history_independence :
    ∃ (h : List Load) (l : Load), (runHistory sharedLookup ⟨[]⟩ (h ++ [l])).getLast? ≠ some (freshOutcome l) ∧
      outcomeCerts (freshOutcome l) = [1] ∧
      ((runHistory sharedLookup ⟨[]⟩ (h ++ [l])).getLast?.map outcomeCerts) = some [] := by
  refine ⟨[histA], histB, ?_, by decide, by decide⟩
  intro h
  have : ((runHistory sharedLookup ⟨[]⟩ ([histA] ++ [histB])).getLast?.map outcomeCerts) = some [] := by decide
  rw [h] at this
  revert this
  decide

example : runHistory ownLookup ⟨[]⟩ [histA, histB, histB] = [freshOutcome histA, freshOutcome histB, freshOutcome histB] :=
  history_independent_all _ _

/-- a row of the regenerated fact `Gen.autoHTTPSRanges`: (kind, origin, effects of the loop body, callees in it) —
    every iteration of a map in code reachable from `automaticHTTPSPhase1` (helpers and closures of package
    caddyhttp included), recognised by go/types and by data flow through parameters, not by variable names -/
abbrev RangeRow := String × String × List String × List String

/-- the maps whose iteration order the model exposes as an `Orders` field (`Orders.over` sorts their keys),
    by origin and type: the servers, the certificate names, the redirect domains, the names by address, the
    redirect servers by address -/
def orderedMaps : List String :=
  ["field App.Servers : map[string]*Server", "var : map[string]struct{}", "var : map[string][]caddy.NetworkAddress",
   "var : map[string][]string", "var : map[string][]Route"]

/-- callees that read only (certmagic / strings / slices predicates, the loaded-certificate lookup, the
    configured HTTPS port) or log -/
def readOnlyCalls : List String :=
  ["(*caddytls.TLS).HasCertificateForSubject", "(*zap.Logger).Info", "(*zap.Logger).Warn", "(*zap.Logger).Debug",
   "certmagic.SubjectQualifiesForCert", "slices.Contains", "strings.Contains", "strings.Count", "strings.Trim",
   "strings.ToLower", "zap.String", "(*caddyhttp.App).httpsPort"]

/-- a loop body whose result cannot depend on the order of the keys: per-key writes into a map (`keyed`:
    set inserts, per-key appends) and the collection of the keys into a slice whose only other use is as the
    argument of `TLS.RegisterServerNames` (which inserts every element into a set), calling read-only functions -/
def orderFree (r : RangeRow) : Bool :=
  (r.2.2.1.all fun e => e == "keyed" || e == "append>arg:(*caddytls.TLS).RegisterServerNames") &&
  r.2.2.2.all readOnlyCalls.contains

/-- the one direct map iteration left whose body is not order-free: `MatcherSets.FromInterface` (routes.go,
    reached through `ProvisionMatchers`) appends the decoded matchers of ONE matcher set in the random order of
    the module map. The matchers of a set are AND-ed and phase 1 reads every `*MatchHost` of a set whatever
    its position (model: a matcher set = its host names), so only the matcher index inside an error text
    (not compared) depends on it. Matched literally: a second such loop breaks the theorem. -/
def matcherSetRow : RangeRow := ("map", "var : map[string]any", ["append>use", "return"], ["fmt.Errorf"])

/-- what `deterministic` assumes about the source, as a predicate over the regenerated rows: every iteration
    of a map reachable from phase 1 goes through `slices.Sorted(maps.Keys(m))`, or is a direct range with an
    order-free body (or the matcher-set row); no bare `maps.Keys/Values/All` iterator and no range over another
    iterator function; and every map the model gives an order to is ranged through sorted keys (the set-typed
    one twice: certificate names and redirect server addresses) -/
def sortedRangesOK (rows : List RangeRow) : Bool :=
  (rows.all fun r => r.1 == "sortedkeys" || (r.1 == "map" && (orderFree r || r == matcherSetRow))) &&
  (orderedMaps.all fun m => rows.contains ("sortedkeys", m, [], [])) &&
  decide (2 ≤ rows.count ("sortedkeys", "var : map[string]struct{}", [], [])) &&
  decide (rows.count matcherSetRow ≤ 1)

/-- **the source iterates its maps over sorted keys** (regenerated from /repo on every run by
    tools/extract/c11ranges.go: `Gen.autoHTTPSRanges`): the premise under which `Orders.over` with a complete
    `κ` — and therefore `deterministic` — is the model of the code.  Reverting the repair
    "automatic HTTPS phase 1 iterates its maps in sorted key order" breaks this theorem; moving loops of
    phase 1 into helpers of the package or renaming locals does not (harmless/C11-refactor). -/
theorem sorted_ranges_matches_source : sortedRangesOK Gen.autoHTTPSRanges = true := by decide +kernel

theorem sortedRangesOK_perm {rows rows' : List RangeRow} (h : rows.Perm rows') :
    sortedRangesOK rows = sortedRangesOK rows' := by
  simp only [sortedRangesOK, h.all_eq, h.contains_eq, h.count_eq]

/-- the predicate rejects the code before the repair (the certificate names ranged directly: the body fills the
    two name slices handed to `createAutomationPolicies`), and a bare `maps.Keys` iterator -/
example : sortedRangesOK [("sortedkeys", "field App.Servers : map[string]*Server", [], []),
    ("map", "var : map[string]struct{}", ["append>arg:(*caddyhttp.App).createAutomationPolicies", "assign", "continue-label", "keyed", "return"],
      ["(*caddytls.AutomationPolicy).Subjects", "certmagic.SubjectIsIP"]),
    ("sortedkeys", "var : map[string][]caddy.NetworkAddress", [], []), ("sortedkeys", "var : map[string][]string", [], []),
    ("sortedkeys", "var : map[string][]Route", [], []), ("sortedkeys", "var : map[string]struct{}", [], []),
    ("sortedkeys", "var : map[string]struct{}", [], [])] = false := by decide +kernel

example : sortedRangesOK (("mapseq", "var : map[string][]string", ["keyed"], []) :: Gen.autoHTTPSRanges) = false := by decide +kernel

/-- … and a loop over a set that calls something not known to be read-only -/
example : orderFree ("map", "var : map[string]struct{}", ["keyed"], ["(*caddytls.TLS).AddAutomationPolicy"]) = false := by decide +kernel

/-- the predicate does not depend on where the loops stand (harmless/C11-refactor moves two of them into helpers) -/
example : sortedRangesOK Gen.autoHTTPSRanges.reverse = true :=
  (sortedRangesOK_perm (List.reverse_perm _)).trans sorted_ranges_matches_source

example : Complete cfgShadow κShadow := κShadow_complete

/-- with complete sorted keys the F16 configuration has one outcome, whatever the runtime order -/
example : Complete cfgF16 ⟨[0, 1], [1], [0, 1], [tcp [] 8443, tcp [] 9443], [tcp [] 80], fun _ => [0, 1], [tcp [] 80]⟩ :=
  ⟨by decide, fun _ => show ∀ i, i < 2 → i ∈ [0, 1] by decide, by decide, by decide, by decide, by decide, by decide, by decide⟩

end CaddyModel.C11
