/-
C11 — theorems about the Caddyfile side (`Caddyfile.lean`) composed with phase 1: what the
global option `auto_https` and the scheme / port of a site address mean for "which names get
certificate management", end to end from the Caddyfile.
-/
import CaddyModel.C11.Caddyfile
import CaddyModel.C11.Certs

namespace CaddyModel.C11

theorem mem_insertSorted {x y : Nat} {l : List Nat} : x ∈ insertSorted y l ↔ x = y ∨ x ∈ l := by
  fun_induction insertSorted y l <;> simp_all [or_left_comm]

theorem mem_foldr_insertSorted {x : Nat} : ∀ {l : List Nat}, x ∈ l.foldr insertSorted [] ↔ x ∈ l
  | [] => by simp
  | y :: ys => by simp [List.foldr_cons, mem_insertSorted, mem_foldr_insertSorted (l := ys)]

theorem adapt_servers {cf : CF} {pols : List Policy} {c : Config} (h : adaptWith cf pols = some c) :
    c.servers = (cfPorts cf).map (cfServer cf) ∧ httpPort c = cf.httpPort ∧ c.policies = pols := by
  unfold adaptWith at h
  split at h
  · cases h
  · cases h; exact ⟨rfl, rfl, rfl⟩

theorem active_cfServer {cf : CF} {pols : List Policy} {c : Config} (h : adaptWith cf pols = some c) (p : Nat) :
    active c (cfServer cf p) = true ↔ cf.off = false ∧ p ≠ cf.httpPort := by
  simp [active, cfServer, usesOther, (adapt_servers h).2.1]; omega

theorem cfServer_mem {cf : CF} {pols : List Policy} {c : Config} (h : adaptWith cf pols = some c) {t : Site} (ht : t ∈ cf.sites) :
    cfServer cf (sitePort cf t) ∈ c.servers := by
  rw [(adapt_servers h).1]
  exact List.mem_map_of_mem (mem_foldr_insertSorted.mpr (List.mem_map_of_mem ht))

theorem mem_allHosts_cfServer {cf : CF} {p : Nat} {d : Name} :
    d ∈ allHosts (cfServer cf p) ↔ ∃ t ∈ cf.sites, sitePort cf t = p ∧ t.name = d ∧ d ≠ 0 := by
  simp only [allHosts, cfServer, List.mem_flatMap, List.mem_map, sitesOn, List.mem_filter, decide_eq_true_eq]
  constructor
  · rintro ⟨r, ⟨t, ⟨ht, hp⟩, rfl⟩, hd⟩
    unfold cfRoute at hd
    split at hd
    · simp at hd
    · rename_i hn
      simp at hd
      exact ⟨t, ht, hp, hd.symm, by rw [hd]; exact hn⟩
  · rintro ⟨t, ht, hp, rfl, hn⟩
    refine ⟨cfRoute t, ⟨t, ⟨ht, hp⟩, rfl⟩, ?_⟩
    simp [cfRoute, hn]

theorem mem_cfSkip (cf : CF) {p : Nat} {d : Name} :
    d ∈ cfSkip cf p ↔ p ≠ cf.httpPort ∧ ∃ t ∈ cf.sites, sitePort cf t = p ∧ t.scheme = 1 ∧ t.name = d ∧ d ≠ 0 := by
  unfold cfSkip
  split
  · rename_i h; simp [h]
  · rename_i h
    rw [foldl_mem_iff (M := (d ∈ ·)) (N := fun t : Site => d = t.name) fun _ _ => mem_addSet]
    simp only [List.not_mem_nil, false_or, sitesOn, List.mem_filter, decide_eq_true_eq, Bool.and_eq_true, ne_eq]
    constructor
    · rintro ⟨t, ⟨⟨ht, hp⟩, hs, hn⟩, rfl⟩
      exact ⟨h, t, ht, hp, hs, rfl, hn⟩
    · rintro ⟨_, t, ht, hp, hs, rfl, hn⟩
      exact ⟨t, ⟨⟨ht, hp⟩, hs, hn⟩, rfl⟩

theorem cf_managed_qualifies {cf : CF} {pols : List Policy} {c : Config} {P : Params} {π : Orders} {d : Name}
    (h : adaptWith cf pols = some c) (hd : d ∈ certsOf c P π) : ∃ p, qualifiesOn c P (cfServer cf p) d = true := by
  obtain ⟨_, hs, hq⟩ := qualifies_iff.mp (certs_only_qualifying _ _ _ _ hd)
  obtain ⟨p, _, rfl⟩ := List.mem_map.mp ((adapt_servers h).1 ▸ hs)
  exact ⟨p, hq⟩

/-- **`auto_https off` switches certificate management off altogether**: whatever the sites and
    whatever automation policies the adapter emits for them (`pols`),
    no name is handed to certificate management, for every iteration order -/
theorem cf_off_manages_nothing (cf : CF) (pols : List Policy) (c : Config) (P : Params) (π : Orders)
    (h : adaptWith cf pols = some c)
    (hoff : cf.off = true) (d : Name) : d ∉ certsOf c P π := by
  intro hd
  obtain ⟨p, hq⟩ := cf_managed_qualifies h hd
  exact absurd ((active_cfServer h p).mp (qualifiesOn_iff.mp hq).1).1 (by simp [hoff])

example : adapt ⟨0, 0, true, false, false, false, [⟨0, 1, 0, false⟩]⟩ ≠ none := by decide

/-- **a named site qualifies, end to end from the Caddyfile**: a site address with a host, not
    written with `http://`, on a port other than the HTTP port, with `auto_https` neither `off`
    nor `disable_certs`, and without an `http://` twin of the same host on the same port, makes
    its name qualify (so `coverage` applies: it is managed and a policy applies to it) —
    provided the name is a certifiable subject without a loaded certificate (or
    `ignore_loaded_certs` is set) -/
theorem cf_named_site_qualifies (cf : CF) (pols : List Policy) (c : Config) (P : Params)
    (h : adaptWith cf pols = some c)
    {t : Site} (ht : t ∈ cf.sites) (hn : t.name ≠ 0) (hport : sitePort cf t ≠ cf.httpPort)
    (hoff : cf.off = false) (hdc : cf.disableCerts = false)
    (htwin : ∀ u ∈ cf.sites, sitePort cf u = sitePort cf t → u.scheme = 1 → u.name ≠ t.name)
    (hq : P.q t.name = true) (hl : P.loaded t.name = false ∨ cf.ignoreLoaded = true) :
    qualifies c P t.name = true := by
  refine qualifies_iff.mpr ⟨_, cfServer_mem h ht,
    qualifiesOn_iff.mpr ⟨(active_cfServer h _).mpr ⟨hoff, hport⟩, hdc, ?_, ?_⟩⟩
  · exact mem_domainSet.mpr ⟨mem_allHosts_cfServer.mpr ⟨t, ht, rfl, rfl, hn⟩, fun hin => by
      obtain ⟨_, u, hu, hp, hs, hname, _⟩ := (mem_cfSkip cf).mp hin
      exact htwin u hu hp hs hname⟩
  · simp only [certOk, cfServer, hq, Bool.true_and]
    rcases hl with hl | hl <;> simp [hl]

example : qualifies ⟨0, 0, [cfServer ⟨0, 0, false, false, false, false, [⟨0, 1, 0, false⟩, ⟨1, 2, 0, false⟩]⟩ 443], [], none⟩
    { q := fun d => d == 1, pub := fun d => d == 1, ip := fun _ => false, internal := fun _ => false,
      loaded := fun _ => false, ts := fun _ => false, mw := fun a b => a == b, hm := fun a b => a == b } 1 = true := by
  decide

/-- **names written only with `http://` are never managed** (issue 2998): if every site address
    naming `d` carries the `http://` scheme, `d` does not qualify — its server listens only on
    the HTTP port, or `d` is put on the server's skip list -/
theorem cf_http_only_name_not_managed (cf : CF) (pols : List Policy) (c : Config) (P : Params) (π : Orders)
    (h : adaptWith cf pols = some c)
    (d : Name) (hall : ∀ t ∈ cf.sites, t.name = d → t.scheme = 1) : d ∉ certsOf c P π := by
  intro hd
  obtain ⟨p, hq⟩ := cf_managed_qualifies h hd
  obtain ⟨ha, _, hdom, _⟩ := qualifiesOn_iff.mp hq
  obtain ⟨hin, hskip⟩ := mem_domainSet.mp hdom
  obtain ⟨t, ht, hp, hname, hd0⟩ := mem_allHosts_cfServer.mp hin
  -- the server is not confined to the HTTP port, so the `http://` name is on its skip list
  exact hskip ((mem_cfSkip cf).mpr ⟨((active_cfServer h p).mp ha).2, t, ht, hp, hall t ht hname, hname, hd0⟩)

example : adapt ⟨0, 0, false, false, false, false, [⟨1, 1, 8080, false⟩, ⟨0, 2, 8080, true⟩]⟩ ≠ none := by decide

end CaddyModel.C11
