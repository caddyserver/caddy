/-
C11 — model of phase 1 of automatic HTTPS (`modules/caddyhttp/autohttps.go`,
`automaticHTTPSPhase1`, `makeRedirRoute`, `createAutomationPolicies`), the helpers
it calls in `server.go` (`listenersUseAnyPortOtherThan`, `hasListenerAddress`,
`findLastRouteWithHostMatcher`), `caddytls.(*TLS).AddAutomationPolicy` / `Validate`
and `caddyhttp.(*App).Validate`, transliterated loop by loop.

* Go maps whose iteration order the code observes are association lists in insertion
  order; every `for … := range m` first re-orders the list with `pull π m`, where `π` is
  an arbitrary key list (`Orders`): the keys named by `π` come first, in `π`'s order, the
  rest keep their insertion order.  Every permutation of `m` is `pull π m` for some `π`
  and `pull π m` is always a permutation of `m`, so "for all `π`" is "for all iteration
  orders".  Go draws a fresh order for every `range` statement; so does `Orders`.
* Names are indices into the case's name table; name `0` is the empty string (the code
  uses `""` as the key of the catch-all redirect).  certmagic's predicates, the loaded
  certificate lookup and `isTailscaleDomain` on the concrete strings are the parameter
  `Params` (the harness sends the values the real functions returned, except `ts`, which
  `Driver.paramsOf` computes with `isTailscale` below).
* Listener addresses arrive parsed (`caddy.ParseNetworkAddress` is a parameter):
  network code, host bytes, start and end port.  `NetworkAddress.String()` followed by
  `ParseNetworkAddress` is modelled as the identity on parsed addresses.
* `hasListenerAddress` is the `runtime.GOOS == "linux"` branch (the host is ignored).
-/
import CaddyModel.Util.Hex

namespace CaddyModel.C11

abbrev Name := Nat

/-- certmagic.SubjectQualifiesForCert / SubjectQualifiesForPublicCert / SubjectIsIP /
    SubjectIsInternal / MatchWildcard, `tlsApp.HasCertificateForSubject`, and
    `isTailscaleDomain`, as functions of the name index -/
structure Params where
  q : Name → Bool
  pub : Name → Bool
  ip : Name → Bool
  internal : Name → Bool
  loaded : Name → Bool
  ts : Name → Bool
  mw : Name → Name → Bool
  hm : Name → Name → Bool   -- caddyhttp.MatchHost{pattern}.Match(request with this Host): `hm host pattern`

structure Addr where
  net : Nat
  host : Bytes
  sp : Nat
  ep : Nat
deriving DecidableEq, Repr

/-- a user route: the host lists of its `*MatchHost` matchers (all matcher sets flattened);
    `[]` = the route has no host matcher -/
structure URoute where
  hms : List (List Name)
deriving Repr

structure Server where
  listen : List Addr
  disabled : Bool        -- automatic_https.disable
  disableRedir : Bool    -- automatic_https.disable_redirects
  disableCerts : Bool    -- automatic_https.disable_certificates
  ignoreLoaded : Bool    -- automatic_https.ignore_loaded_certificates
  tls : Nat              -- TLSConnPolicies: 0 = nil, 1 = non-nil and empty, 2 = non-empty
  skip : List Name
  skipCerts : List Name
  routes : List URoute
deriving Repr

inductive Issuer where
  | internal | acme
deriving DecidableEq, Repr

/-- a TLS automation policy as far as phase 1 reads or writes it -/
structure Policy where
  subjects : List Name
  issuers : List Issuer    -- `[]` = `ap.Issuers == nil`
  managers : Nat
deriving DecidableEq, Repr

structure Config where
  httpPortRaw : Nat        -- App.HTTPPort (0 = unset)
  httpsPortRaw : Nat       -- App.HTTPSPort (0 = unset)
  servers : List Server
  policies : List Policy
  reserved : Option Nat    -- index of a user server that is itself named "remaining_auto_https_redirects"
deriving Repr

/-- one iteration order per `range` statement over a map -/
structure Orders where
  srv : List Nat             -- `for srvName, srv := range app.Servers` (main loop)
  uniq : List Name           -- `for d := range uniqueDomainsForCerts`
  dom : List Name            -- `for domain, addrs := range redirDomains`
  addr : List Addr           -- `for addrStr, domains := range domainsByAddr`
  raddr : List Addr          -- `for redirServerAddr, routes := range redirServers`
  recv : Addr → List Nat     -- `for _, srv := range app.Servers` inside that loop (fresh each time)
  laddr : List Addr          -- `for a := range redirServerAddrs`

def Orders.id : Orders := ⟨[], [], [], [], [], fun _ => [], []⟩

/-- **the repaired code** ranges over `slices.Sorted(maps.Keys(m))`.  `κ` lists the keys in
    sorted order, `ρ` is the runtime order of the map: the keys `κ` names come first, in `κ`'s
    order, and only keys `κ` does not name would still come in runtime order — none, when `κ`
    is complete (`Props.deterministic`). -/
def Orders.over (κ ρ : Orders) : Orders :=
  ⟨κ.srv ++ ρ.srv, κ.uniq ++ ρ.uniq, κ.dom ++ ρ.dom, κ.addr ++ ρ.addr, κ.raddr ++ ρ.raddr,
   fun R => κ.recv R ++ ρ.recv R, κ.laddr ++ ρ.laddr⟩

inductive Route where
  | user (id : Nat) (hasHost : Bool)
  | redir (hosts : Option (List Name)) (port : Nat)   -- `none` = no host matcher; port 0 = no explicit port
deriving DecidableEq, Repr

structure SrvOut where
  listen : List Addr
  disabled : Bool          -- AutoHTTPS.Disabled after phase 1
  tls : Nat
  routes : List Route
deriving DecidableEq, Repr

structure Result where
  certs : List Name                 -- app.allCertDomains
  policies : List Policy            -- tlsApp.Automation.Policies
  servers : List (Nat × SrvOut)     -- app.Servers (key = index in the config; the redirect server gets a fresh key)
deriving Repr

inductive Outcome where
  | errTLS        -- caddytls Validate rejects the automation policies
  | errMatcher    -- MatchHost.Provision: repeated host
  | errAddr       -- caddyhttp Validate: listener address repeated
  | ok (r : Result)
deriving Repr

/-! ### map iteration -/

def extract {κ α} [DecidableEq κ] (k : κ) : List (κ × α) → Option (α × List (κ × α))
  | [] => none
  | (k', v) :: rest =>
    if k' = k then some (v, rest)
    else match extract k rest with
      | none => none
      | some (v', rest') => some (v', (k', v) :: rest')

/-- iterate `m` in the order `π` asks for -/
def pull {κ α} [DecidableEq κ] : List κ → List (κ × α) → List (κ × α)
  | [], m => m
  | k :: ks, m =>
    match extract k m with
    | some (v, m') => (k, v) :: pull ks m'
    | none => pull ks m

def pullKeys {κ} [DecidableEq κ] (π : List κ) (l : List κ) : List κ :=
  (pull π (l.map fun k => (k, ()))).map (·.1)

def indexed {α} : List α → Nat → List (Nat × α)
  | [], _ => []
  | x :: xs, i => (i, x) :: indexed xs (i + 1)

/-- `m[k] = append(m[k], v)` on an insertion-ordered map -/
def assocAppend {κ α} [DecidableEq κ] : List (κ × List α) → κ → α → List (κ × List α)
  | [], k, v => [(k, [v])]
  | (k', vs) :: rest, k, v =>
    if k' = k then (k', vs ++ [v]) :: rest else (k', vs) :: assocAppend rest k v

def hasKey {κ α} [DecidableEq κ] (m : List (κ × α)) (k : κ) : Bool := m.any fun kv => decide (kv.1 = k)

def addSet (l : List Name) (d : Name) : List Name := if l.contains d then l else l ++ [d]

def nodupB {α} [DecidableEq α] : List α → Bool
  | [] => true
  | x :: xs => !xs.contains x && nodupB xs

/-! ### ports and listeners -/

def defaultHTTPPort : Nat := 80
def defaultHTTPSPort : Nat := 443

def httpPort (c : Config) : Nat := if c.httpPortRaw = 0 then defaultHTTPPort else c.httpPortRaw
def httpsPort (c : Config) : Nat := if c.httpsPortRaw = 0 then defaultHTTPSPort else c.httpsPortRaw

/-- `listenersUseAnyPortOtherThan` -/
def usesOther (l : List Addr) (p : Nat) : Bool := l.any fun a => decide (p > a.ep) || decide (p < a.sp)

/-- `hasListenerAddress` for a single-port address `R` (linux branch) -/
def hasListener (listen : List Addr) (R : Addr) : Bool :=
  listen.any fun a => decide (a.net = R.net) && decide (R.sp ≤ a.ep) && decide (R.sp ≥ a.sp)

/-- the address the redirect for `a` is served from: same network and host, the HTTP port -/
def redirAddr (c : Config) (a : Addr) : Addr := { a with sp := httpPort c, ep := httpPort c }

/-- `makeRedirRoute`: the explicit port appended to `https://{http.request.host}` (0 = none) -/
def portRule (c : Config) (p : Nat) : Nat :=
  if p ≠ httpPort c ∧ p ≠ httpsPort c ∧ p ≠ defaultHTTPPort ∧ p ≠ defaultHTTPSPort then p else 0

/-! ### main loop over the servers -/

def allHosts (s : Server) : List Name := s.routes.flatMap fun r => r.hms.flatten

/-- `serverDomainSet` -/
def domainSet (s : Server) : List Name :=
  (allHosts s).foldl (fun acc d => if s.skip.contains d then acc else addSet acc d) []

/-- neither disabled nor confined to the HTTP port -/
def active (c : Config) (s : Server) : Bool := !s.disabled && usesOther s.listen (httpPort c)

/-- TLSConnPolicies after "listening only on the HTTPS port but no connection policies" -/
def tls1 (c : Config) (s : Server) : Nat :=
  if s.tls = 0 && !usesOther s.listen (httpsPort c) then 2 else s.tls

/-- the server reaches the certificate / redirect part of the loop body -/
def engaged (c : Config) (s : Server) : Bool :=
  active c s && !((domainSet s).isEmpty && decide (tls1 c s < 2))

def tlsOut (c : Config) (s : Server) : Nat :=
  if !active c s then s.tls
  else if !engaged c s then tls1 c s
  else if tls1 c s = 0 then 2 else tls1 c s

def disabledOut (c : Config) (s : Server) : Bool := s.disabled || !usesOther s.listen (httpPort c)

def certOk (P : Params) (s : Server) (d : Name) : Bool :=
  P.q d && !s.skipCerts.contains d && !(!s.ignoreLoaded && P.loaded d)

def certNames (P : Params) (s : Server) : List Name :=
  if s.disableCerts then [] else (domainSet s).filter (certOk P s)

abbrev RD := List (Name × List Addr)

def rdStepDom (https : Nat) (a : Addr) (rd : RD) (d : Name) : RD :=
  if !hasKey rd d || decide (a.sp = https) then assocAppend rd d a else rd

def rdStepAddr (https : Nat) (doms : List Name) (rd : RD) (a : Addr) : RD :=
  if doms.isEmpty then assocAppend rd 0 a else doms.foldl (rdStepDom https a) rd

def rdStepSrv (c : Config) (s : Server) (rd : RD) : RD :=
  s.listen.foldl (rdStepAddr (httpsPort c) (domainSet s)) rd

def mainStep (c : Config) (P : Params) (st : List Name × RD) (ks : Nat × Server) : List Name × RD :=
  if engaged c ks.2 then
    ((certNames P ks.2).foldl addSet st.1, if ks.2.disableRedir then st.2 else rdStepSrv c ks.2 st.2)
  else st

def mainLoop (c : Config) (P : Params) (π : Orders) : List Name × RD :=
  (pull π.srv (indexed c.servers 0)).foldl (mainStep c P) ([], [])

/-! ### implicit automation policies -/

def allInternal (P : Params) (p : Policy) : Bool := p.subjects.all P.internal

/-- the first policy that lists `d` gets the internal issuer when it has no issuers and
    only internal subjects -/
def markPolicy (P : Params) (d : Name) : List Policy → List Policy
  | [] => []
  | p :: ps =>
    if p.subjects.contains d then
      (if p.issuers.isEmpty && allInternal P p then { p with issuers := [Issuer.internal] } else p) :: ps
    else p :: markPolicy P d ps

structure LoopB where
  pols : List Policy
  internal : List Name
  tailscale : List Name
  uniq : List Name
deriving Repr

def stepB (P : Params) (noPol : Bool) (b : LoopB) (d : Name) : LoopB :=
  if b.pols.any (fun p => p.subjects.contains d) then { b with pols := markPolicy P d b.pols }
  else if P.ts d then { b with tailscale := b.tailscale ++ [d], uniq := b.uniq.filter (· ≠ d) }
  else if !P.pub d || (P.ip d && noPol) then { b with internal := b.internal ++ [d] }
  else b

def loopB (P : Params) (pols : List Policy) (π : Orders) (uniq : List Name) : LoopB :=
  (pullKeys π.uniq uniq).foldl (stepB P pols.isEmpty) ⟨pols, [], [], uniq⟩

def fillDefault (p : Policy) : Policy := if p.issuers.isEmpty then { p with issuers := [Issuer.acme] } else p

def findBase : List Policy → Option Policy
  | [] => none
  | p :: ps => if p.subjects.isEmpty then some p else findBase ps

def supersetOf (P : Params) (subs : List Name) (ex : Policy) : Bool :=
  subs.any fun s => ex.subjects.any fun o => P.mw s o

/-- `AddAutomationPolicy` -/
def addPolicy (P : Params) (ap : Policy) : List Policy → List Policy
  | [] => [ap]
  | ex :: rest =>
    if supersetOf P ap.subjects ex || decide (ex.subjects.length < ap.subjects.length) then ap :: ex :: rest
    else ex :: addPolicy P ap rest

def newBase : Policy := ⟨[], [Issuer.acme], 0⟩

def baseOf (pols : List Policy) : Policy :=
  match findBase pols with
  | some p => p
  | none => newBase

def withBase (P : Params) (pols : List Policy) : List Policy :=
  match findBase pols with
  | some _ => pols
  | none => addPolicy P newBase pols

def withInternal (P : Params) (base : Policy) (internal : List Name) (pols : List Policy) : List Policy :=
  if internal.isEmpty then pols else addPolicy P ⟨internal, [Issuer.internal], base.managers⟩ pols

def withTailscale (P : Params) (base : Policy) (tailscale : List Name) (pols : List Policy) : List Policy :=
  if tailscale.isEmpty then pols else addPolicy P ⟨tailscale, [], base.managers + 1⟩ pols

/-- `createAutomationPolicies` -/
def createPolicies (P : Params) (pols : List Policy) (internal tailscale : List Name) : List Policy :=
  withTailscale P (baseOf (pols.map fillDefault)) tailscale
    (withInternal P (baseOf (pols.map fillDefault)) internal
      (withBase P (pols.map fillDefault)))

/-- `(*TLS).Validate` on the automation policies -/
def tlsValid (pols : List Policy) : Bool :=
  decide ((pols.filter fun p => p.subjects.isEmpty).length ≤ 1) && nodupB (pols.flatMap (·.subjects))

/-! ### redirect routes -/

abbrev DBA := List (Addr × List Name)
abbrev RS := List (Addr × List Route)

def dbaStep (m : DBA) (da : Name × List Addr) : DBA := da.2.foldl (fun m a => assocAppend m a da.1) m

/-- `domainsByAddr` -/
def domainsByAddr (π : Orders) (rd : RD) : DBA := (pull π.dom rd).foldl dbaStep []

def isCatchAllDomains (doms : List Name) : Bool := decide (doms = [0])

/-- the redirect route for listener address `a`.  Its host matcher is PROVISIONED (fix "provision
    the host matcher of the automatic HTTP->HTTPS redirect route"): repeated names are dropped
    first (the code compares them case-insensitively; the names of a case are pairwise distinct
    ignoring case — the driver rejects anything else — so that is dropping repeated indices),
    then `MatchHost.Provision` lower-cases and sorts the entries of a large list; the model keeps
    the host list as a set of name indices, which neither changes. -/
def mkRedirRoute (c : Config) (a : Addr) (doms : List Name) : Route :=
  Route.redir (if isCatchAllDomains doms then none else some (doms.foldl addSet [])) (portRule c a.sp)

def rsStep (c : Config) (m : RS) (ad : Addr × List Name) : RS :=
  assocAppend m (redirAddr c ad.1) (mkRedirRoute c ad.1 ad.2)

/-- `redirServers` -/
def redirServers (c : Config) (π : Orders) (dba : DBA) : RS := (pull π.addr dba).foldl (rsStep c) []

/-- `appendCatchAll`'s route: redirect to the HTTPS port, no host matcher -/
def catchAllRoute (c : Config) : Route := Route.redir none (portRule c (httpsPort c))

def Route.hasHost : Route → Bool
  | .user _ h => h
  | .redir _ _ => false      -- redirect routes carry a `MatchHost` value, the scan looks for `*MatchHost`

def lastHostIdx : List Route → Nat → Option Nat → Option Nat
  | [], _, acc => acc
  | r :: rs, i, acc => lastHostIdx rs (i + 1) (if r.hasHost then some (i + 1) else acc)

/-- `findLastRouteWithHostMatcher` -/
def findLast (rs : List Route) : Nat :=
  match lastHostIdx rs 0 none with
  | some i => i
  | none => 0

/-- an existing server receives the redirect routes of one redirect address -/
def receive (c : Config) (certsNonEmpty : Bool) (routes : List Route) (s : SrvOut) : SrvOut :=
  { s with routes :=
      (if certsNonEmpty then s.routes.take (findLast s.routes) ++ (routes ++ s.routes.drop (findLast s.routes))
       else s.routes) ++ [catchAllRoute c] }

structure LoopF where
  srvs : List (Nat × SrvOut)
  newAddrs : List Addr
  newRoutes : List Route
deriving Repr

def stepF (c : Config) (certsNonEmpty : Bool) (π : Orders) (st : LoopF) (rr : Addr × List Route) : LoopF :=
  match (pull (π.recv rr.1) st.srvs).find? (fun kv => hasListener kv.2.listen rr.1) with
  | some kv =>
    { st with srvs := st.srvs.map fun kv' =>
        if kv'.1 = kv.1 then (kv'.1, receive c certsNonEmpty rr.2 kv'.2) else kv' }
  | none => { st with newAddrs := st.newAddrs ++ [rr.1], newRoutes := st.newRoutes ++ rr.2 }

def userRoutes : List URoute → Nat → List Route
  | [], _ => []
  | r :: rs, i => Route.user i (!r.hms.isEmpty) :: userRoutes rs (i + 1)

def srvInit (c : Config) (s : Server) : SrvOut :=
  ⟨s.listen, disabledOut c s, tlsOut c s, userRoutes s.routes 0⟩

def loopF (c : Config) (certsNonEmpty : Bool) (π : Orders) (rs : RS) : LoopF :=
  (pull π.raddr rs).foldl (stepF c certsNonEmpty π) ⟨indexed (c.servers.map (srvInit c)) 0, [], []⟩

def newServer (c : Config) (π : Orders) (f : LoopF) : SrvOut :=
  ⟨pullKeys π.laddr f.newAddrs, false, 0, f.newRoutes ++ [catchAllRoute c]⟩

/-- `app.Servers["remaining_auto_https_redirects"] = …` -/
def finalServers (c : Config) (π : Orders) (f : LoopF) : List (Nat × SrvOut) :=
  if f.newAddrs.isEmpty then f.srvs
  else match c.reserved with
    | some i => f.srvs.map fun kv => if kv.1 = i then (i, newServer c π f) else kv
    | none => f.srvs ++ [(c.servers.length, newServer c π f)]

/-! ### validation -/

def hostDup (s : Server) : Bool := s.routes.any fun r => r.hms.any fun hm => !nodupB hm

def expandAddr (a : Addr) : List (Nat × Bytes × Nat) :=
  (List.range (a.ep + 1 - a.sp)).map fun i => (a.net, a.host, a.sp + i)

def addrValid (srvs : List (Nat × SrvOut)) : Bool :=
  nodupB (srvs.flatMap fun kv => kv.2.listen.flatMap expandAddr)

/-! ### phase 1 -/

def certsOf (c : Config) (P : Params) (π : Orders) : List Name :=
  (loopB P c.policies π (mainLoop c P π).1).uniq

def policiesOf (c : Config) (P : Params) (π : Orders) : List Policy :=
  createPolicies P (loopB P c.policies π (mainLoop c P π).1).pols
    (loopB P c.policies π (mainLoop c P π).1).internal
    (loopB P c.policies π (mainLoop c P π).1).tailscale

def serversOf (c : Config) (P : Params) (π : Orders) : List (Nat × SrvOut) :=
  finalServers c π
    (loopF c (!(certsOf c P π).isEmpty) π
      (redirServers c π (domainsByAddr π (mainLoop c P π).2)))

def phase1Result (c : Config) (P : Params) (π : Orders) : Result :=
  ⟨certsOf c P π, policiesOf c P π, serversOf c P π⟩

/-- provisioning of the HTTP app as far as automatic HTTPS phase 1 decides it -/
def phase1 (c : Config) (P : Params) (π : Orders) : Outcome :=
  if !tlsValid c.policies then Outcome.errTLS
  else if c.servers.any hostDup then Outcome.errMatcher
  else if !tlsValid (policiesOf c P π) then Outcome.errTLS
  else if !addrValid (serversOf c P π) then Outcome.errAddr
  else Outcome.ok (phase1Result c P π)

/-! ### `isTailscaleDomain` on concrete bytes -/

def asciiLower (b : UInt8) : UInt8 := if 65 ≤ b ∧ b ≤ 90 then b + 32 else b

/-- `strings.HasSuffix(strings.ToLower(name), ".ts.net")` (ASCII names) -/
def isTailscale (name : Bytes) : Bool :=
  decide (((name.map asciiLower).reverse.take 7).reverse = [46, 116, 115, 46, 110, 101, 116])

end CaddyModel.C11
