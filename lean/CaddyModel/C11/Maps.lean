/-
C11 — facts about the containers of the model that do not mention phase 1: folds, the
iteration order `pull`, `indexed`, and insertion-ordered maps with list values.
-/
import CaddyModel.C11.Model
namespace CaddyModel.C11
open List

theorem foldl_mem_of {α β} {f : β → α → β} {M : β → Prop} {N : α → Prop}
    (h : ∀ b a, M b ∨ N a → M (f b a)) : ∀ {l : List α} {b : β}, (M b ∨ ∃ a ∈ l, N a) → M (l.foldl f b)
  | [], _, h' => h'.elim id fun ⟨_, hm, _⟩ => nomatch hm
  | a :: l, b, h' => by
    simp only [mem_cons, exists_eq_or_imp, ← or_assoc] at h'
    exact foldl_mem_of h (l := l) (h'.imp_left (h b a))

theorem foldl_mem_imp {α β} {f : β → α → β} {M : β → Prop} {N : α → Prop}
    (h : ∀ b a, M (f b a) → M b ∨ N a) : ∀ {l : List α} {b : β}, M (l.foldl f b) → M b ∨ ∃ a ∈ l, N a
  | [], _, h' => .inl h'
  | a :: l, b, h' => by
    simp only [mem_cons, exists_eq_or_imp, ← or_assoc]
    exact (foldl_mem_imp h (l := l) h').imp_left (h b a)

theorem foldl_mem_iff {α β} {f : β → α → β} {M : β → Prop} {N : α → Prop}
    (h : ∀ b a, M (f b a) ↔ M b ∨ N a) {l : List α} {b : β} : M (l.foldl f b) ↔ M b ∨ ∃ a ∈ l, N a :=
  ⟨foldl_mem_imp fun b a => (h b a).mp, foldl_mem_of fun b a => (h b a).mpr⟩

theorem extract_perm {κ α} [DecidableEq κ] {k : κ} {m : List (κ × α)} {v m'}
    (h : extract k m = some (v, m')) : m.Perm ((k, v) :: m') := by
  fun_induction extract k m generalizing v m' <;> cases h
  · exact .refl _
  · rename_i hx ih; exact ((ih hx).cons _).trans (.swap ..)

theorem extract_none {κ α} [DecidableEq κ] {k : κ} {m : List (κ × α)}
    (h : extract k m = none) : ∀ kv ∈ m, kv.1 ≠ k := by
  fun_induction extract k m <;> intro kv hkv
  · cases hkv
  · cases h
  · rename_i hk hx ih
    exact (mem_cons.mp hkv).elim (· ▸ hk) (ih hx kv)
  · cases h

theorem pull_perm {κ α} [DecidableEq κ] (π : List κ) (m : List (κ × α)) : (pull π m).Perm m := by
  fun_induction pull π m
  · exact .refl _
  · rename_i h ih; exact (ih.cons _).trans (extract_perm h).symm
  · assumption

theorem mem_pull {κ α} [DecidableEq κ] {π : List κ} {m : List (κ × α)} {x} : x ∈ pull π m ↔ x ∈ m :=
  (pull_perm π m).mem_iff

theorem pullKeys_perm {κ} [DecidableEq κ] (π l : List κ) : (pullKeys π l).Perm l := by
  simpa [pullKeys, Function.comp_def] using (pull_perm π (l.map fun k => (k, ()))).map (·.1)

theorem mem_pullKeys {κ} [DecidableEq κ] {π l : List κ} {x} : x ∈ pullKeys π l ↔ x ∈ l :=
  (pullKeys_perm π l).mem_iff

def keysOfMap {κ α} (m : List (κ × α)) : List κ := m.map (·.1)

theorem pull_nil {κ α} [DecidableEq κ] : ∀ (π : List κ), pull π ([] : List (κ × α)) = []
  | [] => rfl
  | _ :: ks => by simp [pull, extract, pull_nil ks]

/-- sorted keys: a key list that names every key leaves nothing to the runtime order -/
theorem pull_append_of_complete {κ α} [DecidableEq κ] : ∀ (ks ρ : List κ) (m : List (κ × α)),
    (keysOfMap m).Nodup → (∀ kv ∈ m, kv.1 ∈ ks) → pull (ks ++ ρ) m = pull ks m
  | [], ρ, [], _, _ => by simp [pull_nil, pull]
  | [], ρ, kv :: _, _, hsub => absurd (hsub kv mem_cons_self) not_mem_nil
  | k :: ks, ρ, m, hnd, hsub => by
    simp only [cons_append, pull]
    split
    · rename_i v m' hx
      have hp := extract_perm hx
      have hnd' : (keysOfMap ((k, v) :: m')).Nodup := (hp.map _).nodup_iff.mp hnd
      simp only [keysOfMap, map_cons, nodup_cons] at hnd'
      rw [pull_append_of_complete ks ρ m' hnd'.2]
      intro kv hkv
      -- `k` has been taken out: a remaining key is named further down the list
      rcases mem_cons.mp (hsub kv (hp.mem_iff.mpr (mem_cons_of_mem _ hkv))) with h | h
      · exact absurd (mem_map.mpr ⟨kv, hkv, h⟩) hnd'.1
      · exact h
    · rename_i hx
      apply pull_append_of_complete ks ρ m hnd
      intro kv hkv
      exact (mem_cons.mp (hsub kv hkv)).resolve_left (extract_none hx kv hkv)

theorem pullKeys_append_of_complete {κ} [DecidableEq κ] (ks ρ l : List κ) (hnd : l.Nodup)
    (hsub : ∀ k ∈ l, k ∈ ks) : pullKeys (ks ++ ρ) l = pullKeys ks l := by
  unfold pullKeys
  rw [pull_append_of_complete]
  · simpa [keysOfMap, Function.comp_def] using hnd
  · simpa using hsub

theorem indexed_eq_zipIdx {α} : ∀ (l : List α) (n : Nat), indexed l n = (l.zipIdx n).map fun p => (p.2, p.1)
  | [], _ => rfl
  | _ :: xs, n => by simp [indexed, indexed_eq_zipIdx xs]

theorem mem_indexed_iff {α} {l : List α} {n i : Nat} {x : α} :
    (i, x) ∈ indexed l n ↔ n ≤ i ∧ l[i - n]? = some x := by
  rw [indexed_eq_zipIdx, mem_map]
  constructor
  · rintro ⟨p, h, ⟨⟩⟩; exact mem_zipIdx_iff_le_and_getElem?_sub.mp h
  · exact fun h => ⟨(x, i), mem_zipIdx_iff_le_and_getElem?_sub.mpr h, rfl⟩

theorem keys_indexed {α} (l : List α) (n : Nat) : keysOfMap (indexed l n) = range' n l.length := by
  simp [keysOfMap, indexed_eq_zipIdx, Function.comp_def, ← zipIdx_map_snd]

theorem mem_indexed {α} {l : List α} {n i : Nat} {x : α} (h : (i, x) ∈ indexed l n) : x ∈ l :=
  mem_of_getElem? (mem_indexed_iff.mp h).2

theorem exists_indexed {α} {l : List α} {x : α} (n : Nat) (h : x ∈ l) : ∃ i, (i, x) ∈ indexed l n := by
  obtain ⟨j, hj⟩ := getElem?_of_mem h
  exact ⟨n + j, mem_indexed_iff.mpr ⟨Nat.le_add_right .., by simpa using hj⟩⟩

theorem exists_mem_pull_indexed {α} {π : List Nat} {l : List α} {n : Nat} {p : α → Prop} :
    (∃ ks ∈ pull π (indexed l n), p ks.2) ↔ ∃ s ∈ l, p s :=
  ⟨fun ⟨ks, hm, h⟩ => ⟨ks.2, mem_indexed (mem_pull.mp hm), h⟩,
   fun ⟨s, hs, h⟩ => (exists_indexed n hs).elim fun i hi => ⟨(i, s), mem_pull.mpr hi, h⟩⟩

theorem indexed_key_lt {α} {l : List α} {n : Nat} {kv : Nat × α} (h : kv ∈ indexed l n) : kv.1 < n + l.length := by
  have : kv.1 ∈ keysOfMap (indexed l n) := mem_map_of_mem h
  exact (mem_range'_1.mp (keys_indexed l n ▸ this)).2

theorem nodup_indexed_keys {α} (l : List α) (n : Nat) : (keysOfMap (indexed l n)).Nodup :=
  keys_indexed l n ▸ nodup_range' ..

/-- `v ∈ m[k]` -/
def assocMem {κ α} (m : List (κ × List α)) (k : κ) (v : α) : Prop := ∃ vs, (k, vs) ∈ m ∧ v ∈ vs

theorem assocMem_nil {κ α} {k : κ} {v : α} : ¬ assocMem ([] : List (κ × List α)) k v := by
  simp [assocMem]

theorem assocMem_cons {κ α} {m : List (κ × List α)} {k k0 : κ} {vs0 : List α} {v : α} :
    assocMem ((k0, vs0) :: m) k v ↔ (k = k0 ∧ v ∈ vs0) ∨ assocMem m k v := by
  simp only [assocMem, mem_cons, Prod.mk.injEq, or_and_right, exists_or, and_assoc, exists_and_left, exists_eq_left]

theorem assocMem_append {κ α} [DecidableEq κ] {k k' : κ} {v v' : α} {m : List (κ × List α)} :
    assocMem (assocAppend m k v) k' v' ↔ assocMem m k' v' ∨ (k' = k ∧ v' = v) := by
  fun_induction assocAppend m k v
  · simp [assocMem_cons, assocMem_nil]
  · simp only [assocMem_cons, mem_append, mem_singleton, and_or_left, or_right_comm]
  · rename_i ih; simp only [assocMem_cons, ih, or_assoc]

theorem mem_assocAppend {κ α} [DecidableEq κ] {k : κ} {v : α} {m : List (κ × List α)} {kv : κ × List α}
    (h : kv ∈ assocAppend m k v) : kv ∈ m ∨ ∃ vs, kv = (k, vs ++ [v]) ∧ (vs = [] ∨ (k, vs) ∈ m) := by
  fun_induction assocAppend m k v
  · exact .inr ⟨[], by simpa using h, .inl rfl⟩
  · rcases mem_cons.mp h with rfl | h
    · exact .inr ⟨_, rfl, .inr mem_cons_self⟩
    · exact .inl (mem_cons_of_mem _ h)
  · rename_i ih
    rcases mem_cons.mp h with rfl | h
    · exact .inl mem_cons_self
    · exact (ih h).imp (mem_cons_of_mem _) fun ⟨vs, e, hm⟩ => ⟨vs, e, hm.imp_right (mem_cons_of_mem _)⟩

theorem hasKey_iff {κ α} [DecidableEq κ] {m : List (κ × α)} {k : κ} : hasKey m k = true ↔ k ∈ keysOfMap m := by
  simp [hasKey, keysOfMap]

theorem hasKey_of_assocMem {κ α} [DecidableEq κ] {m : List (κ × List α)} {k : κ} {v}
    (h : assocMem m k v) : hasKey m k = true := by
  obtain ⟨vs, hm, _⟩ := h
  exact hasKey_iff.mpr (mem_map.mpr ⟨_, hm, rfl⟩)

theorem keys_assocAppend {κ α} [DecidableEq κ] {k : κ} {v : α} {m : List (κ × List α)} :
    keysOfMap (assocAppend m k v) = if hasKey m k then keysOfMap m else keysOfMap m ++ [k] := by
  fun_induction assocAppend m k v
  · simp [keysOfMap, hasKey]
  · simp [keysOfMap, hasKey]
  · rename_i hk ih
    simp only [keysOfMap, map_cons, hasKey, any_cons, hk, decide_false, Bool.false_or] at ih ⊢
    rw [ih]
    split <;> simp [*]

theorem hasKey_append {κ α} [DecidableEq κ] {k k' : κ} {v : α} {m : List (κ × List α)} :
    hasKey (assocAppend m k v) k' = (hasKey m k' || decide (k' = k)) := by
  rw [Bool.eq_iff_iff]
  simp only [hasKey_iff, keys_assocAppend, Bool.or_eq_true, decide_eq_true_eq]
  split
  · rename_i h
    exact (or_iff_left_of_imp fun e => e ▸ h).symm
  · simp

/-- the maps of phase 1 are built from `[]` by `assocAppend` only, so such an `I` holds of each -/
structure AppendInv {κ α} [DecidableEq κ] (I : List (κ × List α) → Prop) : Prop where
  nil : I []
  append : ∀ (m : List (κ × List α)) (k : κ) (v : α), I m → I (assocAppend m k v)

theorem nodupKeys_inv {κ α} [DecidableEq κ] : AppendInv fun m : List (κ × List α) => (keysOfMap m).Nodup := by
  refine ⟨nodup_nil, fun m k v h => ?_⟩
  rw [keys_assocAppend]
  split
  · exact h
  · rename_i hk
    exact (perm_append_singleton ..).nodup_iff.mpr (nodup_cons.mpr ⟨mt hasKey_iff.mpr hk, h⟩)

def NonEmptyVals {κ α} (m : List (κ × List α)) : Prop := ∀ k vs, (k, vs) ∈ m → vs ≠ []

theorem nonEmptyVals_inv {κ α} [DecidableEq κ] : AppendInv (@NonEmptyVals κ α) := by
  refine ⟨fun _ _ h => (nomatch h), fun m k v h k' vs hm => ?_⟩
  rcases mem_assocAppend hm with hm | ⟨_, e, _⟩
  · exact h k' vs hm
  · cases e; simp

theorem assocMem_of_hasKey {κ α} [DecidableEq κ] {m : List (κ × List α)} {k : κ}
    (hne : NonEmptyVals m) (h : hasKey m k = true) : ∃ v, assocMem m k v := by
  obtain ⟨⟨_, vs⟩, hm, rfl⟩ := mem_map.mp (hasKey_iff.mp h)
  obtain ⟨v, hv⟩ := exists_mem_of_ne_nil vs (hne _ vs hm)
  exact ⟨v, vs, hm, hv⟩

end CaddyModel.C11
