/-
C11 — the redirect routes: what the main loop keeps in `redirDomains`, and how
`domainsByAddr` and `redirServers` turn it into routes.  Defines `Route.covers`, `Route.lists`
and `Route.port`, in which the redirect theorems of Props.lean are stated, `contributes`, `addedBy` /
`keep` and `rsOf`, which the later modules use; last, `DbaInv`: the order of a route's host list.
Names: `…_col` says what `assocMem · d a` becomes, `…_hasKey` what `hasKey · d` becomes, after one
step `rdStepX` at level `X` of the loop nest or after its fold over any list (`rdFoldX`; `foldMain` for `mainStep`).
-/
import CaddyModel.C11.Certs
namespace CaddyModel.C11
open List

/-- the test of `rdStepDom` — the key is new, or the listener is on the HTTPS port — as a proposition -/
def condOK (https : Nat) (a0 : Addr) (rd : RD) (d : Name) : Prop := hasKey rd d = false ∨ a0.sp = https

theorem rdStepDom_col {https : Nat} {a0 : Addr} {rd : RD} {d1 d : Name} {a : Addr} :
    assocMem (rdStepDom https a0 rd d1) d a ↔ assocMem rd d a ∨ (d = d1 ∧ a = a0 ∧ condOK https a0 rd d1) := by
  have hc : (!hasKey rd d1 || decide (a0.sp = https)) = true ↔ condOK https a0 rd d1 := by simp [condOK]
  unfold rdStepDom
  split
  · rename_i h; simp [assocMem_append, hc.mp h]
  · rename_i h; simp [mt hc.mpr h]

theorem rdStepDom_hasKey {https : Nat} {a : Addr} {rd : RD} {d d' : Name} :
    hasKey (rdStepDom https a rd d) d' = (hasKey rd d' || decide (d' = d)) := by
  unfold rdStepDom
  split
  · exact hasKey_append
  · rename_i h
    by_cases e : d' = d
    · simp only [Bool.or_eq_true, Bool.not_eq_true', decide_eq_true_eq, not_or, Bool.not_eq_false] at h
      simp [e, h.1]
    · simp [e]

theorem rdFoldDom_hasKey {https : Nat} {a : Addr} {d' : Name} :
    ∀ {doms : List Name} {rd : RD},
      hasKey (doms.foldl (rdStepDom https a) rd) d' = (hasKey rd d' || doms.contains d')
  | [], rd => by simp
  | d :: doms, rd => by
    rw [foldl_cons, rdFoldDom_hasKey, rdStepDom_hasKey, Bool.or_assoc]
    congr 1

/-- the condition is evaluated where the name is first met: after that the key exists -/
theorem rdFoldDom_col {https : Nat} {a0 : Addr} {d : Name} {a : Addr} :
    ∀ {doms : List Name} {rd : RD},
      assocMem (doms.foldl (rdStepDom https a0) rd) d a ↔
        assocMem rd d a ∨ (d ∈ doms ∧ a = a0 ∧ condOK https a0 rd d)
  | [], rd => by simp
  | d1 :: rest, rd => by
    rw [foldl_cons, rdFoldDom_col (doms := rest), rdStepDom_col]
    by_cases e : d = d1
    · subst e
      simp only [condOK, rdStepDom_hasKey, decide_true, Bool.or_true, Bool.true_eq_false, false_or, mem_cons,
        true_or, true_and]
      grind
    · simp [condOK, rdStepDom_hasKey, e]

theorem mem_keysOf_cases {s : Server} {d : Name} :
    d ∈ keysOf s ↔ ((domainSet s).isEmpty = true ∧ d = 0) ∨ ((domainSet s).isEmpty = false ∧ d ∈ domainSet s) := by
  unfold keysOf
  cases h : (domainSet s).isEmpty <;> simp

theorem rdStepAddr_hasKey {https : Nat} {s : Server} {rd : RD} {a : Addr} {d' : Name} :
    hasKey (rdStepAddr https (domainSet s) rd a) d' = (hasKey rd d' || (keysOf s).contains d') := by
  unfold rdStepAddr keysOf
  split
  · rw [hasKey_append]; simp
  · rw [rdFoldDom_hasKey]

theorem rdStepAddr_col {https : Nat} {s : Server} {rd : RD} {a0 a : Addr} {d : Name} :
    assocMem (rdStepAddr https (domainSet s) rd a0) d a ↔
      assocMem rd d a ∨ (d ∈ keysOf s ∧ a = a0 ∧ ((domainSet s).isEmpty = true ∨ condOK https a0 rd d)) := by
  unfold rdStepAddr
  split
  · rename_i he; simp [assocMem_append, mem_keysOf_cases, he]
  · rename_i he; simp [rdFoldDom_col, mem_keysOf_cases, he]

/-- the addresses a server adds to the column of one of its keys, given whether the key
    already exists: every listener if the server has no names (catch-all key), else the
    listeners on the HTTPS port plus — only if the key is new — the first listener -/
def addedBy (c : Config) (s : Server) (has : Bool) : List Addr :=
  if (domainSet s).isEmpty then s.listen
  else s.listen.filter (fun a => decide (a.sp = httpsPort c)) ++ (if has then [] else s.listen.head?.toList)

theorem rdFoldAddr_hasKey {https : Nat} {s : Server} {d' : Name} :
    ∀ {as : List Addr} {rd : RD},
      hasKey (as.foldl (rdStepAddr https (domainSet s)) rd) d' =
        (hasKey rd d' || (!as.isEmpty && (keysOf s).contains d'))
  | [], rd => by simp
  | a :: as, rd => by
    rw [foldl_cons, rdFoldAddr_hasKey, rdStepAddr_hasKey]
    cases hasKey rd d' <;> cases (keysOf s).contains d' <;> simp

theorem rdFoldAddr_col {https : Nat} {s : Server} {d : Name} {a : Addr} :
    ∀ {as : List Addr} {rd : RD},
      assocMem (as.foldl (rdStepAddr https (domainSet s)) rd) d a ↔
        assocMem rd d a ∨ (d ∈ keysOf s ∧ a ∈ as ∧
          ((domainSet s).isEmpty = true ∨ a.sp = https ∨ (hasKey rd d = false ∧ as.head? = some a)))
  | [], rd => by simp
  | a0 :: as, rd => by
    rw [foldl_cons, rdFoldAddr_col (as := as), rdStepAddr_col, rdStepAddr_hasKey]
    -- after the first address a key of the server exists: "new key" can only hold for the head
    by_cases hd : d ∈ keysOf s
    · simp only [hd, condOK, elem_eq_mem, decide_true, Bool.or_true, Bool.true_eq_false, false_and, or_false,
        true_and, mem_cons, head?_cons, Option.some.injEq]
      grind
    · simp [hd]

theorem mem_addedBy {c : Config} {s : Server} {has : Bool} {a : Addr} :
    a ∈ addedBy c s has ↔ a ∈ s.listen ∧
      ((domainSet s).isEmpty = true ∨ a.sp = httpsPort c ∨ (has = false ∧ s.listen.head? = some a)) := by
  have hh : s.listen.head? = some a → a ∈ s.listen := mem_of_mem_head?
  unfold addedBy
  cases (domainSet s).isEmpty <;> cases has <;> simp [mem_filter, Option.mem_toList] <;> grind

theorem rdStepSrv_col {c : Config} {s : Server} {d : Name} {a : Addr} {rd : RD} :
    assocMem (rdStepSrv c s rd) d a ↔ assocMem rd d a ∨ (d ∈ keysOf s ∧ a ∈ addedBy c s (hasKey rd d)) := by
  unfold rdStepSrv
  rw [rdFoldAddr_col, mem_addedBy]

theorem rdStepSrv_hasKey {c : Config} {s : Server} {d : Name} {rd : RD} :
    hasKey (rdStepSrv c s rd) d = (hasKey rd d || (!s.listen.isEmpty && (keysOf s).contains d)) :=
  rdFoldAddr_hasKey

theorem redirOn_iff {c : Config} {s : Server} : redirOn c s = true ↔ engaged c s = true ∧ s.disableRedir = false := by
  simp [redirOn]

theorem active_of_engaged {c : Config} {s : Server} (h : engaged c s = true) : active c s = true := by
  simp only [engaged, Bool.and_eq_true] at h
  exact h.1

/-- server `s` puts its listeners under key `d` -/
def contributes (c : Config) (s : Server) (d : Name) : Prop := redirOn c s = true ∧ d ∈ keysOf s

theorem contributes_of_redirectsOn {c : Config} {s : Server} {d : Name} (h : redirectsOn c s d = true) :
    contributes c s d := by
  simp only [redirectsOn, Bool.and_eq_true, Bool.not_eq_true'] at h
  obtain ⟨⟨ha, hr⟩, hh⟩ := h
  have hd := hosts_iff.mp hh
  exact ⟨redirOn_iff.mpr ⟨engaged_of_mem_domainSet hd ▸ ha, hr⟩,
    mem_keysOf_cases.mpr (.inr ⟨by simp [ne_nil_of_mem hd], hd⟩)⟩

theorem listen_ne_nil_of_active {c : Config} {s : Server} (h : active c s = true) : s.listen.isEmpty = false := by
  unfold active usesOther at h
  cases hl : s.listen with
  | nil => simp [hl] at h
  | cons => rfl

theorem mainStep_rd {c : Config} {P : Params} {st : List Name × RD} {ks : Nat × Server} :
    (mainStep c P st ks).2 = if redirOn c ks.2 then rdStepSrv c ks.2 st.2 else st.2 := by
  unfold mainStep redirOn
  cases engaged c ks.2 <;> cases ks.2.disableRedir <;> rfl

theorem mainStep_col {c : Config} {P : Params} {st : List Name × RD} {ks : Nat × Server} {d : Name} {a : Addr} :
    assocMem (mainStep c P st ks).2 d a ↔
      assocMem st.2 d a ∨ (contributes c ks.2 d ∧ a ∈ addedBy c ks.2 (hasKey st.2 d)) := by
  rw [mainStep_rd]
  split <;> simp [rdStepSrv_col, contributes, *]

theorem mainStep_hasKey {c : Config} {P : Params} {st : List Name × RD} {ks : Nat × Server} {d : Name} :
    hasKey (mainStep c P st ks).2 d = true ↔ hasKey st.2 d = true ∨ contributes c ks.2 d := by
  rw [mainStep_rd]
  split
  · rename_i hr
    rw [rdStepSrv_hasKey, Bool.or_eq_true]
    refine or_congr_right ⟨fun h => ?_, fun h => ?_⟩
    · simp only [Bool.and_eq_true, contains_iff_mem] at h
      exact ⟨hr, h.2⟩
    · simp [listen_ne_nil_of_active (active_of_engaged (redirOn_iff.mp h.1).1), h.2]
  · simp [contributes, *]

theorem mainLoop_rd_mem (c : Config) (P : Params) (π : Orders) {d : Name} {a : Addr}
    (h : assocMem (mainLoop c P π).2 d a) : ∃ s ∈ c.servers, contributes c s d ∧ a ∈ s.listen :=
  exists_mem_pull_indexed.mp <| (foldl_mem_imp (M := fun st : List Name × RD => assocMem st.2 d a)
    (N := fun ks : Nat × Server => contributes c ks.2 d ∧ a ∈ ks.2.listen)
    (fun _ _ h => (mainStep_col.mp h).imp_right fun h => ⟨h.1, (mem_addedBy.mp h.2).1⟩) h).resolve_left assocMem_nil

theorem mainLoop_hasKey (c : Config) (P : Params) (π : Orders) {d : Name} :
    hasKey (mainLoop c P π).2 d = true ↔ ∃ s ∈ c.servers, contributes c s d :=
  (foldl_mem_iff (f := mainStep c P) (M := fun st => hasKey st.2 d = true) (N := fun ks => contributes c ks.2 d)
    fun _ _ => mainStep_hasKey).trans <| by
      rw [exists_mem_pull_indexed (p := (contributes c · d))]
      simp [hasKey]

/-- every listener on the HTTPS port is kept (the `bind` case, upstream issue 3443) -/
theorem mainLoop_keeps_https (c : Config) (P : Params) (π : Orders) {d : Name} {a : Addr} {s : Server}
    (hs : s ∈ c.servers) (hc : contributes c s d) (ha : a ∈ s.listen) (hp : a.sp = httpsPort c) :
    assocMem (mainLoop c P π).2 d a :=
  foldl_mem_of (M := fun st : List Name × RD => assocMem st.2 d a)
    (N := fun ks : Nat × Server => contributes c ks.2 d ∧ a ∈ ks.2.listen ∧ a.sp = httpsPort c)
    (fun _ _ h => mainStep_col.mpr (h.imp_right fun h => ⟨h.1, mem_addedBy.mpr ⟨h.2.1, .inr (.inl h.2.2)⟩⟩))
    (.inr <| (exists_mem_pull_indexed (p := fun s => contributes c s d ∧ a ∈ s.listen ∧ a.sp = httpsPort c)).mpr
      ⟨s, hs, hc, ha, hp⟩)

theorem mainLoop_rd_inv {I : RD → Prop} (hI : AppendInv I) (c : Config) (P : Params) (π : Orders) :
    I (mainLoop c P π).2 := by
  refine foldlRecOn (motive := fun st : List Name × RD => I st.2) _ _ hI.nil fun st h ks _ => ?_
  rw [mainStep_rd]
  split
  · refine foldlRecOn _ _ h fun rd h a _ => ?_
    unfold rdStepAddr
    split
    · exact hI.append _ _ _ h
    · refine foldlRecOn _ _ h fun rd h d _ => ?_
      unfold rdStepDom
      split
      · exact hI.append _ _ _ h
      · exact h
  · exact h

/-! ### DESIGN F16, the positive side -/

/-- what a contributor keeps for key `d` when it comes first (π-free) -/
def keep (c : Config) (s : Server) : List Addr := addedBy c s false

theorem addedBy_indep {c : Config} {s : Server} {has : Bool} {a : Addr}
    (h : has = false ∨ (domainSet s).isEmpty = true ∨ offHTTPS c s = false) : a ∈ addedBy c s has ↔ a ∈ keep c s := by
  rw [keep, mem_addedBy, mem_addedBy]
  refine and_congr_right fun ha => ?_
  rcases h with h | h | h
  · simp [h]
  · simp [h]
  · simp only [offHTTPS, any_eq_false, decide_eq_true_eq, Decidable.not_not] at h
    simp [h a ha]

theorem ambName_iff {c : Config} {d : Name} : ambName c d = true ↔
    ∃ is ∈ indexed c.servers 0, contributes c is.2 d ∧ (domainSet is.2).isEmpty = false ∧ offHTTPS c is.2 = true ∧
      ∃ js ∈ indexed c.servers 0, js.1 ≠ is.1 ∧ contributes c js.2 d := by
  simp only [ambName, contributes, any_eq_true, Bool.and_eq_true, Bool.not_eq_true', decide_eq_true_eq,
    contains_iff_mem, and_assoc]

/-- over any duplicate-free selection `l` of the configured servers.  `hk`: a key that is
    there at the start was brought by a contributor outside `l` — so a server with names of
    its own, off the HTTPS port, always finds its keys new. -/
theorem foldMain_col (c : Config) (P : Params) (d : Name) (hamb : ambName c d = false) (a : Addr) :
    ∀ (l : List (Nat × Server)) (st : List Name × RD),
      (∀ ks ∈ l, ks ∈ indexed c.servers 0) → (keysOfMap l).Nodup →
      (hasKey st.2 d = true → ∃ js ∈ indexed c.servers 0, js.1 ∉ keysOfMap l ∧ contributes c js.2 d) →
      (assocMem (l.foldl (mainStep c P) st).2 d a ↔
        assocMem st.2 d a ∨ ∃ ks ∈ l, contributes c ks.2 d ∧ a ∈ keep c ks.2)
  | [], st, _, _, _ => by simp
  | ks :: l, st, hsub, hnd, hk => by
    have hnd' : ks.1 ∉ keysOfMap l ∧ (keysOfMap l).Nodup := nodup_cons.mp hnd
    obtain ⟨hks, hsub'⟩ := forall_mem_cons.mp hsub
    have hindep : contributes c ks.2 d → (a ∈ addedBy c ks.2 (hasKey st.2 d) ↔ a ∈ keep c ks.2) := by
      intro hc
      refine addedBy_indep (Decidable.by_contra fun hcond => ?_)
      have hcond' : hasKey st.2 d = true ∧ (domainSet ks.2).isEmpty = false ∧ offHTTPS c ks.2 = true := by
        simpa using hcond
      obtain ⟨js, hjs, hn, hcj⟩ := hk hcond'.1
      have : ambName c d = true := ambName_iff.mpr ⟨ks, hks, hc, hcond'.2.1, hcond'.2.2, js, hjs,
        fun e => hn (e ▸ mem_cons_self), hcj⟩
      rw [hamb] at this; cases this
    rw [foldl_cons, foldMain_col c P d hamb a l _ hsub' hnd'.2, mainStep_col]
    · simp only [mem_cons, exists_eq_or_imp, or_assoc]
      exact or_congr_right (or_congr_left (and_congr_right hindep))
    · intro h
      rcases mainStep_hasKey.mp h with h | h
      · obtain ⟨js, hjs, hn, hc⟩ := hk h
        exact ⟨js, hjs, fun hm => hn (mem_cons_of_mem _ hm), hc⟩
      · exact ⟨ks, hks, hnd'.1, h⟩

/-- **`redirDomains` is order-independent for every unambiguous key**: the addresses kept
    for `d` are what each contributing server keeps on its own -/
theorem redirDomains_col (c : Config) (P : Params) (π : Orders) (d : Name) (hamb : ambName c d = false) (a : Addr) :
    assocMem (mainLoop c P π).2 d a ↔ ∃ s ∈ c.servers, contributes c s d ∧ a ∈ keep c s := by
  unfold mainLoop
  rw [foldMain_col c P d hamb a _ _ (fun ks h => mem_pull.mp h)
    (((pull_perm _ _).map _).nodup_iff.mpr (nodup_indexed_keys c.servers 0)) (fun h => by simp [hasKey] at h),
    exists_mem_pull_indexed (p := fun s => contributes c s d ∧ a ∈ keep c s)]
  simp [assocMem_nil]

theorem mainLoop_rd_complete (c : Config) (P : Params) (π : Orders) {s : Server} {d : Name}
    (hs : s ∈ c.servers) (hc : contributes c s d) : ∃ a, assocMem (mainLoop c P π).2 d a :=
  assocMem_of_hasKey (mainLoop_rd_inv nonEmptyVals_inv c P π) ((mainLoop_hasKey c P π).mpr ⟨s, hs, hc⟩)

/-! ### from `redirDomains` to the redirect routes -/

theorem dbaStep_mem {m : DBA} {da : Name × List Addr} {a : Addr} {d : Name} :
    assocMem (dbaStep m da) a d ↔ assocMem m a d ∨ (d = da.1 ∧ a ∈ da.2) :=
  (foldl_mem_iff (M := fun m => assocMem m a d) (N := fun a' => a = a' ∧ d = da.1) fun _ _ => assocMem_append).trans
    (or_congr_right ⟨fun ⟨_, hm, e, hd⟩ => ⟨hd, e ▸ hm⟩, fun ⟨hd, hm⟩ => ⟨a, hm, rfl, hd⟩⟩)

theorem mem_domainsByAddr {π : Orders} {rd : RD} {a : Addr} {d : Name} :
    assocMem (domainsByAddr π rd) a d ↔ assocMem rd d a :=
  (foldl_mem_iff (M := fun m => assocMem m a d) (N := fun da => d = da.1 ∧ a ∈ da.2) fun _ _ => dbaStep_mem).trans
    ⟨fun h => (h.resolve_left assocMem_nil).elim fun ⟨_, vs⟩ ⟨hm, e, ha⟩ => ⟨vs, e ▸ mem_pull.mp hm, ha⟩,
     fun ⟨vs, hm, ha⟩ => .inr ⟨(d, vs), mem_pull.mpr hm, rfl, ha⟩⟩

theorem domainsByAddr_inv {I : DBA → Prop} (hI : AppendInv I) (π : Orders) (rd : RD) : I (domainsByAddr π rd) :=
  foldlRecOn _ _ hI.nil fun _ h _ _ => foldlRecOn _ _ h fun _ h _ _ => hI.append _ _ _ h

theorem mem_redirServers {c : Config} {π : Orders} {dba : DBA} {R : Addr} {rt : Route} :
    assocMem (redirServers c π dba) R rt ↔ ∃ ad ∈ dba, R = redirAddr c ad.1 ∧ rt = mkRedirRoute c ad.1 ad.2 :=
  (foldl_mem_iff (f := rsStep c) (M := fun m => assocMem m R rt)
    (N := fun ad => R = redirAddr c ad.1 ∧ rt = mkRedirRoute c ad.1 ad.2) fun _ _ => assocMem_append).trans
    (by simp [assocMem_nil, mem_pull])

/-- the route lists `d`, or has no host matcher at all -/
def Route.covers (d : Name) : Route → Bool
  | .redir none _ => true
  | .redir (some hs) _ => hs.contains d
  | .user _ _ => false

/-- the route's host matcher lists `d` -/
def Route.lists (d : Name) : Route → Bool
  | .redir (some hs) _ => hs.contains d
  | _ => false

def Route.port : Route → Nat
  | .redir _ p => p
  | .user _ _ => 0

theorem mkRedirRoute_covers {c : Config} {a : Addr} {doms : List Name} {d : Name} (h : d ∈ doms) :
    (mkRedirRoute c a doms).covers d = true := by
  unfold mkRedirRoute
  split <;> simp [Route.covers, mem_foldl_addSet, h]

theorem mkRedirRoute_lists {c : Config} {a : Addr} {doms : List Name} {d : Name}
    (h : (mkRedirRoute c a doms).lists d = true) : d ∈ doms := by
  unfold mkRedirRoute at h
  split at h
  · simp [Route.lists] at h
  · simpa [Route.lists, mem_foldl_addSet] using h

theorem portRule_httpsPort (c : Config) : portRule c (httpsPort c) = 0 := by simp [portRule]

theorem mkRedirRoute_port {c : Config} {a : Addr} {doms : List Name} :
    (mkRedirRoute c a doms).port = portRule c a.sp := rfl

theorem mkRedirRoute_isRedir {c : Config} {a : Addr} {doms : List Name} :
    (mkRedirRoute c a doms).isRedir = true := rfl

def rsOf (c : Config) (P : Params) (π : Orders) : RS :=
  redirServers c π (domainsByAddr π (mainLoop c P π).2)

theorem rsOf_inv {I : RS → Prop} (hI : AppendInv I) (c : Config) (P : Params) (π : Orders) : I (rsOf c P π) :=
  foldlRecOn (motive := I) _ _ hI.nil fun _ h _ _ => hI.append _ _ _ h

theorem dba_key_listen (c : Config) (P : Params) (π : Orders) {ad : Addr × List Name}
    (hm : ad ∈ domainsByAddr π (mainLoop c P π).2) :
    ad.2 ≠ [] ∧ ∀ d ∈ ad.2, ∃ s ∈ c.servers, contributes c s d ∧ ad.1 ∈ s.listen :=
  ⟨domainsByAddr_inv nonEmptyVals_inv π _ ad.1 ad.2 hm, fun _ hd => mainLoop_rd_mem c P π (mem_domainsByAddr.mp ⟨ad.2, hm, hd⟩)⟩

theorem rsOf_sound (c : Config) (P : Params) (π : Orders) {R : Addr} {rt : Route}
    (h : assocMem (rsOf c P π) R rt) :
    ∃ a doms, R = redirAddr c a ∧ rt = mkRedirRoute c a doms ∧ doms ≠ [] ∧
      ∀ d ∈ doms, ∃ s ∈ c.servers, contributes c s d ∧ a ∈ s.listen := by
  obtain ⟨ad, hm, h1, h2⟩ := mem_redirServers.mp h
  exact ⟨ad.1, ad.2, h1, h2, dba_key_listen c P π hm⟩

theorem rsOf_isRedir (c : Config) (P : Params) (π : Orders) {R : Addr} {rt : Route}
    (h : assocMem (rsOf c P π) R rt) : rt.isRedir = true := by
  obtain ⟨a, doms, _, rfl, _, _⟩ := rsOf_sound c P π h
  exact mkRedirRoute_isRedir

theorem rs_key_listen (c : Config) (P : Params) (π : Orders) {rr : Addr × List Route}
    (hm : rr ∈ rsOf c P π) : ∃ s ∈ c.servers, redirOn c s = true ∧ ∃ a ∈ s.listen, rr.1 = redirAddr c a := by
  obtain ⟨rt, hrt⟩ := exists_mem_of_ne_nil rr.2 (rsOf_inv nonEmptyVals_inv c P π rr.1 rr.2 hm)
  obtain ⟨a, doms, h1, _, h3, h4⟩ := rsOf_sound c P π ⟨rr.2, hm, hrt⟩
  obtain ⟨d, hd⟩ := exists_mem_of_ne_nil doms h3
  obtain ⟨s, hs, hc, ha⟩ := h4 d hd
  exact ⟨s, hs, hc.1, a, ha, h1⟩

/-! ### the host list of a redirect route follows the iteration order of `redirDomains` -/

/-- every value list is ordered (`R` or equal) and made of names already seen -/
def DbaInv (R : Name → Name → Prop) (seen : List Name) (m : DBA) : Prop :=
  ∀ ad ∈ m, ad.2.Pairwise (fun x y => R x y ∨ x = y) ∧ ∀ x ∈ ad.2, x ∈ seen

theorem DbaInv.append {R : Name → Name → Prop} {seen : List Name} {a : Addr} {d : Name}
    (hd : d ∈ seen) (hR : ∀ x ∈ seen, R x d ∨ x = d) :
    ∀ {m : DBA}, DbaInv R seen m → DbaInv R seen (assocAppend m a d) := by
  intro m h ad had
  rcases mem_assocAppend had with had | ⟨vs, rfl, hvs⟩
  · exact h ad had
  · -- the value list of `a`, so far ordered and seen, gets `d` at its end
    have hv : vs.Pairwise (fun x y => R x y ∨ x = y) ∧ ∀ x ∈ vs, x ∈ seen :=
      hvs.elim (fun e => e ▸ ⟨.nil, fun _ h => nomatch h⟩) (h (a, vs))
    exact ⟨pairwise_append.mpr ⟨hv.1, by simp, fun x hx y hy => mem_singleton.mp hy ▸ hR x (hv.2 x hx)⟩,
      forall_mem_append.mpr ⟨hv.2, forall_mem_singleton.mpr hd⟩⟩

theorem DbaInv.outer {R : Name → Name → Prop} :
    ∀ (l : RD) (seen : List Name) (m : DBA), (keysOfMap l).Pairwise R → (∀ x ∈ seen, ∀ k ∈ keysOfMap l, R x k) →
      DbaInv R seen m → DbaInv R (seen ++ keysOfMap l) (l.foldl dbaStep m)
  | [], seen, m, _, _, h => by simpa [keysOfMap] using h
  | (d, as) :: l, seen, m, hp, hs, h => by
    simp only [keysOfMap, map_cons, pairwise_cons] at hp
    have hmono : DbaInv R (seen ++ [d]) m := fun ad had =>
      ⟨(h ad had).1, fun x hx => mem_append_left _ ((h ad had).2 x hx)⟩
    have hR : ∀ x ∈ seen ++ [d], R x d ∨ x = d :=
      forall_mem_append.mpr ⟨fun x hx => .inl (hs x hx d mem_cons_self), forall_mem_singleton.mpr (.inr rfl)⟩
    have hstep : DbaInv R (seen ++ [d]) (dbaStep m (d, as)) :=
      foldlRecOn _ _ hmono fun _ h _ _ => DbaInv.append (by simp) hR h
    have := DbaInv.outer l (seen ++ [d]) _ hp.2
      (forall_mem_append.mpr ⟨fun x hx k hk => hs x hx k (mem_cons_of_mem _ hk), forall_mem_singleton.mpr hp.1⟩) hstep
    simpa [keysOfMap, append_assoc] using this

end CaddyModel.C11
