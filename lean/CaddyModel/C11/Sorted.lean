/-
C11 — the repaired code: every `range` of phase 1 runs over sorted keys.  When the key lists
name every key a map can hold (`Complete`, defined here; the hypothesis of `deterministic` in
Props.lean), `pull` never reaches the runtime order, loop by loop.
-/
import CaddyModel.C11.Servers
namespace CaddyModel.C11
open List

/-- `κ` names every key each map of phase 1 can hold (any superset does; order and repetitions in
    `κ` do not matter): server indices, host names and name 0 (the catch-all key of `redirDomains`),
    listener addresses and their redirect addresses -/
structure Complete (c : Config) (κ : Orders) : Prop where
  srv : ∀ i, i < c.servers.length → i ∈ κ.srv
  recv : ∀ R i, i < c.servers.length → i ∈ κ.recv R
  uniq : ∀ d ∈ c.servers.flatMap allHosts, d ∈ κ.uniq
  dom0 : 0 ∈ κ.dom
  dom : ∀ d ∈ c.servers.flatMap allHosts, d ∈ κ.dom
  addr : ∀ s ∈ c.servers, ∀ a ∈ s.listen, a ∈ κ.addr
  raddr : ∀ s ∈ c.servers, ∀ a ∈ s.listen, redirAddr c a ∈ κ.raddr
  laddr : ∀ s ∈ c.servers, ∀ a ∈ s.listen, redirAddr c a ∈ κ.laddr

variable {c : Config} {κ : Orders} (P : Params) (ρ : Orders) (h : Complete c κ)
include h

theorem mainLoop_over : mainLoop c P (κ.over ρ) = mainLoop c P κ := by
  unfold mainLoop Orders.over
  simp only
  rw [pull_append_of_complete _ _ _ (nodup_indexed_keys c.servers 0)]
  exact fun kv hkv => h.srv kv.1 (by simpa using indexed_key_lt hkv)

theorem loopB_over : loopB P c.policies (κ.over ρ) (mainLoop c P κ).1 = loopB P c.policies κ (mainLoop c P κ).1 := by
  unfold loopB Orders.over
  simp only
  rw [pullKeys_append_of_complete _ _ _ (nodup_mainLoop_uniq c P κ)]
  exact fun d hd => h.uniq d (qualifies_mem ((mem_uniq_iff c P κ d).mp hd))

theorem domainsByAddr_over :
    domainsByAddr (κ.over ρ) (mainLoop c P κ).2 = domainsByAddr κ (mainLoop c P κ).2 := by
  unfold domainsByAddr Orders.over
  simp only
  rw [pull_append_of_complete _ _ _ (mainLoop_rd_inv nodupKeys_inv c P κ)]
  intro kv hkv
  -- a key of `redirDomains` is a name of a contributing server, or the catch-all key
  obtain ⟨s, hs, _, hk⟩ := (mainLoop_hasKey c P κ).mp (hasKey_iff.mpr (mem_map_of_mem hkv))
  rcases mem_keysOf_cases.mp hk with ⟨_, h0⟩ | ⟨_, h0⟩
  · exact h0 ▸ h.dom0
  · exact h.dom _ (mem_flatMap.mpr ⟨s, hs, (mem_domainSet.mp h0).1⟩)

theorem redirServers_over :
    redirServers c (κ.over ρ) (domainsByAddr κ (mainLoop c P κ).2) = rsOf c P κ := by
  unfold rsOf redirServers Orders.over
  simp only
  rw [pull_append_of_complete _ _ _ (domainsByAddr_inv nodupKeys_inv κ _)]
  intro kv hkv
  obtain ⟨hne, hd⟩ := dba_key_listen c P κ hkv
  obtain ⟨d, hd'⟩ := exists_mem_of_ne_nil _ hne
  obtain ⟨s, hs, _, ha⟩ := hd d hd'
  exact h.addr s hs _ ha

/-- the inner `range app.Servers`: the keys of the servers never change -/
theorem foldF_over (b : Bool) : ∀ (l : RS) (st : LoopF), skel st.srvs = skel (initSrvs c) →
    l.foldl (stepF c b (κ.over ρ)) st = l.foldl (stepF c b κ) st
  | [], _, _ => rfl
  | rr :: l, st, hk => by
    have hkeys := keys_of_skel hk
    have hstep : stepF c b (κ.over ρ) st rr = stepF c b κ st rr := by
      unfold stepF Orders.over
      simp only
      rw [pull_append_of_complete _ _ _ (hkeys ▸ nodup_indexed_keys _ 0)]
      intro kv hkv
      have : kv.1 ∈ keysOfMap (initSrvs c) := hkeys ▸ mem_map_of_mem hkv
      obtain ⟨kv0, hkv0, e⟩ := mem_map.mp this
      exact e ▸ h.recv rr.1 kv0.1 (by simpa using indexed_key_lt hkv0)
    rw [foldl_cons, foldl_cons, hstep]
    exact foldF_over b l _ ((stepF_skel ..).trans hk)

theorem loopF_over (b : Bool) : loopF c b (κ.over ρ) (rsOf c P κ) = loopF c b κ (rsOf c P κ) := by
  have : pull (κ.over ρ).raddr (rsOf c P κ) = pull κ.raddr (rsOf c P κ) := by
    unfold Orders.over
    simp only
    rw [pull_append_of_complete _ _ _ (rsOf_inv nodupKeys_inv c P κ)]
    intro kv hkv
    obtain ⟨s, hs, _, a, ha, he⟩ := rs_key_listen c P κ hkv
    exact he ▸ h.raddr s hs a ha
  rw [loopF_eq, loopF_eq, this]
  exact foldF_over ρ h b _ _ rfl

theorem finalServers_over (b : Bool) :
    finalServers c (κ.over ρ) (loopF c b κ (rsOf c P κ)) = finalServers c κ (loopF c b κ (rsOf c P κ)) := by
  -- the queued addresses are keys of the redirect map, each at most once
  have hsub : ((loopF c b κ (rsOf c P κ)).newAddrs).Sublist (keysOfMap (pull κ.raddr (rsOf c P κ))) := by
    rw [(loopF_new ..).1]
    exact (filter_sublist ..).map _
  have hnew : newServer c (κ.over ρ) (loopF c b κ (rsOf c P κ)) = newServer c κ (loopF c b κ (rsOf c P κ)) := by
    unfold newServer Orders.over
    simp only
    rw [pullKeys_append_of_complete _ _ _
      (hsub.nodup (((pull_perm ..).map _).nodup_iff.mpr (rsOf_inv nodupKeys_inv c P κ)))]
    intro R hR
    obtain ⟨kv, hkv, rfl⟩ := mem_map.mp (hsub.subset hR)
    obtain ⟨s, hs, _, a, ha, he⟩ := rs_key_listen c P κ (mem_pull.mp hkv)
    exact he ▸ h.laddr s hs a ha
  unfold finalServers
  rw [hnew]

theorem certsOf_over : certsOf c P (κ.over ρ) = certsOf c P κ := by
  unfold certsOf
  rw [mainLoop_over P ρ h, loopB_over P ρ h]

theorem policiesOf_over : policiesOf c P (κ.over ρ) = policiesOf c P κ := by
  unfold policiesOf
  rw [mainLoop_over P ρ h, loopB_over P ρ h]

theorem serversOf_over : serversOf c P (κ.over ρ) = serversOf c P κ := by
  unfold serversOf
  rw [certsOf_over P ρ h, mainLoop_over P ρ h, domainsByAddr_over P ρ h, redirServers_over P ρ h,
    loopF_over P ρ h, finalServers_over P ρ h]
  rfl

theorem phase1_over : phase1 c P (κ.over ρ) = phase1 c P κ := by
  unfold phase1 phase1Result
  rw [policiesOf_over P ρ h, serversOf_over P ρ h, certsOf_over P ρ h]

end CaddyModel.C11
