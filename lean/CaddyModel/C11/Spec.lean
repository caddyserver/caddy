/-
C11 — the small abstract account the property talks about.

1. *Observations* of a phase-1 result.  The canonical answer line of the driver is a
   tabulation of these functions over index sets taken from the CONFIG (names, ports,
   addresses in the order of the case line), never from the result — so two results
   with the same observations print the same line by construction.  The observations
   forget exactly what a Go map iteration order can legitimately permute: the order
   of the hosts inside a redirect route's host matcher, the grouping and order of the
   redirect routes inside one contiguous block, the order of a policy's subjects, of
   `allCertDomains`, and of the listen list of the generated redirect server.
   `effective` is the order-SENSITIVE observation (which redirect a request for a
   name actually gets); it is part of the determinism statement, not of the
   correspondence line.
2. *Spec predicates* of the property: which names qualify, which port a redirect may
   name, which automation policy applies to a name.
-/
import CaddyModel.C11.Model

namespace CaddyModel.C11

/-! ### observations -/

def Route.isRedir : Route → Bool
  | .redir _ _ => true
  | .user _ _ => false

/-- route `r` is a redirect with explicit port `p` whose host matcher lists `d` -/
def Route.redirFor (d : Name) (p : Nat) : Route → Bool
  | .redir (some hs) p' => hs.contains d && decide (p' = p)
  | _ => false

/-- route `r` is a redirect with explicit port `p` and no host matcher -/
def Route.redirAny (p : Nat) : Route → Bool
  | .redir none p' => decide (p' = p)
  | _ => false

/-- some redirect route lists `d` and names port `p` -/
def hasRedir (rs : List Route) (d : Name) (p : Nat) : Bool := rs.any (Route.redirFor d p)

/-- some matcher-less redirect route names port `p` -/
def hasRedirAny (rs : List Route) (p : Nat) : Bool := rs.any (Route.redirAny p)

inductive Tok where
  | u (id : Nat) (hasHost : Bool)
  | r
deriving DecidableEq, Repr

def Route.tok : Route → Tok
  | .user i h => .u i h
  | .redir _ _ => .r

/-- collapse every run of redirect routes into one token -/
def collapse : List Tok → List Tok
  | [] => []
  | .r :: rest =>
    match rest with
    | .r :: _ => collapse rest
    | _ => .r :: collapse rest
  | t :: rest => t :: collapse rest

/-- the user routes in order, with a marker wherever redirect routes sit -/
def skeleton (rs : List Route) : List Tok := collapse (rs.map Route.tok)

/-- the redirect a plain-HTTP request for host `d` gets from the route list: the port of
    the first redirect route that lists `d` or has no host matcher (`none` = no redirect).
    User routes are not consulted (the property speaks of names the HTTP port carries no
    user route for); wildcard patterns cover only themselves. -/
def effective (d : Name) : List Route → Option Nat
  | [] => none
  | .redir none p :: _ => some p
  | .redir (some hs) p :: rest => if hs.contains d then some p else effective d rest
  | .user _ _ :: rest => effective d rest

/-- a route mentions a name outside the table or a port outside the universe -/
def Route.strange (n : Nat) (ports : List Nat) : Route → Bool
  | .redir (some hs) p => hs.any (fun d => decide (n ≤ d)) || !ports.contains p
  | .redir none p => !ports.contains p
  | .user _ _ => false

def insertSorted (x : Nat) : List Nat → List Nat
  | [] => [x]
  | y :: ys => if x < y then x :: y :: ys else if x = y then y :: ys else y :: insertSorted x ys

/-- the explicit ports a redirect can carry in this config, ascending: 0 and every listener start port -/
def portUniverse (c : Config) : List Nat :=
  (c.servers.flatMap fun s => s.listen.map (·.sp)).foldr insertSorted [0]

def dedupAddrs : List Addr → List Addr → List Addr
  | [], acc => acc
  | a :: as, acc => dedupAddrs as (if acc.contains a then acc else acc ++ [a])

/-- every listener address of the config and the redirect address of each, in line order -/
def addrUniverse (c : Config) : List Addr :=
  dedupAddrs ((c.servers.flatMap (·.listen)) ++ (c.servers.flatMap fun s => s.listen.map (redirAddr c))) []

/-! ### what a plain HTTP request gets -/

/-- the answer of the compiled route list to a plain-HTTP request -/
inductive Served where
  | user (id : Nat)      -- the user's route `id` (its terminal handler answers)
  | redir (port : Nat)   -- 308 to `https://{host}[:port]{uri}`, `Connection: close`
  | nothing              -- no route matched: the empty handler
deriving DecidableEq, Repr

/-- user route `id` of a server with routes `us` matches a request for host `d`
    (`none` = a host no pattern matches): it has no host matcher, or one of its host matchers
    (one per matcher set, OR-ed) has a pattern that matches -/
def userMatches (P : Params) (us : List URoute) (id : Nat) (d : Option Name) : Bool :=
  match us[id]? with
  | some r =>
    r.hms.isEmpty ||
    (match d with
     | some d => r.hms.any fun hm => hm.any fun p => P.hm d p
     | none => false)
  | none => false

def routeServes (P : Params) (us : List URoute) (d : Option Name) : Route → Option Served
  | .user id _ => if userMatches P us id d then some (.user id) else none
  | .redir none p => some (.redir p)
  | .redir (some hs) p =>
    match d with
    | some d => if hs.any (fun q => P.hm d q) then some (.redir p) else none
    | none => none

/-- `Server.ServeHTTP` on the route list: the first route whose matchers accept the request
    (user routes end in a terminal handler; redirect routes match protocol http + host list) -/
def serve (P : Params) (us : List URoute) (d : Option Name) : List Route → Served
  | [] => .nothing
  | r :: rs =>
    match routeServes P us d r with
    | some a => a
    | none => serve P us d rs

/-! ### spec predicates -/

/-- `getAutomationPolicyForName`: the first policy without subjects or with a matching one -/
def policyFor (P : Params) (d : Name) : List Policy → Option Policy
  | [] => none
  | p :: ps => if p.subjects.isEmpty || p.subjects.any (fun o => P.mw d o) then some p else policyFor P d ps

/-- the server names `d` in a host matcher and `d` is not in its skip list -/
def hosts (s : Server) (d : Name) : Bool := (allHosts s).contains d && !s.skip.contains d

/-- `d` qualifies for certificate management because of server `s`: the server is not
    disabled, not confined to the HTTP port, manages certificates, names `d`, and `d` is
    a certifiable subject that is neither skipped nor already covered by a loaded certificate -/
def qualifiesOn (c : Config) (P : Params) (s : Server) (d : Name) : Bool :=
  active c s && !s.disableCerts && hosts s d && certOk P s d

def qualifies (c : Config) (P : Params) (d : Name) : Bool := c.servers.any fun s => qualifiesOn c P s d

/-- some policy of the configuration lists `d` verbatim -/
def explicitPolicy (c : Config) (d : Name) : Bool := c.policies.any fun p => p.subjects.contains d

/-- `d` gets a redirect because of server `s` -/
def redirectsOn (c : Config) (s : Server) (d : Name) : Bool :=
  active c s && !s.disableRedir && hosts s d

/-- a port some redirect-enabled server serves `d` on -/
def servedPort (c : Config) (d : Name) (p : Nat) : Bool :=
  c.servers.any fun s => redirectsOn c s d && s.listen.any fun a => decide (a.sp = p)

/-! ### "the same servers, routes and policies" -/

def lookupSrv (k : Nat) : List (Nat × SrvOut) → Option SrvOut
  | [] => none
  | kv :: rest => if kv.1 = k then some kv.2 else lookupSrv k rest

/-- an observation of server `k` of a result (`none` when there is no such server) -/
def obsAt {α} (r : Result) (k : Nat) (f : SrvOut → α) : Option α := (lookupSrv k r.servers).map f

def samePolicy (p p' : Policy) : Prop :=
  p.subjects.Perm p'.subjects ∧ p.issuers = p'.issuers ∧ p.managers = p'.managers

/-- same length, pairwise `samePolicy` -/
def samePolicies : List Policy → List Policy → Prop
  | [], [] => True
  | p :: ps, q :: qs => samePolicy p q ∧ samePolicies ps qs
  | _, _ => False

/-- two provisioning results are the same up to what a map iteration order may legitimately
    permute (order of `allCertDomains`, of a policy's subjects, of the hosts inside a redirect
    route, of the listen list of the generated server, grouping of redirect routes that sit
    next to each other) — and answer every request for a name with the same redirect -/
structure SameResult (r r' : Result) : Prop where
  certs : ∀ d, d ∈ r.certs ↔ d ∈ r'.certs
  policies : samePolicies r.policies r'.policies
  disabled : ∀ k, obsAt r k (·.disabled) = obsAt r' k (·.disabled)
  tls : ∀ k, obsAt r k (·.tls) = obsAt r' k (·.tls)
  listen : ∀ k a, obsAt r k (fun s => s.listen.contains a) = obsAt r' k (fun s => s.listen.contains a)
  skeleton : ∀ k, obsAt r k (fun s => skeleton s.routes) = obsAt r' k (fun s => skeleton s.routes)
  redir : ∀ k d p, obsAt r k (fun s => hasRedir s.routes d p) = obsAt r' k (fun s => hasRedir s.routes d p)
  redirAny : ∀ k p, obsAt r k (fun s => hasRedirAny s.routes p) = obsAt r' k (fun s => hasRedirAny s.routes p)
  effective : ∀ k d, obsAt r k (fun s => effective d s.routes) = obsAt r' k (fun s => effective d s.routes)

/-- the redirect clause at full strength: a request for a redirect-enabled name is answered,
    by some resulting server, with a redirect naming (by the port rule) a port the name is
    served on -/
def RedirectRight (c : Config) (servers : List (Nat × SrvOut)) : Prop :=
  ∀ s ∈ c.servers, ∀ d, redirectsOn c s d = true →
    ∃ kv ∈ servers, ∃ p, effective d kv.2.routes = some p ∧ ∃ q, servedPort c d q = true ∧ p = portRule c q

/-! ### where the result depends on the iteration order of the servers map -/

/-- the server reaches the redirect part of the main loop -/
def redirOn (c : Config) (s : Server) : Bool := engaged c s && !s.disableRedir

/-- the `redirDomains` keys a server contributes: its names, or the catch-all key 0 -/
def keysOf (s : Server) : List Name := if (domainSet s).isEmpty then [0] else domainSet s

def offHTTPS (c : Config) (s : Server) : Bool := s.listen.any fun a => decide (a.sp ≠ httpsPort c)

/-- two redirect-enabled servers contribute key `d`, and one that has names of its own
    listens on a port other than the HTTPS port: whether that listener's address is kept for
    `d` ("prefer the HTTPS port", else first come first served) depends on which server the
    `range app.Servers` loop visits first (DESIGN F16) -/
def ambName (c : Config) (d : Name) : Bool :=
  (indexed c.servers 0).any fun is =>
    redirOn c is.2 && (keysOf is.2).contains d && !(domainSet is.2).isEmpty && offHTTPS c is.2 &&
    (indexed c.servers 0).any fun js => decide (js.1 ≠ is.1) && redirOn c js.2 && (keysOf js.2).contains d

def coversPort (a : Addr) (p : Nat) : Bool := decide (a.sp ≤ p) && decide (p ≤ a.ep)

/-- two servers listen on the HTTP port of the same network: `hasListenerAddress` ignores the
    host on linux, so which of them receives a redirect block depends on the order of the
    inner `range app.Servers` -/
def ambRecv (c : Config) : Bool :=
  (indexed c.servers 0).any fun is => (indexed c.servers 0).any fun js =>
    decide (js.1 ≠ is.1) && is.2.listen.any fun a => js.2.listen.any fun b =>
      decide (a.net = b.net) && coversPort a (httpPort c) && coversPort b (httpPort c)

/-- either of the two order dependences above.  No theorem assumes its negation, and it does not
    mask the correspondence line; `effective_old_code_depends_on_route_order` (Witness.lean) shows
    that `ambiguous c = false` does not make `effective` independent of the iteration orders. -/
def ambiguous (c : Config) : Bool := ambRecv c || (c.servers.flatMap keysOf).any (ambName c)

end CaddyModel.C11
