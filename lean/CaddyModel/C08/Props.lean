/-
C08 — property theorems; the helper lemmas are in the imported files (`available_iff` and `hash_result` stand in
Lemmas.lean: `sel_spec` of ProxyLemmas.lean and `selHash_good` read them). `C10.Lemmas` is imported for `hValues_fromWire` (`header_key`); no name of Witness.lean
is used here: the import puts it into the library's build (`CaddyModel.lean` names only this file and the driver).

Statement: every built-in selection policy returns only upstreams that are currently
available (healthy and below their request limit) and returns one whenever at least one is
available. Each policy also keeps its own contract: first picks the earliest available,
round-robin cycles through the available ones, least-connections and random-choose pick a
minimally loaded candidate, weighted round-robin honours the weights, hash policies send
equal keys to the same upstream and keep that choice when other upstreams are added,
removed or fail, and cookie affinity follows a valid cookie.

All theorems are for every pool (any size, order, availability pattern, loads, weights,
choose parameter), every counter value and every list of random draws. Clauses the unchanged
tree violates are stated in full in comments, refuted in Witness.lean (`…_full_fails`) and
proved here under an explicit decidable exclusion (`…_partial`).
-/
import CaddyModel.C08.Cycles
import CaddyModel.C08.ProxyLemmas
import CaddyModel.C08.CaddyfileLemmas
import CaddyModel.C08.Keys
import CaddyModel.C10.Lemmas
import CaddyModel.C08.Witness
import CaddyModel.C08.Dynamic
import CaddyModel.C08.Wrappers

namespace CaddyModel.C08

/-! ## Safety: only available upstreams are returned — every policy, no exception -/

/-- whatever a policy (with any fallback chain) returns is an upstream of the pool that is
    available -/
theorem select_returns_available (p : Policy) (w : Bool) (pool : Pool) (ds : List Nat) (i : Nat)
    (h : (select w p pool ds).res = .sel i) : ∃ u, pool[i]? = some u ∧ u.avail = true :=
  select_safe p w pool ds i h

/-- weighted round robin additionally returns only upstreams with a positive weight (when
    there are at least two weights) -/
theorem weightedRR_returns_available_with_positive_weight (ws : List Nat) (pool : Pool) (c i : Nat)
    (h : (selWRR ws pool c).1 = .sel i) :
    (∃ u, pool[i]? = some u ∧ u.avail = true) ∧ (2 ≤ ws.length → ∃ w, ws[i]? = some w ∧ 0 < w) := by
  rcases selWRR_cases ws pool c with h0 | ⟨j, hj, h1, h2⟩
  · rw [h0] at h; cases h
  · rw [hj] at h; cases h; exact ⟨h1, h2⟩

/-! ## Liveness: an upstream is returned whenever one is available -/

/-- FULL STATEMENT (fails for round robin at the uint32 wrap-around, see
    `roundRobin_some_if_any_available_full_fails`; hash policies need a non-zero hash):
    `anyAvail pool → (select w p pool ds).res ≠ .none`.
    Proved for first, weighted_round_robin (an available upstream has a positive weight of its own), round_robin (counter not wrapping during the call), least_conn, random,
    random_choose, ip_hash / client_ip_hash / uri_hash / header / query (some available upstream
    hashes to a non-zero value — the code uses hash 0 as "none found") and cookie, through any
    chain of fallbacks. `liveOK` spells the exclusions out. -/
theorem select_some_if_any_available_partial : ∀ (p : Policy) (w : Bool) (pool : Pool) (ds : List Nat),
    liveOK pool p = true → anyAvail pool = true → (select w p pool ds).res ≠ .none
  | .first, _, _, _, _, ha => selFirst_live ha
  | .rr _, _, _, _, hl, ha => selRR_live (of_decide_eq_true hl) ha
  | .wrr _ _, _, _, _, hl, ha => selWRR_live ((Bool.or_eq_true_iff.1 hl).imp of_decide_eq_true
      (fun h => let ⟨i, _, hi⟩ := List.any_eq_true.1 h; ⟨i, hi⟩)) ha
  | .leastConn, _, _, _, _, ha => selLeastConn_live ha
  | .random, _, _, _, _, ha => selRandom_live ha
  | .randomChoose _, _, _, _, hl, ha => selRandomChoose_live (of_decide_eq_true hl) ha
  | .hash, _, _, _, hl, _ => selHash_live hl
  | .keyed true _, _, _, _, hl, _ => selHash_live hl
  | .keyed false fb, w, pool, ds, hl, ha => select_some_if_any_available_partial fb w pool ds hl ha
  | .cookie none fb, w, pool, ds, hl, ha => fun h =>
    select_some_if_any_available_partial fb w pool ds hl ha (cookieRes_none h)
  | .cookie (some c) fb, w, pool, ds, hl, ha => by
    unfold select
    split
    · nofun
    · exact fun h => select_some_if_any_available_partial fb w pool ds hl ha (cookieRes_none h)

/-- weighted round robin returns an upstream whenever an available upstream has a positive
    weight of its own (with fewer than two weights: whenever an upstream is available) -/
theorem weightedRR_some_if_any_available (ws : List Nat) (pool : Pool) (c : Nat)
    (h : (ws.length < 2 ∧ anyAvail pool = true) ∨
         (2 ≤ ws.length ∧ ∃ (i : Nat) (u : Up) (w : Nat), pool[i]? = some u ∧ u.avail = true ∧ ws[i]? = some w ∧ 0 < w)) :
    ∃ i, (selWRR ws pool c).1 = .sel i := by
  have hne : (selWRR ws pool c).1 ≠ .none := by
    rcases h with ⟨h2, ha⟩ | ⟨h2, i, u, w, hu, hav, hw, hpos⟩
    · exact selWRR_live (Or.inl h2) ha
    · exact selWRR_live (Or.inr ⟨i, wrrUsable_eff.trans (wrrUsable_iff.2 ⟨u, w, hu, hw, hav, hpos⟩)⟩)
        (anyAvail_of_availAt ⟨u, hu, hav⟩)
  exact let ⟨i, hi, _⟩ := (selWRR_cases ws pool c).resolve_left hne; ⟨i, hi⟩

/-! ## No policy panics -/

/-- no `Select` panics when it is given a ResponseWriter, or when the request reaches no cookie
    policy (`nilSafe`: a cookie policy writes its cookie to the ResponseWriter) -/
theorem select_never_panics_of_nilSafe : ∀ (p : Policy) (w : Bool) (pool : Pool) (ds : List Nat),
    nilSafe w p = true → (select w p pool ds).res.isPanic = false :=
  fun p w pool ds h => (select_good p w pool ds).elim good_noPanic (fun hp => nomatch h.symm.trans hp.2)

/-- **no selection panics**: the proxy handler's case — `Select` is called with a ResponseWriter —
    for every policy, through any chain of header / query / cookie fallbacks, every pool, every
    weight list (old code: `weightedRR_never_panics_old_code_fails_index` / `…_divide` in
    Witness.lean) -/
theorem select_never_panics (p : Policy) (pool : Pool) (ds : List Nat) :
    (select true p pool ds).res.isPanic = false :=
  select_never_panics_of_nilSafe p true pool ds (nilSafe_true p)

/-! ## first: the earliest available upstream -/

theorem first_is_earliest (pool : Pool) (i : Nat) (h : selFirst pool = .sel i) :
    ∀ j v, j < i → pool[j]? = some v → v.avail = false := by
  rcases selFirst_cases pool with ⟨h0, _⟩ | ⟨k, hk, _, he⟩
  · cases h0.symm.trans h
  · cases hk.symm.trans h; exact he

/-! ## round robin: the available upstreams are visited in cyclic order -/

/-- One selection, counter not wrapping: the counter advances to the first value `c' > c`
    whose position `c' % n` is available, and that position is returned; all positions probed
    in between are unavailable. Since afterwards `c' % n = i`, the next selection continues
    right behind the upstream just returned: consecutive selections walk through the
    available upstreams in cyclic order.
    FULL STATEMENT (without `c + pool.length < 2^32`) fails:
    `roundRobin_cycles_full_fails`. -/
theorem roundRobin_next_partial (pool : Pool) (c : Nat) (hc : c + pool.length < u32) (ha : anyAvail pool = true) :
    ∃ i c', selRR pool c = (.sel i, c') ∧ c < c' ∧ c' ≤ c + pool.length ∧ i = c' % pool.length ∧
      (∃ u, pool[i]? = some u ∧ u.avail = true) ∧
      ∀ t, c < t → t < c' → availB pool (t % pool.length) = false :=
  selRR_some hc ha

/-- **round robin cycles through the available upstreams.** A run of `m` consecutive selections
    (counter not wrapping) returns exactly the available positions among the consecutive counter
    values `c+1, c+2, …, c'` it consumed, in that order — i.e. the pool positions
    `(c+1) mod n, (c+2) mod n, …` with the unavailable ones left out. -/
theorem roundRobin_cycles_partial (pool : Pool) (ds : List Nat) (m c : Nat)
    (ha : anyAvail pool = true) (hc : c + m * pool.length < u32) :
    ∃ c', (run m (.rr c) pool ds).2 = .rr c' ∧ c ≤ c' ∧ c' ≤ c + m * pool.length ∧
      (run m (.rr c) pool ds).1.map (·.1) =
        ((List.range' (c + 1) (c' - c)).filter (fun t => availB pool (t % pool.length))).map
          (fun t => Res.sel (t % pool.length)) := by
  obtain ⟨c', h1, h2, h3, h4⟩ := rr_run pool ha ds m c hc
  refine ⟨c', h1, h2, h3, ?_⟩
  rw [h4, List.map_map]
  rfl

/-- **… each exactly once per cycle**: in `numAvail` consecutive selections, from any counter
    value (not wrapping), every available upstream is returned exactly once -/
theorem roundRobin_each_available_once_per_cycle_partial (pool : Pool) (c : Nat) (ds : List Nat)
    (ha : anyAvail pool = true) (hc : c + numAvail pool * pool.length < u32)
    (j : Nat) (hj : ∃ u, pool[j]? = some u ∧ u.avail = true) :
    ((run (numAvail pool) (.rr c) pool ds).1.map (·.1)).count (.sel j) = 1 := by
  obtain ⟨c', _, _, _, h4⟩ := rr_run pool ha ds (numAvail pool) c hc
  have hlen := run_length (numAvail pool) (.rr c) pool ds
  rw [h4, List.length_map] at hlen
  obtain ⟨u, hu, hav⟩ := hj
  rw [h4, rrProbes_numAvail pool (c + 1) (c' - c) hlen, List.map_map, List.count_eq_countP, List.countP_map, rrProbes,
    List.countP_filter]
  refine (List.countP_congr (fun t _ => ?_)).trans (countP_residue pool.length j (c + 1) (List.getElem?_eq_some_iff.1 hu).1)
  simp only [Function.comp, beq_iff_eq, Res.sel.injEq, Bool.and_eq_true, decide_eq_true_eq, and_iff_left_iff_imp]
  exact fun h1 => h1 ▸ availB_true.2 ⟨u, hu, hav⟩

/-- nothing available: round robin returns nil after probing every position once -/
theorem roundRobin_none (pool : Pool) (c : Nat) (hc : c + pool.length < u32) (ha : anyAvail pool = false) :
    selRR pool c = (.none, c + pool.length) := by
  rcases selRR_cases pool c hc with ⟨h, _⟩ | ⟨i, _, _, _, _, _, hi, _⟩
  · exact h
  · rw [anyAvail_of_availAt hi] at ha; cases ha

/-! ## least_conn: a minimally loaded available upstream -/

theorem leastConn_minimal (pool : Pool) (ds : List Nat) (i : Nat) (h : (selLeastConn pool ds).1 = .sel i) :
    ∃ u, pool[i]? = some u ∧ ∀ v ∈ pool, v.avail = true → u.load ≤ v.load := by
  rcases selLeastConn_cases pool ds with h0 | h0 | ⟨k, u, hk, hu, _, _, hmin⟩
  · rw [h0.1] at h; cases h
  · rw [h0.1] at h; cases h
  · rw [hk] at h; cases h
    exact ⟨u, hu, hmin⟩

/-! ## random_choose: the least loaded of min(choose, #available) distinct available candidates -/

/-- The returned upstream `i` is a least loaded member of a reservoir of
    `min (min choose |pool|) #available` pairwise distinct available upstreams. (Consequently at
    least that many available upstreams carry at least its load, and with
    `choose ≥ #available` it is a least loaded available upstream.) -/
theorem randomChoose_minimal (k : Nat) (pool : Pool) (ds : List Nat) (i : Nat)
    (h : (selRandomChoose k pool ds).1 = .sel i) :
    ∃ cands : List (Nat × Nat),
      (∀ c ∈ cands, ∃ u, pool[c.1]? = some u ∧ u.avail = true ∧ u.load = c.2) ∧
      (cands.map Prod.fst).Nodup ∧
      cands.length = min (min k pool.length) (numAvail pool) ∧
      ∃ l, (i, l) ∈ cands ∧ ∀ c ∈ cands, l ≤ c.2 := by
  rcases selRandomChoose_cases k pool ds with h0 | ⟨ch, hok, hnd, hlen, h0 | ⟨j, hj, hmin⟩⟩
  · rw [h0] at h; cases h
  · rw [h0.2] at h; cases h
  · rw [hj] at h; cases h
    exact ⟨ch, hok, hnd, hlen, hmin⟩

/-- … consequently at least `min(choose, |pool|, #available)` available upstreams carry at least the
    load of the returned one (it cannot be, say, the single most loaded of three when `choose` is 2) -/
theorem randomChoose_at_least_that_many_not_less_loaded (k : Nat) (pool : Pool) (ds : List Nat) (i : Nat)
    (h : (selRandomChoose k pool ds).1 = .sel i) :
    ∃ u, pool[i]? = some u ∧ u.avail = true ∧
      min (min k pool.length) (numAvail pool) ≤ ((List.range pool.length).filter (loadedAt pool u.load)).length := by
  obtain ⟨ch, hok, hnd, hlen, l, hmem, hmin⟩ := randomChoose_minimal k pool ds i h
  obtain ⟨u, hu, hav, hl⟩ := hok _ hmem
  refine ⟨u, hu, hav, ?_⟩
  -- the positions of the candidates are that many distinct positions carrying at least the load of `u`
  rw [← hlen, ← List.length_map (f := Prod.fst)]
  refine hnd.length_le_of_subset (fun j hj => ?_)
  obtain ⟨c, hc, rfl⟩ := List.mem_map.1 hj
  obtain ⟨v, hv, hva, hvl⟩ := hok c hc
  refine List.mem_filter.2 ⟨List.mem_range.2 (List.getElem?_eq_some_iff.1 hv).1, ?_⟩
  simp only [loadedAt, hv, hva, Bool.true_and, decide_eq_true_eq]
  exact hl ▸ hvl ▸ hmin c hc

/-! ## weighted round robin honours the weights

The weights that take part are those of the upstreams in the pool (`wrrEff ws pool`), their
sum `W` is the length of the cycle; a position is *usable* if its upstream is available and its
weight positive. All statements: two or more weights configured, `W > 0`, the uint32 counter does
not wrap inside the window. Old code: `weightedRR_honours_weights_old_code_fails…` in Witness.lean. -/

/-- One selection: the turn belongs to the upstream `o` whose interval
    `[w₀+…+w_{o-1}, w₀+…+w_o)` contains `(c+1) mod W` (its weight is positive); returned is the first
    usable position among `o, o+1, …` (cyclically) — `o` itself if it is usable; the turn of an
    upstream that cannot be used goes to the next one, as in round robin. -/
theorem weightedRR_honours_weights (ws : List Nat) (pool : Pool) (c : Nat) (hp : pool.length ≠ 0)
    (h2 : 2 ≤ ws.length) (hs : 0 < (wrrEff ws pool).sum) (hc : c + 1 < u32) :
    ∃ o w, (wrrEff ws pool)[o]? = some w ∧ 0 < w ∧
      wOffset (wrrEff ws pool) o ≤ (c + 1) % (wrrEff ws pool).sum ∧
      (c + 1) % (wrrEff ws pool).sum < wOffset (wrrEff ws pool) o + w ∧
      (selWRR ws pool c).2 = c + 1 ∧
      ((∃ k, k < (wrrEff ws pool).length ∧ (selWRR ws pool c).1 = .sel ((o + k) % (wrrEff ws pool).length) ∧
          wrrUsable ws pool ((o + k) % (wrrEff ws pool).length) = true ∧
          ∀ j, j < k → wrrUsable ws pool ((o + j) % (wrrEff ws pool).length) = false) ∨
       ((selWRR ws pool c).1 = .none ∧ ∀ j, wrrUsable ws pool j = false)) ∧
      (wrrUsable ws pool o = true → (selWRR ws pool c).1 = .sel o) := by
  obtain ⟨o, w, hown, hw, hpos, hlo, hhi, hres⟩ := wrrRes_char ws pool (c + 1) hs
  rw [selWRR_eq ws pool c hp h2 hs hc]
  refine ⟨o, w, hw, hpos, hlo, hhi, rfl, ?_, fun hu => wrrRes_owner_usable ws pool (c + 1) o hown hu⟩
  simp only [hres]
  rcases wrrScan_turn (wrrEff ws pool) pool o with ⟨k, hk, h, hu, hno⟩ | ⟨h, hno⟩
  · exact Or.inl ⟨k, hk, h, wrrUsable_eff.symm.trans hu, fun j hj => wrrUsable_eff.symm.trans (hno j hj)⟩
  · exact Or.inr ⟨h, fun j => wrrUsable_eff.symm.trans (hno j)⟩

/-- Over a cycle (`W` consecutive selections, from any counter value) a usable upstream is chosen
    at least as often as its weight says — whatever the state of the other upstreams. -/
theorem weightedRR_counts_at_least_weight (ws : List Nat) (pool : Pool) (c : Nat) (ds : List Nat)
    (hp : pool.length ≠ 0) (h2 : 2 ≤ ws.length) (hs : 0 < (wrrEff ws pool).sum)
    (hc : c + (wrrEff ws pool).sum < u32) (i w : Nat) (hw : (wrrEff ws pool)[i]? = some w)
    (hu : wrrUsable ws pool i = true) :
    w ≤ ((run (wrrEff ws pool).sum (.wrr ws c) pool ds).1.map (·.1)).count (.sel i) := by
  rw [(wrr_run ws pool ds hp h2 hs _ c hc).1, List.count_eq_countP, List.countP_map, ← countP_cycle_owner (wrrEff ws pool) c i w hw]
  refine List.countP_mono_left (fun t _ ht => ?_)
  rw [Function.comp, wrrRes_owner_usable ws pool t i (by simpa using ht) hu]
  exact beq_self_eq_true _

/-- … and exactly `wᵢ` times when every upstream with a positive weight is available (upstreams
    with weight 0, or beyond the weight list, may be in any state and are never chosen). -/
theorem weightedRR_counts_exact (ws : List Nat) (pool : Pool) (c : Nat) (ds : List Nat)
    (hp : pool.length ≠ 0) (h2 : 2 ≤ ws.length) (hs : 0 < (wrrEff ws pool).sum)
    (hc : c + (wrrEff ws pool).sum < u32)
    (hall : ∀ j v, (wrrEff ws pool)[j]? = some v → 0 < v → wrrUsable ws pool j = true)
    (i w : Nat) (hw : (wrrEff ws pool)[i]? = some w) :
    ((run (wrrEff ws pool).sum (.wrr ws c) pool ds).1.map (·.1)).count (.sel i) = w := by
  rw [(wrr_run ws pool ds hp h2 hs _ c hc).1, List.count_eq_countP, List.countP_map, ← countP_cycle_owner (wrrEff ws pool) c i w hw]
  refine List.countP_congr (fun t _ => ?_)
  obtain ⟨o, v, hown, hv, hpos, _⟩ := wrrRes_char ws pool t hs
  rw [Function.comp, wrrRes_owner_usable ws pool t o hown (hall o v hv hpos), hown]
  simp

/-! ## hash policies -/

/-- **equal keys go to the same upstream.** The choice of a hash policy is a function of the
    availability pattern and of the hashes of (upstream address ++ key) alone: no counter, no
    random draw, no load (beyond availability), nothing else in the request takes part; and
    the policy has no state that a selection could change. -/
theorem hash_sticky (p q : Pool) (w w' : Bool) (ds ds' : List Nat)
    (h : p.map (fun u => (u.avail, u.h)) = q.map (fun u => (u.avail, u.h))) :
    (select w .hash p ds).res = (select w' .hash q ds').res ∧ (select w .hash p ds).pol = .hash := by
  simp only [select, selHash]
  exact ⟨hashGo_congr p q 0 0 .none h, trivial⟩

/-- the chosen upstream is an available one with the highest hash (the first of them in pool
    order), and its hash is not 0 -/
theorem hash_picks_highest (pool : Pool) (u : Up) :
    hashPick pool = some u ↔
      ∃ A B, pool = A ++ u :: B ∧ u.avail = true ∧ 0 < u.h ∧
        (∀ a ∈ A, a.avail = true → a.h < u.h) ∧ (∀ b ∈ B, b.avail = true → b.h ≤ u.h) :=
  hashPick_iff pool u

/-- **removal of other upstreams keeps the choice**: the winning occurrence `u` of the pool stays
    chosen whatever other entries are taken out -/
theorem hash_stable_under_removal_of_others (pool : Pool) (u : Up) (h : hashPick pool = some u) :
    ∃ A B, pool = A ++ u :: B ∧
      ∀ A' B', A'.Sublist A → B'.Sublist B → hashPick (A' ++ u :: B') = some u := by
  obtain ⟨A, B, h1, h2, h3, h4, h5⟩ := (hashPick_iff pool u).1 h
  refine ⟨A, B, h1, fun A' B' hA hB => ?_⟩
  exact (hashPick_iff _ u).2 ⟨A', B', rfl, h2, h3, fun a ha => h4 a (hA.subset ha), fun b hb => h5 b (hB.subset hb)⟩

/-- **failure of other upstreams keeps the choice**: `f` changes the state of the other upstreams
    in any way that does not make an unavailable one available and keeps the hash of those that
    stay available (health flips, load changes, limits reached …) -/
theorem hash_stable_under_failure_of_others (pool : Pool) (u : Up) (f : Up → Up)
    (hf : ∀ x, (f x).avail = true → x.avail = true ∧ (f x).h = x.h) (h : hashPick pool = some u) :
    ∃ A B, pool = A ++ u :: B ∧ hashPick (A.map f ++ u :: B.map f) = some u := by
  obtain ⟨A, B, h1, h2, h3, h4, h5⟩ := (hashPick_iff pool u).1 h
  have hmap : ∀ (l : Pool) (r : Nat → Prop), (∀ x ∈ l, x.avail = true → r x.h) → ∀ a ∈ l.map f, a.avail = true → r a.h := by
    intro l r hl a ha hav
    obtain ⟨x, hx, rfl⟩ := List.mem_map.1 ha
    exact (hf x hav).2 ▸ hl x hx (hf x hav).1
  exact ⟨A, B, h1, (hashPick_iff _ u).2 ⟨A.map f, B.map f, rfl, h2, h3, hmap A (· < u.h) h4, hmap B (· ≤ u.h) h5⟩⟩

/-- **adding an upstream moves a key only to the new upstream**: after inserting `v` anywhere, the
    key stays with `u` or goes to `v` (hypothesis: the available upstreams of the old pool have
    pairwise different hashes for this key — ties are broken by pool order) -/
theorem hash_stable_under_addition (X Y : Pool) (u v w : Up)
    (hties : ∀ a ∈ X ++ Y, ∀ b ∈ X ++ Y, a.avail = true → b.avail = true → a.h = b.h → a = b)
    (h : hashPick (X ++ Y) = some u) (h' : hashPick (X ++ v :: Y) = some w) : w = u ∨ w = v := by
  obtain ⟨hu1, hu2, hu3⟩ := hashPick_max h
  obtain ⟨hw1, hw2, hw3⟩ := hashPick_max h'
  by_cases hwv : w = v
  · exact Or.inr hwv
  · -- `w` is an upstream of the old pool and `u` one of the new: each is at least the other's equal
    have hwmem : w ∈ X ++ Y := by simpa [hwv] using hw1
    have hu' : u ∈ X ++ v :: Y := ((List.Sublist.refl X).append (List.sublist_cons_self v Y)).subset hu1
    exact Or.inl (hties w hwmem u hu1 hw2 hu2 (Nat.le_antisymm (hu3 w hwmem hw2) (hw3 u hu' hu2)))

/-- adding an upstream never leaves a key without upstream -/
theorem hash_addition_keeps_some (X Y : Pool) (u v : Up) (h : hashPick (X ++ Y) = some u) :
    hashPick (X ++ v :: Y) ≠ none := by
  obtain ⟨A, B, hAB, hav, hpos, _, _⟩ := (hashPick_iff _ u).1 h
  have hu : u ∈ X ++ v :: Y :=
    ((List.Sublist.refl X).append (List.sublist_cons_self v Y)).subset (hAB ▸ List.mem_append_right _ (List.mem_cons_self ..))
  exact fun hnone => absurd (hashPick_none hnone u hu hav) (Nat.ne_of_gt hpos)

/-! ## header / query: hash the key if present, otherwise the fallback decides -/

theorem keyed_present_is_hash (fb : Policy) (w : Bool) (pool : Pool) (ds : List Nat) :
    (select w (.keyed true fb) pool ds).res = selHash pool ∧
    (select w (.keyed true fb) pool ds).pol = .keyed true fb ∧
    (select w (.keyed true fb) pool ds).draws = ds := by
  simp [select]

theorem keyed_absent_is_fallback (fb : Policy) (w : Bool) (pool : Pool) (ds : List Nat) :
    (select w (.keyed false fb) pool ds).res = (select w fb pool ds).res ∧
    (select w (.keyed false fb) pool ds).cookies = (select w fb pool ds).cookies ∧
    (select w (.keyed false fb) pool ds).pol = .keyed false (select w fb pool ds).pol := by
  simp [select]

/-! ## cookie affinity -/

/-- **a valid cookie is followed**: if the request's cookie names the dial address of an
    available upstream, the first such upstream is returned, the fallback policy is not
    consulted (its state and the draws are untouched) and no new cookie is written -/
theorem cookie_follows_valid_cookie (c : Nat) (fb : Policy) (w : Bool) (pool : Pool) (ds : List Nat)
    (hvalid : ∃ v ∈ pool, v.avail = true ∧ v.id = c) :
    ∃ i u, select w (.cookie (some c) fb) pool ds = ⟨.sel i, [], .cookie (some c) fb, ds⟩ ∧
      pool[i]? = some u ∧ u.avail = true ∧ u.id = c ∧
      ∀ j v, j < i → pool[j]? = some v → ¬(v.avail = true ∧ v.id = c) := by
  rcases cookieGo_cases c pool with ⟨_, hno⟩ | ⟨i, u, hgo, hu, hav, hid, hfirst⟩
  · -- the loop cannot miss the valid upstream
    obtain ⟨v, hv, hv'⟩ := hvalid
    exact absurd hv' (hno v hv)
  · exact ⟨i, u, by simp [select, hgo], hu, hav, hid, hfirst⟩

/-- **without a valid cookie the fallback decides and the cookie of the selected upstream is
    written** (given a ResponseWriter) -/
theorem cookie_sets_cookie_of_selected (c : Option Nat) (fb : Policy) (pool : Pool) (ds : List Nat) (i : Nat)
    (hinvalid : ∀ x, c = some x → cookieGo x pool 0 = none)
    (h : (select true fb pool ds).res = .sel i) :
    ∃ u, pool[i]? = some u ∧
      (select true (.cookie c fb) pool ds).res = .sel i ∧
      (select true (.cookie c fb) pool ds).cookies = (select true fb pool ds).cookies ++ [u.id] := by
  obtain ⟨u, hu, _⟩ := select_safe fb true pool ds i h
  refine ⟨u, hu, ?_⟩
  cases c with
  | none => simp [select, h, cookieRes, cookieOf, hu]
  | some x => simp [select, hinvalid x rfl, h, cookieRes, cookieOf, hu]

/-- **the cookie round trip**: the cookie written for the selected upstream, sent back while that
    upstream is still available, selects an upstream with the same dial address (the first
    available one in pool order) -/
theorem cookie_round_trip (fb' : Policy) (pool : Pool) (ds' : List Nat) (i : Nat) (u : Up)
    (hu : pool[i]? = some u) (hav : u.avail = true) :
    ∃ j v, (select true (.cookie (some u.id) fb') pool ds').res = .sel j ∧ pool[j]? = some v ∧
      v.avail = true ∧ v.id = u.id ∧ j ≤ i := by
  obtain ⟨j, v, h1, h2, h3, h4, h5⟩ :=
    cookie_follows_valid_cookie u.id fb' true pool ds' ⟨u, List.mem_of_getElem? hu, hav, rfl⟩
  refine ⟨j, v, by rw [h1], h2, h3, h4, ?_⟩
  apply Nat.le_of_not_lt
  intro hlt
  exact h5 i u hlt hu ⟨hav, rfl⟩

/-! ## the proxy loop: "available" is judged against the requests really in flight

`prun` is the handler around `Select`; what it covers is said where it is defined (Model.lean, "the proxy
loop around `Select`"). -/

/-- the request limit that applies to an upstream: its own `max_requests` if it has one, otherwise
    the handler's `unhealthy_request_count` — and that is the limit `Full()` sees -/
theorem own_max_requests_overrides_unhealthy_request_count (c : PCfg) (us : List PUp) (ls fs : List Nat)
    (i : Nat) (u : Up) (h : (mkPool c us ls fs)[i]? = some u) :
    ∃ pu, us[i]? = some pu ∧ u.maxReq = (if pu.max = 0 then c.m else pu.max) ∧ ls[i]? = some u.load :=
  let ⟨pu, _, _, h1, h2, _, hu⟩ := mkPool_get c us ls fs i u h
  ⟨pu, h1, hu ▸ rfl, hu ▸ h2⟩

/-- the in-flight number `Select` sees for an address is exactly the number of held requests
    that were sent to it and have not completed -/
theorem proxy_loads_are_requests_in_flight (c : PCfg) (p : Policy) (ds : List Nat) (evs : List Ev)
    (j l : Nat) (h : (prun c (pinit p c ds) evs).2.loads[j]? = some l) :
    l = (prun c (pinit p c ds) evs).2.held.count (some j) :=
  (prun_inv c evs _ (pinit_inv p c ds)).1 j l h

/-- every round trip of a request — the failed ones and the one that answers — goes to an address
    that is below its effective request limit at that moment; an address that was tried and failed
    is a failing one, the one that answers is not -/
theorem proxy_sends_only_below_limit (c : PCfg) (hold get : Bool) (s : PState) :
    (∀ j, some j ∈ (attempt c hold get c.retries .none s).1 →
      (∃ l u, s.loads[j]? = some l ∧ c.ups[j]? = some u ∧ (0 < effLimit c.m u → l < effLimit c.m u)) ∧
      badAt c.ups j ≠ 0) ∧
    (∀ i, (attempt c hold get c.retries .none s).2.1 = .sent i →
      (∃ l u, s.loads[i]? = some l ∧ c.ups[i]? = some u ∧ (0 < effLimit c.m u → l < effLimit c.m u)) ∧
      badAt c.ups i = 0) := by
  have ht := att_targets (attempt_att c hold get c.retries .none s)
  exact ⟨fun j hj => ⟨(ht.1 j hj).1, (ht.1 j hj).2.1⟩,
    fun i hi => ⟨(ht.2.1 i (congrArg DFin.fin hi)).1, (ht.2.1 i (congrArg DFin.fin hi)).2.1⟩⟩

/-- … hence, whatever the clients and the backends do and whatever the policy, no address ever
    carries more requests than its effective limit -/
theorem proxy_never_exceeds_request_limit (c : PCfg) (p : Policy) (ds : List Nat) (evs : List Ev)
    (j l : Nat) (u : PUp) (hl : (prun c (pinit p c ds) evs).2.loads[j]? = some l) (hu : c.ups[j]? = some u)
    (hpos : 0 < effLimit c.m u) : l ≤ effLimit c.m u :=
  (prun_inv c evs _ (pinit_inv p c ds)).2 j l u hl hu hpos

/-- static upstreams, failures remembered (`fail_duration`), `max_fails` 1: within one request no
    upstream is tried twice — a failed round trip makes the upstream unavailable for the next
    iteration — and the upstream that finally answers has not been tried before -/
theorem proxy_failed_upstream_not_tried_again (c : PCfg) (hold get : Bool) (s : PState)
    (hdyn : c.dyn = false) (hfd : c.fd = true) (hmf : c.mf ≤ 1) :
    ((attempt c hold get c.retries .none s).1.filter Option.isSome).Nodup ∧
    ∀ i, (attempt c hold get c.retries .none s).2.1 = .sent i → some i ∉ (attempt c hold get c.retries .none s).1 :=
  let ⟨h1, _, h3⟩ := att_no_retry_of_failed (attempt_att c hold get c.retries .none s) hdyn hfd hmf
  ⟨h1, fun i hi => (h3 i (congrArg DFin.fin hi)).2⟩

/-- a request makes at most `lb_retries + 1` loop iterations (round trips and nil selections
    together); one that is proxied in the end has failed at most `lb_retries` times before -/
theorem proxy_attempts_bounded (c : PCfg) (hold get : Bool) (s : PState) :
    (attempt c hold get c.retries .none s).1.length ≤ c.retries + 1 ∧
    ∀ i, (attempt c hold get c.retries .none s).2.1 = .sent i →
      (attempt c hold get c.retries .none s).1.length ≤ c.retries :=
  let hb := att_bound (attempt_att c hold get c.retries .none s)
  ⟨hb.1, fun i hi => hb.2 i (congrArg DFin.fin hi)⟩

/-- a request that fails before its `lb_retries` are used up is one that must not be repeated: it
    is not retryable — every other failing request gets all its iterations -/
theorem proxy_gives_up_early_only_if_not_retryable (c : PCfg) (hold get : Bool) (s : PState) (code : Nat)
    (h : (attempt c hold get c.retries .none s).2.1 = .status code)
    (hl : (attempt c hold get c.retries .none s).1.length ≤ c.retries) : retryable c get = false :=
  att_gives_up_early (attempt_att c hold get c.retries .none s) (congrArg DFin.fin h) hl

/-- a request is refused with 503 only if the first `Select` found nothing: no upstream was
    available then (for the policies and under the exclusions of `select_some_if_any_available_partial`) -/
theorem proxy_refuses_only_when_nothing_available (c : PCfg) (hold get : Bool) (s : PState)
    (hl : liveOK (poolOf c s) s.pol = true)
    (h : (attempt c hold get c.retries .none s).2.1 = .status 503) :
    anyAvail (poolOf c s) = false := by
  have hnone := (att_503 (attempt_att c hold get c.retries .none s) (congrArg DFin.fin h)).2
  cases ha : anyAvail (poolOf c s) with
  | false => rfl
  | true => exact absurd hnone (select_some_if_any_available_partial s.pol true _ s.draws hl ha)

/-- while the handler's circuit breaker is open no request is proxied: every `Select` of the request
    returns nil (each upstream consults the breaker, static or dynamic) -/
theorem proxy_open_breaker_proxies_nothing (c : PCfg) (hold get : Bool) (left : Nat) (prev : PErr) (s : PState)
    (h : s.cb = some false) :
    (∀ i, (attempt c hold get left prev s).2.1 ≠ .sent i) ∧ ∀ j, some j ∉ (attempt c hold get left prev s).1 :=
  let ho := att_open_breaker (attempt_att c hold get left prev s) h
  ⟨fun i hi => ho.1 i (congrArg DFin.fin hi), ho.2⟩

/-- `tryAgain`: no retry once `lb_retries` is used up, and after an error that is not a dial error
    (the upstream may have acted on the request) only a retryable request is tried again; dial
    errors and "no upstreams available" are retried for every request -/
theorem proxy_retry_rule (left : Nat) (e : PErr) (ok : Bool) :
    tryAgain left e ok = (decide (0 < left) && (e ≠ .other || ok)) := by
  cases e <;> simp [tryAgain]

/-- which requests are retryable: without `lb_retry_match` the GET requests (a POST is never
    repeated by default); with it exactly the requests its matcher set matches — also a POST if
    the operator says so, and then no longer a GET unless it matches too -/
theorem proxy_retry_match_rule (c : PCfg) (get : Bool) :
    retryable c get = (if c.rm = 0 then get else if c.rm = 1 then !get else if c.rm = 2 then get else true) := by
  unfold retryable
  split <;> simp_all

/-! ### every strike reaches the count `Healthy()` reads (`countFailure`'s call sites)

`countFailure` is called after a failed round trip (`proxyLoopIteration`), and from `reverseProxy`
for an answer whose status is listed in `unhealthy_status` (its third call site, `unhealthy_latency`,
is not in the model). For a request that was held at the backend both happen long after the
selection — the upstream may have gone down in the meantime (other requests failed, the circuit
breaker opened). The count must not depend on that: a strike
that is dropped because the upstream "is down anyway" is missing from the window as soon as the
older strikes expire. -/

/-- static upstreams, failures remembered: the failed round trip of a held request is counted
    against its upstream — whatever state the upstream is in by then -/
theorem proxy_failure_of_held_request_is_counted (c : PCfg) (s : PState) (k i : Nat)
    (hdyn : c.dyn = false) (hfd : c.fd = true) :
    (afterLateFail c s k i).fails = incAt s.fails i := by
  rw [afterLateFail, dropFails_static hdyn, if_pos hfd]

/-- … so with `max_fails` 1 no state that still remembers it selects that upstream -/
theorem proxy_upstream_of_failed_held_request_is_down (c : PCfg) (s s' : PState) (k i : Nat)
    (hdyn : c.dyn = false) (hfd : c.fd = true) (hmf : c.mf ≤ 1)
    (hs' : s'.fails = (afterLateFail c s k i).fails) : selRes c s' ≠ .sel i := by
  intro h
  have h0 := sel_has_no_fails hfd hmf h
  rw [hs', proxy_failure_of_held_request_is_counted c s k i hdyn hfd] at h0
  exact (incAt_get_zero h0).1 rfl

/-- … in particular the rest of that request's own proxy loop does not go back to it, and neither
    tries any upstream twice -/
theorem proxy_failed_held_request_moves_on (c : PCfg) (s : PState) (k i left : Nat) (get : Bool)
    (hdyn : c.dyn = false) (hfd : c.fd = true) (hmf : c.mf ≤ 1)
    (hk : s.held[k]? = some (some i)) (hinfo : s.info[k]? = some (left, get))
    (tried : List (Option Nat)) (fin : Final) (h : (pstep c s (.fail k)).1 = .late tried fin) :
    ∃ rest, tried = some i :: rest ∧ some i ∉ rest ∧ fin ≠ .sent i ∧ (rest.filter Option.isSome).Nodup := by
  simp only [pstep, hk, hinfo] at h
  have hcount := proxy_failure_of_held_request_is_counted c s k i hdyn hfd
  have hne : (afterLateFail c s k i).fails[i]? ≠ some 0 := fun h => (incAt_get_zero (hcount ▸ h)).1 rfl
  split at h
  · obtain ⟨h1, h2, h3⟩ := att_no_retry_of_failed (attempt_att c false get (left - 1) .other (afterLateFail c s k i)) hdyn hfd hmf
    injection h with ht hf
    refine ⟨_, ht.symm, fun hm => hne (h2 i hm), ?_, h1⟩
    intro hs
    exact hne (h3 i (by rw [hf, hs])).1
  · injection h with ht hf
    exact ⟨[], ht.symm, by simp, by rw [← hf]; simp, by simp⟩

/-- an answer whose status is listed in `unhealthy_status` is passed on to the client and is a
    strike against the upstream (static upstreams, failures remembered) — at once for a request
    that completes, at the end of the round trip for one that was held -/
theorem proxy_bad_status_is_a_strike (c : PCfg) (s : PState) (i k : Nat)
    (hdyn : c.dyn = false) (hfd : c.fd = true) (hi : i ∈ c.strike) :
    (afterSent c false s i).fails = incAt s.fails i ∧
    (s.held[k]? = some (some i) → (pstep c s (.fin k)).2.fails = incAt s.fails i) := by
  refine ⟨by simp [afterSent, afterSel, dropFails_static hdyn, strikeInc, hfd, hi], ?_⟩
  intro hk
  simp [pstep, pstep0, hk, dropFails_static hdyn, strikeInc, hfd, hi]

/-- the retries a held request has left are the configured ones minus the iterations it had made -/
theorem proxy_held_request_remembers_its_retries (c : PCfg) (s : PState) (get : Bool) :
    (pstep c s (.arrive true get)).2.info =
      (pstep0 c s (.arrive true get)).2.info ++ [(c.retries - (attempt c true get c.retries .none s).1.length, get)] := by
  simp [pstep, addInfo]

/-! ### the pool an iteration hands to `Select` (static upstreams, dynamic upstream sources)

A policy can only keep its contract on the pool it is given: `handed` (Dynamic.lean). -/

/-- **whatever the source, what `Select` sees carries the handler's options**: the passive health
    check policy (so `Healthy()` counts failures), the circuit breaker (an open one leaves nothing
    available), and `unhealthy_request_count` as the limit of an upstream without one of its own -/
theorem handed_upstreams_are_provisioned (c : DCfg) (foreign : List (DName × Nat)) (static : List DUp) (d : Dyn) (x : Seen)
    (h : x ∈ handed c foreign static d) :
    x.passive = c.passive ∧ (c.cb = true → x.avail = false) ∧
    x.avail = (!c.cb && !(decide (0 < x.max) && decide (x.max ≤ loadOf foreign x.name))) ∧ (0 < c.m → 0 < x.max) ∧
    ∃ u ∈ iterUpstreams static d, x.name = u.name ∧ (0 < u.max → x.max = u.max) ∧ (u.max = 0 → x.max = c.m) := by
  simp only [handed, List.mem_map] at h
  obtain ⟨u, hu, rfl⟩ := h
  refine ⟨rfl, ?_, rfl, ?_, u, hu, rfl, ?_, ?_⟩
  · intro hcb; simp [provisionUp, hcb]
  · intro hm; simp only [provisionUp]; split <;> omega
  · intro hm; simp only [provisionUp]; split <;> omega
  · intro hm; simp [provisionUp, hm]

/-- a dynamic source that fails means the static upstreams; one that answers replaces them — also
    when it answers with no upstream at all -/
theorem dynamic_source_error_falls_back_to_static (c : DCfg) (foreign : List (DName × Nat)) (static : List DUp) (s : Src) :
    (srcResult s = none → handed c foreign static (.one s) = handed c foreign static .none) ∧
    (∀ ups, srcResult s = some ups → handed c foreign static (.one s) = ups.map (provisionUp c foreign)) := by
  constructor
  · intro h; simp [handed, iterUpstreams, h]
  · intro ups h; simp [handed, iterUpstreams, h]

/-- `multi`: the answers of its sources, in the order of the sources; a source that fails is
    skipped; the static upstreams play no part -/
theorem multi_source_is_concatenation (c : DCfg) (foreign : List (DName × Nat)) (static : List DUp) (l1 l2 : List Src) (s : Src) :
    multiResult (l1 ++ l2) = multiResult l1 ++ multiResult l2 ∧
    (srcResult s = none → multiResult (l1 ++ s :: l2) = multiResult (l1 ++ l2)) ∧
    (∀ ups, srcResult s = some ups → multiResult (l1 ++ s :: l2) = multiResult l1 ++ ups ++ multiResult l2) ∧
    handed c foreign static (.multi l1) = handed c foreign [] (.multi l1) := by
  have happ : ∀ (a b : List Src), multiResult (a ++ b) = multiResult a ++ multiResult b := by
    intro a b
    induction a with
    | nil => simp [multiResult]
    | cons x xs ih =>
      simp only [List.cons_append, multiResult]
      split <;> simp [ih]
  refine ⟨happ l1 l2, ?_, ?_, rfl⟩
  · intro h; rw [happ, happ]; simp [multiResult, h]
  · intro ups h; rw [happ]; simp [multiResult, h]

/-- **one `Host` per dial address**: the requests in flight that `Full()` compares with the limit are
    those of the whole process — two upstreams with the same dial address and the same limit are
    available or not together, wherever they come from (static, a source, another source of
    `multi`), and an upstream is full through the requests of other handlers alone -/
theorem host_state_is_shared_by_dial_address (c : DCfg) (foreign : List (DName × Nat)) (static : List DUp) (d : Dyn)
    (x y : Seen) (hx : x ∈ handed c foreign static d) (hy : y ∈ handed c foreign static d)
    (hn : x.name = y.name) (hm : x.max = y.max) : x.avail = y.avail := by
  rw [(handed_upstreams_are_provisioned c foreign static d x hx).2.2.1,
    (handed_upstreams_are_provisioned c foreign static d y hy).2.2.1, hn, hm]

/-- the `a` source looks up only the IP versions its `versions` admit: a name with just an IPv4
    address yields nothing exactly when IPv6 is asked for and IPv4 is not (and the other way
    round); neither option set, or both false, means both versions; the port defaults to 80 -/
theorem a_source_versions_and_port (id : Nat) (port : Option Nat) (v4 v6 : Option Bool) :
    (srcResult (.a false id port v4 v6) = none ↔ (v6 = some true ∧ v4 ≠ some true)) ∧
    (srcResult (.a true id port v4 v6) = none ↔ (v4 = some true ∧ v6 ≠ some true)) ∧
    srcResult (.a false id none v4 v6) = srcResult (.a false id (some 80) v4 v6) ∧
    (srcResult (.a false id port v4 v6) ≠ none → srcResult (.a false id port v4 v6) = some [⟨.a4 id (port.getD 80), 0⟩]) := by
  rcases v4 with _ | _ | _ <;> rcases v6 with _ | _ | _ <;> simp [srcResult, resolveIp]

/-! ## what the hash / header / query / cookie policies take from the request

`hashKey` is the string handed to `hostByHashing` (or `none`: the fallback decides); two requests
with the same key get the same hash column, hence (`hash_sticky`) the same upstream. -/

/-- **each policy reads only its own source**: ip_hash only `RemoteAddr`, client_ip_hash only the
    client address C10 determined (the `client_ip` var — never `RemoteAddr` or a forwarding header),
    uri_hash only the request URI, header only `req.Host` and the header map, query only the parsed
    query -/
theorem hashKey_reads_only_its_source (r r' : KReq) :
    (r.remoteAddr = r'.remoteAddr → hashKey .ipHash r = hashKey .ipHash r') ∧
    (r.clientIP = r'.clientIP → hashKey .clientIpHash r = hashKey .clientIpHash r') ∧
    (r.uri = r'.uri → hashKey .uriHash r = hashKey .uriHash r') ∧
    (∀ f, r.host = r'.host → r.header = r'.header → hashKey (.header f) r = hashKey (.header f) r') ∧
    (∀ k, r.query = r'.query → hashKey (.query k) r = hashKey (.query k) r') := by
  refine ⟨?_, ?_, ?_, ?_, ?_⟩
  · intro h; simp [hashKey, h]
  · intro h; simp [hashKey, h]
  · intro h; simp [hashKey, h]
  · intro f h1 h2; simp [hashKey, h1, h2]
  · intro k h; simp [hashKey, h]

/-- **the same client on another port has the same key**: when `net.SplitHostPort` accepts both
    addresses, the key of ip_hash (client_ip_hash) is the host part — the port takes no part -/
theorem ipHash_key_ignores_port (r r' : KReq) (h p p' : Bytes)
    (h1 : C10.splitHostPort r.remoteAddr = some (h, p)) (h2 : C10.splitHostPort r'.remoteAddr = some (h, p')) :
    hashKey .ipHash r = some h ∧ hashKey .ipHash r' = some h := by
  simp [hashKey, hostOnly, h1, h2]

theorem clientIpHash_key_ignores_port (r r' : KReq) (h p p' : Bytes)
    (h1 : C10.splitHostPort r.clientIP = some (h, p)) (h2 : C10.splitHostPort r'.clientIP = some (h, p')) :
    hashKey .clientIpHash r = some h ∧ hashKey .clientIpHash r' = some h := by
  simp [hashKey, hostOnly, h1, h2]

/-- an address `net.SplitHostPort` rejects (no port, bare IPv6, unix socket …) is the key as a whole -/
theorem ipHash_key_whole_if_unsplittable (r : KReq) (h : C10.splitHostPort r.remoteAddr = none) :
    hashKey .ipHash r = some r.remoteAddr := by
  simp [hashKey, hostOnly, h]

/-- **header policy**: field `Host` (spelled exactly so) means `req.Host` when that is not empty;
    otherwise the key is the first value, on the wire, of the fields whose canonical name is the
    canonical name of the configured field; no such field, or an empty first value: the fallback decides -/
theorem header_key (field host uri remote cip : Bytes) (w : List (Bytes × Bytes)) (q ck : List (Bytes × Bytes)) :
    hashKey (.header field) ⟨remote, cip, uri, host, C10.fromWire w, q, ck⟩ =
      if field = hostField ∧ host ≠ [] then some host
      else match C10.wireValues w (C10.canonKey field) with
        | [] => none
        | v :: _ => if v = [] then none else some v := by
  simp only [hashKey, headerGet, C10.hValues_fromWire]
  split
  · rfl
  · cases C10.wireValues w (C10.canonKey field) with
    | nil => simp
    | cons v vs => simp

/-- **query policy**: the key is all values of the parameter, in URL order, joined by commas (so a
    client cannot steer the choice by adding a value the upstream would ignore); no value, or only
    empty ones joined to "": the fallback decides -/
theorem query_key (key : Bytes) (r : KReq) :
    hashKey (.query key) r =
      if C10.joinWith [44] ((r.query.filter (fun kv => kv.1 = key)).map (·.2)) = [] then none
      else some (C10.joinWith [44] ((r.query.filter (fun kv => kv.1 = key)).map (·.2))) := rfl

/-- **cookie policy**: the first cookie with the configured name counts, later ones are ignored -/
theorem cookie_first_cookie_wins (name v : Bytes) (pre rest : List (Bytes × Bytes))
    (h : ∀ c ∈ pre, c.1 ≠ name) : cookieValue name (pre ++ (name, v) :: rest) = some v := by
  induction pre with
  | nil => simp [cookieValue]
  | cons c pre ih =>
    obtain ⟨n, x⟩ := c
    have hn : n ≠ name := h (n, x) (List.mem_cons_self ..)
    simp only [List.cons_append, cookieValue, if_neg hn]
    exact ih (fun c hc => h c (List.mem_cons_of_mem _ hc))

/-! ## `lb_policy` in a Caddyfile

`parseLbPolicy` is `caddyfile.UnmarshalModule` on a dispenser standing on the policy name: the
dispenser as a cursor over (text, line) tokens, every policy's `UnmarshalCaddyfile`,
`loadFallbackPolicy`. -/

/-- **the weights are configured in the order written**: `weighted_round_robin w₁ … wₙ` on one line
    gives `Weights = [w₁, …, wₙ]` — the i-th argument is the weight of the i-th upstream, each read by
    `strconv.Atoi` and not negative -/
theorem caddyfile_weights_in_order (dur : Bytes → Option Int) (l fuel : Nat) (args : List Bytes) (ws : List Int)
    (hne : args ≠ []) (hb : ∀ a ∈ args, a ≠ lbrace) (hw : weightsOf args = some ws) :
    parseSel dur (fuel + 1) (⟨str "weighted_round_robin", l⟩ :: args.map (fun a => ⟨a, l⟩)) = .ok [.wrr ws] ∧
    ws.length = args.length ∧
    ∀ (i : Nat) (a : Bytes), args[i]? = some a → ∃ w, ws[i]? = some w ∧ C16.atoi a = some w ∧ 0 ≤ w :=
  ⟨by rw [parseSel_wrr dur l fuel args hb, if_neg hne, hw], weightsOf_spec args ws hw⟩

/-- a weight that is negative, not a number, or no weight at all is a configuration error -/
theorem caddyfile_bad_weights_rejected (dur : Bytes → Option Int) (l fuel : Nat) (args : List Bytes)
    (hb : ∀ a ∈ args, a ≠ lbrace) (hw : args = [] ∨ weightsOf args = none) :
    parseSel dur (fuel + 1) (⟨str "weighted_round_robin", l⟩ :: args.map (fun a => ⟨a, l⟩)) = .err := by
  rw [parseSel_wrr dur l fuel args hb]
  by_cases h0 : args = []
  · rw [if_pos h0]
  · rw [if_neg h0, hw.resolve_left h0]

/-- **the Caddyfile model never runs out of fuel** — neither the loops over the tokens (every
    iteration moves the dispenser's cursor forward) nor the nesting of fallback policies (every nested
    segment is shorter than the one it sits in): the outcome `fuel` does not occur, so an `err` of the
    model is an error the code returns and a finished loop is a loop the code finished -/
theorem caddyfile_lb_policy_never_runs_out_of_fuel (dur : Bytes → Option Int) (toks : List Tok) :
    parseLbPolicy dur toks ≠ .fuel := by
  unfold parseLbPolicy
  apply parseSel_fuel
  cases toks with
  | nil => decide
  | cons t rest =>
    have hd : (Disp.mk (t :: rest) 0 0).next.2 = ⟨t :: rest, 1, 0⟩ := rfl
    have := nextSegment_length ⟨t :: rest, 1, 0⟩ (Nat.le_max_right ..)
    rw [hd]
    simp only [List.length_cons] at this ⊢
    omega

theorem caddyfile_reverse_proxy_never_runs_out_of_fuel (dur : Bytes → Option Int)
    (addr : Bytes → Option (List Bytes)) (toks : List Tok) : parseReverseProxy dur addr toks ≠ .fuel := by
  have hf := (oneFwd_fwd (next_oneFwd (Disp.mk toks 0 0))).1.trans (remainingArgs_fwd (toks.length + 2) (Disp.mk toks 0 0).next.2).1
  unfold parseReverseProxy
  split
  · exact rpLoop_fuel dur addr _ _ _ (hf.wf (Nat.zero_le _))
      (by rw [fwd_bound hf]; simp only [Disp.bound]; omega)
  · nofun

/-- the argument loops (`RemainingArgs`, the first loop of `NextSegment`) have fuel to spare: more
    fuel gives the same result, from any cursor position -/
theorem caddyfile_argument_loops_have_fuel_to_spare (d : Disp) (more : Nat) :
    remainingArgs (d.toks.length + 2) d = remainingArgs (d.toks.length + 2 + more) d ∧
    segArgs (d.toks.length + 2) d = segArgs (d.toks.length + 2 + more) d :=
  ⟨remainingArgs_fuel _ more d (Nat.le_add_right ..), segArgs_fuel _ more d (Nat.le_add_right ..)⟩

/-- a policy without options (random, least_conn, round_robin, first, ip_hash, client_ip_hash,
    uri_hash) written alone is that policy; with anything behind it on the line it is an error -/
theorem caddyfile_simple_policy (dur : Bytes → Option Int) (fuel l k : Nat) (name a : Bytes)
    (hk : simpleKind name = some k) (ha : a ≠ lbrace) :
    parseSel dur (fuel + 1) [⟨name, l⟩] = .ok [.simple k] ∧
    parseSel dur (fuel + 1) [⟨name, l⟩, ⟨a, l⟩] = .err :=
  ⟨by rw [parseSel_simple dur fuel k ⟨name, l⟩ [] hk]; rfl,
    by rw [parseSel_simple dur fuel k ⟨name, l⟩ [⟨a, l⟩] hk]
       exact if_pos (congrArg Prod.fst (nextArg_same_line (toks := [⟨name, l⟩, ⟨a, l⟩]) (c := 0) rfl rfl rfl ha))⟩

/-- `header <field>`: the field name is configured verbatim (no case folding: `Host` and `host`
    stay different, see `header_key`), without a fallback (`Provision` supplies random) -/
theorem caddyfile_header_field_verbatim (dur : Bytes → Option Int) (fuel l : Nat) (F : Bytes) (hF : F ≠ lbrace) :
    parseSel dur (fuel + 1) [⟨str "header", l⟩, ⟨F, l⟩] = .ok [.header F] := by
  have hk : simpleKind (str "header") = none := by
    unfold simpleKind; repeat rw [str_ofList]
    decide
  have hn : str "header" ≠ str "weighted_round_robin" ∧ str "header" ≠ str "random_choose" ∧ str "header" ≠ str "query" := by
    repeat rw [str_ofList]
    decide
  -- `NextArg` loads the field; behind it the line ends, so there is no block
  have ha : ((Disp.mk [⟨str "header", l⟩, ⟨F, l⟩] 0 0).next.2).nextArg = (true, ⟨[⟨str "header", l⟩, ⟨F, l⟩], 2, 0⟩) :=
    nextArg_same_line (c := 0) rfl rfl rfl hF
  have hb : (Disp.mk [⟨str "header", l⟩, ⟨F, l⟩] 2 0).nextBlock 0 = (false, ⟨[⟨str "header", l⟩, ⟨F, l⟩], 2, 0⟩) := by
    simp [Disp.nextBlock, Disp.nextOnSameLine]
  rw [parseSel]
  simp only [hk, hn.1, hn.2.1, hn.2.2, if_false, false_or, if_true, ha, List.length_cons, List.length_nil]
  unfold blockLoop
  rw [hb]
  rfl

/-- a second `fallback` in the block of a query / header / cookie policy is an error — the fallback
    in force is never silently replaced -/
theorem caddyfile_second_fallback_rejected (dur : Bytes → Option Int) (cookie : Bool) (lf : List Tok → CfRes)
    (n : Nat) (d : Disp) (st : BlkState) (hb : (d.nextBlock 0).1 = true)
    (hv : (d.nextBlock 0).2.val = str "fallback") (ha : (d.nextBlock 0).2.nextArg.1 = true)
    (hfb : st.fb.isSome = true) : blockLoop dur cookie lf (n + 1) d st = .err := by
  unfold blockLoop
  simp only [hb, hv, ha, hfb, if_true]

/-! ### the `reverse_proxy` directive: `lb_policy` once, `lb_retries`, the passive limits -/

/-- a second `lb_policy` in the same `reverse_proxy` block is an error ("already specified") — the
    policy in force is never silently replaced -/
theorem caddyfile_second_lb_policy_rejected (dur : Bytes → Option Int) (addr : Bytes → Option (List Bytes))
    (d : Disp) (st : RpCfg) (hv : d.val = str "lb_policy") (hp : st.pol.isSome = true) :
    rpStep dur addr d st = .err := by
  have h1 : str "lb_policy" ≠ str "to" := by rw [str_ofList, str_ofList]; decide
  unfold rpStep
  simp only [hv, h1, if_false, if_true, hp]
  split <;> rfl

/-- `lb_retries <n>` sets the retry count read by `tryAgain`, and nothing else -/
theorem caddyfile_lb_retries (dur : Bytes → Option Int) (addr : Bytes → Option (List Bytes))
    (d : Disp) (st : RpCfg) (v : Int) (hv : d.val = str "lb_retries") (ha : d.nextArg.1 = true)
    (hn : C16.atoi d.nextArg.2.val = some v) :
    rpStep dur addr d st = .ok (d.nextArg.2, { st with retries := v }) := by
  have h1 : str "lb_retries" ≠ str "to" ∧ str "lb_retries" ≠ str "lb_policy" := by
    repeat rw [str_ofList]
    decide
  unfold rpStep
  simp only [hv, h1.1, h1.2, if_false, if_true, ha, hn]

/-- `unhealthy_request_count <n>` becomes `Passive.UnhealthyRequestCount` — the request limit of
    every upstream without a `max_requests` of its own (`own_max_requests_overrides_unhealthy_request_count`) —
    and allocates the passive health checks; nothing else changes -/
theorem caddyfile_unhealthy_request_count (dur : Bytes → Option Int) (addr : Bytes → Option (List Bytes))
    (d : Disp) (st : RpCfg) (v : Int) (hv : d.val = str "unhealthy_request_count") (ha : d.nextArg.1 = true)
    (hn : C16.atoi d.nextArg.2.val = some v) :
    rpStep dur addr d st = .ok (d.nextArg.2, { st with passive := true, urc := v }) := by
  have h : str "unhealthy_request_count" ≠ str "to" ∧ str "unhealthy_request_count" ≠ str "lb_policy" ∧
      str "unhealthy_request_count" ≠ str "lb_retries" ∧ str "unhealthy_request_count" ≠ str "lb_try_duration" ∧
      str "unhealthy_request_count" ≠ str "lb_try_interval" ∧ str "unhealthy_request_count" ≠ str "max_fails" ∧
      str "unhealthy_request_count" ≠ str "fail_duration" := by
    repeat rw [str_ofList]
    decide
  unfold rpStep
  simp only [hv, h.1, h.2.1, h.2.2.1, h.2.2.2.1, h.2.2.2.2.1, h.2.2.2.2.2.1, h.2.2.2.2.2.2, if_false, if_true, ha, hn]

/-! ## the sticky cookie a cookie policy writes -/

/-- **the sticky cookie can come back**: it is `Secure` (and `SameSite=None`) exactly when the
    request arrived over TLS or a *trusted* proxy says `X-Forwarded-Proto: https` (last value) — so
    over plain HTTP it is never marked Secure (a browser would not return it), and -/
theorem sticky_cookie_secure_iff (tls trusted : Bool) (xfp : List Bytes) (ma : Int) :
    (stickyAttrs tls trusted xfp ma).secure = true ↔
      tls = true ∨ (trusted = true ∧ xfp.getLast? = some httpsBytes) := by
  simp [stickyAttrs, proxyHttps]

/-- … an untrusted client cannot influence the attributes through `X-Forwarded-Proto` -/
theorem sticky_cookie_ignores_untrusted_forwarded_proto (tls : Bool) (xfp xfp' : List Bytes) (ma : Int) :
    stickyAttrs tls false xfp ma = stickyAttrs tls false xfp' ma := by
  simp [stickyAttrs, proxyHttps]

theorem sticky_cookie_samesite_none_iff_secure (tls trusted : Bool) (xfp : List Bytes) (ma : Int) :
    (stickyAttrs tls trusted xfp ma).sameSiteNone = (stickyAttrs tls trusted xfp ma).secure := rfl

/-! ## active health checks: when an upstream counts as healthy -/

theorem ahStep_one_one (s : AhState) (r : Bool) : (ahStep 1 1 s r).healthy = r := by
  unfold ahStep
  cases r <;> cases hh : s.healthy <;> simp

/-- with the default thresholds `passes` = `fails` = 1 the `healthy` flag that `Healthy()` /
    `Available()` read is the result of the last active health check — and that is also what the
    documented rule (`ahSpecRun`: consecutive results) says. (For larger thresholds the counters are
    cumulative, see the observation `activeHealth_counts_are_cumulative_observation` in Witness.lean;
    how the checker decides is an input of the property, not a clause of it.) -/
theorem activeHealth_default_thresholds_flag_is_last_result : ∀ (rs : List Bool) (s : AhState) (t : AhSpec),
    (ahRun 1 1 s rs).map (·.healthy) = ahSpecRun 1 1 t rs ∧ (ahRun 1 1 s rs).map (·.healthy) = rs
  | [], _, _ => ⟨rfl, rfl⟩
  | r :: rs, s, t => by
    have h1 : (ahStep 1 1 s r).healthy = r := ahStep_one_one s r
    have h2 : (ahSpecStep 1 1 t r).healthy = r := by
      unfold ahSpecStep
      cases r <;> simp
    obtain ⟨ih1, ih2⟩ := activeHealth_default_thresholds_flag_is_last_result rs (ahStep 1 1 s r) (ahSpecStep 1 1 t r)
    simp only [ahRun, ahSpecRun, List.map_cons, h1, h2]
    exact ⟨by rw [ih1], by rw [ih2]⟩

/-! ## the draw list: random and least_conn use at most one draw per upstream, random_choose one more -/

/-- the model never runs out of draws when given one draw per upstream -/
theorem random_never_runs_out_of_draws (pool : Pool) (ds : List Nat) (h : pool.length ≤ ds.length) :
    (selRandom pool ds).1 ≠ .starved := by
  rcases selRandom_cases pool ds with h0 | h0 | ⟨k, h0, _⟩
  · exact absurd h (Nat.not_le.2 h0.2)
  · rw [h0.1]; nofun
  · rw [h0]; nofun

theorem leastConn_never_runs_out_of_draws (pool : Pool) (ds : List Nat) (h : pool.length ≤ ds.length) :
    (selLeastConn pool ds).1 ≠ .starved := by
  rcases selLeastConn_cases pool ds with h0 | h0 | ⟨k, u, h0, _⟩
  · exact absurd h (Nat.not_le.2 h0.2)
  · rw [h0.1]; nofun
  · rw [h0]; nofun

/-- random_choose needs at most one draw per upstream plus one (reservoir loop, then leastRequests),
    provided no draw falls into the sliver `Int31n` rejects: `Int31() ≤ 2^31 − |pool|` for every draw
    (the rejected range is smaller than `n ≤ |pool|`; probability `< |pool| / 2^31` per draw) -/
theorem randomChoose_never_runs_out_of_draws (k : Nat) (pool : Pool) (ds : List Nat)
    (ha : ∀ d ∈ ds, int31 d + pool.length ≤ 2147483648) (hl : pool.length + 1 ≤ ds.length) :
    (selRandomChoose k pool ds).1 ≠ .starved := by
  obtain ⟨out, ds', h1, h2, h3⟩ := rcGo_draws (min k pool.length) pool.length pool 0 [] 0 ds ha (Nat.le_of_eq (Nat.zero_add _)) (Nat.le_of_succ_le hl)
  obtain ⟨_, hlen, _⟩ := rcGo_start h1
  have hout : out.length ≤ pool.length := by rw [hlen]; omega
  rw [selRandomChoose, h1]
  show (leastRequests out ds').1 ≠ .starved
  fun_cases leastRequests out ds'
  case case3 best hb =>
    have := lrGo_length out [] none best hb
    exact lrPick_draws best ds' (Nat.le_trans this (Nat.le_trans (Nat.le_of_eq (Nat.zero_add _)) hout)) h2
      (fun hnil => by rw [hnil] at h3; simp only [List.length_nil, Nat.zero_add] at h3; omega)
  all_goals nofun

/-! ## non-vacuity: the hypotheses are met by concrete non-trivial instances (kernel-evaluated) -/

/-- healthy flag, passive failures 1 < 2, breaker closed, load 3 below the limit 4, hash `h` -/
def exUp (id load h : Nat) : Up := ⟨id, true, 1, some 2, some true, load, 4, h⟩
/-- unavailable: at its request limit -/
def exFull (id : Nat) : Up := ⟨id, true, 0, none, none, 2, 2, 99⟩
/-- unavailable: passive failures at the limit -/
def exFailed (id : Nat) : Up := ⟨id, true, 2, some 2, none, 0, 0, 98⟩

def exPool : Pool := [exFull 1, exUp 2 3 7, exFailed 3, exUp 4 1 9, exUp 5 1 5]

-- available_iff: both directions are inhabited
example : (exUp 2 3 7).avail = true ∧ (exFull 1).avail = false ∧ (exFailed 3).avail = false ∧
    (⟨9, true, 0, none, some false, 0, 0, 0⟩ : Up).avail = false ∧ (⟨9, false, 0, none, none, 0, 0, 0⟩ : Up).avail = false := by decide

-- select_returns_available: cookie (none sent) → random_choose 2 returns position 4 of 0..4
example : (select true (.cookie none (.randomChoose 2)) exPool [5, 3]).res = .sel 4 := by decide
example : (selWRR [2, 1, 1, 0, 3] exPool 3).1 = .sel 4 := by decide

-- select_some_if_any_available_partial: hypotheses hold on a four-level chain ending in round robin
example : liveOK exPool (.cookie (some 77) (.keyed false (.keyed false (.rr 4294967000)))) = true ∧
    anyAvail exPool = true := by decide
example : liveOK exPool (.keyed true .first) = true ∧ liveOK exPool (.randomChoose 2) = true := by decide

-- weightedRR_some_if_any_available: both alternatives
example : exPool[3]? = some (exUp 4 1 9) ∧ (exUp 4 1 9).avail = true ∧ [0, 0, 1, 2, 0][3]? = some 2 ∧
    (selWRR [0, 0, 1, 2, 0] exPool 0).1 = .sel 3 := by decide +kernel
example : anyAvail exPool = true ∧ (selWRR [5] exPool 0).1 = .sel 1 := by decide

-- select_never_panics: the inputs on which the old weighted round robin panicked
example : (select true (.wrr [1, 1] 0) [exFull 1, exUp 2 0 0, exUp 3 0 0] []).res = .sel 1 ∧
    (select true (.wrr [0, 0] 0) [exUp 1 0 0] []).res = .none := by decide
example : nilSafe true (.cookie none (.keyed false (.wrr [1, 1, 1, 1, 1] 3))) = true ∧
    nilSafe false (.keyed false (.cookie none .first)) = false := by decide
-- the `nilSafe` hypothesis is needed only for a caller that hands `Select` a nil ResponseWriter: the cookie
-- policy then dereferences it (old behaviour of header/query fallbacks before 4a929dc, kept as a regression case)
example : (select false (.cookie none .first) exPool []).res = .panicNil := by decide
example : (select true (.keyed false (.cookie none .first)) exPool []).res = .sel 1 ∧
    (select true (.keyed false (.cookie none .first)) exPool []).cookies = [2] := by decide

example : selFirst exPool = .sel 1 := by decide

-- roundRobin_next_partial: from counter 6 (position 1) the next available position is 3, counter 8
example : 6 + exPool.length < u32 ∧ anyAvail exPool = true ∧ selRR exPool 6 = (.sel 3, 8) := by decide
-- roundRobin_cycles_partial / each_available_once: three available upstreams (positions 1, 3, 4) in cyclic order
example : numAvail exPool = 3 ∧ 6 + 7 * exPool.length < u32 ∧
    (run 7 (.rr 6) exPool []).1.map (·.1) = [.sel 3, .sel 4, .sel 1, .sel 3, .sel 4, .sel 1, .sel 3] := by decide +kernel
example : anyAvail [exFull 1, exFailed 2] = false ∧ selRR [exFull 1, exFailed 2] 5 = (.none, 7) := by decide

-- leastConn_minimal: loads 3,1,1 among the available → one of the two with load 1 (draw decides)
example : (selLeastConn exPool [0]).1 = .sel 4 ∧ (selLeastConn exPool [1]).1 = .sel 3 := by decide

-- randomChoose_minimal: three available upstreams, choose 2; the third replaces reservoir slot 0
-- (draw 0 → Intn(3) = 0): candidates are upstreams 4 and 3 (loads 1, 1); the draw 2^32 picks the second
example : (selRandomChoose 2 exPool [0, 4294967296]).1 = .sel 3 := by decide
example : (selRandomChoose 2 exPool [8589934592]).1 = .sel 3 := by decide

-- weightedRR_honours_weights / counts_exact: all available, weights 2,0,3; counters 1..5 → 0,2,2,2,0
def exAll : Pool := [exUp 1 0 0, exUp 2 0 0, exUp 3 0 0]
example : (run 5 (.wrr [2, 0, 3] 0) exAll []).1.map (·.1) = [.sel 0, .sel 2, .sel 2, .sel 2, .sel 0] := by decide
example : 7 + (wrrEff [2, 0, 3] exAll).sum < u32 ∧
    (run 5 (.wrr [2, 0, 3] 7) exAll []).1.map (·.1) = [.sel 2, .sel 2, .sel 0, .sel 0, .sel 2] := by decide
-- counts_at_least_weight: weights 2,5,1 with the middle upstream at its limit: its five turns go to the next one;
-- upstream 0 keeps its 2, upstream 2 gets 1 + 5
example : (wrrEff [2, 5, 1] [exUp 1 0 0, exFull 2, exUp 3 0 0]).sum = 8 ∧
    (run 8 (.wrr [2, 5, 1] 0) [exUp 1 0 0, exFull 2, exUp 3 0 0] []).1.map (·.1)
      = [.sel 0, .sel 2, .sel 2, .sel 2, .sel 2, .sel 2, .sel 2, .sel 0] := by decide +kernel
-- more weights than upstreams: the third weight takes no part (cycle 3)
example : (wrrEff [1, 2, 3] [exUp 1 0 0, exUp 2 0 0]).sum = 3 := by decide

-- hash: upstream 3 (hash 9) wins; it survives removal / failure of the others; a new upstream with hash 8 changes nothing
example : selHash exPool = .sel 3 ∧ hashPick exPool = some (exUp 4 1 9) := by decide
example : hashPick [exUp 2 3 7, exUp 4 1 9] = some (exUp 4 1 9) ∧
    hashPick [exFull 1, exUp 2 3 7, exFailed 3, exUp 4 1 9, exFull 5] = some (exUp 4 1 9) ∧
    hashPick [exFull 1, exUp 6 0 8, exUp 2 3 7, exFailed 3, exUp 4 1 9, exUp 5 1 5] = some (exUp 4 1 9) ∧
    hashPick [exFull 1, exUp 6 0 11, exUp 2 3 7, exFailed 3, exUp 4 1 9, exUp 5 1 5] = some (exUp 6 0 11) := by decide +kernel
-- hash_sticky: loads and draws differ, availability and hashes agree
example : (select true .hash exPool [1, 2]).res = (select false .hash [exFull 1, exUp 2 0 7, exFailed 3, exUp 4 2 9, exUp 5 0 5] []).res := by decide

example : (select true (.keyed true (.rr 0)) exPool []).res = .sel 3 ∧ (select true (.keyed false (.rr 0)) exPool []).res = .sel 1 := by decide

-- cookie: a valid cookie for dial 5 is followed (no draw used, no cookie written); an invalid one (dial 3 is
-- unavailable) falls back to random and writes the cookie of the selected upstream; sent back, it is followed
example : select true (.cookie (some 5) .random) exPool [7] = ⟨.sel 4, [], .cookie (some 5) .random, [7]⟩ := by decide
example : (select true (.cookie (some 3) .random) exPool [0, 1, 1]).res = .sel 1 ∧
    (select true (.cookie (some 3) .random) exPool [0, 1, 1]).cookies = [2] ∧
    (select true (.cookie (some 2) .random) exPool []).res = .sel 1 := by decide

-- the draw list: one draw per upstream is enough
example : exPool.length ≤ [3, 0, 1, 0, 0].length ∧ (selRandom exPool [3, 0, 1, 0, 0]).1 = .sel 3 ∧ (selRandom exPool [3]).1 = .starved := by decide

-- the proxy loop. static upstreams 7 (dial fails), 9, 11 (own max_requests 2); unhealthy_request_count 1,
-- fail_duration set, lb_retries 2, policy first:
def exCfg : PCfg := ⟨false, 1, true, 0, 2, [⟨7, 0, 1⟩, ⟨9, 0, 0⟩, ⟨11, 2, 0⟩], false, 0, []⟩
-- held GET: 7 fails (counted), retried on 9 and held there; GET: 9 is at its limit 1 → 11; POST → 11 (limit 2 of its own);
-- the held request completes
example : (prun exCfg (pinit .first exCfg []) [.arrive true true, .arrive false true, .arrive false false, .fin 0]).1
      = [.req [some 0] (.sent 1), .req [] (.sent 2), .req [] (.sent 2), .done] ∧
    (prun exCfg (pinit .first exCfg []) [.arrive true true, .arrive false true]).2.loads = [0, 1, 0] ∧
    (prun exCfg (pinit .first exCfg []) [.arrive true true, .arrive false true]).2.fails = [1, 0, 0] := by decide +kernel
-- own max_requests 2 beats unhealthy_request_count 1: two held requests fit on address 11, the third is refused
example : (prun ⟨false, 1, false, 0, 0, [⟨11, 2, 0⟩], false, 0, []⟩ (pinit .first ⟨false, 1, false, 0, 0, [⟨11, 2, 0⟩], false, 0, []⟩ [])
    [.arrive true true, .arrive true true, .arrive true true]).1
      = [.req [] (.sent 0), .req [] (.sent 0), .req [none] (.status 503)] := by decide
-- "other" error: a GET is retried (lb_retries 1, no failure counting: the same upstream again), a POST is not
example : (prun ⟨false, 0, false, 0, 1, [⟨7, 0, 2⟩, ⟨9, 0, 0⟩], false, 0, []⟩ (pinit .first ⟨false, 0, false, 0, 1, [⟨7, 0, 2⟩, ⟨9, 0, 0⟩], false, 0, []⟩ [])
    [.arrive false true, .arrive false false]).1
      = [.req [some 0, some 0] (.status 502), .req [some 0] (.status 502)] := by decide
-- dynamic upstreams: the failure count lives only as long as somebody references the host, so without other
-- traffic the failing upstream is selected again (static: the example above moves on)
example : (prun { exCfg with dyn := true } (pinit .first { exCfg with dyn := true } []) [.arrive false true]).1
      = [.req [some 0, some 0, some 0] (.status 502)] := by decide
-- proxy_refuses_only_when_nothing_available: hypotheses inhabited
example : liveOK (poolOf exCfg ⟨.first, [0, 1, 2], [1, 0, 0], [some 1, some 2, some 2], [], none, []⟩) .first = true ∧
    (attempt exCfg false true exCfg.retries .none ⟨.first, [0, 1, 2], [1, 0, 0], [some 1, some 2, some 2], [], none, []⟩).2.1 = .status 503 := by decide

-- keys: "10.0.0.5:1234" and "10.0.0.5:80" → "10.0.0.5"; "[fd00::1]:443" → "fd00::1"; "fd00::1" (no port) stays whole
example : C10.splitHostPort (str "10.0.0.5:1234") = some (str "10.0.0.5", str "1234") ∧
    C10.splitHostPort (str "10.0.0.5:80") = some (str "10.0.0.5", str "80") ∧
    C10.splitHostPort (str "[fd00::1]:443") = some (str "fd00::1", str "443") ∧
    C10.splitHostPort (str "fd00::1") = none := by decide +kernel
def exReq : KReq := ⟨str "10.0.0.5:1234", str "192.168.1.9", str "/a?k=1&k=2&z=3", str "example.com",
  C10.fromWire [(str "x-key", str "v1"), (str "X-Other", str "o"), (str "X-KEY", str "v2")],
  [(str "k", str "1"), (str "k", str "2"), (str "z", str "3")], [(str "sid", str "x1"), (str "lb", str "t3"), (str "lb", str "t5")]⟩
example : hashKey .ipHash exReq = some (str "10.0.0.5") ∧ hashKey .clientIpHash exReq = some (str "192.168.1.9") ∧
    hashKey (.header (str "X-Key")) exReq = some (str "v1") ∧ hashKey (.header (str "Host")) exReq = some (str "example.com") ∧
    hashKey (.header (str "host")) exReq = none ∧ hashKey (.header (str "X-None")) exReq = none ∧
    hashKey (.query (str "k")) exReq = some (str "1,2") ∧ hashKey (.query (str "q")) exReq = none ∧
    cookieValue (str "lb") exReq.cookies = some (str "t3") := by decide +kernel

-- lb_policy in a Caddyfile: every policy, a chain of fallbacks, and what careless text does
def exDur : Bytes → Option Int := fun t => if t = str "30s" then some 30000000000 else if t = str "0s" then some 0 else none
example : parseLbPolicy exDur [⟨str "first", 1⟩] = .ok [.simple 3] ∧
    parseLbPolicy exDur [⟨str "first", 1⟩, ⟨str "x", 1⟩] = .err ∧
    parseLbPolicy exDur [⟨str "weighted_round_robin", 1⟩, ⟨str "3", 1⟩, ⟨str "0", 1⟩, ⟨str "+2", 1⟩] = .ok [.wrr [3, 0, 2]] ∧
    parseLbPolicy exDur [⟨str "weighted_round_robin", 1⟩, ⟨str "3", 1⟩, ⟨str "-1", 1⟩] = .err ∧
    parseLbPolicy exDur [⟨str "weighted_round_robin", 1⟩] = .err ∧
    parseLbPolicy exDur [⟨str "random_choose", 1⟩, ⟨str "3", 1⟩] = .ok [.rc 3] ∧
    parseLbPolicy exDur [⟨str "random_choose", 1⟩] = .err ∧
    parseLbPolicy exDur [⟨str "no_such_policy", 1⟩] = .err := by decide +kernel
-- header → cookie (name, max_age) → first; the default fallback is left to Provision (no node after `cookie`)
example : parseLbPolicy exDur
    [⟨str "header", 1⟩, ⟨str "X-Key", 1⟩, ⟨lbrace, 1⟩, ⟨str "fallback", 2⟩, ⟨str "cookie", 2⟩, ⟨str "lb", 2⟩, ⟨str "s3", 2⟩, ⟨lbrace, 2⟩,
     ⟨str "max_age", 3⟩, ⟨str "30s", 3⟩, ⟨str "fallback", 4⟩, ⟨str "first", 4⟩, ⟨rbrace, 5⟩, ⟨rbrace, 6⟩]
    = .ok [.header (str "X-Key"), .cookie (str "lb") (str "s3") 30000000000, .simple 3] ∧
  parseLbPolicy exDur [⟨str "cookie", 1⟩] = .ok [.cookie [] [] 0] ∧
  parseLbPolicy exDur [⟨str "cookie", 1⟩, ⟨lbrace, 1⟩, ⟨str "max_age", 2⟩, ⟨str "0s", 2⟩, ⟨rbrace, 3⟩] = .err ∧
  parseLbPolicy exDur [⟨str "query", 1⟩, ⟨str "k", 1⟩, ⟨lbrace, 1⟩, ⟨str "fallback", 2⟩, ⟨str "first", 2⟩, ⟨str "fallback", 3⟩,
     ⟨str "random", 3⟩, ⟨rbrace, 4⟩] = .err := by decide +kernel
-- a stray argument after the header field: the block (and the fallback in it) is silently ignored
example : parseLbPolicy exDur [⟨str "header", 1⟩, ⟨str "X-Key", 1⟩, ⟨str "extra", 1⟩, ⟨lbrace, 1⟩, ⟨str "fallback", 2⟩,
    ⟨str "first", 2⟩, ⟨rbrace, 3⟩] = .ok [.header (str "X-Key")] := by decide +kernel
-- caddyfile_weights_in_order / bad_weights_rejected: hypotheses inhabited
example : weightsOf [str "3", str "0", str "+2"] = some [3, 0, 2] ∧ weightsOf [str "3", str "x"] = none := by decide +kernel

-- randomChoose_never_runs_out_of_draws: hypotheses inhabited (5 upstreams, 6 draws, all accepted); a draw in
-- the rejected sliver (Int31() = 2^31-1 with n = 3) makes Intn draw again
example : (∀ d ∈ [0, 4294967296, 8589934592, 3, 5, 7], int31 d + exPool.length ≤ 2147483648) ∧
    exPool.length + 1 ≤ [0, 4294967296, 8589934592, 3, 5, 7].length ∧
    (selRandomChoose 2 exPool [0, 4294967296, 8589934592, 3, 5, 7]).1 = .sel 3 := by decide +kernel
example : intn 3 [9223372036854775807, 4294967296 * 7] = some (1, []) ∧ intn 3 [9223372036854775807] = none := by decide

-- circuit breaker configured: while it is open requests are refused (also with dynamic upstreams), afterwards proxied again
example : (prun { exCfg with cb := true, dyn := true } (pinit .first { exCfg with cb := true, dyn := true } [])
    [.arrive false true, .trip, .arrive false true, .untrip, .arrive false true]).1
      = [.req [some 0, some 0, some 0] (.status 502), .done, .req [none, none, none] (.status 503), .done,
         .req [some 0, some 0, some 0] (.status 502)] ∧
    (prun { exCfg with cb := true } (pinit .first { exCfg with cb := true } []) [.trip, .arrive true true, .untrip, .arrive true true]).1
      = [.done, .req [none, none, none] (.status 503), .done, .req [some 0] (.sent 1)] := by decide +kernel

-- the reverse_proxy directive: upstream arguments and `to` (a port range expands), lb_policy with a fallback chain,
-- lb_retries, the passive options; a second lb_policy and an unknown subdirective are errors
def exAddr : Bytes → Option (List Bytes) := fun t =>
  if t = str "a:80" then some [str "a:80"] else if t = str "b:81-82" then some [str "b:81", str "b:82"] else none
example : parseReverseProxy exDur exAddr
    [⟨str "reverse_proxy", 1⟩, ⟨str "a:80", 1⟩, ⟨lbrace, 1⟩, ⟨str "to", 2⟩, ⟨str "b:81-82", 2⟩,
     ⟨str "lb_policy", 3⟩, ⟨str "header", 3⟩, ⟨str "X-Key", 3⟩, ⟨lbrace, 3⟩, ⟨str "fallback", 4⟩, ⟨str "first", 4⟩, ⟨rbrace, 5⟩,
     ⟨str "lb_retries", 6⟩, ⟨str "3", 6⟩, ⟨str "unhealthy_request_count", 7⟩, ⟨str "20", 7⟩, ⟨str "fail_duration", 8⟩, ⟨str "30s", 8⟩,
     ⟨rbrace, 9⟩]
    = .ok ⟨[str "a:80", str "b:81", str "b:82"], some [.header (str "X-Key"), .simple 3], 3, 0, 0, true, 0, 30000000000, 20⟩ ∧
  parseReverseProxy exDur exAddr [⟨str "reverse_proxy", 1⟩, ⟨lbrace, 1⟩, ⟨str "lb_policy", 2⟩, ⟨str "first", 2⟩,
     ⟨str "lb_policy", 3⟩, ⟨str "random", 3⟩, ⟨rbrace, 4⟩] = .err ∧
  parseReverseProxy exDur exAddr [⟨str "reverse_proxy", 1⟩, ⟨lbrace, 1⟩, ⟨str "lb_retries", 2⟩, ⟨str "3", 2⟩, ⟨str "junk", 2⟩, ⟨rbrace, 3⟩] = .err ∧
  parseReverseProxy exDur exAddr [⟨str "reverse_proxy", 1⟩, ⟨str "nope", 1⟩] = .err := by decide +kernel

-- lb_retry_match `method POST`: the POST is retried after an "other" error (and reaches the second upstream
-- once the first is marked failed), the GET is not
example : (prun { exCfg with rm := 1, ups := [⟨7, 0, 2⟩, ⟨9, 0, 0⟩] } (pinit .first { exCfg with rm := 1, ups := [⟨7, 0, 2⟩, ⟨9, 0, 0⟩] } [])
    [.arrive false false, .arrive false true]).1 = [.req [some 0] (.sent 1), .req [] (.sent 1)] ∧
  (prun { exCfg with rm := 1, fd := false, ups := [⟨7, 0, 2⟩, ⟨9, 0, 0⟩] } (pinit .first { exCfg with rm := 1, fd := false, ups := [⟨7, 0, 2⟩, ⟨9, 0, 0⟩] } [])
    [.arrive false false, .arrive false true]).1 = [.req [some 0, some 0, some 0] (.status 502), .req [some 0] (.status 502)] := by decide +kernel

-- randomChoose_at_least_that_many_not_less_loaded: loads 3,1,1 among the available; the returned one has load 1,
-- all three available upstreams carry at least that; 2 = min(choose 2, 5, 3 available) ≤ 3
example : ((List.range exPool.length).filter (loadedAt exPool 1)).length = 3 ∧
    ((List.range exPool.length).filter (loadedAt exPool 3)).length = 1 := by decide
-- proxy_failed_upstream_not_tried_again: two failing upstreams, then the good one; each tried once
example : (attempt { exCfg with ups := [⟨7, 0, 1⟩, ⟨9, 0, 2⟩, ⟨11, 0, 0⟩] } false true 2 .none
    (pinit .first { exCfg with ups := [⟨7, 0, 1⟩, ⟨9, 0, 2⟩, ⟨11, 0, 0⟩] } [])).1 = [some 0, some 1] ∧
  (attempt { exCfg with ups := [⟨7, 0, 1⟩, ⟨9, 0, 2⟩, ⟨11, 0, 0⟩] } false true 2 .none
    (pinit .first { exCfg with ups := [⟨7, 0, 1⟩, ⟨9, 0, 2⟩, ⟨11, 0, 0⟩] } [])).2.1 = .sent 2 := by decide +kernel

-- sticky cookie: plain HTTP → not Secure; TLS → Secure; trusted proxy with last X-Forwarded-Proto https → Secure;
-- an earlier https followed by http → not; max_age 90s → Max-Age 90, 500ms → none
example : stickyAttrs false false [str "https"] 0 = ⟨false, false, 0⟩ ∧ stickyAttrs true false [] 90000000000 = ⟨true, true, 90⟩ ∧
    stickyAttrs false true [str "http", str "https"] 0 = ⟨true, true, 0⟩ ∧
    stickyAttrs false true [str "https", str "http"] 500000000 = ⟨false, false, 0⟩ := by decide +kernel

-- active health checks with the default thresholds: the flag is the last result
example : (ahRun 1 1 ahInit [false, true, true, false]).map (·.healthy) = [false, true, true, false] ∧
    ahSpecRun 1 1 ⟨true, true, 0⟩ [false, true, true, false] = [false, true, true, false] := by decide
-- thresholds 3: three failures in a row mark it unhealthy, three passes in a row healthy again (here code and rule agree)
example : (ahRun 3 3 ahInit [false, false, false, true, true, true]).map (·.healthy) = [true, true, false, false, false, true] ∧
    ahSpecRun 3 3 ⟨true, true, 0⟩ [false, false, false, true, true, true] = [true, true, false, false, false, true] := by decide

/-- two upstreams, `first`, one retry, a circuit breaker, failures remembered; upstream 1 answers with a bad status -/
def lateCfg : PCfg := ⟨false, 0, true, 0, 1, [⟨7, 0, 0⟩, ⟨9, 0, 0⟩], true, 0, [1]⟩

-- proxy_failure_of_held_request_is_counted / proxy_upstream_of_failed_held_request_is_down: a request is held on
-- upstream 0, the breaker opens, its round trip fails (the retry finds nothing: 502), the breaker closes: the
-- strike was counted although the upstream was down when it happened — the next request goes to upstream 1;
-- proxy_bad_status_is_a_strike: … which answers with a listed status, so the one after that is refused
example : (prun lateCfg (pinit .first lateCfg []) [.arrive true true, .trip, .fail 0, .untrip, .arrive false true, .arrive false true]).1
      = [.req [] (.sent 0), .done, .late [some 0, none] (.status 502), .done, .req [] (.sent 1), .req [none, none] (.status 503)] ∧
    (prun lateCfg (pinit .first lateCfg []) [.arrive true true, .trip, .fail 0, .untrip, .arrive false true, .arrive false true]).2.fails = [1, 1] := by decide +kernel
-- proxy_failed_held_request_moves_on / proxy_held_request_remembers_its_retries: two requests held on upstream 0;
-- the first fails and moves on to upstream 1 (bad status: a strike); the second fails while upstream 0 is down
-- already — counted all the same (2) — and finds nothing left
example : (prun lateCfg (pinit .first lateCfg []) [.arrive true true, .arrive true true, .fail 0, .fail 1]).1
      = [.req [] (.sent 0), .req [] (.sent 0), .late [some 0] (.sent 1), .late [some 0, none] (.status 502)] ∧
    (prun lateCfg (pinit .first lateCfg []) [.arrive true true, .arrive true true, .fail 0, .fail 1]).2.fails = [2, 1] ∧
    (prun lateCfg (pinit .first lateCfg []) [.arrive true true, .arrive true true]).2.info = [(1, true), (1, true)] := by decide +kernel

-- handed_upstreams_are_provisioned / dynamic_source_error_falls_back_to_static: unhealthy_request_count 2, passive
-- checks, an open breaker; the source answers → its upstreams, provisioned; it fails → the static one
example : handed ⟨2, true, true⟩ [] [⟨.u 1, 0⟩] (.one (.probe true [⟨.u 10, 0⟩, ⟨.u 11, 3⟩])) = [⟨.u 10, 2, true, false⟩, ⟨.u 11, 3, true, false⟩] ∧
    handed ⟨2, true, true⟩ [] [⟨.u 1, 0⟩] (.one (.probe false [⟨.u 10, 0⟩])) = [⟨.u 1, 2, true, false⟩] ∧
    handed ⟨0, false, false⟩ [] [⟨.u 1, 0⟩] (.one (.probe true [])) = [] := by decide
-- host_state_is_shared_by_dial_address: other handlers have 2 requests in flight on address 10 and 1 on the address the
-- `a` source yields: with unhealthy_request_count 2 the first is full, also where a second source hands it out again
example : handed ⟨2, true, false⟩ [(.u 10, 2), (.a4 5 80, 1)] [] (.multi [.probe true [⟨.u 10, 0⟩, ⟨.u 11, 0⟩], .a false 5 none none none,
      .probe true [⟨.u 10, 0⟩, ⟨.u 10, 3⟩]]) =
    [⟨.u 10, 2, true, false⟩, ⟨.u 11, 2, true, true⟩, ⟨.a4 5 80, 2, true, true⟩, ⟨.u 10, 2, true, false⟩, ⟨.u 10, 3, true, true⟩] := by decide +kernel
-- multi_source_is_concatenation / a_source_versions_and_port: an `a` source asked for IPv6 only on a name with an
-- IPv4 address fails and is skipped, the probe source and an `a` source (default port) follow in order
example : handed ⟨0, true, false⟩ [] [⟨.u 1, 0⟩] (.multi [.a false 5 (some 8080) (some false) (some true), .probe true [⟨.u 20, 1⟩],
      .a true 3 none none none]) = [⟨.u 20, 1, true, true⟩, ⟨.a6 3 80, 0, true, true⟩] ∧
    handed ⟨0, true, false⟩ [] [⟨.u 1, 0⟩] (.multi [.probe false []]) = [] ∧
    resolveIp (some false) (some false) = 0 ∧ resolveIp (some true) none = 4 ∧ resolveIp none (some false) = 0 := by decide

/-! ## Dial addresses with placeholders: `fillDialInfo` runs after `Select`

The selection contract speaks about *available* upstreams (healthy, below their limit). Whether the
dial address of the selected upstream can be filled in for the request at hand is found out only
afterwards (hosts.go `fillDialInfo`), and a failure there ends the request: -/

/-- a request whose selected upstream has a dial address that cannot be filled in ends right there,
    whatever `lb_retries` allows and whatever error the loop carried: no round trip, no retry -/
theorem dialinfo_failure_ends_request (c : PCfg) (unf : List Nat) (get : Bool) (left : Nat) (prev : PErr)
    (s : PState) (i : Nat) (hsel : selRes c s = .sel i) (hu : i ∈ unf) :
    attemptD c unf get left prev s = ([], .dialInfo i, afterDialInfo c s) := by
  cases left <;> simp [attemptD, hsel, hu]

example : attemptD ⟨false, 0, true, 0, 3, [⟨7, 0, 0⟩, ⟨9, 0, 0⟩], false, 0, []⟩ [0] true 3 .none
      (pinit .first ⟨false, 0, true, 0, 3, [⟨7, 0, 0⟩, ⟨9, 0, 0⟩], false, 0, []⟩ [])
    = ([], .dialInfo 0, pinit .first ⟨false, 0, true, 0, 3, [⟨7, 0, 0⟩, ⟨9, 0, 0⟩], false, 0, []⟩ []) := by decide

/-- … and touches no counter: requests in flight, held requests, the breaker and (static
    upstreams) the remembered failures are what they were — the upstream stays exactly as available
    as it was; only the policy has moved (its counter, the random draws), as by one `Select` -/
theorem dialinfo_failure_touches_no_counter (c : PCfg) (s : PState) :
    (afterDialInfo c s).loads = s.loads ∧ (afterDialInfo c s).held = s.held ∧ (afterDialInfo c s).cb = s.cb ∧
    (c.dyn = false → (afterDialInfo c s).fails = s.fails) ∧
    (afterDialInfo c s).pol = (select true s.pol (poolOf c s) s.draws).pol ∧
    (afterDialInfo c s).draws = (select true s.pol (poolOf c s) s.draws).draws := by
  refine ⟨rfl, rfl, rfl, ?_, rfl, rfl⟩
  exact fun h => dropFails_static h _ _

-- round robin: the refused request has used up a turn (counter 5 → 6), nothing else has changed
example : (afterDialInfo ⟨false, 0, true, 0, 3, [⟨7, 0, 0⟩, ⟨9, 0, 0⟩], false, 0, []⟩
      (pinit (.rr 5) ⟨false, 0, true, 0, 3, [⟨7, 0, 0⟩, ⟨9, 0, 0⟩], false, 0, []⟩ [])).pol = .rr 6 := by decide

/-- nothing is ever dialled at an address that could not be filled in: the upstream a request is
    sent to and every upstream whose round trip failed had a usable dial address; a request that
    ends in `fillDialInfo` does so for an upstream whose address is unusable -/
theorem dialinfo_only_filled_addresses_are_dialled (c : PCfg) (unf : List Nat) (get : Bool) (left : Nat)
    (prev : PErr) (s : PState) :
    (∀ i, (attemptD c unf get left prev s).2.1 = .dialInfo i → i ∈ unf) ∧
    (∀ i, (attemptD c unf get left prev s).2.1 = .fin (.sent i) → i ∉ unf) ∧
    (∀ j, some j ∈ (attemptD c unf get left prev s).1 → j ∉ unf) :=
  let ht := att_targets (attemptD_att c unf get left prev s)
  ⟨ht.2.2, fun i hi => (ht.2.1 i hi).2.2, fun j hj => (ht.1 j hj).2.2⟩

-- upstream 0 fails its round trip, upstream 1 cannot be dialled for this request, upstream 2 would answer
example : (attemptD ⟨false, 0, true, 0, 3, [⟨7, 0, 2⟩, ⟨9, 0, 0⟩, ⟨11, 0, 0⟩], false, 0, []⟩ [1] true 3 .none
      (pinit .first ⟨false, 0, true, 0, 3, [⟨7, 0, 2⟩, ⟨9, 0, 0⟩, ⟨11, 0, 0⟩], false, 0, []⟩ [])).1 = [some 0] ∧
    (attemptD ⟨false, 0, true, 0, 3, [⟨7, 0, 2⟩, ⟨9, 0, 0⟩, ⟨11, 0, 0⟩], false, 0, []⟩ [1] true 3 .none
      (pinit .first ⟨false, 0, true, 0, 3, [⟨7, 0, 2⟩, ⟨9, 0, 0⟩, ⟨11, 0, 0⟩], false, 0, []⟩ [])).2.1 = .dialInfo 1 := by decide +kernel

/-- when every dial address can be filled in, the loop is the proxy loop of the `proxy_*` theorems
    (a request that is not held): placeholders that resolve change nothing -/
theorem dialinfo_all_filled_is_plain_loop (c : PCfg) (get : Bool) (left : Nat) (prev : PErr) (s : PState) :
    attemptD c [] get left prev s =
      ((attempt c false get left prev s).1, .fin (attempt c false get left prev s).2.1, (attempt c false get left prev s).2.2) := by
  fun_induction attempt c false get left prev s <;> simp_all [attemptD]

example : attemptD ⟨false, 0, true, 0, 1, [⟨7, 0, 2⟩, ⟨9, 0, 0⟩], false, 0, []⟩ [] true 1 .none
      (pinit .first ⟨false, 0, true, 0, 1, [⟨7, 0, 2⟩, ⟨9, 0, 0⟩], false, 0, []⟩ [])
    = ([some 0], .fin (.sent 1), (attempt ⟨false, 0, true, 0, 1, [⟨7, 0, 2⟩, ⟨9, 0, 0⟩], false, 0, []⟩ false true 1 .none
      (pinit .first ⟨false, 0, true, 0, 1, [⟨7, 0, 2⟩, ⟨9, 0, 0⟩], false, 0, []⟩ [])).2.2) := by decide +kernel

/-- the upstream whose dial address failed was an *available* one: the selection contract (only
    available upstreams) is kept — being available says nothing about the dial address -/
theorem dialinfo_failed_upstream_was_available (c : PCfg) (s : PState) (i : Nat) (hsel : selRes c s = .sel i) :
    ∃ u, (poolOf c s)[i]? = some u ∧ u.avail = true :=
  select_returns_available s.pol true (poolOf c s) s.draws i hsel

/-- OBSERVATION (no clause of C08: the policy did return an available upstream). Static upstreams,
    policy `first`: because the refusal is not a strike and ends the request, an upstream whose dial
    address cannot be filled in keeps being selected — every later request whose placeholders
    resolve as badly ends the same way, however many other upstreams are available and however
    many retries are allowed -/
theorem first_keeps_selecting_unfillable_upstream (c : PCfg) (hdyn : c.dyn = false) (i : Nat) :
    ∀ (rs : List (Bool × List Nat)) (s : PState), s.pol = .first → selRes c s = .sel i → (∀ r ∈ rs, i ∈ r.2) →
      (drun c s rs).1 = rs.map (fun _ => ([], .dialInfo i)) := by
  intro rs
  induction rs with
  | nil => intro s _ _ _; rfl
  | cons r rs ih =>
    intro s hp hsel hall
    obtain ⟨get, unf⟩ := r
    have hu : i ∈ unf := hall (get, unf) (by simp)
    have h1 := dialinfo_failure_ends_request c unf get c.retries .none s i hsel hu
    have hpol : (afterDialInfo c s).pol = .first := by simp [afterDialInfo, afterSel, hp, select]
    have hpool : poolOf c (afterDialInfo c s) = poolOf c s := by
      simp [poolOf, afterDialInfo, afterSel, dropFails_static hdyn]
    have hsel' : selRes c (afterDialInfo c s) = .sel i := by
      rw [← hsel]; simp [selRes, hpol, hp, hpool, select]
    have := ih (afterDialInfo c s) hpol hsel' (fun r hr => hall r (by simp [hr]))
    simp [drun, h1, this]

-- three requests, three retries allowed, upstream 1 available and dialable throughout: all three end in fillDialInfo for upstream 0
example : (drun ⟨false, 0, true, 0, 3, [⟨7, 0, 0⟩, ⟨9, 0, 0⟩], false, 0, []⟩
      (pinit .first ⟨false, 0, true, 0, 3, [⟨7, 0, 0⟩, ⟨9, 0, 0⟩], false, 0, []⟩ []) [(true, [0]), (false, [0]), (true, [0])]).1
    = [([], .dialInfo 0), ([], .dialInfo 0), ([], .dialInfo 0)] := by decide

/-! ## The other producers of a reverse_proxy handler: `forward_auth`, `php_fastcgi` -/

/-- the wrappers' walk leaves a plain `reverse_proxy` segment alone … -/
theorem wrapper_strip_rp_is_identity (dur : Bytes → Option Int) :
    ∀ (body : List (List Tok)) (n : Nat) (hdr uri : Bool), stripBody .rp dur n hdr uri body = some (body, uri) := by
  intro body
  induction body with
  | nil => intro n hdr uri; rfl
  | cons l rest ih =>
    intro n hdr uri
    unfold stripBody
    by_cases hc : isClose l = true
    · simp [hc, ih]
    · by_cases hn : n = 1
      · simp [hc, hn, ownRule, ih]
      · simp [hc, hn, ih]

theorem groupLines_flatten : ∀ toks : List Tok, (groupLines toks).flatten = toks := by
  intro toks
  fun_induction groupLines toks
  case case1 => rfl
  case case4 t ts hne _ =>
    -- the lines of a non-empty token list start with a non-empty line
    cases ts with
    | nil => rfl
    | cons a as =>
      exfalso
      revert hne
      unfold groupLines
      split <;> (try split) <;> simp
  all_goals simp_all

/-- … so the `reverse_proxy` directive is `Handler.UnmarshalCaddyfile` on its tokens, and the
    wrappers differ from it only by the tokens they take out -/
theorem wrapper_rp_is_reverse_proxy (dur : Bytes → Option Int) (addr : Bytes → Option (List Bytes)) (toks : List Tok)
    (h : toks ≠ []) : parseWrapper .rp dur addr toks = parseReverseProxy dur addr toks := by
  have hf := groupLines_flatten toks
  unfold parseWrapper wrapperTokens
  cases hg : groupLines toks with
  | nil => rw [hg] at hf; simp at hf; exact absurd hf.symm (by simpa using h)
  | cons head body =>
    rw [hg] at hf
    simp [wrapper_strip_rp_is_identity dur body 1 false false]
    simp at hf
    rw [hf]

/-- `forward_auth` without a `uri` subdirective directly inside its block is refused, whatever
    else is written -/
theorem forward_auth_requires_uri (dur : Bytes → Option Int) (addr : Bytes → Option (List Bytes)) (head : List Tok)
    (body ls : List (List Tok)) (toks : List Tok) (hg : groupLines toks = head :: body)
    (hs : stripBody .fa dur 1 false false body = some (ls, false)) :
    parseWrapper .fa dur addr toks = .err := by
  simp [parseWrapper, wrapperTokens, hg, hs]

/-- the tokens of a segment, one inner list per line, numbered from line 1 -/
private def seg (ls : List (List String)) : List Tok :=
  (ls.zipIdx.map fun x => x.1.map fun t => (⟨str t, x.2 + 1⟩ : Tok)).flatten

-- wrapper_rp_is_reverse_proxy / forward_auth: `uri` and `copy_headers` are taken out, `lb_policy first` and
-- `lb_retries 2` reach the handler; nothing written → no policy (Provision: random), no retries, no passive checks
example : parseWrapper .fa (fun _ => none) (fun a => some [a])
      (seg [["forward_auth", "a:80", "{"], ["uri", "authz"], ["lb_policy", "first"], ["copy_headers", "X"], ["lb_retries", "2"], ["}"]])
    = .ok { RpCfg.empty with ups := [str "a:80"], pol := some [.simple 3], retries := 2 } ∧
    parseWrapper .fa (fun _ => none) (fun a => some [a]) (seg [["forward_auth", "a:80", "{"], ["uri", "authz"], ["}"]])
    = .ok { RpCfg.empty with ups := [str "a:80"] } ∧
    wrapperCaseOK .fa (seg [["forward_auth", "a:80", "{"], ["uri", "authz"], ["lb_policy", "first"], ["copy_headers", "X"], ["lb_retries", "2"], ["}"]]) = true := by decide +kernel
-- forward_auth_requires_uri: no `uri`, or only one inside a nested block → refused; `uri` with a second argument leaves a token
-- reverse_proxy does not know → refused
example : parseWrapper .fa (fun _ => none) (fun a => some [a]) (seg [["forward_auth", "a:80", "{"], ["lb_retries", "2"], ["}"]]) = .err ∧
    parseWrapper .fa (fun _ => none) (fun a => some [a]) (seg [["forward_auth", "a:80", "{"], ["uri", "x", "y"], ["}"]]) = .err ∧
    stripBody .fa (fun _ => none) 1 false false (groupLines (seg [["lb_retries", "2"], ["}"]])) = some (groupLines (seg [["lb_retries", "2"], ["}"]]), false) := by decide +kernel
-- php_fastcgi: its own subdirectives are taken out, `max_fails 3` makes passive health checks; `env` with one argument is refused
example : parseWrapper .php (fun _ => none) (fun a => some [a])
      (seg [["php_fastcgi", "a:9000", "{"], ["root", "srv"], ["env", "K", "v"], ["max_fails", "3"], ["capture_stderr"], ["}"]])
    = .ok { RpCfg.empty with ups := [str "a:9000"], passive := true, maxFails := 3 } ∧
    parseWrapper .php (fun _ => none) (fun a => some [a]) (seg [["php_fastcgi", "a:9000", "{"], ["env", "K"], ["}"]]) = .err ∧
    parseWrapper .rp (fun _ => none) (fun a => some [a]) (seg [["reverse_proxy", "a:9000", "{"], ["root", "srv"], ["}"]]) = .err := by decide +kernel

end CaddyModel.C08
