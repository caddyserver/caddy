/-
C08 — the other producers of a reverse_proxy handler in a Caddyfile: `forward_auth`
(reverseproxy/forwardauth/caddyfile.go `parseCaddyfile`) and `php_fastcgi`
(reverseproxy/fastcgi/caddyfile.go `parsePHPFastCGI`). Both walk over the tokens of their segment
(`for dispenser.Next() { for dispenser.NextBlock(0) { if dispenser.Nesting() != 1 { continue } … } }`),
take out the subdirectives that are their own (`DeleteN`), reset the dispenser and hand what is left
to `reverseproxy.Handler.UnmarshalCaddyfile` — the load-balancing and health-check options of the
handler they build are whatever that parser makes of the remaining tokens (Caddyfile.lean
`parseReverseProxy`); neither wrapper sets a selection policy, retries or health checks of its own.

The segment is modelled line by line (a *laid-out* segment: the directive line ends in `{` if there
is a block, every `}` stands alone on its line, a `{` only ends a line, line numbers increase): the
wrapper's loop then looks at the first token of each line directly inside the block (nesting 1).
Core Lean only.
-/
import CaddyModel.C08.Caddyfile

namespace CaddyModel.C08

inductive WKind where
  | rp | fa | php
deriving DecidableEq, Repr

/-- consecutive tokens with the same line number -/
def groupLines : List Tok → List (List Tok)
  | [] => []
  | t :: ts =>
    match groupLines ts with
    | (u :: us) :: rest => if u.line = t.line then (t :: u :: us) :: rest else [t] :: (u :: us) :: rest
    | _ => [[t]]

def lineNo : List Tok → Nat
  | [] => 0
  | t :: _ => t.line

def isClose (l : List Tok) : Bool := l.map (·.text) == [rbrace]

def endsOpen (l : List Tok) : Bool :=
  match l.getLast? with
  | some t => t.text == lbrace
  | none => false

def isBrace (t : Tok) : Bool := t.text == lbrace || t.text == rbrace

/-- braces only where the layout wants them: at most a `{` at the very end, or the line is `}` -/
def lineOK (l : List Tok) : Bool :=
  isClose l || (!l.isEmpty && (l.dropLast.all (fun t => !isBrace t)) &&
    (match l.getLast? with | some t => t.text != rbrace | none => false) && l != [⟨lbrace, lineNo l⟩])

/-- the body of a block opened at nesting `n`: lines up to the `}` that brings the nesting back
    to 0 — which must be the last line -/
def bodyOK : Nat → List (List Tok) → Bool
  | _, [] => false
  | n, l :: rest =>
    lineOK l &&
    (if isClose l then
      (if n = 1 then rest.isEmpty else bodyOK (n - 1) rest)
     else if endsOpen l then decide (n < 6) && bodyOK (n + 1) rest
     else bodyOK n rest)

def increasing : List Nat → Bool
  | a :: b :: rest => decide (a < b) && increasing (b :: rest)
  | _ => true

/-- a laid-out segment -/
def laidOut (toks : List Tok) : Bool :=
  match groupLines toks with
  | [] => false
  | head :: body =>
    lineOK head && !isClose head && increasing ((head :: body).map lineNo) &&
    (if endsOpen head then decide (2 ≤ head.length) && bodyOK 1 body else body.isEmpty)

/-- what a wrapper does with a line `l` directly inside its block (by its first token and the
    number of tokens on the line): `none` = not one of its subdirectives (left for reverse_proxy);
    `some none` = error; `some (some k)` = the first `k` tokens are deleted.
    `hdr` = `copy_headers` has named a header already -/
def ownRule (k : WKind) (dur : Bytes → Option Int) (hdr : Bool) (l : List Tok) : Option (Option Nat) :=
  match k, l with
  | .rp, _ => none
  | _, [] => none
  | .fa, name :: args =>
    if name.text = str "uri" then (if args.isEmpty then some none else some (some 2))
    else if name.text = str "copy_headers" then (if args.isEmpty && !hdr then some none else some (some l.length))
    else none
  | .php, name :: args =>
    if name.text = str "root" then (if args.isEmpty then some none else some (some 2))
    else if name.text = str "split" then (if args.isEmpty then some none else some (some l.length))
    else if name.text = str "env" then (if args.length = 2 then some (some l.length) else some none)
    else if name.text = str "index" then (if args.length = 1 then some (some l.length) else some none)
    else if name.text = str "try_files" then (if args.isEmpty then some none else some (some l.length))
    else if name.text = str "resolve_root_symlink" || name.text = str "capture_stderr" then some (some l.length)
    else if name.text = str "dial_timeout" || name.text = str "read_timeout" || name.text = str "write_timeout" then
      (match args with
       | [] => some none
       | a :: _ => if (dur a.text).isSome then some (some 2) else some none)
    else none

/-- the wrapper's walk over the block: the lines that are left (in order), whether `uri` was seen;
    `none` = the wrapper returns an error -/
def stripBody (k : WKind) (dur : Bytes → Option Int) : Nat → Bool → Bool → List (List Tok) → Option (List (List Tok) × Bool)
  | _, _, uri, [] => some ([], uri)
  | n, hdr, uri, l :: rest =>
    if isClose l then (stripBody k dur (n - 1) hdr uri rest).map (fun x => (l :: x.1, x.2))
    else if n = 1 then
      match ownRule k dur hdr l with
      | some none => none
      | some (some d) =>
        (stripBody k dur n (hdr || decide ((l.map (·.text)).head? = some (str "copy_headers") ∧ 2 ≤ l.length))
            (uri || decide ((l.map (·.text)).head? = some (str "uri"))) rest).map
          (fun x => (if (l.drop d).isEmpty then x.1 else l.drop d :: x.1, x.2))
      | none => (stripBody k dur (if endsOpen l then n + 1 else n) hdr uri rest).map (fun x => (l :: x.1, x.2))
    else (stripBody k dur (if endsOpen l then n + 1 else n) hdr uri rest).map (fun x => (l :: x.1, x.2))

/-- the tokens handed to `Handler.UnmarshalCaddyfile`; `none` = the wrapper itself refuses -/
def wrapperTokens (k : WKind) (dur : Bytes → Option Int) (toks : List Tok) : Option (List Tok) :=
  match groupLines toks with
  | [] => none
  | head :: body =>
    match stripBody k dur 1 false false body with
    | none => none
    | some (ls, uri) => if k = .fa && !uri then none else some (head ++ ls.flatten)

/-- the handler a `reverse_proxy` / `forward_auth` / `php_fastcgi` directive builds, as far as load
    balancing and passive health checks go -/
def parseWrapper (k : WKind) (dur : Bytes → Option Int) (addr : Bytes → Option (List Bytes)) (toks : List Tok) : Lr RpCfg :=
  match wrapperTokens k dur toks with
  | some ts => parseReverseProxy dur addr ts
  | none => .err

/-- the names a wrapper takes out of the block -/
def ownNames : WKind → List Bytes
  | .rp => []
  | .fa => [str "uri", str "copy_headers"]
  | .php => [str "root", str "split", str "env", str "index", str "try_files", str "resolve_root_symlink",
      str "capture_stderr", str "dial_timeout", str "read_timeout", str "write_timeout"]

/-- no line that starts with one of the wrapper's own names opens a block (`copy_headers { … }` is
    outside this model) -/
def ownFlat (k : WKind) (toks : List Tok) : Bool :=
  (groupLines toks).all fun l =>
    match l with
    | t :: _ => !((ownNames k).contains t.text && endsOpen l)
    | [] => true

/-- letters, digits and `_ . : -` only (no quoting, no placeholders, no matcher tokens), not `import` -/
def plainByte (b : UInt8) : Bool :=
  (48 ≤ b && b ≤ 57) || (65 ≤ b && b ≤ 90) || (97 ≤ b && b ≤ 122) || b = 95 || b = 46 || b = 58 || b = 45

def plainTok (t : Tok) : Bool := isBrace t || (!t.text.isEmpty && t.text.all plainByte && t.text != str "import")

def wrapperCaseOK (k : WKind) (toks : List Tok) : Bool :=
  toks.all plainTok && laidOut toks && ownFlat k toks &&
  (match toks with
   | t :: _ => t.text == (match k with | .rp => str "reverse_proxy" | .fa => str "forward_auth" | .php => str "php_fastcgi")
   | [] => false)

end CaddyModel.C08
