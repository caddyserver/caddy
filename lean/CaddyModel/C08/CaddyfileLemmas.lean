/-
C08 — helper lemmas about the Caddyfile model: the dispenser's cursor only moves forward (`Fwd`, `OneFwd`,
`NextBlockPost`), from that the loops of `lb_policy` / `reverse_proxy` have fuel enough (`Ready`, `StepOK`);
at the end result shapes: the argument loop on a one-line segment, `weightsOf_spec`, `parseSel_simple`, `parseSel_wrr`.
-/
import CaddyModel.C08.Caddyfile
import CaddyModel.Util.StrLemmas

namespace CaddyModel.C08

/-- the cursor stays inside "one past the last token" (or at 1 for an empty token list) -/
def Disp.bound (d : Disp) : Nat := max d.toks.length 1

/-- `d'` comes from `d` by dispenser operations -/
structure Fwd (d d' : Disp) : Prop where
  toks : d'.toks = d.toks
  mono : d.cur ≤ d'.cur
  wf : d.cur ≤ d.bound → d'.cur ≤ d'.bound

theorem Fwd.refl (d : Disp) : Fwd d d := ⟨rfl, Nat.le_refl _, id⟩

theorem fwd_bound {d d' : Disp} (h : Fwd d d') : d'.bound = d.bound := by simp [Disp.bound, h.toks]

theorem Fwd.trans {a b c : Disp} (h1 : Fwd a b) (h2 : Fwd b c) : Fwd a c :=
  ⟨h2.toks.trans h1.toks, Nat.le_trans h1.mono h2.mono, fun h => h2.wf (h1.wf h)⟩

theorem fwd_nest {d d' : Disp} (h : Fwd d d') (n : Nat) : Fwd d { d' with nest := n } :=
  ⟨h.toks, h.mono, h.wf⟩

theorem prev_val (d : Disp) (n : Nat) : ({ d with nest := n } : Disp).val = d.val := rfl

def OneFwd (d : Disp) (r : Bool × Disp) : Prop :=
  (r.1 = true → r.2 = { d with cur := d.cur + 1 } ∧ d.cur + 1 ≤ d.bound) ∧ (r.1 = false → r.2 = d)

theorem oneFwd_no (d : Disp) : OneFwd d (false, d) := ⟨fun h => (nomatch h), fun _ => rfl⟩

theorem oneFwd_yes {d d' : Disp} (hd : d' = { d with cur := d.cur + 1 }) (h : d.cur + 1 ≤ d.bound) : OneFwd d (true, d') :=
  ⟨fun _ => ⟨hd, h⟩, fun h => (nomatch h)⟩

theorem oneFwd_fwd {d : Disp} {r : Bool × Disp} (h : OneFwd d r) : Fwd d r.2 ∧ r.2.nest = d.nest := by
  cases hr : r.1
  · rw [h.2 hr]; exact ⟨Fwd.refl d, rfl⟩
  · rw [(h.1 hr).1]; exact ⟨⟨rfl, Nat.le_succ _, fun _ => (h.1 hr).2⟩, rfl⟩

theorem oneFwd_cur {d : Disp} {r : Bool × Disp} (h : OneFwd d r) (hr : r.1 = true) : r.2.cur = d.cur + 1 := by
  rw [(h.1 hr).1]

theorem next_oneFwd (d : Disp) : OneFwd d d.next := by
  fun_cases Disp.next d
  case case1 h => exact oneFwd_yes rfl (Nat.le_trans h (Nat.le_max_left ..))
  case case2 => exact oneFwd_no d

theorem nextOnSameLine_oneFwd (d : Disp) : OneFwd d d.nextOnSameLine := by
  fun_cases Disp.nextOnSameLine d
  case case1 h => exact oneFwd_yes (by rw [h]) (by rw [h]; exact Nat.le_max_right ..)
  case case2 => exact oneFwd_no d
  case case3 hc _ _ h1 _ _ =>
    exact oneFwd_yes (by rw [hc]) (by rw [hc]; exact Nat.le_trans (List.getElem?_eq_some_iff.1 h1).1 (Nat.le_max_left ..))
  case case4 => exact oneFwd_no d

theorem nextArg_oneFwd (d : Disp) : OneFwd d d.nextArg := by
  have h := nextOnSameLine_oneFwd d
  fun_cases Disp.nextArg d
  case case1 hn hv => rw [(h.1 hn).1]; exact oneFwd_no d
  case case2 hn _ => exact ⟨fun _ => h.1 hn, fun h => (nomatch h)⟩
  case case3 hn => exact ⟨fun h => (nomatch h), fun _ => h.2 (Bool.eq_false_iff.2 hn)⟩

/-- what `NextBlock(init)` does to the dispenser; `two`: when it opens a block, brace and first token are
    both behind the cursor — what makes the `3 ≤ d.cur` of `Ready` true after the first iteration -/
structure NextBlockPost (d : Disp) (init : Nat) (r : Bool × Disp) : Prop where
  fwd : Fwd d r.2
  lt : r.1 = true → d.cur < r.2.cur
  nest : init ≤ d.nest → init ≤ r.2.nest
  two : d.nest ≤ init → r.1 = true → r.2.val ≠ lbrace → d.cur + 2 ≤ r.2.cur

theorem nextBlock_spec (d : Disp) (init : Nat) : NextBlockPost d init (d.nextBlock init) := by
  obtain ⟨nf, nn⟩ := oneFwd_fwd (next_oneFwd d)
  obtain ⟨sf, sn⟩ := oneFwd_fwd (nextOnSameLine_oneFwd d)
  obtain ⟨nsf, nsn⟩ := oneFwd_fwd (nextOnSameLine_oneFwd d.next.2)
  obtain ⟨snf, snn⟩ := oneFwd_fwd (next_oneFwd d.nextOnSameLine.2)
  have no : ∀ d' : Disp, Fwd d d' → d'.nest = d.nest → NextBlockPost d init (false, d') :=
    fun d' hf hn => ⟨hf, fun h => (nomatch h), fun h => hn ▸ h, fun _ h => (nomatch h)⟩
  have yes : init < d.nest → d.next.1 = true → ∀ (b : Bool) (d' : Disp), Fwd d.next.2 d' → init ≤ d'.nest →
      NextBlockPost d init (b, d') := fun hA hn b d' hf hnest =>
    ⟨nf.trans hf, fun _ => Nat.lt_of_lt_of_le (Nat.lt_of_lt_of_eq (Nat.lt_succ_self _) (oneFwd_cur (next_oneFwd d) hn).symm) hf.mono,
      fun _ => hnest, fun h => absurd hA (Nat.not_lt.2 h)⟩
  fun_cases Disp.nextBlock d init
  case case1 hA hn _ => exact yes hA hn _ _ (fwd_nest nsf _) (nn ▸ Nat.le_sub_one_of_lt hA)
  case case2 hA hn _ _ => exact yes hA hn _ _ (fwd_nest nsf _) (nn ▸ Nat.le_succ_of_le (Nat.le_of_lt hA))
  case case3 hA hn _ _ _ => exact yes hA hn _ _ nsf (nsn ▸ nn ▸ Nat.le_of_lt hA)
  case case4 hA hn _ _ _ => exact yes hA hn _ _ (Fwd.refl _) (nn ▸ Nat.le_of_lt hA)
  case case5 => exact no _ nf nn
  case case6 => exact no _ sf sn
  case case7 hs _ => rw [((nextOnSameLine_oneFwd d).1 (by simpa using hs)).1]; exact no _ (Fwd.refl d) rfl
  case case8 => exact no _ (sf.trans snf) (snn.trans sn)
  case case9 hs hv hr =>
    have hc1 : d.nextOnSameLine.2.cur = d.cur + 1 := oneFwd_cur (nextOnSameLine_oneFwd d) (by simpa using hs)
    refine ⟨fwd_nest (sf.trans snf) _, fun _ => Nat.lt_of_lt_of_le (hc1 ▸ Nat.lt_succ_self d.cur) snf.mono,
      fun h => snn ▸ sn ▸ Nat.le_succ_of_le h, fun _ _ hval => ?_⟩
    -- the token behind the brace was loaded, otherwise the value would still be the brace
    cases hm : d.nextOnSameLine.2.next.1
    · rw [prev_val, (next_oneFwd _).2 hm] at hval
      exact absurd (by simpa using hv) hval
    · show d.cur + 2 ≤ d.nextOnSameLine.2.next.2.cur
      rw [oneFwd_cur (next_oneFwd _) hm, hc1]; exact Nat.le_refl _

theorem segArgs_fwd (fuel : Nat) (d : Disp) :
    Fwd d (segArgs fuel d).2 ∧ (segArgs fuel d).2.nest = d.nest ∧ (segArgs fuel d).1.length + d.cur ≤ (segArgs fuel d).2.cur := by
  fun_induction segArgs fuel d
  case case1 d => exact ⟨Fwd.refl d, rfl, Nat.le_of_eq (Nat.zero_add _)⟩
  case case2 d ha ih =>
    obtain ⟨af, an⟩ := oneFwd_fwd (nextArg_oneFwd d)
    have hc := oneFwd_cur (nextArg_oneFwd d) ha
    exact ⟨af.trans ih.1, ih.2.1.trans an, by simp only [List.length_cons]; omega⟩
  case case3 d _ =>
    obtain ⟨af, an⟩ := oneFwd_fwd (nextArg_oneFwd d)
    exact ⟨af, an, Nat.le_trans (Nat.le_of_eq (Nat.zero_add _)) af.mono⟩

theorem val_eq_tok (d : Disp) : d.val = d.tok.text := by
  fun_cases Disp.val d <;> simp [Disp.tok, *]

theorem remainingArgs_eq_segArgs (fuel : Nat) (d : Disp) :
    remainingArgs fuel d = ((segArgs fuel d).1.map (·.text), (segArgs fuel d).2) := by
  fun_induction segArgs fuel d <;> simp [remainingArgs, val_eq_tok, *]

theorem remainingArgs_fwd (fuel : Nat) (d : Disp) :
    Fwd d (remainingArgs fuel d).2 ∧ (remainingArgs fuel d).2.nest = d.nest ∧
    (remainingArgs fuel d).1.length + d.cur ≤ (remainingArgs fuel d).2.cur := by
  rw [remainingArgs_eq_segArgs, List.length_map]
  exact segArgs_fwd fuel d

theorem segArgs_succ (fuel : Nat) (d : Disp) (h : d.toks.length + 2 ≤ fuel + d.cur) :
    segArgs (fuel + 1) d = segArgs fuel d := by
  fun_induction segArgs fuel d
  case case1 d =>
    have hf : d.nextArg.1 = false := by
      cases ha : d.nextArg.1
      · rfl
      · have := ((nextArg_oneFwd d).1 ha).2; unfold Disp.bound at this; omega
    rw [segArgs, if_neg (by simp [hf]), (nextArg_oneFwd d).2 hf]
  case case2 fuel d ha ih =>
    have hd := ((nextArg_oneFwd d).1 ha).1
    rw [segArgs, if_pos ha, ih (by rw [hd]; dsimp only; omega)]
  case case3 fuel d ha => rw [segArgs, if_neg ha]

theorem segArgs_fuel (fuel more : Nat) (d : Disp) (h : d.toks.length + 2 ≤ fuel + d.cur) :
    segArgs fuel d = segArgs (fuel + more) d := by
  induction more with
  | zero => rfl
  | succ m ih => rw [ih, ← Nat.add_assoc, segArgs_succ _ d (by omega)]

theorem remainingArgs_fuel (fuel more : Nat) (d : Disp) (h : d.toks.length + 2 ≤ fuel + d.cur) :
    remainingArgs fuel d = remainingArgs (fuel + more) d := by
  rw [remainingArgs_eq_segArgs, remainingArgs_eq_segArgs, ← segArgs_fuel fuel more d h]

theorem segBlock_fwd (init fuel : Nat) (opened : Bool) (d : Disp) (h : init ≤ d.nest) :
    Fwd d (segBlock init fuel opened d).2.2 ∧ init ≤ (segBlock init fuel opened d).2.2.nest ∧
    (segBlock init fuel opened d).1.length + d.cur ≤ (segBlock init fuel opened d).2.2.cur + (if opened then 0 else 1) := by
  fun_induction segBlock init fuel opened d
  case case1 => exact ⟨Fwd.refl _, h, by simp⟩
  case case2 fuel d hb ih =>
    have nb := nextBlock_spec d init
    have hlt := nb.lt hb
    obtain ⟨rf, rn, rl⟩ := ih (nb.nest h)
    exact ⟨nb.fwd.trans rf, rn, by simp only [List.length_cons, if_true] at rl ⊢; omega⟩
  case case3 fuel opened d hb ho ih =>
    have nb := nextBlock_spec d init
    have hlt := nb.lt hb
    obtain ⟨rf, rn, rl⟩ := ih (nb.nest h)
    exact ⟨nb.fwd.trans rf, rn, by simp only [ho, List.length_cons, if_true, if_false, Bool.false_eq_true] at rl ⊢; omega⟩
  case case4 fuel opened d hb =>
    have nb := nextBlock_spec d init
    exact ⟨nb.fwd, nb.nest h, Nat.le_trans (Nat.le_of_eq (Nat.zero_add _)) (Nat.le_trans nb.fwd.mono (Nat.le_add_right ..))⟩

/-- `NextSegment()`: the cursor only moves forward, the nesting does not drop, and the segment has
    at most three tokens more than the cursor passed (the first token, and — on an unterminated
    block — a repeated token at either end) -/
theorem nextSegment_spec (d : Disp) :
    Fwd d (nextSegment d).2 ∧ d.nest ≤ (nextSegment d).2.nest ∧
    (nextSegment d).1.length + d.cur ≤ (nextSegment d).2.cur + 3 := by
  obtain ⟨af, an, al⟩ := segArgs_fwd (d.toks.length + 2) d
  obtain ⟨bf, bn, bl⟩ := segBlock_fwd (segArgs (d.toks.length + 2) d).2.nest (d.toks.length + 2) false
    (segArgs (d.toks.length + 2) d).2 (Nat.le_refl _)
  rw [if_neg Bool.false_ne_true] at bl
  unfold nextSegment
  generalize segArgs (d.toks.length + 2) d = sa at *
  generalize segBlock sa.2.nest (d.toks.length + 2) false sa.2 = sb at *
  refine ⟨af.trans bf, an ▸ bn, ?_⟩
  cases sb.2.1 <;> simp only [List.length_cons, List.length_append, List.length_nil, if_true, Bool.false_eq_true, if_false] <;> omega

theorem nextSegment_length (d : Disp) (hwf : d.cur ≤ d.bound) :
    (nextSegment d).1.length + d.cur ≤ d.toks.length + 4 := by
  obtain ⟨sf, _, sl⟩ := nextSegment_spec d
  have := sf.wf hwf
  rw [fwd_bound sf] at this
  unfold Disp.bound at this
  omega

theorem lr_ok_ne_fuel {σ : Type} {v : σ} : (Lr.ok v : Lr σ) ≠ .fuel := by intro h; cases h

theorem lr_err_ne_fuel {σ : Type} : (Lr.err : Lr σ) ≠ .fuel := by intro h; cases h

/-- what the block loop of query / header / cookie needs to get through `n` iterations on `L` tokens:
    the cursor inside the bound, enough iterations for the tokens that are left, and the cursor past
    the policy name — once inside the block, past its brace and its first token too -/
def Ready (L n : Nat) (d : Disp) : Prop :=
  d.toks.length = L ∧ d.cur ≤ d.bound ∧ d.bound + 1 ≤ n + d.cur ∧ ((d.nest = 0 ∧ 1 ≤ d.cur) ∨ 3 ≤ d.cur)

theorem ready_step {L n : Nat} {d d' : Disp} (h : Ready L (n + 1) d) (hb : (d.nextBlock 0).1 = true)
    (hv : (d.nextBlock 0).2.val ≠ lbrace) (hf : Fwd (d.nextBlock 0).2 d') :
    3 ≤ (d.nextBlock 0).2.cur ∧ Ready L n d' := by
  obtain ⟨hL, hwf, hn, hinv⟩ := h
  have nb := nextBlock_spec d 0
  have hlt := nb.lt hb
  have h3 : 3 ≤ (d.nextBlock 0).2.cur :=
    hinv.elim (fun h => Nat.le_trans (Nat.add_le_add_right h.2 2) (nb.two (Nat.le_of_eq h.1) hb hv))
      (fun h => Nat.le_trans h (Nat.le_of_lt hlt))
  have hf' := nb.fwd.trans hf
  exact ⟨h3, by rw [hf'.toks, hL], hf'.wf hwf, by rw [fwd_bound hf']; have := hf.mono; omega,
    Or.inr (Nat.le_trans h3 hf.mono)⟩

theorem blockLoop_fuel (dur : Bytes → Option Int) (cookie : Bool) (lf : List Tok → CfRes) (L : Nat)
    (hlf : ∀ seg : List Tok, seg.length < L → lf seg ≠ .fuel) (n : Nat) (d : Disp) (st : BlkState)
    (h : Ready L n d) : blockLoop dur cookie lf n d st ≠ .fuel := by
  fun_induction blockLoop dur cookie lf n d st
  case case1 => have := h.2.1; have := h.2.2.1; omega
  case case3 n d st hb hF ha _ p hr ih =>
    obtain ⟨af, _⟩ := oneFwd_fwd (nextArg_oneFwd (d.nextBlock 0).2)
    exact ih (ready_step h hb (by rw [hF, str_ofList]; decide) (af.trans (nextSegment_spec _).1)).2
  case case5 n d st hb hF ha _ hr =>
    -- the segment handed to the fallback loader is shorter than the token list: policy name, brace and
    -- `fallback` are behind the cursor (`h3`, `hc`), the segment has at most 3 tokens more than the cursor passes (`sl`)
    obtain ⟨af, _⟩ := oneFwd_fwd (nextArg_oneFwd (d.nextBlock 0).2)
    obtain ⟨sf, _, sl⟩ := nextSegment_spec (d.nextBlock 0).2.nextArg.2
    obtain ⟨h3, hL, hwf, _⟩ := ready_step h hb (by rw [hF, str_ofList]; decide) (af.trans sf)
    have hc := oneFwd_cur (nextArg_oneFwd (d.nextBlock 0).2) ha
    refine absurd hr (hlf _ ?_)
    have := sf.mono
    unfold Disp.bound at hwf
    omega
  case case11 n d st hb _ hM ha _ v _ _ _ ih =>
    obtain ⟨af, _⟩ := oneFwd_fwd (nextArg_oneFwd (d.nextBlock 0).2)
    obtain ⟨af2, _⟩ := oneFwd_fwd (nextArg_oneFwd (d.nextBlock 0).2.nextArg.2)
    exact ih (ready_step h hb (by rw [hM.2, str_ofList]; decide) (af.trans af2)).2
  case case14 => exact lr_ok_ne_fuel
  all_goals exact lr_err_ne_fuel

/-- the nested `UnmarshalModule` calls do not run out of fuel: a segment shorter than the fuel -/
theorem parseSel_fuel (dur : Bytes → Option Int) (fuel : Nat) (seg : List Tok) (hlen : seg.length < fuel) :
    parseSel dur fuel seg ≠ .fuel := by
  induction fuel using Nat.strongRecOn generalizing seg with | _ fuel ih =>
  -- the block loop of query / header / cookie, started behind the policy's arguments; the loader of
  -- its fallback has one unit of fuel less
  have block : ∀ (m : Nat) (cookie : Bool) (d : Disp), fuel = m + 1 → Fwd (Disp.mk seg 0 0) d → d.nest = 0 → 1 ≤ d.cur →
      blockLoop dur cookie (parseSel dur m) (seg.length + 2) d ⟨none, 0⟩ ≠ .fuel :=
    fun m cookie d hm hf hn hc => blockLoop_fuel dur cookie _ seg.length (fun s' hs => ih m (by omega) s' (by omega)) _ d _
      ⟨congrArg List.length hf.toks, hf.wf (Nat.zero_le _), by rw [fwd_bound hf]; simp [Disp.bound]; omega, Or.inl ⟨hn, hc⟩⟩
  obtain ⟨nf, nn⟩ := oneFwd_fwd (next_oneFwd (Disp.mk seg 0 0))
  obtain ⟨af, an⟩ := oneFwd_fwd (nextArg_oneFwd (Disp.mk seg 0 0).next.2)
  obtain ⟨rf, rn, rl⟩ := remainingArgs_fwd (seg.length + 2) (Disp.mk seg 0 0)
  fun_cases parseSel dur fuel seg
  case case1 => omega
  case case14 ha hr =>
    -- query / header: `NextArg` has loaded the key
    exact absurd hr (block _ false _ rfl (nf.trans af) (an.trans nn) (oneFwd_cur (nextArg_oneFwd _) ha ▸ Nat.le_add_left ..))
  case case18 hargs hr | case21 hargs hr | case24 hargs hr =>
    -- cookie: `RemainingArgs()` on the fresh dispenser has read the policy name
    rw [hargs] at rl
    exact absurd hr (block _ true _ rfl rf rn (Nat.le_trans (Nat.le_add_left ..) rl))
  case case2 | case26 => nofun
  all_goals simp only [*, ↓reduceIte]; nofun

def StepOK (d : Disp) (r : Lr (Disp × RpCfg)) : Prop := r ≠ .fuel ∧ ∀ d' st', r = .ok (d', st') → Fwd d d'

theorem stepOK_err (d : Disp) : StepOK d .err := ⟨nofun, fun _ _ h => nomatch h⟩

theorem stepOK_ok {d d' : Disp} (h : Fwd d d') (st : RpCfg) : StepOK d (.ok (d', st)) :=
  ⟨nofun, fun _ _ e => by cases e; exact h⟩

theorem rpStep_spec (dur : Bytes → Option Int) (addr : Bytes → Option (List Bytes)) (d : Disp) (st : RpCfg)
    (hwf : d.cur ≤ d.bound) : StepOK d (rpStep dur addr d st) := by
  obtain ⟨af, _⟩ := oneFwd_fwd (nextArg_oneFwd d)
  fun_cases rpStep dur addr d st
  case case2 => exact stepOK_ok (remainingArgs_fwd _ d).1 _
  case case5 => exact stepOK_ok (af.trans (nextSegment_spec _).1) _
  case case7 ha _ hr =>
    have hlen := nextSegment_length d.nextArg.2 (af.wf hwf)
    have hc := oneFwd_cur (nextArg_oneFwd d) ha
    rw [af.toks] at hlen
    exact absurd hr (parseSel_fuel dur _ _ (by omega))
  all_goals first | exact stepOK_err d | exact stepOK_ok af _

theorem rpLoop_fuel (dur : Bytes → Option Int) (addr : Bytes → Option (List Bytes)) (n : Nat) (d : Disp) (st : RpCfg)
    (hwf : d.cur ≤ d.bound) (hn : d.bound + 1 ≤ n + d.cur) : rpLoop dur addr n d st ≠ .fuel := by
  fun_induction rpLoop dur addr n d st
  case case1 => omega
  case case2 n d st hb d' st' hr ih =>
    have nb := nextBlock_spec d 0
    have hlt := nb.lt hb
    have hs := (rpStep_spec dur addr _ st (nb.fwd.wf hwf)).2 d' st' hr
    have hf := nb.fwd.trans hs
    exact ih (hf.wf hwf) (by rw [fwd_bound hf]; have := hs.mono; omega)
  case case4 n d st hb hr =>
    have nb := nextBlock_spec d 0
    exact absurd hr (rpStep_spec dur addr _ st (nb.fwd.wf hwf)).1
  all_goals nofun

theorem nextArg_same_line {toks : List Tok} {c nest : Nat} {t1 t2 : Tok} (h1 : toks[c]? = some t1)
    (h2 : toks[c + 1]? = some t2) (hl : t1.line = t2.line) (hb : t2.text ≠ lbrace) :
    (Disp.mk toks (c + 1) nest).nextArg = (true, ⟨toks, c + 2, nest⟩) := by
  simp [Disp.nextArg, Disp.nextOnSameLine, Disp.val, h1, h2, hl, hb]

theorem nextArg_last {toks : List Tok} {c nest : Nat} (h : toks[c + 1]? = none) :
    (Disp.mk toks (c + 1) nest).nextArg = (false, ⟨toks, c + 1, nest⟩) := by
  cases h1 : toks[c]? <;> simp [Disp.nextArg, Disp.nextOnSameLine, h, h1]

theorem remainingArgs_same_line (l nest : Nat) : ∀ (args : List Bytes) (pre : List Tok) (p : Tok) (fuel : Nat),
    (∀ a ∈ args, a ≠ lbrace) → p.line = l → args.length < fuel →
    (remainingArgs fuel ⟨pre ++ p :: args.map (fun a => ⟨a, l⟩), pre.length + 1, nest⟩).1 = args
  | _, _, _, 0, _, _, hf => by omega
  | [], pre, p, fuel + 1, _, _, _ => by
    unfold remainingArgs
    rw [nextArg_last (by simp)]; rfl
  | a :: args, pre, p, fuel + 1, hb, hl, hf => by
    have ih := remainingArgs_same_line l nest args (pre ++ [p]) ⟨a, l⟩ fuel
      (fun x hx => hb x (List.mem_cons_of_mem _ hx)) rfl (Nat.lt_of_succ_lt_succ hf)
    simp only [List.append_assoc, List.singleton_append, List.length_append, List.length_singleton] at ih
    unfold remainingArgs
    rw [List.map_cons, nextArg_same_line (t1 := p) (t2 := ⟨a, l⟩) (by simp) (by simp) hl (hb a (List.mem_cons_self ..)),
      if_pos rfl]
    exact congr (congrArg List.cons (by simp [Disp.val])) ih

theorem weightsOf_spec (args : List Bytes) (ws : List Int) (h : weightsOf args = some ws) :
    ws.length = args.length ∧ ∀ (i : Nat) (a : Bytes), args[i]? = some a → ∃ w, ws[i]? = some w ∧ C16.atoi a = some w ∧ 0 ≤ w := by
  fun_induction weightsOf args generalizing ws
  case case1 => cases h; exact ⟨rfl, nofun⟩
  case case3 a rest v ws' hr ha hv ih =>
    cases h
    obtain ⟨h1, h2⟩ := ih ws' hr
    refine ⟨congrArg Nat.succ h1, fun i x hx => ?_⟩
    cases i with
    | zero => cases hx; exact ⟨v, rfl, ha, Int.not_lt.1 hv⟩
    | succ i => exact h2 i x hx
  all_goals cases h

/-- a policy without options must stand alone -/
theorem parseSel_simple (dur : Bytes → Option Int) (fuel k : Nat) (t0 : Tok) (rest : List Tok)
    (hk : simpleKind t0.text = some k) :
    parseSel dur (fuel + 1) (t0 :: rest) =
      if ((Disp.mk (t0 :: rest) 0 0).next.2).nextArg.1 = true then .err else .ok [.simple k] := by
  rw [parseSel]; simp only [hk]

theorem parseSel_wrr (dur : Bytes → Option Int) (l fuel : Nat) (args : List Bytes) (hb : ∀ a ∈ args, a ≠ lbrace) :
    parseSel dur (fuel + 1) (⟨str "weighted_round_robin", l⟩ :: args.map (fun a => ⟨a, l⟩)) =
      if args = [] then .err
      else match weightsOf args with
        | some ws => .ok [.wrr ws]
        | none => .err := by
  have hk : simpleKind (str "weighted_round_robin") = none := by
    unfold simpleKind; repeat rw [str_ofList]
    decide
  have hr : (remainingArgs (args.length + 1 + 2) ⟨⟨str "weighted_round_robin", l⟩ :: args.map (fun a => ⟨a, l⟩), 1, 0⟩).1 = args :=
    remainingArgs_same_line l 0 args [] ⟨str "weighted_round_robin", l⟩ _ hb rfl (by omega)
  rw [parseSel]
  simp only [hk, if_true]
  rw [show (Disp.mk (⟨str "weighted_round_robin", l⟩ :: args.map (fun a => (⟨a, l⟩ : Tok))) 0 0).next.2
      = ⟨⟨str "weighted_round_robin", l⟩ :: args.map (fun a => (⟨a, l⟩ : Tok)), 1, 0⟩ from rfl]
  simp only [List.length_cons, List.length_map]
  rw [hr]
  cases args with
  | nil => rfl
  | cons a rest => rw [if_neg (List.cons_ne_nil a rest)]; rfl

end CaddyModel.C08
