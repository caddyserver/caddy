import CaddyModel.Util.DrvMain
import CaddyModel.C08.Driver
import CaddyModel.C08.Witness

def main (args : List String) : IO Unit :=
  CaddyModel.drvMain "C08" CaddyModel.C08.handle CaddyModel.C08.witnessLines args
