/-
C08 — helper lemmas. At the head `available_iff` (what `Up.avail` asks). Then what each selection loop returns:
`Good`; per policy `selX_cases` (none / starved arms first, then the `sel` arm) and `selX_live`; rendezvous hashing
on upstream records (`Win`, `hrw_…`, `hashPick_iff`, `hashGo_congr`); `select_good` through the fallback chains; the
draws random_choose needs (`Accepted`). Near the end the definition `loadedAt`, used in a statement of Props.lean.
The loops over the pool are characterised from an arbitrary state: the loop over `rest` stands at index
`i` of `pool`, i.e. `pool.drop i = rest`.
-/
import CaddyModel.C08.Spec

namespace CaddyModel.C08

/-- an upstream is available iff the active health flag is up, its recent failures are below
    the passive limit (if any), its circuit breaker (if any) is closed, and it is below its
    request limit (if any) -/
theorem available_iff (u : Up) :
    u.avail = true ↔
      (u.healthy = true ∧ (∀ m, u.maxFails = some m → u.fails < m) ∧ (∀ ok, u.cb = some ok → ok = true)) ∧
      ¬(0 < u.maxReq ∧ u.maxReq ≤ u.load) := by
  have key : (u.maxReq = 0 ∨ u.load < u.maxReq) ↔ (0 < u.maxReq → u.load < u.maxReq) := by omega
  unfold Up.avail Up.isHealthy Up.full
  cases hm : u.maxFails <;> cases hc : u.cb <;> simp [key, and_assoc]

theorem anyAvail_iff {pool : Pool} : anyAvail pool = true ↔ ∃ v ∈ pool, v.avail = true := by
  simp [anyAvail]

theorem availB_true {pool : Pool} {i : Nat} : availB pool i = true ↔ AvailAt pool i := by
  unfold availB AvailAt
  cases pool[i]? <;> simp

theorem availB_eq {pool : Pool} {i : Nat} {u : Up} (h : pool[i]? = some u) : availB pool i = u.avail := by
  unfold availB; rw [h]

theorem availAt_getElem {pool : Pool} {i : Nat} (h : i < pool.length) (ha : pool[i].avail = true) : AvailAt pool i :=
  ⟨pool[i], List.getElem?_eq_getElem h, ha⟩

theorem availAt_of_mem {pool : Pool} {v : Up} (hv : v ∈ pool) (ha : v.avail = true) : ∃ j, j < pool.length ∧ AvailAt pool j :=
  let ⟨j, hj, hget⟩ := List.getElem_of_mem hv
  ⟨j, hj, availAt_getElem hj (hget ▸ ha)⟩

theorem anyAvail_of_availAt {pool : Pool} {i : Nat} (h : AvailAt pool i) : anyAvail pool = true :=
  let ⟨u, hu, hav⟩ := h; anyAvail_iff.2 ⟨u, List.mem_of_getElem? hu, hav⟩

theorem drop_cons {pool rest : Pool} {i : Nat} {u : Up} (h : pool.drop i = u :: rest) :
    pool[i]? = some u ∧ pool.drop (i + 1) = rest :=
  ⟨by rw [← Nat.add_zero i, ← List.getElem?_drop, h]; rfl, by rw [List.drop_add_one_eq_tail_drop, h]; rfl⟩

/-- what a selection loop may return: nil, the position of an available upstream, or — in the
    model only — "out of draws" -/
def Good (pool : Pool) (r : Res) : Prop := r = .none ∨ r = .starved ∨ ∃ i, r = .sel i ∧ AvailAt pool i

theorem good_safe {pool : Pool} {r : Res} (h : Good pool r) : Safe pool r := by
  intro i hi
  rcases h with h | h | ⟨j, h, hj⟩ <;> rw [h] at hi <;> cases hi
  exact hj

theorem good_noPanic {pool : Pool} {r : Res} (h : Good pool r) : r.isPanic = false := by
  rcases h with h | h | ⟨j, h, _⟩ <;> rw [h] <;> rfl

theorem firstGo_eq (rest : Pool) (i : Nat) :
    firstGo rest i = match rest.findIdx? Up.avail with | some k => .sel (i + k) | none => .none := by
  fun_induction firstGo rest i
  case case1 => rfl
  case case2 h => rw [List.findIdx?_cons, if_pos h]; rfl
  case case3 u rest i h ih =>
    rw [ih, List.findIdx?_cons, if_neg h]
    cases rest.findIdx? Up.avail with
    | none => rfl
    | some k => exact congrArg Res.sel (Nat.add_right_comm i 1 k)

theorem selFirst_eq (pool : Pool) :
    selFirst pool = match pool.findIdx? Up.avail with | some i => .sel i | none => .none := by
  rw [selFirst, firstGo_eq]
  cases pool.findIdx? Up.avail with
  | none => rfl
  | some k => exact congrArg Res.sel (Nat.zero_add k)

theorem selFirst_cases (pool : Pool) :
    (selFirst pool = .none ∧ ∀ v ∈ pool, v.avail = false) ∨
    ∃ i, selFirst pool = .sel i ∧ AvailAt pool i ∧ ∀ j v, j < i → pool[j]? = some v → v.avail = false := by
  rw [selFirst_eq]
  cases h : pool.findIdx? Up.avail with
  | none => exact Or.inl ⟨rfl, List.findIdx?_eq_none_iff.1 h⟩
  | some i =>
    obtain ⟨hlt, hav, hfirst⟩ := List.findIdx?_eq_some_iff_getElem.1 h
    refine Or.inr ⟨i, rfl, availAt_getElem hlt hav, fun j v hj hv => ?_⟩
    obtain ⟨_, rfl⟩ := List.getElem?_eq_some_iff.1 hv
    exact Bool.eq_false_iff.2 (hfirst j hj)

theorem selFirst_good (pool : Pool) : Good pool (selFirst pool) :=
  (selFirst_cases pool).elim (fun h => Or.inl h.1) (fun ⟨i, h, hi, _⟩ => Or.inr (Or.inr ⟨i, h, hi⟩))

theorem selFirst_live {pool : Pool} (ha : anyAvail pool = true) : selFirst pool ≠ .none := fun h0 => by
  obtain ⟨v, hv, hav⟩ := anyAvail_iff.1 ha
  rcases selFirst_cases pool with ⟨_, hno⟩ | ⟨i, h, _⟩
  · rw [hno v hv] at hav; cases hav
  · cases h.symm.trans h0

theorem cookieGo_eq (c : Nat) (rest : Pool) (i : Nat) :
    cookieGo c rest i = (rest.findIdx? (fun u => u.avail && decide (u.id = c))).map (i + ·) := by
  fun_induction cookieGo c rest i
  case case1 => rfl
  case case2 h => rw [List.findIdx?_cons, if_pos h]; rfl
  case case3 u rest i h ih =>
    rw [ih, List.findIdx?_cons, if_neg h, Option.map_map]
    exact congrArg (Option.map · _) (funext fun k => Nat.add_right_comm i 1 k)

theorem cookieGo_cases (c : Nat) (pool : Pool) :
    (cookieGo c pool 0 = none ∧ ∀ v ∈ pool, ¬(v.avail = true ∧ v.id = c)) ∨
    ∃ i u, cookieGo c pool 0 = some i ∧ pool[i]? = some u ∧ u.avail = true ∧ u.id = c ∧
      ∀ j v, j < i → pool[j]? = some v → ¬(v.avail = true ∧ v.id = c) := by
  have test : ∀ v : Up, (v.avail && decide (v.id = c)) = true ↔ (v.avail = true ∧ v.id = c) :=
    fun v => Bool.and_eq_true_iff.trans (and_congr_right fun _ => decide_eq_true_iff)
  rw [cookieGo_eq]
  cases hf : pool.findIdx? (fun u => u.avail && decide (u.id = c)) with
  | none => exact Or.inl ⟨rfl, fun v hv hva => Bool.eq_false_iff.1 (List.findIdx?_eq_none_iff.1 hf v hv) ((test v).2 hva)⟩
  | some i =>
    obtain ⟨hlt, hp, hfirst⟩ := List.findIdx?_eq_some_iff_getElem.1 hf
    refine Or.inr ⟨i, pool[i], congrArg some (Nat.zero_add i), List.getElem?_eq_getElem hlt, ((test _).1 hp).1, ((test _).1 hp).2,
      fun j v hj hv hva => ?_⟩
    obtain ⟨_, rfl⟩ := List.getElem?_eq_some_iff.1 hv
    exact hfirst j hj ((test _).2 hva)

theorem getElem?_mod_ne_none {pool : Pool} (hn : 0 < pool.length) (x : Nat) : pool[x % pool.length]? ≠ none :=
  fun h => absurd (Nat.mod_lt _ hn) (Nat.not_lt.2 (List.getElem?_eq_none_iff.1 h))

theorem inc32_of_lt {c : Nat} (h : c + 1 < u32) : inc32 c = c + 1 := Nat.mod_eq_of_lt h

/-- with or without wrap-around of the counter -/
theorem rrGo_good (pool : Pool) (hn : 0 < pool.length) (fuel c : Nat) : Good pool (rrGo pool fuel c).1 := by
  fun_induction rrGo pool fuel c
  case case1 => exact Or.inl rfl
  case case2 u hu hav => exact Or.inr (Or.inr ⟨_, rfl, u, hu, hav⟩)
  case case3 ih => exact ih
  case case4 c hu => exact absurd hu (getElem?_mod_ne_none hn _)

theorem selRR_good (pool : Pool) (c : Nat) : Good pool (selRR pool c).1 := by
  unfold selRR
  split
  · exact Or.inl rfl
  · exact rrGo_good pool (by omega) _ _

theorem rrGo_eq_find (pool : Pool) (hn : 0 < pool.length) (fuel c : Nat) (hc : c + fuel < u32) :
    rrGo pool fuel c =
      match (List.range' (c + 1) fuel).find? (fun t => availB pool (t % pool.length)) with
      | some t => (.sel (t % pool.length), t)
      | none => (.none, c + fuel) := by
  induction fuel generalizing c with
  | zero => rfl
  | succ fuel ih =>
    unfold rrGo
    rw [inc32_of_lt (by omega), List.range'_succ, List.find?_cons, ih (c + 1) (by omega)]
    cases hu : pool[(c + 1) % pool.length]? with
    | none => exact absurd hu (getElem?_mod_ne_none hn _)
    | some u =>
      rw [availB_eq hu, Nat.add_right_comm c 1 fuel]
      dsimp only
      cases u.avail <;> rfl

/-- `n` consecutive values cover every residue mod `n`: a scan over them that finds nothing rules out every residue -/
theorem find_cyclic (p : Nat → Bool) (n s : Nat) :
    (∃ t, (List.range' s n).find? (fun t => p (t % n)) = some t ∧ s ≤ t ∧ t < s + n ∧ p (t % n) = true ∧
      ∀ t', s ≤ t' → t' < t → p (t' % n) = false) ∨
    ((List.range' s n).find? (fun t => p (t % n)) = none ∧ ∀ i, i < n → p i = false) := by
  cases h : (List.range' s n).find? (fun t => p (t % n)) with
  | some t =>
    obtain ⟨h1, h2, h3⟩ := List.find?_range'_eq_some.1 h
    obtain ⟨h4, h5⟩ := List.mem_range'_1.1 h2
    exact Or.inl ⟨t, rfl, h4, h5, h1, fun t' a b => by simpa using h3 t' a b⟩
  | none =>
    refine Or.inr ⟨rfl, fun i hi => ?_⟩
    -- the residue `i` is hit inside the window
    have hno := List.find?_range'_eq_none.1 h
    have hc := Nat.div_add_mod s n
    have hr : s % n < n := Nat.mod_lt _ (by omega)
    by_cases hlt : s % n ≤ i
    · have := hno (n * (s / n) + i) (by omega) (by omega)
      rwa [Nat.mul_add_mod_self_left, Nat.mod_eq_of_lt hi, Bool.not_eq_eq_eq_not, Bool.not_true] at this
    · have := hno (n * (s / n) + (n + i)) (by omega) (by omega)
      rwa [Nat.mul_add_mod_self_left, Nat.add_mod_left, Nat.mod_eq_of_lt hi, Bool.not_eq_eq_eq_not, Bool.not_true] at this

theorem selRR_eq (pool : Pool) (c : Nat) (hc : c + pool.length < u32) :
    selRR pool c =
      match (List.range' (c + 1) pool.length).find? (fun t => availB pool (t % pool.length)) with
      | some t => (.sel (t % pool.length), t)
      | none => (.none, c + pool.length) := by
  unfold selRR
  split
  · rename_i h0; rw [h0]; rfl
  · exact rrGo_eq_find pool (by omega) _ _ hc

theorem selRR_cases (pool : Pool) (c : Nat) (hc : c + pool.length < u32) :
    (selRR pool c = (.none, c + pool.length) ∧ ∀ i, i < pool.length → availB pool i = false) ∨
    ∃ i c', selRR pool c = (.sel i, c') ∧ c < c' ∧ c' ≤ c + pool.length ∧ i = c' % pool.length ∧
      AvailAt pool i ∧ ∀ t, c < t → t < c' → availB pool (t % pool.length) = false := by
  rw [selRR_eq pool c hc]
  rcases find_cyclic (availB pool) pool.length (c + 1) with ⟨t, h, h1, h2, h3, h4⟩ | ⟨h, hno⟩
  · rw [h]; exact Or.inr ⟨_, t, rfl, h1, by omega, rfl, availB_true.1 h3, fun s hs => h4 s hs⟩
  · rw [h]; exact Or.inl ⟨rfl, hno⟩

theorem selRR_live {pool : Pool} {c : Nat} (hc : c + pool.length < u32) (ha : anyAvail pool = true) :
    (selRR pool c).1 ≠ .none := fun h0 => by
  obtain ⟨v, hv, hav⟩ := anyAvail_iff.1 ha
  obtain ⟨j, hj, hja⟩ := availAt_of_mem hv hav
  rcases selRR_cases pool c hc with ⟨_, hno⟩ | ⟨i, c', h, _⟩
  · exact nomatch (hno j hj).symm.trans (availB_true.2 hja)
  · cases (congrArg Prod.fst h).symm.trans h0

theorem selRR_some {pool : Pool} {c : Nat} (hc : c + pool.length < u32) (ha : anyAvail pool = true) :
    ∃ i c', selRR pool c = (.sel i, c') ∧ c < c' ∧ c' ≤ c + pool.length ∧ i = c' % pool.length ∧
      AvailAt pool i ∧ ∀ t, c < t → t < c' → availB pool (t % pool.length) = false :=
  (selRR_cases pool c hc).resolve_left fun h => selRR_live hc ha (congrArg Prod.fst h.1)

theorem wrrUsable_iff {ws : List Nat} {pool : Pool} {i : Nat} :
    wrrUsable ws pool i = true ↔ ∃ u w, pool[i]? = some u ∧ ws[i]? = some w ∧ u.avail = true ∧ 0 < w := by
  unfold wrrUsable
  cases pool[i]? <;> cases ws[i]? <;> simp
  exact And.comm

theorem wrrUsable_eff {ws : List Nat} {pool : Pool} {i : Nat} :
    wrrUsable (wrrEff ws pool) pool i = wrrUsable ws pool i := by
  unfold wrrUsable wrrEff
  cases hp : pool[i]? with
  | none => rfl
  | some u => rw [List.getElem?_take_of_lt (List.getElem?_eq_some_iff.1 hp).1]

theorem wrrScan_eq_find (ws : List Nat) (pool : Pool) (owner fuel k : Nat) :
    wrrScan ws pool owner fuel k =
      match (List.range' (owner + k) fuel).find? (fun t => wrrUsable ws pool (t % ws.length)) with
      | some t => .sel (t % ws.length)
      | none => .none := by
  fun_induction wrrScan ws pool owner fuel k
  case case1 => rfl
  case case2 h => rw [List.range'_succ, List.find?_cons, h]
  case case3 h ih => rw [List.range'_succ, List.find?_cons, Bool.eq_false_iff.2 h, ih]; rfl

theorem wrrScan_turn (ws : List Nat) (pool : Pool) (owner : Nat) :
    (∃ k, k < ws.length ∧ wrrScan ws pool owner ws.length 0 = .sel ((owner + k) % ws.length) ∧
      wrrUsable ws pool ((owner + k) % ws.length) = true ∧ ∀ j, j < k → wrrUsable ws pool ((owner + j) % ws.length) = false) ∨
    (wrrScan ws pool owner ws.length 0 = .none ∧ ∀ i, wrrUsable ws pool i = false) := by
  rw [wrrScan_eq_find]
  rcases find_cyclic (wrrUsable ws pool) ws.length owner with ⟨t, h, h1, h2, h3, h4⟩ | ⟨h, hno⟩
  · obtain ⟨k, rfl⟩ := Nat.exists_eq_add_of_le h1
    exact Or.inl ⟨k, by omega, by rw [Nat.add_zero, h], h3, fun j hj => h4 _ (Nat.le_add_right ..) (by omega)⟩
  · refine Or.inr ⟨by rw [Nat.add_zero, h], fun i => ?_⟩
    -- beyond the weight list nothing is usable
    by_cases hi : i < ws.length
    · exact hno i hi
    · unfold wrrUsable; rw [List.getElem?_eq_none_iff.2 (Nat.le_of_not_lt hi)]; cases pool[i]? <;> rfl

theorem selWRR_cases (ws : List Nat) (pool : Pool) (c : Nat) :
    (selWRR ws pool c).1 = .none ∨
    ∃ i, (selWRR ws pool c).1 = .sel i ∧ AvailAt pool i ∧ (2 ≤ ws.length → ∃ w, ws[i]? = some w ∧ 0 < w) := by
  fun_cases selWRR ws pool c
  case case1 => exact Or.inl rfl
  case case2 h2 =>
    exact (selFirst_cases pool).elim (fun h => Or.inl h.1) (fun ⟨i, h, hi, _⟩ => Or.inr ⟨i, h, hi, fun h => absurd h (Nat.not_le.2 h2)⟩)
  case case3 => exact Or.inl rfl
  case case4 =>
    rcases wrrScan_turn (wrrEff ws pool) pool _ with ⟨k, _, h, hu, _⟩ | ⟨h, _⟩
    · obtain ⟨u, w, hu, hw, hav, hpos⟩ := wrrUsable_iff.1 (wrrUsable_eff.symm.trans hu)
      exact Or.inr ⟨_, h, ⟨u, hu, hav⟩, fun _ => ⟨w, hw, hpos⟩⟩
    · exact Or.inl h

theorem selWRR_good (ws : List Nat) (pool : Pool) (c : Nat) : Good pool (selWRR ws pool c).1 :=
  (selWRR_cases ws pool c).imp id (fun ⟨i, h, hi, _⟩ => Or.inr ⟨i, h, hi⟩)

theorem get_le_sum : ∀ {l : List Nat} {i w : Nat}, l[i]? = some w → w ≤ l.sum
  | _ :: _, 0, _, h => by cases h; exact Nat.le_add_right ..
  | x :: l, i + 1, w, h => Nat.le_trans (get_le_sum (l := l) (i := i) h) (Nat.le_add_left _ x)

theorem selWRR_live {ws : List Nat} {pool : Pool} {c : Nat}
    (hl : ws.length < 2 ∨ ∃ i, wrrUsable (wrrEff ws pool) pool i = true) (ha : anyAvail pool = true) :
    (selWRR ws pool c).1 ≠ .none := by
  obtain ⟨v, hv, _⟩ := anyAvail_iff.1 ha
  fun_cases selWRR ws pool c
  case case1 h0 => exact absurd h0 (Nat.ne_of_gt (List.length_pos_of_mem hv))
  case case2 => exact selFirst_live ha
  case case3 h2 hs =>
    obtain ⟨i, hi⟩ := hl.resolve_left h2
    obtain ⟨_, x, _, hx, _, hpos⟩ := wrrUsable_iff.1 hi
    exact absurd hs (Nat.ne_of_gt (Nat.lt_of_lt_of_le hpos (get_le_sum hx)))
  case case4 h2 _ =>
    obtain ⟨i, hi⟩ := hl.resolve_left h2
    rcases wrrScan_turn (wrrEff ws pool) pool _ with ⟨_, _, h, _⟩ | ⟨_, hno⟩
    · exact fun e => nomatch h.symm.trans e
    · rw [hno i] at hi; cases hi

theorem rndGo_char (pool rest : Pool) (i : Nat) (best : Res) (count : Nat) (ds : List Nat) (hd : pool.drop i = rest) :
    ((rndGo rest i best count ds).1 = .starved ∧ ds.length < rest.length) ∨
    ((rndGo rest i best count ds).1 = best ∧ (count = 0 → ∀ v ∈ rest, v.avail = false)) ∨
    ∃ j, (rndGo rest i best count ds).1 = .sel j ∧ AvailAt pool j := by
  fun_induction rndGo rest i best count ds
  case case1 => exact Or.inr (Or.inl ⟨rfl, fun _ _ h => nomatch h⟩)
  case case2 => exact Or.inl ⟨rfl, Nat.succ_pos _⟩
  case case3 u rest i best count hu d ds hd' ih =>
    -- `u` replaces `best`
    rcases ih (drop_cons hd).2 with h | h | h
    · exact Or.inl ⟨h.1, Nat.succ_lt_succ h.2⟩
    · exact Or.inr (Or.inr ⟨i, h.1, u, (drop_cons hd).1, hu⟩)
    · exact Or.inr (Or.inr h)
  case case4 u rest i best count hu d ds hd' ih =>
    -- `best` stays; it was not the first choice (`d % 1 = 0`)
    rcases ih (drop_cons hd).2 with h | h | h
    · exact Or.inl ⟨h.1, Nat.succ_lt_succ h.2⟩
    · exact Or.inr (Or.inl ⟨h.1, fun h0 => absurd (by rw [h0]; exact Nat.mod_one d) hd'⟩)
    · exact Or.inr (Or.inr h)
  case case5 u rest i best count ds hu ih =>
    rcases ih (drop_cons hd).2 with h | h | h
    · exact Or.inl ⟨h.1, Nat.lt_succ_of_lt h.2⟩
    · exact Or.inr (Or.inl ⟨h.1, fun h0 => List.forall_mem_cons.2 ⟨Bool.eq_false_iff.2 hu, h.2 h0⟩⟩)
    · exact Or.inr (Or.inr h)

theorem selRandom_cases (pool : Pool) (ds : List Nat) :
    ((selRandom pool ds).1 = .starved ∧ ds.length < pool.length) ∨
    ((selRandom pool ds).1 = .none ∧ ∀ v ∈ pool, v.avail = false) ∨
    ∃ j, (selRandom pool ds).1 = .sel j ∧ AvailAt pool j :=
  (rndGo_char pool pool 0 .none 0 ds rfl).imp_right (Or.imp_left fun h => ⟨h.1, h.2 rfl⟩)

theorem selRandom_live {pool : Pool} {ds : List Nat} (ha : anyAvail pool = true) : (selRandom pool ds).1 ≠ .none := fun h0 => by
  obtain ⟨v, hv, hav⟩ := anyAvail_iff.1 ha
  rcases selRandom_cases pool ds with h | h | ⟨k, h, _⟩
  · cases h.1.symm.trans h0
  · rw [h.2 v hv] at hav; cases hav
  · cases h.symm.trans h0

theorem selRandom_good (pool : Pool) (ds : List Nat) : Good pool (selRandom pool ds).1 := by
  rcases selRandom_cases pool ds with h | h | h
  · exact Or.inr (Or.inl h.1)
  · exact Or.inl h.1
  · exact Or.inr (Or.inr h)

theorem lc_cases (l : Nat) (least : Option Nat) (count : Nat) :
    (lcLeast l least = some l ∧ lcCount l least count = 0 ∧ ∀ m, least = some m → l < m) ∨
    (∃ m, least = some m ∧ m ≤ l ∧ lcLeast l least = some m ∧ lcCount l least count = count) := by
  unfold lcLeast lcCount
  cases least with
  | none => exact Or.inl ⟨rfl, rfl, nofun⟩
  | some m =>
    by_cases h : l < m
    · exact Or.inl ⟨by simp [lcReset, h], by simp [lcReset, h], fun _ e => Option.some.inj e ▸ h⟩
    · exact Or.inr ⟨m, rfl, Nat.le_of_not_lt h, by simp [lcReset, h], by simp [lcReset, h]⟩

theorem le_of_lcLeast {l : Nat} {least : Option Nat} (h : lcLeast l least = some l) (m : Nat) (hm : least = some m) : l ≤ m := by
  rcases lc_cases l least 0 with ⟨_, _, hlt⟩ | ⟨m', hm', _, hL, _⟩
  · exact Nat.le_of_lt (hlt m hm)
  · exact Nat.le_of_eq (Option.some.inj ((h.symm.trans hL).trans (hm'.symm.trans hm)))

/-- what the loop of least_conn over `rest` returns when entered with `best`, the minimum so far `least` and `n` draws -/
def LcOut (pool rest : Pool) (best : Res) (least : Option Nat) (n : Nat) (r : Res) : Prop :=
  (r = .starved ∧ n < rest.length) ∨
  (r = best ∧ ∀ v ∈ rest, v.avail = true → ∃ m, least = some m ∧ m ≤ v.load) ∨
  ∃ j u, r = .sel j ∧ pool[j]? = some u ∧ u.avail = true ∧
    (∀ m, least = some m → u.load ≤ m) ∧ ∀ v ∈ rest, v.avail = true → u.load ≤ v.load

theorem lcOut_take {pool rest : Pool} {u : Up} {i n n' : Nat} {best r : Res} {least : Option Nat}
    (hi : pool[i]? = some u) (hu : u.avail = true) (hle : ∀ m, least = some m → u.load ≤ m) (hn : n ≤ n' + 1)
    (h : LcOut pool rest (.sel i) (some u.load) n' r) : LcOut pool (u :: rest) best least n r := by
  rcases h with h | h | ⟨j, w, h1, h2, h3, h4, h5⟩
  · exact Or.inl ⟨h.1, Nat.lt_of_le_of_lt hn (Nat.succ_lt_succ h.2)⟩
  · refine Or.inr (Or.inr ⟨i, u, h.1, hi, hu, hle, List.forall_mem_cons.2 ⟨fun _ => Nat.le_refl _, fun v hv ha => ?_⟩⟩)
    obtain ⟨m, hm, hmv⟩ := h.2 v hv ha
    exact Option.some.inj hm ▸ hmv
  · have hwu : w.load ≤ u.load := h4 _ rfl
    exact Or.inr (Or.inr ⟨j, w, h1, h2, h3, fun m hm => Nat.le_trans hwu (hle m hm), List.forall_mem_cons.2 ⟨fun _ => hwu, h5⟩⟩)

theorem lcOut_pass {pool rest : Pool} {u : Up} {n n' : Nat} {best r : Res} {least : Option Nat}
    (hu : u.avail = true → ∃ m, least = some m ∧ m ≤ u.load) (hn : n ≤ n' + 1) (h : LcOut pool rest best least n' r) :
    LcOut pool (u :: rest) best least n r := by
  rcases h with h | h | ⟨j, w, h1, h2, h3, h4, h5⟩
  · exact Or.inl ⟨h.1, Nat.lt_of_le_of_lt hn (Nat.succ_lt_succ h.2)⟩
  · exact Or.inr (Or.inl ⟨h.1, List.forall_mem_cons.2 ⟨hu, h.2⟩⟩)
  · refine Or.inr (Or.inr ⟨j, w, h1, h2, h3, h4, List.forall_mem_cons.2 ⟨fun ha => ?_, h5⟩⟩)
    obtain ⟨m, hm, hmv⟩ := hu ha
    exact Nat.le_trans (h4 m hm) hmv

theorem lcGo_char (pool rest : Pool) (i : Nat) (best : Res) (count : Nat) (least : Option Nat) (ds : List Nat)
    (hd : pool.drop i = rest) : LcOut pool rest best least ds.length (lcGo rest i best count least ds).1 := by
  fun_induction lcGo rest i best count least ds
  case case1 => exact Or.inr (Or.inl ⟨rfl, nofun⟩)
  case case2 u rest i best count least ds hu hL _ ih =>
    -- `u` is the first with the minimum so far: taken without a draw
    exact lcOut_take (drop_cons hd).1 hu (le_of_lcLeast hL) (Nat.le_succ _) (hL ▸ ih (drop_cons hd).2)
  case case3 => exact Or.inl ⟨rfl, Nat.succ_pos _⟩
  case case4 u rest i best count least hu hL _ d ds _ ih =>
    exact lcOut_take (drop_cons hd).1 hu (le_of_lcLeast hL) (Nat.le_refl _) (hL ▸ ih (drop_cons hd).2)
  case case5 u rest i best count least hu _ hc d ds _ ih =>
    -- a tie with the minimum, and the draw keeps `best`
    obtain ⟨m, rfl, hle, hL, _⟩ := (lc_cases u.load least count).resolve_left (fun h => hc (by rw [h.2.1]))
    exact lcOut_pass (fun _ => ⟨m, rfl, hle⟩) (Nat.le_refl _) ((congrArg (LcOut pool rest best · _ _) hL).mp (ih (drop_cons hd).2))
  case case6 u rest i best count least ds hu hL ih =>
    obtain ⟨m, rfl, hle, hL', _⟩ := (lc_cases u.load least count).resolve_left (fun h => hL h.1)
    exact lcOut_pass (fun _ => ⟨m, rfl, hle⟩) (Nat.le_succ _) ((congrArg (LcOut pool rest best · _ _) hL').mp (ih (drop_cons hd).2))
  case case7 u rest i best count least ds hu ih =>
    exact lcOut_pass (fun h => absurd h hu) (Nat.le_succ _) (ih (drop_cons hd).2)

theorem selLeastConn_cases (pool : Pool) (ds : List Nat) : LcOut pool pool .none none ds.length (selLeastConn pool ds).1 :=
  lcGo_char pool pool 0 .none 0 none ds rfl

theorem selLeastConn_live {pool : Pool} {ds : List Nat} (ha : anyAvail pool = true) : (selLeastConn pool ds).1 ≠ .none := fun h0 => by
  obtain ⟨v, hv, hav⟩ := anyAvail_iff.1 ha
  rcases selLeastConn_cases pool ds with h | h | ⟨k, u, h, _⟩
  · cases h.1.symm.trans h0
  · obtain ⟨m, hm, _⟩ := h.2 v hv hav; cases hm
  · cases h.symm.trans h0

theorem selLeastConn_good (pool : Pool) (ds : List Nat) : Good pool (selLeastConn pool ds).1 := by
  rcases selLeastConn_cases pool ds with h | h | ⟨j, u, h1, h2, h3, _⟩
  · exact Or.inr (Or.inl h.1)
  · exact Or.inl h.1
  · exact Or.inr (Or.inr ⟨j, h1, u, h2, h3⟩)

theorem intn_lt {n : Nat} (hn : 0 < n) {ds : List Nat} {j : Nat} {ds' : List Nat} (h : intn n ds = some (j, ds')) : j < n := by
  fun_induction intn n ds
  case case1 => cases h
  case case2 ih => exact ih h
  case case3 => cases h; exact Nat.mod_lt _ hn

theorem numAvail_cons (u : Up) (rest : Pool) : numAvail (u :: rest) = (if u.avail then 1 else 0) + numAvail rest := by
  unfold numAvail
  rw [List.filter_cons]
  cases u.avail <;> simp [Nat.add_comm]

theorem nodup_set {α : Type} : ∀ (l : List α) (j : Nat) (a : α), l.Nodup → a ∉ l → (l.set j a).Nodup
  | [], _, _, h, _ => h
  | x :: xs, 0, a, h, ha => by
    rw [List.set_cons_zero, List.nodup_cons] at *
    exact ⟨fun hm => ha (List.mem_cons_of_mem _ hm), h.2⟩
  | x :: xs, j + 1, a, h, ha => by
    rw [List.set_cons_succ, List.nodup_cons] at *
    refine ⟨fun hm => ?_, nodup_set xs j a h.2 (fun hm => ha (List.mem_cons_of_mem _ hm))⟩
    rcases List.mem_or_eq_of_mem_set hm with hm | hm
    · exact h.1 hm
    · exact ha (hm ▸ List.mem_cons_self ..)

theorem fresh_pos {ch : List Cand} {i : Nat} (hb : ∀ c ∈ ch, c.1 < i) : i ∉ ch.map Prod.fst := fun hm =>
  let ⟨c, hc, hce⟩ := List.mem_map.1 hm
  Nat.lt_irrefl i (hce ▸ hb c hc)

def CandOK (pool : Pool) (c : Cand) : Prop := ∃ u, pool[c.1]? = some u ∧ u.avail = true ∧ u.load = c.2

theorem rcGo_inv (k : Nat) (pool rest : Pool) (i : Nat) (ch : List Cand) (seen : Nat) (ds : List Nat)
    (out : List Cand) (ds' : List Nat) (h : rcGo k rest i ch seen ds = some (out, ds')) (hd : pool.drop i = rest)
    (hb : ∀ c ∈ ch, c.1 < i) (hok : ∀ c ∈ ch, CandOK pool c) (hnd : (ch.map Prod.fst).Nodup) (hlen : ch.length = min k seen) :
    (out.map Prod.fst).Nodup ∧ out.length = min k (seen + numAvail rest) ∧ ∀ c ∈ out, CandOK pool c := by
  fun_induction rcGo k rest i ch seen ds
  case case1 => cases h; exact ⟨hnd, hlen, hok⟩
  case case3 => cases h
  case case6 u rest i ch seen ds hu ih =>
    rw [numAvail_cons, if_neg hu, Nat.zero_add]
    exact ih h (drop_cons hd).2 (fun c hc => Nat.lt_succ_of_lt (hb c hc)) hok hnd hlen
  case case2 u rest i ch seen ds hu hk ih =>
    rw [numAvail_cons, if_pos hu, ← Nat.add_assoc]
    exact ih h (drop_cons hd).2
      (List.forall_mem_append.2 ⟨fun c hc => Nat.lt_succ_of_lt (hb c hc), List.forall_mem_singleton.2 (Nat.lt_succ_self i)⟩)
      (List.forall_mem_append.2 ⟨hok, List.forall_mem_singleton.2 ⟨u, (drop_cons hd).1, hu, rfl⟩⟩)
      (by rw [List.map_append, List.nodup_append]
          exact ⟨hnd, by simp, fun a ha b hb' e => fresh_pos hb (by simp at hb'; rw [e, hb'] at ha; exact ha)⟩)
      (by rw [List.length_append, List.length_singleton]; omega)
  case case4 u rest i ch seen ds hu hk j ds'' _ hj ih =>
    rw [numAvail_cons, if_pos hu, ← Nat.add_assoc]
    exact ih h (drop_cons hd).2
      (fun c hc => (List.mem_or_eq_of_mem_set hc).elim (fun h => Nat.lt_succ_of_lt (hb c h)) (fun e => e ▸ Nat.lt_succ_self i))
      (fun c hc => (List.mem_or_eq_of_mem_set hc).elim (hok c) (fun e => e ▸ ⟨u, (drop_cons hd).1, hu, rfl⟩))
      (by rw [List.map_set]; exact nodup_set _ _ _ hnd (fresh_pos hb)) (by rw [List.length_set]; omega)
  case case5 u rest i ch seen ds hu hk j ds'' _ hj ih =>
    rw [numAvail_cons, if_pos hu, ← Nat.add_assoc]
    exact ih h (drop_cons hd).2 (fun c hc => Nat.lt_succ_of_lt (hb c hc)) hok hnd (by omega)

theorem rcGo_start {k : Nat} {pool : Pool} {ds ds' : List Nat} {out : List Cand} (h : rcGo k pool 0 [] 0 ds = some (out, ds')) :
    (out.map Prod.fst).Nodup ∧ out.length = min k (numAvail pool) ∧ ∀ c ∈ out, CandOK pool c :=
  (Nat.zero_add (numAvail pool)) ▸ rcGo_inv k pool pool 0 [] 0 ds out ds' h rfl nofun nofun List.nodup_nil (Nat.min_eq_right (Nat.zero_le _)).symm
def MinCand (ch : List Cand) (i : Nat) : Prop := ∃ l, (i, l) ∈ ch ∧ ∀ c ∈ ch, l ≤ c.2

def LrInv (done : List Cand) (best : List Nat) (br : Option Nat) : Prop :=
  (done = [] ∧ best = [] ∧ br = none) ∨
  (∃ m, br = some m ∧ best ≠ [] ∧ (∀ i ∈ best, (i, m) ∈ done) ∧ ∀ c ∈ done, m ≤ c.2)

def LrPost (all : List Cand) : Sum Nat (List Nat) → Prop
  | .inl i => MinCand all i
  | .inr b => (all = [] ∧ b = []) ∨ (b ≠ [] ∧ ∀ i ∈ b, MinCand all i)

theorem lrInv_snoc {done : List Cand} {best : List Nat} {m i l : Nat} (hne : best ≠ [])
    (hmem : ∀ x ∈ best, (x, m) ∈ done ++ [(i, l)]) (hml : m ≤ l) (hmin : ∀ c ∈ done, m ≤ c.2) :
    LrInv (done ++ [(i, l)]) best (some m) :=
  Or.inr ⟨m, rfl, hne, hmem, List.forall_mem_append.2 ⟨hmin, List.forall_mem_singleton.2 hml⟩⟩

theorem lrGo_spec (rest done : List Cand) (best : List Nat) (br : Option Nat) (hinv : LrInv done best br) :
    LrPost (done ++ rest) (lrGo rest best br) := by
  fun_induction lrGo rest best br generalizing done
  case case1 =>
    rw [List.append_nil]
    rcases hinv with ⟨h1, h2, _⟩ | ⟨m, _, hne, hmem, hmin⟩
    · exact Or.inl ⟨h1, h2⟩
    · exact Or.inr ⟨hne, fun i hi => ⟨m, hmem i hi, hmin⟩⟩
  case case2 i rest best br => exact ⟨0, List.mem_append_right _ (List.mem_cons_self ..), fun _ _ => Nat.zero_le _⟩
  case case3 i l rest best br _ hr ih =>
    -- a new minimum (or the first candidate)
    rw [List.append_cons]
    refine ih _ (lrInv_snoc (List.cons_ne_nil _ _) (fun x hx => by simp at hx; subst hx; simp) (Nat.le_refl _) ?_)
    rcases hinv with ⟨h1, _, _⟩ | ⟨m, rfl, _, _, hmin⟩
    · subst h1; nofun
    · exact fun c hc => Nat.le_trans (Nat.le_of_lt (of_decide_eq_true hr)) (hmin c hc)
  case case4 i l rest best _ _ ih =>
    -- a tie with the minimum
    obtain ⟨_, _, h⟩ | ⟨m, hm, _, hmem, hmin⟩ := hinv
    · cases h
    · cases hm
      rw [List.append_cons]
      exact ih _ (lrInv_snoc (by simp) (fun x hx => (List.mem_append.1 hx).elim
        (fun h => List.mem_append_left _ (hmem x h)) (fun h => by simp at h; subst h; simp)) (Nat.le_refl _) hmin)
  case case5 i l rest best br _ hr hbr ih =>
    obtain ⟨_, _, h⟩ | ⟨m, rfl, hne, hmem, hmin⟩ := hinv
    · subst h; exact absurd rfl hr
    · rw [List.append_cons]
      exact ih _ (lrInv_snoc hne (fun x hx => List.mem_append_left _ (hmem x hx))
        (Nat.le_of_not_lt (fun h => hr (decide_eq_true h))) hmin)

theorem lrPick_cases (best : List Nat) (ds : List Nat) :
    (best = [] ∧ (lrPick best ds).1 = .none) ∨ (lrPick best ds).1 = .starved ∨ ∃ i ∈ best, (lrPick best ds).1 = .sel i := by
  fun_cases lrPick best ds
  case case1 => exact Or.inl ⟨rfl, rfl⟩
  case case2 => exact Or.inr (Or.inr ⟨_, List.mem_cons_self .., rfl⟩)
  case case3 hi _ _ => exact Or.inr (Or.inl (by rw [hi]))
  case case4 j ds' i hi hx _ _ => exact Or.inr (Or.inr ⟨i, List.mem_of_getElem? hx, by simp only [hi, hx]⟩)
  case case5 j ds' hi hx hne _ =>
    exact absurd (intn_lt (List.length_pos_iff.2 hne) hi) (Nat.not_lt.2 (List.getElem?_eq_none_iff.1 hx))

theorem leastRequests_cases (ch : List Cand) (ds : List Nat) :
    (ch = [] ∧ (leastRequests ch ds).1 = .none) ∨ (leastRequests ch ds).1 = .starved ∨
    ∃ i, (leastRequests ch ds).1 = .sel i ∧ MinCand ch i := by
  have hs : LrPost ch (lrGo ch [] none) := lrGo_spec ch [] [] none (Or.inl ⟨rfl, rfl, rfl⟩)
  fun_cases leastRequests ch ds
  case case1 h0 => exact Or.inl ⟨List.length_eq_zero_iff.1 h0, rfl⟩
  case case2 i hg => rw [hg] at hs; exact Or.inr (Or.inr ⟨i, rfl, hs⟩)
  case case3 h0 best hg =>
    rw [hg] at hs
    rcases hs with ⟨h1, _⟩ | ⟨hne, hall⟩
    · exact absurd (congrArg List.length h1) h0
    · rcases lrPick_cases best ds with ⟨h1, _⟩ | h | ⟨i, hi, h⟩
      · exact absurd h1 hne
      · exact Or.inr (Or.inl h)
      · exact Or.inr (Or.inr ⟨i, h, hall i hi⟩)

/-- what `random_choose` does: it fills a reservoir with `min(k, |pool|, #available)` distinct
    available upstreams and returns a least loaded one of them — nil if the reservoir is empty -/
theorem selRandomChoose_cases (k : Nat) (pool : Pool) (ds : List Nat) :
    (selRandomChoose k pool ds).1 = .starved ∨
    ∃ ch : List Cand, (∀ c ∈ ch, CandOK pool c) ∧ (ch.map Prod.fst).Nodup ∧
      ch.length = min (min k pool.length) (numAvail pool) ∧
      ((ch = [] ∧ (selRandomChoose k pool ds).1 = .none) ∨ ∃ i, (selRandomChoose k pool ds).1 = .sel i ∧ MinCand ch i) := by
  fun_cases selRandomChoose k pool ds
  case case1 => exact Or.inl rfl
  case case2 ch ds' hrc =>
    obtain ⟨h1, h2, hok⟩ := rcGo_start hrc
    rcases leastRequests_cases ch ds' with h | h | h
    · exact Or.inr ⟨ch, hok, h1, h2, Or.inl h⟩
    · exact Or.inl h
    · exact Or.inr ⟨ch, hok, h1, h2, Or.inr h⟩

theorem selRandomChoose_good (k : Nat) (pool : Pool) (ds : List Nat) : Good pool (selRandomChoose k pool ds).1 := by
  rcases selRandomChoose_cases k pool ds with h | ⟨ch, hok, _, _, h | ⟨i, h, l, hmem, _⟩⟩
  · exact Or.inr (Or.inl h)
  · exact Or.inl h.2
  · obtain ⟨u, hu, hav, _⟩ := hok _ hmem
    exact Or.inr (Or.inr ⟨i, h, u, hu, hav⟩)

theorem numAvail_pos {pool : Pool} (h : anyAvail pool = true) : 0 < numAvail pool :=
  let ⟨_, hv, ha⟩ := anyAvail_iff.1 h
  List.length_pos_iff.2 (List.ne_nil_of_mem (List.mem_filter.2 ⟨hv, ha⟩))

theorem selRandomChoose_live {k : Nat} {pool : Pool} {ds : List Nat} (hk : 1 ≤ k) (h : anyAvail pool = true) :
    (selRandomChoose k pool ds).1 ≠ .none := by
  have hpos := numAvail_pos h
  have hlen : 0 < pool.length := let ⟨_, hv, _⟩ := anyAvail_iff.1 h; List.length_pos_of_mem hv
  rcases selRandomChoose_cases k pool ds with h | ⟨ch, _, _, hl, ⟨h0, _⟩ | ⟨i, h, _⟩⟩
  · rw [h]; nofun
  · rw [h0] at hl; simp only [List.length_nil] at hl; omega
  · rw [h]; nofun

/-- the code's loop over positions and the specification's loop over records move together -/
theorem hashGo_hrw (pool rest : Pool) (i hi : Nat) (best : Res) (bu : Option Up) (hd : pool.drop i = rest) :
    (hashGo rest i hi best = best ∧ hrw rest hi bu = bu) ∨
    ∃ j u, hashGo rest i hi best = .sel j ∧ hrw rest hi bu = some u ∧ pool[j]? = some u := by
  fun_induction hashGo rest i hi best generalizing bu
  case case1 => exact Or.inl ⟨rfl, rfl⟩
  case case2 u rest i hi best h ih =>
    rw [hrw, if_pos h]
    exact (ih (some u) (drop_cons hd).2).elim (fun h => Or.inr ⟨i, u, h.1, h.2, (drop_cons hd).1⟩) Or.inr
  case case3 u rest i hi best h ih =>
    rw [hrw, if_neg h]
    exact ih bu (drop_cons hd).2

/-- the result of rendezvous hashing, as an upstream record -/
theorem hash_result (pool : Pool) :
    (selHash pool = .none ∧ hashPick pool = none) ∨
    (∃ i u, selHash pool = .sel i ∧ hashPick pool = some u ∧ pool[i]? = some u) :=
  hashGo_hrw pool pool 0 0 .none none rfl

/-- the occurrence `u` between `A` and `B` wins the rendezvous started with `hi` -/
def Win (hi : Nat) (A : Pool) (u : Up) (B : Pool) : Prop :=
  u.avail = true ∧ hi < u.h ∧ (∀ a ∈ A, a.avail = true → a.h < u.h) ∧ (∀ b ∈ B, b.avail = true → b.h ≤ u.h)

theorem hrw_step (p : Up) (P : Pool) (hi : Nat) (best : Option Up) :
    (p.avail = true ∧ hi < p.h ∧ hrw (p :: P) hi best = hrw P p.h (some p)) ∨
    ((p.avail = true → p.h ≤ hi) ∧ hrw (p :: P) hi best = hrw P hi best) := by
  rw [hrw]
  split
  · rename_i h; simp at h; exact Or.inl ⟨h.1, h.2, rfl⟩
  · rename_i h; simp at h; exact Or.inr ⟨fun ha => Nat.le_of_not_lt (fun hl => absurd (h ha) (Nat.not_le.2 hl)), rfl⟩

theorem hrw_keep : ∀ (B : Pool) (hi : Nat) (best : Option Up), (∀ b ∈ B, b.avail = true → b.h ≤ hi) → hrw B hi best = best
  | [], _, _, _ => rfl
  | b :: B, hi, best, h => by
    rcases hrw_step b B hi best with ⟨h1, h2, _⟩ | ⟨_, h2⟩
    · exact absurd (h b (List.mem_cons_self ..) h1) (Nat.not_le.2 h2)
    · rw [h2]; exact hrw_keep B hi best (fun x hx => h x (List.mem_cons_of_mem _ hx))

theorem hrw_of_win : ∀ (A : Pool) (u : Up) (B : Pool) (hi : Nat) (best : Option Up),
    Win hi A u B → hrw (A ++ u :: B) hi best = some u
  | [], u, B, hi, best, ⟨h1, h2, _, h4⟩ => by
    rcases hrw_step u B hi best with ⟨_, _, h⟩ | ⟨h, _⟩
    · exact h.trans (hrw_keep B u.h (some u) h4)
    · exact absurd (h h1) (Nat.not_le.2 h2)
  | a :: A, u, B, hi, best, ⟨h1, h2, h3, h4⟩ => by
    have h3' := fun x hx => h3 x (List.mem_cons_of_mem _ hx)
    rcases hrw_step a (A ++ u :: B) hi best with ⟨ha, _, h⟩ | ⟨_, h⟩
    · exact h.trans (hrw_of_win A u B a.h (some a) ⟨h1, h3 a (List.mem_cons_self ..) ha, h3', h4⟩)
    · exact h.trans (hrw_of_win A u B hi best ⟨h1, h2, h3', h4⟩)

/-- no available upstream beats `hi` (`hrw_keep`), or some occurrence wins (`hrw_of_win`) -/
theorem win_or_keep : ∀ (P : Pool) (hi : Nat),
    (∀ p ∈ P, p.avail = true → p.h ≤ hi) ∨ ∃ A u B, P = A ++ u :: B ∧ Win hi A u B
  | [], _ => Or.inl nofun
  | p :: P, hi => by
    by_cases hp : p.avail = true ∧ hi < p.h
    · rcases win_or_keep P p.h with h | ⟨A, u, B, rfl, h2, h3, h4, h5⟩
      · exact Or.inr ⟨[], p, P, rfl, hp.1, hp.2, nofun, h⟩
      · exact Or.inr ⟨p :: A, u, B, rfl, h2, Nat.lt_trans hp.2 h3, List.forall_mem_cons.2 ⟨fun _ => h3, h4⟩, h5⟩
    · have hple : p.avail = true → p.h ≤ hi := fun ha => Nat.le_of_not_lt (fun hl => hp ⟨ha, hl⟩)
      rcases win_or_keep P hi with h | ⟨A, u, B, rfl, h2, h3, h4, h5⟩
      · exact Or.inl (List.forall_mem_cons.2 ⟨hple, h⟩)
      · exact Or.inr ⟨p :: A, u, B, rfl, h2, h3, List.forall_mem_cons.2 ⟨fun hav => Nat.lt_of_le_of_lt (hple hav) h3, h4⟩, h5⟩

theorem hashPick_iff (P : Pool) (u : Up) : hashPick P = some u ↔ ∃ A B, P = A ++ u :: B ∧ Win 0 A u B := by
  refine ⟨fun h => ?_, fun ⟨A, B, h1, h2⟩ => h1 ▸ hrw_of_win A u B 0 none h2⟩
  rcases win_or_keep P 0 with hk | ⟨A, v, B, rfl, hw⟩
  · exact nomatch (hrw_keep P 0 none hk).symm.trans h
  · cases (hrw_of_win A v B 0 none hw).symm.trans h
    exact ⟨A, B, rfl, hw⟩

theorem hashPick_max {pool : Pool} {u : Up} (h : hashPick pool = some u) :
    u ∈ pool ∧ u.avail = true ∧ ∀ p ∈ pool, p.avail = true → p.h ≤ u.h := by
  obtain ⟨A, B, rfl, h2, _, h4, h5⟩ := (hashPick_iff pool u).1 h
  refine ⟨List.mem_append_right _ (List.mem_cons_self ..), h2, fun p hp hav => ?_⟩
  rcases List.mem_append.1 hp with hp | hp
  · exact Nat.le_of_lt (h4 p hp hav)
  · exact List.forall_mem_cons.2 ⟨fun _ => Nat.le_refl _, h5⟩ p hp hav

theorem hashPick_none {P : Pool} (h : hashPick P = none) : ∀ p ∈ P, p.avail = true → p.h = 0 := by
  rcases win_or_keep P 0 with hk | ⟨A, v, B, rfl, hw⟩
  · exact fun p hp hav => Nat.le_zero.1 (hk p hp hav)
  · exact nomatch (hrw_of_win A v B 0 none hw).symm.trans h

theorem selHash_none {pool : Pool} (h : selHash pool = .none) : ∀ p ∈ pool, p.avail = true → p.h = 0 := by
  rcases hash_result pool with ⟨_, h2⟩ | ⟨j, u, h1, _⟩
  · exact hashPick_none h2
  · rw [h] at h1; cases h1

theorem selHash_live {pool : Pool} (hl : pool.any (fun u => u.avail && decide (0 < u.h)) = true) : selHash pool ≠ .none :=
  fun hnone => by
    obtain ⟨v, hv, h⟩ := List.any_eq_true.1 hl
    obtain ⟨hav, hh⟩ := Bool.and_eq_true_iff.1 h
    exact absurd (selHash_none hnone v hv hav) (Nat.ne_of_gt (of_decide_eq_true hh))

theorem selHash_good (pool : Pool) : Good pool (selHash pool) := by
  rcases hash_result pool with ⟨h, _⟩ | ⟨j, u, h, hp, hu⟩
  · exact Or.inl h
  · exact Or.inr (Or.inr ⟨j, h, u, hu, (hashPick_max hp).2.1⟩)

theorem hashGo_congr : ∀ (p q : Pool) (i hi : Nat) (best : Res),
    p.map (fun u => (u.avail, u.h)) = q.map (fun u => (u.avail, u.h)) → hashGo p i hi best = hashGo q i hi best
  | [], [], _, _, _, _ => rfl
  | [], _ :: _, _, _, _, h => nomatch h
  | _ :: _, [], _, _, _, h => nomatch h
  | u :: p, v :: q, i, hi, best, h => by
    rw [List.map_cons, List.map_cons, List.cons.injEq, Prod.mk.injEq] at h
    unfold hashGo
    rw [h.1.1, h.1.2, hashGo_congr p q _ _ _ h.2, hashGo_congr p q _ _ _ h.2]

theorem cookieRes_none {w : Bool} {r : Res} (h : cookieRes w r = .none) : r = .none := by
  cases r <;> first | exact h | (cases w <;> cases h)

theorem cookieRes_true (r : Res) : cookieRes true r = r := by cases r <;> rfl

/-- the cookie policy passes on what its fallback returned; without a ResponseWriter an upstream
    becomes the nil dereference of `selectNewHost` -/
theorem cookieRes_good {pool : Pool} {w : Bool} {fb : Policy} {c : Option Nat} {r : Res}
    (h : Good pool r ∨ (r = .panicNil ∧ nilSafe w fb = false)) :
    Good pool (cookieRes w r) ∨ (cookieRes w r = .panicNil ∧ nilSafe w (.cookie c fb) = false) := by
  cases w
  · refine h.elim (fun hg => ?_) (fun hp => Or.inr ⟨by rw [hp.1]; rfl, rfl⟩)
    rcases hg with h | h | ⟨i, h, _⟩ <;> rw [h]
    · exact Or.inl (Or.inl rfl)
    · exact Or.inl (Or.inr (Or.inl rfl))
    · exact Or.inr ⟨rfl, rfl⟩
  · rw [cookieRes_true]; exact h

/-- **what a policy term returns**: what its leaves return (`Good`), through any chain of
    fallbacks; the nil dereference only without a ResponseWriter on the way through a cookie policy -/
theorem select_good : ∀ (p : Policy) (w : Bool) (pool : Pool) (ds : List Nat),
    Good pool (select w p pool ds).res ∨ ((select w p pool ds).res = .panicNil ∧ nilSafe w p = false)
  | .first, _, pool, _ => Or.inl (selFirst_good pool)
  | .rr c, _, pool, _ => Or.inl (selRR_good pool c)
  | .wrr ws c, _, pool, _ => Or.inl (selWRR_good ws pool c)
  | .leastConn, _, pool, ds => Or.inl (selLeastConn_good pool ds)
  | .random, _, pool, ds => Or.inl (selRandom_good pool ds)
  | .randomChoose k, _, pool, ds => Or.inl (selRandomChoose_good k pool ds)
  | .hash, _, pool, _ => Or.inl (selHash_good pool)
  | .keyed true _, _, pool, _ => Or.inl (selHash_good pool)
  | .keyed false fb, w, pool, ds => select_good fb w pool ds
  | .cookie none fb, w, pool, ds => cookieRes_good (select_good fb w pool ds)
  | .cookie (some c) fb, w, pool, ds => by
    unfold select
    rcases cookieGo_cases c pool with ⟨h, _⟩ | ⟨i, u, h, hu, hav, _⟩ <;> rw [h]
    · exact cookieRes_good (select_good fb w pool ds)
    · exact Or.inl (Or.inr (Or.inr ⟨i, rfl, u, hu, hav⟩))

theorem select_safe (p : Policy) (w : Bool) (pool : Pool) (ds : List Nat) : Safe pool (select w p pool ds).res :=
  (select_good p w pool ds).elim good_safe (fun h _ hi => nomatch h.1.symm.trans hi)

/-- every draw is accepted by `Int31n(n)` for every `n ≤ L` (its `Int31()` value is not in the
    rejected top sliver, which is smaller than `n`) -/
def Accepted (L : Nat) (ds : List Nat) : Prop := ∀ d ∈ ds, int31 d + L ≤ 2147483648

theorem intn_accepted {n L : Nat} (hn : 0 < n) (hL : n ≤ L) {d : Nat} {ds : List Nat} (h : Accepted L (d :: ds)) :
    intn n (d :: ds) = some (int31 d % n, ds) := by
  have hd := h d (List.mem_cons_self ..)
  have hm : 2147483648 % n < n := Nat.mod_lt _ hn
  rw [intn, if_neg]
  unfold intnMax
  omega

theorem rcGo_draws (k L : Nat) (rest : Pool) (i : Nat) (ch : List Cand) (seen : Nat) (ds : List Nat)
    (ha : Accepted L ds) (hs : seen + rest.length ≤ L) (hl : rest.length ≤ ds.length) :
    ∃ out ds', rcGo k rest i ch seen ds = some (out, ds') ∧ Accepted L ds' ∧ ds.length ≤ ds'.length + rest.length := by
  fun_induction rcGo k rest i ch seen ds
  case case1 ch _ ds => exact ⟨ch, ds, rfl, ha, Nat.le_refl _⟩
  all_goals rw [List.length_cons] at hs hl ⊢
  case case3 u rest i ch seen ds _ _ hi =>
    -- `Intn` does not run out: there is a draw, and it is accepted
    cases ds with
    | nil => exact absurd hl (Nat.not_succ_le_zero _)
    | cons d ds => rw [intn_accepted (Nat.succ_pos _) (by omega) ha] at hi; cases hi
  case case2 ih | case6 ih =>
    obtain ⟨out, ds', h1, h2, h3⟩ := ih ha (by omega) (by omega)
    exact ⟨out, ds', h1, h2, by omega⟩
  case case4 u rest i ch seen ds _ _ j ds'' hi _ ih | case5 u rest i ch seen ds _ _ j ds'' hi _ ih =>
    cases ds with
    | nil => cases hi
    | cons d ds =>
      rw [intn_accepted (Nat.succ_pos _) (by omega) ha] at hi
      cases hi
      rw [List.length_cons] at hl ⊢
      obtain ⟨out, ds', h1, h2, h3⟩ := ih (fun x hx => ha x (List.mem_cons_of_mem _ hx)) (by omega) (by omega)
      exact ⟨out, ds', h1, h2, by omega⟩

theorem lrGo_length (rest : List Cand) (best : List Nat) (br : Option Nat) (b : List Nat)
    (h : lrGo rest best br = .inr b) : b.length ≤ best.length + rest.length := by
  fun_induction lrGo rest best br
  case case1 => cases h; exact Nat.le_refl _
  case case2 => cases h
  all_goals
    rename_i ih
    have := ih h
    simp only [List.length_cons, List.length_append, List.length_nil] at this ⊢
    omega

theorem lrPick_draws {L : Nat} (best : List Nat) (ds : List Nat) (hb : best.length ≤ L) (ha : Accepted L ds)
    (hd : ds ≠ []) : (lrPick best ds).1 ≠ .starved := by
  fun_cases lrPick best ds
  case case3 hi hne _ =>
    cases ds with
    | nil => exact absurd rfl hd
    | cons d ds => rw [intn_accepted (List.length_pos_iff.2 hne) hb ha] at hi; cases hi
  case case4 hi hx _ _ => simp only [hi, hx]; nofun
  case case5 hi hx _ _ => simp only [hi, hx]; nofun
  all_goals nofun

/-- is position `j` an available upstream carrying at least `l` requests? -/
def loadedAt (pool : Pool) (l : Nat) (j : Nat) : Bool :=
  match pool[j]? with
  | some v => v.avail && decide (l ≤ v.load)
  | none => false

theorem nilSafe_true : ∀ (p : Policy), nilSafe true p = true
  | .first | .rr _ | .wrr _ _ | .leastConn | .random | .randomChoose _ | .hash | .keyed true _ => rfl
  | .keyed false fb => nilSafe_true fb
  | .cookie _ fb => (Bool.true_and _).trans (nilSafe_true fb)

end CaddyModel.C08
