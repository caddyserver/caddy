/-
C08 — helper lemmas about the proxy loop around `Select`: the loop of one request as rules
(`Att`), what it guarantees, and the invariant of the handler (`Books`, `PInv`).
-/
import CaddyModel.C08.Lemmas

namespace CaddyModel.C08

theorem incAt_eq_modify : ∀ (ls : List Nat) (i : Nat), incAt ls i = ls.modify i (· + 1)
  | [], _ => (List.modify_nil ..).symm
  | _ :: _, 0 => rfl
  | _ :: ls, i + 1 => by rw [incAt, List.modify_succ_cons, incAt_eq_modify ls i]

theorem decAt_eq_modify : ∀ (ls : List Nat) (i : Nat), decAt ls i = ls.modify i (· - 1)
  | [], _ => (List.modify_nil ..).symm
  | _ :: _, 0 => rfl
  | _ :: ls, i + 1 => by rw [decAt, List.modify_succ_cons, decAt_eq_modify ls i]

theorem setNone_eq_set : ∀ (hs : List (Option Nat)) (k : Nat), setNone hs k = hs.set k none
  | [], _ => rfl
  | _ :: _, 0 => rfl
  | _ :: hs, k + 1 => by rw [setNone, List.set_cons_succ, setNone_eq_set hs k]

theorem dropFails_static {c : PCfg} (h : c.dyn = false) (held : List (Option Nat)) (fs : List Nat) :
    dropFails c held fs = fs := by simp [dropFails, h]

theorem incAt_get_zero {fs : List Nat} {i j : Nat} (h : (incAt fs i)[j]? = some 0) : j ≠ i ∧ fs[j]? = some 0 := by
  rw [incAt_eq_modify, List.getElem?_modify] at h
  by_cases hij : i = j
  · subst hij; cases hf : fs[i]? <;> simp [hf] at h
  · simp [hij] at h; exact ⟨fun e => hij e.symm, h⟩

theorem incAt_length : ∀ (ls : List Nat) (i : Nat), (incAt ls i).length = ls.length :=
  fun ls i => by rw [incAt_eq_modify, List.length_modify]

theorem decAt_length : ∀ (ls : List Nat) (i : Nat), (decAt ls i).length = ls.length :=
  fun ls i => by rw [decAt_eq_modify, List.length_modify]

theorem all_le_of_get {ls : List Nat} {m : Nat} (h : ∀ (j l : Nat), ls[j]? = some l → l ≤ m) : ∀ x ∈ ls, x ≤ m := by
  intro x hx
  obtain ⟨j, hj⟩ := List.getElem?_of_mem hx
  exact h j x hj

theorem get_le_of_all {ls : List Nat} {m : Nat} (h : ∀ x ∈ ls, x ≤ m) : ∀ (j l : Nat), ls[j]? = some l → l ≤ m :=
  fun _ l hl => h l (List.mem_of_getElem? hl)

theorem mkPool_get (c : PCfg) : ∀ (us : List PUp) (ls fs : List Nat) (i : Nat) (u : Up),
    (mkPool c us ls fs)[i]? = some u →
    ∃ pu l f, us[i]? = some pu ∧ ls[i]? = some l ∧ fs[i]? = some f ∧ u = ⟨pu.id, true, f, c.maxFails, none, l, effLimit c.m pu, 0⟩
  | [], _, _, _, _, h | _ :: _, [], _, _, _, h | _ :: _, _ :: _, [], _, _, h => nomatch h
  | pu :: _, l :: _, f :: _, 0, _, h => ⟨pu, l, f, rfl, rfl, rfl, (Option.some.inj h).symm⟩
  | _ :: us, _ :: ls, _ :: fs, i + 1, u, h => mkPool_get c us ls fs i u h

theorem mkPool_avail (c : PCfg) : ∀ (us : List PUp) (ls fs : List Nat) (u : Up), u ∈ mkPool c us ls fs →
    u.healthy = true ∧ u.cb = none ∧ u.maxFails = c.maxFails :=
  fun us ls fs u h => by
    obtain ⟨i, hi⟩ := List.getElem?_of_mem h
    obtain ⟨_, _, _, _, _, _, rfl⟩ := mkPool_get c us ls fs i u hi
    exact ⟨rfl, rfl, rfl⟩

theorem poolOf_get {c : PCfg} {s : PState} {i : Nat} {u : Up} (h : (poolOf c s)[i]? = some u) :
    ∃ pu l f, c.ups[i]? = some pu ∧ s.loads[i]? = some l ∧ s.fails[i]? = some f ∧
      u = ⟨pu.id, true, f, c.maxFails, s.cb, l, effLimit c.m pu, 0⟩ := by
  rw [poolOf, List.getElem?_map] at h
  obtain ⟨u0, h0, rfl⟩ := Option.map_eq_some_iff.1 h
  obtain ⟨pu, l, f, h1, h2, h3, rfl⟩ := mkPool_get c c.ups s.loads s.fails i u0 h0
  exact ⟨pu, l, f, h1, h2, h3, rfl⟩

def CanTake (c : PCfg) (loads : List Nat) (i : Nat) : Prop :=
  ∃ l u, loads[i]? = some l ∧ c.ups[i]? = some u ∧ (0 < effLimit c.m u → l < effLimit c.m u)

/-- what `selRes c s = .sel i` says about address `i` -/
theorem sel_spec {c : PCfg} {s : PState} {i : Nat} (h : selRes c s = .sel i) :
    ∃ pu l f, c.ups[i]? = some pu ∧ s.loads[i]? = some l ∧ s.fails[i]? = some f ∧
      (∀ m, c.maxFails = some m → f < m) ∧ (∀ ok, s.cb = some ok → ok = true) ∧
      ¬(0 < effLimit c.m pu ∧ effLimit c.m pu ≤ l) := by
  obtain ⟨u, hu, hav⟩ := select_safe _ _ _ _ i h
  obtain ⟨pu, l, f, h1, h2, h3, rfl⟩ := poolOf_get hu
  obtain ⟨⟨_, hf, hcb⟩, hfull⟩ := (available_iff _).1 hav
  exact ⟨pu, l, f, h1, h2, h3, hf, hcb, hfull⟩

theorem canTake_of_sel {c : PCfg} {s : PState} {i : Nat} (h : selRes c s = .sel i) : CanTake c s.loads i :=
  let ⟨pu, l, _, h1, h2, _, _, _, hfull⟩ := sel_spec h
  ⟨l, pu, h2, h1, fun hm => Nat.lt_of_not_le fun hle => hfull ⟨hm, hle⟩⟩

theorem tripped_none_available {c : PCfg} {s : PState} (h : s.cb = some false) (i : Nat) : selRes c s ≠ .sel i :=
  fun hsel => let ⟨_, _, _, _, _, _, _, hcb, _⟩ := sel_spec hsel; nomatch hcb false h

/-- passive health checks that remember failures (`fail_duration`) with `max_fails` 1: whatever
    `Select` returns has no recorded failure -/
theorem sel_has_no_fails {c : PCfg} {s : PState} {i : Nat} (hfd : c.fd = true) (hmf : c.mf ≤ 1)
    (h : selRes c s = .sel i) : s.fails[i]? = some 0 := by
  obtain ⟨_, _, f, _, _, hf, hlt, _, _⟩ := sel_spec h
  have hmax : c.maxFails = some 1 := by
    unfold PCfg.maxFails PCfg.passive
    simp [hfd]; omega
  rw [hf, Nat.lt_one_iff.1 (hlt 1 hmax)]

/-- The proxy loop of one request (`attempt`, and `attemptD` with the set `unf` of upstreams whose
    dial address cannot be filled in) as rules: with `left` retries allowed and the error `prev`
    carried over, from state `s`, the loop tries the addresses `tried`, ends with `fin` and leaves
    `s'`. A retry happens exactly when `tryAgain` says so — with no retries left it never does. -/
inductive Att (c : PCfg) (unf : List Nat) (hold get : Bool) :
    Nat → PErr → PState → List (Option Nat) → DFin → PState → Prop
  | nilStop {left prev s} : selRes c s = .none → tryAgain left (carried prev) (retryable c get) = false →
      Att c unf hold get left prev s [none] (.fin (.status (statusOf (carried prev)))) (afterSel c s)
  | nilRetry {left prev s tr fin s'} : selRes c s = .none →
      tryAgain (left + 1) (carried prev) (retryable c get) = true →
      Att c unf hold get left (carried prev) (afterSel c s) tr fin s' → Att c unf hold get (left + 1) prev s (none :: tr) fin s'
  | dialInfo {left prev s i} : selRes c s = .sel i → i ∈ unf → Att c unf hold get left prev s [] (.dialInfo i) (afterDialInfo c s)
  | sent {left prev s i} : selRes c s = .sel i → i ∉ unf → badAt c.ups i = 0 →
      Att c unf hold get left prev s [] (.fin (.sent i)) (afterSent c hold s i)
  | failStop {left prev s i} : selRes c s = .sel i → i ∉ unf → badAt c.ups i ≠ 0 →
      tryAgain left (errAt c i) (retryable c get) = false →
      Att c unf hold get left prev s [some i] (.fin (.status 502)) (afterFail c s i)
  | failRetry {left prev s i tr fin s'} : selRes c s = .sel i → i ∉ unf → badAt c.ups i ≠ 0 →
      tryAgain (left + 1) (errAt c i) (retryable c get) = true →
      Att c unf hold get left (errAt c i) (afterFail c s i) tr fin s' → Att c unf hold get (left + 1) prev s (some i :: tr) fin s'
  | starved {left prev s} : selRes c s = .starved → Att c unf hold get left prev s [] (.fin .starved) s
  | crashed {left prev s} : (selRes c s).isPanic = true → Att c unf hold get left prev s [] (.fin .crashed) s

theorem isPanic_of_not {r : Res} (h1 : r = .none → False) (h2 : ∀ i, r = .sel i → False) (h3 : r = .starved → False) :
    r.isPanic = true := by
  cases r <;> first | rfl | exact absurd rfl h1 | exact absurd rfl (h2 _) | exact absurd rfl h3

theorem attempt_att (c : PCfg) (hold get : Bool) (left : Nat) (prev : PErr) (s : PState) :
    Att c [] hold get left prev s (attempt c hold get left prev s).1 (.fin (attempt c hold get left prev s).2.1)
      (attempt c hold get left prev s).2.2 := by
  fun_induction attempt c hold get left prev s
  case case1 h => exact .nilStop h rfl
  case case7 h ht => exact .nilStop h (Bool.eq_false_iff.2 ht)
  case case6 h ht ih => exact .nilRetry h ht ih
  case case2 h hb | case8 h hb => exact .sent h List.not_mem_nil hb
  case case3 h hb => exact .failStop h List.not_mem_nil hb rfl
  case case10 h hb ht => exact .failStop h List.not_mem_nil hb (Bool.eq_false_iff.2 ht)
  case case9 h hb ht ih => exact .failRetry h List.not_mem_nil hb ht ih
  case case4 h | case11 h => exact .starved h
  case case5 h1 h2 h3 | case12 h1 h2 h3 => exact .crashed (isPanic_of_not h1 h2 h3)

theorem attemptD_att (c : PCfg) (unf : List Nat) (get : Bool) (left : Nat) (prev : PErr) (s : PState) :
    Att c unf false get left prev s (attemptD c unf get left prev s).1 (attemptD c unf get left prev s).2.1
      (attemptD c unf get left prev s).2.2 := by
  fun_induction attemptD c unf get left prev s
  case case1 h => exact .nilStop h rfl
  case case8 h ht => exact .nilStop h (Bool.eq_false_iff.2 ht)
  case case7 h ht ih => exact .nilRetry h ht ih
  case case2 h hu | case9 h hu => exact .dialInfo h (List.contains_iff_mem.1 hu)
  case case3 h hu hb | case10 h hu hb => exact .sent h (mt List.contains_iff_mem.2 hu) hb
  case case4 h hu hb => exact .failStop h (mt List.contains_iff_mem.2 hu) hb rfl
  case case12 h hu hb ht => exact .failStop h (mt List.contains_iff_mem.2 hu) hb (Bool.eq_false_iff.2 ht)
  case case11 h hu hb ht ih => exact .failRetry h (mt List.contains_iff_mem.2 hu) hb ht ih
  case case5 h | case13 h => exact .starved h
  case case6 h1 h2 h3 | case14 h1 h2 h3 => exact .crashed (isPanic_of_not h1 h2 h3)

/-- `loads` counts exactly the held requests in flight, and no address carries more than its effective limit -/
def Books (c : PCfg) (loads : List Nat) (held : List (Option Nat)) : Prop :=
  (∀ (j l : Nat), loads[j]? = some l → l = held.count (some j)) ∧
  (∀ (j l : Nat) (u : PUp), loads[j]? = some l → c.ups[j]? = some u → 0 < effLimit c.m u → l ≤ effLimit c.m u)

def PInv (c : PCfg) (s : PState) : Prop := Books c s.loads s.held

theorem books_hold {c : PCfg} {loads : List Nat} {held : List (Option Nat)} {i : Nat} (h : Books c loads held)
    (hi : CanTake c loads i) : Books c (incAt loads i) (held ++ [some i]) := by
  obtain ⟨li, u, hli, hu, hlt⟩ := hi
  rw [incAt_eq_modify]
  refine ⟨fun j l hl => ?_, fun j l v hl hv hpos => ?_⟩ <;> rw [List.getElem?_modify] at hl <;>
    obtain ⟨l0, hj, rfl⟩ := Option.map_eq_some_iff.1 hl
  · rw [List.count_append, List.count_singleton, ← h.1 j l0 hj]
    by_cases hij : i = j <;> simp [hij]
  · by_cases hij : i = j
    · subst hij; cases hli.symm.trans hj; cases hu.symm.trans hv; rw [if_pos rfl]; exact hlt hpos
    · simpa [hij] using h.2 j l0 v hj hv hpos

theorem books_release {c : PCfg} {loads : List Nat} {held : List (Option Nat)} {k i : Nat} (h : Books c loads held)
    (hk : held[k]? = some (some i)) : Books c (decAt loads i) (setNone held k) := by
  obtain ⟨hlt, hki⟩ := List.getElem?_eq_some_iff.1 hk
  have hpos : 0 < held.count (some i) := List.count_pos_iff.2 (List.mem_of_getElem? hk)
  rw [decAt_eq_modify, setNone_eq_set]
  refine ⟨fun j l hl => ?_, fun j l v hl hv hp => ?_⟩ <;> rw [List.getElem?_modify] at hl <;>
    obtain ⟨l0, hj, rfl⟩ := Option.map_eq_some_iff.1 hl
  · rw [List.count_set hlt, hki, ← h.1 j l0 hj]
    by_cases hij : i = j <;> simp [hij]
  · have := h.2 j l0 v hj hv hp
    by_cases hij : i = j <;> simp [hij] <;> omega

theorem books_refused {c : PCfg} {loads : List Nat} {held : List (Option Nat)} (h : Books c loads held) :
    Books c loads (held ++ [none]) :=
  ⟨fun j l hl => by rw [List.count_append, h.1 j l hl]; simp, h.2⟩

section
variable {c : PCfg} {unf : List Nat} {hold get : Bool} {left : Nat} {prev : PErr} {s s' : PState}
  {tr : List (Option Nat)} {fin : DFin}

theorem att_targets (h : Att c unf hold get left prev s tr fin s') :
    (∀ j, some j ∈ tr → CanTake c s.loads j ∧ badAt c.ups j ≠ 0 ∧ j ∉ unf) ∧
    (∀ i, fin = .fin (.sent i) → CanTake c s.loads i ∧ badAt c.ups i = 0 ∧ i ∉ unf) ∧
    (∀ i, fin = .dialInfo i → i ∈ unf) := by
  induction h with
  | nilStop | starved | crashed => exact ⟨fun _ h => by simp at h, fun _ h => (nomatch h), fun _ h => (nomatch h)⟩
  | nilRetry _ _ _ ih => exact ⟨fun j hj => ih.1 j (by simpa using hj), ih.2⟩
  | dialInfo _ hu => exact ⟨fun _ h => (nomatch h), fun _ h => (nomatch h), fun _ h => by cases h; exact hu⟩
  | sent hs hu hb => exact ⟨fun _ h => (nomatch h), fun _ h => by cases h; exact ⟨canTake_of_sel hs, hb, hu⟩, fun _ h => (nomatch h)⟩
  | failStop hs hu hb => exact ⟨fun j hj => by simp at hj; subst hj; exact ⟨canTake_of_sel hs, hb, hu⟩, fun _ h => (nomatch h), fun _ h => (nomatch h)⟩
  | failRetry hs hu hb _ _ ih =>
    refine ⟨fun j hj => ?_, ih.2⟩
    rcases List.mem_cons.1 hj with hj | hj
    · cases hj; exact ⟨canTake_of_sel hs, hb, hu⟩
    · exact ih.1 j hj

theorem att_bound (h : Att c unf hold get left prev s tr fin s') :
    tr.length ≤ left + 1 ∧ ∀ i, fin = .fin (.sent i) → tr.length ≤ left := by
  induction h with
  | nilRetry _ _ _ ih | failRetry _ _ _ _ _ ih =>
    exact ⟨Nat.succ_le_succ ih.1, fun i hi => Nat.succ_le_succ (ih.2 i hi)⟩
  | nilStop | failStop => exact ⟨Nat.succ_le_succ (Nat.zero_le _), fun _ h => (nomatch h)⟩
  | _ => exact ⟨Nat.zero_le _, fun _ _ => Nat.zero_le _⟩

theorem errAt_ne (c : PCfg) (i : Nat) : errAt c i ≠ .none ∧ errAt c i ≠ .noUpstream := by
  unfold errAt; split <;> exact ⟨nofun, nofun⟩

theorem carried_first {prev : PErr} (h : carried prev = .none ∨ carried prev = .noUpstream) :
    prev = .none ∨ prev = .noUpstream := by
  cases prev <;> simp [carried] at h ⊢

theorem att_503 (h : Att c unf hold get left prev s tr fin s')
    (hf : fin = .fin (.status 503)) : (prev = .none ∨ prev = .noUpstream) ∧ selRes c s = .none := by
  induction h with
  | @nilStop _ prev _ hs =>
    refine ⟨carried_first (Or.inr ?_), hs⟩
    cases hp : carried prev <;> rw [hp] at hf <;> first | rfl | cases hf
  | nilRetry hs _ _ ih => exact ⟨carried_first (ih hf).1, hs⟩
  | failRetry _ _ _ _ _ ih => exact absurd (ih hf).1 (fun h => h.elim (errAt_ne c _).1 (errAt_ne c _).2)
  | _ => cases hf

theorem tryAgain_false_succ {left : Nat} {e : PErr} {ok : Bool} (h : tryAgain (left + 1) e ok = false) :
    e = .other ∧ ok = false := by
  cases e <;> simp [tryAgain] at h
  exact ⟨rfl, h⟩

theorem att_gives_up_early (h : Att c unf hold get left prev s tr fin s')
    {code : Nat} (hf : fin = .fin (.status code)) (hl : tr.length ≤ left) : retryable c get = false := by
  induction h with
  | @nilStop left _ _ _ ht | @failStop left _ _ _ _ _ _ ht =>
    obtain ⟨l, rfl⟩ := Nat.exists_eq_succ_of_ne_zero (Nat.ne_of_gt hl)
    exact (tryAgain_false_succ ht).2
  | nilRetry _ _ _ ih | failRetry _ _ _ _ _ ih => exact ih hf (Nat.le_of_succ_le_succ hl)
  | _ => cases hf

theorem att_open_breaker (h : Att c unf hold get left prev s tr fin s') (hcb : s.cb = some false) :
    (∀ i, fin ≠ .fin (.sent i)) ∧ ∀ j, some j ∉ tr := by
  induction h with
  | nilRetry _ _ _ ih => exact ⟨(ih hcb).1, fun j hj => (ih hcb).2 j (by simpa using hj)⟩
  | dialInfo hs | sent hs | failStop hs | failRetry hs => exact absurd hs (tripped_none_available hcb _)
  | _ => exact ⟨nofun, fun _ h => by simp at h⟩

theorem att_no_retry_of_failed (h : Att c unf hold get left prev s tr fin s')
    (hdyn : c.dyn = false) (hfd : c.fd = true) (hmf : c.mf ≤ 1) :
    (tr.filter Option.isSome).Nodup ∧ (∀ j, some j ∈ tr → s.fails[j]? = some 0) ∧
    (∀ i, fin = .fin (.sent i) → s.fails[i]? = some 0 ∧ some i ∉ tr) := by
  induction h with
  | nilStop | dialInfo | starved | crashed => exact ⟨by simp, fun _ h => by simp at h, nofun⟩
  | nilRetry _ _ _ ih => exact ⟨by simpa using ih.1, fun j hj => ih.2.1 j (by simpa using hj), fun i hi => ⟨(ih.2.2 i hi).1, by simpa using (ih.2.2 i hi).2⟩⟩
  | sent hs => exact ⟨by simp, fun _ h => by simp at h, fun i hi => by cases hi; exact ⟨sel_has_no_fails hfd hmf hs, by simp⟩⟩
  | failStop hs => exact ⟨by simp, fun j hj => by simp at hj; subst hj; exact sel_has_no_fails hfd hmf hs, nofun⟩
  | @failRetry left prev s i tr fin s' hs _ _ _ _ ih =>
    have h0 := sel_has_no_fails hfd hmf hs
    -- the failure of `i` is recorded and stays (static upstreams)
    have hf : (afterFail c s i).fails = incAt s.fails i := by rw [afterFail, dropFails_static hdyn, if_pos hfd]
    have hne : ∀ j, (afterFail c s i).fails[j]? = some 0 → j ≠ i ∧ s.fails[j]? = some 0 :=
      fun j hj => incAt_get_zero (hf ▸ hj)
    refine ⟨?_, fun j hj => ?_, fun k hk => ?_⟩
    · rw [List.filter_cons_of_pos rfl, List.nodup_cons]
      exact ⟨fun hm => (hne i (ih.2.1 i (List.mem_filter.1 hm).1)).1 rfl, ih.1⟩
    · rcases List.mem_cons.1 hj with hj | hj
      · cases hj; exact h0
      · exact (hne j (ih.2.1 j hj)).2
    · obtain ⟨g1, g2⟩ := ih.2.2 k hk
      obtain ⟨gne, g0⟩ := hne k g1
      exact ⟨g0, by simpa using ⟨fun h => gne h, g2⟩⟩

/-- the loop of one request keeps the books: only a request that is sent and held changes them -/
theorem att_inv (h : Att c unf hold get left prev s tr fin s') (hb : PInv c s) : PInv c s' := by
  induction h with
  -- `afterSel`, `afterFail`, `afterDialInfo` leave `loads` and `held` alone, by reduction: `hb` serves for the state after them
  | nilRetry _ _ _ ih | failRetry _ _ _ _ _ ih => exact ih hb
  | sent hs =>
    cases hold
    · exact hb
    · exact books_hold hb (canTake_of_sel hs)
  | _ => exact hb

end

/-- a POST request is not retried after an error that is not a dial error -/
theorem tryAgain_post_other (left : Nat) : tryAgain left .other false = false := by
  simp [tryAgain]

theorem pstep0_inv (c : PCfg) (s : PState) (e : Ev) (h : PInv c s) : PInv c (pstep0 c s e).2 := by
  cases e with
  | arrive hold get =>
    have hb := att_inv (attempt_att c hold get c.retries .none s) h
    simp only [pstep0]
    -- a request that is held but was not sent is remembered as not in flight
    cases (attempt c hold get c.retries .none s).2.1 with
    | sent i => exact hb
    | _ => cases hold <;> first | exact hb | exact books_refused hb
  | fin k =>
    simp only [pstep0]
    cases hk : s.held[k]? with
    | none => exact h
    | some o => cases o with
      | none => exact h
      | some i => exact books_release h hk
  | _ => exact h

theorem pstep_inv (c : PCfg) (s : PState) (e : Ev) (h : PInv c s) : PInv c (pstep c s e).2 := by
  cases e with
  | arrive hold get => simp only [pstep, addInfo]; split <;> exact pstep0_inv c s _ h
  | fail k =>
    simp only [pstep]
    split
    · rename_i i left get hk _
      split
      · -- the rest of the loop of a request that is no longer held
        exact att_inv (attempt_att c false get (left - 1) .other (afterLateFail c s k i)) (books_release h hk)
      · exact books_release h hk
    · exact h
  | _ => exact pstep0_inv c s _ h

theorem prun_inv (c : PCfg) : ∀ (evs : List Ev) (s : PState), PInv c s → PInv c (prun c s evs).2
  | [], _, h => h
  | e :: evs, s, h => prun_inv c evs _ (pstep_inv c s e h)

theorem pinit_inv (p : Policy) (c : PCfg) (ds : List Nat) : PInv c (pinit p c ds) := by
  refine ⟨fun j l hl => ?_, fun j l u hl _ _ => ?_⟩ <;> simp [pinit] at hl
  · simp [pinit, hl.2]
  · omega

end CaddyModel.C08
