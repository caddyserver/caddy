/-
C08 — proved counter-examples: clauses of the property the unchanged tree violates.
Each `…_full_fails` refutes the full-strength statement kept in the comment of the matching
`…_partial` theorem in Props.lean (for `roundRobin_some_if_any_available_full_fails` that is
`select_some_if_any_available_partial`, for `roundRobin_cycles_full_fails` `roundRobin_next_partial`);
`witnessLines` are the same inputs as protocol lines,
replayed on the real code on every run (they must keep failing there, as known findings).
Also here: the weighted round robin before its repair (`oldSelWRR`, `oldRun`; `…_old_code_fails`)
and two observations about the active health counters that are no clause of the property.
-/
import CaddyModel.C08.Spec

namespace CaddyModel.C08

/-- a plain upstream: no passive policy, no circuit breaker, no limit, no load -/
def upW (id : Nat) (healthy : Bool) : Up := ⟨id, healthy, 0, none, none, 0, 0, 0⟩

/-- a counter-example: `n` consecutive selections of policy `p` on `pool` (no draws needed) -/
structure Wit where
  p : Policy
  pool : Pool
  n : Nat

def Wit.results (w : Wit) : List Res := (run w.n w.p w.pool []).1.map (·.1)

def wRRWrapNil : Wit := ⟨.rr 4294967294, [upW 1 false, upW 2 false, upW 3 true], 1⟩
def wRRWrapRepeat : Wit := ⟨.rr 4294967294, [upW 1 true, upW 2 true, upW 3 true], 2⟩

/-- FULL: round robin returns an upstream whenever one is available. Fails when the uint32
    counter wraps and the pool size does not divide 2^32: from counter 2^32-2 the probes visit
    positions 0, 0, 1 of a pool of three — position 2, the only available one, is skipped. -/
theorem roundRobin_some_if_any_available_full_fails :
    anyAvail wRRWrapNil.pool = true ∧ wRRWrapNil.results = [.none] := by decide

/-- FULL: consecutive round-robin selections walk through the available upstreams in cyclic
    order. Fails at the same wrap-around: upstream 0 is returned twice in a row although all
    three upstreams are available. -/
theorem roundRobin_cycles_full_fails : wRRWrapRepeat.results = [.sel 0, .sel 0] := by decide

/-! ### weighted round robin before its repair

`WeightedRoundRobinSelection.Select` used to (1) drop the zero weights, (2) find the index of the
current cycle position among the *positive* weights, (3) collect the available upstreams with a
non-zero weight (indexing `r.Weights[i]` for every available upstream, stopping once as many
were collected as there are positive weights) and (4) return the collected upstream number
`index mod (number collected)`. These loops show what the weighted-round-robin clauses of Props.lean
exclude. -/

inductive OldRes where
  | none | sel (i : Nat) | panicIdx | panicDiv
deriving DecidableEq, Repr

def oldCollect (ws : List Nat) (cap : Nat) : Pool → Nat → List Nat → Option (List Nat)
  | [], _, acc => some acc
  | u :: rest, i, acc =>
    if u.avail then
      match ws[i]? with
      | none => none
      | some w =>
        if w = 0 then oldCollect ws cap rest (i + 1) acc
        else if acc.length + 1 = cap then some (acc ++ [i])
        else oldCollect ws cap rest (i + 1) (acc ++ [i])
    else oldCollect ws cap rest (i + 1) acc

def oldPosWeights (ws : List Nat) : List Nat := ws.filter (0 < ·)

def oldPick (idx : Nat) (ups : List Nat) : OldRes :=
  if ups.length = 0 then .none
  else match ups[idx % ups.length]? with
    | some i => .sel i
    | none => .panicIdx

/-- the old `Select` with two or more weights on a non-empty pool, at counter `c` -/
def oldSelWRR (ws : List Nat) (pool : Pool) (c : Nat) : OldRes :=
  if ws.sum = 0 then .panicDiv
  else match oldCollect ws (oldPosWeights ws).length pool 0 [] with
    | none => .panicIdx
    | some ups => oldPick (wrrIndexGo (oldPosWeights ws) 0 0 (inc32 c % ws.sum)) ups

def oldRun (ws : List Nat) (pool : Pool) : Nat → Nat → List OldRes
  | 0, _ => []
  | n + 1, c => oldSelWRR ws pool c :: oldRun ws pool n (inc32 c)

def wPanicIndex : Wit := ⟨.wrr [1, 1] 0, [upW 1 false, upW 2 true, upW 3 true], 1⟩
def wPanicDivide : Wit := ⟨.wrr [0, 0] 0, [upW 1 true], 1⟩
def wWeightsDown : Wit := ⟨.wrr [1, 3, 1] 0, [upW 1 false, upW 2 true, upW 3 true], 5⟩
def wWeightsShortPool : Wit := ⟨.wrr [1, 2, 3] 0, [upW 1 true, upW 2 true], 6⟩

/-- old code: `r.Weights[i]` out of range when the pool is longer than the weight list -/
theorem weightedRR_never_panics_old_code_fails_index :
    oldRun [1, 1] wPanicIndex.pool 1 0 = [.panicIdx] ∧ wPanicIndex.results = [.sel 1] := by decide

/-- old code: `… % r.totalWeight` with two or more weights, all 0; now nil (every upstream is disabled) -/
theorem weightedRR_never_panics_old_code_fails_divide :
    oldRun [0, 0] wPanicDivide.pool 1 0 = [.panicDiv] ∧ wPanicDivide.results = [.none] := by decide

/-- old code: weights 1,3,1 with the first upstream down — over the 5 selections of a cycle the
    weight-3 upstream (index 1) was chosen twice, the weight-1 upstream (index 2) three times.
    Now: every upstream keeps its own share and the turn of the unavailable one goes to the next. -/
theorem weightedRR_honours_weights_old_code_fails :
    oldRun [1, 3, 1] wWeightsDown.pool 5 0 = [.sel 2, .sel 2, .sel 2, .sel 1, .sel 1] ∧
    wWeightsDown.results = [.sel 1, .sel 1, .sel 1, .sel 2, .sel 1] := by decide +kernel

/-- old code: more weights than upstreams (1,2,3 on two) — the weight-1 upstream was chosen four
    times in a cycle of 6, the weight-2 upstream twice. Now the weight of the upstream that is not
    in the pool takes no part: a cycle of 3, one turn for the first and two for the second. -/
theorem weightedRR_honours_weights_old_code_fails_short_pool :
    oldRun [1, 2, 3] wWeightsShortPool.pool 6 0 = [.sel 1, .sel 1, .sel 0, .sel 0, .sel 0, .sel 0] ∧
    wWeightsShortPool.results = [.sel 1, .sel 1, .sel 0, .sel 1, .sel 1, .sel 0] := by decide +kernel

/-! ### observation (no clause of the property): active health check counters are cumulative

How the active health checker decides the `healthy` flag is an input of the property, not part of
it. Recorded as an observation: `passes` / `fails` are documented as numbers of *consecutive*
results, but the counters are only reset when the flag flips — a result of the other kind does not
reset them. -/

/-- observation: with `fails` 2 the results fail, pass, fail mark the upstream unhealthy although no
    two checks in a row failed (the documented rule `ahSpecRun` keeps it healthy) -/
theorem activeHealth_counts_are_cumulative_observation :
    (ahRun 1 2 ahInit [false, true, false]).map (·.healthy) = [true, true, false] ∧
    ahSpecRun 1 2 ⟨true, true, 0⟩ [false, true, false] = [true, true, true] := by decide

/-- observation: with `passes` 2 an unhealthy upstream is healthy again after pass, fail, pass -/
theorem activeHealth_counts_are_cumulative_observation_passes :
    (ahRun 2 1 ahInit [false, true, false, true]).map (·.healthy) = [false, false, false, true] ∧
    ahSpecRun 2 1 ⟨true, true, 0⟩ [false, true, false, true] = [false, false, false, false] := by decide

def showOpt : Option Nat → String
  | none => "-"
  | some n => toString n

def showUp (u : Up) : String :=
  ":".intercalate [toString u.id, if u.healthy then "1" else "0", toString u.fails, showOpt u.maxFails,
    (match u.cb with | none => "-" | some true => "1" | some false => "0"),
    toString u.load, toString u.maxReq, toString u.h]

def showNats (l : List Nat) : String := if l.isEmpty then "-" else ",".intercalate (l.map toString)

def showPolicy : Policy → String
  | .first => "first"
  | .rr c => "rr:" ++ toString c
  | .wrr ws c => "wrr:" ++ toString c ++ ":" ++ showNats ws
  | .leastConn => "lc"
  | .random => "rnd"
  | .randomChoose k => "rc:" ++ toString k
  | .hash => "urih"
  | .keyed true fb => "hdr+>" ++ showPolicy fb
  | .keyed false fb => "hdr->" ++ showPolicy fb
  | .cookie c fb => "ck:" ++ showOpt c ++ ">" ++ showPolicy fb

def Wit.line (w : Wit) : String :=
  "C08 sel " ++ showPolicy w.p ++ " " ++ (if w.pool.isEmpty then "-" else ",".intercalate (w.pool.map showUp))
    ++ " " ++ toString w.n ++ " 0 -"

def witnessLines : List String :=
  [wRRWrapNil, wRRWrapRepeat].map Wit.line

end CaddyModel.C08
