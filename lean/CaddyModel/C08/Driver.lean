/-
C08 line-protocol driver.

  sel <policy> <pool> <n> <v> <rand>

policy  chain joined by `>`; inner nodes `hdr+ hdr- hhost+ hhost- qry+ qry-` (header / query policy, key
        present `+` or absent `-`), `ck:-` / `ck:<id>` (cookie policy; the request carries the cookie
        of dial <id>); last element is the leaf: `first`, `rr:<counter>`, `wrr:<counter>:<w,w,…|->`,
        `lc`, `rnd`, `rc:<choose>`, `iph`, `ciph`, `urih`
pool    `-` or upstreams joined by `,`; upstream = `id:healthy:fails:maxfails:cb:load:maxreq:hash`
        (maxfails `-` = no passive policy, cb `-` = no circuit breaker, else 0/1)
n       number of consecutive selections (1..64)
v       request variant (used by the harness only to build the HTTP request)
rand    `-` or `<seed>:<d,d,…>` raw Int63 draws of math/rand after Seed(seed)

  prx <dyn|sta> <policy|-> <m>:<fd>:<mf>:<r> <ups> <script> <rand>
        the proxy loop around Select: one reverse_proxy handler whose upstreams are static (`sta`) or handed
        out afresh for every loop iteration by a dynamic upstream source (`dyn`); policy one of first,
        rr:<c>, lc, rnd, rc:<k>, or `-` = none configured (default); passive health checks:
        unhealthy_request_count <m> (0 = none), fail_duration set <fd> (0/1), max_fails <mf> (0 = default);
        lb_retries <r> (0-8). ups = `-` or `id:max:bad` joined by `,` (ids pairwise different): the upstream's
        own max_requests (0 = none) and what its backend does: `o` answers, `d` dial error, `e` other error.
        script = events joined by `,`: `h`/`H` a GET/POST request arrives and, once proxied, is held in flight
        at the backend, `q`/`Q` a GET/POST request arrives and completes, `f<k>` the k-th held request
        (0-based) completes, `T`/`U` the handler's circuit breaker (configured by a fifth `:1` in the
        settings) opens / closes; a sixth setting is lb_retry_match: 0 none, 1 `method POST`, 2 `method GET`,
        3 `method GET POST`. answer `<o>,<o>,… c=<counter|-> n=<in flight per address|-> f=<fails per address|->`,
        o for a request = failed attempts `<i>!` / `-` (Select returned nil) and the end `<i>` | `503` | `502`,
        joined by `/`; o for `f<k>` = `ok` | `-`
  pd <dyn|sta> <policy|-> <m>:<fd>:<mf>:<r>[:0[:<rm>]] <ups> <requests> <rand>
        the proxy loop when every dial address is a placeholder filled in per request (fillDialInfo after Select);
        ups as for prx (kinds o d e); requests joined by `,`: `q`/`Q` + one letter per upstream: g = filled in with a
        good address, r m w z = the dial info cannot be made (port range, named port, reversed range, port > 65535).
        answer as for prx; a request that ends in fillDialInfo for upstream i: `di<i>`
  dy <m>:<fd>:<mf>:<cb> <static ups> <none|one|multi> <sources> <j|c|p> <foreign load>   the pool an iteration hands to Select

  key <src> <remote> <clientip> <uri> <host> <headers> <query> <key|fb> <table>
        what a hash policy takes from the request: src = `iph` | `ciph` | `urih` | `hdr:<field hex>` | `qry:<key hex>`;
        req.RemoteAddr, the client_ip var, req.RequestURI, req.Host (hex); headers = `-` or `name:value;…` (hex, wire
        order); query = `-` or `key:value;…` (hex, the parsed URL query in order); then the key the harness expects
        (hex, `fb` = fallback) and the hashes of the 8 probe upstreams with that key. answer `<i>` (probe upstream
        chosen) | `fb` (the fallback decided) | `key:<hex>` (model only: it derives another key)
  ck <name> <cookies>
        what the cookie policy takes from the request (name `-` = none configured, the default `lb`): cookies = `-` or `name:value;…` (hex, header order); a value
        `t<j>` stands for the HMAC token of probe upstream j (0-7). answer `<j>` | `fb`

  cf <tokens> <durations>
        `lb_policy` in a Caddyfile: the tokens of the segment that starts at the policy name, `texthex.line` joined by
        `,` (braces are tokens); durations = `-` or `tokenhex:nanoseconds,…`: what caddy.ParseDuration returns for the
        tokens it accepts. answer `ok <node>>…` (the module and its chain of configured fallbacks: `s<k>`, `wrr[w,…]`,
        `rc[k]`, `qry[hex]`, `hdr[hex]`, `ck[name,secret,max_age ns]`) | `err`

  rp <tokens> <durations> <addresses>
        the `reverse_proxy` directive of a Caddyfile (upstream arguments, `to`, `lb_policy`, `lb_retries`,
        `lb_try_duration`, `lb_try_interval`, `max_fails`, `fail_duration`, `unhealthy_request_count`): tokens and
        durations as for `cf`; addresses = `-` or `tokenhex:dialhex|dialhex,…`: the dial addresses the tokens accepted
        as upstream addresses stand for. answer `ok ups=<dial,…|-> pol=<chain|-> r=<retries> td=<ns> ti=<ns>
        p=<max_fails,fail_duration ns,unhealthy_request_count|->` | `err`

  tim <try_duration ms> <try_interval ms>
        lb_try_duration / lb_try_interval on the real clock with an upstream whose dial always fails; not modelled:
        the answer is `ok`, the harness's oracle checks the two load-independent bounds (round trips ≤ ⌈duration /
        interval⌉ + 1 with the default interval 250 ms; the handler does not give up before the duration is over)

  sc <tls 0|1> <trusted proxy 0|1> <X-Forwarded-Proto values hex,…|-> <max_age ns>
        the attributes of the sticky cookie a cookie policy writes. answer `secure=<0|1> ss=<none|-> ma=<seconds>`

  ah <passes> <fails> <script>
        active health checks of one upstream: the configured thresholds (0 = not configured) and the results of the
        consecutive checks, `p` pass / `f` fail (the first is the check `Provision` starts right away).
        answer after every check `h<healthy 0|1>:<passes counted>:<fails counted>`, joined by `,`

answer  `<r>,<r>,… c=<counter|-> a=<availability bits|->`, r = `nil` | `<i>` | `<i>+ck<id>` | `panic:idx` | `panic:nil`;
        `err:provision` if the policy is rejected; `starved` if the draws run out; `bad-op` if malformed.
-/
import CaddyModel.C08.Model
import CaddyModel.C08.Keys
import CaddyModel.C08.Caddyfile
import CaddyModel.C08.Dynamic
import CaddyModel.C08.Wrappers

namespace CaddyModel.C08

/-- strict decimal: `0` or `[1-9][0-9]*`, at most 20 digits, value ≤ max -/
def num (max : Nat) (s : String) : Option Nat :=
  match s.toList with
  | [] => none
  | ['0'] => some 0
  | '0' :: _ => none
  | cs =>
    if cs.length ≤ 20 && cs.all (fun c => '0' ≤ c && c ≤ '9') then
      if cs.foldl (fun a c => a * 10 + (c.toNat - 48)) 0 ≤ max then some (cs.foldl (fun a c => a * 10 + (c.toNat - 48)) 0) else none
    else none

def small : Nat := 1000000
def max63 : Nat := 9223372036854775807
def max64 : Nat := 18446744073709551615

def optNum (s : String) : Option (Option Nat) :=
  if s == "-" then some none else (num small s).map some

def optBool (s : String) : Option (Option Bool) :=
  if s == "-" then some none else if s == "0" then some (some false) else if s == "1" then some (some true) else none

def parseUp (s : String) : Option Up :=
  match s.splitOn ":" with
  | [id, hl, f, mf, cb, ld, mr, h] => do
    let id ← num small id
    let hl ← optBool hl
    let hl ← hl
    let f ← num small f
    let mf ← optNum mf
    let cb ← optBool cb
    let ld ← num small ld
    let mr ← num small mr
    let h ← num max64 h
    pure ⟨id, hl, f, mf, cb, ld, mr, h⟩
  | _ => none

def parsePool (s : String) : Option Pool :=
  if s == "-" then some [] else
  match (s.splitOn ",").mapM parseUp with
  | some p => if p.length ≤ 64 then some p else none
  | none => none

def parseNums (max : Nat) (s : String) : Option (List Nat) :=
  if s == "-" then some [] else (s.splitOn ",").mapM (num max)

def parseLeaf (s : String) : Option Policy :=
  match s.splitOn ":" with
  | ["first"] => some .first
  | ["rr", c] => (num (u32 - 1) c).map .rr
  | ["wrr", c, ws] => do
    let c ← num (u32 - 1) c
    let ws ← parseNums small ws
    if ws.length ≤ 64 then pure (.wrr ws c) else none
  | ["lc"] => some .leastConn
  | ["rnd"] => some .random
  | ["rc", k] => (num small k).map .randomChoose
  | ["iph"] => some .hash
  | ["ciph"] => some .hash
  | ["urih"] => some .hash
  | _ => none

def parseNode (s : String) : Option (Policy → Policy) :=
  match s.splitOn ":" with
  | ["hdr+"] => some (.keyed true)
  | ["hdr-"] => some (.keyed false)
  | ["hhost+"] => some (.keyed true)
  | ["hhost-"] => some (.keyed false)
  | ["qry+"] => some (.keyed true)
  | ["qry-"] => some (.keyed false)
  | ["ck", c] => (optNum c).map .cookie
  | _ => none

/-- reversed chain: leaf first -/
def parseChainRev : List String → Option Policy
  | [] => none
  | leaf :: nodes => do
    let l ← parseLeaf leaf
    nodes.foldlM (fun acc s => do pure ((← parseNode s) acc)) l

def isHostNode (s : String) : Bool := s == "hhost+" || s == "hhost-"

/-- at most 5 elements, at most one `hhost` node (they would all read the same `req.Host`) -/
def parsePolicy (s : String) : Option Policy :=
  if (s.splitOn ">").length ≤ 5 && ((s.splitOn ">").filter isHostNode).length ≤ 1 then
    parseChainRev (s.splitOn ">").reverse
  else none

def parseRand (s : String) : Option (List Nat) :=
  if s == "-" then some [] else
  match s.splitOn ":" with
  | [seed, ds] => do
    let _ ← num max63 seed
    let ds ← parseNums max63 ds
    if ds.length ≤ 4096 then pure ds else none
  | _ => none

def showRes : Res × List Nat → String
  | (.none, _) => "nil"
  | (.sel i, cks) => cks.foldl (fun s c => s ++ "+ck" ++ toString c) (toString i)
  | (.panicIdx, _) => "panic:idx"
  | (.panicNil, _) => "panic:nil"
  | (.starved, _) => "starved"

/-- the counter of the chain's leaf -/
def counterOf : Policy → String
  | .rr c => toString c
  | .wrr _ c => toString c
  | .keyed _ fb => counterOf fb
  | .cookie _ fb => counterOf fb
  | _ => "-"

def availBits (pool : Pool) : String :=
  if pool.isEmpty then "-" else String.ofList (pool.map fun u => if u.avail then '1' else '0')

def isStarved : Res × List Nat → Bool
  | (.starved, _) => true
  | _ => false

def answer (p : Policy) (pool : Pool) (n : Nat) (ds : List Nat) : String :=
  match provision p with
  | none => "err:provision"
  | some p =>
    if (run n p pool ds).1.any isStarved then "starved"
    else ",".intercalate ((run n p pool ds).1.map showRes) ++ " c=" ++ counterOf (run n p pool ds).2
      ++ " a=" ++ availBits pool

/-- `h` `q` (GET, held / completing) | `H` `Q` (POST) | `f<k>` the backend answers held request k | `x<k>` … its round trip fails -/
def parseEv (s : String) : Option Ev :=
  match s.toList with
  | ['h'] => some (.arrive true true)
  | ['q'] => some (.arrive false true)
  | ['H'] => some (.arrive true false)
  | ['Q'] => some (.arrive false false)
  | ['T'] => some .trip
  | ['U'] => some .untrip
  | 'f' :: ks => (num 64 (String.ofList ks)).map .fin
  | 'x' :: ks => (num 64 (String.ofList ks)).map .fail
  | _ => none

/-- every `f<k>` refers to a held request that has arrived -/
def scriptOK : List Ev → Nat → Bool
  | [], _ => true
  | .arrive hold _ :: es, n => scriptOK es (if hold then n + 1 else n)
  | .fin k :: es, n => decide (k < n) && scriptOK es n
  | .fail k :: es, n => decide (k < n) && scriptOK es n
  | _ :: es, n => scriptOK es n

/-- the policies the proxy-loop cases use (no hash, cookie or weighted policies) -/
def proxyPolicy : Policy → Bool
  | .first => true
  | .rr _ => true
  | .leastConn => true
  | .random => true
  | .randomChoose _ => true
  | _ => false

/-- `-` = no selection policy configured (`Provision` defaults to random) -/
def parseProxyPolicy (s : String) : Option Policy :=
  if s == "-" then some .random else
  match parseLeaf s with
  | some p => if proxyPolicy p then some p else none
  | none => none

def parsePUp (s : String) : Option PUp :=
  match s.splitOn ":" with
  | [id, mx, bad] => do
    let id ← num small id
    let mx ← num 1000 mx
    let b ← (if bad == "o" || bad == "s" then some 0 else if bad == "d" then some 1 else if bad == "e" then some 2 else none)
    pure ⟨id, mx, b⟩
  | _ => none

def parsePUps (s : String) : Option (List PUp) :=
  if s == "-" then some [] else (s.splitOn ",").mapM parsePUp

/-- the positions of the upstreams of kind `s`: the backend answers with a status listed in `unhealthy_status` -/
def strikesOf (s : String) : List Nat :=
  if s == "-" then [] else
  ((s.splitOn ",").zipIdx.filter (fun x => x.1.endsWith ":s")).map (·.2)

/-- `<unhealthy_request_count>:<fail_duration 0|1>:<max_fails>:<lb_retries>[:<circuit breaker 0|1>[:<lb_retry_match 0-3>]]` -/
def parsePCfg (dyn : Bool) (s : String) (ups : List PUp) (strike : List Nat) : Option PCfg :=
  match s.splitOn ":" with
  | [m, fd, mf, r] => do
    let m ← num 1000 m
    let fd ← optBool fd
    let fd ← fd
    let mf ← num 1000 mf
    let r ← num 8 r
    pure ⟨dyn, m, fd, mf, r, ups, false, 0, strike⟩
  | [m, fd, mf, r, cb] => do
    let m ← num 1000 m
    let fd ← optBool fd
    let fd ← fd
    let mf ← num 1000 mf
    let r ← num 8 r
    let cb ← optBool cb
    let cb ← cb
    pure ⟨dyn, m, fd, mf, r, ups, cb, 0, strike⟩
  | [m, fd, mf, r, cb, rm] => do
    let m ← num 1000 m
    let fd ← optBool fd
    let fd ← fd
    let mf ← num 1000 mf
    let r ← num 8 r
    let cb ← optBool cb
    let cb ← cb
    let rm ← num 3 rm
    pure ⟨dyn, m, fd, mf, r, ups, cb, rm, strike⟩
  | _ => none

def showFinal : Final → String
  | .sent i => toString i
  | .status c => toString c
  | .crashed => "panic"
  | .starved => "starved"

def showTried : Option Nat → String
  | some i => toString i ++ "!"
  | none => "-"

def showEvOut : EvOut → String
  | .req tried fin => "/".intercalate (tried.map showTried ++ [showFinal fin])
  | .late tried fin => "/".intercalate (tried.map showTried ++ [showFinal fin])
  | .done => "ok"
  | .idle => "-"

def evStarved : EvOut → Bool
  | .req _ .starved => true
  | .late _ .starved => true
  | _ => false

def showNatList (l : List Nat) : String := if l.isEmpty then "-" else ",".intercalate (l.map toString)

def proxyAnswer (p : Policy) (c : PCfg) (evs : List Ev) (ds : List Nat) : String :=
  match provision p with
  | none => "err:provision"
  | some p =>
    if (prun c (pinit p c ds) evs).1.any evStarved then "starved"
    else ",".intercalate ((prun c (pinit p c ds) evs).1.map showEvOut)
      ++ " c=" ++ counterOf (prun c (pinit p c ds) evs).2.pol
      ++ " n=" ++ showNatList (prun c (pinit p c ds) evs).2.loads
      ++ " f=" ++ showNatList (prun c (pinit p c ds) evs).2.fails

/-! ### `dy` lines: the pool an iteration of the proxy loop hands to `Select` -/

/-- `-` or `id:max+id:max+…` -/
def parseDUps (s : String) : Option (List DUp) :=
  if s == "-" then some [] else
  (s.splitOn "+").mapM fun x =>
    match x.splitOn ":" with
    | [id, mx] => do pure ⟨.u (← num small id), ← num 1000 mx⟩
    | _ => none

def tri (s : String) : Option (Option Bool) :=
  if s == "n" then some none else if s == "t" then some (some true) else if s == "f" then some (some false) else none

/-- `p.<o|e>.<ups>` a probe source answering / failing; `a.<4|6>.<id>.<port|->.<ipv4 n|t|f>.<ipv6 n|t|f>` the `a` source -/
def parseSrc (s : String) : Option Src :=
  match s.splitOn "." with
  | ["p", ok, ups] => do
    let ups ← parseDUps ups
    if ok == "o" then pure (.probe true ups) else if ok == "e" then pure (.probe false ups) else none
  | ["a", fam, id, port, v4, v6] => do
    let id ← num 9 id
    let port ← (if port == "-" then some none else (num 65535 port).map some)
    let v4 ← tri v4
    let v6 ← tri v6
    if id = 0 || port == some 0 then none
    else if fam == "4" then pure (.a false id port v4 v6) else if fam == "6" then pure (.a true id port v4 v6) else none
  | _ => none

/-- `<unhealthy_request_count>:<fail_duration 0|1>:<max_fails>:<circuit breaker 0|1>` -/
def parseDCfg (s : String) : Option DCfg :=
  match s.splitOn ":" with
  | [m, fd, mf, cb] => do
    let m ← num 1000 m
    let fd ← optBool fd
    let fd ← fd
    let mf ← num 1000 mf
    let cb ← optBool cb
    let cb ← cb
    pure ⟨m, decide (0 < m) || fd || decide (0 < mf), cb⟩
  | _ => none

/-- `u<id>` | `a4.<id>.<port>` | `a6.<id>.<port>` -/
def parseDName (s : String) : Option DName :=
  match s.toList with
  | 'u' :: r => (num small (String.ofList r)).map .u
  | _ =>
    match s.splitOn "." with
    | ["a4", id, port] => do pure (.a4 (← num 9 id) (← num 65535 port))
    | ["a6", id, port] => do pure (.a6 (← num 9 id) (← num 65535 port))
    | _ => none

/-- `-` or `<name>=<k>+…`: k (1-4) requests are in flight on that address through another handler -/
def parseForeign (s : String) : Option (List (DName × Nat)) :=
  if s == "-" then some [] else
  (s.splitOn "+").mapM fun x =>
    match x.splitOn "=" with
    | [n, k] => do
      let k ← num 4 k
      if k = 0 then none else pure (← parseDName n, k)
    | _ => none

def showDName : DName → String
  | .u id => "u" ++ toString id
  | .a4 id port => "a4." ++ toString id ++ "." ++ toString port
  | .a6 id port => "a6." ++ toString id ++ "." ++ toString port

def bit (b : Bool) : String := if b then "1" else "0"

def showHanded (l : List Seen) : String :=
  (if l.isEmpty then "-" else ",".intercalate (l.map fun x =>
    showDName x.name ++ ":" ++ toString x.max ++ ":" ++ bit x.passive ++ ":" ++ bit x.avail)) ++ " 503"

/-- `-` or `hex:hex;hex:hex;…` -/
def parsePairs (s : String) : Option (List (Bytes × Bytes)) :=
  if s == "-" then some [] else
  (s.splitOn ";").mapM fun kv =>
    match kv.splitOn ":" with
    | [k, v] => do pure ((← Hex.decode k), (← Hex.decode v))
    | _ => none

def parseKeySrc (s : String) : Option KeySrc :=
  match s.splitOn ":" with
  | ["iph"] => some .ipHash
  | ["ciph"] => some .clientIpHash
  | ["urih"] => some .uriHash
  | ["hdr", f] => (Hex.decode f).map .header
  | ["qry", k] => (Hex.decode k).map .query
  | _ => none

/-- the probe pool of the `key` op: 8 available upstreams with the given hashes -/
def probePool (hs : List Nat) : Pool := hs.map fun h => ⟨0, true, 0, none, none, 0, 0, h⟩

def showSel : Res → String
  | .sel i => toString i
  | .none => "nil"
  | _ => "panic"

/-- cookie reference: `t<j>` = the token of probe upstream j, anything else matches no upstream -/
def tokenIdx (v : Bytes) : Option Nat :=
  match v with
  | 116 :: [d] => if 48 ≤ d ∧ d ≤ 55 then some (d.toNat - 48) else none
  | _ => none

/-- optional `-`, then strict decimal ≤ max -/
def sint (max : Nat) (s : String) : Option Int :=
  match s.toList with
  | '-' :: ds => (num max (String.ofList ds)).map (fun n => -(n : Int))
  | _ => (num max s).map (fun n => (n : Int))

def parseTok (s : String) : Option Tok :=
  match s.splitOn "." with
  | [t, l] => do pure ⟨← Hex.decode t, ← num 1000 l⟩
  | _ => none

def parseDurTable (s : String) : Option (List (Bytes × Int)) :=
  if s == "-" then some [] else
  (s.splitOn ",").mapM fun kv =>
    match kv.splitOn ":" with
    | [k, v] => do pure ((← Hex.decode k), (← sint max63 v))
    | _ => none

def durOf (tbl : List (Bytes × Int)) (t : Bytes) : Option Int := (tbl.find? (·.1 == t)).map (·.2)

def showInts (l : List Int) : String := ",".intercalate (l.map toString)

def showPNode : PNode → String
  | .simple k => "s" ++ toString k
  | .wrr ws => "wrr[" ++ showInts ws ++ "]"
  | .rc k => "rc[" ++ toString k ++ "]"
  | .query k => "qry[" ++ Hex.encode k ++ "]"
  | .header f => "hdr[" ++ Hex.encode f ++ "]"
  | .cookie n sec a => "ck[" ++ Hex.encode n ++ "," ++ Hex.encode sec ++ "," ++ toString a ++ "]"

def showCfRes : CfRes → String
  | .ok p => "ok " ++ ">".intercalate (p.map showPNode)
  | .err => "err"
  | .fuel => "model-out-of-fuel"

/-- `-` or `tokenhex:dialhex|dialhex,…` (`_` = no address at all) -/
def parseAddrTable (s : String) : Option (List (Bytes × List Bytes)) :=
  if s == "-" then some [] else
  (s.splitOn ",").mapM fun kv =>
    match kv.splitOn ":" with
    | [k, v] => do
      let k ← Hex.decode k
      let ds ← (if v == "_" then some [] else (v.splitOn "|").mapM Hex.decode)
      pure (k, ds)
    | _ => none

def addrOf (tbl : List (Bytes × List Bytes)) (t : Bytes) : Option (List Bytes) := (tbl.find? (·.1 == t)).map (·.2)

def showRp : Lr RpCfg → String
  | .err => "err"
  | .fuel => "model-out-of-fuel"
  | .ok c =>
    "ok ups=" ++ (if c.ups.isEmpty then "-" else ",".intercalate (c.ups.map Hex.encode))
      ++ " pol=" ++ (match c.pol with | none => "-" | some p => ">".intercalate (p.map showPNode))
      ++ " r=" ++ toString c.retries ++ " td=" ++ toString c.tryDur ++ " ti=" ++ toString c.tryInt
      ++ " p=" ++ (if c.passive then toString c.maxFails ++ "," ++ toString c.failDur ++ "," ++ toString c.urc else "-")

def showAh (s : AhState) : String :=
  "h" ++ (if s.healthy then "1" else "0") ++ ":" ++ toString s.passes ++ ":" ++ toString s.fails

def prxLine (mode pol cfg upsS script rnd : String) : String :=
  match parseProxyPolicy pol, parsePUps upsS, (script.splitOn ",").mapM parseEv, parseRand rnd with
  | some p, some ups, some evs, some ds =>
    match parsePCfg (mode == "dyn") cfg ups (strikesOf upsS) with
    | some c =>
      if (mode == "dyn" || mode == "sta") && ups.length ≤ 16 && decide (ups.map (·.id)).Nodup
          && evs.length ≤ 32 && scriptOK evs 0 then proxyAnswer p c evs ds
      else "bad-op"
    | none => "bad-op"
  | _, _, _, _ => "bad-op"

/-! ### `pd` lines: dial addresses with placeholders (`fillDialInfo` after `Select`) -/

/-- one request: `q` / `Q` (GET / POST) and one letter per upstream: `g` = the placeholder of its dial
    address is filled in with a good address, `r` port range, `m` named port, `w` reversed range,
    `z` port above 65535 = the dial info cannot be made -/
def parseDReq (n : Nat) (s : String) : Option (Bool × List Nat) :=
  match s.toList with
  | m :: ls =>
    if (m = 'q' || m = 'Q') && ls.length = n
        && ls.all (fun ch => ch = 'g' || ch = 'r' || ch = 'm' || ch = 'w' || ch = 'z') then
      some (m = 'q', (ls.zipIdx.filter (fun x => x.1 ≠ 'g')).map (·.2))
    else none
  | [] => none

def showDFin : DFin → String
  | .fin f => showFinal f
  | .dialInfo i => "di" ++ toString i

def showDOut (x : List (Option Nat) × DFin) : String := "/".intercalate (x.1.map showTried ++ [showDFin x.2])

def dStarved : List (Option Nat) × DFin → Bool
  | (_, .fin .starved) => true
  | _ => false

def pdAnswer (p : Policy) (c : PCfg) (rs : List (Bool × List Nat)) (ds : List Nat) : String :=
  match provision p with
  | none => "err:provision"
  | some p =>
    if (drun c (pinit p c ds) rs).1.any dStarved then "starved"
    else ",".intercalate ((drun c (pinit p c ds) rs).1.map showDOut)
      ++ " c=" ++ counterOf (drun c (pinit p c ds) rs).2.pol
      ++ " n=" ++ showNatList (drun c (pinit p c ds) rs).2.loads
      ++ " f=" ++ showNatList (drun c (pinit p c ds) rs).2.fails

def pdLine (mode pol cfg upsS reqs rnd : String) : String :=
  match parseProxyPolicy pol, parsePUps upsS, parseRand rnd with
  | some p, some ups, some ds =>
    match parsePCfg (mode == "dyn") cfg ups [], (reqs.splitOn ",").mapM (parseDReq ups.length) with
    | some c, some rs =>
      if (mode == "dyn" || mode == "sta") && 0 < ups.length && ups.length ≤ 8 && decide (ups.map (·.id)).Nodup
          && (strikesOf upsS).isEmpty && !c.cb && rs.length ≤ 16 then pdAnswer p c rs ds
      else "bad-op"
    | _, _ => "bad-op"
  | _, _, _ => "bad-op"

def handle : List String → String
  | ["ah", p, f, script] =>
    match num 20 p, num 20 f, (script.toList.mapM fun c => if c = 'p' then some true else if c = 'f' then some false else none) with
    | some p, some f, some rs =>
      if rs.isEmpty || 24 < rs.length then "bad-op"
      else ",".intercalate ((ahRun (ahThreshold p) (ahThreshold f) ahInit rs).map showAh)
    | _, _, _ => "bad-op"
  | ["sc", tls, trusted, xfp, ma] =>
    match optBool tls, optBool trusted, (if xfp == "-" then some [] else (xfp.splitOn ",").mapM Hex.decode), sint max63 ma with
    | some (some tls), some (some tr), some xfp, some ma =>
      "secure=" ++ (if (stickyAttrs tls tr xfp ma).secure then "1" else "0")
        ++ " ss=" ++ (if (stickyAttrs tls tr xfp ma).sameSiteNone then "none" else "-")
        ++ " ma=" ++ toString (stickyAttrs tls tr xfp ma).maxAge
    | _, _, _, _ => "bad-op"
  | ["tim", dms, ims] =>
    -- lb_try_duration / lb_try_interval on the real clock: checked by the harness's oracle only
    match num 2000 dms, num 2000 ims with
    | some d, some _ => if d = 0 then "bad-op" else "ok"
    | _, _ => "bad-op"
  | ["rp", toks, durs, addrs] =>
    match (toks.splitOn ",").mapM parseTok, parseDurTable durs, parseAddrTable addrs with
    | some toks, some tbl, some atbl =>
      if toks.length ≤ 64 then showRp (parseReverseProxy (durOf tbl) (addrOf atbl) toks) else "bad-op"
    | _, _, _ => "bad-op"
  | ["wr", kind, toks, durs, addrs] =>
    -- a reverse_proxy / forward_auth / php_fastcgi directive through the whole Caddyfile adapter
    match (if kind == "rp" then some WKind.rp else if kind == "fa" then some WKind.fa else if kind == "php" then some WKind.php else none),
          (toks.splitOn ",").mapM parseTok, parseDurTable durs, parseAddrTable addrs with
    | some k, some toks, some tbl, some atbl =>
      if toks.length ≤ 64 && wrapperCaseOK k toks then showRp (parseWrapper k (durOf tbl) (addrOf atbl) toks) else "bad-op"
    | _, _, _, _ => "bad-op"
  | ["cf", toks, durs] =>
    match (toks.splitOn ",").mapM parseTok, parseDurTable durs with
    | some toks, some tbl => if toks.length ≤ 48 then showCfRes (parseLbPolicy (durOf tbl) toks) else "bad-op"
    | _, _ => "bad-op"
  | ["key", src, remote, cip, uri, host, hdrs, qry, lkey, tbl] =>
    match parseKeySrc src, Hex.decode remote, Hex.decode cip, Hex.decode uri, Hex.decode host, parsePairs hdrs,
          parsePairs qry, parseNums max64 tbl with
    | some src, some remote, some cip, some uri, some host, some hdrs, some qry, some tbl =>
      match (if lkey == "fb" then some none else (Hex.decode lkey).map some) with
      | none => "bad-op"
      | some lk =>
        if (lk.isNone && tbl.length ≠ 0) || (lk.isSome && tbl.length ≠ 8) then "bad-op"
        else match hashKey src ⟨remote, cip, uri, host, C10.fromWire hdrs, qry, []⟩, lk with
          | none, none => "fb"
          | none, some _ => "fb"
          | some k, some l => if k = l then showSel (selHash (probePool tbl)) else "key:" ++ Hex.encode k
          | some k, none => "key:" ++ Hex.encode k
    | _, _, _, _, _, _, _, _ => "bad-op"
  | ["ck", name, cks] =>
    match Hex.decode name, parsePairs cks with
    | some name, some cks =>
      -- an empty name = none configured: `Provision` defaults it to `lb`
      match cookieValue (if name.isEmpty then str "lb" else name) cks with
      | some v => (match tokenIdx v with | some j => toString j | none => "fb")
      | none => "fb"
    | _, _ => "bad-op"
  | ["pd", mode, pol, cfg, upsS, reqs, rnd] => pdLine mode pol cfg upsS reqs rnd
  | ["prx", mode, pol, cfg, upsS, script, rnd] => prxLine mode pol cfg upsS script rnd
  -- a trailing `c`: the same configuration delivered as a Caddyfile — the same handler
  | ["prx", mode, pol, cfg, upsS, script, rnd, "c"] => prxLine mode pol cfg upsS script rnd
  | ["dy", cfg, static, kind, srcs, via, foreign] =>
    -- `via`: the configuration is delivered as JSON (j) or as a Caddyfile (c, p) — the same handler either way
    match parseDCfg cfg, parseDUps static, (if srcs == "-" then some [] else (srcs.splitOn ";").mapM parseSrc), parseForeign foreign with
    | some c, some st, some l, some fo =>
      if st.length ≤ 16 && l.length ≤ 8 && fo.length ≤ 4 && (via == "j" || via == "c" || via == "p") then
        match kind, l with
        | "none", [] => showHanded (handed c fo st .none)
        | "one", [x] => showHanded (handed c fo st (.one x))
        | "multi", l => showHanded (handed c fo st (.multi l))
        | _, _ => "bad-op"
      else "bad-op"
    | _, _, _, _ => "bad-op"
  | ["sel", pol, pool, n, v, rnd] =>
    match parsePolicy pol, parsePool pool, num 64 n, num small v, parseRand rnd with
    | some p, some pl, some n, some _, some ds => if n = 0 then "bad-op" else answer p pl n ds
    | _, _, _, _, _ => "bad-op"
  | _ => "bad-op"

end CaddyModel.C08
