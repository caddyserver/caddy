/-
C08 — helper lemmas about runs of selections: round robin walks through the available positions
of consecutive counter values, weighted round robin gives every upstream its share of the cycle.
-/
import CaddyModel.C08.Lemmas

namespace CaddyModel.C08

/-- a `W`-periodic test passes equally often in every window of length `W`: moving the window by one
    trades its first element for one that passes alike -/
theorem countP_window (p : Nat → Bool) (W : Nat) (hp : ∀ t, p (t + W) = p t) :
    ∀ s, (List.range' s W).countP p = (List.range' 0 W).countP p
  | 0 => rfl
  | s + 1 => by
    rw [← countP_window p W hp s]
    cases W with
    | zero => rfl
    | succ k =>
      rw [List.range'_succ (s := s), List.range'_1_concat (s := s + 1), List.countP_cons, List.countP_append,
        List.countP_singleton, show s + 1 + k = s + (k + 1) by omega, hp s]

theorem countP_window_mod (q : Nat → Bool) (n s : Nat) :
    (List.range' s n).countP (fun t => q (t % n)) = (List.range' 0 n).countP q := by
  rw [countP_window _ n (fun t => by simp)]
  exact List.countP_congr (fun t ht => by rw [Nat.mod_eq_of_lt (by simpa using ht)])

theorem countP_residue (n j s : Nat) (hj : j < n) :
    (List.range' s n).countP (fun t => decide (t % n = j)) = 1 :=
  (countP_window_mod (· == j) n s).trans
    ((List.count_range_1' (a := j)).trans (if_pos ⟨Nat.zero_le _, Nat.lt_of_lt_of_eq hj (Nat.zero_add n).symm⟩))

/-- the probe positions a run of round-robin selections walks over, filtered by availability -/
def rrProbes (pool : Pool) (s k : Nat) : List Nat :=
  (List.range' s k).filter (fun t => availB pool (t % pool.length))

theorem rrProbes_append (pool : Pool) (s k l : Nat) :
    rrProbes pool s (k + l) = rrProbes pool s k ++ rrProbes pool (s + k) l := by
  unfold rrProbes
  rw [← List.range'_append_1, List.filter_append]

theorem rrProbes_prefix (pool : Pool) (s : Nat) {k l : Nat} (h : k ≤ l) : rrProbes pool s k <+: rrProbes pool s l :=
  ⟨rrProbes pool (s + k) (l - k), by rw [← rrProbes_append, Nat.add_sub_of_le h]⟩

theorem rrProbes_one {pool : Pool} {s k : Nat} (hav : availB pool ((s + k) % pool.length) = true)
    (hno : ∀ t, s ≤ t → t < s + k → availB pool (t % pool.length) = false) : rrProbes pool s (k + 1) = [s + k] := by
  unfold rrProbes
  rw [List.range'_1_concat, List.filter_append, List.filter_eq_nil_iff.2 (fun t ht => by
    rw [hno t (List.mem_range'_1.1 ht).1 (List.mem_range'_1.1 ht).2]; nofun),
    List.filter_cons_of_pos (p := fun t => availB pool (t % pool.length)) hav]
  rfl

theorem rr_run (pool : Pool) (ha : anyAvail pool = true) (ds : List Nat) : ∀ (m c : Nat),
    c + m * pool.length < u32 →
    ∃ c', (run m (.rr c) pool ds).2 = .rr c' ∧ c ≤ c' ∧ c' ≤ c + m * pool.length ∧
      (run m (.rr c) pool ds).1 = (rrProbes pool (c + 1) (c' - c)).map (fun t => (Res.sel (t % pool.length), []))
  | 0, c, _ => ⟨c, rfl, Nat.le_refl _, by omega, by simp [run, rrProbes]⟩
  | m + 1, c, hc => by
    have hmul : (m + 1) * pool.length = m * pool.length + pool.length := Nat.succ_mul _ _
    obtain ⟨i, c1, h1, h2, h3, rfl, h5, h6⟩ := selRR_some (c := c) (by omega) ha
    obtain ⟨k, rfl⟩ := Nat.exists_eq_add_of_le (Nat.succ_le_of_lt h2)
    obtain ⟨c', g1, g2, g3, g4⟩ := rr_run pool ha ds m (c + 1 + k) (by omega)
    refine ⟨c', by simp only [run, select, h1, g1], by omega, by omega, ?_⟩
    simp only [run, select, h1, g4]
    rw [show c' - c = (k + 1) + (c' - (c + 1 + k)) by omega, rrProbes_append, rrProbes_one (availB_true.2 h5) h6]
    rfl

theorem run_length : ∀ (m : Nat) (p : Policy) (pool : Pool) (ds : List Nat), (run m p pool ds).1.length = m
  | 0, _, _, _ => rfl
  | m + 1, p, pool, ds => by simp [run, run_length m]

theorem countP_availB (pool : Pool) : ∀ (rest : Pool) (i : Nat), pool.drop i = rest →
    (List.range' i rest.length).countP (availB pool) = rest.countP Up.avail
  | [], _, _ => rfl
  | u :: rest, i, h => by
    rw [List.length_cons, List.range'_succ, List.countP_cons, List.countP_cons, availB_eq (drop_cons h).1,
      countP_availB pool rest (i + 1) (drop_cons h).2]

theorem rrProbes_cycle_length (pool : Pool) (s : Nat) : (rrProbes pool s pool.length).length = numAvail pool := by
  unfold rrProbes numAvail
  rw [← List.countP_eq_length_filter, ← List.countP_eq_length_filter, countP_window_mod (availB pool)]
  exact countP_availB pool pool 0 rfl

theorem rrProbes_numAvail (pool : Pool) (s d : Nat) (h : (rrProbes pool s d).length = numAvail pool) :
    rrProbes pool s d = rrProbes pool s pool.length := by
  have hc := h.trans (rrProbes_cycle_length pool s).symm
  rcases Nat.le_total d pool.length with hd | hd
  · exact (rrProbes_prefix pool s hd).eq_of_length hc
  · exact ((rrProbes_prefix pool s hd).eq_of_length hc.symm).symm

/-- the pool index owning position `cw` of the weight cycle: the `i` with
    `tot + w₀ + … + w_{i-1} ≤ cw < tot + w₀ + … + w_i` -/
def ownerGo : List Nat → Nat → Nat → Nat → Option Nat
  | [], _, _, _ => none
  | w :: ws, i, tot, cw => if cw < tot + w then some i else ownerGo ws (i + 1) (tot + w) cw

theorem ownerGo_spec (ws : List Nat) (i0 tot cw : Nat) (h0 : tot ≤ cw) (h : cw < tot + ws.sum) :
    ∃ k w, ownerGo ws i0 tot cw = some (i0 + k) ∧ wrrIndexGo ws i0 tot cw = i0 + k ∧ ws[k]? = some w ∧
      tot + (ws.take k).sum ≤ cw ∧ cw < tot + (ws.take k).sum + w := by
  fun_induction ownerGo ws i0 tot cw
  case case1 => exact absurd h (Nat.not_lt.2 h0)
  case case2 w ws i0 tot cw hc => exact ⟨0, w, rfl, by rw [wrrIndexGo, if_pos hc]; rfl, rfl, h0, hc⟩
  case case3 w ws i0 tot cw hc ih =>
    obtain ⟨k, w', h1, h2, h3, h4, h5⟩ := ih (Nat.le_of_not_lt hc) (by rw [List.sum_cons, ← Nat.add_assoc] at h; exact h)
    refine ⟨k + 1, w', by rw [h1, Nat.add_right_comm i0 1 k]; rfl, by rw [wrrIndexGo, if_neg hc, h2, Nat.add_right_comm i0 1 k]; rfl, h3, ?_, ?_⟩ <;>
      rw [List.take_succ_cons, List.sum_cons, ← Nat.add_assoc] <;> assumption

theorem countP_owner : ∀ (ws : List Nat) (i0 tot k : Nat),
    (List.range' tot ws.sum).countP (fun t => ownerGo ws i0 tot t == some (i0 + k)) = (ws[k]?).getD 0
  | [], _, _, _ => rfl
  | w :: ws, i0, tot, k => by
    -- the first `w` positions belong to `i0`, the others to the owners in `ws`, which are behind `i0`
    have hfirst : ∀ t ∈ List.range' tot w, ownerGo (w :: ws) i0 tot t = some i0 := fun t ht => by
      rw [ownerGo, if_pos (List.mem_range'_1.1 ht).2]
    have hsecond : ∀ t ∈ List.range' (tot + w) ws.sum, ownerGo (w :: ws) i0 tot t = ownerGo ws (i0 + 1) (tot + w) t := fun t ht => by
      rw [ownerGo, if_neg (Nat.not_lt.2 (List.mem_range'_1.1 ht).1)]
    rw [List.sum_cons, ← List.range'_append_1, List.countP_append]
    cases k with
    | zero =>
      rw [List.countP_eq_length.2 (fun t ht => by rw [hfirst t ht]; exact beq_self_eq_true _),
        List.countP_eq_zero.2 (fun t ht => ?_)]
      · simp
      · obtain ⟨k, _, h1, _⟩ := ownerGo_spec ws (i0 + 1) (tot + w) t (List.mem_range'_1.1 ht).1 (List.mem_range'_1.1 ht).2
        rw [hsecond t ht, h1]
        simp; omega
    | succ k =>
      rw [List.countP_eq_zero.2 (fun t ht => by rw [hfirst t ht]; simp), Nat.zero_add,
        List.countP_congr (fun t ht => by rw [hsecond t ht, ← Nat.add_assoc, Nat.add_right_comm i0 k 1]), countP_owner ws (i0 + 1) (tot + w) k]
      rfl

/-- the upstream owning counter value `t` in the cycle of the weights `ws` -/
def ownerRes (ws : List Nat) (t : Nat) : Res :=
  match ownerGo ws 0 0 (t % ws.sum) with
  | some i => .sel i
  | none => .none

/-- what weighted round robin returns at counter value `t` (two or more weights, a positive cycle) -/
def wrrRes (ws : List Nat) (pool : Pool) (t : Nat) : Res :=
  wrrScan (wrrEff ws pool) pool (wrrIndexGo (wrrEff ws pool) 0 0 (t % (wrrEff ws pool).sum)) (wrrEff ws pool).length 0

theorem selWRR_eq (ws : List Nat) (pool : Pool) (c : Nat) (hp : pool.length ≠ 0) (h2 : 2 ≤ ws.length)
    (hs : 0 < (wrrEff ws pool).sum) (hc : c + 1 < u32) : selWRR ws pool c = (wrrRes ws pool (c + 1), c + 1) := by
  rw [selWRR, wrrRes, if_neg hp, if_neg (Nat.not_lt.2 h2), if_neg (Nat.ne_of_gt hs), inc32_of_lt hc]

theorem wrrRes_char (ws : List Nat) (pool : Pool) (t : Nat) (hs : 0 < (wrrEff ws pool).sum) :
    ∃ o w, ownerGo (wrrEff ws pool) 0 0 (t % (wrrEff ws pool).sum) = some o ∧ (wrrEff ws pool)[o]? = some w ∧ 0 < w ∧
      wOffset (wrrEff ws pool) o ≤ t % (wrrEff ws pool).sum ∧ t % (wrrEff ws pool).sum < wOffset (wrrEff ws pool) o + w ∧
      wrrRes ws pool t = wrrScan (wrrEff ws pool) pool o (wrrEff ws pool).length 0 := by
  obtain ⟨k, w, h1, h2, h3, h4, h5⟩ := ownerGo_spec (wrrEff ws pool) 0 0 (t % (wrrEff ws pool).sum) (Nat.zero_le _)
    (by rw [Nat.zero_add]; exact Nat.mod_lt _ hs)
  rw [Nat.zero_add] at h1 h2 h4 h5
  exact ⟨k, w, h1, h3, by omega, h4, h5, by rw [wrrRes, h2]⟩

theorem wrrRes_owner_usable (ws : List Nat) (pool : Pool) (t o : Nat)
    (hown : ownerGo (wrrEff ws pool) 0 0 (t % (wrrEff ws pool).sum) = some o)
    (hu : wrrUsable ws pool o = true) : wrrRes ws pool t = .sel o := by
  obtain ⟨_, w, _, hw, _, hpos⟩ := wrrUsable_iff.1 (wrrUsable_eff (ws := ws) ▸ hu)
  have hlt : o < (wrrEff ws pool).length := (List.getElem?_eq_some_iff.1 hw).1
  obtain ⟨o', _, h1, _, _, _, _, hr⟩ := wrrRes_char ws pool t (Nat.lt_of_lt_of_le hpos (get_le_sum hw))
  cases h1.symm.trans hown
  rw [hr, show (wrrEff ws pool).length = (wrrEff ws pool).length - 1 + 1 by omega, wrrScan, Nat.add_zero,
    Nat.mod_eq_of_lt hlt, if_pos (wrrUsable_eff.trans hu)]

theorem wrr_run (ws : List Nat) (pool : Pool) (ds : List Nat) (hp : pool.length ≠ 0) (h2 : 2 ≤ ws.length)
    (hs : 0 < (wrrEff ws pool).sum) : ∀ (m c : Nat), c + m < u32 →
    (run m (.wrr ws c) pool ds).1.map (·.1) = (List.range' (c + 1) m).map (wrrRes ws pool) ∧
    (run m (.wrr ws c) pool ds).2 = .wrr ws (c + m)
  | 0, c, _ => ⟨rfl, rfl⟩
  | m + 1, c, hc => by
    obtain ⟨g1, g2⟩ := wrr_run ws pool ds hp h2 hs m (c + 1) (by omega)
    simp only [run, select, selWRR_eq ws pool c hp h2 hs (by omega), List.map_cons, List.range'_succ, g1, g2,
      Nat.add_right_comm c 1 m, Nat.add_assoc, and_self]

theorem countP_cycle_owner (ws : List Nat) (c i w : Nat) (hw : ws[i]? = some w) :
    (List.range' (c + 1) ws.sum).countP (fun t => ownerGo ws 0 0 (t % ws.sum) == some i) = w := by
  have hown := countP_owner ws 0 0 i
  rw [Nat.zero_add, hw, Option.getD_some] at hown
  rw [countP_window_mod (fun t => ownerGo ws 0 0 t == some i)]
  exact hown

end CaddyModel.C08
