/-
C08 — the glue in front of the policies: how `lb_policy <name> [args] { … }` of a Caddyfile becomes
a selection policy configuration (selectionpolicies.go: the twelve `UnmarshalCaddyfile` methods and
`loadFallbackPolicy`; caddyfile/adapter.go `UnmarshalModule`; caddyfile/dispenser.go `Next`,
`NextArg`, `nextOnSameLine`, `NextBlock`, `RemainingArgs`, `NextSegment`, `Prev`, `Val`).

The dispenser is modelled as what it is: a cursor over a flat list of tokens (text, line) plus a
nesting counter — braces are ordinary tokens, "same line" compares line numbers. Tokens are plain
(one file, no imports, no line breaks inside a token), so `isNextOnNewLine t1 t2 = t1.line < t2.line`.
`strconv.Atoi` is C16's transliteration; `caddy.ParseDuration` is a parameter (`dur`: token ↦
nanoseconds, supplied by the harness for the tokens of the case). Loops run on a fuel of
"number of tokens + 2", the nested `UnmarshalModule` calls (`parseSel`) on twice that: a segment has
at most three tokens more than the list it is cut from. Core Lean only.
-/
import CaddyModel.C16.Args
import CaddyModel.C08.Model

namespace CaddyModel.C08

structure Tok where
  text : Bytes
  line : Nat
deriving DecidableEq, Repr

/-- `cur` = cursor + 1 (0 = the fresh dispenser's cursor -1) -/
structure Disp where
  toks : List Tok
  cur : Nat
  nest : Nat
deriving DecidableEq, Repr

def lbrace : Bytes := [123]
def rbrace : Bytes := [125]

/-- `Val()` -/
def Disp.val (d : Disp) : Bytes :=
  match d.cur with
  | 0 => []
  | c + 1 => match d.toks[c]? with
    | some t => t.text
    | none => []

/-- `Token()` -/
def Disp.tok (d : Disp) : Tok :=
  match d.cur with
  | 0 => ⟨[], 0⟩
  | c + 1 => match d.toks[c]? with
    | some t => t
    | none => ⟨[], 0⟩

/-- `Next()` -/
def Disp.next (d : Disp) : Bool × Disp :=
  if d.cur < d.toks.length then (true, { d with cur := d.cur + 1 }) else (false, d)

/-- `Prev()` -/
def Disp.prev (d : Disp) : Disp := { d with cur := d.cur - 1 }

/-- `nextOnSameLine()` -/
def Disp.nextOnSameLine (d : Disp) : Bool × Disp :=
  match d.cur with
  | 0 => (true, { d with cur := 1 })
  | c + 1 =>
    match d.toks[c]?, d.toks[c + 1]? with
    | some t1, some t2 => if t1.line < t2.line then (false, d) else (true, { d with cur := c + 2 })
    | _, _ => (false, d)

/-- `NextArg()` -/
def Disp.nextArg (d : Disp) : Bool × Disp :=
  if d.nextOnSameLine.1 then
    if d.nextOnSameLine.2.val = lbrace then (false, d.nextOnSameLine.2.prev) else (true, d.nextOnSameLine.2)
  else (false, d.nextOnSameLine.2)

/-- `NextBlock(init)` -/
def Disp.nextBlock (d : Disp) (init : Nat) : Bool × Disp :=
  if init < d.nest then
    if d.next.1 then
      if d.next.2.val = rbrace ∧ d.next.2.nextOnSameLine.1 = false then
        (decide (init < d.next.2.nest - 1), { d.next.2.nextOnSameLine.2 with nest := d.next.2.nest - 1 })
      else if d.next.2.val = lbrace ∧ d.next.2.nextOnSameLine.1 = false then
        (decide (init < d.next.2.nest + 1), { d.next.2.nextOnSameLine.2 with nest := d.next.2.nest + 1 })
      else
        -- `&&` short-circuits: nextOnSameLine runs (and may move the cursor) only for a brace
        if d.next.2.val = rbrace ∨ d.next.2.val = lbrace then
          (decide (init < d.next.2.nest), d.next.2.nextOnSameLine.2)
        else (decide (init < d.next.2.nest), d.next.2)
    else (false, d.next.2)
  else if d.nextOnSameLine.1 = false then (false, d.nextOnSameLine.2)
  else if d.nextOnSameLine.2.val ≠ lbrace then (false, d.nextOnSameLine.2.prev)
  else if d.nextOnSameLine.2.next.2.val = rbrace then (false, d.nextOnSameLine.2.next.2)
  else (true, { d.nextOnSameLine.2.next.2 with nest := d.nextOnSameLine.2.next.2.nest + 1 })

/-- `RemainingArgs()` -/
def remainingArgs : Nat → Disp → List Bytes × Disp
  | 0, d => ([], d)
  | fuel + 1, d =>
    if d.nextArg.1 then
      (d.nextArg.2.val :: (remainingArgs fuel d.nextArg.2).1, (remainingArgs fuel d.nextArg.2).2)
    else ([], d.nextArg.2)

/-- the first loop of `NextSegment()`: the arguments on the line, as tokens -/
def segArgs : Nat → Disp → List Tok × Disp
  | 0, d => ([], d)
  | fuel + 1, d =>
    if d.nextArg.1 then (d.nextArg.2.tok :: (segArgs fuel d.nextArg.2).1, (segArgs fuel d.nextArg.2).2)
    else ([], d.nextArg.2)

/-- the second loop of `NextSegment()`: the tokens of the block (opening brace included by the
    caller), until `NextBlock(nesting)` says no -/
def segBlock (init : Nat) : Nat → Bool → Disp → List Tok × Bool × Disp
  | 0, opened, d => ([], opened, d)
  | fuel + 1, opened, d =>
    if (d.nextBlock init).1 then
      if opened then
        ((d.nextBlock init).2.tok :: (segBlock init fuel true (d.nextBlock init).2).1,
          (segBlock init fuel true (d.nextBlock init).2).2)
      else
        -- rewind to append the opening brace
        ((d.nextBlock init).2.prev.tok :: (d.nextBlock init).2.tok :: (segBlock init fuel true (d.nextBlock init).2).1,
          (segBlock init fuel true (d.nextBlock init).2).2)
    else ([], opened, (d.nextBlock init).2)

/-- `NextSegment()` -/
def nextSegment (d : Disp) : List Tok × Disp :=
  (d.tok :: (segArgs (d.toks.length + 2) d).1
      ++ (segBlock (segArgs (d.toks.length + 2) d).2.nest (d.toks.length + 2) false (segArgs (d.toks.length + 2) d).2).1
      ++ (if (segBlock (segArgs (d.toks.length + 2) d).2.nest (d.toks.length + 2) false (segArgs (d.toks.length + 2) d).2).2.1
          then [(segBlock (segArgs (d.toks.length + 2) d).2.nest (d.toks.length + 2) false (segArgs (d.toks.length + 2) d).2).2.2.tok]
          else []),
    (segBlock (segArgs (d.toks.length + 2) d).2.nest (d.toks.length + 2) false (segArgs (d.toks.length + 2) d).2).2.2)

/-! ### the policies -/

/-- what `UnmarshalCaddyfile` leaves in one module -/
inductive PNode where
  | simple (kind : Nat)   -- 0 random, 1 least_conn, 2 round_robin, 3 first, 4 ip_hash, 5 client_ip_hash, 6 uri_hash
  | wrr (weights : List Int)
  | rc (choose : Int)
  | query (key : Bytes)
  | header (field : Bytes)
  | cookie (name secret : Bytes) (maxAge : Int)
deriving DecidableEq, Repr

/-- a policy with its chain of explicitly configured fallbacks (`FallbackRaw`), outermost first;
    a query / header / cookie node at the end has no fallback configured -/
abbrev PolCfg := List PNode

inductive CfRes where
  | ok (p : PolCfg)
  | err           -- `UnmarshalCaddyfile` / `UnmarshalModule` returns an error
  | fuel
deriving DecidableEq, Repr

def simpleKind (name : Bytes) : Option Nat :=
  if name = str "random" then some 0 else if name = str "least_conn" then some 1
  else if name = str "round_robin" then some 2 else if name = str "first" then some 3
  else if name = str "ip_hash" then some 4 else if name = str "client_ip_hash" then some 5
  else if name = str "uri_hash" then some 6 else none

/-- every weight parses and is not negative -/
def weightsOf : List Bytes → Option (List Int)
  | [] => some []
  | a :: rest =>
    match C16.atoi a, weightsOf rest with
    | some v, some ws => if v < 0 then none else some (v :: ws)
    | _, _ => none

/-- result of a loop / step: a value, an error returned by the code, or the model's fuel ran out -/
inductive Lr (σ : Type) where
  | ok (v : σ)
  | err
  | fuel
deriving DecidableEq, Repr

/-- state of the `for d.NextBlock(0)` loops of query / header / cookie -/
structure BlkState where
  fb : Option PolCfg
  maxAge : Int
deriving DecidableEq, Repr

/-- `for d.NextBlock(0) { switch d.Val() { … } }`; `err` = an error is returned;
    `cookie`: is `max_age` a known option? `loadFallback` = `UnmarshalModule` on a segment; the first
    number bounds the iterations -/
def blockLoop (dur : Bytes → Option Int) (cookie : Bool) (loadFallback : List Tok → CfRes) :
    Nat → Disp → BlkState → Lr BlkState
  | 0, _, _ => .fuel
  | n + 1, d, st =>
    if (d.nextBlock 0).1 then
      if (d.nextBlock 0).2.val = str "fallback" then
        if (d.nextBlock 0).2.nextArg.1 then
          if st.fb.isSome then .err   -- fallback selection policy already specified
          else
            -- loadFallbackPolicy: UnmarshalModule on the next segment
            match loadFallback (nextSegment (d.nextBlock 0).2.nextArg.2).1 with
            | .ok p => blockLoop dur cookie loadFallback n (nextSegment (d.nextBlock 0).2.nextArg.2).2 { st with fb := some p }
            | .err => .err
            | .fuel => .fuel
        else .err
      else if cookie ∧ (d.nextBlock 0).2.val = str "max_age" then
        if (d.nextBlock 0).2.nextArg.1 then
          if st.maxAge ≠ 0 then .err   -- cookie max_age already specified
          else match dur (d.nextBlock 0).2.nextArg.2.val with
            | none => .err
            | some v =>
              if v ≤ 0 then .err
              else if (d.nextBlock 0).2.nextArg.2.nextArg.1 then .err
              else blockLoop dur cookie loadFallback n (d.nextBlock 0).2.nextArg.2.nextArg.2 { st with maxAge := v }
        else .err
      else .err   -- unrecognized option
    else .ok st
/-- `UnmarshalModule(d, "…selection_policies."+name)` on the tokens of a segment -/
def parseSel (dur : Bytes → Option Int) : Nat → List Tok → CfRes
  | 0, _ => .fuel
  | fuel + 1, seg =>
    match seg with
    | [] => .err
    | t0 :: _ =>
      -- d := NewDispenser(seg)
      match simpleKind t0.text with
      | some k =>
        -- d.Next(); if d.NextArg() { return d.ArgErr() }
        if ((Disp.mk seg 0 0).next.2).nextArg.1 then .err else .ok [.simple k]
      | none =>
        if t0.text = str "weighted_round_robin" then
          match (remainingArgs (seg.length + 2) (Disp.mk seg 0 0).next.2).1 with
          | [] => .err
          | args => match weightsOf args with
            | some ws => .ok [.wrr ws]
            | none => .err
        else if t0.text = str "random_choose" then
          if ((Disp.mk seg 0 0).next.2).nextArg.1 then
            match C16.atoi ((Disp.mk seg 0 0).next.2).nextArg.2.val with
            | some v => .ok [.rc v]
            | none => .err
          else .err
        else if t0.text = str "query" ∨ t0.text = str "header" then
          if ((Disp.mk seg 0 0).next.2).nextArg.1 then
            match blockLoop dur false (parseSel dur fuel) (seg.length + 2) ((Disp.mk seg 0 0).next.2).nextArg.2 ⟨none, 0⟩ with
            | .ok st =>
              if t0.text = str "query" then .ok (.query ((Disp.mk seg 0 0).next.2).nextArg.2.val :: st.fb.getD [])
              else .ok (.header ((Disp.mk seg 0 0).next.2).nextArg.2.val :: st.fb.getD [])
            | .err => .err
            | .fuel => .fuel
          else .err
        else if t0.text = str "cookie" then
          -- args := d.RemainingArgs() on the fresh dispenser: the policy name is args[0]
          match (remainingArgs (seg.length + 2) (Disp.mk seg 0 0)).1 with
          | [_] =>
            (match blockLoop dur true (parseSel dur fuel) (seg.length + 2) (remainingArgs (seg.length + 2) (Disp.mk seg 0 0)).2 ⟨none, 0⟩ with
              | .ok st => .ok (.cookie [] [] st.maxAge :: st.fb.getD [])
              | .err => .err
              | .fuel => .fuel)
          | [_, n] =>
            (match blockLoop dur true (parseSel dur fuel) (seg.length + 2) (remainingArgs (seg.length + 2) (Disp.mk seg 0 0)).2 ⟨none, 0⟩ with
              | .ok st => .ok (.cookie n [] st.maxAge :: st.fb.getD [])
              | .err => .err
              | .fuel => .fuel)
          | [_, n, s] =>
            (match blockLoop dur true (parseSel dur fuel) (seg.length + 2) (remainingArgs (seg.length + 2) (Disp.mk seg 0 0)).2 ⟨none, 0⟩ with
              | .ok st => .ok (.cookie n s st.maxAge :: st.fb.getD [])
              | .err => .err
              | .fuel => .fuel)
          | _ => .err
        else .err   -- no such module

/-- `lb_policy <name> …`: the dispenser stands on the policy name; `UnmarshalModule` cuts out the
    segment that starts there (`NewFromNextSegment`) and hands it to the module -/
def parseLbPolicy (dur : Bytes → Option Int) (toks : List Tok) : CfRes :=
  parseSel dur (2 * toks.length + 4) (nextSegment (Disp.mk toks 0 0).next.2).1

/-! ### the `reverse_proxy` directive: upstreams, `lb_*` and passive health options
(reverseproxy/caddyfile.go `Handler.UnmarshalCaddyfile`: the upstream arguments, and of the block
loop the subdirectives `to`, `lb_policy`, `lb_retries`, `lb_try_duration`, `lb_try_interval`,
`max_fails`, `fail_duration`, `unhealthy_request_count`; every other subdirective is outside this
model and answered `err` like an unknown one). `parseUpstreamDialAddress` + `ParseNetworkAddress`
are a parameter (`addr`: token ↦ the dial addresses it stands for, `none` = rejected), upstream
tokens carry no URL scheme. -/

/-- what `UnmarshalCaddyfile` has filled in so far -/
structure RpCfg where
  ups : List Bytes            -- `h.Upstreams[i].Dial`
  pol : Option PolCfg         -- `h.LoadBalancing.SelectionPolicyRaw`
  retries : Int               -- `h.LoadBalancing.Retries`
  tryDur : Int                -- `TryDuration`
  tryInt : Int                -- `TryInterval`
  passive : Bool              -- `h.HealthChecks.Passive` is allocated
  maxFails : Int
  failDur : Int
  urc : Int                   -- `UnhealthyRequestCount`
deriving DecidableEq, Repr

def RpCfg.empty : RpCfg := ⟨[], none, 0, 0, 0, false, 0, 0, 0⟩

/-- `for _, up := range args { appendUpstream(up) }`; `none` = an address is rejected -/
def appendUps (addr : Bytes → Option (List Bytes)) : List Bytes → List Bytes → Option (List Bytes)
  | [], acc => some acc
  | a :: rest, acc =>
    match addr a with
    | some ds => appendUps addr rest (acc ++ ds)
    | none => none

/-- one iteration of the block loop, the dispenser standing on the subdirective's name;
    `err` = an error is returned -/
def rpStep (dur : Bytes → Option Int) (addr : Bytes → Option (List Bytes)) (d : Disp) (st : RpCfg) : Lr (Disp × RpCfg) :=
  if d.val = str "to" then
    match (remainingArgs (d.toks.length + 2) d).1 with
    | [] => .err
    | args => match appendUps addr args st.ups with
      | some ups => .ok ((remainingArgs (d.toks.length + 2) d).2, { st with ups := ups })
      | none => .err
  else if d.val = str "lb_policy" then
    if d.nextArg.1 then
      if st.pol.isSome then .err   -- load balancing selection policy already specified
      else match parseSel dur (2 * d.toks.length + 4) (nextSegment d.nextArg.2).1 with
        | .ok p => .ok ((nextSegment d.nextArg.2).2, { st with pol := some p })
        | .err => .err
        | .fuel => .fuel
    else .err
  else if d.val = str "lb_retries" then
    if d.nextArg.1 then
      match C16.atoi d.nextArg.2.val with
      | some v => .ok (d.nextArg.2, { st with retries := v })
      | none => .err
    else .err
  else if d.val = str "lb_try_duration" then
    if d.nextArg.1 then
      match dur d.nextArg.2.val with
      | some v => .ok (d.nextArg.2, { st with tryDur := v })
      | none => .err
    else .err
  else if d.val = str "lb_try_interval" then
    if d.nextArg.1 then
      match dur d.nextArg.2.val with
      | some v => .ok (d.nextArg.2, { st with tryInt := v })
      | none => .err
    else .err
  else if d.val = str "max_fails" then
    if d.nextArg.1 then
      match C16.atoi d.nextArg.2.val with
      | some v => .ok (d.nextArg.2, { st with passive := true, maxFails := v })
      | none => .err
    else .err
  else if d.val = str "fail_duration" then
    if d.nextArg.1 then
      match dur d.nextArg.2.val with
      | some v => .ok (d.nextArg.2, { st with passive := true, failDur := v })
      | none => .err
    else .err
  else if d.val = str "unhealthy_request_count" then
    if d.nextArg.1 then
      match C16.atoi d.nextArg.2.val with
      | some v => .ok (d.nextArg.2, { st with passive := true, urc := v })
      | none => .err
    else .err
  else .err   -- unrecognized subdirective (or one outside this model)

/-- `for d.NextBlock(0) { … }` -/
def rpLoop (dur : Bytes → Option Int) (addr : Bytes → Option (List Bytes)) : Nat → Disp → RpCfg → Lr RpCfg
  | 0, _, _ => .fuel
  | n + 1, d, st =>
    if (d.nextBlock 0).1 then
      match rpStep dur addr (d.nextBlock 0).2 st with
      | .ok (d', st') => rpLoop dur addr n d' st'
      | .err => .err
      | .fuel => .fuel
    else .ok st

/-- `Handler.UnmarshalCaddyfile` on the tokens of the directive (the first is `reverse_proxy`) -/
def parseReverseProxy (dur : Bytes → Option Int) (addr : Bytes → Option (List Bytes)) (toks : List Tok) : Lr RpCfg :=
  match appendUps addr (remainingArgs (toks.length + 2) (Disp.mk toks 0 0).next.2).1 [] with
  | some ups => rpLoop dur addr (toks.length + 2) (remainingArgs (toks.length + 2) (Disp.mk toks 0 0).next.2).2 { RpCfg.empty with ups := ups }
  | none => .err

end CaddyModel.C08
