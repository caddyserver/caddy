import CaddyModel.C08.Props
import CaddyModel.C08.Witness
open CaddyModel.C08
#print axioms available_iff
#print axioms select_returns_available
#print axioms weightedRR_returns_available_with_positive_weight
#print axioms select_some_if_any_available_partial
#print axioms weightedRR_some_if_any_available
#print axioms select_never_panics_of_nilSafe
#print axioms select_never_panics
#print axioms first_is_earliest
#print axioms roundRobin_next_partial
#print axioms roundRobin_cycles_partial
#print axioms roundRobin_each_available_once_per_cycle_partial
#print axioms roundRobin_none
#print axioms leastConn_minimal
#print axioms randomChoose_minimal
#print axioms randomChoose_at_least_that_many_not_less_loaded
#print axioms weightedRR_honours_weights
#print axioms weightedRR_counts_at_least_weight
#print axioms weightedRR_counts_exact
#print axioms hash_result
#print axioms hash_sticky
#print axioms hash_picks_highest
#print axioms hash_stable_under_removal_of_others
#print axioms hash_stable_under_failure_of_others
#print axioms hash_stable_under_addition
#print axioms hash_addition_keeps_some
#print axioms keyed_present_is_hash
#print axioms keyed_absent_is_fallback
#print axioms cookie_follows_valid_cookie
#print axioms cookie_sets_cookie_of_selected
#print axioms cookie_round_trip
#print axioms own_max_requests_overrides_unhealthy_request_count
#print axioms proxy_loads_are_requests_in_flight
#print axioms proxy_sends_only_below_limit
#print axioms proxy_never_exceeds_request_limit
#print axioms proxy_failed_upstream_not_tried_again
#print axioms proxy_attempts_bounded
#print axioms proxy_gives_up_early_only_if_not_retryable
#print axioms proxy_refuses_only_when_nothing_available
#print axioms proxy_open_breaker_proxies_nothing
#print axioms proxy_retry_rule
#print axioms proxy_retry_match_rule
#print axioms proxy_failure_of_held_request_is_counted
#print axioms proxy_upstream_of_failed_held_request_is_down
#print axioms proxy_failed_held_request_moves_on
#print axioms proxy_bad_status_is_a_strike
#print axioms proxy_held_request_remembers_its_retries
#print axioms handed_upstreams_are_provisioned
#print axioms dynamic_source_error_falls_back_to_static
#print axioms multi_source_is_concatenation
#print axioms host_state_is_shared_by_dial_address
#print axioms a_source_versions_and_port
#print axioms hashKey_reads_only_its_source
#print axioms ipHash_key_ignores_port
#print axioms clientIpHash_key_ignores_port
#print axioms ipHash_key_whole_if_unsplittable
#print axioms header_key
#print axioms query_key
#print axioms cookie_first_cookie_wins
#print axioms caddyfile_weights_in_order
#print axioms caddyfile_bad_weights_rejected
#print axioms caddyfile_lb_policy_never_runs_out_of_fuel
#print axioms caddyfile_reverse_proxy_never_runs_out_of_fuel
#print axioms caddyfile_argument_loops_have_fuel_to_spare
#print axioms caddyfile_simple_policy
#print axioms caddyfile_header_field_verbatim
#print axioms caddyfile_second_fallback_rejected
#print axioms caddyfile_second_lb_policy_rejected
#print axioms caddyfile_lb_retries
#print axioms caddyfile_unhealthy_request_count
#print axioms sticky_cookie_secure_iff
#print axioms sticky_cookie_ignores_untrusted_forwarded_proto
#print axioms sticky_cookie_samesite_none_iff_secure
#print axioms ahStep_one_one
#print axioms activeHealth_default_thresholds_flag_is_last_result
#print axioms random_never_runs_out_of_draws
#print axioms leastConn_never_runs_out_of_draws
#print axioms randomChoose_never_runs_out_of_draws
#print axioms dialinfo_failure_ends_request
#print axioms dialinfo_failure_touches_no_counter
#print axioms dialinfo_only_filled_addresses_are_dialled
#print axioms dialinfo_all_filled_is_plain_loop
#print axioms dialinfo_failed_upstream_was_available
#print axioms first_keeps_selecting_unfillable_upstream
#print axioms wrapper_strip_rp_is_identity
#print axioms groupLines_flatten
#print axioms wrapper_rp_is_reverse_proxy
#print axioms forward_auth_requires_uri
#print axioms roundRobin_some_if_any_available_full_fails
#print axioms roundRobin_cycles_full_fails
#print axioms weightedRR_never_panics_old_code_fails_index
#print axioms weightedRR_never_panics_old_code_fails_divide
#print axioms weightedRR_honours_weights_old_code_fails
#print axioms weightedRR_honours_weights_old_code_fails_short_pool
#print axioms activeHealth_counts_are_cumulative_observation
#print axioms activeHealth_counts_are_cumulative_observation_passes
