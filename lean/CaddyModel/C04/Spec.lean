/-
C04 — the small abstract account the property talks about: a usage pool whose operations
take effect ATOMICALLY.  Per key the pool is

  absent | pending n | live v n

`pending n`: a constructor is running, `n` callers (the constructing one included) wait for
its outcome; `live v n`: value `v` is shared by `n` callers.  Released values and destructor calls have no
component at this level: the destructor clauses of the property are stated on the concrete net (`Props.lean`).

A concrete execution is linearizable if every lock region of the Go code is either invisible
at this level (a stutter) or exactly one of these atomic steps — `Props.refines_spec`.
-/
import CaddyModel.C04.Model

namespace CaddyModel.C04

inductive KeyState where
  | absent
  | pending (n : Nat)
  | live (v : Nat) (n : Nat)
deriving DecidableEq, Repr

abbrev Abs := Nat → KeyState

inductive SpecLabel where
  | tau                       -- not visible in the pool
  | begin (k : Nat)           -- first caller of an absent key starts constructing
  | join (k : Nat)            -- a further caller attaches to a pending or live key
  | commit (k v : Nat)        -- the constructor succeeded with value v
  | abort (k : Nat)           -- the constructor failed: the key is absent again
  | store (k v : Nat)         -- LoadOrStore on an absent key
  | release (k : Nat)         -- Delete: one reference fewer; the last one removes the key
deriving DecidableEq, Repr

def setKey (a : Abs) (k : Nat) (x : KeyState) : Abs := fun i => if i = k then x else a i

/-- the atomic pool -/
inductive SpecStep : Abs → SpecLabel → Abs → Prop where
  | tau (a) : SpecStep a .tau a
  | begin (a k) : a k = .absent → SpecStep a (.begin k) (setKey a k (.pending 1))
  | joinPending (a k n) : a k = .pending n → SpecStep a (.join k) (setKey a k (.pending (n + 1)))
  | joinLive (a k v n) : a k = .live v n → SpecStep a (.join k) (setKey a k (.live v (n + 1)))
  | commit (a k v n) : a k = .pending n → SpecStep a (.commit k v) (setKey a k (.live v n))
  | abort (a k n) : a k = .pending n → SpecStep a (.abort k) (setKey a k .absent)
  | store (a k v) : a k = .absent → SpecStep a (.store k v) (setKey a k (.live v 1))
  | releaseSome (a k v n) : a k = .live v (n + 2) → SpecStep a (.release k) (setKey a k (.live v (n + 1)))
  | releaseLast (a k v) : a k = .live v 1 → SpecStep a (.release k) (setKey a k .absent)

/-- what one entry in the map means: no value yet = its constructor is pending -/
def entryState (E : Entry) : KeyState :=
  match E.value with
  | none => .pending E.refs.toNat
  | some v => .live v E.refs.toNat

/-- abstraction map: what the map of the concrete state means -/
def absKey (s : G) (k : Nat) : KeyState :=
  match s.pool k with
  | none => .absent
  | some e => entryState (s.ent e)

def abs (s : G) : Abs := fun k => absKey s k

/-- the atomic step a lock region amounts to (computed in the state before the region) -/
def specLabel (s : G) : Label → SpecLabel
  | .lnLookup k => match s.pool k with
    | none => .begin k
    | some _ => .join k
  | .ctorOk e => .commit (s.ent e).key s.nextVal
  | .lnFailDel e => .abort (s.ent e).key
  | .lsLookup k => match s.pool k with
    | none => .store k s.nextVal
    | some _ => .join k
  | .lspLookup k => match s.pool k with
    | none => .store k s.nextVal
    | some _ => .join k
  | .del1 k _ => .release k
  | _ => .tau

end CaddyModel.C04
