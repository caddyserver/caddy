/-
C04 — property theorems.

Statement: for a usage pool used concurrently, each key has at most one live value at a time:
its constructor runs once per live period and its destructor runs exactly once, after the last
holder released it and never earlier.  No caller ever receives a value whose destructor has
already run or runs before that caller's own release, a failed constructor leaves the key
absent, and the reported reference count always equals successful acquisitions minus releases.

Quantifier: all interleavings.  Here: every state `s` with `Reachable s`, i.e. reached from the
empty pool by ANY finite sequence of lock regions (`Label`s) of ANY number of goroutines on ANY
keys, with ONE explicit, decidable exclusion (`excluded`): a `Delete` by a caller that holds
nothing (the documented client contract).  (`Witness.lean` states what the code did before its repairs
as `…_old_code_fails` theorems.)
A caller "holds" entry `e` from the region that hands it `e`'s value to the first region of its
`Delete` (`holders`).
-/
import CaddyModel.C04.Refine
import CaddyModel.C04.Values
import CaddyModel.C04.ClientTrace
-- no proof below uses these two; the root of the library reaches them through this module
import CaddyModel.C04.Witness
import CaddyModel.C04.GenTie

namespace CaddyModel.C04

/-- **one live value.** Among all entries ever created for a key, at most one is in the map or
    has a holder — and if one has a holder, it is the one in the map. -/
theorem one_live_value {s : G} (h : Reachable s) {e e' : Nat} (he : e < s.next) (he' : e' < s.next)
    (hk : (s.ent e).key = (s.ent e').key)
    (hl : 0 < (s.ent e).holders ∨ inPool s e = true) (hl' : 0 < (s.ent e').holders ∨ inPool s e' = true) :
    e = e' := by
  have hi := inv_reachable h
  have mapped : ∀ {i}, i < s.next → 0 < (s.ent i).holders ∨ inPool s i = true → s.pool (s.ent i).key = some i :=
    fun hi' hl => hl.elim (fun hh => (pool_of_holder hi hi' hh rfl).1) pool_of_inPool
  have p1 := mapped he hl
  have p2 := mapped he' hl'
  rw [hk, p2] at p1
  exact (Option.some.inj p1).symm

/-- a key that is absent from the map has no holder at all: the constructor of a new value
    (which starts only in the `lnLookup` region that finds the key absent) never runs while an
    earlier value of the key is still held -/
theorem ctor_starts_only_when_key_unheld {s : G} (h : Reachable s) {k e : Nat} (hp : s.pool k = none)
    (he : e < s.next) (hk : (s.ent e).key = k) : (s.ent e).holders = 0 := by
  by_cases hh : 0 < (s.ent e).holders
  · have := (pool_of_holder (inv_reachable h) he hh hk).1
    rw [hp] at this; cases this
  · omega

/-- **constructor once.** The constructor of an entry completes at most once; while it runs
    it has not completed before, nobody holds the entry and the entry is in the map; every holder of a
    `LoadOrNew` entry holds the result of exactly one completed constructor call. -/
theorem ctor_once_per_live_period {s : G} (h : Reachable s) {e : Nat} (he : e < s.next) :
    (s.ent e).ctorRuns ≤ 1
    ∧ (0 < (s.ent e).ctor → (s.ent e).ctorRuns = 0 ∧ (s.ent e).holders = 0 ∧ (s.ent e).ctor = 1 ∧ inPool s e = true)
    ∧ (0 < (s.ent e).holders → (s.ent e).viaCtor = true → (s.ent e).ctorRuns = 1 ∧ (s.ent e).ctor = 0) := by
  have hE := (inv_reachable h).ent e he
  refine ⟨(ent_once hE).2.1, ?_, ?_⟩
  · intro hc
    obtain ⟨hm, hx⟩ := constructing_of_ctor hE hc
    have := hx.idle; have := hx.busy
    exact ⟨by omega, by omega, by omega, hm⟩
  · intro hh hv
    obtain ⟨_, hl⟩ := live_of_holder hE hh
    exact ⟨hl.made.1 hv, hl.idle.1⟩

/-- **destructor once, after the last release.** The destructor of an entry's value runs at most
    once; it has run, or a `Delete` call is on its way to run it (`del2`/`del3`), only if the entry
    left the map at reference count 0 with no holder and nobody waiting for it; and for every
    such released entry exactly one `Delete` call owns the (single) destructor call — or, for a
    value that is not a Destructor (`plain`: a reverse-proxy *Host, listenerPool's nil), the single
    decision that there is nothing to destruct (`skipped`); such a value is never destructed. -/
theorem dtor_exactly_once_after_last_release {s : G} (h : Reachable s) {e : Nat} (he : e < s.next) :
    (s.ent e).destructed ≤ 1
    ∧ (0 < (s.ent e).del2 + (s.ent e).del3 + (s.ent e).destructed + (s.ent e).skipped →
        (s.ent e).holders = 0 ∧ (s.ent e).refs = 0 ∧ inPool s e = false
        ∧ (s.ent e).waiters = 0 ∧ (s.ent e).lsWaiters = 0)
    ∧ (inPool s e = false → (s.ent e).err = false →
        (s.ent e).del2 + (s.ent e).del3 + (s.ent e).destructed + (s.ent e).skipped = 1)
    ∧ ((s.ent e).plain = true → (s.ent e).destructed = 0 ∧ (s.ent e).del3 = 0)
    ∧ ((s.ent e).plain = false → (s.ent e).skipped = 0) := by
  have hE := (inv_reachable h).ent e he
  refine ⟨(ent_once hE).1, ?_, ?_, ?_, ?_⟩
  rotate_left 2
  · exact fun hp => ⟨((entInv_plain hE).1 hp).2.1, ((entInv_plain hE).1 hp).1⟩
  · exact (entInv_plain hE).2
  · intro hd
    obtain ⟨hm, hr⟩ := released_of_close hE hd
    have := hr.idle
    exact ⟨by omega, by omega, hm, by omega, by omega⟩
  · intro hm herr
    exact (released_of_unmapped hE hm herr).busy

/-- at quiescence (no `Delete` call in progress on the entry) a released entry's destructor has
    run exactly once -/
theorem released_entry_destructed_at_quiescence {s : G} (h : Reachable s) {e : Nat} (he : e < s.next)
    (hm : inPool s e = false) (herr : (s.ent e).err = false)
    (hq : (s.ent e).del2 = 0 ∧ (s.ent e).del3 = 0) (hp : (s.ent e).plain = false) : (s.ent e).destructed = 1 := by
  have := (dtor_exactly_once_after_last_release h he).2.2.1 hm herr
  have := (dtor_exactly_once_after_last_release h he).2.2.2.2 hp
  omega

/-- **not destructed before the caller's own release.** As long as a caller holds an entry, the
    entry is the one in the map, has a value, its destructor has not run and no `Delete` call is
    on its way to run it. -/
theorem not_destructed_before_own_release {s : G} (h : Reachable s) {e : Nat} (he : e < s.next)
    (hh : 0 < (s.ent e).holders) :
    (s.ent e).destructed = 0 ∧ (s.ent e).del2 = 0 ∧ (s.ent e).del3 = 0 ∧ inPool s e = true
      ∧ (s.ent e).value.isSome = true ∧ (s.ent e).err = false := by
  obtain ⟨hm, hl⟩ := live_of_holder ((inv_reachable h).ent e he) hh
  obtain ⟨hd, h2, h3⟩ := hl.not_closing
  exact ⟨hd, h2, h3, hm, hl.value, hl.err⟩

/-- **never returns a destructed value (LoadOrNew, loaded path).** When the second region of
    `LoadOrNew` reads an entry without error, it hands out a non-nil value of the entry that is in
    the map, not destructed and not about to be. -/
theorem never_returns_destructed_lnRead {s s' : G} {e : Nat} (h : Reachable s)
    (hs : gstep s (.lnRead e) = some s') (hok : (lnReadRet s e).2 = false) :
    (lnReadRet s e).1.isSome = true ∧ (s.ent e).destructed = 0 ∧ (s.ent e).del2 = 0 ∧ (s.ent e).del3 = 0
      ∧ inPool s e = true ∧ (s'.ent e).holders = (s.ent e).holders + 1 := by
  cases gstep_rel hs with
  | lnReadErr _ _ _ herr => exact absurd (herr.symm.trans hok) Bool.noConfusion
  | lnReadOk he ht hw herr =>
    obtain ⟨hm, hl⟩ := live_of_waiter ((inv_reachable h).ent e he) (by omega) herr hw
    obtain ⟨hd, h2, h3⟩ := hl.not_closing
    exact ⟨hl.value, hd, h2, h3, hm, by rw [updEnt_ent, if_pos rfl]⟩

/-- **… LoadOrStore, loaded path.** When the second region of `LoadOrStore` finds that the loaded
    entry's constructor did not fail, it hands out a non-nil value of the entry that is in the map,
    not destructed and not about to be, and becomes a holder. -/
theorem never_returns_destructed_lsRead {s s' : G} {e v : Nat} (h : Reachable s)
    (hs : gstep s (.lsRead e v) = some s') (hx : (s.ent e).err = false) :
    (lsReadRet s e).isSome = true ∧ (s.ent e).destructed = 0 ∧ (s.ent e).del2 = 0 ∧ (s.ent e).del3 = 0
      ∧ inPool s e = true ∧ (s'.ent e).holders = (s.ent e).holders + 1 := by
  cases gstep_rel hs with
  | lsReadErr _ _ _ herr => exact absurd (herr.symm.trans hx) Bool.noConfusion
  | lsReadOk he ht hw herr =>
    obtain ⟨hm, hl⟩ := live_of_waiter ((inv_reachable h).ent e he) (by omega) herr hw
    obtain ⟨hd, h2, h3⟩ := hl.not_closing
    exact ⟨hl.value, hd, h2, h3, hm, by rw [updEnt_ent, if_pos rfl]⟩

/-- **mixed use is safe: LoadOrStore after a failed constructor.** When the loaded entry's
    constructor failed, `LoadOrStore` hands out nothing and counts on nothing: the entry is no
    longer in the map, gets no holder, no value and keeps its error; only the caller's increment
    stays behind on it (`deadRefs`) — the call starts over.  (The old code adopted the orphaned
    entry and returned (nil, true): `mixed_use_old_code_fails` (Witness.lean).) -/
theorem loadOrStore_after_failed_ctor_starts_over {s s' : G} {e v : Nat} (h : Reachable s)
    (hs : gstep s (.lsRead e v) = some s') (hx : (s.ent e).err = true) :
    inPool s e = false ∧ s'.pool = s.pool ∧ (s'.ent e).holders = 0 ∧ (s'.ent e).value = none
      ∧ (s'.ent e).err = true ∧ (s'.ent e).lsWaiters + 1 = (s.ent e).lsWaiters := by
  cases gstep_rel hs with
  | lsReadOk _ _ _ herr => exact absurd (hx.symm.trans herr) Bool.noConfusion
  | lsReadErr he ht hw _ =>
    obtain ⟨hm, hf⟩ := failed_of_err_unlocked ((inv_reachable h).ent e he) hx hw
    rw [updEnt_ent, if_pos rfl]
    exact ⟨hm, rfl, hf.idle.2.2.1, hf.value, hx, Nat.sub_add_cancel ht⟩

/-- a `LoadOrNew` whose (second-region) read sees the constructor's error hands out no value -/
theorem failed_acquisition_returns_no_value {s : G} {e : Nat} (h : Reachable s) (he : e < s.next)
    (herr : (lnReadRet s e).2 = true) : (lnReadRet s e).1 = none :=
  (entInv_err ((inv_reachable h).ent e he) herr).1

/-- **values are never shared between entries**, so the entry-level statements above are
    statements about values: if a caller holds an entry with value `v`, no entry holding `v` has
    been destructed or is about to be — `v`'s destructor has not run. -/
theorem held_value_not_destructed {s : G} (h : Reachable s) {e e' v : Nat} (he : e < s.next) (he' : e' < s.next)
    (hh : 0 < (s.ent e).holders) (hv : (s.ent e).value = some v) (hv' : (s.ent e').value = some v) :
    e' = e ∧ (s.ent e').destructed = 0 ∧ (s.ent e').del3 = 0 := by
  obtain ⟨ls, hc, hr⟩ := h
  have hval := valInv_run ls valInv_init hr
  have := hval.inj e' e v he' he hv' hv
  subst this
  obtain ⟨hd, _, h3, _⟩ := not_destructed_before_own_release ⟨ls, hc, hr⟩ he hh
  exact ⟨rfl, hd, h3⟩

/-- **a failed constructor leaves the key absent.** The region that removes the placeholder
    removes *its own* placeholder (the code's "this *should* be safe, I think"), so the key is
    absent afterwards and no other entry was touched; the failed entry never has a holder or a
    value and is never destructed. -/
theorem failed_ctor_leaves_absent {s s' : G} {e : Nat} (h : Reachable s)
    (hs : gstep s (.lnFailDel e) = some s') :
    s.pool (s.ent e).key = some e ∧ s'.pool (s.ent e).key = none
      ∧ (∀ k, k ≠ (s.ent e).key → s'.pool k = s.pool k)
      ∧ (s.ent e).holders = 0 ∧ (s.ent e).value = none ∧ (s.ent e).destructed = 0 := by
  cases gstep_rel hs with
  | lnFailDel he hf =>
    obtain ⟨hm, hx⟩ := failing_of_failing ((inv_reachable h).ent e he) hf
    have := hx.idle; have := hx.busy
    exact ⟨pool_of_inPool hm, if_pos rfl, fun k hk => if_neg hk, by omega, hx.value, by omega⟩

theorem failed_entry_is_inert {s : G} (h : Reachable s) {e : Nat} (he : e < s.next)
    (herr : (s.ent e).err = true) :
    (s.ent e).holders = 0 ∧ (s.ent e).value = none ∧ (s.ent e).destructed = 0 :=
  let ⟨a, b, _, _, c, _⟩ := entInv_err ((inv_reachable h).ent e he) herr
  ⟨b, a, c⟩

/-- **refs = acquisitions − releases.** `refs` of every entry equals the number of callers that
    incremented it and have not decremented it: constructing + failing + waiting + holding (+ the
    increments of acquisitions that ended in an error, which exist only on entries no longer in
    the map). -/
theorem refs_eq_acq_minus_rel {s : G} (h : Reachable s) {e : Nat} (he : e < s.next) :
    (s.ent e).refs = (((s.ent e).ctor + (s.ent e).failing + (s.ent e).waiters + (s.ent e).lsWaiters
        + (s.ent e).holders + (s.ent e).deadRefs : Nat) : Int) :=
  entInv_refs ((inv_reachable h).ent e he)

/-- what `References(k)` (evaluated atomically) reports: the holders of the key plus the calls
    in flight on the entry, at least 1; and an absent key has no holder. -/
theorem references_report {s : G} (h : Reachable s) (k : Nat) :
    match refsNow s k with
    | some r => ∃ e, s.pool k = some e ∧ e < s.next ∧ 1 ≤ r ∧
        r = (((s.ent e).holders + ((s.ent e).ctor + (s.ent e).failing + (s.ent e).waiters + (s.ent e).lsWaiters) : Nat) : Int)
    | none => ∀ e, e < s.next → (s.ent e).key = k → (s.ent e).holders = 0 := by
  have hi := inv_reachable h
  unfold refsNow
  cases hp : s.pool k with
  | none =>
    simp only [Option.map]
    intro e he hk
    exact ctor_starts_only_when_key_unheld h hp he hk
  | some e =>
    simp only [Option.map]
    obtain ⟨he, h1, h2⟩ := mapped_refs hi hp
    refine ⟨e, rfl, he, h2, ?_⟩
    rw [h1]; congr 1; omega

/-- at quiescence (no acquisition in flight on the entry) `References(k)` = number of holders -/
theorem references_exact_at_quiescence {s : G} (h : Reachable s) {k e : Nat} (hp : s.pool k = some e)
    (hq : (s.ent e).ctor = 0 ∧ (s.ent e).failing = 0 ∧ (s.ent e).waiters = 0 ∧ (s.ent e).lsWaiters = 0) :
    refsNow s k = some ((s.ent e).holders : Int) := by
  obtain ⟨_, h1, _⟩ := mapped_refs (inv_reachable h) hp
  simp only [refsNow, hp, Option.map]
  rw [h1]; congr 2; omega

/-- `Delete` by a holder finds the holder's entry and never underflows (no panic) -/
theorem delete_never_panics {s : G} (h : Reachable s) {k e : Nat} (he : e < s.next)
    (hh : 0 < (s.ent e).holders) (hk : (s.ent e).key = k) :
    s.pool k = some e ∧ 0 ≤ (s.ent e).refs - 1 := by
  obtain ⟨hp, hl⟩ := pool_of_holder (inv_reachable h) he hh hk
  have := hl.busy
  exact ⟨hp, by omega⟩

/-- **the panic of `Delete` is unreachable — for every client.** After ANY schedule (no exclusion:
    also callers that delete what they do not hold) the
    entry `Delete(k)` finds has refs ≥ 1, so the thread-level model never produces the event `Dp`.
    ("Deleting too many times will panic" is not what the code does: it returns (false, nil).) -/
theorem delete_panic_unreachable (ls : List Label) (s : G) (hr : runLabels G.init ls = some s)
    (k e : Nat) (hp : s.pool k = some e) : ¬ ((s.ent e).refs - 1 < 0) := by
  have := (mapOk_run ls mapOk_init hr k e hp).2.2
  omega

/-- **References is atomic.** `References(k)` is a single region under the pool read lock; what it
    returns is `refsNow` of ONE state: `(n, true)` with `n ≥ 1` = holders + calls in flight of the
    entry in the map, or `(0, false)` when nobody holds the key — never `(0, true)`.
    (Old code: `references_old_code_fails` (Witness.lean).) -/
theorem references_never_zero_for_present_key {s : G} (h : Reachable s) (k : Nat) :
    gstep s (.refs k) = some s ∧ refsNow s k ≠ some 0 := by
  refine ⟨rfl, ?_⟩
  have := references_report h k
  intro h0
  rw [h0] at this
  obtain ⟨_, _, _, h1, _⟩ := this
  omega

/-- **no deadlock.** No lock is held across a region boundary except the write lock of an entry
    under construction, and the goroutine that holds it is never blocked.  In every reachable
    state: the constructing / failing call of an entry can always take its next region; a call
    waiting for an entry's lock (`waiters`, `lsWaiters`, `del2`) can take its next region unless
    the entry is write-locked, and then exactly one constructing or failing call — which is
    enabled — owns that lock; the destructor call is enabled; and the first region of every method
    and `References` / `Range` are always enabled.  (Old `Range`:
    `range_old_code_deadlock_configuration` (Witness.lean).) -/
theorem progress {s : G} (h : Reachable s) {e : Nat} (he : e < s.next) :
    (0 < (s.ent e).ctor → (gstep s (.ctorOk e)).isSome = true ∧ (gstep s (.ctorErr e)).isSome = true)
    ∧ (0 < (s.ent e).failing → (gstep s (.lnFailDel e)).isSome = true)
    ∧ (0 < (s.ent e).del3 → (gstep s (.del3 e)).isSome = true)
    ∧ ((s.ent e).wlocked = false →
        (0 < (s.ent e).waiters → (gstep s (.lnRead e)).isSome = true)
        ∧ (∀ v, 0 < (s.ent e).lsWaiters → (gstep s (.lsRead e v)).isSome = true)
        ∧ (0 < (s.ent e).del2 → (gstep s (.del2 e)).isSome = true))
    ∧ ((s.ent e).wlocked = true → (s.ent e).ctor + (s.ent e).failing = 1)
    ∧ (∀ k, (gstep s (.lnLookup k)).isSome = true ∧ (gstep s (.lsLookup k)).isSome = true
        ∧ (gstep s (.refs k)).isSome = true ∧ (gstep s .range).isSome = true
        ∧ (0 < (s.ent e).holders → (gstep s (.del1 (s.ent e).key (some e))).isSome = true)) := by
  have hE := (inv_reachable h).ent e he
  have en : ∀ {l p}, src l = some (.at p, e) → 0 < placeOf (s.ent e) p → SideOk s l → (gstep s l).isSome = true :=
    fun ht hpos hs => gstep_enabled (fun p' e' h' => by rw [ht] at h'; cases h'; exact ⟨he, hpos⟩) hs
  refine ⟨fun hc => ⟨en rfl hc trivial, en rfl hc trivial⟩, fun hf => en rfl hf trivial, fun hd => en rfl hd trivial,
    fun hw => ⟨fun hh => en rfl hh hw, fun v hh => en rfl hh hw, fun hh => en rfl hh hw⟩, fun hw => ?_, fun k => ?_⟩
  · exact entInv_locked hE hw
  · exact ⟨gstep_enabled (fun _ _ h => nomatch h) trivial, gstep_enabled (fun _ _ h => nomatch h) trivial, rfl, rfl,
      fun hh => gstep_enabled (fun _ _ h => nomatch h) ⟨he, hh, rfl⟩⟩

/-- A: LoadOrNew(0) constructs; B: LoadOrNew(0) loads; A: Delete; B: Delete … destructor -/
def exRun : List Label :=
  [.lnLookup 0, .lnLookup 0, .ctorOk 0, .lnRead 0, .del1 0 (some 0), .del1 0 (some 0), .del2 0, .del3 0]

example : cleanRun G.init exRun = true := by decide
example : (runLabels G.init exRun).map (fun s => ((s.ent 0).destructed, (s.ent 0).refs, inPool s 0)) = some (1, 0, false) := by decide
-- two holders, refs = 2, in the map, not destructed (hypotheses of the holder theorems are inhabited)
example : (runLabels G.init (exRun.take 4)).map (fun s => ((s.ent 0).holders, (s.ent 0).refs, inPool s 0, (s.ent 0).destructed))
    = some (2, 2, true, 0) := by decide
-- a failing constructor with a waiter: the waiter reads the error, the key is absent
example : (runLabels G.init [.lnLookup 0, .lnLookup 0, .ctorErr 0, .lnFailDel 0, .lnRead 0]).map
    (fun s => (s.pool 0, (s.ent 0).holders, (s.ent 0).refs, (s.ent 0).deadRefs)) = some (none, 0, 2, 2) := by decide
-- over-deleting: the second Delete finds nothing (hypothesis of `delete_panic_unreachable` with a contract-breaking client)
example : (runLabels G.init [.lsLookup 0, .del1 0 none, .del1 0 none]).map (fun s => (s.pool 0, (s.ent 0).refs)) = some (none, 0) := by decide
-- a released entry and a new live entry of the same key
example : (runLabels G.init [.lsLookup 0, .del1 0 (some 0), .lsLookup 0]).map
    (fun s => (s.pool 0, (s.ent 0).del2, (s.ent 1).holders)) = some (some 1, 1, 1) := by decide

inductive SpecRun : Abs → List SpecLabel → Abs → Prop where
  | nil (a) : SpecRun a [] a
  | cons {a b c l ls} : SpecStep a l b → SpecRun b ls c → SpecRun a (l :: ls) c

/-- **refinement (one region).** In every reachable state every non-excluded lock region is
    exactly one atomic step of the abstract pool — `begin`/`join`/`store` at the first region of
    LoadOrNew/LoadOrStore, `commit` when the constructor's value is published, `abort` when the
    failed placeholder is removed, `release` at the first region of Delete — or invisible. -/
theorem refines_spec {s s' : G} {l : Label} (h : Reachable s) (hx : excluded s l = false)
    (hs : gstep s l = some s') : SpecStep (abs s) (specLabel s l) (abs s') :=
  refines_spec_inv (inv_reachable h) hx hs

/-- **refinement (whole schedules).** Every schedule of lock regions, of any length and any number
    of goroutines, is — seen through the abstraction map — an execution of the atomic pool: each
    operation takes effect at one instant between its call and its return. -/
theorem refines_spec_run : ∀ (ls : List Label) (s s' : G), Reachable s → cleanRun s ls = true →
    runLabels s ls = some s' → ∃ sl, sl.length = ls.length ∧ SpecRun (abs s) sl (abs s') := by
  intro ls s s' h hc hr
  fun_induction runLabels s ls with
  | case1 => cases hr; exact ⟨[], rfl, SpecRun.nil _⟩
  | case2 s l ls s1 hg ih =>
    simp only [cleanRun, hg, Bool.and_eq_true, Bool.not_eq_true'] at hc
    obtain ⟨sl, hl, hrun⟩ := ih (reachable_step h hc.1 hg) hc.2 hr
    exact ⟨specLabel s l :: sl, by simp [hl], SpecRun.cons (refines_spec h hc.1 hg) hrun⟩
  | case3 => cases hr

-- non-vacuity: two callers share value 1 of key 0 (`live 1 2`); after both released it the key is absent
example : (runLabels G.init (exRun.take 4)).map (fun s => abs s 0) = some (.live 1 2) := by decide
example : (runLabels G.init exRun).map (fun s => abs s 0) = some .absent := by decide
example : (runLabels G.init [.lnLookup 0, .lsLookup 0]).map (fun s => (abs s 0, specLabel s (.ctorErr 0))) = some (.pending 2, .tau) := by decide

-- non-vacuity: a 3-thread case whose run is clean, a `LoadOrStore` that meets the placeholder of a failing constructor (clean), and a contract-breaking one
example : (runSched 1 [[.ln 0 true, .cdel 0], [.ln 0 true, .cdel 0], [.refs 0]] [0, 0, 1, 1, 2, 2, 0]).clean = true := by decide +kernel
example : (runSched 1 [[.ln 0 false], [.ls 0, .cdel 0], [.ln 0 true]] [0, 1, 0, 0, 1]).clean = true := by decide +kernel
example : (runSched 1 [[.ln 0 true], [.del 0]] [0, 0, 1]).clean = false := by decide


/-! ### clients: what a config, a handler, a listener wrapper can rely on

A client of a pool (a `Logging` with its `writerKeys`, a reverse-proxy `Handler` with its provisioned
`Upstreams`, a `deleteListener`) is a named thread of the executable model: it remembers what it
acquired (`Thread.held`) and releases exactly that.  `holders` — the ghost counter all theorems
above speak about — IS that bookkeeping (`books_runSched`, any programs, any schedule, no
hypothesis), so the theorems become statements about clients. -/

/-- **the ghost counter is the clients' bookkeeping**: in every state the driver can reach,
    `holders e` = number of `(key, e)` references the threads remember -/
theorem holders_eq_client_books (nk : Nat) (progs : List (List Op)) (sched : List Nat) (e : Nat)
    (he : e < (runSched nk progs sched).g.next) :
    ((runSched nk progs sched).g.ent e).holders = holdCount (runSched nk progs sched).threads e :=
  (books_runSched nk progs sched).count e he

/-- **a client that still remembers a reference has a live value**: the entry is the one in the
    map, it has a value, its destructor has not run and no Delete is on its way to run it -/
theorem client_holds_live_value (nk : Nat) (progs : List (List Op)) (sched : List Nat)
    (hc : (runSched nk progs sched).clean = true) {th : Thread} (hth : th ∈ (runSched nk progs sched).threads)
    {k e : Nat} (hx : (k, e) ∈ th.held) :
    e < (runSched nk progs sched).g.next ∧ inPool (runSched nk progs sched).g e = true
      ∧ ((runSched nk progs sched).g.ent e).value.isSome = true
      ∧ ((runSched nk progs sched).g.ent e).destructed = 0
      ∧ ((runSched nk progs sched).g.ent e).del2 = 0 ∧ ((runSched nk progs sched).g.ent e).del3 = 0 :=
  held_live (books_runSched nk progs sched) (runSched_reachable nk progs sched hc) hth hx

/-- **a value is closed iff no client holds it** (when no call is in flight on its entry): its
    destructor has run — exactly once — if and only if no thread remembers a reference to it
    (for a value that is not a Destructor: the pool has let go of it, `skipped = 1`, iff …);
    and then the entry is no longer in the map -/
theorem closed_iff_no_client_holds (nk : Nat) (progs : List (List Op)) (sched : List Nat)
    (hc : (runSched nk progs sched).clean = true) {e : Nat} (he : e < (runSched nk progs sched).g.next)
    (hv : ((runSched nk progs sched).g.ent e).value.isSome = true)
    (hq : quietEntry ((runSched nk progs sched).g.ent e)) :
    (((runSched nk progs sched).g.ent e).destructed + ((runSched nk progs sched).g.ent e).skipped = 1
        ↔ holdCount (runSched nk progs sched).threads e = 0)
    ∧ (holdCount (runSched nk progs sched).threads e = 0 → inPool (runSched nk progs sched).g e = false)
    ∧ (((runSched nk progs sched).g.ent e).plain = false →
        (((runSched nk progs sched).g.ent e).destructed = 1 ↔ holdCount (runSched nk progs sched).threads e = 0)) :=
  closed_iff_unheld (books_runSched nk progs sched) (runSched_reachable nk progs sched hc) he hv hq

/-- **when every client has released everything and every call has returned, the pool is empty
    and every value has been let go of exactly once** (destructed, or skipped if it is not a Destructor) -/
theorem all_clients_released_pool_empty (nk : Nat) (progs : List (List Op)) (sched : List Nat)
    (hc : (runSched nk progs sched).clean = true)
    (hall : ∀ th ∈ (runSched nk progs sched).threads, th.held = [])
    (hq : ∀ e, e < (runSched nk progs sched).g.next → quietEntry ((runSched nk progs sched).g.ent e)) :
    (∀ k, (runSched nk progs sched).g.pool k = none)
    ∧ ∀ e, e < (runSched nk progs sched).g.next → ((runSched nk progs sched).g.ent e).value.isSome = true →
        ((runSched nk progs sched).g.ent e).destructed + ((runSched nk progs sched).g.ent e).skipped = 1 :=
  released_pool_empty (books_runSched nk progs sched) (runSched_reachable nk progs sched hc) hall hq

-- non-vacuity: two configs share a writer; after the first closed its logs the second still holds a live
-- value; after both did, the pool is empty and the value destructed once
example : let y := runSched 1 [[.ln 0 true, .cdel 0], [.ln 0 true]] [0, 0, 1, 1, 0]
    (y.clean, y.threads.map (·.held), (y.g.ent 0).destructed, holdCount y.threads 0) = (true, [[], [(0, 0)]], 0, 1) := by
  decide +kernel
example : let y := runSched 1 [[.ln 0 true, .cdel 0], [.ln 0 true, .cdel 0]] []
    (y.clean, y.threads.map (·.held), y.g.pool 0, (y.g.ent 0).destructed) = (true, [[], []], none, 1) := by decide +kernel

/-- **the in-flight counters are the threads' program counters**: in every state the driver can reach
    (any programs, any schedule, no hypothesis) each of `ctor failing waiters lsWaiters del2 del3` of
    every allocated entry is the number of threads parked at that place for that entry -/
theorem inflight_counters_are_thread_pcs (nk : Nat) (progs : List (List Op)) (sched : List Nat) (p : Place) (e : Nat)
    (he : e < (runSched nk progs sched).g.next) :
    placeOf ((runSched nk progs sched).g.ent e) p = placeCount (runSched nk progs sched).threads p e :=
  (placeBooks_runSched nk progs sched).count p e he

/-- **`end:ok` means quiescent**: when every thread has finished its program (what the driver prints as
    `end:ok`) no call is in flight on any entry -/
theorem finished_means_quiet (nk : Nat) (progs : List (List Op)) (sched : List Nat)
    (hall : allFinished (runSched nk progs sched).threads = true) {e : Nat}
    (he : e < (runSched nk progs sched).g.next) : quietEntry ((runSched nk progs sched).g.ent e) :=
  finished_quiet (placeBooks_runSched nk progs sched) hall he

/-- **every client finished and released everything ⇒ the pool is empty and every value is let go of
    exactly once** (destructed once if it is a Destructor, skipped once if it is not) — no side
    hypothesis about calls in flight -/
theorem all_clients_finished_pool_empty (nk : Nat) (progs : List (List Op)) (sched : List Nat)
    (hc : (runSched nk progs sched).clean = true)
    (hfin : allFinished (runSched nk progs sched).threads = true)
    (hall : ∀ th ∈ (runSched nk progs sched).threads, th.held = []) :
    (∀ k, (runSched nk progs sched).g.pool k = none)
    ∧ ∀ e, e < (runSched nk progs sched).g.next → ((runSched nk progs sched).g.ent e).value.isSome = true →
        ((runSched nk progs sched).g.ent e).destructed + ((runSched nk progs sched).g.ent e).skipped = 1 :=
  all_clients_released_pool_empty nk progs sched hc hall (fun _ he => finished_means_quiet nk progs sched hfin he)

-- non-vacuity: three handlers provision the same upstream and clean up (hosts client: values are not Destructors)
example : let y := runSched 1 [[.lsp 0, .closeAll], [.lsp 0, .closeAll], [.lsp 0, .closeAll]] [0, 1, 2, 0, 1, 2]
    (y.clean, allFinished y.threads, y.g.pool 0, (y.g.ent 0).skipped, (y.g.ent 0).destructed) = (true, true, none, 1, 0) := by
  decide +kernel

/-- **the executable model never gets stuck**: for all programs and schedules (no hypothesis) no thread is
    ever at a program counter that does not fit its operation, and every label a thread issues is enabled
    in the net — its token is at the place it is taken from, the entry is not write-locked when the thread
    has checked that, and the reference a `Delete` gives back is one the thread holds, on an entry created
    for the key it deletes.  The answer of `drv_C04` never contains `model-stuck`. -/
theorem never_stuck (nk : Nat) (progs : List (List Op)) (sched : List Nat) :
    (runSched nk progs sched).stuck = false :=
  (sound_runSched nk progs sched).ns

/-- **what a client remembers is stored under the key it remembers it for**: in a clean run a reference
    `(k, e)` in a thread's `held` list means `pool k = some e` -/
theorem client_reference_is_in_the_map_under_its_key (nk : Nat) (progs : List (List Op)) (sched : List Nat)
    (hc : (runSched nk progs sched).clean = true) {th : Thread} (hth : th ∈ (runSched nk progs sched).threads)
    {k e : Nat} (hx : (k, e) ∈ th.held) : (runSched nk progs sched).g.pool k = some e := by
  have hk : ((runSched nk progs sched).g.ent e).key = k := (sound_runSched nk progs sched).hkey th hth (k, e) hx
  have hm := (client_holds_live_value nk progs sched hc hth hx).2.1
  rw [← hk]; exact pool_of_inPool hm

-- non-vacuity: a contract-breaking run (not clean) is not stuck either
example : let y := runSched 1 [[.ln 0 true], [.del 0, .del 0]] [0, 0, 1, 1, 1, 1]
    (y.clean, y.stuck, y.g.pool 0) = (false, false, none) := by decide

/-- **no close event precedes the last release, and none happens twice — at every point of every client
    trace.**  After ANY schedule prefix of a clean run (and after its completion): an entry has at most one
    close event (a Delete on its way to the destructor, the destructor call, or the decision that there
    is nothing to destruct), and as soon as there is one, no thread remembers a reference to the entry any
    more and the pool counts none. -/
theorem no_close_before_last_release (nk : Nat) (progs : List (List Op)) (sched : List Nat)
    (hc : (runPrefix nk progs sched).clean = true) {e : Nat} (he : e < (runPrefix nk progs sched).g.next) :
    closeEvents ((runPrefix nk progs sched).g.ent e) ≤ 1
    ∧ (0 < closeEvents ((runPrefix nk progs sched).g.ent e) →
        holdCount (runPrefix nk progs sched).threads e = 0 ∧ ((runPrefix nk progs sched).g.ent e).refs = 0) :=
  close_events_after_last_release (prefix_books nk progs sched) (prefix_reachable nk progs sched hc) he

/-- **the same for client programs, with no hypothesis on the run.**  Programs built from whole log set-ups
    (`logSetupOp`, whatever their outcome: ready, bad level, failing encoder), `openWriter` / `provisionUpstream`
    acquisitions, conditional Deletes and the cleanup `closeAll` contain no unconditional Delete; for them, for
    every number of configs, every schedule and every prefix of it: at most one close event per value, and
    never while any config still remembers a reference — in particular a log whose set-up failed after its
    writer was opened keeps the writer alive for every other config until it, too, has closed its logs. -/
theorem client_traces_never_close_early (nk : Nat) (progs : List (List Op)) (sched : List Nat)
    (hp : ∀ p ∈ progs, NoRawDelete p) {e : Nat} (he : e < (runPrefix nk progs sched).g.next) :
    closeEvents ((runPrefix nk progs sched).g.ent e) ≤ 1
    ∧ (0 < closeEvents ((runPrefix nk progs sched).g.ent e) → holdCount (runPrefix nk progs sched).threads e = 0) :=
  let h := no_close_before_last_release nk progs sched (client_run_clean nk progs sched hp).1 he
  ⟨h.1, fun hd => (h.2 hd).1⟩

-- non-vacuity (the scenario of the log set-up glue): config 0 sets up a log that fails on its level after
-- opening writer 0, config 1 sets up a working log on the same writer; after config 0 has closed its logs the
-- writer has no close event and config 1 still remembers it; after both have, exactly one
example : let y := runPrefix 1 [[logSetupOp 0 .badLevel, .closeAll], [logSetupOp 0 .good, .closeAll]] [0, 0, 1, 1, 0]
    (y.clean, closeEvents (y.g.ent 0), holdCount y.threads 0, (y.g.ent 0).refs) = (true, 0, 1, 1) := by decide +kernel
example : let y := runSched 1 [[logSetupOp 0 .badLevel, .closeAll], [logSetupOp 0 .good, .closeAll]] [0, 0, 1, 1, 0]
    (y.clean, closeEvents (y.g.ent 0), (y.g.ent 0).destructed, holdCount y.threads 0) = (true, 1, 1, 0) := by decide +kernel
example : NoRawDelete [logSetupOp 0 .badLevel, logSetupOp 1 .encoderFails, .closeAll] := by
  intro op hop k; simp [logSetupOp] at hop; rcases hop with h | h | h <;> (subst h; simp)

-- non-vacuity (listener glue, whole calls): config 0 and config 1 both listen on address 0, config 1's second
-- bind is refused: the usage count is 2 = the listeners the configs have open; nobody is inside a call
example : let y := (runAtomicSys 1 [[listenerOp (.listen 0)],
      [listenerOp (.listen 0), listenerOp (.listenFails 0)]] [0, 1, 1]).1
    (y.clean, y.g.pool 0, (y.g.ent 0).refs, holdCount y.threads 0, y.threads.all (fun th => th.pc == .idle))
      = (true, some 0, 2, 2, true) := by decide +kernel

-- non-vacuity (per-request client): handler 0 has static upstream 0; a request whose dynamic source returns the
-- SAME address 0 (and address 1) leaves every count as it was; `per_request_client_keeps_count` applies
example : let y := (runGroupsSys 2 [[handlerLoadOps [0], requestOps [0, 1]]] [0, 0]).1
    (y.clean, y.g.pool 0, (y.g.ent 0).refs, holdCount y.threads 0, y.g.pool 1, y.threads.all (fun th => th.pc == .idle))
      = (true, some 0, 1, 1, none, true) := by decide +kernel
example : ∀ p ∈ [[handlerLoadOps [0], requestOps [0, 1], [Op.closeAll]]], ∀ grp ∈ p, NoRawDelete grp := by
  intro p hp grp hg
  simp at hp; subst hp
  simp at hg
  rcases hg with h | h | h
  · subst h; exact noRaw_handlerLoadOps _
  · subst h; exact noRaw_requestOps _
  · subst h; intro op hop k; simp at hop; subst hop; simp

-- the log-writer client: config 0 opens writers 0 and 1, config 1 opens writer 0 and fails to open writer 1;
-- after config 0 closed its logs (closeAll) config 1 still holds writer 0 alive; after both closed, nothing is left
example : let y := runSched 2 [[.ln 0 true, .ln 1 true, .closeAll], [.ln 0 true, .ln 1 false]] [0, 0, 0, 1, 1, 0, 0, 0, 0, 0, 0]
    (y.clean, y.threads.map (·.held), (y.g.ent 0).destructed, (y.g.ent 1).destructed, y.g.pool 1) = (true, [[], [(0, 0)]], 0, 1, none) := by
  decide +kernel

end CaddyModel.C04
