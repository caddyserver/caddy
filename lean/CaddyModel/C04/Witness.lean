/-
C04 — what the code did BEFORE its repairs (non-vacuity of the repaired clauses, kernel-evaluated:
`mixed_use_old_code_fails` on the old `LoadOrStore` (`gstepOld`); the other two on the model of `Model.lean`: the state
the old two-region `References` could observe, the configuration in which the old `Range` blocked), one
observation about destructor timing that the property does not forbid, and why the one exclusion
is needed: two runs in which a client releases what it does not hold.
The schedules are kept as regression lines in `corpus/C04/fixed-findings.txt`.
-/
import CaddyModel.C04.Clients

namespace CaddyModel.C04

/-- every `Delete` of the schedule is made by a caller that was handed the key -/
def noRogueDelete (ls : List Label) : Bool :=
  ls.all fun l => match l with
    | .del1 _ none => false
    | _ => true

/-! ### old LoadOrStore: the `else` branch after a failed constructor

Old code (usagepool.go before the fix): a LoadOrStore that had loaded an entry whose LoadOrNew
constructor then failed wrote its own value into the (already removed) entry, returned
(nil, true) and counted on the entry.  `gstepOld` is the repaired model with that one branch put
back.  Repaired: the call starts over (`lsRead` on a failed entry only gives up the entry). -/

def gstepOld (s : G) : Label → Option G
  | .lsRead e v =>
    if e < s.next ∧ 0 < (s.ent e).lsWaiters ∧ (s.ent e).wlocked = false ∧ (s.ent e).err = true then
      some (updEnt s e fun E =>
        { E with value := some v, err := false, lsWaiters := E.lsWaiters - 1, holders := E.holders + 1 })
    else gstep s (.lsRead e v)
  | l => gstep s l

def runLabelsOld : G → List Label → Option G
  | s, [] => some s
  | s, l :: ls => match gstepOld s l with
    | some s' => runLabelsOld s' ls
    | none => none

/-- A: LoadOrNew(0) inserts its placeholder; B: LoadOrStore(0) loads it and waits; A's constructor
    fails, A removes the placeholder; B (old code) adopts the orphaned entry.  C: LoadOrNew(0)
    constructs a new live value.  B calls Delete(0): that decrements C's entry to 0, removes it
    and destructs C's value while C still holds it. -/
def mixedUseRun : List Label :=
  [.lnLookup 0, .lsLookup 0, .ctorErr 0, .lnFailDel 0, .lsRead 0 1,
   .lnLookup 0, .ctorOk 1, .del1 0 (some 0), .del2 1, .del3 1]

theorem mixed_use_old_code_fails :
    (runLabelsOld G.init mixedUseRun).map
      (fun s => (noRogueDelete mixedUseRun, (s.ent 1).holders, (s.ent 1).destructed)) = some (true, 1, 1) := by
  decide

/-- the same schedule on the repaired code: B's `Delete` is not even enabled as a holder's Delete
    (B holds nothing — it started over), the schedule is not a run -/
example : runLabels G.init mixedUseRun = none := by decide
/-- … and with B starting over (`lsLookup` again: it loads C's pending entry and gets C's value):
    both hold C's value (number 3), nothing is destructed -/
example : (runLabels G.init [.lnLookup 0, .lsLookup 0, .ctorErr 0, .lnFailDel 0, .lsRead 0 1,
      .lnLookup 0, .lsLookup 0, .ctorOk 1, .lsRead 1 2]).map
    (fun s => ((s.ent 1).holders, (s.ent 1).value, (s.ent 1).destructed, (s.ent 0).deadRefs)) = some (2, some 3, 0, 2) := by
  decide

/-! ### old References: the count was read after the pool lock had been released

Old code: `References` fetched the entry under `up.RLock()`, released the lock and only then loaded
`refs`.  A `Delete` in between made it report (0, true).  Repaired: one region (`Label.refs`),
the answer is `refsNow` of a single state, which is never `some 0` (`references_never_zero_for_present_key` (Props.lean)). -/
theorem references_old_code_fails :
    ∃ ls ls' s0 s1 e, cleanRun G.init (ls ++ ls') = true ∧ runLabels G.init ls = some s0 ∧ s0.pool 0 = some e
      ∧ runLabels s0 ls' = some s1 ∧ (s1.ent e).refs = 0 := by
  exact ⟨[.lsLookup 0], [.del1 0 (some 0)], _, _, 0, by decide, rfl, by decide, rfl, by decide⟩

/-! ### old Range: waited for a placeholder's lock while holding the pool read lock

Old code: `Range` held `up.RLock()` and blocked on `upv.RLock()` of a placeholder under
construction; if that constructor failed, LoadOrNew needed `up.Lock()` to remove the placeholder
before unlocking it: neither call could ever return.  The configuration — a write-locked
placeholder of a failed constructor, still in the map — is reachable (below); repaired `Range`
skips entries whose lock it cannot get at once, is a single region and never blocks, and no
region needs a lock that is held across a region boundary (`progress` (Props.lean)). -/
theorem range_old_code_deadlock_configuration :
    (runLabels G.init [.lnLookup 0, .ctorErr 0]).map
      (fun s => (cleanRun G.init [.lnLookup 0, .ctorErr 0], inPool s 0, (s.ent 0).wlocked, (s.ent 0).failing))
      = some (true, true, true, 1) := by
  decide

/-! ### observation: the next value of a key may be constructed before the previous one is destructed

The property asks that the destructor runs exactly once AFTER the last holder released the value
and never earlier; it does not ask that it runs before the key is used again.  The destructor
runs outside both locks, after the entry left the map, so a new constructor for the same key can
complete first (for a listener: the new socket is opened before the old one is closed).  "At most
one live value" is `one_live_value` (Props.lean): at most one value per key is in the map or held. -/
def overlapRun : List Label := [.lsLookup 0, .del1 0 (some 0), .lnLookup 0, .ctorOk 1]

theorem next_constructor_may_precede_previous_destructor :
    (runLabels G.init overlapRun).map
      (fun s => (cleanRun G.init overlapRun && (s.ent 0).key == (s.ent 1).key, (s.ent 0).value, (s.ent 0).destructed,
                 (s.ent 0).holders, (s.ent 1).value, (s.ent 1).holders))
      = some (true, some 1, 0, 0, some 2, 1) := by
  decide

/-! ### the regression lines are these schedules (thread-level runs, kernel-evaluated) -/

-- `sched 1 N0f;S0,d0;N0o 0100122111` on the repaired code: B starts over and shares C's value
example : let y := runSched 1 [[.ln 0 false], [.ls 0, .cdel 0], [.ln 0 true]] [0, 1, 0, 0, 1, 2, 2, 1, 1, 1]
    (y.clean, (y.g.ent 1).holders, (y.g.ent 1).destructed, allFinished y.threads) = (true, 1, 0, true) := by decide +kernel
-- `sched 1 S0,d0;R0 0101`: References is one region
example : ((runSched 1 [[.ls 0, .cdel 0], [.refs 0]] [0, 1, 0, 1]).out.reverse.drop 1).head? = some "1:Q1/1" := by decide +kernel
-- `sched 1 N0f;G 001`: Range skips the placeholder and returns; everything finishes
example : let y := runSched 1 [[.ln 0 false], [.range]] [0, 0, 1]
    (allFinished y.threads, (y.out.reverse.drop 2).head?) = (true, some "1:G_/1") := by decide +kernel

/-! ### why the one exclusion is needed: a release by a client that holds nothing

`excluded` rules out a `Delete` by a caller that holds no reference.  That is a contract of the pool's
CLIENTS, and client glue can break it: `acmeserver.Handler.Cleanup` called `databasePool.Delete` also for a
handler whose `Provision` had failed before `openDatabase` (witness test in `.run/fixes/C04-n-acmeserver-cleanup.*`,
repaired by commit a57059e of /repo; the reverse proxy's `Cleanup` had the same shape before its repair).  What then happens is this run: config A holds the database; the rejected config B's cleanup
releases a reference it never took; A's value is destructed while A still remembers it. -/
theorem release_by_non_holder_destructs_held_value :
    let y := runSched 1 [[.ln 0 true], [.del 0]] [0, 0, 1, 1, 1]
    (y.clean, holdCount y.threads 0, (y.g.ent 0).destructed, y.stuck) = (false, 1, 1, false) := by
  decide +kernel

/-- the same for the reverse proxy's per-request client: a request that gives back a reference for an
    upstream it did not provision in this iteration — e.g. because the dynamic source's address was replaced by the
    handler's static upstream without going through `provisionUpstream` — is a release by a client that holds
    nothing (`requestOps` pairs every release with its own acquisition; this program does not).  Handler A holds
    address 0; the request's unpaired release removes the entry: the address is absent from the pool while A still
    remembers its reference — `per_request_client_keeps_count` (ClientTrace.lean) fails without its pairing hypothesis. -/
theorem request_release_without_acquire_breaks_count :
    let y := (runGroupsSys 1 [[handlerLoadOps [0]], [[.del 0]]] [0, 1]).1
    (y.clean, y.g.pool 0, holdCount y.threads 0, y.threads.all (fun th => th.pc == .idle)) = (false, none, 1, true) := by
  decide +kernel

end CaddyModel.C04
