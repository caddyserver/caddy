/-
C04 — the six in-flight places of the net are the program counters of the named threads:
`ctor e` = number of threads inside the constructor of `e`, `waiters e` = number of threads
parked before `upv.RLock()` of `e`, … .  A move of a thread is the token move of its label (`Tokens.lean`) read on the
thread (`TokMove`, `tmove_tok`).  So the seven place counters of an entry (`holders` by `Books`, the six in-flight ones by `PlaceBooks`) are tied to the
executable thread-level model, for all programs and schedules (`books_move`).  Consequence: when every thread is between two calls, no call is in flight
anywhere (`idle_places_empty`; `finished_quiet` (ClientTrace.lean)) — a theorem, not a hypothesis.
-/
import CaddyModel.C04.Clients

namespace CaddyModel.C04

def pcAt : PC → Option (Place × Nat)
  | .idle => none
  | .ctor e => some (.ctor, e)
  | .lnFail e => some (.failing, e)
  | .lnWait e => some (.waiters, e)
  | .lsWait e _ => some (.lsWaiters, e)
  | .delRead e => some (.del2, e)
  | .destruct e _ => some (.del3, e)

def atPlace (p : Place) (e : Nat) (th : Thread) : Nat := if pcAt th.pc = some (p, e) then 1 else 0

def placeCount (ths : List Thread) (p : Place) (e : Nat) : Nat := (ths.map (atPlace p e)).sum

/-- the source or destination of a label's token, as a thread's program counter sees it: a token in `holders` is no
    program counter -/
def placePart : Option (Slot × Nat) → Option (Place × Nat)
  | some (.at p, e) => some (p, e)
  | _ => none

theorem placePart_eq {o : Option (Slot × Nat)} {p : Place} {e : Nat} : placePart o = some (p, e) ↔ o = some (.at p, e) := by
  unfold placePart
  split
  · simp
  · rename_i h; exact ⟨nofun, fun ho => absurd ho (h p e)⟩

theorem atPlace_pc {th : Thread} {o : Option (Slot × Nat)} (h : pcAt th.pc = placePart o) (p : Place) (e : Nat) :
    atPlace p e th = sind o (.at p) e := by
  unfold atPlace sind
  rw [h]
  by_cases ho : o = some (.at p, e)
  · rw [if_pos ho, if_pos (placePart_eq.mpr ho)]
  · rw [if_neg ho, if_neg (mt placePart_eq.mp ho)]

theorem placePart_src_del1 (k : Nat) (h : Option Nat) : placePart (src (.del1 k h)) = none := by
  cases h <;> rfl

/-- what a thread contributes to the count of a place: the references it remembers, or 1 if it is parked there -/
def wt (σ : Slot) (e : Nat) (th : Thread) : Nat :=
  match σ with
  | .holders => heldOf e th
  | .at p => atPlace p e th

/-- the `held` list across a token move `a → b`: its count per entry follows the token in and out of `holders`, and a reference
    it has afterwards it had before or is the token's destination (what keeps `HeldOk` and `HeldKey`) -/
def HeldMove (th th' : Thread) (a b : Option (Slot × Nat)) : Prop :=
  (∀ e, heldOf e th' + sind a .holders e = heldOf e th + sind b .holders e) ∧ ∀ x ∈ th'.held, x ∈ th.held ∨ b = some (.holders, x.2)

/-- a move of a thread is the token move of its label: the program counter follows the token through the six in-flight
    places, the `held` list gains or loses the reference when the token enters or leaves `holders` -/
structure TokMove (g : G) (th th' : Thread) (ls : List Label) : Prop where
  tok : (ls = [] ∧ pcAt th'.pc = pcAt th.pc ∧ th'.held = th.held) ∨
    ∃ l, ls = [l] ∧ pcAt th.pc = placePart (src l) ∧ pcAt th'.pc = placePart (dst g l) ∧ HeldMove th th' (src l) (dst g l)
  fin : th'.prog = [] → th'.pc = .idle

theorem tmove_tok {g : G} {th th' : Thread} {ls : List Label} (hm : TMove g th ls th') : TokMove g th th' ls := by
  have step : ∀ {l} (b), ls = [l] → dst g l = b → th'.prog ≠ [] ∨ th'.pc = .idle → pcAt th.pc = placePart (src l) →
      pcAt th'.pc = placePart b → HeldMove th th' (src l) b → TokMove g th th' ls := fun {l} b hl hb hfin h1 h2 h3 =>
    ⟨.inr ⟨l, hl, h1, hb ▸ h2, hb ▸ h3⟩, fun h => hfin.elim (absurd h) id⟩
  have same : ∀ {a b}, th'.held = th.held → (∀ e, sind a .holders e = sind b .holders e) → HeldMove th th' a b :=
    fun hh h1 => ⟨fun e => by rw [h1, heldOf, heldOf, hh], fun x hx => .inl (hh ▸ hx)⟩
  have add : ∀ {a k e0}, th'.held = (k, e0) :: th.held → (∀ e, sind a .holders e = 0) → HeldMove th th' a (some (.holders, e0)) :=
    fun {a k e0} hh h1 =>
    -- the count: the new list with the reference taken out of its head is the old one
    ⟨fun e => by rw [h1, heldOf, heldOf, hh]; exact ((takenOut_held ⟨[], th.held, rfl, rfl⟩).2.2 e).symm,
     hh ▸ List.forall_mem_cons.mpr ⟨.inr rfl, fun x hx => .inl hx⟩⟩
  have del : ∀ {op held k h held' b}, th.held = held → th'.held = held' → DelStart op held k h held' → (∀ e, sind b .holders e = 0) →
      HeldMove th th' (src (.del1 k h)) b := fun hh hh' hd hb =>
    have ⟨hsub, _, hcnt⟩ := delStart_held hd
    ⟨fun e => by rw [hb, heldOf, heldOf, hh, hh']; exact hcnt e, fun x hx => .inl (hh ▸ hsub x (hh' ▸ hx))⟩
  cases hm with
  | lnJoin hp =>
    exact step (some (.at .waiters, _)) rfl (by simp only [dst, hp]) (.inl (List.cons_ne_nil _ _)) rfl rfl (same rfl fun _ => rfl)
  | lnNew hp =>
    exact step (some (.at .ctor, _)) rfl (by simp only [dst, hp]) (.inl (List.cons_ne_nil _ _)) rfl rfl (same rfl fun _ => rfl)
  | ctorOk => exact step _ rfl rfl (.inr rfl) rfl rfl (add rfl fun _ => rfl)
  | ctorErr => exact step _ rfl rfl (.inl (List.cons_ne_nil _ _)) rfl rfl (same rfl fun _ => rfl)
  | lnReadErr _ herr | lsReadErr _ _ herr => exact step none rfl (if_pos herr) (.inr rfl) rfl rfl (same rfl fun _ => rfl)
  | lnReadOk _ herr | lsReadOk _ _ herr =>
    exact step (some (.holders, _)) rfl (if_neg (by rw [herr]; nofun)) (.inr rfl) rfl rfl (add rfl fun _ => rfl)
  | lsJoin hp | lspJoin hp =>
    exact step (some (.at .lsWaiters, _)) rfl (by simp only [dst, hp]) (.inl (List.cons_ne_nil _ _)) rfl rfl (same rfl fun _ => rfl)
  | lsNew hp | lspNew hp => exact step (some (.holders, _)) rfl (by simp only [dst, hp]) (.inr rfl) rfl rfl (add rfl fun _ => rfl)
  | delPark hd hp hz =>
    exact step (some (.at .del2, _)) rfl (by simp only [dst, del1Tok, hp, hz, if_true]) (.inl (List.cons_ne_nil _ _))
      (placePart_src_del1 _ _).symm rfl (del rfl rfl hd fun _ => rfl)
  | delDone hd hz _ =>
    refine step none rfl ?_ (.inr rfl) (placePart_src_del1 _ _).symm rfl (del rfl rfl hd fun _ => rfl)
    simp only [dst, del1Tok]
    split
    · exact if_neg (hz _ ‹_›)
    · rfl
  | del2Done _ _ hv _ => exact step none rfl (if_neg hv) (.inr rfl) rfl rfl (same rfl fun _ => rfl)
  | del2Destruct _ _ hv hp =>
    exact step (some (.at .del3, _)) rfl (if_pos ⟨hv, hp⟩) (.inl (List.cons_ne_nil _ _)) rfl rfl (same rfl fun _ => rfl)
  | skip => exact ⟨.inl ⟨rfl, rfl, rfl⟩, fun _ => rfl⟩
  | _ => exact step _ rfl rfl (.inr rfl) rfl rfl (same rfl fun _ => rfl)

theorem move_counts {g g' : G} {th th' : Thread} {ls : List Label} (hmap : MapOk g) (hok : HeldOk g th)
    (hb : ∀ p e, pcAt th.pc = some (p, e) → e < g.next) (hm : TokMove g th th' ls) (hr : runLabels g ls = some g') :
    g.next ≤ g'.next
    ∧ (∀ σ e, e < g'.next → slotOf (g'.ent e) σ + wt σ e th = (if e < g.next then slotOf (g.ent e) σ else 0) + wt σ e th')
    ∧ HeldOk g' th' ∧ ∀ p e, pcAt th'.pc = some (p, e) → e < g'.next := by
  rcases hm.tok with ⟨rfl, hpc, hh⟩ | ⟨l, rfl, hdec, hinc, hbal, hnew⟩
  · cases hr
    refine ⟨Nat.le_refl _, fun σ e he => ?_, fun x hx => hok x (hh ▸ hx), fun p e hp => hb p e (hpc ▸ hp)⟩
    rw [if_pos he]
    rcases σ with _ | p
    · simp only [wt, heldOf, hh]
    · simp only [wt, atPlace, hpc]
  · rw [runLabels_single] at hr
    refine ⟨gstep_next_le hr, fun σ e he => ?_, fun x hx => ?_,
      fun p e hp => dst_lt hmap hr (placePart_eq.mp (hinc ▸ hp))⟩
    · have law := gstep_law hr σ he
      have : wt σ e th' + sind (src l) σ e = wt σ e th + sind (dst g l) σ e := by
        rcases σ with _ | p
        · exact hbal e
        · simp only [wt]; rw [atPlace_pc hdec, atPlace_pc hinc, Nat.add_comm]
      omega
    · rcases hnew x hx with hx | hx
      · exact Nat.lt_of_lt_of_le (hok x hx) (gstep_next_le hr)
      · exact dst_lt hmap hr hx

structure PlaceBooks (y : Sys) : Prop where
  count : ∀ p e, e < y.g.next → placeOf (y.g.ent e) p = placeCount y.threads p e
  ok : ∀ th ∈ y.threads, ∀ p e, pcAt th.pc = some (p, e) → e < y.g.next
  fin : ∀ th ∈ y.threads, th.prog = [] → th.pc = .idle
  map : MapOk y.g

theorem books_move {y y' : Sys} (hh : Books y) (h : PlaceBooks y) {t : Nat} {th th' : Thread} {ls : List Label}
    (hth : y.threads[t]? = some th) (hm : TMove y.g th ls th') (hr : runLabels y.g ls = some y'.g)
    (hths : y'.threads = y.threads.set t th') : Books y' ∧ PlaceBooks y' := by
  obtain ⟨g', _, _, _, _⟩ := y'
  cases hths
  have hmem : th ∈ y.threads := List.mem_of_getElem? hth
  have htok := tmove_tok hm
  obtain ⟨hmono, hbal, hheld', hpc'⟩ := move_counts h.map (hh.ok th hmem) (h.ok th hmem) htok hr
  -- a thread other than `t` is as it was (`forall_mem_set`), and the net has only grown
  refine ⟨⟨fun e he => count_set (f := heldOf e) hth (hbal .holders e he) (hh.count e) fun hn th2 hth2 =>
        heldOf_zero (hh.ok th2 hth2) (Nat.le_of_not_lt hn), ?_⟩,
    ⟨fun p e he => count_set (f := atPlace p e) hth (hbal (.at p) e he) (h.count p e) fun hn th2 hth2 => ?_, ?_,
      forall_mem_set h.fin htok.fin, mapOk_run ls h.map hr⟩⟩
  · exact forall_mem_set (fun th2 hth2 x hx => Nat.lt_of_lt_of_le (hh.ok th2 hth2 x hx) hmono) hheld'
  · unfold atPlace; split
    · exact absurd (h.ok th2 hth2 p e ‹_›) hn
    · rfl
  · exact forall_mem_set (fun th2 hth2 p e hp => Nat.lt_of_lt_of_le (h.ok th2 hth2 p e hp) hmono) hpc'

theorem idle_places_empty {y : Sys} (h : PlaceBooks y) (hidle : ∀ th ∈ y.threads, th.pc = .idle) {e : Nat}
    (he : e < y.g.next) (p : Place) : placeOf (y.g.ent e) p = 0 := by
  rw [h.count p e he]
  refine sum_map_zero _ _ fun th hth => ?_
  rw [atPlace, hidle th hth]
  rfl

end CaddyModel.C04
