/-
C04 — values are never shared between entries: every value number stored in an entry is
smaller than `nextVal`, and no two entries hold the same value.  So "the destructor of value v
ran" and "the destructor of the entry holding v ran" are the same thing, and the entry-level
theorems of `Props.lean` are statements about values.
-/
import CaddyModel.C04.Shape

namespace CaddyModel.C04

structure ValInv (s : G) : Prop where
  fresh : ∀ e v, e < s.next → (s.ent e).value = some v → v < s.nextVal
  inj : ∀ e e' v, e < s.next → e' < s.next → (s.ent e).value = some v → (s.ent e').value = some v → e = e'

theorem valInv_frame {s s' : G} (h : ValInv s) (hn : s'.next = s.next) (hv : s.nextVal ≤ s'.nextVal)
    (he : ∀ e, (s'.ent e).value = (s.ent e).value) : ValInv s' := by
  constructor
  · intro e v hlt hval
    rw [hn] at hlt; rw [he] at hval
    exact Nat.lt_of_lt_of_le (h.fresh e v hlt hval) hv
  · intro e e' v h1 h2 hv1 hv2
    rw [hn] at h1 h2; rw [he] at hv1 hv2
    exact h.inj e e' v h1 h2 hv1 hv2

theorem valInv_put {s s' : G} (h : ValInv s) (i : Nat) {v : Option Nat}
    (hv : ∀ w, v = some w → w = s.nextVal ∧ s.nextVal < s'.nextVal) (hnv : s.nextVal ≤ s'.nextVal)
    (hi : (s'.ent i).value = v)
    (hold : ∀ j, j < s'.next → j ≠ i → j < s.next ∧ (s'.ent j).value = (s.ent j).value) : ValInv s' := by
  have old : ∀ j w, j < s'.next → j ≠ i → (s'.ent j).value = some w → j < s.next ∧ (s.ent j).value = some w ∧ w < s.nextVal :=
    fun j w hj hne hw => by
      obtain ⟨hlt, heq⟩ := hold j hj hne
      rw [heq] at hw
      exact ⟨hlt, hw, h.fresh j w hlt hw⟩
  have new : ∀ w, (s'.ent i).value = some w → w = s.nextVal ∧ s.nextVal < s'.nextVal := fun w hw => hv w (hi ▸ hw)
  constructor
  · intro j w hj hw
    by_cases hji : j = i
    · subst hji; have := new w hw; omega
    · have := (old j w hj hji hw).2.2; omega
  · intro a b w ha hb hwa hwb
    by_cases hai : a = i <;> by_cases hbi : b = i
    · rw [hai, hbi]
    · subst hai; have := new w hwa; have := (old b w hb hbi hwb).2.2; omega
    · subst hbi; have := new w hwb; have := (old a w ha hai hwa).2.2; omega
    · obtain ⟨a1, a2, _⟩ := old a w ha hai hwa
      obtain ⟨b1, b2, _⟩ := old b w hb hbi hwb
      exact h.inj a b w a1 b1 a2 b2

/-- `s'`: the state the region allocates in, `s` itself (`lnNew`) or `bumpVal s` (`lsNew`, `lspNew`) -/
theorem valInv_alloc {s s' : G} (h : ValInv s) (k : Nat) (E : Entry) (hs : s'.ent = s.ent ∧ s'.next = s.next)
    (hv : ∀ w, E.value = some w → w = s.nextVal ∧ s.nextVal < s'.nextVal) (hnv : s.nextVal ≤ s'.nextVal) :
    ValInv (alloc s' k E) := by
  have hnv' : (alloc s' k E).nextVal = s'.nextVal := rfl
  refine valInv_put h s.next (by rwa [hnv']) (by rwa [hnv']) (by simp [alloc, hs.2]) fun j hj hne => ?_
  have hj' : j < s.next + 1 := by rw [← hs.2]; exact hj
  have hlt : j < s.next := by omega
  exact ⟨hlt, by rw [alloc_ent_old (hs.2 ▸ hlt), hs.1]⟩

theorem valInv_del1Code {s : G} (h : ValInv s) (k : Nat) : ValInv (del1Code s k) :=
  valInv_frame h (del1Code_next s k) (Nat.le_of_eq (del1Code_nextVal s k).symm) (del1Code_field Entry.value s k)

theorem valInv_step {s s' : G} {l : Label} (h : ValInv s) (hs : gstep s l = some s') : ValInv s' := by
  cases gstep_rel hs with
  | lnNew _ => exact valInv_alloc h _ _ ⟨rfl, rfl⟩ (fun _ hw => nomatch hw) (Nat.le_refl _)
  | lsNew _ | lspNew _ =>
    exact valInv_alloc h _ _ ⟨rfl, rfl⟩ (fun _ hw => by cases hw; exact ⟨rfl, Nat.lt_succ_self _⟩) (Nat.le_succ _)
  | @ctorOk e _ _ =>
    exact valInv_put h e (v := some s.nextVal) (fun _ hw => by cases hw; exact ⟨rfl, Nat.lt_succ_self _⟩) (Nat.le_succ _)
      (by rw [updEnt_ent, if_pos rfl]) fun j hj hne => ⟨hj, by rw [updEnt_ent, if_neg hne]; rfl⟩
  | lsJoin _ | lspJoin _ =>
    exact valInv_frame h rfl (Nat.le_succ _) (updEnt_field Entry.value (bumpVal s) _)
  | lnFailDel _ _ => exact valInv_frame h rfl (Nat.le_refl _) (updEnt_field Entry.value (setPool s _ none) _)
  | del1Rogue => exact valInv_del1Code h _
  | del1 _ _ _ =>
    exact valInv_del1Code (valInv_frame (s' := updEnt s _ _) h rfl (Nat.le_refl _) (updEnt_field Entry.value s _)) _
  | refs | range => exact h
  | _ => exact valInv_frame h rfl (Nat.le_refl _) (updEnt_field Entry.value s _)

theorem valInv_init : ValInv G.init :=
  ⟨fun e _ he _ => absurd he (Nat.not_lt_zero e), fun e _ _ he _ _ _ => absurd he (Nat.not_lt_zero e)⟩

theorem valInv_run (ls : List Label) {s s' : G} (h : ValInv s) (hr : runLabels s ls = some s') : ValInv s' :=
  runLabels_preserves valInv_step ls h hr

end CaddyModel.C04
