/-
C04 — clients: what the named threads of a system can rely on.

* `section clients`: in any system `y` whose books are right (`Books y`) and whose net is reachable, what the invariant says of
  `holders` holds of the references the threads remember (`holdCount`).  With `PlaceBooks` too (`Sound y`), "every thread
  finished" or "every thread between two calls" means no call in flight (`finished_quiet`,
  `count_is_remembered_references_when_idle`).  The theorems of `Props.lean` about `runSched` / `runPrefix` are these
  at the states the driver reaches: `runSched_reachable`, `prefix_reachable`, `prefix_books`.
* Client programs — whole log set-ups (`logSetupOp`, any outcome), the driver's ops for caddy's `openWriter` and
  `provisionUpstream`, conditional Deletes and the cleanup `closeAll` — never issue a Delete for something they do not hold
  (`NoRawDelete`), so their runs are clean by construction (`client_run_clean`) and `ClientRun` — sound, clean, reachable — is the
  invariant of every run shape of the driver: prefixes (`runPrefix`), completed runs, whole-call runs (`listeners` lines) and
  group runs (`requests` lines).
-/
import CaddyModel.C04.Stuck
import CaddyModel.C04.Reach

namespace CaddyModel.C04

/-- the state after a schedule prefix (no completion) -/
def runPrefix (nk : Nat) (progs : List (List Op)) (sched : List Nat) : Sys :=
  sched.foldl (tstep nk) { g := G.init, threads := progs.map fun p => { prog := p } }

def NoRawDelete (prog : List Op) : Prop := ∀ op ∈ prog, ∀ k, op ≠ .del k

theorem noRaw_tail {op : Op} {rest : List Op} (h : NoRawDelete (op :: rest)) : NoRawDelete rest :=
  fun o ho k => h o (List.mem_cons_of_mem _ ho) k

theorem tmove_clean {g : G} {th th' : Thread} {ls : List Label}
    (hp : NoRawDelete th.prog) (hm : TMove g th ls th') :
    (∀ l ∈ ls, excluded g l = false) ∧ NoRawDelete th'.prog := by
  have one : ∀ {l}, excluded g l = false → ∀ l' ∈ [l], excluded g l' = false :=
    (List.forall_mem_singleton (p := (excluded g · = false))).mpr
  have after : ∀ {op rest after}, th.prog = op :: rest → after = rest ∨ after = op :: rest → NoRawDelete after :=
    fun hprog ha => by
      rcases ha with rfl | rfl
      · exact noRaw_tail (hprog ▸ hp)
      · exact hprog ▸ hp
  have del : ∀ {op rest held k h held'}, th.prog = op :: rest → DelStart op held k h held' →
      excluded g (.del1 k h) = false := fun {op rest held k h held'} hprog hd => by
    cases hd with
    | del => exact absurd rfl (hp (.del k) (hprog ▸ List.mem_cons_self ..) k)
    | cdel _ => rfl
    | closeAll _ => rfl
  cases hm with
  | lnJoin _ | lnNew _ | ctorErr | lsJoin _ | lspJoin _ | lsReadErr _ _ _ | del2Destruct _ _ _ _ => exact ⟨one rfl, hp⟩
  | delPark hd _ _ => exact ⟨one (del rfl hd), hp⟩
  | delDone hd _ ha => exact ⟨one (del rfl hd), after rfl ha⟩
  | del2Done _ _ _ ha | del3 _ ha => exact ⟨one rfl, after rfl ha⟩
  | skip => exact ⟨fun l hl => (nomatch hl), noRaw_tail hp⟩
  | _ => exact ⟨one rfl, noRaw_tail hp⟩

/-- `excluded` does not look at the state -/
theorem cleanRun_of_not_excluded : ∀ {ls : List Label} {g : G}, (∀ l ∈ ls, excluded g l = false) → cleanRun g ls = true
  | [], _, _ => rfl
  | l :: ls, g, h => by
    simp only [cleanRun, h l (List.mem_cons_self ..), Bool.not_false, Bool.true_and]
    split
    · exact cleanRun_of_not_excluded fun l' hl' => h l' (List.mem_cons_of_mem _ hl')
    · rfl

def CleanClients (y : Sys) : Prop := y.clean = true ∧ ∀ th ∈ y.threads, NoRawDelete th.prog

theorem cleanClients_tstep (nk : Nat) (y : Sys) (t : Nat) (h : CleanClients y) : CleanClients (tstep nk y t) :=
  tstep_cases nk y t (fun _ => h) (fun _ _ _ _ => h) fun th ls th' ev g' _ hth hm hr => by
    obtain ⟨hex, hnr⟩ := tmove_clean (h.2 th (List.mem_of_getElem? hth)) (tmove_rel hm)
    refine ⟨?_, forall_mem_set h.2 hnr⟩
    show (y.clean && cleanLabels y.g ls) = true
    rw [h.1]
    exact cleanRun_of_not_excluded hex

theorem cleanClients_init (progs : List (List Op)) (hp : ∀ p ∈ progs, NoRawDelete p) :
    CleanClients { g := G.init, threads := progs.map fun p => { prog := p } } :=
  ⟨rfl, List.forall_mem_map.mpr hp⟩

def ClientRun (y : Sys) : Prop := Sound y ∧ CleanClients y ∧ Reachable y.g

theorem clientRun_tstep (nk : Nat) (y : Sys) (t : Nat) (h : ClientRun y) : ClientRun (tstep nk y t) :=
  have hc := cleanClients_tstep nk y t h.2.1
  ⟨sound_tstep nk y t h.1, hc, tstep_reachable nk y t (fun _ => h.2.2) hc.1⟩

theorem clientRun_init (progs : List (List Op)) (hp : ∀ p ∈ progs, NoRawDelete p) :
    ClientRun { g := G.init, threads := progs.map fun p => { prog := p } } :=
  ⟨sound_init progs, cleanClients_init progs hp, reachable_init⟩

/-- **runs of client programs are clean by construction** (prefixes and completed runs) -/
theorem client_run_clean (nk : Nat) (progs : List (List Op)) (sched : List Nat) (hp : ∀ p ∈ progs, NoRawDelete p) :
    (runPrefix nk progs sched).clean = true ∧ (runSched nk progs sched).clean = true :=
  ⟨(foldl_preserves (cleanClients_tstep nk) sched _ (cleanClients_init progs hp)).1,
   (runSched_preserves (cleanClients_tstep nk) progs sched (cleanClients_init progs hp)).1⟩

/-- **every case the driver runs stays inside the proved state space**: for all programs, thread
    counts and schedules, if no excluded label was executed the final state is reachable (so the
    invariant and every property theorem hold in it) -/
theorem runSched_reachable (nk : Nat) (progs : List (List Op)) (sched : List Nat) :
    (runSched nk progs sched).clean = true → Reachable (runSched nk progs sched).g :=
  runSched_preserves (tstep_reachable nk) progs sched (fun _ => reachable_init)

theorem prefix_books (nk : Nat) (progs : List (List Op)) (sched : List Nat) : Books (runPrefix nk progs sched) :=
  (foldl_preserves (sound_tstep nk) sched _ (sound_init progs)).books

theorem prefix_reachable (nk : Nat) (progs : List (List Op)) (sched : List Nat) :
    (runPrefix nk progs sched).clean = true → Reachable (runPrefix nk progs sched).g :=
  foldl_preserves (tstep_reachable nk) sched _ (fun _ => reachable_init)

section clients
variable {y : Sys} (hb : Books y) (hr : Reachable y.g)
include hb hr

theorem held_live {th : Thread} (hth : th ∈ y.threads) {k e : Nat} (hx : (k, e) ∈ th.held) :
    e < y.g.next ∧ inPool y.g e = true ∧ (y.g.ent e).value.isSome = true ∧ (y.g.ent e).destructed = 0
      ∧ (y.g.ent e).del2 = 0 ∧ (y.g.ent e).del3 = 0 := by
  obtain ⟨he, hh⟩ := books_held hb hth hx
  obtain ⟨hm, hl⟩ := live_of_holder ((inv_reachable hr).ent e he) hh
  exact ⟨he, hm, hl.value, hl.not_closing⟩

theorem closed_iff_unheld {e : Nat} (he : e < y.g.next) (hv : (y.g.ent e).value.isSome = true) (hq : quietEntry (y.g.ent e)) :
    ((y.g.ent e).destructed + (y.g.ent e).skipped = 1 ↔ holdCount y.threads e = 0)
    ∧ (holdCount y.threads e = 0 → inPool y.g e = false)
    ∧ ((y.g.ent e).plain = false → ((y.g.ent e).destructed = 1 ↔ holdCount y.threads e = 0)) := by
  rw [← hb.count e he]
  exact ent_closed_iff_unheld ((inv_reachable hr).ent e he) hv hq

theorem released_pool_empty (hall : ∀ th ∈ y.threads, th.held = []) (hq : ∀ e, e < y.g.next → quietEntry (y.g.ent e)) :
    (∀ k, y.g.pool k = none)
    ∧ ∀ e, e < y.g.next → (y.g.ent e).value.isSome = true → (y.g.ent e).destructed + (y.g.ent e).skipped = 1 := by
  have hi := inv_reachable hr
  have hh : ∀ e, e < y.g.next → (y.g.ent e).holders = 0 := fun e he => by
    rw [hb.count e he]; exact sum_map_zero (heldOf e) _ fun th hth => by simp [heldOf, hall th hth]
  refine ⟨fun k => ?_, fun e he hv => (ent_closed_iff_unheld (hi.ent e he) hv (hq e he)).1.mpr (hh e he)⟩
  cases hp : y.g.pool k with
  | none => rfl
  | some e =>
    have he := (hi.pool k e hp).1
    have := ent_quiet_unheld_unmapped (hi.ent e he) (hq e he) (hh e he)
    rw [inPool_of_pool hi hp] at this
    cases this

theorem close_events_after_last_release {e : Nat} (he : e < y.g.next) :
    closeEvents (y.g.ent e) ≤ 1 ∧ (0 < closeEvents (y.g.ent e) → holdCount y.threads e = 0 ∧ (y.g.ent e).refs = 0) := by
  have hE := (inv_reachable hr).ent e he
  refine ⟨(ent_once hE).2.2, fun hd => ?_⟩
  have := (released_of_close hE hd).2.idle
  rw [← hb.count e he]
  exact ⟨by omega, by omega⟩

end clients

theorem idle_quiet {y : Sys} (h : PlaceBooks y) (hidle : ∀ th ∈ y.threads, th.pc = .idle) {e : Nat}
    (he : e < y.g.next) : quietEntry (y.g.ent e) :=
  have hz := idle_places_empty h hidle he
  ⟨hz .ctor, hz .failing, hz .waiters, hz .lsWaiters, hz .del2, hz .del3⟩

theorem finished_quiet {y : Sys} (h : PlaceBooks y) (hall : allFinished y.threads = true) {e : Nat}
    (he : e < y.g.next) : quietEntry (y.g.ent e) :=
  idle_quiet h (fun th hth => h.fin th hth (by simpa using List.all_eq_true.mp hall th hth)) he

/-- **the count of a key is the number of references the clients remember, whenever no call is in progress.**
    In any state in which every thread is between two calls (whole-call clients are, after every step), for a
    clean run: `refs` of the entry in the map = number of `(key, entry)` references in the threads' books —
    `caddy.ListenerUsage(addr)` is the number of listeners configs have open on the address. -/
theorem count_is_remembered_references_when_idle {y : Sys} (hs : Sound y) (hr : Reachable y.g)
    (hidle : ∀ th ∈ y.threads, th.pc = .idle) {k e : Nat} (hp : y.g.pool k = some e) :
    (y.g.ent e).refs = (holdCount y.threads e : Nat) := by
  obtain ⟨he, h1, _⟩ := mapped_refs (inv_reachable hr) hp
  have hq := idle_quiet hs.places hidle he
  unfold quietEntry at hq
  rw [h1, ← hs.books.count e he]
  congr 1; omega

/-- … for the whole-call runs of client programs (listener-owning configs: `listenerOp`), no hypothesis
    but "every thread is between two calls", which the run checks -/
theorem listener_usage_is_open_listeners (nk : Nat) (progs : List (List Op)) (sched : List Nat)
    (hp : ∀ p ∈ progs, NoRawDelete p)
    (hidle : ∀ th ∈ (runAtomicSys nk progs sched).1.threads, th.pc = .idle) {k e : Nat}
    (hpool : (runAtomicSys nk progs sched).1.g.pool k = some e) :
    ((runAtomicSys nk progs sched).1.g.ent e).refs = (holdCount (runAtomicSys nk progs sched).1.threads e : Nat) :=
  have hall := runAtomicSys_preserves (clientRun_tstep nk) progs sched (clientRun_init progs hp)
  count_is_remembered_references_when_idle hall.1 hall.2.2 hidle hpool

theorem noRaw_requestOps (ks : List Nat) : NoRawDelete (requestOps ks) := by
  intro op hop k
  simp only [requestOps, List.mem_append, List.mem_map] at hop
  rcases hop with ⟨a, _, rfl⟩ | ⟨a, _, rfl⟩ <;> simp

theorem noRaw_handlerLoadOps (ks : List Nat) : NoRawDelete (handlerLoadOps ks) := by
  intro op hop k
  simp only [handlerLoadOps, List.mem_map] at hop
  obtain ⟨a, _, rfl⟩ := hop; simp

/-- **the per-request client keeps the count right.**  Handlers that load their static upstreams
    (`handlerLoadOps`), serve requests whose dynamic source returns ANY addresses — also addresses of static upstreams
    of the same or another handler — (`requestOps`: one acquisition per returned upstream, one release for each of
    THEM), and unload (`closeAll`), in any order of whole calls: whenever no call is in progress, the count of an
    address in the pool is exactly the number of references the handlers remember — a request changes no count. -/
theorem per_request_client_keeps_count (nk : Nat) (progs : List (List (List Op))) (sched : List Nat)
    (hp : ∀ p ∈ progs, ∀ grp ∈ p, NoRawDelete grp)
    (hidle : ∀ th ∈ (runGroupsSys nk progs sched).1.threads, th.pc = .idle) {k e : Nat}
    (hpool : (runGroupsSys nk progs sched).1.g.pool k = some e) :
    ((runGroupsSys nk progs sched).1.g.ent e).refs = (holdCount (runGroupsSys nk progs sched).1.threads e : Nat) := by
  have hflat : ∀ p ∈ progs.map List.flatten, NoRawDelete p := List.forall_mem_map.mpr fun q hq op hop kk =>
    have ⟨grp, hg, hmem⟩ := List.mem_flatten.mp hop
    hp q hq grp hg op hmem kk
  have h0 := clientRun_init _ hflat
  rw [List.map_map] at h0
  have hall := runGroupsSys_preserves (clientRun_tstep nk) progs sched h0
  exact count_is_remembered_references_when_idle hall.1 hall.2.2 hidle hpool

end CaddyModel.C04
