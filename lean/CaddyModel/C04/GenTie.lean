/-
C04 — regenerated tie (tools/extract → Gen/UsagePoolSync.lean, rebuilt from /repo on every run).
The model's atomic regions are the stretches of usagepool.go between two yield points; the forced
schedules of the harness can only interleave where a `verifYield` call sits. This file checks, on the
source as it is now, (1) that the set of (method, yield point) pairs is the table the model and the
harness assume, and (2) that every lock acquisition which follows a release inside the same method —
i.e. every place where another goroutine can get in — has a yield point between that release and the
acquisition, along every control-flow path of the method (`Gen.usagePoolPaths`: if/else and early returns
followed, a loop body taken at most once) — so no interleaving point of the real code is missing from the
schedules.  Three more source facts, about the pools' CLIENTS, stand here too: who closes a pooled log writer
(`Gen.LogWriterCloses`), where every client of every usage pool acquires and releases and behind which guard
(`Gen.UsagePoolClients`, `expectedPoolClientSites`), and that the per-request client of the hosts pool releases what it acquired.
-/
import CaddyModel.Gen.UsagePoolSync
import CaddyModel.Gen.LogWriterCloses
import CaddyModel.Gen.UsagePoolClients

namespace CaddyModel.C04

/-- prefix test on character lists (kernel-reducible, unlike `String.startsWith`) -/
def pre (p e : String) : Bool := p.toList.isPrefixOf e.toList

def isAcquire (e : String) : Bool := pre "Lock:" e || pre "RLock:" e || pre "TryRLock:" e || pre "TryLock:" e
def isRelease (e : String) : Bool := pre "Unlock:" e || pre "RUnlock:" e
def isYield (e : String) : Bool := pre "yield:" e

/-- scan one method: `open_` = a release has happened and no yield point since -/
def reacquireCovered : List String → Bool → Bool
  | [], _ => true
  | e :: es, open_ =>
    if isYield e then reacquireCovered es false
    else if isRelease e then reacquireCovered es true
    else if isAcquire e then (!open_) && reacquireCovered es open_
    else reacquireCovered es open_

def yieldPointsOf (m : String × List String) : List (String × String) :=
  (m.2.filter isYield).map fun y => (m.1, y)

/-- the yield-point table assumed by `Model.lean` / `harness/internal/c04/sched.go` -/
def expectedYieldPoints : List (String × String) :=
  [("LoadOrNew", "yield:1"), ("LoadOrNew", "yield:2"), ("LoadOrStore", "yield:3"), ("LoadOrStore", "yield:7"),
   ("Delete", "yield:8"), ("Delete", "yield:4")]

/-- methods of UsagePool that contain any lock operation or yield point (a helper without any — such as a
    lookup-and-increment helper called under the caller's lock — is not a region of its own) -/
def syncMethods : List String := (Gen.usagePoolSync.filter (fun m => !m.2.isEmpty)).map (·.1)

def expectedMethods : List String := ["LoadOrNew", "LoadOrStore", "Range", "Delete", "References"]

/-- **regenerated tie.** usagepool.go has exactly the assumed yield points (as a set of (method, point) pairs;
    the order of the methods in the file does not matter), no method re-acquires a lock after a release
    without a yield point in between, and the methods that lock or yield at all are the five modelled ones -/
theorem yield_points_match_source :
    (expectedYieldPoints.all (Gen.usagePoolSync.flatMap yieldPointsOf).contains = true ∧
      (Gen.usagePoolSync.flatMap yieldPointsOf).length = expectedYieldPoints.length) ∧
    Gen.usagePoolPaths.all (fun m => m.2.all fun path => reacquireCovered path false) = true ∧
    (expectedMethods.all syncMethods.contains = true ∧ syncMethods.length = expectedMethods.length) := by decide +kernel

/-! ### which region each yield point delimits (what `Model.lean` assumes of them) -/

/-- the event that must follow a yield point directly on every path (`none`: the yield point is the last
    event of its path — point 7 is followed by the recursive call that starts LoadOrStore over) -/
def yieldDelimits : List (String × Option String) :=
  [("yield:1", some "RLock:upv"),   -- LoadOrNew, loaded: region `lnRead` starts here
   ("yield:2", some "Lock:up"),     -- LoadOrNew, constructor failed: region `lnFailDel`
   ("yield:3", some "RLock:upv"),   -- LoadOrStore, loaded: region `lsRead`
   ("yield:4", some "RLock:upv"),   -- Delete, removed at 0: region `del2`
   ("yield:7", none),               -- LoadOrStore starts over: next region is `lsLookup` again
   ("yield:8", some "Lock:up")]     -- Delete entry: region `del1`

def followsOk : List String → Bool
  | [] => true
  | e :: es =>
    (match yieldDelimits.find? (fun d => d.1 == e) with
     | some (_, want) => es.head? == want
     | none => !isYield e) && followsOk es

/-- `Range` / `References` are ONE region each: the pool read lock is taken first, released only by the
    deferred call, and nothing inside can wait (entry locks only by `TryRLock`, never `RLock`/`Lock`) -/
def underPoolReadLock (path : List String) : Bool :=
  path.take 2 == ["RLock:up", "defer:RUnlock:up"] &&
  (path.drop 2).all fun e => e == "TryRLock:upv" || e == "RUnlock:upv"

def pathsOf (m : String) : List (List String) :=
  (Gen.usagePoolPaths.filter (fun x => x.1 == m)).flatMap (·.2)

/-- **regenerated tie, model side.** On every control-flow path of usagepool.go each yield point is directly
    followed by the acquisition that starts the model region it stands for (so a yield moved behind its lock,
    or in front of another statement that takes a lock, breaks this), every `verifYield` is one of the known
    points, and `Range` / `References` hold the pool read lock from their first to their last statement
    without ever waiting for an entry — they are the single regions `Label.range` / `Label.refs` (the
    References and Range repairs cannot be undone without breaking this). -/
theorem yield_points_delimit_model_regions :
    Gen.usagePoolPaths.all (fun m => m.2.all followsOk) = true ∧
    (pathsOf "Range").all underPoolReadLock = true ∧ (pathsOf "Range").isEmpty = false ∧
    (pathsOf "References").all (fun p => p == ["RLock:up", "defer:RUnlock:up"]) = true ∧
    (pathsOf "References").isEmpty = false := by decide +kernel

/-! ### the log-writer client: who closes a pooled writer -/

/-- **regenerated tie, client side.** In logging.go the only call of a `Close` (or `Destruct`) method is the
    one inside `writerDestructor.Destruct` — the destructor the pool runs at the last release.  No part of the
    log set-up or tear-down glue closes a writer itself (`logSetupOp` (Model.lean): towards the pool a log set-up is one
    acquisition, whatever its outcome); a set-up error path that closes "its" writer breaks this. -/
theorem pooled_writer_closed_only_by_destructor_matches_source :
    Gen.logWriterCloseSites = [("Destruct", "Close")] := rfl

/-! ### every client of every usage pool: where it acquires, where it releases, behind which guard -/

/-- call sites (file, function, pool, method) the audit of the pools' clients is based on -/
def expectedPoolClientSites : List (String × String × String × String) := [
  -- listenerPool, non-unix build (listen.go): shared listener / packet conn, release once (CAS on `closed`)
  ("listen.go", "listenReusable", "listenerPool", "LoadOrNew"),
  ("listen.go", "listenReusable", "listenerPool", "LoadOrNew"),
  ("listen.go", "fakeCloseListener.Close", "listenerPool", "Delete"),
  ("listen.go", "fakeClosePacketConn.Close", "listenerPool", "Delete"),
  -- listenerPool, unix build (listen_unix.go): counts sockets (LoadOrStore of nil after a successful bind),
  -- gives the count back when keeping the unix socket fails, and in the wrappers' Close
  ("listen_unix.go", "listenReusable", "listenerPool", "LoadOrStore"),
  ("listen_unix.go", "listenReusable", "listenerPool", "Delete"),
  ("listen_unix.go", "listenReusable", "listenerPool", "Delete"),
  ("listen_unix.go", "deleteListener.Close", "listenerPool", "Delete"),
  ("listen_unix.go", "deletePacketConn.Close", "listenerPool", "Delete"),
  -- listenerPool, QUIC
  ("listeners.go", "NetworkAddress.ListenQUIC", "listenerPool", "LoadOrNew"),
  ("listeners.go", "ListenerUsage", "listenerPool", "References"),
  ("listeners.go", "fakeCloseQuicListener.Close", "listenerPool", "Delete"),
  ("logging.go", "Logging.closeLogs", "writers", "Delete"),
  ("logging.go", "Logging.openWriter", "writers", "LoadOrNew"),
  ("modules/caddyhttp/reverseproxy/admin.go", "adminUpstreams.handleUpstreams", "hosts", "Range"),
  ("modules/caddyhttp/reverseproxy/hosts.go", "Upstream.fillHost", "hosts", "LoadOrStore"),
  ("modules/caddyhttp/reverseproxy/reverseproxy.go", "Handler.Cleanup", "hosts", "Delete"),
  ("modules/caddyhttp/reverseproxy/reverseproxy.go", "Handler.proxyLoopIteration", "hosts", "Delete"),
  ("modules/caddypki/acmeserver/acmeserver.go", "Handler.Cleanup", "databasePool", "Delete"),
  ("modules/caddypki/acmeserver/acmeserver.go", "Handler.openDatabase", "databasePool", "LoadOrNew"),
  ("modules/caddytls/connpolicy.go", "ConnectionPolicy.buildStandardTLSConfig", "secretsLogPool", "LoadOrNew"),
  ("modules/caddytls/connpolicy.go", "ConnectionPolicy.buildStandardTLSConfig", "secretsLogPool", "Delete")]

def siteOf (r : String × String × String × String × List String) : String × String × String × String :=
  (r.1, r.2.1, r.2.2.1, r.2.2.2.1)

def guarded (fn method guard : String) : Bool :=
  let rows := Gen.usagePoolClients.filter fun r => r.2.1 == fn && r.2.2.2.1 == method
  !rows.isEmpty && rows.all fun r => r.2.2.2.2.contains guard

/-- **regenerated tie, all pool clients.** The call sites of the five usage pools are exactly the audited
    ones (a new acquire or release site anywhere in the tree breaks this and has to be audited), and the
    releases that must not run unconditionally are guarded:
    * `acmeserver.Handler.Cleanup` releases the database only if `Provision` opened it (fix a57059e);
    * the reverse proxy's `Cleanup` skips upstreams it never provisioned;
    * the unix `listenReusable` counts a socket only after the bind succeeded and gives the count back only on
      the error path of keeping the unix socket;
    * the listener wrappers that can be closed more than once release exactly once (CAS on `closed`);
    * the TLS secrets log is released by a callback registered right where it was acquired (same `filename`);
    * the dynamic-upstream release of the reverse proxy is deferred in the branch that provisioned them. -/
theorem usage_pool_clients_match_source :
    Gen.usagePoolClients.map siteOf = expectedPoolClientSites ∧
    (Gen.usagePoolClients.any fun r => r.1 == "modules/caddypki/acmeserver/acmeserver.go" && r.2.2.2.1 == "Delete"
        && r.2.2.2.2.contains "!ash.databaseOpened => return") = true ∧
    (Gen.usagePoolClients.any fun r => r.1 == "modules/caddyhttp/reverseproxy/reverseproxy.go" && r.2.1 == "Handler.Cleanup"
        && r.2.2.2.2.contains "upstream.Host==nil => continue") = true ∧
    (Gen.usagePoolClients.any fun r => r.1 == "listen_unix.go" && r.2.2.2.1 == "LoadOrStore" && r.2.2.2.2 == ["if err==nil"]) = true ∧
    ((Gen.usagePoolClients.filter fun r => r.1 == "listen_unix.go" && r.2.1 == "listenReusable" && r.2.2.2.1 == "Delete").all
        fun r => r.2.2.2.2.getLast? == some "if err!=nil") = true ∧
    guarded "fakeCloseListener.Close" "Delete" "if atomic.CompareAndSwapInt32(&fcl.closed,0,1)" = true ∧
    guarded "fakeClosePacketConn.Close" "Delete" "if atomic.CompareAndSwapInt32(&fcpc.closed,0,1)" = true ∧
    guarded "fakeCloseQuicListener.Close" "Delete" "if atomic.CompareAndSwapInt32(&fcql.closed,0,1)" = true ∧
    guarded "ConnectionPolicy.buildStandardTLSConfig" "Delete" "func" = true ∧
    guarded "ConnectionPolicy.buildStandardTLSConfig" "LoadOrNew" "if p.InsecureSecretsLog!=\"\"" = true ∧
    guarded "ConnectionPolicy.buildStandardTLSConfig" "Delete" "if p.InsecureSecretsLog!=\"\"" = true ∧
    guarded "Handler.proxyLoopIteration" "Delete" "defer" = true :=
  ⟨rfl, by decide +kernel⟩

/-- **regenerated tie, the per-request client's PAIRING.** In `Handler.proxyLoopIteration` the loop that provisions
    the dynamic upstreams and the deferred loop that releases them range over the same slice; the provisioning loop's
    body is the one call `h.provisionUpstream(dUp)` — no element is skipped, replaced or taken from elsewhere —; the
    release is `hosts.Delete(upstream.String())`, the key `fillHost` stored under; and the only write to that slice or
    to any of its elements is its definition from the source's answer.  So every element that reaches the release was
    acquired in the same iteration: the request's program is `requestOps` (Model.lean) (a release for each of ITS OWN
    acquisitions), for which `per_request_client_keeps_count` holds.  Substituting an element (e.g. by a static
    upstream) without provisioning it breaks this. -/
theorem dynamic_upstream_pairing_matches_source :
    Gen.dynamicUpstreamPairing =
      ("dUpstreams", ["h.provisionUpstream(dUp)"], "dUpstreams", "upstream.String()",
       ["dUpstreams,err:=h.DynamicUpstreams.GetUpstreams(r)"]) := rfl

end CaddyModel.C04
