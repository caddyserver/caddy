/-
C04 — from the anonymous net to named clients.

`holders` in `G` is a ghost counter.  This file ties it to the bookkeeping of the named threads of
the executable model (`Thread.held` — what a client such as a config's `Logging.writerKeys`,
a reverse-proxy handler's provisioned `Upstreams`, or a listener wrapper remembers): a move of a
thread changes `holders e` exactly as it changes the number of `(key, e)` entries in the thread's
`held` list (`tmove_tok` (Places.lean)), so the two agree in every state the driver can reach (`Books`,
`books_runSched` (Stuck.lean)).  Also here, the list side of a `Delete`: the reference it gives back is taken out of `held`
once (`TakenOut`, `delStart_held`).
-/
import CaddyModel.C04.Tokens

namespace CaddyModel.C04

def heldOf (e : Nat) (th : Thread) : Nat := th.held.countP (fun x => x.2 == e)

def holdCount (ths : List Thread) (e : Nat) : Nat := (ths.map (heldOf e)).sum

def HeldOk (g : G) (th : Thread) : Prop := ∀ x ∈ th.held, x.2 < g.next

def TakenOut (x : Nat × Nat) (l l' : List (Nat × Nat)) : Prop :=
  ∃ pre post, l = pre ++ x :: post ∧ l' = pre ++ post

theorem findHeld_takenOut {k e0 : Nat} : ∀ {l : List (Nat × Nat)}, findHeld k l = some e0 →
    TakenOut (k, e0) l (eraseHeld k l)
  | [], h => by simp [findHeld] at h
  | x :: xs, h => by
    unfold findHeld at h
    unfold eraseHeld
    split at h
    · rename_i hx
      cases h
      exact ⟨[], xs, by rw [← hx]; rfl, by rw [if_pos hx]; rfl⟩
    · rename_i hx
      obtain ⟨pre, post, h1, h2⟩ := findHeld_takenOut h
      exact ⟨x :: pre, post, by rw [h1]; rfl, by rw [if_neg hx, h2]; rfl⟩

theorem oldestHeld_takenOut {x : Nat × Nat} : ∀ {l : List (Nat × Nat)}, oldestHeld l = some x →
    TakenOut x l l.dropLast
  | [], h => by simp [oldestHeld] at h
  | [y], h => by cases h; exact ⟨[], [], rfl, rfl⟩
  | y :: z :: zs, h => by
    obtain ⟨pre, post, h1, h2⟩ := oldestHeld_takenOut (l := z :: zs) h
    exact ⟨y :: pre, post, by rw [h1]; rfl, by rw [List.dropLast_cons_cons, h2]; rfl⟩

theorem findHeld_none {k : Nat} : ∀ {l : List (Nat × Nat)}, findHeld k l = none → eraseHeld k l = l
  | [], _ => rfl
  | x :: xs, h => by
    unfold findHeld at h
    by_cases hx : x.1 = k
    · simp [hx] at h
    · simp [hx] at h
      simp [eraseHeld, hx, findHeld_none h]

/-- (the middle conjunct has the shape of `delStart_held`'s, where the entry given back is an `Option`) -/
theorem takenOut_held {k e0 : Nat} {held held' : List (Nat × Nat)} (h : TakenOut (k, e0) held held') :
    (∀ x ∈ held', x ∈ held) ∧ (∀ e1, some e0 = some e1 → (k, e1) ∈ held)
      ∧ ∀ e, held'.countP (fun x => x.2 == e) + sind (some (.holders, e0)) .holders e = held.countP (fun x => x.2 == e) := by
  obtain ⟨pre, post, rfl, rfl⟩ := h
  refine ⟨fun _ hy => ((List.sublist_cons_self _ post).append_left pre).subset hy, fun e1 h1 => by cases h1; simp, fun e => ?_⟩
  simp only [sind, List.countP_append, List.countP_cons, beq_iff_eq, Option.some.injEq, Prod.mk.injEq, true_and]; omega

theorem delStart_held {op : Op} {held held' : List (Nat × Nat)} {k : Nat} {h : Option Nat}
    (hd : DelStart op held k h held') :
    (∀ x ∈ held', x ∈ held) ∧ (∀ e0, h = some e0 → (k, e0) ∈ held)
      ∧ ∀ e, held'.countP (fun x => x.2 == e) + sind (src (.del1 k h)) .holders e = held.countP (fun x => x.2 == e) := by
  cases hd with
  | del =>
    cases hf : findHeld k held with
    | none => rw [findHeld_none hf]; exact ⟨fun _ hx => hx, fun _ h0 => (nomatch h0), fun _ => rfl⟩
    | some e0 => exact takenOut_held (findHeld_takenOut hf)
  | cdel hf => exact takenOut_held (findHeld_takenOut hf)
  | closeAll ho => exact takenOut_held (oldestHeld_takenOut ho)

structure Books (y : Sys) : Prop where
  count : ∀ e, e < y.g.next → (y.g.ent e).holders = holdCount y.threads e
  ok : ∀ th ∈ y.threads, HeldOk y.g th

theorem heldOf_zero {g : G} {th : Thread} (h : HeldOk g th) {e : Nat} (he : g.next ≤ e) : heldOf e th = 0 := by
  unfold heldOf
  rw [List.countP_eq_zero]
  intro x hx
  have := h x hx
  simp; omega

theorem books_held {y : Sys} (h : Books y) {th : Thread} (hth : th ∈ y.threads) {x : Nat × Nat} (hx : x ∈ th.held) :
    x.2 < y.g.next ∧ 0 < (y.g.ent x.2).holders := by
  have hlt := h.ok th hth x hx
  refine ⟨hlt, ?_⟩
  rw [h.count x.2 hlt]
  have h1 : 0 < heldOf x.2 th := List.countP_pos_iff.mpr ⟨x, hx, by simp⟩
  exact Nat.lt_of_lt_of_le h1 (le_sum_map (heldOf x.2) hth)

end CaddyModel.C04
