/-
C04 — the panic in `Delete` ("deleted more than stored") is unreachable, for EVERY client — also
one that deletes keys it does not hold (`mapOk_step` has no exclusion): an entry in
the map always has refs ≥ 1 (it is created with 1 and removed in the very region that brings it
to 0), so `refs - 1` is never negative.  Over-deleting returns (false, nil) instead.
-/
import CaddyModel.C04.Shape

namespace CaddyModel.C04

def MapOk (s : G) : Prop :=
  ∀ k e, s.pool k = some e → e < s.next ∧ (s.ent e).key = k ∧ 1 ≤ (s.ent e).refs

theorem mapOk_upd {s : G} {e : Nat} {f : Entry → Entry} (h : MapOk s)
    (hk : (f (s.ent e)).key = (s.ent e).key) (hr : 1 ≤ (s.ent e).refs → 1 ≤ (f (s.ent e)).refs) :
    MapOk (updEnt s e f) := by
  intro k i hp
  obtain ⟨h1, h2, h3⟩ := h k i hp
  rw [updEnt_ent]
  split
  · rename_i hie; subst hie; exact ⟨h1, hk.trans h2, hr h3⟩
  · exact ⟨h1, h2, h3⟩

theorem mapOk_alloc {s : G} {k : Nat} {E : Entry} (h : MapOk s) (hk : E.key = k) (hr : 1 ≤ E.refs) :
    MapOk (alloc s k E) := by
  intro k' i hp
  by_cases hkk : k' = k
  · subst hkk
    have : i = s.next := by simpa [alloc] using hp.symm
    subst this
    exact ⟨Nat.lt_succ_self _, by simp [alloc, hk], by simp [alloc, hr]⟩
  · have hp' : s.pool k' = some i := by simpa [alloc, hkk] using hp
    obtain ⟨h1, h2, h3⟩ := h k' i hp'
    have hne : i ≠ s.next := by omega
    exact ⟨Nat.lt_succ_of_lt h1, by simp [alloc, hne, h2], by simp [alloc, hne, h3]⟩

theorem mapOk_unmapUpd {s : G} {k e : Nat} {f : Entry → Entry} (h : MapOk s)
    (hk : (s.ent e).key = k) : MapOk (updEnt (setPool s k none) e f) := by
  intro k' i hp
  by_cases hkk : k' = k
  · subst hkk; simp [updEnt, setPool] at hp
  · have hp' : s.pool k' = some i := by simpa [updEnt, setPool, hkk] using hp
    obtain ⟨h1, h2, h3⟩ := h k' i hp'
    have hne : i ≠ e := by
      intro hie; subst hie
      exact hkk (h2.symm.trans hk)
    have : (updEnt (setPool s k none) e f).ent i = s.ent i := (updEnt_ent ..).trans (if_neg hne)
    rw [this]; exact ⟨h1, h2, h3⟩

theorem mapOk_del1Code {s : G} (h : MapOk s) (k : Nat) : MapOk (del1Code s k) := by
  fun_cases del1Code s k
  · exact h
  · exact mapOk_unmapUpd h (h k _ ‹_›).2.1
  · exact mapOk_upd h rfl fun h1 => by show 1 ≤ _ - 1; omega

theorem mapOk_bump {s : G} (h : MapOk s) : MapOk (bumpVal s) := h

theorem mapOk_step {s s' : G} {l : Label} (h : MapOk s) (hs : gstep s l = some s') : MapOk s' := by
  cases gstep_rel hs with
  | lnJoin _ => exact mapOk_upd h rfl fun h1 => by show 1 ≤ _ + 1; omega
  | lsJoin _ | lspJoin _ => exact mapOk_upd (mapOk_bump h) rfl fun h1 => by show 1 ≤ _ + 1; omega
  | lnNew _ => exact mapOk_alloc h rfl (by simp [newCtorEntry])
  | lsNew _ => exact mapOk_alloc (mapOk_bump h) rfl (by simp [newStoredEntry])
  | lspNew _ => exact mapOk_alloc (mapOk_bump h) rfl (by simp [newPlainEntry])
  | ctorOk _ _ => exact mapOk_upd (mapOk_bump h) rfl id
  | lnFailDel _ _ => exact mapOk_unmapUpd h rfl
  | del1Rogue => exact mapOk_del1Code h _
  | del1 _ _ _ => exact mapOk_del1Code (mapOk_upd h rfl id) _
  | refs | range => exact h
  | _ => exact mapOk_upd h rfl id

theorem mapOk_run (ls : List Label) {s s' : G} (h : MapOk s) (hr : runLabels s ls = some s') : MapOk s' :=
  runLabels_preserves mapOk_step ls h hr

theorem mapOk_init : MapOk G.init := by
  intro k e h; simp [G.init] at h

end CaddyModel.C04
