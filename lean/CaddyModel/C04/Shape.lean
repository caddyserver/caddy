/-
C04 — what every proof module stands on: the model's steps as relations, the frame of a step, runs, sums over threads.

* `GStep` is `gstep` as a relation: one rule per branch of a lock region, with the guards of the branch as
  premises and the state after it spelled out (a region that uses up a value number bumps `nextVal` first:
  `bumpVal` commutes with `updEnt` and `alloc`, and this way every rule's result is `updEnt`/`alloc`/`del1Code`
  of a state that has the pool and the entries of `s`).  Every proof about "any region" is a case analysis over these
  rules (`gstep_rel`); what a rule leaves alone is read off `updEnt_field`, `alloc_ent_old`, `del1Code_field`
  (`del1Code_holder`: `del1Code` after the holder's decrement, in closed form).
* `TMove` contains `tmove` (`tmove_spec`, `tmove_rel`; `DelStart` for how a `Delete` starts) and is looser where the books do not
  care: `skip` for any operation, any value number at `destruct`, either continuation after a `Delete`, no event tokens.  A thread
  whose program counter fits its operation (`PcOk`) is never `stuck`.
* Runs: what a region keeps, `runLabels` keeps (`runLabels_preserves`, `cleanRun_preserves`); what `tstep` does to a system
  (`tstep_cases`); what `tstep` keeps, every run shape of the driver keeps (`foldl_preserves` … `runGroupsSys_preserves`).
* The threads when one thread changes: what holds of each (`forall_mem_set`), sums over them (`sum_map_set`, `count_set`,
  `le_sum_map`: the arithmetic of both books).
-/
import CaddyModel.C04.Model

namespace CaddyModel.C04

inductive GStep (s : G) : Label → G → Prop
  | lnJoin {k e} : s.pool k = some e →
      GStep s (.lnLookup k) (updEnt s e fun E => { E with refs := E.refs + 1, waiters := E.waiters + 1 })
  | lnNew {k} : s.pool k = none → GStep s (.lnLookup k) (alloc s k (newCtorEntry k))
  | ctorOk {e} : e < s.next → 0 < (s.ent e).ctor →
      GStep s (.ctorOk e) (updEnt (bumpVal s) e fun E =>
        { E with value := some s.nextVal, wlocked := false, ctor := E.ctor - 1,
                 holders := E.holders + 1, ctorRuns := E.ctorRuns + 1 })
  | ctorErr {e} : e < s.next → 0 < (s.ent e).ctor →
      GStep s (.ctorErr e) (updEnt s e fun E =>
        { E with err := true, ctor := E.ctor - 1, failing := E.failing + 1, ctorRuns := E.ctorRuns + 1 })
  | lnFailDel {e} : e < s.next → 0 < (s.ent e).failing →
      GStep s (.lnFailDel e) (updEnt (setPool s (s.ent e).key none) e fun E =>
        { E with wlocked := false, failing := E.failing - 1, deadRefs := E.deadRefs + 1 })
  | lnReadErr {e} : e < s.next → 0 < (s.ent e).waiters → (s.ent e).wlocked = false → (s.ent e).err = true →
      GStep s (.lnRead e) (updEnt s e fun E => { E with waiters := E.waiters - 1, deadRefs := E.deadRefs + 1 })
  | lnReadOk {e} : e < s.next → 0 < (s.ent e).waiters → (s.ent e).wlocked = false → (s.ent e).err = false →
      GStep s (.lnRead e) (updEnt s e fun E => { E with waiters := E.waiters - 1, holders := E.holders + 1 })
  | lsJoin {k e} : s.pool k = some e →
      GStep s (.lsLookup k) (updEnt (bumpVal s) e fun E => { E with refs := E.refs + 1, lsWaiters := E.lsWaiters + 1 })
  | lsNew {k} : s.pool k = none → GStep s (.lsLookup k) (alloc (bumpVal s) k (newStoredEntry k s.nextVal))
  | lspJoin {k e} : s.pool k = some e →
      GStep s (.lspLookup k) (updEnt (bumpVal s) e fun E => { E with refs := E.refs + 1, lsWaiters := E.lsWaiters + 1 })
  | lspNew {k} : s.pool k = none → GStep s (.lspLookup k) (alloc (bumpVal s) k (newPlainEntry k s.nextVal))
  | lsReadErr {e v} : e < s.next → 0 < (s.ent e).lsWaiters → (s.ent e).wlocked = false → (s.ent e).err = true →
      GStep s (.lsRead e v) (updEnt s e fun E => { E with lsWaiters := E.lsWaiters - 1, deadRefs := E.deadRefs + 1 })
  | lsReadOk {e v} : e < s.next → 0 < (s.ent e).lsWaiters → (s.ent e).wlocked = false → (s.ent e).err = false →
      GStep s (.lsRead e v) (updEnt s e fun E => { E with lsWaiters := E.lsWaiters - 1, holders := E.holders + 1 })
  | del1Rogue {k} : GStep s (.del1 k none) (del1Code s k)
  | del1 {k h} : h < s.next → 0 < (s.ent h).holders → (s.ent h).key = k →
      GStep s (.del1 k (some h)) (del1Code (updEnt s h fun E => { E with holders := E.holders - 1 }) k)
  | del2 {e} : e < s.next → 0 < (s.ent e).del2 → (s.ent e).wlocked = false →
      (s.ent e).value.isSome = true → (s.ent e).plain = false →
      GStep s (.del2 e) (updEnt s e fun E => { E with del2 := E.del2 - 1, del3 := E.del3 + 1 })
  | del2Plain {e} : e < s.next → 0 < (s.ent e).del2 → (s.ent e).wlocked = false →
      (s.ent e).value.isSome = true → (s.ent e).plain = true →
      GStep s (.del2 e) (updEnt s e fun E => { E with del2 := E.del2 - 1, skipped := E.skipped + 1 })
  | del2Nil {e} : e < s.next → 0 < (s.ent e).del2 → (s.ent e).wlocked = false → (s.ent e).value.isSome = false →
      GStep s (.del2 e) (updEnt s e fun E => { E with del2 := E.del2 - 1 })
  | del3 {e} : e < s.next → 0 < (s.ent e).del3 →
      GStep s (.del3 e) (updEnt s e fun E => { E with del3 := E.del3 - 1, destructed := E.destructed + 1 })
  | refs {k} : GStep s (.refs k) s
  | range : GStep s .range s

theorem gstep_rel {s s' : G} {l : Label} (h : gstep s l = some s') : GStep s l s' := by
  revert h
  fun_cases gstep s l <;> intro h <;> cases h
  · exact .lnJoin ‹_›
  · exact .lnNew ‹_›
  · exact .ctorOk (‹_ ∧ _›).1 (‹_ ∧ _›).2
  · exact .ctorErr (‹_ ∧ _›).1 (‹_ ∧ _›).2
  · exact .lnFailDel (‹_ ∧ _›).1 (‹_ ∧ _›).2
  · rename_i hg herr; exact .lnReadErr hg.1 hg.2.1 hg.2.2 herr
  · rename_i hg herr; exact .lnReadOk hg.1 hg.2.1 hg.2.2 (Bool.eq_false_iff.mpr herr)
  · exact .lsJoin ‹_›
  · exact .lsNew ‹_›
  · exact .lspJoin ‹_›
  · exact .lspNew ‹_›
  · rename_i hg herr; exact .lsReadErr hg.1 hg.2.1 hg.2.2 herr
  · rename_i hg herr; exact .lsReadOk hg.1 hg.2.1 hg.2.2 (Bool.eq_false_iff.mpr herr)
  · exact .del1Rogue
  · rename_i hg; exact .del1 hg.1 hg.2.1 hg.2.2
  · rename_i hg hv; exact .del2 hg.1 hg.2.1 hg.2.2 hv.1 hv.2
  · rename_i hg hn hv
    exact .del2Plain hg.1 hg.2.1 hg.2.2 hv (by
      cases hp : (s.ent _).plain
      · exact absurd ⟨hv, hp⟩ hn
      · rfl)
  · rename_i hg _ hv; exact .del2Nil hg.1 hg.2.1 hg.2.2 (Bool.eq_false_iff.mpr hv)
  · exact .del3 (‹_ ∧ _›).1 (‹_ ∧ _›).2
  · exact .refs
  · exact .range

theorem updEnt_ent (g : G) (e0 : Nat) (f : Entry → Entry) (e : Nat) :
    (updEnt g e0 f).ent e = if e = e0 then f (g.ent e) else g.ent e := by
  unfold updEnt; by_cases h : e = e0 <;> simp [h]

theorem updEnt_updEnt (s : G) (e : Nat) (f g : Entry → Entry) :
    updEnt (updEnt s e f) e g = updEnt s e (fun E => g (f E)) := by
  unfold updEnt
  congr 1
  funext i
  by_cases h : i = e <;> simp [h]

theorem updEnt_field {α : Type} (fld : Entry → α) (g : G) (e0 e : Nat) {f : Entry → Entry}
    (hf : ∀ E, fld (f E) = fld E := by intro; rfl) : fld ((updEnt g e0 f).ent e) = fld (g.ent e) := by
  rw [updEnt_ent]; split
  · exact hf _
  · rfl

theorem alloc_ent_old {g : G} {e : Nat} (he : e < g.next) (k : Nat) (E : Entry) : (alloc g k E).ent e = g.ent e := by
  have : e ≠ g.next := Nat.ne_of_lt he
  simp [alloc, this]

theorem alloc_ent_new (g : G) (k : Nat) (E : Entry) : (alloc g k E).ent g.next = E := by simp [alloc]

theorem del1Code_next (g : G) (k : Nat) : (del1Code g k).next = g.next := by
  fun_cases del1Code g k <;> rfl

theorem del1Code_holder {s : G} {k h : Nat} (hp : s.pool k = some h) :
    del1Code (updEnt s h fun E => { E with holders := E.holders - 1 }) k =
      if (s.ent h).refs - 1 = 0 then
        updEnt (setPool s k none) h fun E => { E with holders := E.holders - 1, refs := E.refs - 1, del2 := E.del2 + 1 }
      else updEnt s h fun E => { E with holders := E.holders - 1, refs := E.refs - 1 } := by
  have hp' : (updEnt s h fun E => { E with holders := E.holders - 1 }).pool k = some h := hp
  have hrefs : ((updEnt s h fun E => { E with holders := E.holders - 1 }).ent h).refs = (s.ent h).refs :=
    updEnt_field Entry.refs s h h
  unfold del1Code
  rw [hp']
  simp only [hrefs]
  split
  · exact updEnt_updEnt (setPool s k none) h (fun E => { E with holders := E.holders - 1 }) _
  · exact updEnt_updEnt s h _ _

theorem del1Code_nextVal (g : G) (k : Nat) : (del1Code g k).nextVal = g.nextVal := by
  fun_cases del1Code g k <;> rfl

theorem del1Code_field {α : Type} (fld : Entry → α) (g : G) (k e : Nat)
    (hf : ∀ (E : Entry) r d, fld { E with refs := r, del2 := d } = fld E := by intros; rfl) :
    fld ((del1Code g k).ent e) = fld (g.ent e) := by
  fun_cases del1Code g k
  · rfl
  · exact updEnt_field fld (setPool g k none) _ e (fun E => hf E _ _)
  · exact updEnt_field fld g _ e (fun E => hf E _ E.del2)

theorem gstep_next_le {g g' : G} {l : Label} (h : gstep g l = some g') : g.next ≤ g'.next := by
  cases gstep_rel h with
  | lnNew _ | lsNew _ | lspNew _ => exact Nat.le_succ _
  | del1Rogue | del1 _ _ _ => rw [del1Code_next]; exact Nat.le_refl _
  | _ => exact Nat.le_refl _

theorem gstep_key {g g' : G} {l : Label} (h : gstep g l = some g') {e : Nat} (he : e < g.next) :
    (g'.ent e).key = (g.ent e).key := by
  cases gstep_rel h with
  | lnNew _ => exact congrArg Entry.key (alloc_ent_old he _ _)
  | lsNew _ | lspNew _ => exact congrArg Entry.key (alloc_ent_old (g := bumpVal g) he _ _)
  | del1Rogue => exact del1Code_field Entry.key _ _ _
  | del1 _ _ _ => exact (del1Code_field Entry.key _ _ _).trans (updEnt_field Entry.key _ _ _)
  | refs | range => rfl
  | _ => exact updEnt_field Entry.key _ _ _

theorem runLabels_single (g : G) (l : Label) : runLabels g [l] = gstep g l := by
  simp only [runLabels]
  cases gstep g l <;> rfl

/-- how a `Delete` of key `k` starts: the entry the thread gives back (`h`, none: it holds nothing for `k`)
    and what it remembers afterwards -/
inductive DelStart : Op → List (Nat × Nat) → Nat → Option Nat → List (Nat × Nat) → Prop
  | del {k held} : DelStart (.del k) held k (findHeld k held) (eraseHeld k held)
  | cdel {k held e} : findHeld k held = some e → DelStart (.cdel k) held k (some e) (eraseHeld k held)
  | closeAll {k e held} : oldestHeld held = some (k, e) → DelStart .closeAll held k (some e) held.dropLast

def Op.isDel : Op → Prop
  | .del _ | .cdel _ | .closeAll => True
  | _ => False

/-- `tmove` as a relation: thread before, labels issued, thread after.  A thread that finishes a call goes on
    with `after`, which is the rest of its program or (a cleanup that is not done yet) the same program again. -/
inductive TMove (g : G) : Thread → List Label → Thread → Prop
  | lnJoin {k b rest held e} : g.pool k = some e →
      TMove g ⟨.ln k b :: rest, .idle, held⟩ [.lnLookup k] ⟨.ln k b :: rest, .lnWait e, held⟩
  | lnNew {k b rest held} : g.pool k = none →
      TMove g ⟨.ln k b :: rest, .idle, held⟩ [.lnLookup k] ⟨.ln k b :: rest, .ctor g.next, held⟩
  | ctorOk {e k rest held} :
      TMove g ⟨.ln k true :: rest, .ctor e, held⟩ [.ctorOk e] ⟨rest, .idle, (k, e) :: held⟩
  | ctorErr {e k rest held} :
      TMove g ⟨.ln k false :: rest, .ctor e, held⟩ [.ctorErr e] ⟨.ln k false :: rest, .lnFail e, held⟩
  | lnFailDel {e k b rest held} :
      TMove g ⟨.ln k b :: rest, .lnFail e, held⟩ [.lnFailDel e] ⟨rest, .idle, held⟩
  | lnReadErr {e k b rest held} : (g.ent e).wlocked = false → (g.ent e).err = true →
      TMove g ⟨.ln k b :: rest, .lnWait e, held⟩ [.lnRead e] ⟨rest, .idle, held⟩
  | lnReadOk {e k b rest held} : (g.ent e).wlocked = false → (g.ent e).err = false →
      TMove g ⟨.ln k b :: rest, .lnWait e, held⟩ [.lnRead e] ⟨rest, .idle, (k, e) :: held⟩
  | lsJoin {k rest held e} : g.pool k = some e →
      TMove g ⟨.ls k :: rest, .idle, held⟩ [.lsLookup k] ⟨.ls k :: rest, .lsWait e g.nextVal, held⟩
  | lsNew {k rest held} : g.pool k = none →
      TMove g ⟨.ls k :: rest, .idle, held⟩ [.lsLookup k] ⟨rest, .idle, (k, g.next) :: held⟩
  | lspJoin {k rest held e} : g.pool k = some e →
      TMove g ⟨.lsp k :: rest, .idle, held⟩ [.lspLookup k] ⟨.lsp k :: rest, .lsWait e g.nextVal, held⟩
  | lspNew {k rest held} : g.pool k = none →
      TMove g ⟨.lsp k :: rest, .idle, held⟩ [.lspLookup k] ⟨rest, .idle, (k, g.next) :: held⟩
  | lsReadErr {op e v k rest held} : op = .ls k ∨ op = .lsp k → (g.ent e).wlocked = false → (g.ent e).err = true →
      TMove g ⟨op :: rest, .lsWait e v, held⟩ [.lsRead e v] ⟨op :: rest, .idle, held⟩
  | lsReadOk {op e v k rest held} : op = .ls k ∨ op = .lsp k → (g.ent e).wlocked = false → (g.ent e).err = false →
      TMove g ⟨op :: rest, .lsWait e v, held⟩ [.lsRead e v] ⟨rest, .idle, (k, e) :: held⟩
  | delPark {op rest held k h held' e} : DelStart op held k h held' → g.pool k = some e → (g.ent e).refs - 1 = 0 →
      TMove g ⟨op :: rest, .idle, held⟩ [.del1 k h] ⟨op :: rest, .delRead e, held'⟩
  | delDone {op rest held k h held' after} : DelStart op held k h held' →
      (∀ e, g.pool k = some e → ¬ (g.ent e).refs - 1 = 0) → after = rest ∨ after = op :: rest →
      TMove g ⟨op :: rest, .idle, held⟩ [.del1 k h] ⟨after, .idle, held'⟩
  | del2Done {op e rest held after} : op.isDel → (g.ent e).wlocked = false →
      ¬ ((g.ent e).value.isSome = true ∧ (g.ent e).plain = false) → after = rest ∨ after = op :: rest →
      TMove g ⟨op :: rest, .delRead e, held⟩ [.del2 e] ⟨after, .idle, held⟩
  | del2Destruct {op e v rest held} : op.isDel → (g.ent e).wlocked = false →
      (g.ent e).value.isSome = true → (g.ent e).plain = false →
      TMove g ⟨op :: rest, .delRead e, held⟩ [.del2 e] ⟨op :: rest, .destruct e v, held⟩
  | del3 {op e v rest held after} : op.isDel → after = rest ∨ after = op :: rest →
      TMove g ⟨op :: rest, .destruct e v, held⟩ [.del3 e] ⟨after, .idle, held⟩
  | refs {k rest held} : TMove g ⟨.refs k :: rest, .idle, held⟩ [.refs k] ⟨rest, .idle, held⟩
  | range {rest held} : TMove g ⟨.range :: rest, .idle, held⟩ [.range] ⟨rest, .idle, held⟩
  | skip {op rest held} : TMove g ⟨op :: rest, .idle, held⟩ [] ⟨rest, .idle, held⟩

theorem afterClose_eq (held : List (Nat × Nat)) (op : Op) (rest : List Op) :
    afterClose held op rest = rest ∨ afterClose held op rest = op :: rest := by
  unfold afterClose; split
  · exact .inl rfl
  · exact .inr rfl

def PcOk (g : G) (th : Thread) : Prop :=
  match th.pc, th.prog with
  | .idle, _ => True
  | .ctor e, .ln k _ :: _ => (g.ent e).key = k
  | .lnFail _, .ln _ _ :: _ => True
  | .lnWait e, .ln k _ :: _ => (g.ent e).key = k
  | .lsWait e _, .ls k :: _ => (g.ent e).key = k
  | .lsWait e _, .lsp k :: _ => (g.ent e).key = k
  | .delRead _, .del _ :: _ => True
  | .delRead _, .cdel _ :: _ => True
  | .delRead _, .closeAll :: _ => True
  | .destruct _ _, .del _ :: _ => True
  | .destruct _ _, .cdel _ :: _ => True
  | .destruct _ _, .closeAll :: _ => True
  | _, _ => False

def MoveSpec (g : G) (th : Thread) : Move → Prop
  | .go ls th' _ => TMove g th ls th'
  | .stuck => ¬ PcOk g th
  | _ => True

theorem delStartWith_spec {g : G} {op : Op} {rest after : List Op} {held held' : List (Nat × Nat)} {k : Nat}
    {h : Option Nat} (hd : DelStart op held k h held') (ha : after = rest ∨ after = op :: rest) :
    MoveSpec g ⟨op :: rest, .idle, held⟩ (delStartWith g k h held' (op :: rest) after) := by
  unfold delStartWith
  split
  · rename_i hp
    exact .delDone hd (fun e he => by rw [hp] at he; cases he) ha
  · rename_i e hp
    split
    · exact .delPark hd hp ‹_›
    · have hz : ∀ e', g.pool k = some e' → ¬ (g.ent e').refs - 1 = 0 := fun e' he' => by
        rw [hp] at he'; cases he'; assumption
      split <;> exact .delDone hd hz ha

theorem delRead_spec {g : G} {op : Op} {rest after : List Op} {held : List (Nat × Nat)} {e : Nat}
    (hop : op.isDel) (ha : after = rest ∨ after = op :: rest) :
    MoveSpec g ⟨op :: rest, .delRead e, held⟩ (delRead g ⟨op :: rest, .delRead e, held⟩ e after) := by
  unfold delRead
  split
  · trivial
  · rename_i hw
    have hw' : (g.ent e).wlocked = false := by simpa using hw
    split
    · rename_i v hv
      split
      · rename_i hp
        exact .del2Done hop hw' (fun h => by rw [hp] at h; cases h.2) ha
      · rename_i hp
        exact .del2Destruct hop hw' (by rw [hv]; rfl) (by simpa using hp)
    · rename_i hv
      exact .del2Done hop hw' (fun h => by rw [hv] at h; cases h.1) ha

theorem tmove_spec (nk : Nat) (g : G) (th : Thread) : MoveSpec g th (tmove nk g th) := by
  obtain ⟨prog, pc, held⟩ := th
  cases prog with
  | nil => trivial
  | cons op rest =>
    cases pc <;> cases op <;> simp only [tmove]
    all_goals try exact id
    case idle.ln k b =>
      split
      · exact .lnJoin ‹_›
      · exact .lnNew ‹_›
    case idle.ls k =>
      split
      · exact .lsJoin ‹_›
      · exact .lsNew ‹_›
    case idle.lsp k =>
      split
      · exact .lspJoin ‹_›
      · exact .lspNew ‹_›
    case idle.del k => exact delStartWith_spec .del (.inl rfl)
    case idle.cdel k =>
      split
      · exact .skip
      · rename_i hf
        cases hfh : findHeld k held with
        | none => simp [hfh] at hf
        | some e0 => unfold delStart; rw [hfh]; exact delStartWith_spec (.cdel hfh) (.inl rfl)
    case idle.refs k => exact .refs
    case idle.range => exact .range
    case idle.closeAll =>
      split
      · exact .skip
      · exact delStartWith_spec (.closeAll ‹_›) (afterClose_eq _ _ _)
    case ctor.ln e k b =>
      cases b
      · exact .ctorErr
      · exact .ctorOk
    case lnFail.ln e k b => exact .lnFailDel
    case lnWait.ln e k b =>
      split
      · trivial
      · rename_i hw
        have hw' : (g.ent e).wlocked = false := by simpa using hw
        cases herr : (g.ent e).err
        · simp only [lnReadRet, herr]; exact .lnReadOk hw' herr
        · simp only [lnReadRet, herr]; exact .lnReadErr hw' herr
    case lsWait.ls e v k | lsWait.lsp e v k =>
      split
      · trivial
      · rename_i hw
        have hw' : (g.ent e).wlocked = false := by simpa using hw
        split
        · exact .lsReadErr (k := k) (by simp) hw' ‹_›
        · exact .lsReadOk (k := k) (by simp) hw' (Bool.eq_false_iff.mpr ‹_›)
    case delRead.del e k | delRead.cdel e k => exact delRead_spec trivial (.inl rfl)
    case delRead.closeAll e => exact delRead_spec trivial (afterClose_eq _ _ _)
    case destruct.del e v k | destruct.cdel e v k => exact .del3 trivial (.inl rfl)
    case destruct.closeAll e v => exact .del3 trivial (afterClose_eq _ _ _)

theorem tmove_rel {nk : Nat} {g : G} {th th' : Thread} {ls : List Label} {ev : String}
    (hm : tmove nk g th = .go ls th' ev) : TMove g th ls th' := by
  have := tmove_spec nk g th
  rw [hm] at this
  exact this

theorem runLabels_preserves {P : G → Prop} (hP : ∀ {s s' l}, P s → gstep s l = some s' → P s')
    (ls : List Label) {s s' : G} (h : P s) (hr : runLabels s ls = some s') : P s' := by
  fun_induction runLabels s ls with
  | case1 => cases hr; exact h
  | case2 s l ls s1 hg ih => exact ih (hP h hg) hr
  | case3 => cases hr

theorem runLabels_key {g g' : G} {ls : List Label} (hr : runLabels g ls = some g') {e : Nat} (he : e < g.next) :
    (g'.ent e).key = (g.ent e).key :=
  (runLabels_preserves (P := fun s => g.next ≤ s.next ∧ (s.ent e).key = (g.ent e).key)
    (fun hP hg => ⟨Nat.le_trans hP.1 (gstep_next_le hg), (gstep_key hg (Nat.lt_of_lt_of_le he hP.1)).trans hP.2⟩)
    ls ⟨Nat.le_refl _, rfl⟩ hr).2

theorem cleanRun_preserves {P : G → Prop} (hP : ∀ {s s' l}, P s → excluded s l = false → gstep s l = some s' → P s')
    (ls : List Label) {s s' : G} (h : P s) (hc : cleanRun s ls = true) (hr : runLabels s ls = some s') : P s' := by
  fun_induction runLabels s ls with
  | case1 => cases hr; exact h
  | case2 s l ls s1 hg ih =>
    simp only [cleanRun, hg, Bool.and_eq_true, Bool.not_eq_true'] at hc
    exact ih (hP h hc.1 hg) hc.2 hr
  | case3 => cases hr

theorem tstep_cases {P : Sys → Prop} (nk : Nat) (y : Sys) (t : Nat) (hsame : ∀ out, P { y with out := out })
    (hstuck : ∀ th out, y.threads[t]? = some th →
      (tmove nk y.g th = .stuck ∨ ∃ ls th' ev, tmove nk y.g th = .go ls th' ev ∧ runLabels y.g ls = none) →
      P { y with out := out, stuck := true })
    (hgo : ∀ th ls th' ev g' out, y.threads[t]? = some th → tmove nk y.g th = .go ls th' ev →
      runLabels y.g ls = some g' →
      P { g := g', threads := y.threads.set t th', clean := y.clean && cleanLabels y.g ls, out := out, stuck := y.stuck }) :
    P (tstep nk y t) := by
  unfold tstep
  split
  · exact hsame _
  · rename_i th hth
    split
    · exact hsame _
    · exact hsame _
    · exact hstuck th _ hth (.inl ‹_›)
    · rename_i ls th' ev hm
      split
      · exact hstuck th _ hth (.inr ⟨ls, th', ev, hm, ‹_›⟩)
      · exact hgo th ls th' ev _ _ hth hm ‹_›

section runs
variable {nk : Nat} {P : Sys → Prop} (hP : ∀ y t, P y → P (tstep nk y t))
include hP

theorem foldl_preserves (sched : List Nat) (y : Sys) (h : P y) : P (sched.foldl (tstep nk) y) :=
  List.foldlRecOn (motive := P) sched _ h fun y h t _ => hP y t h

theorem drain_preserves (fuel : Nat) (y : Sys) (h : P y) : P (drain nk fuel y) := by
  fun_induction drain nk fuel y with
  | case1 | case2 => exact h
  | case3 _ y t _ ih => exact ih (hP y t h)

theorem runSched_preserves (progs : List (List Op)) (sched : List Nat)
    (h0 : P { g := G.init, threads := progs.map fun p => { prog := p } }) : P (runSched nk progs sched) :=
  drain_preserves hP _ _ (foldl_preserves hP sched _ h0)

theorem stepOp_preserves (fuel : Nat) (y : Sys) (t : Nat) (h : P y) : P (stepOp nk fuel y t) := by
  fun_induction stepOp nk fuel y t with
  | case1 | case2 | case3 => exact h
  | case4 | case5 => exact hP _ _ h
  | case6 _ _ _ _ _ _ _ _ _ ih => exact ih (hP _ _ h)

theorem runOps_preserves : ∀ (n : Nat) (y : Sys) (t : Nat), P y → P (runOps nk n y t)
  | 0, _, _, h => h
  | n + 1, y, t, h => runOps_preserves n _ t (stepOp_preserves hP 24 y t h)

theorem runAtomicSys_preserves (progs : List (List Op)) (sched : List Nat)
    (h0 : P { g := G.init, threads := progs.map fun p => { prog := p } }) : P (runAtomicSys nk progs sched).1 := by
  have hstep : ∀ (a : Sys × List String) (t : Nat), P a.1 → P (atomicStep nk a t).1 :=
    fun a t h => stepOp_preserves hP 24 a.1 t h
  have hdrain : ∀ (fuel : Nat) (a : Sys × List String), P a.1 → P (drainAtomic nk fuel a).1 := by
    intro fuel a h
    fun_induction drainAtomic nk fuel a with
    | case1 | case2 => exact h
    | case3 _ _ _ _ ih => exact ih (hstep _ _ h)
  exact hdrain _ _ (List.foldlRecOn (motive := fun a => P a.1) sched _ h0 fun a h t _ => hstep a t h)

theorem runGroupsSys_preserves (progs : List (List (List Op))) (sched : List Nat)
    (h0 : P { g := G.init, threads := progs.map fun p => { prog := p.flatten } }) :
    P (runGroupsSys nk progs sched).1 := by
  have hstep : ∀ (a : GroupAcc) (t : Nat), P a.1 → P (groupStep nk a t).1 := by
    intro a t h
    unfold groupStep
    split
    · exact runOps_preserves hP _ a.1 t h
    · exact h
  have hdrain : ∀ (fuel : Nat) (a : GroupAcc), P a.1 → P (drainGroups nk fuel a).1 := by
    intro fuel a h
    fun_induction drainGroups nk fuel a with
    | case1 | case2 => exact h
    | case3 _ _ _ _ ih => exact ih (hstep _ _ h)
  exact hdrain _ _ (List.foldlRecOn (motive := fun a => P a.1) sched _ h0 fun a h t _ => hstep a t h)

end runs

theorem forall_mem_set {α : Type} {l : List α} {i : Nat} {a : α} {Q : α → Prop} (hold : ∀ x ∈ l, Q x) (hnew : Q a) :
    ∀ x ∈ l.set i a, Q x :=
  fun x hx => (List.mem_or_eq_of_mem_set hx).elim (hold x) (· ▸ hnew)

theorem sum_map_set (f : Thread → Nat) : ∀ (ths : List Thread) (t : Nat) (th th' : Thread), ths[t]? = some th →
    ((ths.set t th').map f).sum + f th = (ths.map f).sum + f th'
  | [], t, th, th', h => by simp at h
  | a :: as, 0, th, th', h => by
    simp at h; subst h
    simp; omega
  | a :: as, t + 1, th, th', h => by
    have := sum_map_set f as t th th' (by simpa using h)
    simp at this ⊢; omega

theorem sum_map_zero (f : Thread → Nat) (ths : List Thread) (h : ∀ th ∈ ths, f th = 0) : (ths.map f).sum = 0 :=
  List.sum_eq_zero_iff_forall_eq_nat.mpr fun _ hx =>
    have ⟨th, hth, e⟩ := List.mem_map.mp hx
    e ▸ h th hth

/-- one thread of a census changes: `c'`, the count after, against the sum over the threads; a count that did not exist
    before (`¬ old`) starts from 0, and no thread contributed to it -/
theorem count_set {f : Thread → Nat} {ths : List Thread} {t : Nat} {th th' : Thread} (hth : ths[t]? = some th)
    {c c' : Nat} {old : Prop} [Decidable old] (hbal : c' + f th = (if old then c else 0) + f th')
    (hc : old → c = (ths.map f).sum) (hz : ¬ old → ∀ th2 ∈ ths, f th2 = 0) :
    c' = ((ths.set t th').map f).sum := by
  have := sum_map_set f ths t th th' hth
  split at hbal
  · have := hc ‹_›; omega
  · have := sum_map_zero f ths (hz ‹_›); omega

theorem le_sum_map (f : Thread → Nat) : ∀ {ths : List Thread} {th : Thread}, th ∈ ths → f th ≤ (ths.map f).sum
  | [], _, h => by simp at h
  | a :: as, th, h => by
    simp only [List.mem_cons] at h
    rcases h with h | h
    · subst h; simp
    · have := le_sum_map f h
      simp; omega

end CaddyModel.C04
