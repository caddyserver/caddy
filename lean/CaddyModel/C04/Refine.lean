/-
C04 — refinement: every lock region is one atomic step of the abstract pool (`SpecStep` (Spec.lean))
or invisible (`refines_spec_inv`, from the invariant; for reachable states `refines_spec` (Props.lean)).
The linearization points are the pool-lock regions: `lnLookup`/`lsLookup`/`lspLookup`
(begin / join / store), `ctorOk` (commit), `lnFailDel` (abort), `del1` (release).
-/
import CaddyModel.C04.Lemmas
import CaddyModel.C04.Spec

namespace CaddyModel.C04

theorem abs_updEnt_same (s : G) (e : Nat) (f : Entry → Entry)
    (h : entryState (f (s.ent e)) = entryState (s.ent e)) : abs (updEnt s e f) = abs s := by
  funext k
  simp only [abs, absKey, updEnt]
  cases s.pool k with
  | none => rfl
  | some e' =>
    by_cases hee : e' = e
    · subst hee; simp [h]
    · simp [hee]

theorem abs_setKey (s s' : G) (k : Nat)
    (hold : ∀ k', k' ≠ k → s'.pool k' = s.pool k' ∧ ∀ e', s.pool k' = some e' → s'.ent e' = s.ent e') :
    abs s' = setKey (abs s) k (absKey s' k) := by
  funext k'
  simp only [abs, setKey]
  split
  · rw [‹k' = k›]
  · obtain ⟨h1, h2⟩ := hold k' ‹_›
    unfold absKey
    rw [h1]
    cases hp : s.pool k' with
    | none => rfl
    | some e' => simp only [h2 e' hp]

theorem pool_ne {s : G} (hi : Inv s) {k k' e e' : Nat} (hp : s.pool k = some e) (hp' : s.pool k' = some e')
    (hk : k' ≠ k) : e' ≠ e := fun hee =>
  hk ((hi.pool k' e' hp').2.symm.trans (hee ▸ (hi.pool k e hp).2))

theorem abs_updEnt_mapped {s : G} (hi : Inv s) {k e : Nat} (hp : s.pool k = some e) (f : Entry → Entry) :
    abs (updEnt s e f) = setKey (abs s) k (entryState (f (s.ent e))) := by
  refine (abs_setKey s (updEnt s e f) k fun k' hk => ⟨rfl, fun e' hp' => by rw [updEnt_ent, if_neg (pool_ne hi hp hp' hk)]⟩).trans ?_
  simp [absKey, updEnt, hp]

theorem abs_alloc {s : G} (hi : Inv s) (k : Nat) (E : Entry) :
    abs (alloc s k E) = setKey (abs s) k (entryState E) := by
  refine (abs_setKey s (alloc s k E) k fun k' hk => ⟨if_neg hk, fun e' hp' => alloc_ent_old (hi.pool k' e' hp').1 k E⟩).trans ?_
  simp [absKey, alloc]

theorem abs_unmapUpd {s : G} (hi : Inv s) {k e : Nat} (hp : s.pool k = some e) (f : Entry → Entry) :
    abs (updEnt (setPool s k none) e f) = setKey (abs s) k .absent := by
  refine (abs_setKey s (updEnt (setPool s k none) e f) k fun k' hk => ⟨if_neg hk, fun e' hp' => by
    rw [updEnt_ent, if_neg (pool_ne hi hp hp' hk)]; rfl⟩).trans ?_
  simp [absKey, updEnt, setPool]

theorem abs_key_of_pool {s : G} {k e : Nat} (hp : s.pool k = some e) : abs s k = entryState (s.ent e) := by
  simp [abs, absKey, hp]

theorem toNat_succ {r : Int} (h : 0 ≤ r) : (r + 1).toNat = r.toNat + 1 := by omega

theorem step_of_eq {a a' a'' : Abs} {l : SpecLabel} (h : SpecStep a l a'') (e : a' = a'') : SpecStep a l a' :=
  e ▸ h

theorem entryState_none {E : Entry} (h : E.value = none) : entryState E = .pending E.refs.toNat := by
  simp [entryState, h]

theorem entryState_some {E : Entry} {v : Nat} (h : E.value = some v) : entryState E = .live v E.refs.toNat := by
  simp [entryState, h]

theorem join_step {s : G} (hi : Inv s) {k e : Nat} (hp : s.pool k = some e) (f : Entry → Entry)
    (hv : ∀ E, (f E).value = E.value) (hr : ∀ E, (f E).refs = E.refs + 1) :
    SpecStep (abs s) (.join k) (abs (updEnt s e f)) := by
  have hnn : 0 ≤ (s.ent e).refs := by
    have := (mapped_refs hi hp).2.2; omega
  rw [abs_updEnt_mapped hi hp]
  cases hval : (s.ent e).value with
  | none =>
    refine step_of_eq (SpecStep.joinPending _ k _ ((abs_key_of_pool hp).trans (entryState_none hval))) ?_
    rw [entryState_none ((hv _).trans hval), hr, toNat_succ hnn]
  | some v =>
    refine step_of_eq (SpecStep.joinLive _ k _ _ ((abs_key_of_pool hp).trans (entryState_some hval))) ?_
    rw [entryState_some ((hv _).trans hval), hr, toNat_succ hnn]

theorem refines_spec_inv {s s' : G} {l : Label} (hi : Inv s) (hx : excluded s l = false)
    (hs : gstep s l = some s') : SpecStep (abs s) (specLabel s l) (abs s') := by
  have tau : ∀ e (f : Entry → Entry), (f (s.ent e)).value = (s.ent e).value → (f (s.ent e)).refs = (s.ent e).refs →
      SpecStep (abs s) .tau (abs (updEnt s e f)) := fun e f hv hr => by
    rw [abs_updEnt_same s e f (by unfold entryState; rw [hv, hr])]; exact SpecStep.tau _
  cases gstep_rel hs with
  | lnJoin hp => simp only [specLabel, hp]; exact join_step hi hp _ (fun _ => rfl) (fun _ => rfl)
  | lsJoin hp | lspJoin hp =>
    simp only [specLabel, hp]; exact join_step (inv_bump hi) hp _ (fun _ => rfl) (fun _ => rfl)
  | lnNew hp =>
    simp only [specLabel, hp]
    exact step_of_eq (SpecStep.begin _ _ (by simp [abs, absKey, hp])) (abs_alloc hi _ _)
  | lsNew hp | lspNew hp =>
    simp only [specLabel, hp]
    exact step_of_eq (SpecStep.store _ _ s.nextVal (by simp [abs, absKey, hp])) (abs_alloc (inv_bump hi) _ _)
  | ctorOk he hc =>
    obtain ⟨hm, hx⟩ := constructing_of_ctor (hi.ent _ he) hc
    have hp := pool_of_inPool hm
    exact step_of_eq (SpecStep.commit _ _ s.nextVal _ ((abs_key_of_pool hp).trans (entryState_none hx.value)))
      (abs_updEnt_mapped (inv_bump hi) hp _)
  | lnFailDel he hf =>
    obtain ⟨hm, hx⟩ := failing_of_failing (hi.ent _ he) hf
    have hp := pool_of_inPool hm
    exact step_of_eq (SpecStep.abort _ _ _ ((abs_key_of_pool hp).trans (entryState_none hx.value)))
      (abs_unmapUpd hi hp _)
  | del1Rogue => cases hx
  | @del1 k h hh hpos hk =>
    obtain ⟨hp, hl⟩ := pool_of_holder hi hh hpos hk
    have hr1 := hl.busy.2
    obtain ⟨v, hv⟩ := Option.isSome_iff_exists.mp hl.value
    have ha : abs s k = .live v (s.ent h).refs.toNat := (abs_key_of_pool hp).trans (entryState_some hv)
    simp only [specLabel]
    rw [del1Code_holder hp]
    split
    · have h1 : (s.ent h).refs.toNat = 1 := by omega
      rw [h1] at ha
      exact step_of_eq (SpecStep.releaseLast _ k v ha) (abs_unmapUpd hi hp _)
    · obtain ⟨n, hn⟩ : ∃ n, (s.ent h).refs.toNat = n + 2 := ⟨(s.ent h).refs.toNat - 2, by omega⟩
      rw [hn] at ha
      refine step_of_eq (SpecStep.releaseSome _ k v n ha) ?_
      rw [abs_updEnt_mapped hi hp, entryState_some (by exact hv)]
      congr 2
      show ((s.ent h).refs - 1).toNat = n + 1
      omega
  | refs | range => exact SpecStep.tau _
  | _ => exact tau _ _ rfl rfl

end CaddyModel.C04
