/-
C04 — reachability: the states the theorems quantify over, and the thread-level runs stay inside.
-/
import CaddyModel.C04.Step

namespace CaddyModel.C04

def Reachable (s : G) : Prop :=
  ∃ ls : List Label, cleanRun G.init ls = true ∧ runLabels G.init ls = some s

theorem inv_reachable {s : G} (h : Reachable s) : Inv s := by
  obtain ⟨ls, hc, hr⟩ := h
  exact inv_run ls inv_init hc hr

theorem reachable_step {s s' : G} {l : Label} (h : Reachable s) (hx : excluded s l = false)
    (hs : gstep s l = some s') : Reachable s' := by
  obtain ⟨ls, hc, hr⟩ := h
  refine ⟨ls ++ [l], ?_⟩
  generalize G.init = s0 at hc hr ⊢
  fun_induction runLabels s0 ls with
  | case1 => cases hr; simp [cleanRun, runLabels, hx, hs]
  | case2 s0 a ls s1 hg ih =>
    simp only [cleanRun, hg, Bool.and_eq_true] at hc
    simpa [cleanRun, runLabels, hg, hc.1] using ih hc.2 hr
  | case3 => cases hr

theorem reachable_run (ls : List Label) {s s' : G} (h : Reachable s) (hc : cleanRun s ls = true)
    (hr : runLabels s ls = some s') : Reachable s' :=
  cleanRun_preserves reachable_step ls h hc hr

theorem tstep_reachable (nk : Nat) (y : Sys) (t : Nat) (h : y.clean = true → Reachable y.g) :
    (tstep nk y t).clean = true → Reachable (tstep nk y t).g :=
  tstep_cases (P := fun y => y.clean = true → Reachable y.g) nk y t (fun _ => h) (fun _ _ _ _ => h)
    fun _ ls _ _ g' _ _ _ hr hc =>
    have hc : y.clean = true ∧ cleanLabels y.g ls = true := by simpa using hc
    reachable_run ls (h hc.1) hc.2 hr

theorem reachable_init : Reachable G.init := ⟨[], rfl, rfl⟩

end CaddyModel.C04
