/-
C04 — the invariant, entry by entry: phases, what a guard forces, what each region does to its entry.

`EntInv m E` is the per-entry invariant (`m` = "the entry is the one stored in the map under
its key"); it is linear arithmetic over the place counters, guarded by the Booleans `m`, `err`, `wlocked`.
Only five of their eight combinations are consistent, and these are the life of an entry:
`Constructing` → `Live` → `Released`, or `Constructing` → `Failing` → `Failed` (`entInv_cases`).  A guard of
a region forces a phase (`constructing_of_ctor`, `live_of_holder`, …), and the region takes the entry to the
next phase (one `ent_*` lemma per region); inside a phase everything is `omega` on that phase's counters.
`Inv s` = every allocated entry satisfies `EntInv` (`EntsOk`; kept by the three shapes a region's result has:
`ents_upd`, `ents_alloc`, `ents_unmapUpd`), and the map only points at allocated entries created for that key
(`Inv.pool`); what `Inv` says of a mapped or held entry: `mapped_refs`, `pool_of_holder`.  Clauses of `EntInv` read as they
stand have names: `entInv_refs`, `entInv_locked`, `entInv_err`, `entInv_plain`.
-/
import CaddyModel.C04.Shape

namespace CaddyModel.C04

def EntInv (m : Bool) (E : Entry) : Prop :=
  -- refs = number of increments not yet undone = tokens in the places that own an increment
  E.refs = ((E.ctor + E.failing + E.waiters + E.lsWaiters + E.holders + E.deadRefs : Nat) : Int)
  -- write-locked exactly while its (single) constructing goroutine has not unlocked it
  ∧ E.ctor + E.failing = (if E.wlocked then 1 else 0)
  ∧ (E.err = false → E.failing = 0)
  -- failed entry: no value, no holder, never destructed; in the map exactly until `lnFailDel`
  ∧ (E.err = true → E.value = none ∧ E.holders = 0 ∧ E.del2 = 0 ∧ E.del3 = 0 ∧ E.destructed = 0
        ∧ E.ctor = 0 ∧ E.failing = (if m then 1 else 0) ∧ E.skipped = 0)
  -- live entry (in the map): not being destructed, refs ≥ 1
  ∧ (E.err = false → m = true → E.del2 = 0 ∧ E.del3 = 0 ∧ E.destructed = 0 ∧ 1 ≤ E.refs ∧ E.skipped = 0)
  -- released entry (removed at refs = 0): nobody counts on it; exactly one Delete call owns its destruction
  ∧ (E.err = false → m = false → E.refs = 0 ∧ E.del2 + E.del3 + E.destructed + E.skipped = 1)
  ∧ (E.wlocked = true → E.value = none ∧ E.holders = 0)
  ∧ (E.wlocked = false → E.err = false → E.value.isSome = true)
  ∧ (if E.viaCtor then E.ctorRuns + E.ctor = 1 else E.ctorRuns = 0 ∧ E.ctor = 0 ∧ E.failing = 0)
  -- increments of failed acquisitions that already returned exist only on entries no longer in the map
  ∧ (m = true → E.deadRefs = 0)
  -- a value that is not a Destructor is never destructed; only such values are skipped; constructors make Destructors
  ∧ (E.plain = true → E.del3 = 0 ∧ E.destructed = 0 ∧ E.viaCtor = false)
  ∧ (E.plain = false → E.skipped = 0)

structure Inv (s : G) : Prop where
  ent : ∀ e, e < s.next → EntInv (inPool s e) (s.ent e)
  pool : ∀ k e, s.pool k = some e → e < s.next ∧ (s.ent e).key = k

section entry
variable {m : Bool} {E : Entry}

def Made (E : Entry) : Prop :=
  (E.viaCtor = true → E.ctorRuns = 1) ∧ (E.viaCtor = false → E.ctorRuns = 0) ∧ (E.plain = true → E.viaCtor = false)

/-- the placeholder of `LoadOrNew`, its constructor running -/
structure Constructing (E : Entry) : Prop where
  err : E.err = false
  wlocked : E.wlocked = true
  value : E.value = none
  viaCtor : E.viaCtor = true
  plain : E.plain = false
  idle : E.failing = 0 ∧ E.holders = 0 ∧ E.deadRefs = 0 ∧ E.ctorRuns = 0
    ∧ E.del2 = 0 ∧ E.del3 = 0 ∧ E.destructed = 0 ∧ E.skipped = 0
  busy : E.ctor = 1 ∧ E.refs = ((1 + E.waiters + E.lsWaiters : Nat) : Int)

/-- the constructor failed; the placeholder is still in the map (until `lnFailDel`) -/
structure Failing (E : Entry) : Prop where
  err : E.err = true
  wlocked : E.wlocked = true
  value : E.value = none
  viaCtor : E.viaCtor = true
  plain : E.plain = false
  idle : E.ctor = 0 ∧ E.holders = 0 ∧ E.deadRefs = 0 ∧ E.del2 = 0 ∧ E.del3 = 0 ∧ E.destructed = 0 ∧ E.skipped = 0
  busy : E.failing = 1 ∧ E.ctorRuns = 1 ∧ E.refs = ((1 + E.waiters + E.lsWaiters : Nat) : Int)

/-- the failed placeholder, out of the map: only the increments of its waiters, past and present, remain -/
structure Failed (E : Entry) : Prop where
  err : E.err = true
  wlocked : E.wlocked = false
  value : E.value = none
  made : Made E
  idle : E.ctor = 0 ∧ E.failing = 0 ∧ E.holders = 0 ∧ E.del2 = 0 ∧ E.del3 = 0 ∧ E.destructed = 0 ∧ E.skipped = 0
  busy : E.refs = ((E.waiters + E.lsWaiters + E.deadRefs : Nat) : Int)

/-- in the map with a value -/
structure Live (E : Entry) : Prop where
  err : E.err = false
  wlocked : E.wlocked = false
  value : E.value.isSome = true
  made : Made E
  idle : E.ctor = 0 ∧ E.failing = 0 ∧ E.deadRefs = 0 ∧ E.del2 = 0 ∧ E.del3 = 0 ∧ E.destructed = 0 ∧ E.skipped = 0
  busy : E.refs = ((E.waiters + E.lsWaiters + E.holders : Nat) : Int) ∧ 1 ≤ E.refs

/-- removed from the map at `refs = 0`: exactly one `Delete` call owns what is left to do with the value -/
structure Released (E : Entry) : Prop where
  err : E.err = false
  wlocked : E.wlocked = false
  value : E.value.isSome = true
  made : Made E
  isPlain : E.plain = true → E.del3 = 0 ∧ E.destructed = 0
  notPlain : E.plain = false → E.skipped = 0
  idle : E.ctor = 0 ∧ E.failing = 0 ∧ E.waiters = 0 ∧ E.lsWaiters = 0 ∧ E.holders = 0 ∧ E.deadRefs = 0 ∧ E.refs = 0
  busy : E.del2 + E.del3 + E.destructed + E.skipped = 1

theorem Live.not_closing (h : Live E) : E.destructed = 0 ∧ E.del2 = 0 ∧ E.del3 = 0 := by
  have := h.idle; omega

theorem entInv_cases (h : EntInv m E) :
    m = true ∧ (Constructing E ∨ Failing E ∨ Live E) ∨ m = false ∧ (Failed E ∨ Released E) := by
  obtain ⟨h1, h2, h3, h4, h5, h6, h7, h8, h9, h10, h11, h12⟩ := h
  have made : E.ctor = 0 → E.failing = 0 → Made E := by
    intro hc hf
    refine ⟨fun hv => ?_, fun hv => ?_, fun hp => (h11 hp).2.2⟩
    · rw [hv, if_pos rfl] at h9; omega
    · rw [hv, if_neg Bool.false_ne_true] at h9; exact h9.1
  have placeholder : 0 < E.ctor + E.failing → E.viaCtor = true ∧ E.plain = false := by
    intro hc
    have hv : E.viaCtor = true := by
      cases hv : E.viaCtor
      · rw [hv, if_neg Bool.false_ne_true] at h9; omega
      · rfl
    refine ⟨hv, ?_⟩
    cases hp : E.plain
    · rfl
    · rw [(h11 hp).2.2] at hv; cases hv
  cases he : E.err <;> cases hw : E.wlocked <;> cases m
  all_goals rw [hw] at h2
  all_goals simp only [Bool.false_eq_true, ↓reduceIte] at h2
  · have := h3 he; have := h6 he rfl
    exact .inr ⟨rfl, .inr ⟨he, hw, h8 hw he, made (by omega) (by omega), fun hp => ⟨(h11 hp).1, (h11 hp).2.1⟩, h12, by omega, by omega⟩⟩
  · have := h3 he; have := h5 he rfl; have := h10 rfl
    exact .inl ⟨rfl, .inr (.inr ⟨he, hw, h8 hw he, made (by omega) (by omega), by omega, by omega⟩)⟩
  · have := h3 he; have := h6 he rfl; omega
  · have := h3 he; have := h5 he rfl; have := h10 rfl
    obtain ⟨hv, hp⟩ := placeholder (by omega)
    rw [hv, if_pos rfl] at h9
    have := (h7 hw).2
    exact .inl ⟨rfl, .inl ⟨he, hw, (h7 hw).1, hv, hp, by omega, by omega⟩⟩
  all_goals have h4 := h4 he
  all_goals simp only [Bool.false_eq_true, ↓reduceIte] at h4
  · exact .inr ⟨rfl, .inl ⟨he, hw, h4.1, made (by omega) (by omega), by omega, by omega⟩⟩
  · omega
  · omega
  · have := h10 rfl
    obtain ⟨hv, hp⟩ := placeholder (by omega)
    rw [hv, if_pos rfl] at h9
    exact .inl ⟨rfl, .inr (.inl ⟨he, hw, h4.1, hv, hp, by omega, by omega⟩)⟩

theorem made_runs (h : Made E) (hc : E.ctor = 0) (hf : E.failing = 0) :
    if E.viaCtor then E.ctorRuns + E.ctor = 1 else E.ctorRuns = 0 ∧ E.ctor = 0 ∧ E.failing = 0 := by
  cases hv : E.viaCtor
  · exact ⟨h.2.1 hv, hc, hf⟩
  · have := h.1 hv; simp only [↓reduceIte]; omega

theorem made_of_ctor (hv : E.viaCtor = true) (hp : E.plain = false) (hr : E.ctorRuns = 1) : Made E :=
  ⟨fun _ => hr, fun h => (by rw [hv] at h; cases h), fun h => (by rw [hp] at h; cases h)⟩

theorem made_runs_le (h : Made E) : E.ctorRuns ≤ 1 := by
  cases hv : E.viaCtor
  · have := h.2.1 hv; omega
  · have := h.1 hv; omega

theorem entInv_of_constructing (h : Constructing E) : EntInv true E := by
  obtain ⟨he, hw, hv, hvc, hp, hn, hb⟩ := h
  simp only [EntInv, he, hw, hv, hvc, hp, Bool.false_eq_true, Bool.true_eq_false, ↓reduceIte, false_imp_iff,
    forall_const, true_and]
  omega

theorem entInv_of_failing (h : Failing E) : EntInv true E := by
  obtain ⟨he, hw, hv, hvc, hp, hn, hb⟩ := h
  simp only [EntInv, he, hw, hv, hvc, hp, Bool.false_eq_true, Bool.true_eq_false, ↓reduceIte, false_imp_iff,
    forall_const, true_and]
  omega

theorem entInv_of_failed (h : Failed E) : EntInv false E := by
  obtain ⟨he, hw, hv, hm, hn, hb⟩ := h
  simp only [EntInv, he, hw, hv, Bool.false_eq_true, Bool.true_eq_false, ↓reduceIte, false_imp_iff,
    forall_const, true_and]
  exact ⟨by omega, by omega, by omega, made_runs hm hn.1 hn.2.1, fun hp => ⟨by omega, by omega, hm.2.2 hp⟩, fun _ => by omega⟩

theorem entInv_of_live (h : Live E) : EntInv true E := by
  obtain ⟨he, hw, hv, hm, hn, hb⟩ := h
  simp only [EntInv, he, hw, hv, Bool.false_eq_true, Bool.true_eq_false, ↓reduceIte, false_imp_iff,
    forall_const, true_and]
  exact ⟨by omega, by omega, by omega, by omega, made_runs hm hn.1 hn.2.1, by omega, fun hp => ⟨by omega, by omega, hm.2.2 hp⟩, fun _ => by omega⟩

theorem entInv_of_released (h : Released E) : EntInv false E := by
  obtain ⟨he, hw, hv, hm, hp1, hp2, hn, hb⟩ := h
  simp only [EntInv, he, hw, hv, Bool.false_eq_true, ↓reduceIte, false_imp_iff, forall_const, true_and]
  exact ⟨by omega, by omega, by omega, by omega, made_runs hm hn.1 hn.2.1, fun hp => ⟨(hp1 hp).1, (hp1 hp).2, hm.2.2 hp⟩, hp2⟩

theorem constructing_of_ctor (h : EntInv m E) (hc : 0 < E.ctor) : m = true ∧ Constructing E := by
  rcases entInv_cases h with ⟨hm, hx | hx | hx⟩ | ⟨_, hx | hx⟩
  · exact ⟨hm, hx⟩
  all_goals have := hx.idle; have := hx.busy; omega

theorem failing_of_failing (h : EntInv m E) (hf : 0 < E.failing) : m = true ∧ Failing E := by
  rcases entInv_cases h with ⟨hm, hx | hx | hx⟩ | ⟨_, hx | hx⟩
  · have := hx.idle; have := hx.busy; omega
  · exact ⟨hm, hx⟩
  all_goals have := hx.idle; have := hx.busy; omega

theorem live_of_holder (h : EntInv m E) (hh : 0 < E.holders) : m = true ∧ Live E := by
  rcases entInv_cases h with ⟨hm, hx | hx | hx⟩ | ⟨_, hx | hx⟩
  · have := hx.idle; have := hx.busy; omega
  · have := hx.idle; have := hx.busy; omega
  · exact ⟨hm, hx⟩
  all_goals have := hx.idle; have := hx.busy; omega

theorem released_of_close (h : EntInv m E) (hd : 0 < E.del2 + E.del3 + E.destructed + E.skipped) :
    m = false ∧ Released E := by
  rcases entInv_cases h with ⟨_, hx | hx | hx⟩ | ⟨hm, hx | hx⟩
  · have := hx.idle; have := hx.busy; omega
  · have := hx.idle; have := hx.busy; omega
  · have := hx.idle; have := hx.busy; omega
  · have := hx.idle; have := hx.busy; omega
  · exact ⟨hm, hx⟩

theorem unlocked_cases (h : EntInv m E) (hw : E.wlocked = false) :
    m = true ∧ Live E ∨ m = false ∧ (Failed E ∨ Released E) := by
  rcases entInv_cases h with ⟨hm, hx | hx | hx⟩ | hx
  · exact nomatch hx.wlocked.symm.trans hw
  · exact nomatch hx.wlocked.symm.trans hw
  · exact .inl ⟨hm, hx⟩
  · exact .inr hx

theorem failed_of_err_unlocked (h : EntInv m E) (he : E.err = true) (hw : E.wlocked = false) : m = false ∧ Failed E := by
  rcases unlocked_cases h hw with ⟨_, hx⟩ | ⟨hm, hx | hx⟩
  · rw [hx.err] at he; cases he
  · exact ⟨hm, hx⟩
  · rw [hx.err] at he; cases he

theorem live_of_waiter (h : EntInv m E) (hh : 0 < E.waiters + E.lsWaiters) (he : E.err = false) (hw : E.wlocked = false) :
    m = true ∧ Live E := by
  rcases unlocked_cases h hw with hx | ⟨_, hx | hx⟩
  · exact hx
  · rw [hx.err] at he; cases he
  · have := hx.idle; have := hx.busy; omega

theorem entInv_err (h : EntInv m E) (he : E.err = true) :
    E.value = none ∧ E.holders = 0 ∧ E.del2 = 0 ∧ E.del3 = 0 ∧ E.destructed = 0 ∧ E.ctor = 0
      ∧ E.failing = (if m then 1 else 0) ∧ E.skipped = 0 :=
  h.2.2.2.1 he

theorem entInv_refs (h : EntInv m E) :
    E.refs = ((E.ctor + E.failing + E.waiters + E.lsWaiters + E.holders + E.deadRefs : Nat) : Int) :=
  h.1

theorem entInv_locked (h : EntInv m E) (hw : E.wlocked = true) : E.ctor + E.failing = 1 := by
  have := h.2.1; rwa [hw, if_pos rfl] at this

theorem entInv_plain (h : EntInv m E) :
    (E.plain = true → E.del3 = 0 ∧ E.destructed = 0 ∧ E.viaCtor = false) ∧ (E.plain = false → E.skipped = 0) :=
  h.2.2.2.2.2.2.2.2.2.2

theorem released_of_unmapped (h : EntInv m E) (hm : m = false) (he : E.err = false) : Released E := by
  rcases entInv_cases h with ⟨ht, _⟩ | ⟨_, hx | hx⟩
  · rw [hm] at ht; cases ht
  · rw [hx.err] at he; cases he
  · exact hx

theorem ent_once (h : EntInv m E) :
    E.destructed ≤ 1 ∧ E.ctorRuns ≤ 1 ∧ E.del2 + E.del3 + E.destructed + E.skipped ≤ 1 := by
  rcases entInv_cases h with ⟨_, hx | hx | hx⟩ | ⟨_, hx | hx⟩
  · have := hx.idle; have := hx.busy; omega
  · have := hx.idle; have := hx.busy; omega
  all_goals have := hx.idle; have := hx.busy; have := made_runs_le hx.made; omega

theorem ent_mapped_refs (h : EntInv m E) (hm : m = true) :
    E.refs = ((E.ctor + E.failing + E.waiters + E.lsWaiters + E.holders : Nat) : Int) ∧ 1 ≤ E.refs := by
  rcases entInv_cases h with ⟨_, hx | hx | hx⟩ | ⟨hf, _⟩
  · have := hx.idle; have := hx.busy; omega
  · have := hx.idle; have := hx.busy; omega
  · have := hx.idle; have := hx.busy; omega
  · rw [hm] at hf; cases hf

/-- the close events of an entry: a Delete that removed it and is on its way to the destructor, the
    destructor call in progress or done, the decision that there is nothing to destruct -/
def closeEvents (E : Entry) : Nat := E.del2 + E.del3 + E.destructed + E.skipped

def quietEntry (E : Entry) : Prop :=
  E.ctor = 0 ∧ E.failing = 0 ∧ E.waiters = 0 ∧ E.lsWaiters = 0 ∧ E.del2 = 0 ∧ E.del3 = 0

theorem ent_quiet_unheld_unmapped (h : EntInv m E) (hq : quietEntry E) (hh : E.holders = 0) : m = false := by
  unfold quietEntry at hq
  cases hm : m
  · rfl
  · have := ent_mapped_refs h hm; omega

theorem ent_closed_iff_unheld (h : EntInv m E) (hv : E.value.isSome = true) (hq : quietEntry E) :
    (E.destructed + E.skipped = 1 ↔ E.holders = 0) ∧ (E.holders = 0 → m = false)
      ∧ (E.plain = false → (E.destructed = 1 ↔ E.holders = 0)) := by
  have hu := ent_quiet_unheld_unmapped h hq
  unfold quietEntry at hq
  rcases entInv_cases h with ⟨_, hx | hx | hx⟩ | ⟨_, hx | hx⟩
  · rw [hx.value] at hv; cases hv
  · rw [hx.value] at hv; cases hv
  · have := hx.idle; have := hx.busy
    exact ⟨by omega, hu, fun _ => by omega⟩
  · rw [hx.value] at hv; cases hv
  · have := hx.idle; have := hx.busy
    exact ⟨by omega, hu, fun hp => by have := hx.notPlain hp; omega⟩

theorem ent_del3_facts (h : EntInv m E) (hh : 0 < E.del3) :
    m = false ∧ E.err = false ∧ E.refs = 0 ∧ E.destructed = 0 ∧ E.holders = 0 := by
  obtain ⟨hm, hr⟩ := released_of_close h (by omega)
  have := hr.idle; have := hr.busy
  exact ⟨hm, hr.err, by omega, by omega, by omega⟩

theorem ent_newCtor (k : Nat) : EntInv true (newCtorEntry k) :=
  entInv_of_constructing ⟨rfl, rfl, rfl, rfl, rfl, by simp [newCtorEntry], by simp [newCtorEntry]⟩

theorem ent_newStored (k v : Nat) : EntInv true (newStoredEntry k v) := by
  simp [EntInv, newStoredEntry]

theorem ent_newPlain (k v : Nat) : EntInv true (newPlainEntry k v) := by
  simp [EntInv, newPlainEntry]

/-- a `LoadOrNew` (`a = 1`) or `LoadOrStore` (`b = 1`) call finds the entry in the map: clauses 1, 5, 6 mention `refs` -/
theorem ent_lookup (a b : Nat) (hab : a + b = 1) (h : EntInv m E) (hm : m = true) :
    EntInv m { E with refs := E.refs + 1, waiters := E.waiters + a, lsWaiters := E.lsWaiters + b } := by
  subst hm
  obtain ⟨h1, h2, h3, h4, h5, h6, h7, h8, h9, h10, h11, h12⟩ := h
  exact ⟨by dsimp only; omega, h2, h3, h4, fun he hm => by have := h5 he hm; dsimp only; omega,
    fun _ hf => (by cases hf), h7, h8, h9, h10, h11, h12⟩

theorem ent_ctorOk (v : Nat) (h : EntInv m E) (hh : 0 < E.ctor) :
    EntInv m { E with value := some v, wlocked := false, ctor := E.ctor - 1,
                      holders := E.holders + 1, ctorRuns := E.ctorRuns + 1 } := by
  obtain ⟨rfl, hc⟩ := constructing_of_ctor h hh
  have := hc.idle; have := hc.busy
  exact entInv_of_live ⟨hc.err, rfl, rfl,
    made_of_ctor hc.viaCtor hc.plain (by dsimp only; omega), by dsimp only; omega, by dsimp only; omega⟩

theorem ent_ctorErr (h : EntInv m E) (hh : 0 < E.ctor) :
    EntInv m { E with err := true, ctor := E.ctor - 1, failing := E.failing + 1, ctorRuns := E.ctorRuns + 1 } := by
  obtain ⟨rfl, hc⟩ := constructing_of_ctor h hh
  have := hc.idle; have := hc.busy
  exact entInv_of_failing ⟨rfl, hc.wlocked, hc.value, hc.viaCtor, hc.plain, by dsimp only; omega, by dsimp only; omega⟩

theorem ent_lnFailDel (h : EntInv m E) (hh : 0 < E.failing) :
    EntInv false { E with wlocked := false, failing := E.failing - 1, deadRefs := E.deadRefs + 1 } := by
  obtain ⟨-, hf⟩ := failing_of_failing h hh
  have := hf.idle; have := hf.busy
  exact entInv_of_failed ⟨hf.err, rfl, hf.value,
    made_of_ctor hf.viaCtor hf.plain (by dsimp only; omega), by dsimp only; omega, by dsimp only; omega⟩

/-- the waiter reads the error of the failed constructor: its increment stays behind -/
theorem ent_read_err (a b : Nat) (hab : a + b = 1) (h : EntInv m E) (ha : a ≤ E.waiters) (hb : b ≤ E.lsWaiters)
    (he : E.err = true) (hw : E.wlocked = false) :
    EntInv m { E with waiters := E.waiters - a, lsWaiters := E.lsWaiters - b, deadRefs := E.deadRefs + 1 } := by
  obtain ⟨rfl, hf⟩ := failed_of_err_unlocked h he hw
  have := hf.busy
  exact entInv_of_failed ⟨he, hw, hf.value, hf.made, hf.idle, by dsimp only; omega⟩

theorem ent_read_ok (a b : Nat) (hab : a + b = 1) (h : EntInv m E) (ha : a ≤ E.waiters) (hb : b ≤ E.lsWaiters)
    (he : E.err = false) (hw : E.wlocked = false) :
    EntInv m { E with waiters := E.waiters - a, lsWaiters := E.lsWaiters - b, holders := E.holders + 1 } := by
  obtain ⟨rfl, hl⟩ := live_of_waiter h (by omega) he hw
  have := hl.busy
  exact entInv_of_live ⟨he, hw, hl.value, hl.made, hl.idle, by dsimp only; omega⟩

theorem ent_del1_zero (h : EntInv m E) (hh : 0 < E.holders) (hz : E.refs - 1 = 0) :
    EntInv false { E with holders := E.holders - 1, refs := E.refs - 1, del2 := E.del2 + 1 } := by
  obtain ⟨-, hl⟩ := live_of_holder h hh
  have := hl.idle; have := hl.busy
  exact entInv_of_released ⟨hl.err, hl.wlocked, hl.value, hl.made, fun _ => by dsimp only; omega,
    fun _ => by dsimp only; omega, by dsimp only; omega, by dsimp only; omega⟩

theorem ent_del1_pos (h : EntInv m E) (hh : 0 < E.holders) (hz : ¬ E.refs - 1 = 0) :
    EntInv m { E with holders := E.holders - 1, refs := E.refs - 1 } := by
  obtain ⟨rfl, hl⟩ := live_of_holder h hh
  have := hl.busy
  exact entInv_of_live ⟨hl.err, hl.wlocked, hl.value, hl.made, hl.idle, by dsimp only; omega⟩

theorem ent_del2 (h : EntInv m E) (hh : 0 < E.del2) (hp : E.plain = false) :
    EntInv m { E with del2 := E.del2 - 1, del3 := E.del3 + 1 } := by
  obtain ⟨rfl, hr⟩ := released_of_close h (by omega)
  have := hr.busy
  exact entInv_of_released ⟨hr.err, hr.wlocked, hr.value, hr.made, fun h => (by rw [hp] at h; cases h),
    hr.notPlain, hr.idle, by dsimp only; omega⟩

theorem ent_del2_plain (h : EntInv m E) (hh : 0 < E.del2) (hp : E.plain = true) :
    EntInv m { E with del2 := E.del2 - 1, skipped := E.skipped + 1 } := by
  obtain ⟨rfl, hr⟩ := released_of_close h (by omega)
  have := hr.busy
  exact entInv_of_released ⟨hr.err, hr.wlocked, hr.value, hr.made, hr.isPlain,
    fun h => (by rw [hp] at h; cases h), hr.idle, by dsimp only; omega⟩

theorem ent_del3 (h : EntInv m E) (hh : 0 < E.del3) :
    EntInv m { E with del3 := E.del3 - 1, destructed := E.destructed + 1 } := by
  obtain ⟨rfl, hr⟩ := released_of_close h (by omega)
  have := hr.busy
  exact entInv_of_released ⟨hr.err, hr.wlocked, hr.value, hr.made, fun hp => (by have := hr.isPlain hp; omega),
    hr.notPlain, hr.idle, by dsimp only; omega⟩

end entry

theorem inPool_updEnt (s : G) (e : Nat) (f : Entry → Entry)
    (hk : (f (s.ent e)).key = (s.ent e).key) (i : Nat) :
    inPool (updEnt s e f) i = inPool s i := by
  unfold inPool updEnt
  by_cases h : i = e
  · subst h; simp [hk]
  · simp [h]

def EntsOk (s : G) : Prop := ∀ e, e < s.next → EntInv (inPool s e) (s.ent e)

theorem ents_upd {s : G} {e : Nat} {f : Entry → Entry} (h : Inv s)
    (hk : (f (s.ent e)).key = (s.ent e).key)
    (hE : EntInv (inPool s e) (s.ent e) → EntInv (inPool s e) (f (s.ent e))) : EntsOk (updEnt s e f) := by
  intro i hi
  rw [inPool_updEnt s e f hk i, updEnt_ent]
  split
  · rename_i hie; subst hie; exact hE (h.ent i hi)
  · exact h.ent i hi

theorem inv_bump {s : G} (h : Inv s) : Inv (bumpVal s) := ⟨h.ent, h.pool⟩

theorem ents_alloc {s : G} {k : Nat} {E : Entry} (h : Inv s) (hn : s.pool k = none)
    (hk : E.key = k) (hE : EntInv true E) : EntsOk (alloc s k E) := by
  intro i hi
  have hi' : i < s.next + 1 := hi
  by_cases hin : i = s.next
  · subst hin
    have h2 : inPool (alloc s k E) s.next = true := by simp [inPool, alloc, hk]
    rw [alloc_ent_new, h2]; exact hE
  · have hlt : i < s.next := by omega
    have h2 : inPool (alloc s k E) i = inPool s i := by
      unfold inPool
      rw [alloc_ent_old hlt]
      by_cases hki : (s.ent i).key = k
      · have : s.pool (s.ent i).key = none := by rw [hki]; exact hn
        rw [this]
        have hne : s.next ≠ i := by omega
        simp [alloc, hki, hne]
      · simp [alloc, hki]
    rw [alloc_ent_old hlt, h2]; exact h.ent i hlt

theorem ents_unmapUpd {s : G} {k e : Nat} {f : Entry → Entry} (h : Inv s) (hp : s.pool k = some e)
    (hk : (f (s.ent e)).key = (s.ent e).key)
    (hE : EntInv false (f (s.ent e))) : EntsOk (updEnt (setPool s k none) e f) := by
  intro i hi
  obtain ⟨he, hke⟩ := h.pool k e hp
  by_cases hie : i = e
  · subst hie
    have h2 : inPool (updEnt (setPool s k none) i f) i = false := by
      simp [inPool, updEnt, setPool, hk, hke]
    rw [h2, updEnt_ent, if_pos rfl]; exact hE
  · have h1 : (updEnt (setPool s k none) e f).ent i = s.ent i := (updEnt_ent ..).trans (if_neg hie)
    have h2 : inPool (updEnt (setPool s k none) e f) i = inPool s i := by
      unfold inPool
      rw [h1]
      by_cases hki : (s.ent i).key = k
      · have : s.pool (s.ent i).key = some e := by rw [hki]; exact hp
        rw [this]
        have hne : e ≠ i := fun h => hie h.symm
        simp [updEnt, setPool, hki, hne]
      · simp [updEnt, setPool, hki]
    rw [h1, h2]; exact h.ent i hi

theorem inPool_of_pool {s : G} (h : Inv s) {k e : Nat} (hp : s.pool k = some e) : inPool s e = true := by
  obtain ⟨_, hk⟩ := h.pool k e hp
  simp [inPool, hk, hp]

theorem mapped_refs {s : G} (h : Inv s) {k e : Nat} (hp : s.pool k = some e) :
    e < s.next
    ∧ (s.ent e).refs = (((s.ent e).ctor + (s.ent e).failing + (s.ent e).waiters + (s.ent e).lsWaiters + (s.ent e).holders : Nat) : Int)
    ∧ 1 ≤ (s.ent e).refs :=
  have he := (h.pool k e hp).1
  ⟨he, ent_mapped_refs (h.ent e he) (inPool_of_pool h hp)⟩

theorem pool_of_inPool {s : G} {e : Nat} (h : inPool s e = true) : s.pool (s.ent e).key = some e := by
  simpa [inPool] using h

theorem pool_of_holder {s : G} (h : Inv s) {k e : Nat} (he : e < s.next) (hh : 0 < (s.ent e).holders)
    (hk : (s.ent e).key = k) : s.pool k = some e ∧ Live (s.ent e) :=
  have ⟨hm, hl⟩ := live_of_holder (h.ent e he) hh
  ⟨hk ▸ pool_of_inPool hm, hl⟩

theorem inv_init : Inv G.init := by
  constructor
  · intro e he; exact absurd he (Nat.not_lt_zero _)
  · intro k e h; simp [G.init] at h

end CaddyModel.C04
