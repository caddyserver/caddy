/-
C04 — every lock region preserves the invariant (`inv_step`), hence every state reached by
any schedule satisfies it (`inv_run`).
-/
import CaddyModel.C04.Lemmas
import CaddyModel.C04.NoPanic

namespace CaddyModel.C04

theorem mapOk_of_inv {s : G} (h : Inv s) : MapOk s := fun k e hp =>
  ⟨(h.pool k e hp).1, (h.pool k e hp).2, (mapped_refs h hp).2.2⟩

theorem ents_del1 {s : G} {k h : Nat} (hi : Inv s) (hh : h < s.next) (hpos : 0 < (s.ent h).holders)
    (hk : (s.ent h).key = k) : EntsOk (del1Code (updEnt s h fun E => { E with holders := E.holders - 1 }) k) := by
  have hE := hi.ent h hh
  have hp := (pool_of_holder hi hh hpos hk).1
  rw [del1Code_holder hp]
  split
  · exact ents_unmapUpd hi hp rfl (ent_del1_zero hE hpos ‹_›)
  · exact ents_upd hi rfl fun _ => ent_del1_pos hE hpos ‹_›

theorem inv_step {s s' : G} {l : Label} (h : Inv s) (hx : excluded s l = false)
    (hs : gstep s l = some s') : Inv s' := by
  -- the map's part holds for every client (`mapOk_step`); the entries' part rule by rule
  suffices ents : EntsOk s' from
    ⟨ents, fun k e hp => have ⟨a, b, _⟩ := mapOk_step (mapOk_of_inv h) hs k e hp; ⟨a, b⟩⟩
  cases gstep_rel hs with
  | lnJoin hp => exact ents_upd h rfl fun hE => ent_lookup 1 0 rfl hE (inPool_of_pool h hp)
  | lsJoin hp | lspJoin hp =>
    exact ents_upd (inv_bump h) rfl fun hE => ent_lookup 0 1 rfl hE (inPool_of_pool h hp)
  | lnNew hp => exact ents_alloc h hp rfl (ent_newCtor _)
  | lsNew hp => exact ents_alloc (inv_bump h) hp rfl (ent_newStored _ _)
  | lspNew hp => exact ents_alloc (inv_bump h) hp rfl (ent_newPlain _ _)
  | ctorOk _ hc => exact ents_upd (inv_bump h) rfl fun hE => ent_ctorOk s.nextVal hE hc
  | ctorErr _ hc => exact ents_upd h rfl fun hE => ent_ctorErr hE hc
  | lnFailDel he hf =>
    have hE := h.ent _ he
    exact ents_unmapUpd h (pool_of_inPool (failing_of_failing hE hf).1) rfl (ent_lnFailDel hE hf)
  | lnReadErr _ ht hw herr => exact ents_upd h rfl fun hE => ent_read_err 1 0 rfl hE ht (Nat.zero_le _) herr hw
  | lnReadOk _ ht hw herr => exact ents_upd h rfl fun hE => ent_read_ok 1 0 rfl hE ht (Nat.zero_le _) herr hw
  | lsReadErr _ ht hw herr => exact ents_upd h rfl fun hE => ent_read_err 0 1 rfl hE (Nat.zero_le _) ht herr hw
  | lsReadOk _ ht hw herr => exact ents_upd h rfl fun hE => ent_read_ok 0 1 rfl hE (Nat.zero_le _) ht herr hw
  | del1Rogue => cases hx
  | del1 hh hpos hk => exact ents_del1 h hh hpos hk
  | del2 _ hd _ _ hp => exact ents_upd h rfl fun hE => ent_del2 hE hd hp
  | del2Plain _ hd _ _ hp => exact ents_upd h rfl fun hE => ent_del2_plain hE hd hp
  | del2Nil he hd hw hv =>
    have := (released_of_close (h.ent _ he) (Nat.lt_of_lt_of_le hd (by omega))).2.value
    rw [hv] at this; cases this
  | del3 _ hd => exact ents_upd h rfl fun hE => ent_del3 hE hd
  | refs | range => exact h.ent

theorem inv_run (ls : List Label) {s s' : G} (h : Inv s) (hc : cleanRun s ls = true)
    (hr : runLabels s ls = some s') : Inv s' :=
  cleanRun_preserves inv_step ls h hc hr

end CaddyModel.C04
