/-
C04 — the net moves one token per region.

Every label takes one token out of a place of an entry (`src`) and puts one into a place (`dst`), and changes no
other place count (`gstep_law`; an entry the region allocates holds the token of the call that made it and nothing else).
`Places.lean` reads this law on the threads' side (`tmove_tok`): where a thread is parked, what a thread remembers.
Conversely a label whose token is at its source and whose other guards hold (`SideOk`) is enabled (`gstep_enabled`).
-/
import CaddyModel.C04.NoPanic

namespace CaddyModel.C04

inductive Place where
  | ctor | failing | waiters | lsWaiters | del2 | del3
deriving DecidableEq, Repr

def placeOf (E : Entry) : Place → Nat
  | .ctor => E.ctor
  | .failing => E.failing
  | .waiters => E.waiters
  | .lsWaiters => E.lsWaiters
  | .del2 => E.del2
  | .del3 => E.del3

/-- `holders` is the seventh place of the net: a call that returns with a value leaves its token there,
    the first region of the `Delete` that gives the value back takes it out again -/
inductive Slot where
  | holders | at (p : Place)
deriving DecidableEq

def slotOf (E : Entry) : Slot → Nat
  | .holders => E.holders
  | .at p => placeOf E p

/-- the place a region takes its token from (`none`: the call starts with this region) -/
def src : Label → Option (Slot × Nat)
  | .ctorOk e | .ctorErr e => some (.at .ctor, e)
  | .lnFailDel e => some (.at .failing, e)
  | .lnRead e => some (.at .waiters, e)
  | .lsRead e _ => some (.at .lsWaiters, e)
  | .del1 _ (some h) => some (.holders, h)
  | .del2 e => some (.at .del2, e)
  | .del3 e => some (.at .del3, e)
  | _ => none

/-- the first region of `Delete(k)` parks its caller before `upv.RLock()` iff it brought the count to 0 -/
def del1Tok (g : G) (k : Nat) : Option (Slot × Nat) :=
  match g.pool k with
  | some e => if (g.ent e).refs - 1 = 0 then some (.at .del2, e) else none
  | none => none

/-- the place a region puts its token into, evaluated in the state before the region (`none`: the call is over,
    or gave up on the entry) -/
def dst (g : G) : Label → Option (Slot × Nat)
  | .lnLookup k => match g.pool k with
    | some e => some (.at .waiters, e)
    | none => some (.at .ctor, g.next)
  | .lsLookup k | .lspLookup k => match g.pool k with
    | some e => some (.at .lsWaiters, e)
    | none => some (.holders, g.next)
  | .ctorOk e => some (.holders, e)
  | .ctorErr e => some (.at .failing, e)
  | .lnRead e | .lsRead e _ => if (g.ent e).err = true then none else some (.holders, e)
  | .del1 k _ => del1Tok g k
  | .del2 e => if (g.ent e).value.isSome = true ∧ (g.ent e).plain = false then some (.at .del3, e) else none
  | _ => none

def sind (o : Option (Slot × Nat)) (σ : Slot) (e : Nat) : Nat := if o = some (σ, e) then 1 else 0

theorem sind_ne {e0 e : Nat} (h : ¬ e = e0) (σ0 σ : Slot) : sind (some (σ0, e0)) σ e = 0 :=
  if_neg fun h' => h (Prod.mk.inj (Option.some.inj h')).2.symm

/-- the counts `c` after one token went from slot `a` to slot `b` (`none`: outside the seven places) -/
def moved (c : Slot → Nat) (a b : Option Slot) (σ : Slot) : Nat :=
  c σ - (if a = some σ then 1 else 0) + (if b = some σ then 1 else 0)

theorem slots_updEnt {g : G} {e0 : Nat} {f : Entry → Entry} (a b : Option Slot)
    (ha : match a with | some σ => 0 < slotOf (g.ent e0) σ | none => True) (σ : Slot) (e : Nat)
    (hf : ∀ τ, slotOf (f (g.ent e0)) τ = moved (slotOf (g.ent e0)) a b τ := by
      intro τ; rcases τ with _ | p; rfl; cases p <;> rfl) :
    slotOf ((updEnt g e0 f).ent e) σ + sind (a.map (·, e0)) σ e
      = slotOf (g.ent e) σ + sind (b.map (·, e0)) σ e := by
  rw [updEnt_ent]
  by_cases he : e = e0
  · subst he
    have hind : ∀ o : Option Slot, sind (o.map (·, e)) σ e = if o = some σ then 1 else 0 := by
      intro o; cases o <;> simp [sind]
    rw [if_pos rfl, hf σ, hind, hind]
    unfold moved
    by_cases hs : a = some σ
    · subst hs
      have : 0 < slotOf (g.ent e) σ := ha
      simp only [↓reduceIte]; omega
    · simp only [hs, ↓reduceIte]; omega
  · have hind : ∀ o : Option Slot, sind (o.map (·, e0)) σ e = 0 := by
      intro o; cases o
      · exact if_neg nofun
      · exact sind_ne he _ _
    rw [if_neg he, hind, hind]

/-- (`+ 0`: `slots_updEnt` at `a = none`, whose indicator is 0) -/
theorem del1Code_slots (g : G) (k : Nat) (σ : Slot) (e : Nat) :
    slotOf ((del1Code g k).ent e) σ + 0 = slotOf (g.ent e) σ + sind (del1Tok g k) σ e := by
  unfold del1Tok
  fun_cases del1Code g k
  · rename_i hp; rw [hp]; rfl
  · rename_i e1 hp hz; rw [hp]; simp only [hz, if_true]
    exact slots_updEnt (g := setPool g k none) none (some (.at .del2)) trivial σ e
  · rename_i e1 hp hz; rw [hp]; simp only [hz, if_false]
    exact slots_updEnt none none trivial σ e

theorem del1Tok_giveBack (g : G) (h k : Nat) :
    del1Tok (updEnt g h fun E => { E with holders := E.holders - 1 }) k = del1Tok g k := by
  unfold del1Tok
  show (match g.pool k with | some e => _ | none => _) = _
  split
  · rw [updEnt_field Entry.refs g h]
  · rfl

/-- the law: every entry of the state after the region, an entry that did not exist before counting as empty -/
theorem gstep_law {g g' : G} {l : Label} (h : gstep g l = some g') (σ : Slot) {e : Nat} (he : e < g'.next) :
    slotOf (g'.ent e) σ + sind (src l) σ e = (if e < g.next then slotOf (g.ent e) σ else 0) + sind (dst g l) σ e := by
  -- a region that allocates: the entries that existed are as they were, the new one holds the token `b` of the call that made it
  have new : ∀ (g1 : G) k E (b : Slot), g1.next = g.next → g1.ent = g.ent → e < g1.next + 1 →
      (∀ τ, slotOf E τ = if b = τ then 1 else 0) →
      slotOf ((alloc g1 k E).ent e) σ + 0 = (if e < g.next then slotOf (g.ent e) σ else 0) + sind (some (b, g.next)) σ e :=
    fun g1 k E b hn hent he hE => by
      by_cases hlt : e < g.next
      · rw [if_pos hlt, sind_ne (Nat.ne_of_lt hlt), alloc_ent_old (hn ▸ hlt), hent]
      · have : e = g.next := Nat.le_antisymm (hn ▸ Nat.le_of_lt_succ he) (Nat.le_of_not_lt hlt)
        subst this
        rw [if_neg hlt, ← hn, alloc_ent_new, hE]
        unfold sind
        by_cases hb : b = σ
        · subst hb; simp
        · rw [if_neg hb, if_neg (fun h' => hb (Prod.mk.inj (Option.some.inj h')).1)]
  have old : e < g.next → (if e < g.next then slotOf (g.ent e) σ else 0) = slotOf (g.ent e) σ := fun h => if_pos h
  cases gstep_rel h with
  | lnNew hp =>
    simp only [dst, hp]
    exact new g _ _ (.at .ctor) rfl rfl he fun τ => by rcases τ with _ | p; rfl; cases p <;> rfl
  | lsNew hp | lspNew hp =>
    simp only [dst, hp]
    exact new (bumpVal g) _ _ .holders rfl rfl he fun τ => by rcases τ with _ | p; rfl; cases p <;> rfl
  | lnJoin hp => simp only [dst, hp]; rw [old he]; exact slots_updEnt none (some (.at .waiters)) trivial σ e
  | lsJoin hp | lspJoin hp => simp only [dst, hp]; rw [old he]; exact slots_updEnt none (some (.at .lsWaiters)) trivial σ e
  | ctorOk _ hc => rw [old he]; exact slots_updEnt (g := bumpVal g) (some (.at .ctor)) (some .holders) hc σ e
  | ctorErr _ hc => rw [old he]; exact slots_updEnt (some (.at .ctor)) (some (.at .failing)) hc σ e
  | lnFailDel _ hf => rw [old he]; exact slots_updEnt (g := setPool g _ none) (some (.at .failing)) none hf σ e
  | lnReadErr _ ht _ herr => simp only [dst, herr, if_true]; rw [old he]; exact slots_updEnt (some (.at .waiters)) none ht σ e
  | lnReadOk _ ht _ herr =>
    simp only [dst, herr, Bool.false_eq_true, if_false]; rw [old he]; exact slots_updEnt (some (.at .waiters)) (some .holders) ht σ e
  | lsReadErr _ ht _ herr => simp only [dst, herr, if_true]; rw [old he]; exact slots_updEnt (some (.at .lsWaiters)) none ht σ e
  | lsReadOk _ ht _ herr =>
    simp only [dst, herr, Bool.false_eq_true, if_false]; rw [old he]; exact slots_updEnt (some (.at .lsWaiters)) (some .holders) ht σ e
  | del1Rogue => rw [del1Code_next] at he; rw [old he]; exact del1Code_slots g _ σ e
  | @del1 k h0 _ hpos _ =>
    -- two token moves: the holder's token leaves, then `del1Code`
    rw [del1Code_next] at he
    rw [old he]
    have h1 := slots_updEnt (g := g) (e0 := h0) (f := fun E => { E with holders := E.holders - 1 }) (some .holders) none hpos σ e
    have h2 := del1Code_slots (updEnt g h0 fun E => { E with holders := E.holders - 1 }) k σ e
    rw [del1Tok_giveBack] at h2
    have hz : sind (Option.map (·, h0) (none : Option Slot)) σ e = 0 := if_neg nofun
    rw [hz] at h1
    show _ + sind (some (.holders, h0)) σ e = _ + sind (del1Tok g k) σ e
    change _ + sind (some (.holders, h0)) σ e = _ at h1
    omega
  | del2 _ hd _ hv hp =>
    simp only [dst, hv, hp, and_self, if_true]; rw [old he]; exact slots_updEnt (some (.at .del2)) (some (.at .del3)) hd σ e
  | del2Plain _ hd _ hv hp =>
    simp only [dst, hv, hp, Bool.true_eq_false, and_false, if_false]; rw [old he]; exact slots_updEnt (some (.at .del2)) none hd σ e
  | del2Nil _ hd _ hv =>
    simp only [dst, hv, Bool.false_eq_true, false_and, if_false]; rw [old he]; exact slots_updEnt (some (.at .del2)) none hd σ e
  | del3 _ hd => rw [old he]; exact slots_updEnt (some (.at .del3)) none hd σ e
  | refs | range => exact (old he).symm ▸ rfl

theorem dst_lt {g g' : G} {l : Label} (hmap : MapOk g) (h : gstep g l = some g') {σ : Slot} {e : Nat}
    (ht : dst g l = some (σ, e)) : e < g'.next := by
  have hfr := gstep_next_le h
  have pool : ∀ {k e}, g.pool k = some e → e < g'.next := fun hp => Nat.lt_of_lt_of_le (hmap _ _ hp).1 hfr
  cases gstep_rel h with
  | lnJoin hp | lsJoin hp | lspJoin hp => simp only [dst, hp] at ht; cases ht; exact pool hp
  | lnNew hp | lsNew hp | lspNew hp => simp only [dst, hp] at ht; cases ht; exact Nat.lt_succ_self _
  | ctorOk he _ | ctorErr he _ => cases ht; exact Nat.lt_of_lt_of_le he hfr
  | lnReadErr _ _ _ herr | lsReadErr _ _ _ herr => simp only [dst, herr, if_true] at ht; cases ht
  | lnReadOk he _ _ herr | lsReadOk he _ _ herr =>
    simp only [dst, herr, Bool.false_eq_true, if_false] at ht; cases ht; exact he
  | @del1Rogue k | @del1 k _ _ _ _ =>
    simp only [dst, del1Tok] at ht
    cases hp : g.pool k with
    | none => rw [hp] at ht; cases ht
    | some e1 =>
      rw [hp] at ht
      simp only at ht
      split at ht <;> cases ht
      exact pool hp
  | del2 he _ _ _ _ | del2Plain he _ _ _ _ | del2Nil he _ _ _ =>
    simp only [dst] at ht
    split at ht <;> cases ht
    exact Nat.lt_of_lt_of_le he hfr
  | _ => cases ht

/-- the guards of a label that are not about its own token -/
def SideOk (g : G) : Label → Prop
  | .lnRead e => (g.ent e).wlocked = false
  | .lsRead e _ => (g.ent e).wlocked = false
  | .del2 e => (g.ent e).wlocked = false
  | .del1 k (some h) => h < g.next ∧ 0 < (g.ent h).holders ∧ (g.ent h).key = k
  | _ => True

theorem gstep_enabled {g : G} {l : Label}
    (htok : ∀ p e, src l = some (.at p, e) → e < g.next ∧ 0 < placeOf (g.ent e) p) (hs : SideOk g l) :
    (gstep g l).isSome = true := by
  cases l with
  | lnLookup k | lsLookup k | lspLookup k => simp only [gstep]; split <;> rfl
  | ctorOk e | ctorErr e =>
    have hg : e < g.next ∧ 0 < (g.ent e).ctor := htok .ctor e rfl
    simp only [gstep, if_pos hg]; rfl
  | lnFailDel e =>
    have hg : e < g.next ∧ 0 < (g.ent e).failing := htok .failing e rfl
    simp only [gstep, if_pos hg]; rfl
  | lnRead e =>
    have hg : e < g.next ∧ 0 < (g.ent e).waiters ∧ (g.ent e).wlocked = false :=
      ⟨(htok .waiters e rfl).1, (htok .waiters e rfl).2, hs⟩
    simp only [gstep, if_pos hg]; split <;> rfl
  | lsRead e v =>
    have hg : e < g.next ∧ 0 < (g.ent e).lsWaiters ∧ (g.ent e).wlocked = false :=
      ⟨(htok .lsWaiters e rfl).1, (htok .lsWaiters e rfl).2, hs⟩
    simp only [gstep, if_pos hg]; split <;> rfl
  | del1 k ho =>
    cases ho with
    | none => rfl
    | some h =>
      have hg : h < g.next ∧ 0 < (g.ent h).holders ∧ (g.ent h).key = k := hs
      simp only [gstep, if_pos hg]; rfl
  | del2 e =>
    have hg : e < g.next ∧ 0 < (g.ent e).del2 ∧ (g.ent e).wlocked = false :=
      ⟨(htok .del2 e rfl).1, (htok .del2 e rfl).2, hs⟩
    simp only [gstep, if_pos hg]
    split
    · rfl
    · split <;> rfl
  | del3 e =>
    have hg : e < g.next ∧ 0 < (g.ent e).del3 := htok .del3 e rfl
    simp only [gstep, if_pos hg]; rfl
  | refs k | range => rfl

end CaddyModel.C04
