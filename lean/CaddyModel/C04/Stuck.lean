/-
C04 — the thread-level model never gets stuck: every thread is at a program counter that fits its operation (`PcOk`),
and every label it issues is enabled in the net (`move_enabled`: its token is there and `SideOk` holds, so `gstep_enabled` (Tokens.lean)).  So the executable
model that is compared with the real code is a faithful lifting of `gstep` (`never_stuck` (Props.lean)).  `Sound` — the books of
`Clients.lean` and `Places.lean` together with this — is the one invariant of the driver's runs (`sound_tstep`, `sound_runSched`);
`books_runSched` and `placeBooks_runSched` are its parts.
-/
import CaddyModel.C04.Places

namespace CaddyModel.C04

def HeldKey (g : G) (th : Thread) : Prop := ∀ x ∈ th.held, (g.ent x.2).key = x.1

def HeldGood (g : G) (th : Thread) : Prop :=
  ∀ x ∈ th.held, x.2 < g.next ∧ 0 < (g.ent x.2).holders ∧ (g.ent x.2).key = x.1

theorem tmove_side {g : G} {th th' : Thread} {ls : List Label}
    (hg : HeldGood g th) (hm : TMove g th ls th') : ∀ l ∈ ls, SideOk g l := by
  have one : ∀ {l}, SideOk g l → ∀ l' ∈ [l], SideOk g l' := List.forall_mem_singleton.mpr
  have del : ∀ {op held k h held'}, th.held = held → DelStart op held k h held' → SideOk g (.del1 k h) :=
    fun {op held k h held'} hh hd => by
      cases h with
      | none => trivial
      | some e0 => exact hg (k, e0) (hh ▸ (delStart_held hd).2.1 e0 rfl)
  cases hm with
  | lnReadErr hw _ | lnReadOk hw _ | lsReadErr _ hw _ | lsReadOk _ hw _ => exact one hw
  | del2Done _ hw _ _ | del2Destruct _ hw _ _ => exact one hw
  | delPark hd _ _ | delDone hd _ _ => exact one (del rfl hd)
  | skip => exact fun l hl => nomatch hl
  | _ => exact one trivial

def NextOk (g' : G) (th th' : Thread) : Prop :=
  PcOk g' th' ∧ ∀ x ∈ th'.held, x ∈ th.held ∨ (g'.ent x.2).key = x.1

theorem tmove_next {g g' : G} {th th' : Thread} {ls : List Label}
    (hmap : MapOk g) (hpc : PcOk g th) (hb : ∀ p e, pcAt th.pc = some (p, e) → e < g.next)
    (hm : TMove g th ls th') (hr : runLabels g ls = some g') : NextOk g' th th' := by
  have idle : th'.pc = .idle → (∀ x ∈ th'.held, x ∈ th.held ∨ (g'.ent x.2).key = x.1) → NextOk g' th th' :=
    fun hi hh => ⟨by unfold PcOk; rw [hi]; trivial, hh⟩
  have add : ∀ {k e held}, th.held = held → (g'.ent e).key = k →
      ∀ x ∈ (k, e) :: held, x ∈ th.held ∨ (g'.ent x.2).key = x.1 := fun hh hk =>
    List.forall_mem_cons.mpr ⟨.inr hk, fun x hx => .inl (hh ▸ hx)⟩
  cases hm with
  | lnJoin hp | lsJoin hp | lspJoin hp =>
    obtain ⟨he, hk, _⟩ := hmap _ _ hp
    exact ⟨(runLabels_key hr he).trans hk, fun x hx => .inl hx⟩
  | lnNew hp =>
    rw [runLabels_single] at hr
    simp only [gstep, hp] at hr; cases hr
    exact ⟨by simp [PcOk, alloc_ent_new, newCtorEntry], fun x hx => .inl hx⟩
  | ctorErr => exact ⟨trivial, fun x hx => .inl hx⟩
  | ctorOk => exact idle rfl (add rfl ((runLabels_key hr (hb .ctor _ rfl)).trans hpc))
  | lnReadOk _ _ => exact idle rfl (add rfl ((runLabels_key hr (hb .waiters _ rfl)).trans hpc))
  | lsReadOk hop _ _ =>
    refine idle rfl (add rfl ((runLabels_key hr (hb .lsWaiters _ rfl)).trans ?_))
    rcases hop with rfl | rfl <;> exact hpc
  | lsNew hp =>
    rw [runLabels_single] at hr
    simp only [gstep, hp] at hr; cases hr
    exact idle rfl (add rfl (by simp [bumpVal, alloc_ent_new, newStoredEntry]))
  | lspNew hp =>
    rw [runLabels_single] at hr
    simp only [gstep, hp] at hr; cases hr
    exact idle rfl (add rfl (by simp [bumpVal, alloc_ent_new, newPlainEntry]))
  | @delPark op _ _ _ _ _ _ hd _ _ =>
    refine ⟨?_, fun x hx => .inl ((delStart_held hd).1 x hx)⟩
    cases hd <;> trivial
  | delDone hd _ _ => exact idle rfl fun x hx => .inl ((delStart_held hd).1 x hx)
  | @del2Destruct op _ _ _ _ hop _ _ _ =>
    refine ⟨?_, fun x hx => .inl hx⟩
    cases op <;> first | trivial | exact hop.elim
  | _ => exact idle rfl fun x hx => .inl hx

theorem pcOk_mono {g g' : G} {th : Thread} (hk : ∀ p e, pcAt th.pc = some (p, e) → (g'.ent e).key = (g.ent e).key)
    (h : PcOk g th) : PcOk g' th := by
  obtain ⟨prog, pc, held⟩ := th
  cases prog with
  | nil => cases pc <;> simp [PcOk] at h ⊢
  | cons op rest =>
    cases pc <;> cases op <;> simp only [PcOk] at h ⊢ <;> try trivial
    all_goals exact (hk _ _ rfl).trans h

structure Sound (y : Sys) : Prop where
  books : Books y
  places : PlaceBooks y
  pcok : ∀ th ∈ y.threads, PcOk y.g th
  hkey : ∀ th ∈ y.threads, HeldKey y.g th
  ns : y.stuck = false

theorem heldGood_of_sound {y : Sys} (h : Sound y) {th : Thread} (hth : th ∈ y.threads) : HeldGood y.g th :=
  fun x hx => have ⟨hlt, hpos⟩ := books_held h.books hth hx; ⟨hlt, hpos, h.hkey th hth x hx⟩

theorem move_enabled {y : Sys} (h : Sound y) {th th' : Thread} (hmem : th ∈ y.threads) {ls : List Label}
    (hm : TMove y.g th ls th') : (runLabels y.g ls).isSome = true := by
  rcases (tmove_tok hm).tok with ⟨rfl, _⟩ | ⟨l, rfl, hdec, _⟩
  · rfl
  · rw [runLabels_single]
    refine gstep_enabled (fun p e hpe => ?_) (tmove_side (heldGood_of_sound h hmem) hm l (List.mem_singleton.mpr rfl))
    have hat : pcAt th.pc = some (p, e) := hdec.trans (placePart_eq.mpr hpe)
    have hlt := h.places.ok th hmem p e hat
    refine ⟨hlt, ?_⟩
    rw [h.places.count p e hlt]
    have h1 : atPlace p e th = 1 := by simp [atPlace, hat]
    have h2 : atPlace p e th ≤ placeCount y.threads p e := le_sum_map (atPlace p e) hmem
    omega

theorem sound_tstep (nk : Nat) (y : Sys) (t : Nat) (h : Sound y) : Sound (tstep nk y t) := by
  -- `Sound` does not mention the output
  refine tstep_cases nk y t
    (fun _ => ⟨⟨h.books.count, h.books.ok⟩, ⟨h.places.count, h.places.ok, h.places.fin, h.places.map⟩, h.pcok, h.hkey, h.ns⟩)
    (fun th _ hth hbad => ?_) fun th ls th' ev g' _ hth hm hr => ?_
  · have hmem : th ∈ y.threads := List.mem_of_getElem? hth
    rcases hbad with hs | ⟨ls, th', ev, hm, hr⟩
    · have hspec := tmove_spec nk y.g th
      rw [hs] at hspec; exact absurd (h.pcok th hmem) hspec
    · have := move_enabled h hmem (tmove_rel hm)
      rw [hr] at this; cases this
  · have hmem : th ∈ y.threads := List.mem_of_getElem? hth
    have hm := tmove_rel hm
    obtain ⟨hpc', hheld'⟩ := tmove_next h.places.map (h.pcok th hmem) (h.places.ok th hmem) hm hr
    have hkeys : ∀ e, e < y.g.next → (g'.ent e).key = (y.g.ent e).key := fun _ => runLabels_key hr
    obtain ⟨hb, hp⟩ := books_move (y' := ⟨g', y.threads.set t th', _, _, _⟩) h.books h.places hth hm hr rfl
    have old : ∀ th2 ∈ y.threads, HeldKey g' th2 := fun th2 hm2 x hx =>
      (hkeys x.2 (h.books.ok th2 hm2 x hx)).trans (h.hkey th2 hm2 x hx)
    exact ⟨hb, hp,
      forall_mem_set (fun th2 hm2 => pcOk_mono (fun p e hp => hkeys e (h.places.ok th2 hm2 p e hp)) (h.pcok th2 hm2)) hpc',
      forall_mem_set old fun x hx => (hheld' x hx).elim (old th hmem x) id, h.ns⟩

theorem sound_init (progs : List (List Op)) : Sound { g := G.init, threads := progs.map fun p => { prog := p } } := by
  have init : ∀ th ∈ progs.map (fun p => ({ prog := p } : Thread)), th.pc = .idle ∧ th.held = [] :=
    List.forall_mem_map.mpr fun _ _ => ⟨rfl, rfl⟩
  refine ⟨⟨fun e he => absurd he (Nat.not_lt_zero _), fun th hth x hx => ?_⟩,
    ⟨fun p e he => absurd he (Nat.not_lt_zero _), fun th hth p e hp => ?_, fun th hth _ => (init th hth).1, mapOk_init⟩,
    fun th hth => ?_, fun th hth x hx => ?_, rfl⟩
  · rw [(init th hth).2] at hx; cases hx
  · rw [(init th hth).1] at hp; cases hp
  · unfold PcOk; rw [(init th hth).1]; trivial
  · rw [(init th hth).2] at hx; cases hx

theorem sound_runSched (nk : Nat) (progs : List (List Op)) (sched : List Nat) : Sound (runSched nk progs sched) :=
  runSched_preserves (sound_tstep nk) progs sched (sound_init progs)

theorem books_runSched (nk : Nat) (progs : List (List Op)) (sched : List Nat) : Books (runSched nk progs sched) :=
  (sound_runSched nk progs sched).books

theorem placeBooks_runSched (nk : Nat) (progs : List (List Op)) (sched : List Nat) :
    PlaceBooks (runSched nk progs sched) :=
  (sound_runSched nk progs sched).places

end CaddyModel.C04
