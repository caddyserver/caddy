/-
C14 — the local CA: helper lemmas, on the calculus of Calculus.lean.  What Props.lean says of the CA under "all
crash points and fault placements" is a summary here read through `wp_sound` / `wpn_sound` (on FileStorage
through `wp_sound_fs` / `wpn_sound_fs`).

The four writes of `genRoot` / `genIntermediate` move the invariant `InvAt` through `RootOK` to `ProvOK`, so every
phase of a start-up keeps the invariant under any fault (`phase_*`, `wp_startup_inv`) and returns the right thing
without one (`phaseN_*`, `wpn_startup`).  A function writes only its own two keys (`*_writes`, frame rule `wp_frame`),
so a stored root, and a stored intermediate that is not due and has its own key next to it, are left alone
(`wp_startup_root_frozen`, `wp_startup_inter_frozen`); `runHist_keeps` lifts a fact about one event to histories.
-/
import CaddyModel.C14.Spec
import CaddyModel.C14.Calculus

namespace CaddyModel.C14

@[simp] theorem Store.set_same (s : Store) (k : Key) (b : Blob) : s.set k b k = some b := by
  simp [Store.set]

@[simp] theorem Store.set_other (s : Store) (k k' : Key) (b : Blob) (h : k' ≠ k) : s.set k b k' = s k' := by
  simp [Store.set, h]

theorem Pair.ext_crt_key {p q : Pair} (hc : p.crt = q.crt) (hk : p.key = q.key) : p = q := by
  cases p; cases q
  simp only [Pair.crt, Pair.key, Blob.cert.injEq, Blob.key.injEq] at hc hk
  simp only [hc, hk]

section summaries
variable {C : Store → Prop} {E : Store → Nat → Prop} {Q : Pair → Store → Nat → Prop}
  {ord : Order} {now life : Nat} {root : Pair} {s : Store} {fr : Nat} {b : Blob}

/-- `loadOrGenRoot` with a root certificate stored writes nothing: every exit happens in the initial store -/
theorem wp_loadOrGenRoot_present (h : s .rootCrt = some b) (hC : C s) (hE : E s fr)
    (hQ : ∀ root : Pair, b = root.crt → s .rootKey = some root.key → Q root s fr) :
    wp C E (loadOrGenRoot ord now) Q s fr := by
  unfold loadOrGenRoot
  simp only [wp, h]
  refine ⟨hC, hE, ?_⟩
  cases b with
  | key id => exact hE
  | cert p sg ra =>
    refine ⟨hC, hE, ?_⟩
    cases hrk : s .rootKey with
    | none => exact hE
    | some rk =>
      cases rk with
      | cert _ _ _ => exact hE
      | key id => exact hQ ⟨p, sg, ra, id⟩ rfl hrk

/-- `loadOrGenIntermediate` when an intermediate certificate is stored: nothing is written if
    the stored key is used (`hQ`); a revision that checks the pair regenerates on a foreign key (`hM`) -/
theorem wp_loadOrGenInt_present (h : s .intCrt = some b) (hC : C s) (hE : E s fr)
    (hQ : ∀ inter : Pair, b = inter.crt → s .intKey = some inter.key → (ord.checksPair = true → inter.keyId = inter.pub) →
      Q inter s fr)
    (hM : ∀ inter : Pair, b = inter.crt → s .intKey = some inter.key → ord.checksPair = true → inter.keyId ≠ inter.pub →
      wp C E (genInt ord now life root .genInt) Q s fr) :
    wp C E (loadOrGenInt ord now life root) Q s fr := by
  unfold loadOrGenInt
  simp only [wp, h]
  refine ⟨hC, hE, ?_⟩
  cases b with
  | key id => exact hE
  | cert p sg ra =>
    refine ⟨hC, hE, ?_⟩
    cases hik : s .intKey with
    | none => exact hE
    | some ik =>
      cases ik with
      | cert _ _ _ => exact hE
      | key id =>
        dsimp only
        by_cases hc : ord.checksPair = true ∧ id ≠ p
        · rw [if_pos (by simpa using hc)]
          exact hM ⟨p, sg, ra, id⟩ rfl hik hc.1 hc.2
        · rw [if_neg (by simpa using hc)]
          exact hQ ⟨p, sg, ra, id⟩ rfl hik (fun h => Decidable.byContradiction fun hne => hc ⟨h, hne⟩)

/-- `renewCertsForCA`: not due, nothing; due, `loadOrGenRoot` then `genIntermediate`, every error exit logged and `m` kept (no `E`) -/
theorem wp_renew {R : Mem → Store → Nat → Prop} {c : Cfg} {m : Mem} (hR : R m s fr)
    (hD : due m.inter c.now = true → wp C (R m) (loadOrGenRoot ord c.now) (fun root =>
      wp C (R m) (genInt ord c.now c.life root .genInt) fun inter => R { m with inter := inter }) s fr) :
    wp C E (renew ord c m) R s fr := by
  unfold renew
  split
  · next hd => simpa only [wp_orElse, wp_bind, wp] using hD hd
  · exact hR

/-- the two writes of `genRoot` / `genIntermediate`, key first: every exit, crash or error, is in one of three stores -/
theorem wp_storePair_keyFirst {kK kC : Key} {p : Pair} {e : Err} (h0 : C s) (h1 : C (s.set kK p.key))
    (h2 : C ((s.set kK p.key).set kC p.crt)) (hQ : Q p ((s.set kK p.key).set kC p.crt) fr) :
    wp C (fun s' _ => C s') (storePair .keyFirst kK kC p e) Q s fr :=
  ⟨h0, h1, h0, h1, h1, h2, h1, h2, hQ⟩

end summaries

theorem wpn_loadOrGenRoot_stored {E : Err → Store → Nat → Prop} {Q : Pair → Store → Nat → Prop} {ord : Order} {now : Nat}
    {s : Store} {fr : Nat} {root : Pair} (hrc : s .rootCrt = some root.crt) (hrk : s .rootKey = some root.key) :
    wpn E (loadOrGenRoot ord now) Q s fr ↔ Q root s fr := by
  simp only [loadOrGenRoot, wpn, hrc, hrk, Pair.crt, Pair.key]

theorem InvAt.any {t t' : Nat} {s : Store} (h : InvAt t s) : InvAt t' s :=
  ⟨h.rootKeyKind, h.intKeyKind, h.root, h.inter⟩

theorem InvAt.empty (t : Nat) : InvAt t Store.empty := ⟨nofun, nofun, nofun, nofun⟩

theorem InvAt.noInt_of_noRoot {t : Nat} {s : Store} (h : InvAt t s) (hrc : s .rootCrt = none) : s .intCrt = none := by
  cases hic : s .intCrt with
  | none => rfl
  | some b =>
    obtain ⟨_, _, _, _, _, _, h2, _⟩ := h.inter b hic
    rw [hrc] at h2; cases h2

/-- a complete root is stored and in hand.  Stated on the pair, since `loadOrGenRoot` returns before there is a `Mem`;
    `RootHeld t m s` (below, the form Props.lean states) unfolds to `RootOK t m.root s`, and `phase_renew` and
    `wp_startup_inv` pass one for the other -/
def RootOK (t : Nat) (root : Pair) (s : Store) : Prop :=
  InvAt t s ∧ s .rootCrt = some root.crt ∧ s .rootKey = some root.key

/-- additionally an intermediate signed by that root is stored and in hand, with ITS OWN key -/
def ProvOK (t : Nat) (m : Mem) (s : Store) : Prop :=
  RootOK t m.root s ∧ s .intCrt = some m.inter.crt ∧ s .intKey = some m.inter.key ∧
  m.inter.signer = m.root.pub ∧ m.inter.keyId = m.inter.pub

section writes
variable {t : Nat} {root : Pair} {s : Store}

/-- the root in hand is stored, so (by the invariant) it is self-signed and its key is the stored one -/
theorem RootOK.self (h : RootOK t root s) : root.signer = root.pub ∧ root.keyId = root.pub := by
  obtain ⟨hinv, hrc, hrk⟩ := h
  obtain ⟨r, ra, h1, h2⟩ := hinv.root _ hrc
  rw [Pair.crt, Blob.cert.injEq] at h1
  rw [hrk, Pair.key, Option.some.injEq, Blob.key.injEq] at h2
  exact ⟨h1.2.1.trans h1.1.symm, h2.trans h1.1.symm⟩

theorem ProvOK.consistent {m : Mem} (h : ProvOK t m s) : m.Consistent :=
  ⟨h.1.self.1, h.1.self.2, h.2.2.2⟩

theorem ProvOK.complete {m : Mem} (h : ProvOK t m s) : Complete s m :=
  ⟨h.1.2.1, h.1.2.2, h.2.1, h.2.2.1⟩

/-- genRoot, first write: a root key without a certificate -/
theorem InvAt.set_rootKey (h : InvAt t s) (hrc : s .rootCrt = none) (n : Nat) :
    InvAt t (s.set .rootKey (.key n)) := by
  refine ⟨?_, ?_, ?_, ?_⟩ <;> intro b hb <;> simp [hrc, h.noInt_of_noRoot hrc] at hb
  · exact ⟨n, hb.symm⟩
  · exact h.intKeyKind b hb

/-- genRoot, second write: the certificate of the key already stored -/
theorem InvAt.set_rootCrt (h : InvAt t s) (hrc : s .rootCrt = none) (n ra : Nat)
    (hrk : s .rootKey = some (.key n)) : RootOK t ⟨n, n, ra, n⟩ (s.set .rootCrt (.cert n n ra)) := by
  refine ⟨⟨?_, ?_, ?_, ?_⟩, by simp [Pair.crt], by simp [Pair.key, hrk]⟩ <;> intro b hb <;>
    simp [h.noInt_of_noRoot hrc] at hb
  · exact h.rootKeyKind b hb
  · exact h.intKeyKind b hb
  · exact ⟨n, ra, hb.symm, by simp [hrk]⟩

/-- genIntermediate, first write: the key under any stored intermediate certificate may be
    replaced (the pair is checked when it is loaded) -/
theorem RootOK.set_intKey (h : RootOK t root s) (n : Nat) : RootOK t root (s.set .intKey (.key n)) := by
  obtain ⟨h, hrc, hrk⟩ := h
  refine ⟨⟨?_, ?_, ?_, ?_⟩, by simp [hrc], by simp [hrk]⟩ <;> intro b hb <;> simp at hb
  · exact h.rootKeyKind b hb
  · exact ⟨n, hb.symm⟩
  · obtain ⟨r, ra, h1, h2⟩ := h.root b hb
    exact ⟨r, ra, h1, by simp [h2]⟩
  · obtain ⟨i, r, ra, rra, j, h1, h2, _⟩ := h.inter b hb
    exact ⟨i, r, ra, rra, n, h1, by simp [h2], by simp⟩

/-- genIntermediate, second write: the certificate of the key already stored, signed by the stored root -/
theorem RootOK.set_intCrt (h : RootOK t root s) (n ra : Nat) (hik : s .intKey = some (.key n)) :
    ProvOK t ⟨root, ⟨n, root.keyId, ra, n⟩⟩ (s.set .intCrt (.cert n root.keyId ra)) := by
  obtain ⟨hsg, hkid⟩ := h.self
  obtain ⟨h, hrc, hrk⟩ := h
  refine ⟨⟨⟨?_, ?_, ?_, ?_⟩, by simp [hrc], by simp [hrk]⟩, by simp [Pair.crt], by simp [Pair.key, hik], hkid, rfl⟩ <;>
    intro b hb <;> simp at hb
  · exact h.rootKeyKind b hb
  · exact h.intKeyKind b hb
  · obtain ⟨r', ra', h1, h2⟩ := h.root b hb
    exact ⟨r', ra', h1, by simp [h2]⟩
  · exact ⟨n, root.pub, ra, root.renewAt, n, by rw [← hb, hkid], by simp [hrc, Pair.crt, hsg], by simp [hik]⟩

/-- no write: the stored intermediate has its own key next to it -/
theorem RootOK.stored_inter {inter : Pair} (h : RootOK t root s) (hic : s .intCrt = some inter.crt)
    (hik : s .intKey = some inter.key) (hown : inter.keyId = inter.pub) : ProvOK t ⟨root, inter⟩ s := by
  obtain ⟨i, r, ra, rra, j, h1, h2, _⟩ := h.1.inter _ hic
  rw [Pair.crt, Blob.cert.injEq] at h1
  rw [h.2.1, Pair.crt, Option.some.injEq, Blob.cert.injEq] at h2
  exact ⟨h, hic, hik, h1.2.1.trans h2.1.symm, hown⟩

end writes

section phases
variable {t now life : Nat} {root : Pair} {s : Store} {fr : Nat}

theorem phase_root (h : InvAt t s) :
    wp (InvAt t) (fun s' _ => InvAt t s') (loadOrGenRoot .keyFirst now) (fun root s' _ => RootOK t root s') s fr := by
  cases hrc : s .rootCrt with
  | none =>
    have h1 := h.set_rootKey hrc fr
    have h2 := h1.set_rootCrt (by simp [hrc]) fr (now + rootLife) (by simp)
    simp only [loadOrGenRoot, wp, hrc, genRoot]
    exact ⟨h, h, wp_storePair_keyFirst h h1 h2.1 h2⟩
  | some b => exact wp_loadOrGenRoot_present hrc h h fun root hb hrk => ⟨h, hb ▸ hrc, hrk⟩

theorem phase_genInt (h : RootOK t root s) :
    wp (RootOK t root) (fun s' _ => RootOK t root s') (genInt .keyFirst now life root .genInt)
      (fun inter s' _ => ProvOK t ⟨root, inter⟩ s') s fr := by
  have h1 := h.set_intKey fr
  have h2 := h1.set_intCrt fr (now + life) (by simp)
  simp only [genInt, wp, if_pos h.self.2.symm]
  exact wp_storePair_keyFirst h h1 h2.1 h2

theorem phase_inter (h : RootOK t root s) :
    wp (RootOK t root) (fun s' _ => RootOK t root s') (loadOrGenInt .keyFirst now life root)
      (fun inter s' _ => ProvOK t ⟨root, inter⟩ s') s fr := by
  cases hic : s .intCrt with
  | none =>
    simp only [loadOrGenInt, wp, hic]
    exact ⟨h, h, phase_genInt h⟩
  | some b =>
    exact wp_loadOrGenInt_present hic h h (fun inter hb hik hown => h.stored_inter (hb ▸ hic) hik (hown rfl))
      (fun _ _ _ _ _ => phase_genInt h)

end phases

/-- what a start-up that returns has in hand and in store as far as the root goes -/
def RootHeld (t : Nat) (m : Mem) (s : Store) : Prop :=
  InvAt t s ∧ s .rootCrt = some m.root.crt ∧ s .rootKey = some m.root.key

theorem RootHeld.mono {t t' : Nat} {m : Mem} {s : Store} (h : RootHeld t m s) (ht : t ≤ t') : RootHeld t' m s :=
  ⟨h.1.any, h.2.1, h.2.2⟩

/-- `renewCertsForCA` — at `Start` or at run time — under ANY fault, whatever intermediate the
    process holds in memory and whatever intermediate is stored -/
theorem phase_renew {c : Cfg} {m : Mem} {s : Store} {fr : Nat} (h : RootHeld c.now m s) :
    wp (InvAt c.now) (fun s' _ => InvAt c.now s') (renew .keyFirst c m) (fun m' s' _ => RootHeld c.now m' s') s fr := by
  refine wp_renew h fun _ => wp_loadOrGenRoot_present h.2.1 h.1 h fun root hb hrk => ?_
  cases Pair.ext_crt_key hb (Option.some.inj (h.2.2.symm.trans hrk))
  exact wp_mono (fun _ h => h.1) (fun _ _ h => h) (fun _ _ _ h => h.1) (phase_genInt h)

theorem wp_startup_phases {C : Store → Prop} {E : Store → Nat → Prop} (ord : Order) (c : Cfg) (Q : Mem → Store → Nat → Prop) :
    wp C E (startup ord c) Q =
      wp C E (loadOrGenRoot ord c.now) fun root =>
        wp C E (loadOrGenInt ord c.now c.life root) fun inter => wp C E (renew ord c ⟨root, inter⟩) Q := by
  funext s fr
  simp only [startup, provision, wp_bind, wp]

theorem wp_startup_inv {c : Cfg} {s : Store} {fr : Nat} (h : InvAt c.now s) :
    wp (InvAt c.now) (fun s' _ => InvAt c.now s') (startup .keyFirst c) (fun m s' _ => RootHeld c.now m s') s fr := by
  rw [wp_startup_phases]
  refine wp_mono (fun _ h => h) (fun _ _ h => h) (fun root s1 fr1 hroot => ?_) (phase_root h)
  exact wp_mono (fun _ h => h.1) (fun _ _ h => h.1) (fun inter s2 fr2 hprov => phase_renew hprov.1) (phase_inter hroot)

section phasesN
variable {t now life : Nat} {root : Pair} {s : Store} {fr : Nat}

theorem phaseN_root (h : InvAt t s) :
    wpn noErr (loadOrGenRoot .keyFirst now) (fun root s' _ => RootOK t root s') s fr := by
  cases hrc : s .rootCrt with
  | none =>
    simp only [loadOrGenRoot, wpn, hrc, genRoot, storePair]
    exact (h.set_rootKey hrc fr).set_rootCrt (by simp [hrc]) fr (now + rootLife) (by simp)
  | some b =>
    obtain ⟨r, ra, rfl, h2⟩ := h.root b hrc
    exact (wpn_loadOrGenRoot_stored (root := ⟨r, r, ra, r⟩) hrc h2).mpr ⟨h, hrc, h2⟩

theorem phaseN_genInt (h : RootOK t root s) :
    wpn noErr (genInt .keyFirst now life root .genInt) (fun inter s' _ => ProvOK t ⟨root, inter⟩ s') s fr := by
  simp only [wpn, genInt, if_pos h.self.2.symm, storePair]
  exact (h.set_intKey fr).set_intCrt fr (now + life) (by simp)

theorem phaseN_inter (h : RootOK t root s) :
    wpn noErr (loadOrGenInt .keyFirst now life root) (fun inter s' _ => ProvOK t ⟨root, inter⟩ s') s fr := by
  unfold loadOrGenInt
  cases hic : s .intCrt with
  | none => simpa only [wpn, hic] using phaseN_genInt h
  | some b =>
    obtain ⟨i, r, ra, _, j, rfl, _, h3⟩ := h.1.inter b hic
    simp only [wpn, hic, h3, Order.checksPair, Bool.true_and]
    split
    · exact phaseN_genInt h
    · next hji => exact h.stored_inter (inter := ⟨i, r, ra, j⟩) hic h3 (by simpa using hji)

end phasesN

theorem phaseN_renew {c : Cfg} {m : Mem} {s : Store} {fr : Nat} (h : ProvOK c.now m s) :
    wpn noErr (renew .keyFirst c m) (fun m' s' _ => ProvOK c.now m' s') s fr := by
  unfold renew
  split
  · rw [wpn_orElse, wpn_bind, wpn_loadOrGenRoot_stored h.1.2.1 h.1.2.2, wpn_bind]
    exact wpn_mono (fun _ _ _ h => h.elim) (fun _ _ _ h => h) (phaseN_genInt h.1)
  · exact h

theorem wpn_provision_phases {E : Err → Store → Nat → Prop} (ord : Order) (c : Cfg) (Q : Mem → Store → Nat → Prop) :
    wpn E (provision ord c) Q =
      wpn E (loadOrGenRoot ord c.now) fun root => wpn E (loadOrGenInt ord c.now c.life root) fun inter => Q ⟨root, inter⟩ := by
  funext s fr
  simp only [provision, wpn_bind, wpn]

theorem wpn_provision {c : Cfg} {s : Store} {fr : Nat} (h : InvAt c.now s) :
    wpn noErr (provision .keyFirst c) (fun m s' _ => ProvOK c.now m s') s fr := by
  rw [wpn_provision_phases]
  exact wpn_mono (fun _ _ _ h => h) (fun _ _ _ hroot => phaseN_inter hroot) (phaseN_root h)

theorem wpn_startup_phases {E : Err → Store → Nat → Prop} (ord : Order) (c : Cfg) (Q : Mem → Store → Nat → Prop) :
    wpn E (startup ord c) Q = wpn E (provision ord c) fun m => wpn E (renew ord c m) Q := by
  funext s fr
  simp only [startup, wpn_bind]

theorem wpn_startup {c : Cfg} {s : Store} {fr : Nat} (h : InvAt c.now s) :
    wpn noErr (startup .keyFirst c) (fun m s' _ => ProvOK c.now m s') s fr := by
  rw [wpn_startup_phases]
  exact wpn_mono (fun _ _ _ h => h) (fun _ _ _ h => phaseN_renew h) (wpn_provision h)

def rootKeys (k : Key) : Prop := k = .rootKey ∨ k = .rootCrt
def intKeys (k : Key) : Prop := k = .intKey ∨ k = .intCrt

section footprints
variable {ord : Order} {now life : Nat} {root : Pair} {e : Err}

theorem storePair_writes {K : Key → Prop} {kK kC : Key} {p : Pair} (hK : K kK) (hC : K kC) :
    (storePair ord kK kC p e).WritesOnly K := by
  cases ord <;> exact .store (by assumption) (.fail _) (.store (by assumption) (.fail _) (.ret _))

theorem genInt_writes : (genInt ord now life root e).WritesOnly intKeys := by
  refine .fresh fun n => ?_
  split
  · exact storePair_writes (.inl rfl) (.inr rfl)
  · exact .fail _

theorem loadOrGenInt_writes : (loadOrGenInt ord now life root).WritesOnly intKeys := by
  refine .load (.fail _) fun r => ?_
  split
  · exact genInt_writes
  · exact .fail _
  · refine .load (.fail _) fun ik => ?_
    split
    · exact .fail _
    · exact .fail _
    · split
      · exact genInt_writes
      · exact .ret _

theorem loadOrGenRoot_writes : (loadOrGenRoot ord now).WritesOnly rootKeys := by
  refine .load (.fail _) fun r => ?_
  split
  · exact .fresh fun n => storePair_writes (.inl rfl) (.inr rfl)
  · exact .fail _
  · refine .load (.fail _) fun rk => ?_
    split <;> first | exact .fail _ | exact .ret _

end footprints

/-- what lies under two keys outside `K` survives every write under a key of `K` (the hypothesis of `wp_frame`) -/
theorem Store.set_keeps {K : Key → Prop} {a b : Key} (ha : ¬ K a) (hb : ¬ K b) (x y : Option Blob) :
    ∀ k, K k → ∀ (s : Store) (v : Blob), s a = x ∧ s b = y → (s.set k v) a = x ∧ (s.set k v) b = y := by
  intro k hk s v h
  rwa [Store.set_other s k a v (fun e => ha (e ▸ hk)), Store.set_other s k b v (fun e => hb (e ▸ hk))]

theorem wp_startup_root_frozen (ord : Order) (c : Cfg) {s : Store} {fr : Nat} {b : Blob} {k : Option Blob}
    (h : s .rootCrt = some b ∧ s .rootKey = k) :
    wp (fun s' => s' .rootCrt = some b ∧ s' .rootKey = k)
       (fun s' _ => s' .rootCrt = some b ∧ s' .rootKey = k)
       (startup ord c)
       (fun m s' _ => (s' .rootCrt = some b ∧ s' .rootKey = k) ∧ m.root.crt = b) s fr := by
  have hF := Store.set_keeps (K := intKeys) (a := .rootCrt) (b := .rootKey) nofun nofun (some b) k
  rw [wp_startup_phases]
  refine wp_loadOrGenRoot_present h.1 h h fun root hb _ => ?_
  refine wp_mono (fun _ h => h) (fun _ _ h => h) (fun inter s2 fr2 h2 => ?_) (wp_frame loadOrGenInt_writes hF h)
  exact wp_renew ⟨h2, hb.symm⟩ fun _ => wp_loadOrGenRoot_present h2.1 h2 ⟨h2, hb.symm⟩ fun _ _ _ =>
    wp_mono (fun _ h => h) (fun _ _ h3 => ⟨h3, hb.symm⟩) (fun _ _ _ h3 => ⟨h3, hb.symm⟩) (wp_frame genInt_writes hF h2)

theorem wp_startup_inter_frozen (ord : Order) (c : Cfg) {s : Store} {fr : Nat} {i r ra : Nat}
    (h : s .intCrt = some (.cert i r ra) ∧ s .intKey = some (.key i)) (hnd : c.now < ra) :
    wp (fun s' => s' .intCrt = some (.cert i r ra) ∧ s' .intKey = some (.key i))
       (fun s' _ => s' .intCrt = some (.cert i r ra) ∧ s' .intKey = some (.key i))
       (startup ord c)
       (fun m s' _ => (s' .intCrt = some (.cert i r ra) ∧ s' .intKey = some (.key i)) ∧ m.inter.crt = .cert i r ra ∧
          s' .intKey = some m.inter.key) s fr := by
  have hF := Store.set_keeps (K := rootKeys) (a := .intCrt) (b := .intKey) nofun nofun (some (.cert i r ra)) (some (.key i))
  rw [wp_startup_phases]
  refine wp_mono (fun _ h => h) (fun _ _ h => h) (fun root s1 fr1 h1 => ?_) (wp_frame loadOrGenRoot_writes hF h)
  apply wp_loadOrGenInt_present h1.1 h1 h1
  · intro inter hb hik _
    have hra : inter.renewAt = ra := by
      rw [Pair.crt, Blob.cert.injEq] at hb; exact hb.2.2.symm
    exact wp_renew ⟨h1, hb.symm, hik⟩ fun hd => absurd (of_decide_eq_true hd) (Nat.not_le.mpr (hra ▸ hnd))
  · intro inter hb hik _ hne
    rw [h1.2, Pair.key, Option.some.injEq, Blob.key.injEq] at hik
    rw [Pair.crt, Blob.cert.injEq] at hb
    exact absurd (hik.symm.trans hb.1) hne

theorem Event.after_store_of_ok {ord : Order} {e : Event} {d : Disk} {m : Mem} {y : Sys} (hr : e.run ord d = .ok m y) :
    (e.after ord d).store = y.store := by
  rw [Event.after, hr]; rfl

theorem Event.run_holds {t : Nat} (e : Event) {d : Disk} (h : InvAt t d.store) :
    (e.run codeOrder d).Holds (fun m s _ => RootHeld e.cfg.now m s) (fun s _ => InvAt e.cfg.now s) (InvAt e.cfg.now) :=
  wp_sound e.fault (startup .keyFirst e.cfg) _ (boot d) (wp_startup_inv h.any)

theorem recovery_of_inv {t : Nat} (d : Disk) (h : InvAt t d.store) (c : Cfg) :
    ∃ m y, (Event.mk c none).run codeOrder d = .ok m y ∧ m.Consistent ∧ Complete y.store m := by
  obtain ⟨m, y, hr, hp⟩ := (wpn_sound (startup .keyFirst c) _ (boot d) (wpn_startup h.any)).returns
  exact ⟨m, y, hr, hp.consistent, hp.complete⟩

theorem run_uses_stored_root {ord : Order} {e : Event} {d : Disk} {b : Blob} {m : Mem} {y : Sys}
    (h : d.store .rootCrt = some b) (hr : e.run ord d = .ok m y) : m.root.crt = b :=
  ((wp_sound e.fault (startup ord e.cfg) _ (boot d) (wp_startup_root_frozen ord e.cfg ⟨h, rfl⟩)).of_ok hr).2

theorem runHist_keeps {ord : Order} {F : Store → Prop} : ∀ (evs : List Event) (d : Disk),
    (∀ e ∈ evs, ∀ d', F d'.store → F (e.after ord d').store) → F d.store → F (runHist ord evs d).store
  | [], _, _, h => h
  | e :: es, d, hstep, h =>
    runHist_keeps es _ (fun e' he' => hstep e' (List.mem_cons_of_mem _ he')) (hstep e (List.mem_cons_self ..) d h)

theorem root_frozen (ord : Order) (evs : List Event) (d : Disk) {b : Blob} {k : Option Blob}
    (h : d.store .rootCrt = some b ∧ d.store .rootKey = k) :
    (runHist ord evs d).store .rootCrt = some b ∧ (runHist ord evs d).store .rootKey = k :=
  runHist_keeps (F := fun s => s .rootCrt = some b ∧ s .rootKey = k) evs d
    (fun e _ d' h' => (wp_sound e.fault _ _ (boot d') (wp_startup_root_frozen ord e.cfg h')).keeps fun _ _ _ h => h.1) h

theorem inter_frozen (ord : Order) {i r ra : Nat} (evs : List Event) (d : Disk)
    (h : d.store .intCrt = some (.cert i r ra) ∧ d.store .intKey = some (.key i)) (hnd : ∀ e ∈ evs, e.cfg.now < ra) :
    (runHist ord evs d).store .intCrt = some (.cert i r ra) ∧ (runHist ord evs d).store .intKey = some (.key i) :=
  runHist_keeps (F := fun s => s .intCrt = some (.cert i r ra) ∧ s .intKey = some (.key i)) evs d
    (fun e he d' h' =>
      (wp_sound e.fault _ _ (boot d') (wp_startup_inter_frozen ord e.cfg h' (hnd e he))).keeps fun _ _ _ h => h.1) h

end CaddyModel.C14
