/-
C14 — property theorems.

Statement: state that caddy persists for use after a restart is recoverable wherever a crash
or storage error interrupts it: with persistence enabled, the autosave file is at every
instant a complete copy of some successfully loaded configuration, and of the latest pushed
one once its load has returned.  The local CA's root certificate and key, once a start-up has
succeeded, are reloaded unchanged by every later start-up (as is the intermediate until it is
renewed), and after an interruption during their creation the next start-up succeeds with a
mutually consistent certificate chain and keys.

Quantifier: every point at which the process can die or a storage write can fail (before or
after taking effect), any number of restarts, all load histories with persistence on/off.
In the theorems: `Event.fault : Option Fault` (`FEvent` / `FFault` on FileStorage, `Step` with maintenance
passes) ranges over every operation index and all modes; histories are arbitrary lists; nothing is bounded.
-/
import CaddyModel.C14.FileStoreLemmas
import CaddyModel.C14.Witness
import CaddyModel.C14.TwoStores
import CaddyModel.Gen.CAWrites
import CaddyModel.Gen.Autosave
import CaddyModel.Gen.Resume
import CaddyModel.Gen.ChangeConfig
import CaddyModel.Gen.LoadEndpoint
import CaddyModel.Gen.CAStorage

namespace CaddyModel.C14

/-- **every interruption leaves a recoverable store (one step).**  Whatever the fault — any
    operation index, process death or reported error, before or after the effect — a
    start-up of the current code maps a store satisfying `InvAt` to one satisfying it. -/
theorem interrupted_startup_keeps_invariant (e : Event) (d : Disk) (t : Nat)
    (h : InvAt t d.store) : InvAt e.cfg.now (e.after codeOrder d).store :=
  (e.run_holds h).keeps fun _ _ _ h => h.1

/-- **every history of interrupted start-ups leaves a recoverable store.** -/
theorem reachable_invariant : ∀ (evs : List Event) (t : Nat) (d : Disk), InvAt t d.store →
    InvAt (lastTime t evs) (runHist codeOrder evs d).store :=
  -- the clock index of `InvAt` carries nothing (`InvAt.any`), so this is `runHist_keeps` at one fixed index
  fun evs _ d h =>
    (runHist_keeps (F := InvAt 0) evs d (fun e _ d' h' => (interrupted_startup_keeps_invariant e d' 0 h').any) h.any).any

/-- **recovery.**  After ANY history of start-ups on an initially empty storage, each of them
    interrupted at any storage operation in any of the four ways (or not at all), the next
    uninterrupted start-up succeeds, the chain and keys it holds are mutually consistent, and
    they are exactly what the storage then contains.  (No assumption about the clock.) -/
theorem recovery (evs : List Event) (c : Cfg) :
    ∃ m y, (Event.mk c none).run codeOrder (runHist codeOrder evs Disk.empty) = .ok m y ∧
      m.Consistent ∧ Complete y.store m :=
  recovery_of_inv _ (reachable_invariant evs 0 Disk.empty (InvAt.empty 0)) c

/-- **recovery, the instance the property names**: the creation on an empty storage is
    interrupted at the `k`-th operation in mode `mode`; the next start-up succeeds with a
    consistent chain — for every `k`, every mode, every intermediate lifetime. -/
theorem recovery_after_interrupted_creation (k : Nat) (mode : Mode) (life life' : Nat) :
    ∃ m y, (Event.mk ⟨2, life'⟩ none).run codeOrder
        ((Event.mk ⟨1, life⟩ (some ⟨k, mode⟩)).after codeOrder Disk.empty) = .ok m y ∧
      m.Consistent ∧ Complete y.store m :=
  recovery [⟨⟨1, life⟩, some ⟨k, mode⟩⟩] ⟨2, life'⟩

/-- **Provision alone already ends consistent.**  After any interrupted history the pair that
    `Provision` returns — before `Start` runs — is an intermediate certificate with ITS OWN key,
    signed by the root in hand (a foreign key left by an interrupted renewal is detected and the
    pair replaced; before that check this failed:
    `provision_alone_after_interrupted_renewal_mismatched_old_code` (Witness.lean)). -/
theorem provision_alone_consistent (evs : List Event) (c : Cfg) :
    ∃ m y, exec none (provision codeOrder c) (boot (runHist codeOrder evs Disk.empty)) = .ok m y ∧ m.Consistent := by
  have hinv := reachable_invariant evs 0 Disk.empty (InvAt.empty 0)
  obtain ⟨m, y, hr, hp⟩ := (wpn_sound (provision .keyFirst c) _ (boot (runHist codeOrder evs Disk.empty))
    (wpn_provision hinv.any)).returns
  exact ⟨m, y, hr, hp.consistent⟩

/-- **root_stable.**  Once a start-up has succeeded (even one during which a fault was
    injected), every later history of start-ups — interrupted anywhere, any number of
    restarts — leaves the stored root certificate and key unchanged, and every later start-up
    that returns uses that same root certificate. -/
theorem root_stable (evs0 : List Event) (e0 : Event)
    (m0 : Mem) (y0 : Sys) (h0 : e0.run codeOrder (runHist codeOrder evs0 Disk.empty) = .ok m0 y0)
    (evs : List Event) :
    (runHist codeOrder evs (e0.after codeOrder (runHist codeOrder evs0 Disk.empty))).store .rootCrt = some m0.root.crt ∧
    (runHist codeOrder evs (e0.after codeOrder (runHist codeOrder evs0 Disk.empty))).store .rootKey = some m0.root.key ∧
    ∀ (e : Event) (m : Mem) (y : Sys),
      e.run codeOrder (runHist codeOrder evs (e0.after codeOrder (runHist codeOrder evs0 Disk.empty))) = .ok m y →
      m.root.crt = m0.root.crt := by
  have hheld : RootHeld e0.cfg.now m0 y0.store :=
    (e0.run_holds (reachable_invariant evs0 0 Disk.empty (InvAt.empty 0))).of_ok h0
  have hafter := Event.after_store_of_ok h0
  have hfr := root_frozen codeOrder evs (e0.after codeOrder (runHist codeOrder evs0 Disk.empty)) (hafter ▸ hheld.2)
  exact ⟨hfr.1, hfr.2, fun e m y hr => run_uses_stored_root hfr.1 hr⟩

/-- the interruption that bricked the CA under the old write order (`f10` (Witness.lean)) is harmless
    under the current one -/
example : ∃ m y, (Event.mk ⟨2, 100⟩ none).run codeOrder (runHist codeOrder [f10] Disk.empty) = .ok m y ∧
    m.Consistent ∧ Complete y.store m :=
  recovery [f10] ⟨2, 100⟩

/-- **intermediate_stable_until_renewal.**  After an uninterrupted start-up has succeeded,
    every later history of start-ups (interrupted anywhere) that happen before the
    intermediate's renewal window opens leaves the stored intermediate certificate and key
    unchanged, and every such start-up that returns uses that same intermediate and key. -/
theorem intermediate_stable_until_renewal (evs0 : List Event) (c0 : Cfg) (m0 : Mem) (y0 : Sys)
    (h0 : (Event.mk c0 none).run codeOrder (runHist codeOrder evs0 Disk.empty) = .ok m0 y0)
    (evs : List Event) (hnd : ∀ e ∈ evs, e.cfg.now < m0.inter.renewAt) :
    (runHist codeOrder evs ((Event.mk c0 none).after codeOrder (runHist codeOrder evs0 Disk.empty))).store .intCrt
        = some m0.inter.crt ∧
    (runHist codeOrder evs ((Event.mk c0 none).after codeOrder (runHist codeOrder evs0 Disk.empty))).store .intKey
        = some m0.inter.key ∧
    ∀ (e : Event) (m : Mem) (y : Sys), e.cfg.now < m0.inter.renewAt →
      e.run codeOrder (runHist codeOrder evs ((Event.mk c0 none).after codeOrder (runHist codeOrder evs0 Disk.empty)))
        = .ok m y →
      m.inter = m0.inter := by
  obtain ⟨m, y, hr, hcons, hcomp⟩ := recovery evs0 c0
  cases h0.symm.trans hr
  have hafter := Event.after_store_of_ok h0
  have hik : y0.store .intKey = some (.key m0.inter.pub) := by rw [hcomp.2.2.2, Pair.key, hcons.2.2.2]
  have hfr := inter_frozen codeOrder evs _ ⟨hafter ▸ hcomp.2.2.1, hafter ▸ hik⟩ hnd
  refine ⟨hfr.1, hfr.2.trans (hik.symm.trans hcomp.2.2.2), fun e m y hlt hr => ?_⟩
  -- the start-up loads the stored certificate and the key next to it: the pair `m0` holds
  obtain ⟨⟨_, h2⟩, h3, h4⟩ := (wp_sound e.fault (startup codeOrder e.cfg) _ (boot _)
    (wp_startup_inter_frozen codeOrder e.cfg hfr hlt)).of_ok hr
  exact Pair.ext_crt_key h3 (Option.some.inj (h4.symm.trans (h2.trans (hik.symm.trans hcomp.2.2.2))))

/-- the start-up of the current code on an empty storage performs exactly this operation
    sequence (the sequence the harness observes on the real code) -/
example : ((Event.mk ⟨1, 100⟩ none).run codeOrder Disk.empty).sys.log =
    [.load .rootCrt, .store .rootKey (.key 0), .store .rootCrt (.cert 0 0 (1 + rootLife)),
     .load .intCrt, .store .intKey (.key 1), .store .intCrt (.cert 1 0 101)] := by decide

/-- a creation killed right after the root key was written (k = 2, crash after effect): the
    store has a key and no certificate … -/
example : ((Event.mk ⟨1, 100⟩ (some ⟨2, .crashAfter⟩)).after codeOrder Disk.empty).store .rootKey = some (.key 0) ∧
    ((Event.mk ⟨1, 100⟩ (some ⟨2, .crashAfter⟩)).after codeOrder Disk.empty).store .rootCrt = none := by decide

/-- … and the next start-up generates a fresh pair and a chain under it -/
example : ((Event.mk ⟨2, 100⟩ none).run codeOrder
      ((Event.mk ⟨1, 100⟩ (some ⟨2, .crashAfter⟩)).after codeOrder Disk.empty)).sys.store .rootCrt
    = some (.cert 1 1 (2 + rootLife)) := by decide

/-- an interrupted RENEWAL (intermediate lifetime 0, start-up 2 dies after writing the new
    intermediate key): certificate 2 is stored next to key 3 — the foreign key `InvAt` allows;
    `Provision` of start-up 3 detects it, generates pair 4 and ends consistent -/
example : (runHist codeOrder [⟨⟨1, 0⟩, none⟩, ⟨⟨2, 0⟩, some ⟨7, .crashAfter⟩⟩] Disk.empty).store .intCrt = some (.cert 2 0 1) ∧
    (runHist codeOrder [⟨⟨1, 0⟩, none⟩, ⟨⟨2, 0⟩, some ⟨7, .crashAfter⟩⟩] Disk.empty).store .intKey = some (.key 3) := by decide +kernel

example : ((Event.mk ⟨3, 50⟩ none).run codeOrder
      (runHist codeOrder [⟨⟨1, 0⟩, none⟩, ⟨⟨2, 0⟩, some ⟨7, .crashAfter⟩⟩] Disk.empty)).sys.store .intCrt
    = some (.cert 4 0 53) := by decide +kernel

/-- hypotheses of root_stable / intermediate_stable_until_renewal: a start-up that succeeds,
    later start-ups before the renewal window (101) opens -/
example : ((Event.mk ⟨1, 100⟩ none).run codeOrder Disk.empty).sys.store .intCrt = some (.cert 1 0 101) ∧
    (∀ e ∈ [Event.mk ⟨5, 7⟩ (some ⟨3, .failAfter⟩), Event.mk ⟨9, 7⟩ none], e.cfg.now < 101) := by decide

/-! ### renewal at run time (the 10-minute maintenance pass of a running process)

A running process renews with ITS IN-MEMORY certificates, which are not re-read from storage.
A renewal whose certificate write reports an error after taking effect is only logged, so memory
and storage can disagree, and a later pass interrupted between its two writes leaves a stored
certificate that is NOT due next to a foreign key.  Since `loadOrGenIntermediate` compares the
loaded key with the loaded certificate this is harmless: the invariant `InvAt` admits any key
next to an intermediate certificate, every pass keeps it under every fault, and the next
start-up replaces the pair.  Without that check the statement is false
(`recovery_with_runtime_renewal_old_code_fails` (Witness.lean), about the code before it had the check). -/

/-- the store satisfies the invariant and the ROOT the running process holds is the stored one; nothing is
    said of the intermediate it holds (memory and storage may disagree on it, see above) -/
def WInv (t : Nat) (w : World) : Prop :=
  InvAt t w.disk.store ∧ ∀ m life, w.proc = some (m, life) → RootHeld t m w.disk.store

theorem WInv.of_holds {t life : Nat} {r : Res Mem}
    (h : r.Holds (fun m s _ => RootHeld t m s) (fun s _ => InvAt t s) (InvAt t)) :
    WInv t ⟨r.disk, r.mem?.map fun m => (m, life)⟩ := by
  cases r with
  | ok m y => exact ⟨h.1, fun _ _ hp => by cases hp; exact h⟩
  | err e y => exact ⟨h, nofun⟩
  | crash y => exact ⟨h, nofun⟩

/-- **a maintenance pass interrupted in any way keeps the store recoverable**, whatever the
    process holds in memory as its intermediate -/
theorem tick_keeps_invariant (now : Nat) (f : Option Fault) (life : Nat) (m : Mem) (d : Disk)
    (h : RootHeld now m d.store) :
    (tickRun codeOrder now f life m d).Holds (fun m' s' _ => RootHeld now m' s') (fun s' _ => InvAt now s') (InvAt now) :=
  wp_sound f (renew .keyFirst ⟨now, life⟩ m) _ (boot d) (phase_renew (c := ⟨now, life⟩) h)

theorem WInv.step (st : Step) (w : World) (t : Nat) (h : WInv t w) : WInv st.now (w.step codeOrder st) := by
  cases st with
  | start e => exact .of_holds (e.run_holds h.1)
  | tick n f =>
    simp only [World.step]
    cases hp : w.proc with
    | none => exact ⟨h.1.any, fun m life hp' => by rw [hp] at hp'; cases hp'⟩
    | some ml =>
      exact .of_holds (tick_keeps_invariant n f ml.2 ml.1 w.disk ⟨(h.2 _ _ hp).1.any, (h.2 _ _ hp).2⟩)

/-- **every history of interrupted start-ups AND interrupted maintenance passes leaves a
    recoverable store** -/
theorem reachable_invariant_with_ticks : ∀ (sts : List Step) (t : Nat) (w : World), WInv t w →
    WInv (lastStepTime t sts) (runSteps codeOrder sts w)
  | [], _, _, h => h
  | st :: sts, t, w, h => reachable_invariant_with_ticks sts st.now _ (h.step st w t)

/-- **recovery with renewal at run time.**  After any history of start-ups and maintenance
    passes of the processes they leave running, each interrupted at any storage operation in
    any of the four ways, the next uninterrupted start-up succeeds with a consistent chain that
    is exactly what the storage then contains. -/
theorem recovery_with_runtime_renewal (sts : List Step) (c : Cfg) :
    ∃ m y, (Event.mk c none).run codeOrder (runSteps codeOrder sts World.empty).disk = .ok m y ∧
      m.Consistent ∧ Complete y.store m :=
  recovery_of_inv _ (reachable_invariant_with_ticks sts 0 World.empty ⟨InvAt.empty 0, nofun⟩).1 c

/-- the history that defeated the code before the pair check (`runtimeWitness` (Witness.lean): a
    certificate write that reports an error after taking effect, then a pass killed between its
    two writes) leaves a NOT-due certificate next to a foreign key -/
example : (runSteps codeOrder runtimeWitness World.empty).disk.store .intCrt = some (.cert 3 0 102) ∧
    (runSteps codeOrder runtimeWitness World.empty).disk.store .intKey = some (.key 4) := by decide +kernel

example : ∃ m y, (Event.mk ⟨4, 100⟩ none).run codeOrder (runSteps codeOrder runtimeWitness World.empty).disk = .ok m y ∧
    m.Consistent ∧ Complete y.store m :=
  recovery_with_runtime_renewal runtimeWitness ⟨4, 100⟩

/-! ### the CA on certmagic.FileStorage (the default storage): no atomicity assumed

So far a `Store` was one operation that took effect or not.  `FileStorage.Store` is six file
operations (FileStore.lean).  The theorems below quantify over a fault at ANY ONE OF THOSE FILE
OPERATIONS — process killed, or the call reports an error; before its effect, after its effect,
or (a write) after any number of bytes — in every start-up of an arbitrary history.  They rest on
`fileStore_atomic` and `wp_sound_fs` / `wpn_sound_fs` (FileStoreLemmas.lean). -/

theorem fs_interrupted_startup_keeps_invariant (e : FEvent) (d : FDisk) (t : Nat)
    (h : InvAt t (view d.dir)) (hw : KeysWhole d.dir) :
    InvAt e.cfg.now (view (e.after codeOrder d).dir) ∧ KeysWhole (e.after codeOrder d).dir :=
  (wp_sound_fs e.fault (startup .keyFirst e.cfg) _ (bootFS d) hw (wp_startup_inv h.any)).keeps
    fun _ _ _ h => h.1

theorem fs_reachable_invariant : ∀ (evs : List FEvent) (t : Nat) (d : FDisk), InvAt t (view d.dir) → KeysWhole d.dir →
    InvAt 0 (view (runFSHist codeOrder evs d).dir) ∧ KeysWhole (runFSHist codeOrder evs d).dir
  | [], _, _, h, hw => ⟨h.any, hw⟩
  | e :: es, t, d, h, hw =>
    fs_reachable_invariant es e.cfg.now (e.after codeOrder d)
      (fs_interrupted_startup_keeps_invariant e d t h hw).1 (fs_interrupted_startup_keeps_invariant e d t h hw).2

/-- **recovery on FileStorage: after any fault of any kind at any write, the CA comes back.**
    After ANY history of start-ups on an initially empty directory, each with at most one fault
    at one file operation — kill or reported error, before the effect, after the effect, or a
    write torn after any number of bytes; at the temp-file creation, chmod, write, fsync, close,
    rename or at a read — the next uninterrupted start-up succeeds, the chain and keys it holds are
    mutually consistent (it can sign leaves that verify), they are exactly what `Load` then shows,
    and no key file is torn. -/
theorem recovery_on_file_storage (evs : List FEvent) (c : Cfg) :
    ∃ m y, (FEvent.mk c none).run codeOrder (runFSHist codeOrder evs FDisk.empty) = .ok m y ∧
      m.Consistent ∧ Complete (view y.dir) m ∧ KeysWhole y.dir := by
  have hi := fs_reachable_invariant evs 0 FDisk.empty (InvAt.empty 0) keysWhole_empty
  obtain ⟨m, y, hr, hp, hw⟩ := (wpn_sound_fs (startup .keyFirst c) _ (bootFS (runFSHist codeOrder evs FDisk.empty)) hi.2
    (wpn_startup hi.1.any)).returns
  exact ⟨m, y, hr, hp.consistent, hp.complete, hw⟩

/-- **root stability on FileStorage.**  A root certificate that `Load` shows stays what `Load`
    shows, with the same root key next to it, through any further history of start-ups with a
    fault of any kind at any file operation -/
theorem fs_root_frozen : ∀ (evs : List FEvent) (d : FDisk) (b : Blob), KeysWhole d.dir → view d.dir .rootCrt = some b →
    view (runFSHist codeOrder evs d).dir .rootCrt = some b ∧
    view (runFSHist codeOrder evs d).dir .rootKey = view d.dir .rootKey ∧ KeysWhole (runFSHist codeOrder evs d).dir
  | [], _, _, hw, h => ⟨h, rfl, hw⟩
  | e :: es, d, b, hw, h => by
    have hs := wp_sound_fs e.fault (startup codeOrder e.cfg) _ (bootFS d) hw
      (wp_startup_root_frozen codeOrder e.cfg ⟨h, rfl⟩)
    have h1 := hs.keeps fun _ _ _ h => h.1
    have ih := fs_root_frozen es (e.after codeOrder d) b h1.2 h1.1.1
    exact ⟨ih.1, ih.2.1.trans h1.1.2, ih.2.2⟩

/-- `recovery_after_interrupted_creation` on FileStorage: ONE fault of any kind at any file operation
    of the creation, then a restart -/
theorem recovery_after_any_single_file_fault (idx : Nat) (mode : FMode) (life life' : Nat) :
    ∃ m y, (FEvent.mk ⟨2, life'⟩ none).run codeOrder
        ((FEvent.mk ⟨1, life⟩ (some ⟨idx, mode⟩)).after codeOrder FDisk.empty) = .ok m y ∧
      m.Consistent ∧ Complete (view y.dir) m ∧ KeysWhole y.dir :=
  recovery_on_file_storage [⟨⟨1, life⟩, some ⟨idx, mode⟩⟩] ⟨2, life'⟩

/-- the creation through FileStorage performs exactly these file operations (the sequence strace
    shows for the real FileStorage) -/
example : ((FEvent.mk ⟨1, 100⟩ none).run codeOrder FDisk.empty).sys.log =
    [.read .rootCrt,
     .creatTemp 0, .chmod 0, .write 0 (.key 0), .sync 0, .close 0, .rename 0 .rootKey,
     .creatTemp 1, .chmod 1, .write 1 (.cert 0 0 (1 + rootLife)), .sync 1, .close 1, .rename 1 .rootCrt,
     .read .intCrt,
     .creatTemp 2, .chmod 2, .write 2 (.key 1), .sync 2, .close 2, .rename 2 .intKey,
     .creatTemp 3, .chmod 3, .write 3 (.cert 1 0 101), .sync 3, .close 3, .rename 3 .intCrt] := by decide +kernel

/-- the write of the root certificate (operation 10) is torn after 7 bytes and the process dies:
    a torn temp file is left, no key file is affected, `Load` shows the key and no certificate -/
example : ((FEvent.mk ⟨1, 100⟩ (some ⟨10, .killTorn 7⟩)).after codeOrder FDisk.empty).dir.tmps 1
      = some (.part (.cert 0 0 (1 + rootLife)) 7) ∧
    view ((FEvent.mk ⟨1, 100⟩ (some ⟨10, .killTorn 7⟩)).after codeOrder FDisk.empty).dir .rootCrt = none ∧
    view ((FEvent.mk ⟨1, 100⟩ (some ⟨10, .killTorn 7⟩)).after codeOrder FDisk.empty).dir .rootKey = some (.key 0) := by
  decide

/-- the rename of the root certificate (operation 13) reports an error although it took effect:
    the start-up fails, `Load` shows the complete root (the abstract mode "fail after effect") -/
example : view ((FEvent.mk ⟨1, 100⟩ (some ⟨13, .failAfter⟩)).after codeOrder FDisk.empty).dir .rootCrt
      = some (.cert 0 0 (1 + rootLife)) := by decide

/-! ### config autosave -/

/-- **autosave_always_complete.**  For every load history — persistence on or off, rejected
    and unchanged loads, restarts, and in every load a kill, a failing operation or a write torn
    after any number of bytes, at any operation — the autosave file is at EVERY instant either
    absent (nothing was ever saved) or byte for byte a config whose load had been accepted
    before that instant (`evs₁` = the history up to it; `evs₂` = whatever follows: the instants
    of a prefix are instants of the whole history). -/
theorem autosave_always_complete (evs₁ evs₂ : List AEvent) (a : AState) (A : List Bytes) (h : Good A a.fs) :
    ∀ x ∈ seenHist codeStyle evs₁ a,
      x ∈ seenHist codeStyle (evs₁ ++ evs₂) a ∧ Good (A ++ acceptedIn codeStyle evs₁ a) x :=
  fun x hx => ⟨seenHist_append codeStyle evs₁ evs₂ a x hx, seenHist_good evs₁ a A h x hx⟩

/-- **autosave_latest_after_return.**  With persistence on and no storage fault, once the load
    of a config has returned successfully the autosave file is exactly that config — whatever
    was loaded, rejected, re-pushed unchanged or restarted before. -/
theorem autosave_latest_after_return (evs : List AEvent) (a : AState) (hc : ∀ e ∈ evs, e.clean) (h : InSync a)
    (l : Load) (hp : l.persists = true) (hacc : l.accepted = true) :
    (runLoads codeStyle (evs ++ [.load l none]) a).fs.path = some l.cfg := by
  rw [runLoads_concat]
  have := loadStep_insync hp (insync_preserved evs a hc h)
  exact this.1 _ (this.2 hacc)

/-- **autosave_recovers_after_interrupted_autosave.**  Whatever an interrupted autosave left
    behind — the load `l0` is killed, fails or is torn at ANY of its file operations (`ft`), from
    ANY earlier state `a0` (in particular with a stale temp file: absent, empty, partial or a
    complete other config) — after the restart every later load that returns (persistence on, no
    further fault) leaves the autosave file equal to that load's config, and that is what
    `caddy run --resume` reads.  This holds because `creat` on the leftover temp file truncates
    and reuses it (O_TRUNC, as `os.WriteFile` does); see `autosave_excl_fails` (Witness.lean) for the
    O_EXCL variant. -/
theorem autosave_recovers_after_interrupted_autosave (a0 : AState) (l0 : Load) (ft : Option FFault)
    (evs : List AEvent) (hc : ∀ e ∈ evs, e.clean) (l : Load) (hp : l.persists = true) (hacc : l.accepted = true) :
    resumeConfig (runLoads codeStyle (.load l0 ft :: .restart :: (evs ++ [.load l none])) a0) = some l.cfg := by
  simp only [runLoads, resumeConfig]
  exact autosave_latest_after_return evs (AEvent.restart.step codeStyle _) hc nofun l hp hacc

/-- **the autosave file is the document AS SUBMITTED, ids included.**  `@id` tags are meta fields:
    they are removed before the config is decoded, so two documents that differ only in them run
    the same modules — but they are different documents, `caddy.Load` compares the re-encoded
    BYTES (`bytes.Equal(rawCfgJSON, newCfg)`), and `--resume` must bring the tags back (`/id/…`).
    For EVERY function `strip` (in particular `RemoveMetaFields`): a push whose document differs
    from the running one — even if only inside what `strip` removes — is not treated as unchanged;
    when it returns (persistence on, accepted, no fault) the autosave file is exactly the pushed
    bytes, not the running ones. -/
theorem autosave_exact_document (strip : Bytes → Bytes) (l : Load) (a : AState) (c : Bytes)
    (hcur : a.cur = some c) (_hstrip : strip c = strip l.cfg) (hne : c ≠ l.cfg)
    (hp : l.persists = true) (hacc : l.accepted = true) :
    (loadStep codeStyle l none a).res = .ok ∧ (loadStep codeStyle l none a).st.fs.path = some l.cfg ∧
    (loadStep codeStyle l none a).st.fs.path ≠ some c := by
  have hs : sameCfg l a = false := by simp [sameCfg, hcur, hne]
  obtain ⟨hok, hpath, _, _⟩ := loadStep_fresh_ok hs hacc hp
  exact ⟨hok, hpath, fun h => hne (Option.some.inj (hpath.symm.trans h)).symm⟩

/-- **autosave_only_if_persist_enabled.**  A load whose config has persistence off (or is
    null, or may not be persisted) performs no file operation and leaves both files as they
    were, in every style and under any fault. -/
theorem autosave_only_if_persist_enabled (sty : Style) (l : Load) (ft : Option FFault) (a : AState)
    (h : l.persists = false) :
    (loadStep sty l ft a).log = [] ∧ (loadStep sty l ft a).st.fs = a.fs ∧ (loadStep sty l ft a).seen = [a.fs] :=
  loadStep_noop (.inr (.inr h))

/-- **autosave_only_accepted_configs.**  A rejected load performs no file operation; whenever a
    file operation is performed the load was accepted (the new config is running and the old
    one stopped: caddy.go:361-373 precede the write), and anything written is that config. -/
theorem autosave_only_accepted_configs (sty : Style) (l : Load) (ft : Option FFault) (a : AState) :
    (l.accepted = false → (loadStep sty l ft a).log = [] ∧ (loadStep sty l ft a).st.fs = a.fs) ∧
    (∀ op ∈ (loadStep sty l ft a).log, l.accepted = true ∧ l.persists = true ∧
      ∀ f d, op = .write f d → d = l.cfg) := by
  refine ⟨fun h => ⟨(loadStep_noop (.inr (.inl h))).1, (loadStep_noop (.inr (.inl h))).2.1⟩, fun op hop => ?_⟩
  rcases loadStep_cases l a with hn | ⟨hs, hacc, hp⟩
  · rw [(loadStep_noop hn).1] at hop; cases hop
  · -- what was attempted is a prefix of the autosave program, whose only write carries `l.cfg`
    rw [(loadStep_persisted hs hacc hp).1] at hop
    have hmem := (runOps_log_prefix ft _ 0 a.fs).subset hop
    refine ⟨hacc, hp, fun f d hd => ?_⟩
    subst hd
    cases sty <;> simp [autosaveOps] at hmem <;> exact hmem.2

/-- the autosave of the current code performs exactly this operation sequence (the sequence
    strace shows for the real code) -/
example : (loadStep codeStyle (exLoad [1, 2, 3] true true) none ⟨none, ⟨none, none⟩⟩).log
    = [.creat .tmp, .write .tmp [1, 2, 3], .rename .tmp .path] := by decide

/-- a history with an accepted load, a rejected one, one with persistence off, a restart and a
    load killed while its temp file is half written: old config still in place -/
example : (runLoads codeStyle
      [.load (exLoad [1] true true) none, .load (exLoad [2] true false) none, .load (exLoad [3] false true) none,
       .restart, .load (exLoad [4, 4] true true) (some ⟨2, .killTorn 1⟩)] ⟨none, ⟨none, none⟩⟩).fs
    = ⟨some [1], some [4]⟩ := by decide +kernel

example : acceptedIn codeStyle
      [.load (exLoad [1] true true) none, .load (exLoad [2] true false) none, .load (exLoad [3] false true) none]
      ⟨none, ⟨none, none⟩⟩ = [[1], [3]] := by decide

example : ∀ e ∈ [AEvent.load (exLoad [1] true true) none, .restart, .load (exLoad [1] true true) none], e.clean := by
  decide

/-- config `[1]` is saved; the autosave of `[2,2]` is killed after one byte reached the temp file;
    restart; `[3]` is loaded: the stale temp file `[2]` was reused, the file is `[3]`, no leftover -/
example : (runLoads codeStyle
      [.load (exLoad [1] true true) none, .load (exLoad [2, 2] true true) (some ⟨2, .killTorn 1⟩), .restart]
      ⟨none, ⟨none, none⟩⟩).fs = ⟨some [1], some [2]⟩ ∧
    (runLoads codeStyle
      [.load (exLoad [1] true true) none, .load (exLoad [2, 2] true true) (some ⟨2, .killTorn 1⟩), .restart,
       .load (exLoad [3] true true) none] ⟨none, ⟨none, none⟩⟩).fs = ⟨some [3], none⟩ := by decide

/-! ## the resume side: `caddy run --resume` reads what the last load wrote

The writer (caddy.go) and the reader (cmd/commandfuncs.go cmdRun) find the autosave file through
the package variable `caddy.ConfigAutosavePath`, which `--envfile` processing re-computes
(Resume.lean).  What the property needs across that glue: both use the same directory, for every
process environment and every list of env files, and therefore a restart with `--resume` loads
the latest config whose load had returned. -/

/-- `loadEnvFromFile` re-computes the variable, so it follows the environment through every env file -/
theorem handleEnvFiles_autosaveDir : ∀ (files : List EnvFile) (s : CmdState), s.autosaveDir = appConfigDir s.env →
    (s.handleEnvFiles files).autosaveDir = appConfigDir (files.foldl applyEnvFile s.env)
  | [], _, h => h
  | f :: fs, s, _ => handleEnvFiles_autosaveDir fs (s.loadEnvFile f) rfl

/-- **the autosave path is a function of the environment AFTER env-file processing**: every load
    of the process writes into `AppConfigDir()` of the process environment extended, file by
    file, with the variables it did not have -/
theorem writerDir_is_env_after_files (e : PEnv) (files : List EnvFile) :
    writerDir e files = appConfigDir (files.foldl applyEnvFile e) :=
  handleEnvFiles_autosaveDir files (CmdState.init e) rfl

/-- **writer path = reader path** -/
theorem resume_reads_where_autosave_writes (e : PEnv) (files : List EnvFile) :
    readerDir codeReadAt e files = writerDir e files := rfl

/-- **resume_recovers_latest_push.**  A `caddy run` process (any environment, any env files, with
    or without `--resume`, on any disk) starts, any clean history of loads is pushed, then config
    `l` is pushed and its load returns (persistence on, accepted, no storage fault).  However the
    process ends — SIGKILL included: nothing more is written — the autosave file in the writer's
    directory is exactly `l`, and the next `caddy run --resume` with the same environment and env
    files loads exactly `l` (not `--config`). -/
theorem resume_recovers_latest_push (asLoad : Bytes → Load) (c : CmdLine) (d : CDisk) (evs : List AEvent)
    (hc : ∀ e ∈ evs, e.clean) (hfirst : (firstLoad codeReadAt asLoad c d).persists = true)
    (l : Load) (hp : l.persists = true) (hacc : l.accepted = true) :
    (processRun codeReadAt asLoad c (evs ++ [.load l none]) d (writerDir c.env c.files)).path = some l.cfg ∧
    firstLoad codeReadAt asLoad { c with resume := true }
      (processRun codeReadAt asLoad c (evs ++ [.load l none]) d) = asLoad l.cfg := by
  have hfile : (processRun codeReadAt asLoad c (evs ++ [.load l none]) d (writerDir c.env c.files)).path = some l.cfg := by
    simp only [processRun, CDisk.set, if_true]
    have := autosave_latest_after_return (.load (firstLoad codeReadAt asLoad c d) none :: evs)
      ⟨none, d (writerDir c.env c.files)⟩
      (List.forall_mem_cons.mpr ⟨⟨rfl, hfirst⟩, hc⟩) nofun l hp hacc
    simpa using this
  refine ⟨hfile, ?_⟩
  simp only [firstLoad, if_true]
  rw [resume_reads_where_autosave_writes, hfile]

/-- **`persist_config off` in the Caddyfile means: never autosaved.**  Across the adapter
    (`persist_config off` ↦ `admin.config.persist: false`) and the decoded-field test of
    `unsyncedDecodeAndRun`: a load of such a config — at start-up, pushed, forced or not, accepted
    or not, under any fault — performs no file operation and leaves both files as they were; a
    Caddyfile WITHOUT the option is persisted like any other config (its load, when it returns
    without a fault, leaves the autosave file equal to it). -/
theorem caddyfile_persist_config (cfg : Bytes) (force accepted : Bool) (ft : Option FFault) (a : AState) :
    ((loadStep codeStyle (caddyfileLoad cfg .off force accepted) ft a).log = [] ∧
     (loadStep codeStyle (caddyfileLoad cfg .off force accepted) ft a).st.fs = a.fs) ∧
    (caddyfileLoad cfg .absent force accepted).persists = true ∧
    (InSync a → (loadStep codeStyle (caddyfileLoad cfg .absent true true) none a).st.fs.path = some cfg) := by
  refine ⟨?_, rfl, ?_⟩
  · have := autosave_only_if_persist_enabled codeStyle (caddyfileLoad cfg .off force accepted) ft a rfl
    exact ⟨this.1, this.2.1⟩
  · -- the load is forced, so it is not the unchanged-document no-op whatever is running
    exact fun _ => (loadStep_fresh_ok (l := caddyfileLoad cfg .absent true true) (by simp [sameCfg, caddyfileLoad]) rfl rfl).2.1

/-- **the CA root on the default storage is reloaded unchanged across restarts**: the data
    directory is a function of the process environment and the env files alone
    (`storageDir`), so every process of a history with the same command line looks where the first
    one wrote: the root it uses is the root the first one created, whatever was created since. -/
theorem default_storage_root_reloaded (roots : DataDir → Option Nat) (dir : DataDir) (fresh fresh' : Nat) :
    (useRoot (useRoot roots dir fresh).2 dir fresh').1 = (useRoot roots dir fresh).1 ∧
    (useRoot (useRoot roots dir fresh).2 dir fresh').2 = (useRoot roots dir fresh).2 := by
  unfold useRoot
  cases h : roots dir with
  | none => simp
  | some r => simp [h]

example : storageDir (some .unset) ⟨.unset, .dir 1⟩ [[(.data, .dir 2)]] = .xdgData 2 ∧
    storageDir (some (.dir 0)) ⟨.unset, .dir 1⟩ [[(.data, .dir 2)]] = .xdgData 0 ∧
    storageDir (some .unset) ⟨.unset, .unset⟩ [[(.home, .dir 3)]] = .homeShare 3 ∧
    storageDir none ⟨.unset, .dir 1⟩ [] = .fixed := by decide

/-- an env file that defines XDG_CONFIG_HOME moves the autosave directory (so the theorems above
    are not about a constant) -/
example : writerDir ⟨.unset, .dir 1⟩ [[(.xdg, .dir 2)]] = .xdg 2 ∧ appConfigDir ⟨.unset, .dir 1⟩ = .home 1 ∧
    writerDir ⟨.empty, .dir 1⟩ [[(.xdg, .dir 2)]] = .home 1 ∧
    writerDir ⟨.unset, .unset⟩ [[(.home, .dir 3)], [(.xdg, .dir 2), (.home, .dir 0)]] = .xdg 2 := by decide

/-! ### regenerated ties: the ORDER the theorems are about is the order the source has now

`tools/extract` reads these facts out of the Go sources on every run (`Gen/*.lean`). The theorems above are proved for the model parameters
`.keyFirst` (CA) and `.tmpRename` (autosave); the first two statements below say, in the source's own
identifiers, that this is what the code does: the key is stored before the certificate, the
certificate is the marker whose absence triggers generation, and autosave writes a temporary file
(`ConfigAutosavePath` + a suffix) and renames it over `ConfigAutosavePath`, never writing that file in place,
after the old configuration was stopped. The extractor follows helpers of the same file and resolves local
variables and parameters, so extracting these steps into a helper does not change the facts; a reordering does. -/

theorem ca_write_order_matches_source :
    Gen.genRootStores = ["storageKeyRootKey", "storageKeyRootCert"] ∧
    Gen.rootMarker = "storageKeyRootCert" ∧
    Gen.genIntermediateStores = ["storageKeyIntermediateKey", "storageKeyIntermediateCert"] ∧
    Gen.intermediateMarker = "storageKeyIntermediateCert" := ⟨rfl, rfl, rfl, rfl⟩

theorem autosave_program_matches_source :
    Gen.autosaveOps = ["MkdirAll", "WriteFile", "Rename"] ∧
    Gen.autosaveWritesTempThenRenames = true ∧
    Gen.autosaveNeverWritesInPlace = true ∧
    Gen.autosaveAfterSwap = true := ⟨rfl, rfl, rfl, rfl⟩

/-- the reader of Resume.lean (`codeReadAt = .afterEnvFiles`, and `loadEnvFile` re-computing the
    variable) is what the source says: the only `os.ReadFile` of `cmdRun` names the package
    variable `caddy.ConfigAutosavePath` itself, `cmdRun` does not mention that variable above its
    single `handleEnvFileFlag` call (no copy is taken early), and `loadEnvFromFile` assigns it from
    `caddy.AppConfigDir()` after its last `os.Setenv`. -/
theorem resume_read_matches_source :
    Gen.cmdRunReadFileArgs = ["caddy.ConfigAutosavePath"] ∧ Gen.cmdRunEnvFileCalls = 1 ∧
    Gen.cmdRunAutosavePathUsesBeforeEnvFile = 0 ∧ Gen.cmdRunReadsBeforeEnvFile = 0 ∧
    Gen.loadEnvFromFileRecomputesAutosavePath = true := ⟨rfl, rfl, rfl, rfl, rfl⟩

/-- every successful return of `changeConfig` has run the new document (and so autosaved it):
    between computing `newCfg` and the single `unsyncedDecodeAndRun` call the function only returns
    errors (the encode error, `errSameConfig` for byte-identical documents, the index error), and
    it has no `return nil` above that call — there is no short-cut to success in front of the
    reload, which is what `loadStep`'s only no-write success (`sameCfg`: identical bytes) models. -/
theorem change_config_runs_before_success_matches_source :
    Gen.changeConfigReturnsBeforeRun = ["APIError{…}", "errSameConfig", "APIError{…}"] ∧
    Gen.changeConfigNilReturnsBeforeRun = 0 ∧ Gen.changeConfigRunCalls = 1 := ⟨rfl, rfl, rfl⟩

/-! ### the `/load` endpoint -/

/-- a concrete adapter for the examples -/
def exAdapt : Bytes → Option Bytes
  | [] => none
  | _ :: t => some t

def exMk (b : Bytes) (f : Bool) : Load := ⟨b, f, true, true, true, true⟩

example : FaithfulMk exMk := fun _ _ => ⟨rfl, rfl⟩

/-- **load_endpoint_autosaves_adapted_document.**  A body pushed to `POST /load` with the Content-Type of a
    registered adapter (a Caddyfile): if the adapter yields `j` and `j` is accepted with persistence on — and it
    is not the byte-identical running document, or the reload is forced — then when the request returns the
    running document AND the autosave file are `j`, the adapted JSON; the file never holds the body that was sent. -/
theorem load_endpoint_autosaves_adapted_document (adapt : Bytes → Option Bytes) (mk : Bytes → Bool → Load)
    (hmk : FaithfulMk mk) (r : LoadReq) (a : AState) (j : Bytes)
    (hpost : r.post = true) (hct : r.ctype = .adapter true) (hj : adapt r.body = some j)
    (hacc : (mk j (forceOf r.cache)).accepted = true) (hp : (mk j (forceOf r.cache)).persists = true)
    (hnew : a.cur ≠ some j ∨ r.cache = .mustRevalidate) :
    (endpointStep adapt mk r a).res = .ok ∧ (endpointStep adapt mk r a).st.fs.path = some j ∧
    (endpointStep adapt mk r a).st.cur = some j ∧
    (j ≠ r.body → (endpointStep adapt mk r a).st.fs.path ≠ some r.body) := by
  have hs : sameCfg (mk j (forceOf r.cache)) a = false := by
    rcases hnew with h | h <;> simp [sameCfg_mk hmk, h, forceOf]
  have h := loadStep_fresh_ok hs hacc hp
  rw [(hmk j _).1] at h
  rw [endpointStep_load a hpost (by rw [hct]; exact hj)]
  exact ⟨h.1, h.2.1, h.2.2.1, fun hne hh => hne (Option.some.inj (h.2.1.symm.trans hh))⟩

example : (endpointStep exAdapt exMk ⟨true, .adapter true, .absent, [9, 7]⟩ ⟨some [1], ⟨some [1], none⟩⟩).st.fs.path = some [7] ∧
    (endpointStep exAdapt exMk ⟨true, .adapter true, .absent, [9, 7]⟩ ⟨some [1], ⟨some [1], none⟩⟩).res = .ok := by decide

/-- **load_endpoint_refusal_touches_nothing.**  A request the handler answers before `caddy.Load` (wrong method;
    unparsable Content-Type, unknown adapter, adapter error) changes neither the running document nor any file. -/
theorem load_endpoint_refusal_touches_nothing (adapt : Bytes → Option Bytes) (mk : Bytes → Bool → Load)
    (r : LoadReq) (a : AState)
    (h : r.post = false ∨ adaptByContentType adapt r.ctype r.body = none) :
    (endpointStep adapt mk r a).res = .rejected ∧ (endpointStep adapt mk r a).st = a ∧
    (endpointStep adapt mk r a).log = [] := by
  cases h with
  | inl h => simp [endpointStep, handleLoad, h]
  | inr h => cases hp : r.post <;> simp [endpointStep, handleLoad, h, hp]

example : adaptByContentType exAdapt (.adapter true) [] = none ∧ adaptByContentType exAdapt (.adapter false) [1] = none ∧
    (endpointStep exAdapt exMk ⟨true, .adapter true, .mustRevalidate, []⟩ ⟨some [1], ⟨some [1], none⟩⟩).st
      = ⟨some [1], ⟨some [1], none⟩⟩ := by decide

/-- **load_endpoint_force_is_exact_header.**  Pushing the byte-identical running document: with
    `Cache-Control: must-revalidate` it is loaded again and the autosave file is written again in full (create
    temp, write, rename — so a damaged or removed file is restored); with no header, or ANY other value (the
    handler compares with `==`: `no-cache, must-revalidate` is another value), it is the no-op. -/
theorem load_endpoint_force_is_exact_header (adapt : Bytes → Option Bytes) (mk : Bytes → Bool → Load)
    (hmk : FaithfulMk mk) (r : LoadReq) (a : AState) (j : Bytes)
    (hpost : r.post = true) (hj : adaptByContentType adapt r.ctype r.body = some j)
    (hcur : a.cur = some j)
    (hacc : ∀ f, (mk j f).accepted = true) (hp : ∀ f, (mk j f).persists = true) :
    (r.cache = .mustRevalidate →
      (endpointStep adapt mk r a).res = .ok ∧ (endpointStep adapt mk r a).log = autosaveOps .tmpRename j ∧
      (endpointStep adapt mk r a).st.fs.path = some j) ∧
    (r.cache ≠ .mustRevalidate →
      (endpointStep adapt mk r a).res = .same ∧ (endpointStep adapt mk r a).log = [] ∧
      (endpointStep adapt mk r a).st = a) := by
  rw [endpointStep_load a hpost hj]
  constructor
  · intro hc
    have hs : sameCfg (mk j (forceOf r.cache)) a = false := by simp [sameCfg_mk hmk, hc, forceOf]
    have h := loadStep_fresh_ok hs (hacc _) (hp _)
    rw [(hmk j _).1] at h
    exact ⟨h.1, h.2.2.2, h.2.1⟩
  · intro hc
    have hf : forceOf r.cache = false := by
      cases hcc : r.cache with
      | mustRevalidate => exact absurd hcc hc
      | _ => rfl
    have hs : sameCfg (mk j (forceOf r.cache)) a = true := by simp [sameCfg_mk hmk, hf, hcur]
    rw [loadStep_same hs]
    exact ⟨rfl, rfl, rfl⟩

example : (endpointStep exAdapt exMk ⟨true, .json, .mustRevalidate, [7]⟩ ⟨some [7], ⟨none, none⟩⟩).st.fs.path = some [7] ∧
    (endpointStep exAdapt exMk ⟨true, .json, .other, [7]⟩ ⟨some [7], ⟨none, none⟩⟩).st.fs.path = none ∧
    (endpointStep exAdapt exMk ⟨true, .json, .other, [7]⟩ ⟨some [7], ⟨none, none⟩⟩).res = .same := by decide

/-- the handler as modelled is the handler in the tree: `forceReload` is one `==` comparison of the
    `Cache-Control` header with `must-revalidate`; `caddy.Load` is called once, with `body` and that flag; `body`
    is the raw buffer and then the result of `adaptByContentType(ctHeader, body)` (regenerated fact
    `Gen/LoadEndpoint.lean`) -/
theorem load_endpoint_matches_source :
    Gen.loadForceHeader = codeForceHeader ∧ Gen.loadForceCompare = codeForceCompare ∧
    Gen.loadForceValue = codeForceValue ∧ Gen.loadForceDefs = 1 ∧ Gen.loadCalls = 1 ∧
    Gen.loadCallArgs = codeLoadArgs ∧ Gen.loadBodyAssigns = codeBodyAssigns ∧
    Gen.loadAdaptArgs = ["ctHeader", "body"] := ⟨rfl, rfl, rfl, rfl, rfl, rfl, rfl, rfl⟩

/-! ### two storages -/

/-- **startup_touches_only_selected_storage.**  A start-up — interrupted anywhere or not — on one storage leaves the other storage exactly as it was -/
theorem startup_touches_only_selected_storage (ord : Order) (ds : Disks) (s : StoreSel) (e : Event) :
    ((ds.step ord s e).sel s.other).store = (ds.sel s.other).store := by
  cases s <;> rfl

example : ((Disks.empty.step codeOrder .own ⟨⟨1, 100⟩, none⟩).sel .global).store .rootCrt = none ∧
    ((Disks.empty.step codeOrder .own ⟨⟨1, 100⟩, none⟩).sel .own).store .rootCrt ≠ none := by decide

/-- a config that names another storage starts a NEW CA there (by design), and going back finds the old one -/
example : ((runHist2 codeOrder [(.global, ⟨⟨1, 100⟩, none⟩), (.own, ⟨⟨2, 100⟩, none⟩), (.global, ⟨⟨3, 100⟩, none⟩)] Disks.empty).sel .own).store .rootCrt
      ≠ ((runHist2 codeOrder [(.global, ⟨⟨1, 100⟩, none⟩), (.own, ⟨⟨2, 100⟩, none⟩), (.global, ⟨⟨3, 100⟩, none⟩)] Disks.empty).sel .global).store .rootCrt ∧
    ((runHist2 codeOrder [(.global, ⟨⟨1, 100⟩, none⟩), (.own, ⟨⟨2, 100⟩, none⟩), (.global, ⟨⟨3, 100⟩, none⟩)] Disks.empty).sel .global).store .rootCrt
      = ((runHist2 codeOrder [(.global, ⟨⟨1, 100⟩, none⟩)] Disks.empty).sel .global).store .rootCrt := by decide +kernel

/-- **root_stable_per_storage** — `root_stable`'s precondition "the same storage in every start-up" as a
    theorem about the world with two storages: once a root certificate is on a storage (`root_stable`: after the
    first successful start-up there), every later history of start-ups whose configs select EITHER storage at will
    (the CA's `storage` module added, dropped, replaced by reloads; each start-up interrupted anywhere) leaves
    that storage's root certificate and key unchanged, and every later start-up that selects it and returns uses
    that root. -/
theorem root_stable_per_storage (sel : StoreSel) (b : Blob) :
    ∀ (evs : List (StoreSel × Event)) (ds : Disks), (ds.sel sel).store .rootCrt = some b →
      ((runHist2 codeOrder evs ds).sel sel).store .rootCrt = some b ∧
      ((runHist2 codeOrder evs ds).sel sel).store .rootKey = (ds.sel sel).store .rootKey ∧
      ∀ (e : Event) (m : Mem) (y : Sys),
        e.run codeOrder ((runHist2 codeOrder evs ds).sel sel) = .ok m y → m.root.crt = b
  | [], ds, h => ⟨h, rfl, fun _ _ _ hr => run_uses_stored_root h hr⟩
  | (s, e) :: es, ds, h => by
    have h1 : ((ds.step codeOrder s e).sel sel).store .rootCrt = some b ∧
        ((ds.step codeOrder s e).sel sel).store .rootKey = (ds.sel sel).store .rootKey := by
      -- the start-up ran on the storage in question (`root_frozen`) or on the other one (nothing there changed)
      cases s <;> cases sel
      case global.global | own.own => exact root_frozen codeOrder [e] _ ⟨h, rfl⟩
      all_goals exact ⟨h, rfl⟩
    have ih := root_stable_per_storage sel b es (ds.step codeOrder s e) h1.1
    exact ⟨ih.1, ih.2.1.trans h1.2, ih.2.2⟩

/-- the hypothesis of `root_stable_per_storage` is what one uninterrupted start-up establishes -/
example : (((Disks.empty.step codeOrder .own ⟨⟨1, 100⟩, none⟩)).sel .own).store .rootCrt = some (.cert 0 0 (1 + rootLife)) := by decide

/-- the selection `Disks.sel` models is the one in the tree, and the whole start-up program runs on the selected
    storage: CA.Provision assigns the CA's storage field twice — its own module if one is configured, else
    `ctx.Storage()` — and NO storage operation of package caddypki has a receiver that does not resolve, by data flow
    (method receiver's field, locals assigned from it, parameters every call site fills with it — whatever the
    helpers and locals are called), to that field; the package asks a context for its storage once (in Provision)
    and never names the default storage (regenerated fact `Gen/CAStorage.lean`; one operation elsewhere would
    split a CA's files over two storages, which `Event.run` on ONE `Disk` could not express) -/
theorem ca_storage_selection_matches_source :
    Gen.caStorageAssigns = ["ca.StorageRaw!=nil => cmStorage", "ca.storage==nil => ctx.Storage()"] ∧
    Gen.caStorageOpsElsewhere = 0 ∧ Gen.caStorageOpKinds = ["Load", "Store"] ∧
    Gen.caContextStorageCalls = 1 ∧ Gen.caDefaultStorageMentions = 0 := ⟨rfl, rfl, rfl, rfl, rfl⟩

end CaddyModel.C14
