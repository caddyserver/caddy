import CaddyModel.C14.Props
open CaddyModel.C14
#print axioms interrupted_startup_keeps_invariant
#print axioms reachable_invariant
#print axioms recovery
#print axioms recovery_after_interrupted_creation
#print axioms provision_alone_consistent
#print axioms root_stable
#print axioms intermediate_stable_until_renewal
#print axioms tick_keeps_invariant
#print axioms reachable_invariant_with_ticks
#print axioms recovery_with_runtime_renewal
#print axioms fileStore_atomic
#print axioms wp_sound_fs
#print axioms wpn_sound_fs
#print axioms fs_interrupted_startup_keeps_invariant
#print axioms fs_reachable_invariant
#print axioms recovery_on_file_storage
#print axioms fs_root_frozen
#print axioms recovery_after_any_single_file_fault
#print axioms autosave_always_complete
#print axioms autosave_latest_after_return
#print axioms autosave_only_if_persist_enabled
#print axioms autosave_only_accepted_configs
#print axioms autosave_recovers_after_interrupted_autosave
#print axioms autosave_exact_document
#print axioms writerDir_is_env_after_files
#print axioms resume_reads_where_autosave_writes
#print axioms resume_recovers_latest_push
#print axioms caddyfile_persist_config
#print axioms default_storage_root_reloaded
#print axioms wp_sound
#print axioms wpn_sound
#print axioms recovery_old_order_fails
#print axioms autosave_old_style_fails
#print axioms autosave_excl_wedged
#print axioms autosave_excl_fails
#print axioms recovery_with_runtime_renewal_old_code_fails
#print axioms provision_alone_after_interrupted_renewal_mismatched_old_code
#print axioms ca_write_order_matches_source
#print axioms autosave_program_matches_source
#print axioms resume_read_matches_source
#print axioms change_config_runs_before_success_matches_source
#print axioms inPlace_store_not_atomic
#print axioms resume_before_envfiles_fails
#print axioms autosave_id_shortcut_fails
#print axioms load_endpoint_autosaves_adapted_document
#print axioms load_endpoint_refusal_touches_nothing
#print axioms load_endpoint_force_is_exact_header
#print axioms load_endpoint_matches_source
#print axioms startup_touches_only_selected_storage
#print axioms root_stable_per_storage
#print axioms ca_storage_selection_matches_source
