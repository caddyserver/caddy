/-
C14 — the calculus over `Prog` (nothing here knows of the CA).

`wp` is a weakest-precondition calculus with THREE postconditions: `Q` when the program returns, `E` when it
exits with an error, `C` at every point at which the process can die — before and after the effect of every
storage operation (the clause of `store`: `C` before, `C` after, the error exit in the old and in the new store — an
error reported before / after the effect —, the continuation in the new store).  `wp_sound` proves it sound against `exec` for every fault (index and mode) at once; `wpn` is the
fault-free calculus (`exec none`); `wp_frame` is the frame rule for a program's syntactic footprint.  FileStoreLemmas.lean proves the same two calculi sound for `execFS`.
-/
import CaddyModel.C14.Model

namespace CaddyModel.C14

def Res.Holds (Q : α → Store → Nat → Prop) (E : Store → Nat → Prop) (C : Store → Prop) : Res α → Prop
  | .ok a y => Q a y.store y.fresh
  | .err _ y => E y.store y.fresh
  | .crash y => C y.store

def wp (C : Store → Prop) (E : Store → Nat → Prop) : Prog α → (α → Store → Nat → Prop) → Store → Nat → Prop
  | .ret a, Q, s, fr => Q a s fr
  | .fail _, _, s, fr => E s fr
  | .load k onErr cont, Q, s, fr => C s ∧ wp C E onErr Q s fr ∧ wp C E (cont (s k)) Q s fr
  | .store k b onErr cont, Q, s, fr =>
      C s ∧ C (s.set k b) ∧ wp C E onErr Q s fr ∧ wp C E onErr Q (s.set k b) fr ∧ wp C E cont Q (s.set k b) fr
  | .fresh cont, Q, s, fr => wp C E (cont fr) Q s (fr + 1)

theorem wp_sound {C : Store → Prop} {E : Store → Nat → Prop} (f : Option Fault) :
    ∀ (p : Prog α) (Q : α → Store → Nat → Prop) (y : Sys),
      wp C E p Q y.store y.fresh → (exec f p y).Holds Q E C := by
  intro p
  induction p with
  | ret a => intro Q y h; exact h
  | fail e => intro Q y h; exact h
  | load k onErr cont ihE ihC =>
    intro Q y ⟨hc, he, hk⟩
    unfold exec
    split
    · exact ihC _ Q (y.tick (.load k)) hk
    · exact hc
    · exact hc
    · exact ihE Q (y.tick (.load k)) he
    · exact ihE Q (y.tick (.load k)) he
  | store k b onErr cont ihE ihC =>
    intro Q y ⟨hc, hc', he, he', hk⟩
    unfold exec
    split
    · exact ihC Q ((y.tick (.store k b)).put k b) hk
    · exact hc
    · exact hc'
    · exact ihE Q (y.tick (.store k b)) he
    · exact ihE Q ((y.tick (.store k b)).put k b) he'
  | fresh cont ih =>
    intro Q y h
    exact ih y.fresh Q y.bump h

theorem wp_bind {C : Store → Prop} {E : Store → Nat → Prop} (g : α → Prog β) (Q : β → Store → Nat → Prop) (p : Prog α) :
    ∀ (s : Store) (fr : Nat),
      wp C E (p.bind g) Q s fr ↔ wp C E p (fun a s' fr' => wp C E (g a) Q s' fr') s fr := by
  induction p <;> intro s fr <;> simp only [Prog.bind, wp, *]

theorem wp_orElse {C : Store → Prop} {E : Store → Nat → Prop} (a : α) (Q : α → Store → Nat → Prop) (p : Prog α) :
    ∀ (s : Store) (fr : Nat), wp C E (p.orElse a) Q s fr ↔ wp C (Q a) p Q s fr := by
  induction p <;> intro s fr <;> simp only [Prog.orElse, wp, *]

theorem wp_mono {C C' : Store → Prop} {E E' : Store → Nat → Prop} {Q Q' : α → Store → Nat → Prop} {p : Prog α}
    (hC : ∀ s, C s → C' s) (hE : ∀ s fr, E s fr → E' s fr) (hQ : ∀ a s fr, Q a s fr → Q' a s fr) :
    ∀ {s : Store} {fr : Nat}, wp C E p Q s fr → wp C' E' p Q' s fr := by
  induction p with
  | ret a => exact hQ a _ _
  | fail e => exact hE _ _
  | load k onErr cont ihE ihC => exact fun h => ⟨hC _ h.1, ihE h.2.1, ihC _ h.2.2⟩
  | store k b onErr cont ihE ihC => exact fun h => ⟨hC _ h.1, hC _ h.2.1, ihE h.2.2.1, ihE h.2.2.2.1, ihC h.2.2.2.2⟩
  | fresh cont ih => exact fun h => ih _ h

theorem Res.Holds.keeps {Q : α → Store → Nat → Prop} {C : Store → Prop} {r : Res α}
    (h : r.Holds Q (fun s _ => C s) C) (hQ : ∀ a s fr, Q a s fr → C s) : C r.sys.store := by
  cases r with
  | ok a y => exact hQ _ _ _ h
  | err e y => exact h
  | crash y => exact h

theorem Res.Holds.of_ok {Q : α → Store → Nat → Prop} {E : Store → Nat → Prop} {C : Store → Prop} {r : Res α}
    {a : α} {y : Sys} (h : r.Holds Q E C) (hr : r = .ok a y) : Q a y.store y.fresh := by
  subst hr; exact h

/-- The program stores only under keys in `K`, whatever it reads.  Which keys a CA function writes can be read off its
    text; `wp_frame` is the one place where that is turned into "what lies elsewhere stays". -/
inductive Prog.WritesOnly (K : Key → Prop) : Prog α → Prop
  | ret (a : α) : WritesOnly K (.ret a)
  | fail (e : Err) : WritesOnly K (.fail e)
  | load {k onErr cont} : WritesOnly K onErr → (∀ r, WritesOnly K (cont r)) → WritesOnly K (.load k onErr cont)
  | store {k b onErr cont} : K k → WritesOnly K onErr → WritesOnly K cont → WritesOnly K (.store k b onErr cont)
  | fresh {cont} : (∀ n, WritesOnly K (cont n)) → WritesOnly K (.fresh cont)

theorem wp_frame {K : Key → Prop} {F : Store → Prop} {p : Prog α} (hp : p.WritesOnly K)
    (hF : ∀ k, K k → ∀ s b, F s → F (s.set k b)) :
    ∀ {s : Store} {fr : Nat}, F s → wp F (fun s' _ => F s') p (fun _ s' _ => F s') s fr := by
  induction hp with
  | ret | fail => exact id
  | load _ _ ihE ihC => exact fun h => ⟨h, ihE h, ihC _ h⟩
  | store hk _ _ ihE ihC => exact fun h => ⟨h, hF _ hk _ _ h, ihE h, ihE (hF _ hk _ _ h), ihC (hF _ hk _ _ h)⟩
  | fresh _ ih => exact fun h => ih _ h

def Res.HoldsN (Q : α → Store → Nat → Prop) (E : Err → Store → Nat → Prop) : Res α → Prop
  | .ok a y => Q a y.store y.fresh
  | .err e y => E e y.store y.fresh
  | .crash _ => False

def wpn (E : Err → Store → Nat → Prop) : Prog α → (α → Store → Nat → Prop) → Store → Nat → Prop
  | .ret a, Q, s, fr => Q a s fr
  | .fail e, _, s, fr => E e s fr
  | .load k _ cont, Q, s, fr => wpn E (cont (s k)) Q s fr
  | .store k b _ cont, Q, s, fr => wpn E cont Q (s.set k b) fr
  | .fresh cont, Q, s, fr => wpn E (cont fr) Q s (fr + 1)

theorem wpn_sound {E : Err → Store → Nat → Prop} :
    ∀ (p : Prog α) (Q : α → Store → Nat → Prop) (y : Sys),
      wpn E p Q y.store y.fresh → (exec none p y).HoldsN Q E := by
  intro p
  induction p with
  | ret a => intro Q y h; exact h
  | fail e => intro Q y h; exact h
  | load k onErr cont _ ihC => intro Q y h; exact ihC _ Q (y.tick (.load k)) h
  | store k b onErr cont _ ihC => intro Q y h; exact ihC Q ((y.tick (.store k b)).put k b) h
  | fresh cont ih => intro Q y h; exact ih y.fresh Q y.bump h

theorem wpn_bind {E : Err → Store → Nat → Prop} (g : α → Prog β) (Q : β → Store → Nat → Prop) (p : Prog α) :
    ∀ (s : Store) (fr : Nat),
      wpn E (p.bind g) Q s fr ↔ wpn E p (fun a s' fr' => wpn E (g a) Q s' fr') s fr := by
  induction p <;> intro s fr <;> simp only [Prog.bind, wpn, *]

theorem wpn_orElse {E : Err → Store → Nat → Prop} (a : α) (Q : α → Store → Nat → Prop) (p : Prog α) :
    ∀ (s : Store) (fr : Nat), wpn E (p.orElse a) Q s fr ↔ wpn (fun _ => Q a) p Q s fr := by
  induction p <;> intro s fr <;> simp only [Prog.orElse, wpn, *]

theorem wpn_mono {E E' : Err → Store → Nat → Prop} {Q Q' : α → Store → Nat → Prop} {p : Prog α}
    (hE : ∀ e s fr, E e s fr → E' e s fr) (hQ : ∀ a s fr, Q a s fr → Q' a s fr) :
    ∀ {s : Store} {fr : Nat}, wpn E p Q s fr → wpn E' p Q' s fr := by
  induction p with
  | ret a => exact hQ a _ _
  | fail e => exact hE e _ _
  | load k onErr cont _ ihC => exact fun h => ihC _ h
  | store k b onErr cont _ ihC => exact fun h => ihC h
  | fresh cont ih => exact fun h => ih _ h

def noErr : Err → Store → Nat → Prop := fun _ _ _ => False

theorem Res.HoldsN.returns {Q : α → Store → Nat → Prop} {r : Res α} (h : r.HoldsN Q noErr) :
    ∃ a y, r = .ok a y ∧ Q a y.store y.fresh := by
  cases r with
  | ok a y => exact ⟨a, y, rfl, h⟩
  | err e y => exact h.elim
  | crash y => exact h.elim

end CaddyModel.C14
