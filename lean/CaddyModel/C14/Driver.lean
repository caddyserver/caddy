/-
C14 line-protocol driver.

  ca <ev>;<ev>;…        a history of start-ups of the PKI app on one storage, oldest first
      ev    = <life>:<fault> | m:<fault> | d:<key> | c:<key>><key>
              (m = the process left running by the latest start-up — if that returned — performs
               one maintenance pass `renewCerts` (hook VerifRenewCerts); a later start-up means
               that process is gone; answer `m:<res> [<ops>] {…}` or `m:norun {…}`)
              (d / c = somebody deletes a stored value / copies one over another between two
               start-ups: not an interruption — used only to reach the decode-error branches)
      life  = s | l            intermediate lifetime 1ns (inside its renewal window at once) | default
      fault = - | <k><mode>    k = 1-based index of the storage operation inside this start-up
      mode  = cb | ca | fb | fa   crash / fail (error returned), before / after the effect
    the clock of the i-th event is i.
    answer: per event  `<res> [<ops>] {rc=…,rk=…,ic=…,ik=…}`  joined by ` ; `
      res = ok(r=<crt>,i=<crt>,k=<key>) | err:<class> | crash
      ops = L:<key> | S:<key>=<blob>      blob = k<id> | c<pub>/<signer>
    key ids are renamed in order of first appearance in the answer.

  fs <ev>;<ev>;…        start-ups of the PKI app on the real certmagic.FileStorage (a directory), each
                        in its own process, oldest first
      ev    = <life>:<fault>      life as above; fault = - | K<k> | F<k>: the process is killed before /
                                  the call fails (EIO) at the k-th FILE operation of this start-up
                                  (a read of a key file counts as one, a Store is six + clean-up)
    answer: per event  `<res> [<ops>] {rc=…,rk=…,ic=…,ik=…;tmp=<leftover temp files>}`  joined by ` ; `
      ops = rd:<key> | t+ | ch | w:<blob> | sy | cl | mv:<key> | rm
      tmp = the temp files left in the directory, each e (empty) | p (torn) | w (whole), sorted

  cs <ev>;<ev>;…        start-ups of the PKI app whose config selects the storage: ev = <g|o><s|l>:<fault>
                        (g: the config's global storage, o: the CA's own `storage` module — `TwoStores.lean`)
    answer: per event  `<g|o>:<res> [<ops on the selected storage>] {<selected storage>} | {<other storage>}`

  rs <env> <files> <ev>;…   the real `caddy run [--resume] --envfile … --config …` (see harness resume.go)
      env   = x<val>h<val>[d<val>]   XDG_CONFIG_HOME, HOME[, XDG_DATA_HOME] of the process: - unset | e empty | 0..3 a directory
      files = . | <file>/<file>/…   file = _ | <var>=<val>,…   var = x | h | o | d
      ev    = S:<r|->:<cfg> | P:<cfg> | F:<cfg> | G:<cfg> | M:<cfg> | X:<cfg> | Y:<cfg> | Q:<cfg> | I:<cfg> | K
              cfg = <n><p|d|n>[x|k][i|u] | c<n><d|n> (S, P, F, G: a Caddyfile) | c<n>b (P, F, G: a Caddyfile the adapter refuses)
              (P = POST /load, F = the same with `Cache-Control: must-revalidate`, G = with `no-cache, must-revalidate`;
               M = PUT /load, X = Content-Type of an adapter that does not exist, Y = a Content-Type without a slash
               (with must-revalidate): all three are answered before caddy.Load;
               a JSON cfg goes out as application/json, a Caddyfile as text/caddyfile — `Endpoint.lean`;
               Q = PATCH /config/apps/c14probe, I = PATCH /id/a with the app object of cfg;
               i / u = the app object carries @id a / b)
    answer per event: S=<running config>|S=fail, P=<ok[!]|rej>|P=norun (`!` = the autosave file was written again), K, each + {a=<autosave where the
    environment after the env files says>,b=<… where the process environment alone says>}
    (a line with a `k` config: `/r<n>` after `S=<config>` / `P=ok[!]` = the root that config came up with, and inside the braces
    `,ra=<root in the data directory the environment after the env files says>,rb=<… the process environment alone says>`)

  as <ev>;<ev>;…        a history of config loads and process restarts on one autosave directory
      ev    = R | U | L<n>:<flags>:<fault>
              (U = restart with `--resume`: the new process loads, with forceReload, whatever the
               autosave file holds; nothing is loaded when there is no file)
      flags = one of d p n (persist absent / true / false), then any of
              f (forceReload) x (provision fails) y (start fails) j (does not decode) z (config is null)
              i / u / v (an @id tag on the app / the same renamed / moved to another object: the same config
              number with different tags differs ONLY in ids — the document, and so the autosave file, differs)
      fault = - | K<k> | F<k>   the k-th file operation of this load: process killed before it / it fails without effect
    answer: per event  `<res>[<ops>]{p=…,t=…}`  joined by ` `
      res = ok | same | rej | killed | R | U:<content>=<res of the resumed load> | U:-
      ops = c:<f> | w:<f>:<content> | mv:<f>><f>       f = p | t
      content = - (absent) | e (empty) | <n><flags> (exactly that config) | ~ (anything else)
-/
import CaddyModel.C14.Model
import CaddyModel.C14.FileStore
import CaddyModel.C14.Resume
import CaddyModel.C14.Endpoint
import CaddyModel.C14.TwoStores

namespace CaddyModel.C14

/-! ### CA -/

inductive Tok
  | s (x : String)
  | id (n : Nat)

def keyName : Key → String
  | .rootCrt => "rc" | .rootKey => "rk" | .intCrt => "ic" | .intKey => "ik"

def blobToks : Blob → List Tok
  | .key n => [.s "k", .id n]
  | .cert p sg _ => [.s "c", .id p, .s "/", .id sg]

def optBlobToks : Option Blob → List Tok
  | none => [.s "-"]
  | some b => blobToks b

def errName : Err → String
  | .loadRootCert => "load-root-cert" | .genRoot => "gen-root" | .parseRootCert => "parse-root-cert"
  | .loadRootKey => "load-root-key" | .decodeRootKey => "decode-root-key"
  | .loadIntCert => "load-inter-cert" | .genInt => "gen-inter" | .decodeIntCert => "decode-inter-cert"
  | .loadIntKey => "load-inter-key" | .decodeIntKey => "decode-inter-key"

def sepBy (sep : Tok) : List (List Tok) → List Tok
  | [] => []
  | [x] => x
  | x :: xs => x ++ sep :: sepBy sep xs

def opToks : OpRec → List Tok
  | .load k => [.s ("L:" ++ keyName k)]
  | .store k b => .s ("S:" ++ keyName k ++ "=") :: blobToks b

def storeToks (s : Store) : List Tok :=
  sepBy (.s ",") ([Key.rootCrt, .rootKey, .intCrt, .intKey].map fun k => .s (keyName k ++ "=") :: optBlobToks (s k))

def resToks : Res Mem → List Tok
  | .ok m _ => [.s "ok(r="] ++ blobToks m.root.crt ++ [.s ",i="] ++ blobToks m.inter.crt ++ [.s ",k="] ++ blobToks m.inter.key ++ [.s ")"]
  | .err e _ => [.s ("err:" ++ errName e)]
  | .crash _ => [.s "crash"]

def eventToks (r : Res Mem) : List Tok :=
  resToks r ++ [.s " ["] ++ sepBy (.s ",") (r.sys.log.map opToks) ++ [.s "] {"] ++ storeToks r.sys.store ++ [.s "}"]

/-- a step of a `ca` line: a start-up, a maintenance pass, or tampering with the storage -/
inductive CAStep
  | start (e : Event)
  | tick (now : Nat) (f : Option Fault)
  | del (k : Key)
  | copy (src dst : Key)

def Store.unset (s : Store) (k : Key) : Store := fun k' => if k' = k then none else s k'

def tamperToks (s : Store) : List Tok := [.s "T {"] ++ storeToks s ++ [.s "}"]

def caToks (ord : Order) : List CAStep → World → List (List Tok)
  | [], _ => []
  | .start e :: es, w => eventToks (e.run ord w.disk) :: caToks ord es (w.step ord (.start e))
  | .tick n f :: es, w =>
    match w.proc with
    | none => ([.s "m:norun {"] ++ storeToks w.disk.store ++ [.s "}"]) :: caToks ord es (w.step ord (.tick n f))
    | some (m, life) =>
      (.s "m:" :: eventToks (tickRun ord n f life m w.disk)) :: caToks ord es (w.step ord (.tick n f))
  | .del k :: es, w =>
    tamperToks (w.disk.store.unset k) :: caToks ord es { w with disk := ⟨w.disk.store.unset k, w.disk.fresh⟩ }
  | .copy a b :: es, w =>
    match w.disk.store a with
    | some v => tamperToks (w.disk.store.set b v) :: caToks ord es { w with disk := ⟨w.disk.store.set b v, w.disk.fresh⟩ }
    | none => tamperToks (w.disk.store.unset b) :: caToks ord es { w with disk := ⟨w.disk.store.unset b, w.disk.fresh⟩ }

def lookupId (n : Nat) : List Nat → Nat → Option Nat
  | [], _ => none
  | x :: xs, i => if x = n then some i else lookupId n xs (i + 1)

/-- rename ids in order of first appearance -/
def render : List Tok → List Nat → String → String
  | [], _, acc => acc
  | .s x :: ts, seen, acc => render ts seen (acc ++ x)
  | .id n :: ts, seen, acc =>
    match lookupId n seen 0 with
    | some i => render ts seen (acc ++ toString i)
    | none => render ts (seen ++ [n]) (acc ++ toString seen.length)

def parseMode : String → Option Mode
  | "cb" => some .crashBefore | "ca" => some .crashAfter
  | "fb" => some .failBefore | "fa" => some .failAfter
  | _ => none

def longLife : Nat := 1000000

def parseFault (s : String) : Option (Option Fault) :=
  if s == "-" then some none else
  if s.length < 3 then none else
  match (s.dropEnd 2).toString.toNat?, parseMode (s.takeEnd 2).toString with
  | some k, some m => if k = 0 then none else some (some ⟨k, m⟩)
  | _, _ => none

def parseKey : String → Option Key
  | "rc" => some .rootCrt | "rk" => some .rootKey | "ic" => some .intCrt | "ik" => some .intKey
  | _ => none

def parseCAEvent (now : Nat) (s : String) : Option CAStep :=
  match s.splitOn ":" with
  | ["m", fault] => (parseFault fault).map (.tick now)
  | ["d", k] => (parseKey k).map .del
  | ["c", ab] =>
    match ab.splitOn ">" with
    | [a, b] => do pure (.copy (← parseKey a) (← parseKey b))
    | _ => none
  | [life, fault] =>
    match (if life == "s" then some 0 else if life == "l" then some longLife else none), parseFault fault with
    | some lf, some ft => some (.start ⟨⟨now, lf⟩, ft⟩)
    | _, _ => none
  | _ => none

def parseCAEvents : List String → Nat → Option (List CAStep)
  | [], _ => some []
  | s :: ss, now => do
    let e ← parseCAEvent now s
    let es ← parseCAEvents ss (now + 1)
    pure (e :: es)

def handleCA (hist : String) : String :=
  match parseCAEvents (hist.splitOn ";") 1 with
  | some evs => render (sepBy (.s " ; ") (caToks codeOrder evs World.empty)) [] ""
  | none => "bad-op"

/-! ### the CA on the storage its config selects (`cs`): ev = <g|o><s|l>:<fault> — g: no `storage` in the
CA's config (the config's global storage), o: the CA's own `storage` module -/

def parseCSEvent (now : Nat) (s : String) : Option (StoreSel × Event) :=
  match s.toList with
  | c :: rest =>
    match (if c == 'g' then some StoreSel.global else if c == 'o' then some StoreSel.own else none),
          parseCAEvent now (String.ofList rest) with
    | some sel, some (.start e) => some (sel, e)
    | _, _ => none
  | [] => none

def parseCSEvents : List String → Nat → Option (List (StoreSel × Event))
  | [], _ => some []
  | s :: ss, now => do
    let e ← parseCSEvent now s
    let es ← parseCSEvents ss (now + 1)
    pure (e :: es)

def selName : StoreSel → String
  | .global => "g:"
  | .own => "o:"

/-- per start-up: the selected storage's answer as in `ca`, then the OTHER storage -/
def csToks (ord : Order) : List (StoreSel × Event) → Disks → List (List Tok)
  | [], _ => []
  | se :: es, ds =>
    ([.s (selName se.1)] ++ eventToks (se.2.run ord (ds.sel se.1)) ++ [.s " | {"] ++ storeToks (ds.sel se.1.other).store ++ [.s "}"]) ::
      csToks ord es (ds.step ord se.1 se.2)

def handleCS (hist : String) : String :=
  match parseCSEvents (hist.splitOn ";") 1 with
  | some evs => render (sepBy (.s " ; ") (csToks codeOrder evs Disks.empty)) [] ""
  | none => "bad-op"

/-! ### the CA on FileStorage -/

def dopToks : DOp → List Tok
  | .read k => [.s ("rd:" ++ keyName k)]
  | .creatTemp _ => [.s "t+"]
  | .chmod _ => [.s "ch"]
  | .write _ b => .s "w:" :: blobToks b
  | .sync _ => [.s "sy"]
  | .close _ => [.s "cl"]
  | .rename _ k => [.s ("mv:" ++ keyName k)]
  | .remove _ => [.s "rm"]
  | .writeKey k b => .s ("wk:" ++ keyName k ++ "=") :: blobToks b
  | .truncKey k => [.s ("tk:" ++ keyName k)]

def contentKind : FContent → String
  | .empty => "e" | .part _ _ => "p" | .whole _ => "w"

/-- kinds of the temp files left, in sorted order (e < p < w) -/
def tmpKinds (d : Dir) : String :=
  let ks := (List.range d.nextTmp).filterMap fun n => (d.tmps n).map contentKind
  ",".intercalate (ks.filter (· == "e") ++ ks.filter (· == "p") ++ ks.filter (· == "w"))

def fresToks : FRes Mem → List Tok
  | .ok m _ => [.s "ok(r="] ++ blobToks m.root.crt ++ [.s ",i="] ++ blobToks m.inter.crt ++ [.s ",k="] ++ blobToks m.inter.key ++ [.s ")"]
  | .err e _ => [.s ("err:" ++ errName e)]
  | .crash _ => [.s "crash"]

def fsEventToks (r : FRes Mem) : List Tok :=
  fresToks r ++ [.s " ["] ++ sepBy (.s ",") (r.sys.log.map dopToks) ++ [.s "] {"] ++ storeToks (view r.sys.dir)
    ++ [.s (";tmp=" ++ tmpKinds r.sys.dir ++ "}")]

def fsToks (ord : Order) : List FEvent → FDisk → List (List Tok)
  | [], _ => []
  | e :: es, d => fsEventToks (e.run ord d) :: fsToks ord es (e.after ord d)

/-! ### autosave -/

structure ASpec where
  ev : AEvent
  name : String

def fileName : File → String
  | .path => "p" | .tmp => "t"

def contentName : Option Bytes → String
  | none => "-"
  | some [] => "e"
  | some c => bytesToString c

def fopName : FOp → String
  | .creat f => "c:" ++ fileName f
  | .creatExcl f => "x:" ++ fileName f
  | .write f d => "w:" ++ fileName f ++ ":" ++ contentName (some d)
  | .rename a b => "mv:" ++ fileName a ++ ">" ++ fileName b

def fsName (fs : FS) : String := "{p=" ++ contentName fs.path ++ ",t=" ++ contentName fs.tmp ++ "}"

def lresName : LRes → String
  | .ok => "ok" | .same => "same" | .rejected => "rej" | .killed => "killed"

def isPersistFlag (c : Char) : Bool := c == 'd' || c == 'p' || c == 'n'
def isOtherFlag (c : Char) : Bool :=
  c == 'f' || c == 'x' || c == 'y' || c == 'j' || c == 'i' || c == 'z' || c == 'u' || c == 'v'

def allDistinct : List Char → Bool
  | [] => true
  | c :: cs => !cs.contains c && allDistinct cs

def parseFFault (s : String) : Option (Option FFault) :=
  if s == "-" then some none else
  match s.toList with
  | 'K' :: rest => match (String.ofList rest).toNat? with
    | some k => if k = 0 then none else some (some ⟨k, .killBefore⟩)
    | none => none
  | 'F' :: rest => match (String.ofList rest).toNat? with
    | some k => if k = 0 then none else some (some ⟨k, .failBefore⟩)
    | none => none
  | _ => none

/-- the bytes that stand for a config: its number and every flag that is part of its JSON text -/
def cfgBytes (n : String) (flags : List Char) : Bytes :=
  if flags.contains 'z' then str "null" else str (n ++ String.ofList (flags.filter (· != 'f')))

def parseAEvent (s : String) : Option AEvent :=
  if s == "R" then some .restart else
  match s.splitOn ":" with
  | [ln, flags, fault] =>
    match ln.toList, flags.toList, parseFFault fault with
    | 'L' :: num, p :: rest, some ft =>
      if num.isEmpty || !num.all Char.isDigit || !isPersistFlag p || !rest.all isOtherFlag || !allDistinct rest
          || (rest.contains 'z' && (rest.contains 'x' || rest.contains 'y' || rest.contains 'j' || rest.contains 'i'
                || rest.contains 'u' || rest.contains 'v'))
          || (rest.contains 'i' && rest.contains 'u') || (rest.contains 'i' && rest.contains 'v')
          || (rest.contains 'u' && rest.contains 'v') then none else
      some (.load
        { cfg := cfgBytes (String.ofList num) (p :: rest)
          force := rest.contains 'f'
          accepted := !(rest.contains 'x' || rest.contains 'y' || rest.contains 'j')
          nonNil := !rest.contains 'z'
          persistCfg := p != 'n'
          allowPersist := true } ft)
    | _, _, _ => none
  | _ => none

def aEventOut (sty : Style) : AEvent → AState → String
  | .load l ft, a =>
    lresName (loadStep sty l ft a).res ++ "[" ++ ",".intercalate ((loadStep sty l ft a).log.map fopName) ++ "]"
      ++ fsName (loadStep sty l ft a).st.fs
  | .restart, a => "R[]" ++ fsName a.fs

/-- a step of an `as` line: an event of the model, or a restart with `--resume` -/
inductive ASStep
  | ev (e : AEvent)
  | resume

/-- the load `--resume` performs on file content `c` (inverse of `cfgBytes`); `none` when the
    content is not a config of this protocol -/
def loadOfContent (c : Bytes) : Option Load :=
  if c == str "null" then
    some { cfg := c, force := true, accepted := true, nonNil := false, persistCfg := true, allowPersist := true }
  else
    match (bytesToString c).toList.span Char.isDigit with
    | (num, p :: rest) =>
      if num.isEmpty || !isPersistFlag p || !rest.all isOtherFlag || !allDistinct rest || rest.contains 'f'
          || rest.contains 'z' then none else
      some { cfg := c, force := true
             accepted := !(rest.contains 'x' || rest.contains 'y' || rest.contains 'j')
             nonNil := true, persistCfg := p != 'n', allowPersist := true }
    | _ => none

def asOut (sty : Style) : List ASStep → AState → List String
  | [], _ => []
  | .ev e :: es, a => aEventOut sty e a :: asOut sty es (e.step sty a)
  | .resume :: es, a =>
    match resumeConfig a with
    | none => ("U:-[]" ++ fsName a.fs) :: asOut sty es (AEvent.restart.step sty a)
    | some c =>
      match loadOfContent c with
      | some l =>
        ("U:" ++ contentName (some c) ++ "=" ++ aEventOut sty (.load l none) (AEvent.restart.step sty a))
          :: asOut sty es ((AEvent.load l none).step sty (AEvent.restart.step sty a))
      | none => ("U:" ++ contentName (some c) ++ "=rej[]" ++ fsName a.fs) :: asOut sty es (AEvent.restart.step sty a)

def parseASStep (s : String) : Option ASStep :=
  if s == "U" then some .resume else (parseAEvent s).map .ev

/-- at most one fault per process life (between two `R`/`U`): the harness injects a single fault
    into a traced process -/
def oneFaultPerLife : List ASStep → Nat → Bool
  | [], _ => true
  | .resume :: es, _ => oneFaultPerLife es 0
  | .ev .restart :: es, _ => oneFaultPerLife es 0
  | .ev (.load _ none) :: es, n => oneFaultPerLife es n
  | .ev (.load _ (some _)) :: es, n => n == 0 && oneFaultPerLife es 1

def handleAS (hist : String) : String :=
  match (hist.splitOn ";").mapM parseASStep with
  | some evs =>
    if oneFaultPerLife evs 0 then " ".intercalate (asOut codeStyle evs ⟨none, ⟨none, none⟩⟩) else "bad-op"
  | none => "bad-op"

def parseFSEvent (now : Nat) (s : String) : Option FEvent :=
  match s.splitOn ":" with
  | [life, fault] =>
    match (if life == "s" then some 0 else if life == "l" then some longLife else none), parseFFault fault with
    | some lf, some ft => some ⟨⟨now, lf⟩, ft⟩
    | _, _ => none
  | _ => none

def parseFSEvents : List String → Nat → Option (List FEvent)
  | [], _ => some []
  | s :: ss, now => do
    let e ← parseFSEvent now s
    let es ← parseFSEvents ss (now + 1)
    pure (e :: es)

def handleFS (hist : String) : String :=
  match parseFSEvents (hist.splitOn ";") 1 with
  | some evs => render (sepBy (.s " ; ") (fsToks codeOrder evs FDisk.empty)) [] ""
  | none => "bad-op"

/-! ### resume through the command line -/

def parseEnvVal : String → Option EnvVal
  | "-" => some .unset | "e" => some .empty
  | "0" => some (.dir 0) | "1" => some (.dir 1) | "2" => some (.dir 2) | "3" => some (.dir 3)
  | _ => none

def parsePEnv (s : String) : Option (PEnv × Option EnvVal) :=
  match s.toList with
  | ['x', a, 'h', b] => do pure (⟨← parseEnvVal (String.singleton a), ← parseEnvVal (String.singleton b)⟩, none)
  | ['x', a, 'h', b, 'd', c] => do
    pure (⟨← parseEnvVal (String.singleton a), ← parseEnvVal (String.singleton b)⟩, some (← parseEnvVal (String.singleton c)))
  | _ => none

def parseAssign (s : String) : Option (EnvVar × EnvVal) :=
  match s.splitOn "=" with
  | [k, v] => do
    let var ← (match k with | "x" => some EnvVar.xdg | "h" => some .home | "o" => some .other | "d" => some .data | _ => none)
    let val ← parseEnvVal v
    if val = .unset then none else pure (var, val)
  | _ => none

def distinctVars : List (EnvVar × EnvVal) → Bool
  | [] => true
  | a :: as => !(as.any (·.1 == a.1)) && distinctVars as

def parseEnvFileSpec (s : String) : Option EnvFile :=
  if s == "_" then some [] else do
    let as ← (s.splitOn ",").mapM parseAssign
    if distinctVars as then pure as else none

def parseEnvFiles (s : String) : Option (List EnvFile) :=
  if s == "." then some [] else (s.splitOn "/").mapM parseEnvFileSpec

/-- a config token taken apart: <n><p|d|n>[x|k][i|u] -/
structure RSTok where
  num : List Char
  persist : Char
  fail : Bool
  pki : Bool
  id : Option Char
deriving DecidableEq

def RSTok.chars (t : RSTok) : List Char :=
  t.num ++ [t.persist] ++ (if t.fail then ['x'] else []) ++ (if t.pki then ['k'] else []) ++
    (match t.id with | some c => [c] | none => [])

def parseRSTok (cs : List Char) : Option RSTok :=
  match cs.span Char.isDigit with
  | (num, p :: rest) =>
    if num.isEmpty || !isPersistFlag p then none else
    match rest with
    | [] => some ⟨num, p, false, false, none⟩
    | ['x'] => some ⟨num, p, true, false, none⟩
    | ['k'] => some ⟨num, p, false, true, none⟩
    | ['i'] => some ⟨num, p, false, false, some 'i'⟩
    | ['u'] => some ⟨num, p, false, false, some 'u'⟩
    | ['x', 'i'] => some ⟨num, p, true, false, some 'i'⟩
    | ['x', 'u'] => some ⟨num, p, true, false, some 'u'⟩
    | ['k', 'i'] => some ⟨num, p, false, true, some 'i'⟩
    | ['k', 'u'] => some ⟨num, p, false, true, some 'u'⟩
    | _ => none
  | _ => none

def RSTok.load (force : Bool) (t : RSTok) : Load :=
  { cfg := str (String.ofList t.chars), force := force, accepted := !t.fail, nonNil := true,
    persistCfg := t.persist != 'n', allowPersist := true }

/-- cfg = <n><p|d|n>[x|k][i|u] -/
def parseRSCfg (force : Bool) (s : String) : Option Load := (parseRSTok s.toList).map (RSTok.load force)

inductive RSEvent
  | start (resume : Bool) (cfg : Load)
  | push (kind : String) (r : LoadReq)   -- POST /load: P no Cache-Control | F `must-revalidate` | G `no-cache, must-revalidate`
  | patch (byId : Bool) (t : RSTok)   -- PATCH /config/apps/c14probe | PATCH /id/a with the app object of `t`
  | kill

/-- a Caddyfile: c<n><d|n> — adapted by the real adapter; `n` = `persist_config off` -/
def parseRSCaddyfile (force : Bool) (s : String) : Option Load :=
  match s.toList with
  | 'c' :: rest =>
    match rest.span Char.isDigit with
    | (num, [p]) =>
      if num.isEmpty then none
      else if p == 'd' then some (caddyfileLoad (str (String.ofList ('c' :: rest))) .absent force true)
      else if p == 'n' then some (caddyfileLoad (str (String.ofList ('c' :: rest))) .off force true)
      else none
    | _ => none
  | _ => none

/-- the text of a pushed Caddyfile is NOT the document it adapts to: the request body of a pushed
    c-config is `caddyfile:<token>`, the adapted document is `<token>` -/
def caddyfileMark : Bytes := str "caddyfile:"

/-- the request of a P / F / G event: a JSON token goes out as `application/json`, a Caddyfile
    c<n><d|n|b> (b = a Caddyfile the adapter refuses) as `text/caddyfile` -/
def parseRSPush (cache : CacheControl) (c : String) : Option LoadReq :=
  match parseRSTok c.toList with
  | some _ => some ⟨true, .json, cache, str c⟩
  | none =>
    match c.toList with
    | 'c' :: rest =>
      match rest.span Char.isDigit with
      | (num, [p]) =>
        if num.isEmpty || !(p == 'd' || p == 'n' || p == 'b') then none
        else some ⟨true, .adapter true, cache, caddyfileMark ++ str c⟩
      | _ => none
    | _ => none

/-- the Caddyfile adapter on a pushed body: the document named by the token, or an error -/
def rsAdapt (b : Bytes) : Option Bytes :=
  if caddyfileMark.isPrefixOf b then
    match parseRSCaddyfile false (bytesToString (b.drop caddyfileMark.length)) with
    | some _ => some (b.drop caddyfileMark.length)
    | none => none
  else none

def parseRSEvent (s : String) : Option RSEvent :=
  match s.splitOn ":" with
  | ["K"] => some .kill
  | ["P", c] => (parseRSPush .absent c).map (.push "P")
  | ["F", c] => (parseRSPush .mustRevalidate c).map (.push "F")
  | ["G", c] => (parseRSPush .other c).map (.push "G")
  | ["M", c] => (parseRSPush .absent c).map fun r => .push "M" { r with post := false }
  | ["X", c] => (parseRSPush .absent c).map fun r => .push "X" { r with ctype := .adapter false }
  | ["Y", c] => (parseRSPush .mustRevalidate c).map fun r => .push "Y" { r with ctype := .malformed }
  | ["Q", c] => match parseRSTok c.toList with
    | some t => if t.pki then none else some (.patch false t)
    | none => none
  | ["I", c] => match parseRSTok c.toList with
    | some t => if t.pki then none else some (.patch true t)
    | none => none
  | ["S", r, c] =>
    if r != "r" && r != "-" then none else
    match parseRSCfg true c with
    | some l => if l.accepted then some (.start (r == "r") l) else none
    | none => (parseRSCaddyfile true c).map (.start (r == "r"))
  | _ => none

/-- does the config (its bytes are its token) carry the pki app? -/
def hasPKI (cfg : Bytes) : Bool :=
  match parseRSTok (bytesToString cfg).toList with
  | some t => t.pki
  | none => false

structure RSWorld where
  disk : CDisk
  roots : DataDir → Option Nat
  nroots : Nat
  run : Option AState

def rootName : Option Nat → String
  | none => "-"
  | some r => toString r

def rsState (pki : Bool) (w : RSWorld) (e : PEnv) (data : Option EnvVal) (files : List EnvFile) : String :=
  "{a=" ++ contentName (w.disk (writerDir e files)).path ++ ",b=" ++ contentName (w.disk (appConfigDir e)).path
    ++ (if pki then ",ra=" ++ rootName (w.roots (storageDir data e files)) ++ ",rb=" ++ rootName (w.roots (appDataDir data e)) else "")
    ++ "}"

/-- resumed bytes are loaded with forceReload; bytes that are not a config of this protocol are
    not loadable -/
def rsAsLoad (b : Bytes) : Load :=
  match parseRSTok (bytesToString b).toList with
  | some t => t.load true
  | none =>
    match parseRSCaddyfile true (bytesToString b) with
    | some l => l
    | none =>
    match loadOfContent b with
    | some l => l
    | none => { cfg := b, force := true, accepted := false, nonNil := true, persistCfg := true, allowPersist := true }

/-- what `caddy.Load(b, force)` means for a document of this protocol -/
def rsMk (b : Bytes) (force : Bool) : Load :=
  match parseRSTok (bytesToString b).toList with
  | some t => t.load force
  | none =>
    match parseRSCaddyfile force (bytesToString b) with
    | some l => l
    | none => { cfg := b, force := force, accepted := false, nonNil := true, persistCfg := true, allowPersist := true }

/-- the document a sub-path write produces: the app object of `t` inside the running document
    (persistence flag and pki app stay); `none`: the request is refused (no running document of this
    protocol, or `/id/a` does not address the app) -/
def patchedTok (byId : Bool) (t : RSTok) (cur : Option Bytes) : Option RSTok :=
  match cur.bind fun c => parseRSTok (bytesToString c).toList with
  | some r => if byId && r.id != some 'i' then none else some { t with persist := r.persist, pki := r.pki }
  | none => none

/-- a config with the pki app came up: its root is the stored one of the data directory, else new -/
def withRoot (w : RSWorld) (cfg : Bytes) (dir : DataDir) : RSWorld × String :=
  if hasPKI cfg then
    ({ w with roots := (useRoot w.roots dir w.nroots).2
              nroots := if (w.roots dir).isSome then w.nroots else w.nroots + 1 },
     "/r" ++ toString (useRoot w.roots dir w.nroots).1)
  else (w, "")

/-- the world right after the load `l` of the running process `a` returned (roots not yet looked at) -/
def rsLoaded (e : PEnv) (files : List EnvFile) (l : Load) (a : AState) (w : RSWorld) : RSWorld :=
  ⟨w.disk.set (writerDir e files) (loadStep codeStyle l none a).st.fs, w.roots, w.nroots,
   some (loadStep codeStyle l none a).st⟩

/-- one pushed load on the running process `a`: the answer without its kind letter, and the world after -/
def rsPushStep (pki : Bool) (e : PEnv) (data : Option EnvVal) (files : List EnvFile) (l : Load) (a : AState)
    (w : RSWorld) : String × RSWorld :=
  if (loadStep codeStyle l none a).res == .rejected then ("=rej" ++ rsState pki w e data files, w)
  else
    ("=ok" ++ (if (loadStep codeStyle l none a).log.isEmpty then "" else "!") ++ (withRoot (rsLoaded e files l a w)
                  (if (loadStep codeStyle l none a).res == .same then [] else l.cfg) (storageDir data e files)).2
      ++ (if (loadStep codeStyle l none a).res == .same && hasPKI l.cfg then
            "/r" ++ rootName (w.roots (storageDir data e files)) else "")
      ++ rsState pki (withRoot (rsLoaded e files l a w)
                  (if (loadStep codeStyle l none a).res == .same then [] else l.cfg) (storageDir data e files)).1 e data files,
     (withRoot (rsLoaded e files l a w)
        (if (loadStep codeStyle l none a).res == .same then [] else l.cfg) (storageDir data e files)).1)

def rsOut (pki : Bool) (e : PEnv) (data : Option EnvVal) (files : List EnvFile) : List RSEvent → RSWorld → List String
  | [], _ => []
  | .kill :: evs, w => ("K" ++ rsState pki w e data files) :: rsOut pki e data files evs { w with run := none }
  | .push k r :: evs, w =>
    match w.run with
    | none => (k ++ "=norun" ++ rsState pki w e data files) :: rsOut pki e data files evs w
    | some a =>
      match handleLoad rsAdapt rsMk r with
      | .load l => (k ++ (rsPushStep pki e data files l a w).1) :: rsOut pki e data files evs (rsPushStep pki e data files l a w).2
      | _ => (k ++ "=rej" ++ rsState pki w e data files) :: rsOut pki e data files evs w
  | .patch byId t :: evs, w =>
    match w.run with
    | none => ((if byId then "I" else "Q") ++ "=norun" ++ rsState pki w e data files) :: rsOut pki e data files evs w
    | some a =>
      match patchedTok byId t a.cur with
      | none => ((if byId then "I" else "Q") ++ "=rej" ++ rsState pki w e data files) :: rsOut pki e data files evs w
      | some t' =>
        ((if byId then "I" else "Q") ++ (rsPushStep pki e data files (t'.load false) a w).1) ::
          rsOut pki e data files evs (rsPushStep pki e data files (t'.load false) a w).2
  | .start r cfg :: evs, w =>
    if (firstLoad codeReadAt rsAsLoad ⟨e, files, r, cfg⟩ w.disk).accepted then
      ("S=" ++ bytesToString (firstLoad codeReadAt rsAsLoad ⟨e, files, r, cfg⟩ w.disk).cfg
          ++ (withRoot { w with disk := processRun codeReadAt rsAsLoad ⟨e, files, r, cfg⟩ [] w.disk }
                (firstLoad codeReadAt rsAsLoad ⟨e, files, r, cfg⟩ w.disk).cfg (storageDir data e files)).2
          ++ rsState pki (withRoot { w with disk := processRun codeReadAt rsAsLoad ⟨e, files, r, cfg⟩ [] w.disk }
                (firstLoad codeReadAt rsAsLoad ⟨e, files, r, cfg⟩ w.disk).cfg (storageDir data e files)).1 e data files) ::
        rsOut pki e data files evs
          { (withRoot { w with disk := processRun codeReadAt rsAsLoad ⟨e, files, r, cfg⟩ [] w.disk }
                (firstLoad codeReadAt rsAsLoad ⟨e, files, r, cfg⟩ w.disk).cfg (storageDir data e files)).1 with
            run := some (loadStep codeStyle (firstLoad codeReadAt rsAsLoad ⟨e, files, r, cfg⟩ w.disk) none
                          ⟨none, w.disk (writerDir e files)⟩).st }
    else ("S=fail" ++ rsState pki w e data files) :: rsOut pki e data files evs { w with run := none }

def rsUsesPKI : List RSEvent → Bool
  | [] => false
  | .start _ l :: es => hasPKI l.cfg || rsUsesPKI es
  | .push _ r :: es => hasPKI r.body || rsUsesPKI es
  | .patch _ _ :: es => rsUsesPKI es
  | .kill :: es => rsUsesPKI es

def handleRS (env files evs : String) : String :=
  match parsePEnv env, parseEnvFiles files, (evs.splitOn ";").mapM parseRSEvent with
  | some (e, data), some fs, some es =>
    " ".intercalate (rsOut (rsUsesPKI es) e data fs es ⟨CDisk.empty, fun _ => none, 0, none⟩)
  | _, _, _ => "bad-op"

def handle : List String → String
  | ["ca", hist] => handleCA hist
  | ["fs", hist] => handleFS hist
  | ["cs", hist] => handleCS hist
  | ["rs", env, files, evs] => handleRS env files evs
  | ["as", hist] => handleAS hist
  | _ => "bad-op"

/-- counter-example lines replayed on the implementation first on every run: none.  F10, F11 and
    the unchecked intermediate pair are repaired in the tree; `Witness.lean` proves that the old
    revisions violate the property, and corpus/C14/*.txt keeps their failing histories as
    regression cases (replayed first on every run, through model and implementation). -/
def witnessLines : List String := []

end CaddyModel.C14
