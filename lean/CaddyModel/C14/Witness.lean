/-
C14 — the operation orders the tree USED to have, and variants it never had, violate the property (so the theorems of
Props.lean are not vacuous: they depend on the order the model takes from the code, and that
order is compared with the observed one on every run).

F10 (fixed by e2c52cb): certificate stored before key  → one crash bricks the CA for good.
F11 (fixed by 5246ab3): autosave written in place       → the file is empty / partial at some instant.

Plus what the pair check of `loadOrGenIntermediate` is needed for (order `keyFirstUnchecked`, the
revision before it): after an interrupted renewal `Provision` alone returned a mismatched
intermediate pair, and with renewals at run time the next start-up ended inconsistent.
Plus the variants of FileStorage, of the autosave and of `--resume` that violate their theorems.
-/
import CaddyModel.C14.Lemmas
import CaddyModel.C14.FileStore
import CaddyModel.C14.AutosaveLemmas
import CaddyModel.C14.Resume

namespace CaddyModel.C14

def Res.value? : Res α → Option α
  | .ok a _ => some a
  | _ => none

theorem startup_fails_without_root_key (ord : Order) (c : Cfg) (d : Disk) (p sg ra : Nat)
    (h1 : d.store .rootCrt = some (.cert p sg ra)) (h2 : d.store .rootKey = none) :
    ∃ y, (Event.mk c none).run ord d = .err .loadRootKey y := by
  have hw : wpn (fun e _ _ => e = .loadRootKey) (startup ord c) (fun _ _ _ => False) d.store d.fresh := by
    rw [wpn_startup_phases, wpn_provision_phases]
    simp only [loadOrGenRoot, wpn, h1, h2]
  show ∃ y, exec none (startup ord c) (boot d) = .err .loadRootKey y
  match exec none (startup ord c) (boot d), wpn_sound (startup ord c) _ (boot d) hw with
  | .err _ y, rfl => exact ⟨y, rfl⟩
  | .ok _ _, h => exact h.elim
  | .crash _, h => exact h.elim

/-- the interruption of F10: the creation dies right after its first write -/
def f10 : Event := ⟨⟨1, 100⟩, some ⟨2, .crashAfter⟩⟩

/-- **recovery fails for the old order** (`⊬ recovery` of DESIGN §4, F10): with the
    certificate stored first, ONE crash after the first write leaves a store on which every
    later start-up fails — after any further history, forever. -/
theorem recovery_old_order_fails :
    ∀ (evs : List Event) (c : Cfg),
      ∃ y, (Event.mk c none).run .certFirst (runHist .certFirst (f10 :: evs) Disk.empty) = .err .loadRootKey y := by
  intro evs c
  have h0 : (f10.after .certFirst Disk.empty).store .rootCrt = some (.cert 0 0 (1 + rootLife)) ∧
      (f10.after .certFirst Disk.empty).store .rootKey = none := by decide
  have hfr := root_frozen .certFirst evs (f10.after .certFirst Disk.empty) h0
  exact startup_fails_without_root_key .certFirst c _ 0 0 (1 + rootLife) hfr.1 hfr.2

/-- **autosave_always_complete fails for in-place writing** (`⊬ autosave_always_complete`,
    F11): config `[1]` is saved; the load of `[2,2]` truncates the file and writes — at two
    instants the autosave file is neither absent nor a complete accepted config. -/
theorem autosave_old_style_fails :
    ∃ (evs : List AEvent) (a : AState) (A : List Bytes), Good A a.fs ∧
      ∃ x ∈ seenHist .inPlace evs a, ¬ Good (A ++ acceptedIn .inPlace evs a) x :=
  ⟨[.load (exLoad [2, 2] true true) none], ⟨some [1], ⟨some [1], none⟩⟩, [[1]], by decide, by decide⟩

/-- which instants: the empty file and the half-written one -/
example : (seenHist .inPlace [.load (exLoad [2, 2] true true) none] ⟨some [1], ⟨some [1], none⟩⟩).map (·.path)
    = [some [1], some [], some [], some [2], some [2, 2], some [2, 2], some [2, 2]] := by decide +kernel

def AEvent.faultFree : AEvent → Prop
  | .load _ ft => ft = none
  | .restart => True

/-- with an O_EXCL temp file, once a temp file exists nothing is ever saved again: no load of
    any later history, in any later process, changes either file -/
theorem autosave_excl_wedged : ∀ (evs : List AEvent) (a : AState), a.fs.tmp.isSome = true →
    (∀ e ∈ evs, e.faultFree) → (runLoads .tmpExcl evs a).fs = a.fs
  | [], _, _, _ => rfl
  | e :: es, a, h, hf => by
    have hstep : (e.step .tmpExcl a).fs = a.fs := by
      cases e with
      | restart => rfl
      | load l ft =>
        cases (hf _ (List.mem_cons_self ..) : ft = none)
        rcases loadStep_cases l a with hn | ⟨hs, hacc, hp⟩
        · exact (loadStep_noop hn).2.1
        · -- `creatExcl` on the temp file that exists is refused, nothing else is attempted
          rw [AEvent.step, (loadStep_persisted hs hacc hp).2.2.1]
          simp [autosaveOps, runOps, ffires, FOp.refused, h]
    exact (autosave_excl_wedged es _ (hstep ▸ h) fun e he => hf e (List.mem_cons_of_mem _ he)).trans hstep

/-- **autosave_recovers_after_interrupted_autosave fails for an O_EXCL temp file.**  `[1]` is
    saved; the autosave of `[2]` is killed between creating the temp file and writing it; from then
    on, through any fault-free history and for every later load, the autosave file stays `[1]`:
    `--resume` comes back with an outdated config. -/
theorem autosave_excl_fails :
    ∀ (evs : List AEvent), (∀ e ∈ evs, e.faultFree) → ∀ (l : Load),
      resumeConfig (runLoads .tmpExcl
        (.load (exLoad [2] true true) (some ⟨2, .killBefore⟩) :: .restart :: (evs ++ [.load l none]))
        ⟨none, ⟨some [1], none⟩⟩) = some [1] := by
  intro evs hf l
  simp only [runLoads, resumeConfig]
  have h0 : ((AEvent.restart).step .tmpExcl ((AEvent.load (exLoad [2] true true) (some ⟨2, .killBefore⟩)).step .tmpExcl
      ⟨none, ⟨some [1], none⟩⟩)) = ⟨none, ⟨some [1], some []⟩⟩ := by decide
  rw [h0, autosave_excl_wedged (evs ++ [.load l none]) ⟨none, ⟨some [1], some []⟩⟩ rfl
    (List.forall_mem_append.mpr ⟨hf, fun _ he => by cases List.mem_singleton.mp he; rfl⟩)]

/-- the same history under the current code ends with the new config (instance of
    `autosave_recovers_after_interrupted_autosave`, evaluated) -/
example : resumeConfig (runLoads codeStyle
      [.load (exLoad [2] true true) (some ⟨2, .killBefore⟩), .restart, .load (exLoad [3] true true) none]
      ⟨none, ⟨some [1], none⟩⟩) = some [3] := by decide

/-- **what the pair check is needed for, 1.**  The revision before the check (`keyFirstUnchecked`),
    intermediate lifetime 0: start-up 2 dies after writing the new intermediate key (operation 7).
    `Provision` of start-up 3 then returned certificate 2 with key 3 — a mismatched pair that was
    live until `Start`'s renewal replaced it. -/
theorem provision_alone_after_interrupted_renewal_mismatched_old_code :
    ∃ (evs : List Event) (c : Cfg) (m : Mem), Monotone 0 evs ∧ lastTime 0 evs ≤ c.now ∧
      (exec none (provision .keyFirstUnchecked c) (boot (runHist .keyFirstUnchecked evs Disk.empty))).value? = some m ∧
      m.inter.keyId ≠ m.inter.pub :=
  ⟨[⟨⟨1, 0⟩, none⟩, ⟨⟨2, 0⟩, some ⟨7, .crashAfter⟩⟩], ⟨3, 50⟩, ⟨⟨0, 0, 1 + rootLife, 0⟩, ⟨2, 0, 1, 3⟩⟩,
    by decide +kernel, by decide +kernel, by decide +kernel, by decide +kernel⟩

/-- the same history under the current code: `Provision` detects the foreign key and returns a
    fresh, matching pair -/
example : (exec none (provision codeOrder ⟨3, 50⟩)
      (boot (runHist codeOrder [⟨⟨1, 0⟩, none⟩, ⟨⟨2, 0⟩, some ⟨7, .crashAfter⟩⟩] Disk.empty))).value?
    = some ⟨⟨0, 0, 1 + rootLife, 0⟩, ⟨4, 0, 53, 4⟩⟩ := by decide +kernel

/-- start-up 1 (lifetime 0) leaves a chain whose intermediate is due; start-up 2 (lifetime 100)
    renews it in `Start`: the new key is written, the write of the new certificate REPORTS AN
    ERROR AFTER TAKING EFFECT (operation 8) — the error is logged, the process keeps running with
    the old pair in memory while storage holds the new pair; its maintenance pass at time 3
    finds the in-memory certificate due, renews AGAIN and dies right after writing the key
    (operation 3 of the pass) -/
def runtimeWitness : List Step :=
  [.start ⟨⟨1, 0⟩, none⟩, .start ⟨⟨2, 100⟩, some ⟨8, .failAfter⟩⟩, .tick 3 (some ⟨3, .crashAfter⟩)]

/-- **what the pair check is needed for, 2: recovery_with_runtime_renewal failed for the old
    code.**  After `runtimeWitness` storage holds certificate 3 — valid until 102, not due — next
    to key 4.  Before the check, the next uninterrupted start-up SUCCEEDED, loaded that pair, did
    not renew (nothing is due), and held an intermediate key that does not belong to its
    certificate (known_findings.jsonl: ca-unsynced-runtime-renewal-after-reported-failed-cert-write; the
    history is replayed on the real code from corpus/C14/runtime-renewal.txt). -/
theorem recovery_with_runtime_renewal_old_code_fails :
    ∃ (sts : List Step) (c : Cfg) (m : Mem), StepsMonotone 0 sts ∧ lastStepTime 0 sts ≤ c.now ∧
      ((Event.mk c none).run .keyFirstUnchecked (runSteps .keyFirstUnchecked sts World.empty).disk).value? = some m ∧
      ¬ m.Consistent :=
  ⟨runtimeWitness, ⟨4, 100⟩, ⟨⟨0, 0, 1 + rootLife, 0⟩, ⟨3, 0, 102, 4⟩⟩,
    by decide +kernel, by decide +kernel, by decide +kernel, by decide +kernel⟩

/-- the same history under the current code ends with a fresh, consistent intermediate -/
example : ((Event.mk ⟨4, 100⟩ none).run codeOrder (runSteps codeOrder runtimeWitness World.empty).disk).value?
    = some ⟨⟨0, 0, 1 + rootLife, 0⟩, ⟨5, 0, 104, 5⟩⟩ := by decide +kernel

/-- **fileStore_atomic fails for in-place writing**: truncate-then-write of `root.crt`, the write
    torn after 3 bytes — the key file holds a torn value, which `Load` would hand to the PEM
    decoder (every later start-up: "parsing root certificate PEM") -/
theorem inPlace_store_not_atomic :
    ∃ (ff : Option FFault) (k : Key) (b : Blob),
      (runDOps ff (inPlaceStoreOps k b) 0 Dir.empty).dir.keys k = some (.part b 3) ∧
      ¬ KeysWhole (runDOps ff (inPlaceStoreOps k b) 0 Dir.empty).dir := by
  refine ⟨some ⟨2, .killTorn 3⟩, .rootCrt, .cert 0 0 0, by decide, ?_⟩
  intro h
  obtain ⟨b, hb⟩ := h .rootCrt (.part (.cert 0 0 0) 3) (by decide)
  cases hb

/-- HOME is /1, the env file defines XDG_CONFIG_HOME=/2; `--config` holds `[1]` -/
def resumeWitness : CmdLine := ⟨⟨.unset, .dir 1⟩, [[(.xdg, .dir 2)]], true, exLoad [1] true true⟩

/-- **resume_recovers_latest_push fails for a reader that copies `caddy.ConfigAutosavePath` before
    `handleEnvFileFlag`** (seeded mutant C14-resume-reads-autosave-path-before-envfile): the first
    process autosaves the pushed config `[2]` into $XDG_CONFIG_HOME/caddy; the restarted process
    looks into $HOME/.config/caddy, finds nothing, loads `--config` `[1]` — and its own autosave
    then OVERWRITES the pushed config. -/
theorem resume_before_envfiles_fails :
    (processRun .beforeEnvFiles (fun b => exLoad b true true) resumeWitness [.load (exLoad [2] true true) none]
        CDisk.empty (.xdg 2)).path = some [2] ∧
    (firstLoad .beforeEnvFiles (fun b => exLoad b true true) resumeWitness
      (processRun .beforeEnvFiles (fun b => exLoad b true true) resumeWitness [.load (exLoad [2] true true) none]
        CDisk.empty)).cfg = [1] ∧
    (processRun .beforeEnvFiles (fun b => exLoad b true true) resumeWitness []
      (processRun .beforeEnvFiles (fun b => exLoad b true true) resumeWitness [.load (exLoad [2] true true) none]
        CDisk.empty) (.xdg 2)).path = some [1] := by decide

/-- the same history under the current code resumes with `[2]` -/
example : (firstLoad codeReadAt (fun b => exLoad b true true) resumeWitness
      (processRun codeReadAt (fun b => exLoad b true true) resumeWitness [.load (exLoad [2] true true) none]
        CDisk.empty)).cfg = [2] := by decide

/-- `changeConfig` with a shortcut in front of `unsyncedDecodeAndRun`: a non-forced push whose
    document equals the running one after `strip` adopts the new bytes as the running document and
    returns success — no reload, hence no autosave (seeded mutant C14-id-only-push-skips-autosave) -/
def loadStepIdShortcut (strip : Bytes → Bytes) (l : Load) (ft : Option FFault) (a : AState) : LoadOut :=
  if !l.force && (a.cur.map strip == some (strip l.cfg)) then ⟨.ok, { a with cur := some l.cfg }, [], [a.fs]⟩
  else loadStep codeStyle l ft a

/-- documents are a body byte followed by an id byte; `strip` drops the id -/
def stripLast (b : Bytes) : Bytes := b.dropLast

/-- **autosave_exact_document fails with the shortcut**: `[7, 1]` (body 7, id 1) is running and
    saved; `[7, 2]` (the id renamed) is pushed: success is returned, the running document is
    `[7, 2]`, the autosave file still holds `[7, 1]` — which is what `--resume` would bring back. -/
theorem autosave_id_shortcut_fails :
    (loadStepIdShortcut stripLast (exLoad [7, 2] true true) none ⟨some [7, 1], ⟨some [7, 1], none⟩⟩).res = .ok ∧
    (loadStepIdShortcut stripLast (exLoad [7, 2] true true) none ⟨some [7, 1], ⟨some [7, 1], none⟩⟩).st.cur = some [7, 2] ∧
    resumeConfig (loadStepIdShortcut stripLast (exLoad [7, 2] true true) none ⟨some [7, 1], ⟨some [7, 1], none⟩⟩).st
      = some [7, 1] := by decide

/-- the code as it is saves `[7, 2]` -/
example : resumeConfig (loadStep codeStyle (exLoad [7, 2] true true) none ⟨some [7, 1], ⟨some [7, 1], none⟩⟩).st
    = some [7, 2] := by decide

end CaddyModel.C14
