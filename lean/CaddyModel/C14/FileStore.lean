/-
C14 — certmagic.FileStorage under the storage interface of Model.lean.

`(*FileStorage).Store` (certmagic filestorage.go + internal/atomicfile) is NOT one operation:

    MkdirAll(dir)                                   (the directory exists in every case here)
    f := os.CreateTemp(dir, "")                     a fresh random name IN THE KEY'S DIRECTORY
    f.Chmod(0600)                                   on error: return it (the temp file stays)
    f.Write(value)                                  on error: Cancel = close, remove temp
    f.Sync(); f.Close(); os.Rename(temp, filename)  on error of any: remove temp, return it

`(*FileStorage).Load` is `os.ReadFile(filename)`.

A directory is the key files plus the temp files; a file's content is a whole value, a torn
prefix of one, or empty.  `execFS` runs the SAME programs as `exec` (Model.lean) but every
`store` goes through the six file operations above, and the injected fault — process killed or
operation fails, before / after / in the middle of its effect — hits ONE FILE OPERATION.
`view` is what the storage interface shows of a directory.  FileStoreLemmas.lean proves that under any such fault a
`Store` changes `view` at its key wholly or not at all (`fileStore_atomic`) and that the calculus of Calculus.lean is
sound for `execFS` (`wp_sound_fs`, `wpn_sound_fs`), so every CA theorem obtained through the calculus can be read on the
real write protocol: this is where the assumption "a Store is atomic per key" is discharged for this storage.
-/
import CaddyModel.C14.Model

namespace CaddyModel.C14

/-- what a file holds -/
inductive FContent
  | empty
  | part (b : Blob) (n : Nat)   -- the first `n` bytes of the encoding of `b`, not all of them
  | whole (b : Blob)
deriving DecidableEq, Repr

structure Dir where
  keys : Key → Option FContent    -- <root>/pki/authorities/<id>/{root,intermediate}.{crt,key}
  tmps : Nat → Option FContent    -- the files `os.CreateTemp` made in that directory
  nextTmp : Nat                   -- names already used (CreateTemp retries until the name is free)

def Dir.empty : Dir := ⟨fun _ => none, fun _ => none, 0⟩

/-- what `Load` returns for a key file -/
def contentBlob : Option FContent → Option Blob
  | some (.whole b) => some b
  | _ => none

/-- the storage-interface view of a directory -/
def view (d : Dir) : Store := fun k => contentBlob (d.keys k)

/-- every key file holds a whole value (what makes `view` faithful: `Load` never sees a torn file) -/
def KeysWhole (d : Dir) : Prop := ∀ k c, d.keys k = some c → ∃ b, c = .whole b

inductive DOp
  | creatTemp (n : Nat)            -- openat(dir/<random>, O_RDWR|O_CREAT|O_EXCL)
  | chmod (n : Nat)                -- fchmod
  | write (n : Nat) (b : Blob)     -- write(fd, PEM)
  | sync (n : Nat)                 -- fsync
  | close (n : Nat)
  | rename (n : Nat) (k : Key)     -- renameat(temp, key file)
  | remove (n : Nat)               -- unlinkat(temp): the clean-up after a reported error
  | read (k : Key)                 -- os.ReadFile(key file) (its openat); changes nothing
  | writeKey (k : Key) (b : Blob)  -- NOT in FileStorage: a storage that writes the key file in place
  | truncKey (k : Key)             --   (open O_TRUNC, then write) — see `inPlace_store_not_atomic`
deriving DecidableEq, Repr

def Dir.setTmp (d : Dir) (n : Nat) (c : Option FContent) : Dir :=
  { d with tmps := fun n' => if n' = n then c else d.tmps n' }

def Dir.setKey (d : Dir) (k : Key) (c : Option FContent) : Dir :=
  { d with keys := fun k' => if k' = k then c else d.keys k' }

def DOp.apply : DOp → Dir → Dir
  | .creatTemp n, d => { (d.setTmp n (some .empty)) with nextTmp := d.nextTmp + 1 }
  | .chmod _, d => d
  | .write n b, d => d.setTmp n (some (.whole b))
  | .sync _, d => d
  | .close _, d => d
  | .rename n k, d => (d.setKey k (d.tmps n)).setTmp n none
  | .remove n, d => d.setTmp n none
  | .read _, d => d
  | .writeKey k b, d => d.setKey k (some (.whole b))
  | .truncKey k, d => d.setKey k (some .empty)

/-- the operation interrupted in the middle: only a write has a middle -/
def DOp.torn (m : Nat) : DOp → Dir → Dir
  | .write n b, d => d.setTmp n (some (.part b m))
  | .writeKey k b, d => d.setKey k (some (.part b m))
  | _, d => d

/-- the six operations of `FileStorage.Store` with temp name `n` -/
def fileStoreOps (n : Nat) (k : Key) (b : Blob) : List DOp :=
  [.creatTemp n, .chmod n, .write n b, .sync n, .close n, .rename n k]

/-- what the code does when an operation reports an error -/
def DOp.cleanup : DOp → List DOp
  | .creatTemp _ => []          -- nothing was created (as far as the code knows)
  | .chmod _ => []              -- atomicfile.newFile returns the error; the temp file stays
  | .write n _ => [.close n, .remove n]   -- Cancel(): close, then remove
  | .sync n => [.remove n]      -- (the descriptor is not closed on this path)
  | .close n => [.remove n]
  | .rename n _ => [.remove n]
  | _ => []

structure DOut where
  dir : Dir
  status : Status
  log : List DOp      -- operations attempted, clean-up included
  nops : Nat          -- the operation counter afterwards

/-- run file operations in order from counter `i`; the first reported error abandons the rest
    and runs the clean-up; a kill ends everything -/
def runDOps (ff : Option FFault) : List DOp → Nat → Dir → DOut
  | [], i, d => ⟨d, .done, [], i⟩
  | op :: rest, i, d =>
    match ffires ff i with
    | none =>
      ⟨(runDOps ff rest (i + 1) (op.apply d)).dir, (runDOps ff rest (i + 1) (op.apply d)).status,
       op :: (runDOps ff rest (i + 1) (op.apply d)).log, (runDOps ff rest (i + 1) (op.apply d)).nops⟩
    | some .killBefore => ⟨d, .killed, [op], i + 1⟩
    | some .killAfter => ⟨op.apply d, .killed, [op], i + 1⟩
    | some (.killTorn m) => ⟨op.torn m d, .killed, [op], i + 1⟩
    | some .failBefore => ⟨op.cleanup.foldl (fun d' c => c.apply d') d, .failed, op :: op.cleanup, i + 1 + op.cleanup.length⟩
    | some .failAfter =>
      ⟨op.cleanup.foldl (fun d' c => c.apply d') (op.apply d), .failed, op :: op.cleanup, i + 1 + op.cleanup.length⟩
    | some (.failTorn m) =>
      ⟨op.cleanup.foldl (fun d' c => c.apply d') (op.torn m d), .failed, op :: op.cleanup, i + 1 + op.cleanup.length⟩

/-- one process talking to a directory -/
structure FSys where
  dir : Dir
  fresh : Nat
  nops : Nat
  log : List DOp

inductive FRes (α : Type)
  | ok (a : α) (y : FSys)
  | err (e : Err) (y : FSys)
  | crash (y : FSys)

def FRes.sys : FRes α → FSys
  | .ok _ y => y
  | .err _ y => y
  | .crash y => y

/-- `os.ReadFile(key file)` as one operation (its `openat`); it changes nothing -/
inductive ReadOut
  | value (v : Option Blob)
  | failed
  | killed

def loadFile (ff : Option FFault) (k : Key) (y : FSys) : ReadOut :=
  match ffires ff y.nops with
  | none => .value (view y.dir k)
  | some .killBefore => .killed
  | some .killAfter => .killed
  | some (.killTorn _) => .killed
  | _ => .failed

/-- the programs of Model.lean on a directory through FileStorage -/
def execFS (ff : Option FFault) : Prog α → FSys → FRes α
  | .ret a, y => .ok a y
  | .fail e, y => .err e y
  | .load k onErr cont, y =>
    match loadFile ff k y with
    | .value v => execFS ff (cont v) { y with nops := y.nops + 1, log := y.log ++ [.read k] }
    | .failed => execFS ff onErr { y with nops := y.nops + 1, log := y.log ++ [.read k] }
    | .killed => .crash { y with nops := y.nops + 1, log := y.log ++ [.read k] }
  | .store k b onErr cont, y =>
    match (runDOps ff (fileStoreOps y.dir.nextTmp k b) y.nops y.dir).status with
    | .done =>
      execFS ff cont
        { y with dir := (runDOps ff (fileStoreOps y.dir.nextTmp k b) y.nops y.dir).dir
                 nops := (runDOps ff (fileStoreOps y.dir.nextTmp k b) y.nops y.dir).nops
                 log := y.log ++ (runDOps ff (fileStoreOps y.dir.nextTmp k b) y.nops y.dir).log }
    | .failed =>
      execFS ff onErr
        { y with dir := (runDOps ff (fileStoreOps y.dir.nextTmp k b) y.nops y.dir).dir
                 nops := (runDOps ff (fileStoreOps y.dir.nextTmp k b) y.nops y.dir).nops
                 log := y.log ++ (runDOps ff (fileStoreOps y.dir.nextTmp k b) y.nops y.dir).log }
    | .killed =>
      .crash
        { y with dir := (runDOps ff (fileStoreOps y.dir.nextTmp k b) y.nops y.dir).dir
                 nops := (runDOps ff (fileStoreOps y.dir.nextTmp k b) y.nops y.dir).nops
                 log := y.log ++ (runDOps ff (fileStoreOps y.dir.nextTmp k b) y.nops y.dir).log }
  | .fresh cont, y => execFS ff (cont y.fresh) { y with fresh := y.fresh + 1 }

/-- what survives a process: the directory (and the ghost key counter) -/
structure FDisk where
  dir : Dir
  fresh : Nat

def FDisk.empty : FDisk := ⟨Dir.empty, 0⟩

def bootFS (d : FDisk) : FSys := ⟨d.dir, d.fresh, 0, []⟩

/-- a start-up over FileStorage with at most one fault at one FILE operation -/
structure FEvent where
  cfg : Cfg
  fault : Option FFault
deriving DecidableEq, Repr

def FEvent.run (ord : Order) (e : FEvent) (d : FDisk) : FRes Mem := execFS e.fault (startup ord e.cfg) (bootFS d)

def FEvent.after (ord : Order) (e : FEvent) (d : FDisk) : FDisk :=
  ⟨(e.run ord d).sys.dir, (e.run ord d).sys.fresh⟩

def runFSHist (ord : Order) : List FEvent → FDisk → FDisk
  | [], d => d
  | e :: es, d => runFSHist ord es (e.after ord d)

/-- NOT FileStorage: a storage that writes the key file in place (truncate, write) -/
def inPlaceStoreOps (k : Key) (b : Blob) : List DOp := [.truncKey k, .writeKey k b]

end CaddyModel.C14
