/-
C14 — config autosave: helper lemmas.

`runOps_then_rename`: any list of temp-file operations, then the rename over the autosave file, with a fault of
any kind at any of them — at every instant the autosave file is what it was, or what the temp file held when the
whole list had run.  `loadStep` is used through the equations of its four branches and `loadStep_cases`; everything
about histories (`seenHist`, `runLoads`) is proved from those; `endpointStep_load` reduces a `POST /load` that reaches
`caddy.Load` to `loadStep`.
-/
import CaddyModel.C14.Spec
import CaddyModel.C14.Endpoint

namespace CaddyModel.C14

@[simp] theorem FS.set_tmp_path (fs : FS) (c : Option Bytes) : (fs.set .tmp c).path = fs.path := rfl
@[simp] theorem FS.set_path_path (fs : FS) (c : Option Bytes) : (fs.set .path c).path = c := rfl
@[simp] theorem FS.set_tmp_tmp (fs : FS) (c : Option Bytes) : (fs.set .tmp c).tmp = c := rfl
@[simp] theorem FS.set_path_tmp (fs : FS) (c : Option Bytes) : (fs.set .path c).tmp = fs.tmp := rfl
@[simp] theorem FS.get_tmp (fs : FS) : fs.get .tmp = fs.tmp := rfl
@[simp] theorem FS.get_path (fs : FS) : fs.get .path = fs.path := rfl

theorem runOps_ends_mem_seen (ft : Option FFault) (ops : List FOp) (i : Nat) (fs : FS) :
    fs ∈ (runOps ft ops i fs).seen ∧ (runOps ft ops i fs).fs ∈ (runOps ft ops i fs).seen := by
  fun_induction runOps ft ops i fs with
  -- case3: no fault fires at the first operation and it is not refused; every other case ends the run
  | case3 _ _ _ _ _ _ ih => exact ⟨List.mem_cons_self .., List.mem_cons_of_mem _ (List.mem_append_right _ ih.2)⟩
  | _ => simp

theorem runOps_log_prefix (ft : Option FFault) (ops : List FOp) (i : Nat) (fs : FS) :
    (runOps ft ops i fs).log <+: ops := by
  fun_induction runOps ft ops i fs with
  | case1 => exact List.prefix_refl []
  | case3 _ _ _ _ _ _ ih => exact (List.prefix_cons_inj _).mpr ih
  | _ => exact (List.prefix_cons_inj _).mpr List.nil_prefix

def FOp.KeepsPath (op : FOp) : Prop :=
  ∀ fs, (op.apply fs).path = fs.path ∧ (∀ n, (op.torn n fs).path = fs.path) ∧ ∀ x ∈ op.during fs, x.path = fs.path

theorem FOp.creat_tmp_keepsPath : (FOp.creat .tmp).KeepsPath := fun _ => ⟨rfl, fun _ => rfl, nofun⟩

theorem FOp.write_tmp_keepsPath (data : Bytes) : (FOp.write .tmp data).KeepsPath := by
  have h : ∀ (data : Bytes) (fs : FS), ((FOp.write .tmp data).apply fs).path = fs.path := by
    intro data fs
    simp only [FOp.apply, FS.get_tmp]
    split <;> rfl
  refine fun fs => ⟨h data fs, fun n => h _ fs, fun x hx => ?_⟩
  obtain ⟨n, _, rfl⟩ := List.mem_map.mp hx
  exact h _ fs

theorem runOps_cons_seen {ft : Option FFault} {op : FOp} {rest : List FOp} {i : Nat} {fs x : FS}
    (hx : x ∈ (runOps ft (op :: rest) i fs).seen) :
    (x = fs ∨ x ∈ op.during fs) ∨ x = op.apply fs ∨ (∃ n, x = op.torn n fs) ∨
      x ∈ (runOps ft rest (i + 1) (op.apply fs)).seen := by
  unfold runOps at hx
  split at hx
  · split at hx
    · exact Or.inl (Or.inl (List.mem_singleton.mp hx))
    · simp only [List.mem_cons, List.mem_append] at hx
      exact hx.imp_right fun h => Or.inr (Or.inr h)
  all_goals
    simp only [List.mem_cons, List.mem_append, List.not_mem_nil, or_false] at hx
    first
      | exact Or.inl (Or.inl hx)
      | exact hx.imp_right Or.inl
      | exact hx.imp_right fun h => Or.inr (Or.inl ⟨_, h⟩)

theorem runOps_then_rename (ft : Option FFault) :
    ∀ (pre : List FOp) (i : Nat) (fs : FS), (∀ op ∈ pre, op.KeepsPath) →
      ∀ x ∈ (runOps ft (pre ++ [.rename .tmp .path]) i fs).seen,
        x.path = fs.path ∨ x.path = (pre.foldl (fun fs' o => o.apply fs') fs).tmp
  | [], i, fs, _, x, hx => by
    have hr : ((FOp.rename .tmp .path).apply fs).path = fs.path ∨ ((FOp.rename .tmp .path).apply fs).path = fs.tmp := by
      simp only [FOp.apply, FS.get_tmp]
      split
      · next c h => exact Or.inr h.symm
      · exact Or.inl rfl
    rcases runOps_cons_seen hx with (rfl | h) | rfl | ⟨n, rfl⟩ | h
    · exact Or.inl rfl
    · cases h
    · exact hr
    · exact Or.inl rfl
    · exact List.mem_singleton.mp h ▸ hr
  | op :: pre, i, fs, h, x, hx => by
    obtain ⟨hap, htorn, hdur⟩ := h op (List.mem_cons_self ..) fs
    rcases runOps_cons_seen hx with (rfl | h') | rfl | ⟨n, rfl⟩ | h'
    · exact Or.inl rfl
    · exact Or.inl (hdur x h')
    · exact Or.inl hap
    · exact Or.inl (htorn n)
    · have ih := runOps_then_rename ft pre (i + 1) (op.apply fs) (fun o ho => h o (List.mem_cons_of_mem _ ho)) x h'
      rwa [hap] at ih

theorem ops_tmpRename (ft : Option FFault) (fs : FS) (cfg : Bytes) :
    ∀ x ∈ (runOps ft (autosaveOps .tmpRename cfg) 0 fs).seen, x.path = fs.path ∨ x.path = some cfg := by
  have h := runOps_then_rename ft [.creat .tmp, .write .tmp cfg] 0 fs
    (List.forall_mem_cons.mpr ⟨FOp.creat_tmp_keepsPath, List.forall_mem_singleton.mpr (FOp.write_tmp_keepsPath cfg)⟩)
  rwa [show ([FOp.creat .tmp, .write .tmp cfg].foldl (fun fs' o => o.apply fs') fs).tmp = some cfg by
    simp [FOp.apply]] at h

theorem ops_tmpRename_nofault (fs : FS) (cfg : Bytes) :
    (runOps none (autosaveOps .tmpRename cfg) 0 fs).fs.path = some cfg ∧
    (runOps none (autosaveOps .tmpRename cfg) 0 fs).status = .done ∧
    (runOps none (autosaveOps .tmpRename cfg) 0 fs).log = autosaveOps .tmpRename cfg := by
  simp [autosaveOps, runOps, ffires, FOp.refused, FOp.apply]

section loadStep
variable {sty : Style} {l : Load} {ft : Option FFault} {a : AState}

theorem loadStep_same (hs : sameCfg l a = true) : loadStep sty l ft a = ⟨.same, a, [], [a.fs]⟩ := by
  rw [loadStep, if_pos hs]

theorem loadStep_rejected (hs : sameCfg l a = false) (hacc : l.accepted = false) :
    loadStep sty l ft a = ⟨.rejected, a, [], [a.fs]⟩ := by
  rw [loadStep, if_neg (by simp [hs]), if_pos (by simp [hacc])]

theorem loadStep_unpersisted (hs : sameCfg l a = false) (hacc : l.accepted = true) (hp : l.persists = false) :
    loadStep sty l ft a = ⟨.ok, { a with cur := some l.cfg }, [], [a.fs]⟩ := by
  rw [loadStep, if_neg (by simp [hs]), if_neg (by simp [hacc]), if_neg (by simp [hp])]

theorem loadStep_persisted (hs : sameCfg l a = false) (hacc : l.accepted = true) (hp : l.persists = true) :
    (loadStep sty l ft a).log = (runOps ft (autosaveOps sty l.cfg) 0 a.fs).log ∧
    (loadStep sty l ft a).seen = (runOps ft (autosaveOps sty l.cfg) 0 a.fs).seen ∧
    (loadStep sty l ft a).st.fs = (runOps ft (autosaveOps sty l.cfg) 0 a.fs).fs ∧
    ((runOps ft (autosaveOps sty l.cfg) 0 a.fs).status ≠ .killed →
      (loadStep sty l ft a).res = .ok ∧ (loadStep sty l ft a).st.cur = some l.cfg) := by
  rw [loadStep, if_neg (by simp [hs]), if_neg (by simp [hacc]), if_pos hp]
  cases (runOps ft (autosaveOps sty l.cfg) 0 a.fs).status <;> simp

theorem loadStep_noop (h : sameCfg l a = true ∨ l.accepted = false ∨ l.persists = false) :
    (loadStep sty l ft a).log = [] ∧ (loadStep sty l ft a).st.fs = a.fs ∧ (loadStep sty l ft a).seen = [a.fs] := by
  cases hs : sameCfg l a with
  | true => rw [loadStep_same hs]; exact ⟨rfl, rfl, rfl⟩
  | false =>
    cases hacc : l.accepted with
    | false => rw [loadStep_rejected hs hacc]; exact ⟨rfl, rfl, rfl⟩
    | true =>
      have hp : l.persists = false := by simpa [hs, hacc] using h
      rw [loadStep_unpersisted hs hacc hp]; exact ⟨rfl, rfl, rfl⟩

end loadStep

theorem loadStep_cases (l : Load) (a : AState) :
    (sameCfg l a = true ∨ l.accepted = false ∨ l.persists = false) ∨
    (sameCfg l a = false ∧ l.accepted = true ∧ l.persists = true) := by
  cases sameCfg l a <;> cases l.accepted <;> cases l.persists <;> simp

/-- a load event for examples and witnesses -/
def exLoad (c : Bytes) (persist accepted : Bool) : Load :=
  { cfg := c, force := false, accepted := accepted, nonNil := true, persistCfg := persist, allowPersist := true }

theorem loadStep_fresh_ok {l : Load} {a : AState} (hs : sameCfg l a = false)
    (hacc : l.accepted = true) (hp : l.persists = true) :
    (loadStep codeStyle l none a).res = .ok ∧ (loadStep codeStyle l none a).st.fs.path = some l.cfg ∧
    (loadStep codeStyle l none a).st.cur = some l.cfg ∧
    (loadStep codeStyle l none a).log = autosaveOps .tmpRename l.cfg := by
  obtain ⟨hlog, _, hfs, hres⟩ := loadStep_persisted (sty := codeStyle) (ft := none) hs hacc hp
  obtain ⟨hpath, hdone, hops⟩ := ops_tmpRename_nofault a.fs l.cfg
  obtain ⟨hok, hcur⟩ := hres (by rw [codeStyle, hdone]; nofun)
  exact ⟨hok, by rw [hfs]; exact hpath, hcur, hlog.trans hops⟩

theorem Good.append {A : List Bytes} {fs : FS} (h : Good A fs) (B : List Bytes) : Good (A ++ B) fs :=
  h.imp_right fun ⟨c, hc, h⟩ => ⟨c, List.mem_append_left _ hc, h⟩

theorem Good.of_old_or_new {A : List Bytes} {fs0 x : FS} {cfg : Bytes} (h0 : Good A fs0)
    (h : x.path = fs0.path ∨ x.path = some cfg) : Good (A ++ [cfg]) x := by
  rcases h with h | h
  · exact Good.append (show Good A x by unfold Good at h0 ⊢; rwa [h]) _
  · exact Or.inr ⟨cfg, List.mem_append_right _ (List.mem_singleton_self _), h⟩

theorem AEvent.ends_mem_seen (sty : Style) (e : AEvent) (a : AState) :
    a.fs ∈ e.seen sty a ∧ (e.step sty a).fs ∈ e.seen sty a := by
  cases e with
  | restart => exact ⟨List.mem_singleton_self _, List.mem_singleton_self _⟩
  | load l ft =>
    simp only [AEvent.seen, AEvent.step]
    rcases loadStep_cases l a with h | ⟨hs, hacc, hp⟩
    · rw [(loadStep_noop h).2.2, (loadStep_noop h).2.1]
      exact ⟨List.mem_singleton_self _, List.mem_singleton_self _⟩
    · rw [(loadStep_persisted hs hacc hp).2.1, (loadStep_persisted hs hacc hp).2.2.1]
      exact runOps_ends_mem_seen ..

theorem acceptedIn_cons (sty : Style) (e : AEvent) (es : List AEvent) (a : AState) :
    acceptedIn sty (e :: es) a = acceptedIn sty [e] a ++ acceptedIn sty es (e.step sty a) := by
  cases e with
  | load l ft => simp only [acceptedIn]; split <;> rfl
  | restart => rfl

theorem AEvent.seen_good (e : AEvent) (a : AState) (A : List Bytes) (h : Good A a.fs) :
    ∀ x ∈ e.seen codeStyle a, Good (A ++ acceptedIn codeStyle [e] a) x := by
  have hmono : Good (A ++ acceptedIn codeStyle [e] a) a.fs := h.append _
  cases e with
  | restart => intro x hx; rwa [List.mem_singleton.mp hx]
  | load l ft =>
    intro x hx
    rcases loadStep_cases l a with hn | ⟨hs, hacc, hp⟩
    · rw [AEvent.seen, (loadStep_noop hn).2.2] at hx
      rwa [List.mem_singleton.mp hx]
    · rw [AEvent.seen, (loadStep_persisted hs hacc hp).2.1] at hx
      simp only [acceptedIn, hs, hacc, Bool.not_false, Bool.and_self, if_true]
      exact h.of_old_or_new (ops_tmpRename ft a.fs l.cfg x hx)

theorem seenHist_head (sty : Style) (evs : List AEvent) (a : AState) : a.fs ∈ seenHist sty evs a := by
  cases evs with
  | nil => exact List.mem_singleton_self _
  | cons e es => exact List.mem_append_left _ (e.ends_mem_seen sty a).1

theorem seenHist_append (sty : Style) : ∀ (evs₁ evs₂ : List AEvent) (a : AState) (x : FS),
    x ∈ seenHist sty evs₁ a → x ∈ seenHist sty (evs₁ ++ evs₂) a
  | [], evs₂, a, _, h => List.mem_singleton.mp h ▸ seenHist_head sty evs₂ a
  | _ :: es, evs₂, _, x, h =>
    (List.mem_append.mp h).elim (List.mem_append_left _)
      fun h => List.mem_append_right _ (seenHist_append sty es evs₂ _ x h)

theorem seenHist_good : ∀ (evs : List AEvent) (a : AState) (A : List Bytes), Good A a.fs →
    ∀ x ∈ seenHist codeStyle evs a, Good (A ++ acceptedIn codeStyle evs a) x
  | [], a, A, h, x, hx => by
    rw [List.mem_singleton.mp hx]
    exact h.append _
  | e :: es, a, A, h, x, hx => by
    rw [acceptedIn_cons, ← List.append_assoc]
    rcases List.mem_append.mp hx with hx | hx
    · exact (e.seen_good a A h x hx).append _
    · exact seenHist_good es _ _ (e.seen_good a A h _ (e.ends_mem_seen codeStyle a).2) x hx

def InSync (a : AState) : Prop := ∀ c, a.cur = some c → a.fs.path = some c

/-- no fault AND persistence on: what keeps file and running document equal (`InSync`) -/
def AEvent.clean : AEvent → Prop
  | .load l ft => ft = none ∧ l.persists = true
  | .restart => True

instance : (e : AEvent) → Decidable e.clean
  | .load l ft => by unfold AEvent.clean; infer_instance
  | .restart => isTrue trivial

theorem loadStep_insync {l : Load} {a : AState} (hp : l.persists = true) (h : InSync a) :
    InSync (loadStep codeStyle l none a).st ∧
    (l.accepted = true → (loadStep codeStyle l none a).st.cur = some l.cfg) := by
  cases hs : sameCfg l a with
  | true =>
    rw [loadStep_same hs]
    simp only [sameCfg, Bool.and_eq_true, beq_iff_eq] at hs
    exact ⟨h, fun _ => hs.2⟩
  | false =>
    cases hacc : l.accepted with
    | false => rw [loadStep_rejected hs hacc]; exact ⟨h, nofun⟩
    | true =>
      obtain ⟨_, hpath, hcur, _⟩ := loadStep_fresh_ok hs hacc hp
      exact ⟨fun c hc => by rw [hpath, ← hcur, hc], fun _ => hcur⟩

theorem insync_preserved : ∀ (evs : List AEvent) (a : AState), (∀ e ∈ evs, e.clean) → InSync a →
    InSync (runLoads codeStyle evs a)
  | [], _, _, h => h
  | .restart :: es, a, hc, _ => insync_preserved es _ (fun e he => hc e (List.mem_cons_of_mem _ he)) nofun
  | .load l ft :: es, a, hc, h => by
    obtain ⟨rfl, hp⟩ := hc (.load l ft) (List.mem_cons_self ..)
    exact insync_preserved es _ (fun e he => hc e (List.mem_cons_of_mem _ he)) (loadStep_insync hp h).1

theorem runLoads_concat (sty : Style) (e : AEvent) : ∀ (es : List AEvent) (a : AState),
    runLoads sty (es ++ [e]) a = e.step sty (runLoads sty es a)
  | [], _ => rfl
  | e' :: es, a => runLoads_concat sty e es (e'.step sty a)

theorem endpointStep_load {adapt : Bytes → Option Bytes} {mk : Bytes → Bool → Load} {r : LoadReq} {j : Bytes} (a : AState)
    (hpost : r.post = true) (hj : adaptByContentType adapt r.ctype r.body = some j) :
    endpointStep adapt mk r a = loadStep codeStyle (mk j (forceOf r.cache)) none a := by
  simp [endpointStep, handleLoad, hpost, hj]

theorem sameCfg_mk {mk : Bytes → Bool → Load} (hmk : FaithfulMk mk) (j : Bytes) (f : Bool) (a : AState) :
    sameCfg (mk j f) a = (!f && a.cur == some j) := by
  rw [sameCfg, (hmk j f).1, (hmk j f).2]

end CaddyModel.C14
