/-
C14 — how configs are PUSHED: `POST /load` (caddyconfig/load.go adminLoad.handleLoad).

The handler reads the whole body; if a Content-Type header is present the body goes through
`adaptByContentType` (no header / `…/json`: unchanged; `…/<adapter>`: the registered config adapter
of that name, e.g. `text/caddyfile`; anything else, or an adapter error: 400 and `caddy.Load` is
never called); then `forceReload := r.Header.Get("Cache-Control") == "must-revalidate"` (string
EQUALITY — `no-cache, must-revalidate` does not force) and `caddy.Load(body, forceReload)`.
What reaches `changeConfig` — and so the autosave file — is the ADAPTED document, never the body.

`adapt` (the adapter) and `mk` (what loading a JSON document means: accepted or not, its persistence
flag) are parameters of the theorems; the driver instantiates them with the token protocol.
-/
import CaddyModel.C14.Model

namespace CaddyModel.C14

/-- the `Cache-Control` request header as the handler sees it -/
inductive CacheControl
  | absent
  | mustRevalidate     -- exactly `must-revalidate`
  | other              -- any other value, including lists that CONTAIN must-revalidate
deriving DecidableEq, Repr

/-- the `Content-Type` request header after `mime.ParseMediaType` -/
inductive ContentType
  | absent                     -- no header: "assume JSON as the default"
  | json                       -- `…/json`
  | adapter (known : Bool)     -- `…/<name>`: `GetAdapter(name)` found / nil
  | malformed                  -- unparsable, or no slash
deriving DecidableEq, Repr

structure LoadReq where
  post : Bool
  ctype : ContentType
  cache : CacheControl
  body : Bytes
deriving DecidableEq, Repr

/-- the comparison the handler makes: `== "must-revalidate"` -/
def forceOf : CacheControl → Bool
  | .mustRevalidate => true
  | _ => false

/-- `adaptByContentType`: `none` = an error (400) -/
def adaptByContentType (adapt : Bytes → Option Bytes) : ContentType → Bytes → Option Bytes
  | .absent, b => some b
  | .json, b => some b
  | .adapter true, b => adapt b
  | .adapter false, _ => none
  | .malformed, _ => none

inductive EPRes
  | methodNotAllowed                -- 405
  | badRequest                      -- 400 before `caddy.Load`
  | load (l : Load)                 -- `caddy.Load(body, forceReload)`
deriving DecidableEq, Repr

/-- `handleLoad` up to its `caddy.Load` call -/
def handleLoad (adapt : Bytes → Option Bytes) (mk : Bytes → Bool → Load) (r : LoadReq) : EPRes :=
  if !r.post then .methodNotAllowed
  else
    match adaptByContentType adapt r.ctype r.body with
    | none => .badRequest
    | some b => .load (mk b (forceOf r.cache))

/-- one request on the running process -/
def endpointStep (adapt : Bytes → Option Bytes) (mk : Bytes → Bool → Load) (r : LoadReq) (a : AState) : LoadOut :=
  match handleLoad adapt mk r with
  | .load l => loadStep codeStyle l none a
  | _ => ⟨.rejected, a, [], [a.fs]⟩

/-- `mk` describes loading the bytes it is given with the force flag it is given -/
def FaithfulMk (mk : Bytes → Bool → Load) : Prop :=
  ∀ b f, (mk b f).cfg = b ∧ (mk b f).force = f

/-- the names the extractor must find in `handleLoad` for this model to be the code -/
def codeForceHeader : String := "Cache-Control"
def codeForceValue : String := "must-revalidate"
def codeForceCompare : String := "=="
def codeLoadArgs : List String := ["body", "forceReload"]
def codeBodyAssigns : List String := ["buf.Bytes()", "result"]

end CaddyModel.C14
