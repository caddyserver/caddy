/-
C14 — FileStorage: `Store` is atomic per key, and the calculus of Calculus.lean is sound for it.

A fault hits ONE of the file operations of a `Store`; the operations before it ran whole, and all
of them but the last work on the temp file.  `runDOps_then_rename` says this for an arbitrary
prefix of temp-file operations followed by the rename; `fileStore_atomic` is the instance "the six
operations of `FileStorage.Store`".
`wp_sound_fs` / `wpn_sound_fs`: the calculus is sound for `execFS` too, so everything proved with
it about `exec` holds on the real write protocol.
-/
import CaddyModel.C14.FileStore
import CaddyModel.C14.Calculus

namespace CaddyModel.C14

@[simp] theorem Dir.setTmp_keys (d : Dir) (n : Nat) (c : Option FContent) : (d.setTmp n c).keys = d.keys := rfl
@[simp] theorem Dir.setKey_tmps (d : Dir) (k : Key) (c : Option FContent) : (d.setKey k c).tmps = d.tmps := rfl
@[simp] theorem Dir.setTmp_tmps_same (d : Dir) (n : Nat) (c : Option FContent) : (d.setTmp n c).tmps n = c := by
  simp [Dir.setTmp]
@[simp] theorem Dir.setKey_keys (d : Dir) (k : Key) (c : Option FContent) :
    (d.setKey k c).keys = fun k' => if k' = k then c else d.keys k' := rfl

theorem view_congr {d d' : Dir} (h : d'.keys = d.keys) : view d' = view d := by
  unfold view; rw [h]

theorem KeysWhole.congr {d d' : Dir} (h : d'.keys = d.keys) (hw : KeysWhole d) : KeysWhole d' := by
  unfold KeysWhole; rwa [h]

theorem view_setKey_whole (d : Dir) (k : Key) (b : Blob) : view (d.setKey k (some (.whole b))) = (view d).set k b := by
  funext k'
  simp only [view, Dir.setKey_keys, Store.set]
  split <;> rfl

theorem KeysWhole.setKey_whole {d : Dir} (hw : KeysWhole d) (k : Key) (b : Blob) :
    KeysWhole (d.setKey k (some (.whole b))) := by
  intro k' c hc
  simp only [Dir.setKey_keys] at hc
  split at hc
  · exact ⟨b, (Option.some.inj hc).symm⟩
  · exact hw k' c hc

theorem keysWhole_empty : KeysWhole Dir.empty := fun _ _ h => nomatch h

def DOp.TmpOnly (op : DOp) : Prop := ∀ d, (op.apply d).keys = d.keys ∧ ∀ m, (op.torn m d).keys = d.keys

/-- every clean-up is `close` / `remove` of the temp file -/
theorem DOp.cleanup_keys (op : DOp) (d : Dir) : (op.cleanup.foldl (fun d' c => c.apply d') d).keys = d.keys := by
  cases op <;> rfl

/-- A fault inside `pre` ends the sequence with the key files as they were; the rename itself takes effect or not,
    a torn rename does not exist; the clean-up after a reported error only removes the temp file. -/
theorem runDOps_then_rename (ff : Option FFault) (n : Nat) (k : Key) :
    ∀ (pre : List DOp) (i : Nat) (d : Dir), (∀ op ∈ pre, op.TmpOnly) →
      ((runDOps ff (pre ++ [.rename n k]) i d).dir.keys = d.keys ∧
        (runDOps ff (pre ++ [.rename n k]) i d).status ≠ .done) ∨
      (runDOps ff (pre ++ [.rename n k]) i d).dir.keys =
        (d.setKey k ((pre.foldl (fun d' o => o.apply d') d).tmps n)).keys
  | [], i, d, _ => by
    simp only [List.nil_append, runDOps]
    cases ffires ff i with
    | none => exact Or.inr rfl
    | some mode =>
      cases mode with
      | killAfter | failAfter => exact Or.inr rfl
      | _ => exact Or.inl ⟨rfl, nofun⟩
  | op :: pre, i, d, h => by
    have hop := h op (List.mem_cons_self ..)
    simp only [List.cons_append, runDOps, List.foldl_cons]
    cases ffires ff i with
    | none =>
      have ih := runDOps_then_rename ff n k pre (i + 1) (op.apply d) (fun o ho => h o (List.mem_cons_of_mem _ ho))
      simp only [Dir.setKey_keys, (hop d).1] at ih ⊢
      exact ih
    | some mode => cases mode <;> exact Or.inl ⟨by simp only [DOp.cleanup_keys, hop d], nofun⟩

/-- **FileStorage.Store is atomic per key under every single fault.**  Whichever file operation
    is hit and however, afterwards every key file still holds a whole value, `Load` shows the
    storage as it was or with exactly the new value under the key, and if `Store` returned nil it
    shows the new value.  (Temp files — empty, torn or whole — may be left behind; they are in
    the directory, not under any key.) -/
theorem fileStore_atomic (ff : Option FFault) (i n : Nat) (d : Dir) (k : Key) (b : Blob) (hw : KeysWhole d) :
    KeysWhole (runDOps ff (fileStoreOps n k b) i d).dir ∧
    (view (runDOps ff (fileStoreOps n k b) i d).dir = view d ∨
     view (runDOps ff (fileStoreOps n k b) i d).dir = (view d).set k b) ∧
    ((runDOps ff (fileStoreOps n k b) i d).status = .done →
      view (runDOps ff (fileStoreOps n k b) i d).dir = (view d).set k b) := by
  have h := runDOps_then_rename ff n k [.creatTemp n, .chmod n, .write n b, .sync n, .close n] i d (by
    simp only [List.mem_cons, List.not_mem_nil, or_false]
    rintro op (rfl | rfl | rfl | rfl | rfl) <;> exact fun d => ⟨rfl, fun _ => rfl⟩)
  rw [show ([DOp.creatTemp n, .chmod n, .write n b, .sync n, .close n].foldl (fun d' o => o.apply d') d).tmps n
      = some (.whole b) by simp [DOp.apply]] at h
  rcases h with ⟨h0, hnd⟩ | h1
  · exact ⟨hw.congr h0, Or.inl (view_congr h0), fun hd => absurd hd hnd⟩
  · have hv := (view_congr h1).trans (view_setKey_whole d k b)
    exact ⟨(hw.setKey_whole k b).congr h1, Or.inr hv, fun _ => hv⟩

theorem runDOps_none_done : ∀ (ops : List DOp) (i : Nat) (d : Dir), (runDOps none ops i d).status = .done
  | [], _, _ => rfl
  | op :: ops, i, d => runDOps_none_done ops (i + 1) (op.apply d)

def FRes.Holds (Q : α → Store → Nat → Prop) (E : Store → Nat → Prop) (C : Store → Prop) : FRes α → Prop
  | .ok a y => Q a (view y.dir) y.fresh ∧ KeysWhole y.dir
  | .err _ y => E (view y.dir) y.fresh ∧ KeysWhole y.dir
  | .crash y => C (view y.dir) ∧ KeysWhole y.dir

theorem wp_sound_fs {C : Store → Prop} {E : Store → Nat → Prop} (ff : Option FFault) :
    ∀ (p : Prog α) (Q : α → Store → Nat → Prop) (y : FSys), KeysWhole y.dir →
      wp C E p Q (view y.dir) y.fresh → (execFS ff p y).Holds Q E C := by
  intro p
  induction p with
  | ret a => intro Q y hw h; exact ⟨h, hw⟩
  | fail e => intro Q y hw h; exact ⟨h, hw⟩
  | load k onErr cont ihE ihC =>
    intro Q y hw ⟨hc, he, hk⟩
    unfold execFS loadFile
    cases ffires ff y.nops with
    | none => exact ihC _ Q _ hw hk
    | some mode => cases mode <;> first | exact ⟨hc, hw⟩ | exact ihE Q _ hw he
  | store k b onErr cont ihE ihC =>
    intro Q y hw ⟨hc, hc', he, he', hk⟩
    obtain ⟨hw', hv, hdone⟩ := fileStore_atomic ff y.nops y.dir.nextTmp y.dir k b hw
    unfold execFS
    cases hst : (runDOps ff (fileStoreOps y.dir.nextTmp k b) y.nops y.dir).status with
    | done => exact ihC Q _ hw' (by rw [hdone hst]; exact hk)
    | failed =>
      rcases hv with hv | hv
      · exact ihE Q _ hw' (by rw [hv]; exact he)
      · exact ihE Q _ hw' (by rw [hv]; exact he')
    | killed =>
      rcases hv with hv | hv
      · exact ⟨by rw [hv]; exact hc, hw'⟩
      · exact ⟨by rw [hv]; exact hc', hw'⟩
  | fresh cont ih =>
    intro Q y hw h
    exact ih y.fresh Q _ hw h

theorem FRes.Holds.keeps {Q : α → Store → Nat → Prop} {C : Store → Prop} {r : FRes α}
    (h : r.Holds Q (fun s _ => C s) C) (hQ : ∀ a s fr, Q a s fr → C s) : C (view r.sys.dir) ∧ KeysWhole r.sys.dir := by
  cases r with
  | ok a y => exact ⟨hQ _ _ _ h.1, h.2⟩
  | err e y => exact h
  | crash y => exact h

def FRes.HoldsN (Q : α → Store → Nat → Prop) (E : Err → Store → Nat → Prop) : FRes α → Prop
  | .ok a y => Q a (view y.dir) y.fresh ∧ KeysWhole y.dir
  | .err e y => E e (view y.dir) y.fresh
  | .crash _ => False

theorem wpn_sound_fs {E : Err → Store → Nat → Prop} :
    ∀ (p : Prog α) (Q : α → Store → Nat → Prop) (y : FSys), KeysWhole y.dir →
      wpn E p Q (view y.dir) y.fresh → (execFS none p y).HoldsN Q E := by
  intro p
  induction p with
  | ret a => intro Q y hw h; exact ⟨h, hw⟩
  | fail e => intro Q y hw h; exact h
  | load k onErr cont _ ihC =>
    intro Q y hw h
    exact ihC _ Q _ hw h
  | store k b onErr cont _ ihC =>
    intro Q y hw h
    obtain ⟨hw', _, hdone⟩ := fileStore_atomic none y.nops y.dir.nextTmp y.dir k b hw
    have hst := runDOps_none_done (fileStoreOps y.dir.nextTmp k b) y.nops y.dir
    unfold execFS
    rw [hst]
    exact ihC Q _ hw' (by rw [hdone hst]; exact h)
  | fresh cont ih =>
    intro Q y hw h
    exact ih y.fresh Q _ hw h

theorem FRes.HoldsN.returns {Q : α → Store → Nat → Prop} {r : FRes α} (h : r.HoldsN Q noErr) :
    ∃ a y, r = .ok a y ∧ Q a (view y.dir) y.fresh ∧ KeysWhole y.dir := by
  cases r with
  | ok a y => exact ⟨a, y, rfl, h⟩
  | err e y => exact h.elim
  | crash y => exact h.elim

end CaddyModel.C14
