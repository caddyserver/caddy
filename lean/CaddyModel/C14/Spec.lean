/-
C14 — the small account the property talks about.

CA:       what "a mutually consistent certificate chain and keys" means for the values a
          start-up holds in memory (`Mem.Consistent`) and for the storage (`Complete`);
          the shape of every storage state an interrupted history can leave (`InvAt`).
Autosave: "a complete copy of some successfully loaded configuration" (`Good`).
-/
import CaddyModel.C14.Model

namespace CaddyModel.C14

/-- root self-signed, root key belongs to the root certificate, intermediate signed by the
    root, intermediate key belongs to the intermediate certificate -/
def Mem.Consistent (m : Mem) : Prop :=
  m.root.signer = m.root.pub ∧ m.root.keyId = m.root.pub ∧
  m.inter.signer = m.root.pub ∧ m.inter.keyId = m.inter.pub

instance (m : Mem) : Decidable m.Consistent := by unfold Mem.Consistent; infer_instance

/-- the storage holds exactly the chain and the keys in use -/
def Complete (s : Store) (m : Mem) : Prop :=
  s .rootCrt = some m.root.crt ∧ s .rootKey = some m.root.key ∧
  s .intCrt = some m.inter.crt ∧ s .intKey = some m.inter.key

instance (s : Store) (m : Mem) : Decidable (Complete s m) := by unfold Complete; infer_instance

/-- Every storage state reachable by interrupted start-ups and maintenance passes:
    * whatever is stored under a `.key` name is a key;
    * a stored root certificate is self-signed and its key is stored with it;
    * a stored intermediate certificate is signed by the stored root and SOME intermediate key
      is stored with it — not necessarily its own: an interrupted or half-failed renewal leaves
      a foreign key, which `loadOrGenIntermediate` detects and replaces.
    (No field mentions the clock argument `t`: `InvAt.any` changes it freely, and the clock
    indices of the theorems that state `InvAt` carry nothing.) -/
structure InvAt (t : Nat) (s : Store) : Prop where
  rootKeyKind : ∀ b, s .rootKey = some b → ∃ r, b = .key r
  intKeyKind : ∀ b, s .intKey = some b → ∃ j, b = .key j
  root : ∀ b, s .rootCrt = some b → ∃ r ra, b = .cert r r ra ∧ s .rootKey = some (.key r)
  inter : ∀ b, s .intCrt = some b → ∃ i r ra rra j, b = .cert i r ra ∧
            s .rootCrt = some (.cert r r rra) ∧ s .intKey = some (.key j)

instance decMonotone : (t : Nat) → (evs : List Event) → Decidable (Monotone t evs)
  | _, [] => isTrue trivial
  | t, e :: es =>
    match Nat.decLe t e.cfg.now, decMonotone e.cfg.now es with
    | isTrue h1, isTrue h2 => isTrue ⟨h1, h2⟩
    | isFalse h1, _ => isFalse (fun h => h1 h.1)
    | _, isFalse h2 => isFalse (fun h => h2 h.2)

instance decStepsMonotone : (t : Nat) → (sts : List Step) → Decidable (StepsMonotone t sts)
  | _, [] => isTrue trivial
  | t, st :: sts =>
    match Nat.decLe t st.now, decStepsMonotone st.now sts with
    | isTrue h1, isTrue h2 => isTrue ⟨h1, h2⟩
    | isFalse h1, _ => isFalse (fun h => h1 h.1)
    | _, isFalse h2 => isFalse (fun h => h2 h.2)

instance (w : World) : Decidable w.synced := by
  unfold World.synced
  cases w.proc with
  | none => exact isTrue trivial
  | some ml => exact inferInstanceAs (Decidable (_ = _))

instance decSyncedAtTicks (ord : Order) : (sts : List Step) → (w : World) → Decidable (SyncedAtTicks ord sts w)
  | [], _ => isTrue trivial
  | .start e :: sts, w => decSyncedAtTicks ord sts (w.step ord (.start e))
  | .tick n f :: sts, w =>
    match (inferInstance : Decidable w.synced), decSyncedAtTicks ord sts (w.step ord (.tick n f)) with
    | isTrue h1, isTrue h2 => isTrue ⟨h1, h2⟩
    | isFalse h1, _ => isFalse (fun h => h1 h.1)
    | _, isFalse h2 => isFalse (fun h => h2 h.2)

/-! ### autosave -/

/-- the autosave file does not exist yet, or is byte for byte one of the configs in `A` -/
def Good (A : List Bytes) (fs : FS) : Prop := fs.path = none ∨ ∃ c ∈ A, fs.path = some c

instance (A : List Bytes) (fs : FS) : Decidable (Good A fs) := by unfold Good; infer_instance

end CaddyModel.C14
