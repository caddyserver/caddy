/-
C05 — theorems about the Caddyfile adaptation modelled in Adapt.lean: `handle_errors` (status
arguments, a directive's own matcher, the block sort: `handle_errors_site_behaves_as_written`),
`handle` / `handle_path` blocks with `respond` / `error` (group names, consolidation, the as-written
reading: `adaptNodes_fresh`, `consolidate_preserves_behaviour`, `site_behaves_as_written`),
the wrapping of several sites on one server (site blocks do not cascade), and the two source facts
about who compiles a route list and about the adapter's one `Terminal:` literal.
-/
import CaddyModel.C05.Adapt
import CaddyModel.C05.Lemmas
import CaddyModel.C16.Lemmas
import CaddyModel.Gen.RouteCompile

namespace CaddyModel.C05

/-- `Dxx` selects exactly the statuses D00 … D99 (in the error path, where the placeholder is set) -/
theorem status_class_selects_its_hundred (b : UInt8) (r : Req) (c : Nat) (h : r.replStatus = some c) :
    evalMatcher (selMatcher ⟨[[b]], []⟩) r = .ok (decide (c / 100 = b.toNat - 48)) := by
  have hv : C16.digitsVal 0 [b] = b.toNat - 48 := by
    unfold C16.digitsVal C16.digitsVal; omega
  simp only [selMatcher, classRange, hv, evalMatcher, h, List.map_cons, List.map_nil, List.any_cons,
    List.any_nil, Bool.or_false, List.contains_nil, ← Bool.decide_and]
  -- `v * 100 ≤ c ∧ c ≤ v * 100 + 99` is `c / 100 = v`
  exact congrArg _ (decide_eq_decide.mpr (Nat.div_eq_iff (by decide)).symm)

/-- a code selects exactly itself -/
theorem status_code_selects_itself (x : Bytes) (r : Req) (c : Nat) (h : r.replStatus = some c) :
    evalMatcher (selMatcher ⟨[], [x]⟩) r = .ok (decide (C16.digitsVal 0 x = c)) := by
  simp only [selMatcher, codeVal, evalMatcher, h, List.map_nil, List.any_nil, Bool.false_or,
    List.map_cons, List.contains_cons, List.contains_nil, Bool.or_false]
  congr 1
  rw [Bool.eq_iff_iff]
  simp only [beq_iff_eq, Int.natCast_inj, decide_eq_true_eq]
  exact eq_comm

example : parseArgs [str "4xx", str "500", str "404"] ⟨[], []⟩ = some ⟨[str "4"], [str "500", str "404"]⟩ := by decide +kernel
-- compared as lists of characters: deciding `s = s'` on `String` compares the UTF-8 encodings, which is much slower
example : bytesToString (renderExpr ⟨[str "4"], [str "500", str "404"]⟩)
    = "{http.error.status_code} >= 400 && {http.error.status_code} <= 499 || {http.error.status_code} in [500, 404]" :=
  congrArg String.ofList (by decide +kernel)
-- only digits: signs, letters, wrong lengths are refused by the adapter
example : parseArgs [str "4XX"] ⟨[], []⟩ = none ∧ parseArgs [str "40"] ⟨[], []⟩ = none ∧
    parseArgs [str "-xx"] ⟨[], []⟩ = none ∧ parseArgs [str "+40"] ⟨[], []⟩ = none ∧
    parseArgs [str "-12"] ⟨[], []⟩ = none := by decide +kernel

/-- **a body directive applies iff the status is selected AND its own matcher matches**: the route
    the code builds for it (status expression in front of a subroute holding the directive's route
    as it is) behaves, in every chain and for every request, like the one route the Caddyfile
    describes — including when the status test is a matcher error. -/
theorem handle_errors_directive_keeps_its_matcher (a : StatusArgs) (d : Dir) (k : K) (r : Req) (t : Trace) :
    runRoute (dirRoute a d) k r t = runRoute (dirRouteIntended a d) k r t := by
  unfold dirRoute dirRouteIntended
  by_cases he : (a.classes.isEmpty && a.codes.isEmpty) = true
  · simp [he]
  · simp only [he, Bool.false_eq_true, if_false]
    cases hp : d.path with
    | none => rfl
    | some p => simp only [dirSets, hp]; exact runRoute_nested_and ..

def wBlocks : List Block := [⟨[str "404"], [⟨some 1, 201⟩]⟩]

/-- `handle_errors 404 { respond /a 201 }`, a 404 on /b: the repaired adapter leaves the 404 alone
    (as the Caddyfile says); BEFORE the repair `parseHandleErrors` assigned
    `MatcherSetsRaw = [{expression}]` to every route of the body, the `/a` was gone and the
    answer was 201. -/
theorem handle_errors_inner_matcher_dropped_by_old_code :
    (serveAdapted (adaptOld wBlocks) 404 ⟨0, 0, 3, 0, [], none, none, 3, []⟩).map (·.status) = some (some 201) ∧
    (serveAdapted (adapt wBlocks) 404 ⟨0, 0, 3, 0, [], none, none, 3, []⟩).map (·.status) = some (some 404) ∧
    (serveAdapted (adaptIntended wBlocks) 404 ⟨0, 0, 3, 0, [], none, none, 3, []⟩).map (·.status) = some (some 404) := by
  decide +kernel

example : (serveAdapted (adapt wBlocks) 404 ⟨0, 0, 1, 0, [], none, none, 1, []⟩).map (·.status) = some (some 201) := by decide +kernel

theorem runRoutes_map_congr {γ : Type} (f g : γ → Route) (h : ∀ x k r t, runRoute (f x) k r t = runRoute (g x) k r t) :
    ∀ (l : List γ) (k : K), runRoutes (l.map f) k = runRoutes (l.map g) k
  | [], _ => rfl
  | x :: xs, k => by
    funext r t
    simp only [List.map_cons, runRoutes, runRoutes_map_congr f g h xs k]
    exact h x _ r t

theorem runRoutes_blocks (ps : List (StatusArgs × List Dir)) (k : K) :
    runRoutes (ps.map fun p => blockRoutes p.1 p.2).flatten k
      = runRoutes (ps.map fun p => blockRoutesIntended p.1 p.2).flatten k := by
  induction ps with
  | nil => rfl
  | cons p ps ih =>
    simp only [List.map_cons, List.flatten_cons, routes_in_order, ih]
    exact runRoutes_map_congr _ _ (handle_errors_directive_keeps_its_matcher p.1) p.2 _

theorem blocks_isEmpty (ps : List (StatusArgs × List Dir)) :
    (ps.map fun p => blockRoutes p.1 p.2).flatten.isEmpty
      = (ps.map fun p => blockRoutesIntended p.1 p.2).flatten.isEmpty := by
  induction ps with
  | nil => rfl
  | cons p ps ih =>
    obtain ⟨a, ds⟩ := p
    cases ds with
    | nil => exact ih
    | cons d ds => rfl

/-- the comparator of the block sort only looks at "empty?" and "does the first route have a
    matcher?" — both builds agree on that -/
theorem blockLess_same (p q : StatusArgs × List Dir) :
    blockLess (blockRoutes p.1 p.2) (blockRoutes q.1 q.2)
      = blockLess (blockRoutesIntended p.1 p.2) (blockRoutesIntended q.1 q.2) := by
  have key : ∀ (a : StatusArgs) (ds : List Dir),
      (blockRoutes a ds).isEmpty = (blockRoutesIntended a ds).isEmpty ∧
      firstHasNoMatcher (blockRoutes a ds) = firstHasNoMatcher (blockRoutesIntended a ds) := by
    intro a ds
    cases ds with
    | nil => simp [blockRoutes, blockRoutesIntended, firstHasNoMatcher]
    | cons d ds =>
      simp only [blockRoutes, blockRoutesIntended, List.map_cons, List.isEmpty_cons, true_and]
      unfold dirRoute dirRouteIntended
      by_cases he : (a.classes.isEmpty && a.codes.isEmpty) = true
      · simp [he, firstHasNoMatcher]
      · cases hp : d.path <;> simp [he, firstHasNoMatcher]
  unfold blockLess
  rw [(key p.1 p.2).1, (key p.1 p.2).2, (key q.1 q.2).1, (key q.1 q.2).2]

/-- **a site's `handle_errors` blocks mean what they say**: whatever the blocks, their status
    arguments, the matchers of their directives and the order the adapter's sort puts them in, the
    error routes the adapter builds answer every error on every request exactly like the routes the
    Caddyfile describes (status selected AND the directive's own matcher). -/
theorem handle_errors_site_behaves_as_written (blocks : List Block) (s : Nat) (req : Req) :
    serveAdapted (adapt blocks) s req = serveAdapted (adaptIntended blocks) s req := by
  unfold adapt adaptIntended adaptWith
  cases hp : parseBlocks blocks with
  | none => rfl
  | some ps =>
    simp only [serveAdapted]
    -- both block lists are the same sorted list of parsed blocks, mapped with the two builds
    let L : (StatusArgs × List Dir) → (StatusArgs × List Dir) → Bool :=
      fun p q => blockLess (blockRoutes p.1 p.2) (blockRoutes q.1 q.2)
    have h1 := C16.insertionSort_map L blockLess (fun p => blockRoutes p.1 p.2) (fun _ _ => rfl) ps
    have h2 := C16.insertionSort_map L blockLess (fun p => blockRoutesIntended p.1 p.2)
      (fun a b => (blockLess_same a b).symm) ps
    rw [h1, h2]
    simp only [serve, runRoutes_blocks, blocks_isEmpty]

example : (serveAdapted (adapt [⟨[str "5xx"], [⟨none, 211⟩]⟩, ⟨[str "404", str "4xx"], [⟨some 1, 201⟩, ⟨none, 202⟩]⟩]) 404
    ⟨0, 0, 3, 0, [], none, none, 3, []⟩).map (·.status) = some (some 202) := by decide +kernel

/-! ### the group names of nested `handle` blocks never collide

The route-group set is ONE set per request, shared by every nesting level (Model.lean), so the
mutual exclusion of the `handle` blocks of one body is only sound if no group name is used both by
a body and by anything nested in it.  The adapter's counter guarantees that: -/

mutual
def allGroups : List Route → List Nat
  | [] => []
  | rt :: rs => allGroupsRoute rt ++ allGroups rs
def allGroupsRoute : Route → List Nat
  | .mk g _ hs _ => g :: allGroupsHandlers hs
def allGroupsHandlers : List Handler → List Nat
  | [] => []
  | h :: hs => allGroupsHandler h ++ allGroupsHandlers hs
def allGroupsHandler : Handler → List Nat
  | .sub rs _ _ => allGroups rs
  | _ => []
end

theorem allGroupsHandlers_append : ∀ (a b : List Handler),
    allGroupsHandlers (a ++ b) = allGroupsHandlers a ++ allGroupsHandlers b
  | [], b => by simp [allGroupsHandlers]
  | h :: hs, b => by simp [allGroupsHandlers, allGroupsHandlers_append hs b]

theorem mem_allGroups_consolidateStep (rt : Route) (acc : List Route) (g : Nat)
    (h : g ∈ allGroups (consolidateStep rt acc)) : g ∈ allGroups (rt :: acc) := by
  revert h
  fun_cases consolidateStep rt acc
  · intro h
    simp only [allGroups, allGroupsRoute, allGroupsHandlers_append, List.cons_append, List.mem_cons,
      List.mem_append] at h ⊢
    rcases h with h | (h | h) | h <;> simp [h]
  · exact id

theorem mem_allGroups_consolidate : ∀ (rs : List Route) (g : Nat), g ∈ allGroups (consolidate rs) → g ∈ allGroups rs
  | [], _, h => h
  | rt :: rs, g, h => by
    have h1 := mem_allGroups_consolidateStep rt (consolidate rs) g h
    simp only [allGroups, List.mem_append] at h1 ⊢
    exact h1.imp_right (mem_allGroups_consolidate rs g)

theorem mem_allGroups_withGroup (g0 : Nat) (rt : Route) (g : Nat) (h : g ∈ allGroupsRoute (rt.withGroup g0)) :
    g = g0 ∨ g ∈ allGroupsRoute rt := by
  cases rt with
  | mk g1 sets hs term =>
    simp only [Route.withGroup, allGroupsRoute, List.mem_cons] at h ⊢
    exact h.imp_right Or.inr

theorem mem_allGroups_setGroups (g0 : Nat) : ∀ (ns : List Node) (rs : List Route) (g : Nat),
    g ∈ allGroups (setGroups g0 ns rs) → g = g0 ∨ g ∈ allGroups rs
  | [], _, g, h => by simp [setGroups, allGroups] at h
  | _ :: _, [], g, h => by simp [setGroups, allGroups] at h
  | n :: ns, rt :: rts, g, h => by
    simp only [setGroups, allGroups, List.mem_append] at h ⊢
    rcases h with h | h
    · split at h
      · exact (mem_allGroups_withGroup g0 rt g h).imp_right Or.inl
      · exact Or.inr (Or.inl h)
    · exact (mem_allGroups_setGroups g0 ns rts g h).imp_right Or.inr

theorem allGroups_append : ∀ (a b : List Route), allGroups (a ++ b) = allGroups a ++ allGroups b
  | [], b => by simp [allGroups]
  | x :: xs, b => by simp [allGroups, allGroups_append xs b]

theorem mem_allGroups_strip (q : Option Nat) (rs : List Route) (g : Nat) (hne : g ≠ 0)
    (h : g ∈ allGroups (stripRoutes q ++ rs)) : g ∈ allGroups rs := by
  revert h
  fun_cases stripRoutes q
  · intro h
    simp only [List.cons_append, List.nil_append, allGroups, allGroupsRoute, allGroupsHandlers, allGroupsHandler,
      List.append_nil, List.mem_cons] at h
    exact h.resolve_left hne
  · exact id

theorem drawGroups_bounds (n c : Nat) :
    c < (drawGroups n c).2 ∧
    ((drawGroups n c).1 = 0 ∨ (c < (drawGroups n c).1 ∧ (drawGroups n c).1 ≤ (drawGroups n c).2)) ∧
    ((drawGroups n c).1 = 0 → n ≤ 1) := by
  unfold drawGroups; split <;> simp <;> omega

/-- every group name drawn while a list of directives is adapted with the counter at `c` lies in
    `(c, c']`, where `c'` is the counter afterwards -/
def FreshIn (rs : List Route) (c c' : Nat) : Prop := c ≤ c' ∧ ∀ g ∈ allGroups rs, g ≠ 0 → c < g ∧ g ≤ c'

theorem FreshIn.append {a b : List Route} {c c1 c2 : Nat} (ha : FreshIn a c c1) (hb : FreshIn b c1 c2) :
    FreshIn (a ++ b) c c2 := by
  refine ⟨Nat.le_trans ha.1 hb.1, fun g hg hne => ?_⟩
  rw [allGroups_append] at hg
  rcases List.mem_append.mp hg with h | h
  · exact ⟨(ha.2 g h hne).1, Nat.le_trans (ha.2 g h hne).2 hb.1⟩
  · exact ⟨Nat.lt_of_le_of_lt ha.1 (hb.2 g h hne).1, (hb.2 g h hne).2⟩

mutual
theorem adaptNode_fresh : ∀ (n : Node) (c : Nat), FreshIn [(adaptNode n c).1] c (adaptNode n c).2
  | .respond st, c => by
    simp only [adaptNode]
    split <;> simp [FreshIn, allGroups, allGroupsRoute, allGroupsHandlers, allGroupsHandler]
  | .handle p body, c => by
    have ih := adaptNodes_fresh body c
    simp only [adaptNode]
    generalize adaptNodes body c = res at ih
    obtain ⟨rs, c1⟩ := res
    have hd := drawGroups_bounds (body.filter Node.isHandle).length c1
    refine ⟨Nat.le_trans ih.1 (Nat.le_of_lt hd.1), fun g hg hne => ?_⟩
    simp only [allGroups, allGroupsRoute, allGroupsHandlers, allGroupsHandler, List.append_nil, List.mem_cons] at hg
    -- `g` is not the route's own (empty) group, so it is the body's group or a name drawn inside the body
    have h1 := mem_allGroups_consolidate _ g (mem_allGroups_strip _ _ g hne (hg.resolve_left hne))
    rcases mem_allGroups_setGroups _ body rs g h1 with h2 | h2
    · have h3 := (h2 ▸ hd.2.1).resolve_left hne
      exact ⟨Nat.lt_of_le_of_lt ih.1 h3.1, h3.2⟩
    · exact ⟨(ih.2 g h2 hne).1, Nat.le_trans (ih.2 g h2 hne).2 (Nat.le_of_lt hd.1)⟩
theorem adaptNodes_fresh : ∀ (ns : List Node) (c : Nat), FreshIn (adaptNodes ns c).1 c (adaptNodes ns c).2
  | [], c => ⟨Nat.le_refl c, fun _ hg => nomatch hg⟩
  | n :: ns, c => (adaptNode_fresh n c).append (adaptNodes_fresh ns (adaptNode n c).2)
end

/-- **the group a body's `handle` blocks share is new**: it is different from every group name
    used anywhere inside those blocks (and inside anything adapted before).  Together with
    `first_of_group_only` / `applicable_grouped_route_marks_group` this is what makes "only the
    first matching handle of a body is evaluated" hold level by level although the group set is
    global to the request. -/
theorem handle_body_group_is_new (body : List Node) (c : Nat) (g : Nat)
    (hg : g ∈ allGroups (adaptNodes body c).1) (hne : g ≠ 0) :
    g ≠ (drawGroups (body.filter Node.isHandle).length (adaptNodes body c).2).1 ∨
      (drawGroups (body.filter Node.isHandle).length (adaptNodes body c).2).1 = 0 := by
  have h := (adaptNodes_fresh body c).2 g hg hne
  have hd := drawGroups_bounds (body.filter Node.isHandle).length (adaptNodes body c).2
  rcases hd.2.1 with h0 | h1
  · exact Or.inr h0
  · left; omega

theorem runRoutes_consolidateStep (rt : Route) (acc : List Route) (k : K) :
    runRoutes (consolidateStep rt acc) k = runRoutes (rt :: acc) k := by
  fun_cases consolidateStep rt acc
  · simp only [runRoutes, runRoute_plain, handlers_chain_in_order]
  · rfl

/-- `consolidateRoutes` is invisible to routing: merging two adjacent matcher-less, group-less,
    non-terminal routes into one route with the handlers of both changes no chain. -/
theorem consolidate_preserves_behaviour : ∀ (rs : List Route) (k : K), runRoutes (consolidate rs) k = runRoutes rs k
  | [], _ => rfl
  | rt :: rs, k =>
    (runRoutes_consolidateStep rt (consolidate rs) k).trans
      (congrArg (runRoute rt) (consolidate_preserves_behaviour rs k))

/-- `handle /a/b { handle /a/b { respond 201 }  handle { respond 202 }  respond 203 }
     handle /a { respond 204 }   handle { handle /c { respond 205 } }   respond 206` -/
def wHandleSite : List Node :=
  [ .handle (some 2) [.handle (some 2) [.respond 201], .handle none [.respond 202], .respond 203],
    .handle (some 1) [.respond 204],
    .handle none [.handle (some 4) [.respond 205]],
    .respond 206 ]

def nodeMatches : Option Nat → Nat → Bool
  | none, _ => true
  | some q, p => [q].contains p

mutual
/-- the Caddyfile read as written: `(answer, has a handle of this body been evaluated now?)` -/
def evalNode : Node → Bool → Nat → Option Nat × Bool
  | .respond st, taken, _ => (some st, taken)
  | .handle q body, taken, p =>
    if taken || !nodeMatches q p then (none, taken) else (evalNodes body false p, true)
/-- of the `handle` blocks of one body only the first whose matcher matches is evaluated; what it
    does not answer goes on to the `respond` behind the blocks, then up -/
def evalNodes : List Node → Bool → Nat → Option Nat
  | [], _, _ => none
  | n :: ns, taken, p =>
    match evalNode n taken p with
    | (some st, _) => some st
    | (none, tk) => evalNodes ns tk p
end

mutual
def nodesNoHints : List Node → Bool
  | [] => true
  | n :: ns => nodeNoHints n && nodesNoHints ns
def nodeNoHints : Node → Bool
  | .respond st => st != 103 && decide (st < 1000)
  | .handle q body => q != some 100 && nodesNoHints body      -- no `handle_path` either
end

example : evalNodes wHandleSite false 2 = some 201 ∧ evalNodes wHandleSite false 3 = some 206 := by decide

/-! ### with `handle_path` and `error`: the path is threaded through the reading -/

def nodeMatchesP : Option Nat → Nat → Bool
  | none, _ => true
  | some q, p => if q = 100 then [2, 5].contains p else [q].contains p

def enterPath (q : Option Nat) (p : Nat) : Nat := if q = some 100 then stripPath p else p

mutual
def evalNodeP : Node → Bool → Nat → Option Nat × Bool × Nat
  | .respond st, taken, p => (some st, taken, p)
  | .handle q body, taken, p =>
    if taken || !nodeMatchesP q p then (none, taken, p)
    else ((evalNodesP body false (enterPath q p)).1, true, (evalNodesP body false (enterPath q p)).2)
def evalNodesP : List Node → Bool → Nat → Option Nat × Nat
  | [], _, p => (none, p)
  | n :: ns, taken, p =>
    match evalNodeP n taken p with
    | (some st, _, p') => (some st, p')
    | (none, tk, p') => evalNodesP ns tk p'
end

mutual
def nodesPlain : List Node → Bool
  | [] => true
  | n :: ns => nodePlain n && nodesPlain ns
def nodePlain : Node → Bool
  -- 103 is no answer (`early_hints_pass_the_request_on`); 1000 is `error 0`
  | .respond st => st != 103 && st != 1000
  | .handle _ body => nodesPlain body
end

/-! ### the adapted routes against the reading

Induction over the site.  The counter is `c` before a list of directives is adapted and `c'` after; the
names drawn on the way lie in `(c, c']` (`FreshIn`).  Since the group set belongs to the request and not
to a nesting level, the statement carries what is marked already: nothing in `(c, c']` (`Disj`), and the
name `g` of the enclosing body iff a block of that body has been evaluated (`taken`).  A run that passes
the request on marks names from `(c, c']` and possibly `g`, nothing else (`ExtP`).  A body without a name (`g = 0`) has
at most one block: the fourth hypothesis.  `OutcomeP`'s last argument is what a node hands on to its siblings (`taken`
afterwards iff `g` is marked). -/

def Disj (gs : List Nat) (lo hi : Nat) : Prop := ∀ x ∈ gs, x ≤ lo ∨ hi < x

/-- what an answer `st` of the as-written reading means for the chain: statuses from 1000 on are
    the `error` directive -/
def Answered (st : Nat) (out : Out) (t : Trace) : Prop :=
  if st ≥ 1000 then ∃ r'', out = .err t (st - 1000) r'' else out = .done t (some st)

def ExtP (r r' : Req) (p' lo hi g : Nat) : Prop :=
  r'.path = p' ∧ (∀ x ∈ r.groups, x ∈ r'.groups) ∧
    (∀ x ∈ r'.groups, x ∈ r.groups ∨ (lo < x ∧ x ≤ hi) ∨ (x = g ∧ g ≠ 0))

def OutcomeP (res : Option Nat) (p' : Nat) (out : Out) (k : K) (r : Req) (t : Trace) (lo hi g : Nat)
    (P : Req → Prop) : Prop :=
  match res with
  | some st => Answered st out t
  | none => ∃ r', out = k r' t ∧ ExtP r r' p' lo hi g ∧ P r'

theorem ExtP.refl (r : Req) (lo hi g : Nat) : ExtP r r r.path lo hi g :=
  ⟨rfl, fun _ h => h, fun _ h => Or.inl h⟩

theorem ExtP.trans {r r' r'' : Req} {p' p'' lo mid hi g : Nat} (h1 : ExtP r r' p' lo mid g)
    (h2 : ExtP r' r'' p'' mid hi g) (hlm : lo ≤ mid) (hmh : mid ≤ hi) : ExtP r r'' p'' lo hi g := by
  refine ⟨h2.1, fun x hx => h2.2.1 x (h1.2.1 x hx), fun x hx => ?_⟩
  rcases h2.2.2 x hx with h | h | h
  · rcases h1.2.2 x h with h' | h' | h'
    · exact Or.inl h'
    · exact Or.inr (Or.inl ⟨h'.1, by omega⟩)
    · exact Or.inr (Or.inr h')
  · exact Or.inr (Or.inl ⟨by omega, h.2⟩)
  · exact Or.inr (Or.inr h)

theorem Disj.mono {gs : List Nat} {lo hi hi' : Nat} (h : Disj gs lo hi) (hh : hi' ≤ hi) : Disj gs lo hi' :=
  fun x hx => (h x hx).imp id (by omega)

theorem Disj.not_mem {gs : List Nat} {lo hi x : Nat} (h : Disj gs lo hi) (h1 : lo < x) (h2 : x ≤ hi) : x ∉ gs :=
  fun hx => (h x hx).elim (by omega) (by omega)

theorem ExtP.disj {r r' : Req} {p' lo mid hi g : Nat} (h : ExtP r r' p' lo mid g) (hd : Disj r.groups lo hi)
    (hlm : lo ≤ mid) (hg : g ≠ 0 → hi < g) : Disj r'.groups mid hi := by
  intro x hx
  rcases h.2.2 x hx with h | h | h
  · exact (hd x h).imp (by omega) id
  · exact Or.inl h.2
  · exact Or.inr (h.1 ▸ hg h.2)

theorem Disj.mark {r : Req} {g lo hi : Nat} (hd : Disj r.groups lo hi) (hg : g ≠ 0 → hi < g) :
    Disj (markGroup g r).groups lo hi := by
  intro x hx
  rcases mem_markGroup.mp hx with ⟨rfl, hne⟩ | hx
  · exact Or.inr (hg hne)
  · exact hd x hx

theorem anyMatch_handleSets (q : Option Nat) (r : Req) : anyMatch (handleSets q) r = .ok (nodeMatchesP q r.path) := by
  cases q with
  | none => rfl
  | some v =>
    by_cases hv : v = 100 <;> simp only [handleSets, nodeMatchesP, hv, if_true, if_false] <;> exact anyMatch_atom .path _ r

/-- the request inside a block: group marked, prefix stripped by `handle_path` -/
def enterReq (q : Option Nat) (g : Nat) (r : Req) : Req :=
  let m := markGroup g r
  { m with path := enterPath q r.path, uri := if q = some 100 then requestLineOf (stripPath r.path) else m.uri }

theorem run_block (q : Option Nat) (X : List Route) (g : Nat) (k : K) (r : Req) (t : Trace) :
    runHandler (.sub (stripRoutes q ++ consolidate X) false []) k (markGroup g r) t
      = runRoutes X k (enterReq q g r) t := by
  rw [subroute_same_rules, routes_in_order, consolidate_preserves_behaviour]
  unfold enterReq enterPath
  fun_cases stripRoutes q
  · simp only [runRoutes, runRoute_plain, runHandlers, runHandler, if_true, markGroup_path]
  · rename_i hq
    simp only [runRoutes, if_neg hq, ← markGroup_path g r]

/-- what the body of a block marked, seen from outside: the body's own group `gb ∈ (cb, c2]` is one
    more fresh name, and the block's group `g` is marked -/
theorem ExtP.of_body {r rin r2 : Req} {p' c cb c2 g gb : Nat} (hring : rin.groups = (markGroup g r).groups)
    (h : ExtP rin r2 p' c cb gb) (hgb : gb = 0 ∨ (cb < gb ∧ gb ≤ c2)) (hc : c ≤ cb) (hcb : cb ≤ c2) :
    ExtP r r2 p' c c2 g ∧ (g ≠ 0 → g ∈ r2.groups) := by
  obtain ⟨hp, hsub, hsup⟩ := h
  rw [hring] at hsub hsup
  refine ⟨⟨hp, fun x hx => hsub x (mem_markGroup.mpr (Or.inr hx)), fun x hx => ?_⟩,
    fun hne => hsub g (mem_markGroup.mpr (Or.inl ⟨rfl, hne⟩))⟩
  rcases hsup x hx with h | h | h
  · exact (mem_markGroup.mp h).elim (fun h => Or.inr (Or.inr h)) Or.inl
  · exact Or.inr (Or.inl ⟨h.1, by omega⟩)
  · rcases hgb with h' | h'
    · exact absurd h' h.2
    · exact Or.inr (Or.inl (by omega))

theorem evalNodeP_none {n : Node} {taken : Bool} {p : Nat} (h : (evalNodeP n taken p).1 = none) : n.isHandle = true := by
  cases n with
  | respond st => simp [evalNodeP] at h
  | handle q b => rfl

mutual
theorem adaptNode_semP : ∀ (n : Node) (c g : Nat) (taken : Bool) (k : K) (r : Req) (t : Trace),
    nodePlain n = true →
    Disj r.groups c (adaptNode n c).2 →
    (g ≠ 0 → (adaptNode n c).2 < g ∧ (taken = true ↔ g ∈ r.groups)) →
    (g = 0 → n.isHandle = true → taken = false) →
    OutcomeP (evalNodeP n taken r.path).1 (evalNodeP n taken r.path).2.2
      (runRoute (if n.isHandle then (adaptNode n c).1.withGroup g else (adaptNode n c).1) k r t) k r t
      c (adaptNode n c).2 g
      (fun r' => g ≠ 0 → ((evalNodeP n taken r.path).2.1 = true ↔ g ∈ r'.groups))
  | .respond st, c, g, taken, k, r, t, hh, hd, hg, h0 => by
    simp only [nodePlain, bne_iff_ne, ne_eq, Bool.and_eq_true] at hh
    by_cases hlt : st ≥ 1000 <;>
      simp [adaptNode, Node.isHandle, evalNodeP, OutcomeP, Answered, runRoute_plain, runHandlers, runHandler,
        raiseStatus, answerStep, Src.resolve, hh.1, hlt]
  | .handle q body, c, g, taken, k, r, t, hh, hd, hg, h0 => by
    simp only [nodePlain] at hh
    have hfb := adaptNodes_fresh body c
    have ihb := adaptNodes_semP body c
    simp only [adaptNode, Node.isHandle, if_true, Route.withGroup] at hd hg ⊢
    generalize adaptNodes body c = resb at hd hg hfb ihb ⊢
    obtain ⟨rsb, cb⟩ := resb
    have hdg := drawGroups_bounds (body.filter Node.isHandle).length cb
    generalize drawGroups (body.filter Node.isHandle).length cb = dg at hd hg hdg ⊢
    obtain ⟨gb, c2⟩ := dg
    simp only at hd hg hfb ihb hdg ⊢
    have hm := anyMatch_handleSets q r
    simp only [evalNodeP]
    cases hq : nodeMatchesP q r.path with
    | false =>
      rw [hq] at hm
      rw [inapplicable_route_is_skipped _ _ _ _ _ _ _ hm]
      simp only [Bool.not_false, Bool.or_true, if_true, OutcomeP]
      exact ⟨r, rfl, ExtP.refl _ _ _ _, fun hne => (hg hne).2⟩
    | true =>
      rw [hq] at hm
      cases taken with
      | true =>
        -- a block of this body has been evaluated: the group is marked, the route is skipped
        have hgne : g ≠ 0 := fun h => Bool.noConfusion (h0 h rfl)
        have hin : g ∈ r.groups := (hg hgne).2.mp rfl
        rw [first_of_group_only _ _ _ _ _ _ _ hgne hin hm]
        simp only [Bool.true_or, if_true, OutcomeP]
        exact ⟨r, rfl, ExtP.refl _ _ _ _, fun _ => iff_of_true trivial hin⟩
      | false =>
        have hgd : groupDone g r = false := Bool.eq_false_iff.mpr fun h =>
          have ⟨hne, hin⟩ := (groupDone_iff g r).mp h
          Bool.noConfusion ((hg hne).2.mpr hin)
        rw [runRoute_entered _ _ _ _ _ _ _ hm hgd]
        simp only [Bool.false_or, Bool.not_true, Bool.false_eq_true, if_false, runHandlers, run_block]
        -- the names marked so far avoid `(c, c2]`, in particular the body's own group `gb ∈ (cb, c2]`
        have hdm : Disj (enterReq q g r).groups c c2 := hd.mark fun hne => (hg hne).1
        have hgb : gb ≠ 0 → cb < gb ∧ (false = true ↔ gb ∈ (enterReq q g r).groups) := fun hne =>
          have ⟨h1, h2⟩ := hdg.2.1.resolve_left hne
          ⟨h1, fun hf => Bool.noConfusion hf, fun hin => absurd hin (hdm.not_mem (Nat.lt_of_le_of_lt hfb.1 h1) h2)⟩
        have hin := ihb gb false k (enterReq q g r) t hh (hdm.mono (Nat.le_of_lt hdg.1)) hgb hdg.2.2
        have hp : (enterReq q g r).path = enterPath q r.path := rfl
        rw [hp] at hin
        revert hin
        cases (evalNodesP body false (enterPath q r.path)).1 with
        | some st => exact id
        | none =>
          intro ⟨r2, he, hext, _⟩
          have := hext.of_body rfl hdg.2.1 hfb.1 (Nat.le_of_lt hdg.1)
          exact ⟨r2, he, this.1, fun hne => iff_of_true trivial (this.2 hne)⟩
theorem adaptNodes_semP : ∀ (ns : List Node) (c g : Nat) (taken : Bool) (k : K) (r : Req) (t : Trace),
    nodesPlain ns = true →
    Disj r.groups c (adaptNodes ns c).2 →
    (g ≠ 0 → (adaptNodes ns c).2 < g ∧ (taken = true ↔ g ∈ r.groups)) →
    (g = 0 → (ns.filter Node.isHandle).length ≤ if taken = true then 0 else 1) →
    OutcomeP (evalNodesP ns taken r.path).1 (evalNodesP ns taken r.path).2
      (runRoutes (setGroups g ns (adaptNodes ns c).1) k r t) k r t c (adaptNodes ns c).2 g (fun _ => True)
  | [], c, g, taken, k, r, t, _, _, _, _ => ⟨r, rfl, ExtP.refl _ _ _ _, trivial⟩
  | n :: ns, c, g, taken, k, r, t, hh, hd, hg, h0 => by
    simp only [nodesPlain, Bool.and_eq_true] at hh
    have ihn := adaptNode_semP n c g taken
    have hmn := (adaptNode_fresh n c).1
    simp only [adaptNodes] at hd hg ⊢
    generalize adaptNode n c = r1 at hd hg ihn hmn ⊢
    obtain ⟨rt, c1⟩ := r1
    have ihs := adaptNodes_semP ns c1 g
    have hms := (adaptNodes_fresh ns c1).1
    generalize adaptNodes ns c1 = r2 at hd hg ihs hms ⊢
    obtain ⟨rts, c2⟩ := r2
    simp only at hd hg ihn ihs hmn hms ⊢
    simp only [setGroups, runRoutes, evalNodesP]
    -- with no group name (at most one block in the body) a block is never behind an evaluated one
    have h01 : g = 0 → n.isHandle = true → taken = false := by
      intro hz hnh
      have := h0 hz
      cases taken with
      | false => rfl
      | true => simp [List.filter, hnh] at this
    have hnode := ihn (runRoutes (setGroups g ns rts) k) r t hh.1 (hd.mono hms)
      (fun hne => ⟨Nat.lt_of_le_of_lt hms (hg hne).1, (hg hne).2⟩) h01
    revert hnode
    cases hev : evalNodeP n taken r.path with
    | mk res rest =>
      obtain ⟨tk, p1⟩ := rest
      cases res with
      | some st => exact id
      | none =>
        intro ⟨r', he, hext, htk⟩
        have hnh : n.isHandle = true := evalNodeP_none (by rw [hev])
        have h02 : g = 0 → (ns.filter Node.isHandle).length ≤ if tk = true then 0 else 1 := by
          intro hz
          have hc := h0 hz
          rw [h01 hz hnh] at hc
          simp only [List.filter, hnh, List.length_cons, Bool.false_eq_true, if_false] at hc
          split <;> omega
        have hrest := ihs tk k r' t hh.2 (hext.disj hd hmn fun hne => (hg hne).1)
          (fun hne => ⟨(hg hne).1, htk hne⟩) h02
        rw [hext.1] at hrest
        simp only [OutcomeP, he]
        revert hrest
        cases (evalNodesP ns tk p1).1 with
        | some st => exact id
        | none => exact fun ⟨r'', he2, hext2, _⟩ => ⟨r'', he2, hext.trans hext2 hmn hms, trivial⟩
end

def writtenStatus : Option Nat → Option Nat
  | none => none
  | some st => some (if st ≥ 1000 then writeStatus (some (st - 1000)) else st)

/-- **a site of `handle` / `handle_path` blocks with `respond` and `error` means what it says**:
    the adapted routes answer every request with exactly what the Caddyfile read as written
    prescribes — of the blocks of one body only the first whose matcher matches is evaluated, at
    every level; `handle_path` strips its prefix for everything that follows; an `error` ends
    routing with its status (no error routes here). -/
theorem site_behaves_as_written (ns : List Node) (req : Req) (hh : nodesPlain ns = true) :
    serve (adaptSite ns) false [] req = ⟨[], writtenStatus (evalNodesP ns false req.path).1⟩ := by
  rw [← subroute_wrap_invariant]
  have h := adaptNode_semP (.handle none ns) 0 0 false emptyK
    { req with groups := [], ctxErr := none, replStatus := none } [] (by simpa [nodePlain] using hh)
    (fun x hx => nomatch hx) (fun hne => absurd rfl hne) (fun _ _ => rfl)
  -- a site is the body of a matcher-less `handle` at counter 0
  have hs : (adaptNode (.handle none ns) 0).1 = .mk 0 [] [.sub (adaptSite ns) false []] false := by
    rw [adaptNode]; rfl
  simp only [Node.isHandle, if_true, evalNodeP, nodeMatchesP, Bool.false_or, Bool.not_true, Bool.false_eq_true,
    if_false, enterPath, reduceCtorEq, hs, Route.withGroup] at h
  revert h
  cases (evalNodesP ns false req.path).1 with
  | some st =>
    simp only [OutcomeP, Answered, writtenStatus]
    split
    · exact fun ⟨r'', he⟩ => error_without_error_routes [_] req r'' [] _ he
    · exact fun he => serve_of_done (routes := [_]) he
  | none => exact fun ⟨r', he, _, _⟩ => serve_of_done (routes := [_]) he

mutual
theorem nodeNoHints_plain : ∀ (n : Node), nodeNoHints n = true →
    nodePlain n = true ∧ ∀ taken p,
      evalNodeP n taken p = ((evalNode n taken p).1, (evalNode n taken p).2, p) ∧
      ∀ st, (evalNode n taken p).1 = some st → st < 1000
  | .respond st, h => by
    simp only [nodeNoHints, Bool.and_eq_true, bne_iff_ne, ne_eq, decide_eq_true_eq] at h
    refine ⟨by simp [nodePlain, h.1]; omega, fun taken p => ⟨rfl, fun st' hs => ?_⟩⟩
    cases hs; exact h.2
  | .handle q body, h => by
    simp only [nodeNoHints, Bool.and_eq_true, bne_iff_ne, ne_eq] at h
    obtain ⟨hb, ih⟩ := nodesNoHints_plain body h.2
    refine ⟨by simpa [nodePlain] using hb, fun taken p => ?_⟩
    have hm : nodeMatchesP q p = nodeMatches q p := by
      cases q with
      | none => rfl
      | some v => have : v ≠ 100 := fun e => h.1 (by rw [e]); simp [nodeMatchesP, nodeMatches, this]
    simp only [evalNodeP, evalNode, hm, enterPath, h.1, if_false]
    split
    · exact ⟨rfl, fun st hs => by cases hs⟩
    · exact ⟨by rw [(ih false p).1], (ih false p).2⟩
theorem nodesNoHints_plain : ∀ (ns : List Node), nodesNoHints ns = true →
    nodesPlain ns = true ∧ ∀ taken p,
      evalNodesP ns taken p = (evalNodes ns taken p, p) ∧ ∀ st, evalNodes ns taken p = some st → st < 1000
  | [], _ => ⟨rfl, fun _ _ => ⟨rfl, fun _ hs => by cases hs⟩⟩
  | n :: ns, h => by
    simp only [nodesNoHints, Bool.and_eq_true] at h
    obtain ⟨hn, ihn⟩ := nodeNoHints_plain n h.1
    obtain ⟨hns, ihs⟩ := nodesNoHints_plain ns h.2
    refine ⟨by simp [nodesPlain, hn, hns], fun taken p => ?_⟩
    have h1 := ihn taken p
    simp only [evalNodesP, evalNodes, h1.1]
    revert h1
    cases evalNode n taken p with
    | mk res tk =>
      cases res with
      | some st => exact fun h1 => ⟨rfl, fun st' hs => h1.2 st' (by simpa using hs)⟩
      | none => exact fun _ => ihs tk p
end

/-- **a site of `handle` blocks means what it says**: through the adapter's group names, its
    consolidation of routes and the request-global group set, a site of nested `handle` blocks
    answers every request with exactly what the Caddyfile read as written prescribes — of the
    `handle` blocks of one body only the first whose matcher matches is evaluated, at every level. -/
theorem handle_site_behaves_as_written (ns : List Node) (req : Req) (hh : nodesNoHints ns = true) :
    serve (adaptSite ns) false [] req = ⟨[], evalNodes ns false req.path⟩ := by
  obtain ⟨hp, he⟩ := nodesNoHints_plain ns hh
  rw [site_behaves_as_written ns req hp, (he false req.path).1]
  cases h : evalNodes ns false req.path with
  | none => rfl
  | some st =>
    have : ¬ st ≥ 1000 := Nat.not_le.mpr ((he false req.path).2 st h)
    simp [writtenStatus, this]

example : (evalNodesP [.handle (some 100) [.handle (some 3) [.respond 201], .respond 1404]] false 2).1 = some 201 ∧
    (evalNodesP [.handle (some 100) [.handle (some 3) [.respond 201], .respond 1404]] false 5).1 = some 1404 := by decide


-- the group names the adapter draws (group2 inside, group7 outside; a lone handle gets none)
example : allGroups (adaptSite wHandleSite) = [8, 3, 0, 3, 0, 0, 8, 0, 8, 0, 0, 0] := by decide +kernel
example : (serve (adaptSite wHandleSite) false [] ⟨0, 0, 2, 0, [], none, none, 2, []⟩).status = some 201 := by decide
example : (serve (adaptSite wHandleSite) false [] ⟨0, 0, 1, 0, [], none, none, 1, []⟩).status = some 204 := by decide
example : (serve (adaptSite wHandleSite) false [] ⟨0, 0, 4, 0, [], none, none, 4, []⟩).status = some 205 := by decide
example : (serve (adaptSite wHandleSite) false [] ⟨0, 0, 3, 0, [], none, none, 3, []⟩).status = some 206 := by decide

/-- both arms of the site wrapper in one equation; it holds for `routes = []` as well -/
theorem runRoutes_wrapSite (h : Nat) (routes rest : List Route) (k : K) (r : Req) (t : Trace) :
    runRoutes (wrapSite (some h) routes ++ rest) k r t
      = if r.host = h then runRoutes routes (termK r) r t else runRoutes rest k r t := by
  have hm : anyMatch (hostSets (some h)) r = .ok (decide (r.host = h)) := by
    simp [hostSets, anyMatch_atom, Req.get]
  have hw : wrapSite (some h) routes ++ rest
      = .mk 0 (hostSets (some h)) (if routes.isEmpty then [] else [.sub routes false []]) true :: rest := by
    simp [wrapSite]
  rw [hw]
  by_cases hh : r.host = h
  · rw [if_pos hh, terminal_stops _ _ _ _ _ _ _ (by simpa [hh] using hm) rfl]
    cases routes <;> simp [runHandlers, subroute_same_rules, markGroup, runRoutes]
  · rw [if_neg hh, runRoutes, inapplicable_route_is_skipped _ _ _ _ _ _ _ (by simpa [hh] using hm)]

/-- **site blocks do not cascade**: the route a site block becomes (host matcher, the site's routes
    in a subroute, `terminal: true`) gives a request for that host to the site's routes and to
    nothing else — whatever follows in the server's route list and whatever the enclosing chain
    is; the site's routes end in the empty handler (or, in the error chain, in the handler that
    writes the error's status). -/
theorem site_wrapper_takes_its_host (h : Nat) (routes rest : List Route) (k : K) (r : Req) (t : Trace)
    (hr : r.host = h) (hne : routes ≠ []) :
    runRoutes (wrapSite (some h) routes ++ rest) k r t = runRoutes routes (termK r) r t := by
  rw [runRoutes_wrapSite, if_pos hr]

theorem site_wrapper_skips_other_hosts (h : Nat) (routes rest : List Route) (k : K) (r : Req) (t : Trace)
    (hr : r.host ≠ h) :
    runRoutes (wrapSite (some h) routes ++ rest) k r t = runRoutes rest k r t := by
  rw [runRoutes_wrapSite, if_neg hr]

/-- a.test { error 404 }   :8080 { respond 299; handle_errors { respond 211 } } -/
def wTwoSites : List Site :=
  [ ⟨some 0, [.respond 1404], []⟩, ⟨none, [.respond 299], [⟨[], [.respond 211]⟩]⟩ ]

/-
OBSERVATION (not a clause of the property: the server evaluates the emitted route tree exactly by
the rules; this is about what the adapter emits).  Only sites that have `handle_errors` blocks get
a wrapper in the server's error routes, so the error of a site without any falls through to the
next wrapper whose address matches: here the 404 of a.test is answered 211 by the `handle_errors`
of the block without a host, although the Caddyfile documentation says site blocks do not inherit.
Candidate patch for the adapter: /verif/.run/fixes/C05-site-errors-stay-in-their-site.patch.
-/
theorem site_error_reaches_other_sites_handle_errors_observation :
    (adaptSites wTwoSites).map (fun x => (serve x.1 x.2.1 x.2.2 ⟨0, 0, 1, 0, [], none, none, 1, []⟩).status)
      = some (some 211) ∧
    (adaptSites [⟨some 0, [.respond 1404], []⟩]).map
        (fun x => (serve x.1 x.2.1 x.2.2 ⟨0, 0, 1, 0, [], none, none, 1, []⟩).status)
      = some (some 404) := by decide +kernel

/-- **who compiles a route list, and with which rest-of-chain** (regenerated from the source by
    tools/extract on every run): exactly these seven call sites — the server's two chains ending in
    the empty / error-empty handler (`serve`), the subroute's routes in front of the wrapped `next`
    and its error routes in front of `next` (`runHandler (.sub …)`), a named route (`inlineH`), and
    the two response-handler callers (`serveIntercepted`; reverse_proxy shares the type).  A new
    caller, or a different continuation, breaks this obligation before any test runs. -/
theorem route_compile_call_sites_match_source :
    Gen.routeCompileCalls =
      [ ("modules/caddyhttp/app.go:Provision", "srv.Routes", "emptyHandler"),
        ("modules/caddyhttp/app.go:Provision", "srv.Errors.Routes", "errorEmptyHandler"),
        ("modules/caddyhttp/intercept/intercept.go:ServeHTTP", "rec.handler.Routes", "next"),
        ("modules/caddyhttp/invoke.go:ServeHTTP", "route", "next"),
        ("modules/caddyhttp/reverseproxy/reverseproxy.go:reverseProxy", "rh.Routes", "next"),
        ("modules/caddyhttp/subroute.go:ServeHTTP", "sr.Routes", "HandlerFunc(func literal)"),
        ("modules/caddyhttp/subroute.go:ServeHTTP", "sr.Errors.Routes", "next") ] := rfl

/-- the one `Terminal:` the Caddyfile adapter writes is the site wrapper's `true` — and the model's
    wrapper is terminal -/
theorem site_wrapper_terminal_matches_source :
    Gen.adapterTerminalLiterals = [("caddyconfig/httpcaddyfile/httptype.go:appendSubrouteToRouteList", "true")] ∧
    wrapSite (some 0) [.mk 0 [] [] false] = [.mk 0 [[.atom .host [0]]] [.sub [.mk 0 [] [] false] false []] true] :=
  ⟨rfl, rfl⟩

end CaddyModel.C05
