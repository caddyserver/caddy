/-
C05 — model of how the Caddyfile's `handle_errors [<codes…>] { … }` becomes the server's error
routes (caddyconfig/httpcaddyfile/builtins.go:parseHandleErrors and the `error_route` step of
httptype.go), transliterated:

  * every status argument must be 3 bytes long; `Dxx` (D a digit: `strconv.ParseUint`) is the class
    D00..D99, anything else must be three digits (`strconv.ParseUint`) and is a single code;
  * the classes become range tests joined by ` || ` in argument order, the codes (all of them,
    wherever they stood) one trailing `… in [c1, c2]`;
  * the block body is parsed as a subroute; if there is a status expression, a route of the body
    without matchers gets `MatcherSetsRaw = [{expression}]`, a route WITH matchers is kept as it is
    inside a subroute behind a route carrying the expression (before the repair every route got
    `MatcherSetsRaw = [{expression}]` and lost its own matchers: `blockRoutesOld`);
  * the blocks of a site are sorted with `sort.SliceStable` and a comparator that is not an order
    ("true unless one block is empty or i has no matcher and j has one"), i.e. by Go's insertion
    sort for up to 20 blocks, then their routes are concatenated.

Body directives here are `respond [<path>] <status>` (a `static_response` behind an optional exact
`path` matcher), listed in the order `buildSubroute`'s own sort leaves them in (longer paths first,
matcher-less last — the harness only sends bodies in that order; that sort is property C16's).

Digit parsing and Go's insertion sort are the models of property C16 (reused, not re-modelled).
-/
import CaddyModel.C05.Model
import CaddyModel.C16.Args
import CaddyModel.C16.Model

namespace CaddyModel.C05

/-- `respond [<path>] <status>` -/
structure Dir where
  path : Option Nat
  status : Nat
deriving DecidableEq, Repr

/-- one `handle_errors` block: its status arguments (raw bytes) and its body -/
structure Block where
  args : List Bytes
  dirs : List Dir
deriving Repr

/-- what the argument loop collects: the class digits (each a 1-byte string accepted by ParseUint) and
    the codes (raw 3-byte strings accepted by ParseUint) -/
structure StatusArgs where
  classes : List Bytes
  codes : List Bytes
deriving DecidableEq, Repr

def endsWithXX (val : Bytes) : Bool := val.drop (val.length - 2) == [120, 120]

/-- `strconv.ParseUint(s, 10, 16)` succeeds on these 1- and 3-byte strings iff they are digits -/
def isUint (s : Bytes) : Bool := !s.isEmpty && s.all C16.isDigit

/-- the `for _, val := range args` loop; `none` = `h.Errf("bad status value …")` -/
def parseArgs : List Bytes → StatusArgs → Option StatusArgs
  | [], acc => some acc
  | val :: rest, acc =>
    if val.length != 3 then none
    else if endsWithXX val then
      if isUint (val.take 1) then parseArgs rest { acc with classes := acc.classes ++ [val.take 1] }
      else none
    else
      if isUint val then parseArgs rest { acc with codes := acc.codes ++ [val] }
      else none

def ph : Bytes := str "{http.error.status_code}"

def joinWith (sep : Bytes) : List Bytes → Bytes
  | [] => []
  | [x] => x
  | x :: xs => x ++ sep ++ joinWith sep xs

/-- the CEL text `parseHandleErrors` builds (empty = no expression) -/
def renderExpr (a : StatusArgs) : Bytes :=
  joinWith (str " || ")
    (a.classes.map (fun d => ph ++ str " >= " ++ d ++ str "00 && " ++ ph ++ str " <= " ++ d ++ str "99")
      ++ (if a.codes.isEmpty then [] else [ph ++ str " in [" ++ joinWith (str ", ") a.codes ++ str "]"]))

def classRange (d : Bytes) : Nat × Nat :=
  (C16.digitsVal 0 d * 100, C16.digitsVal 0 d * 100 + 99)

def codeVal (c : Bytes) : Int := (C16.digitsVal 0 c : Nat)

/-- the matcher that text denotes -/
def selMatcher (a : StatusArgs) : Matcher :=
  .errSel (a.classes.map classRange) (a.codes.map codeVal)

/-- the matcher sets a body directive has of its own -/
def dirSets (d : Dir) : List (List Matcher) :=
  match d.path with
  | some p => [[.atom .path [p]]]
  | none => []

/-- the route of one body directive, as the code builds it -/
def dirRoute (a : StatusArgs) (d : Dir) : Route :=
  if a.classes.isEmpty && a.codes.isEmpty then .mk 0 (dirSets d) [.answer (.lit d.status)] false
  else match d.path with
    | none => .mk 0 [[selMatcher a]] [.answer (.lit d.status)] false
    | some _ => .mk 0 [[selMatcher a]] [.sub [.mk 0 (dirSets d) [.answer (.lit d.status)] false] false []] false

/-- the routes of one block, as the code builds them -/
def blockRoutes (a : StatusArgs) (dirs : List Dir) : List Route := dirs.map (dirRoute a)

/-- … and as the code built them BEFORE the repair: the status expression overwrote the matchers -/
def blockRoutesOld (a : StatusArgs) (dirs : List Dir) : List Route :=
  dirs.map fun d =>
    .mk 0 (if a.classes.isEmpty && a.codes.isEmpty then dirSets d else [[selMatcher a]])
      [.answer (.lit d.status)] false

/-- the route of one body directive, as the Caddyfile says: status test, then its own matcher -/
def dirRouteIntended (a : StatusArgs) (d : Dir) : Route :=
  .mk 0 (if a.classes.isEmpty && a.codes.isEmpty then dirSets d
         else match d.path with
           | some p => [[selMatcher a, .atom .path [p]]]
           | none => [[selMatcher a]])
    [.answer (.lit d.status)] false

/-- … and as the Caddyfile says: the status test in front of the directive's own matcher -/
def blockRoutesIntended (a : StatusArgs) (dirs : List Dir) : List Route := dirs.map (dirRouteIntended a)

def firstHasNoMatcher : List Route → Bool
  | .mk _ sets _ _ :: _ => sets.isEmpty
  | [] => false

/-- the comparator handed to `sort.SliceStable(errorSubrouteVals, …)` -/
def blockLess (i j : List Route) : Bool :=
  if i.isEmpty || j.isEmpty then false
  else if firstHasNoMatcher i && !firstHasNoMatcher j then false
  else true

inductive Adapted where
  | err                         -- the adapter refuses the Caddyfile
  | routes (rs : List Route)

def parseBlocks : List Block → Option (List (StatusArgs × List Dir))
  | [] => some []
  | b :: bs =>
    match parseArgs b.args ⟨[], []⟩, parseBlocks bs with
    | some a, some rest => some ((a, b.dirs) :: rest)
    | _, _ => none

/-- the server's error routes for a site with these `handle_errors` blocks -/
def adaptWith (build : StatusArgs → List Dir → List Route) (blocks : List Block) : Adapted :=
  match parseBlocks blocks with
  | none => .err
  | some ps =>
    .routes ((C16.insertionSort blockLess (ps.map fun p => build p.1 p.2)).flatten)

def adapt : List Block → Adapted := adaptWith blockRoutes
def adaptIntended : List Block → Adapted := adaptWith blockRoutesIntended
def adaptOld : List Block → Adapted := adaptWith blockRoutesOld

/-- a site `error <S>` + these blocks serving `req`; `none` = the adapter refuses the Caddyfile -/
def serveAdapted (a : Adapted) (s : Nat) (req : Req) : Option Result :=
  match a with
  | .routes errs => some (serve [.mk 0 [] [.raise (.lit s)] false] true errs req)
  | _ => none

/-! ### `handle` blocks

`handle [<path>] { … }` (httpcaddyfile: parseHandle → ParseSegmentAsSubroute → buildSubroute): the
body becomes a subroute in a route carrying the block's matcher.  `buildSubroute` makes the
`handle` directives of ONE body mutually exclusive by giving their routes a common group name —
only if there are at least two of them — drawn from a counter shared by the whole site; every
call of `buildSubroute` also draws one name for its `rewrite` directives whether there are any or
not.  Bodies are built inside out (a block is parsed when its directive is parsed), so the counter
runs in post-order.  Group `k+1` here is the name `group<k>`; 0 is no group.

Bodies are listed in the order `sortRoutes` leaves (property C16): handles with longer paths first,
the matcher-less handle last, then `respond`; no two handles of a body have the same matcher (they
would be consolidated into one route). -/

inductive Node where
  | handle (path : Option Nat) (body : List Node)
  | respond (status : Nat)

def Node.isHandle : Node → Bool
  | .handle _ _ => true
  | .respond _ => false

def Route.withGroup (g : Nat) : Route → Route
  | .mk _ sets hs term => .mk g sets hs term

def setGroups (g : Nat) : List Node → List Route → List Route
  | n :: ns, rt :: rts => (if n.isHandle then rt.withGroup g else rt) :: setGroups g ns rts
  | _, _ => []

/-- one step of `consolidateRoutes`, from the right: adjacent routes with the same matchers, the
    same `terminal` and the same group become one route with the handlers of both, in order.  With
    the bodies the harness writes (no two handles of a body share a matcher) only matcher-less,
    group-less routes can meet: a lone `handle { … }` and the `respond` behind it. -/
def consolidateStep (rt : Route) (acc : List Route) : List Route :=
  match rt, acc with
  | .mk 0 [] hs false, .mk 0 [] hs' false :: rest => .mk 0 [] (hs ++ hs') false :: rest
  | _, _ => rt :: acc

def consolidate (rs : List Route) : List Route := rs.foldr consolidateStep []

/-- the group bookkeeping of one `buildSubroute` call: counter before → (group of the handles, counter after) -/
def drawGroups (nHandles c : Nat) : Nat × Nat :=
  if nHandles > 1 then (c + 1, c + 2) else (0, c + 1)

/-- the matcher of `handle [<path>]`; path 100 is `handle_path /a/*`: the real path matcher with
    the pattern `/a/*`, which on the path alphabet matches `/a/b` and `/a/c` -/
def handleSets : Option Nat → List (List Matcher)
  | some q => if q = 100 then [[.atom .path [2, 5]]] else [[.atom .path [q]]]
  | none => []

/-- `handle_path` (rewrite/caddyfile.go:parseCaddyfileHandlePath) prepends a route with the
    `rewrite` handler stripping the prefix to the body's routes — after `buildSubroute` has
    consolidated them -/
def stripRoutes : Option Nat → List Route
  | some 100 => [.mk 0 [] [.strip] false]
  | _ => []

mutual
/-- one directive: its route (group still unset) and the counter afterwards -/
def adaptNode : Node → Nat → Route × Nat
  | .respond st, c =>
    -- statuses from 1000 on stand for the `error <st - 1000>` directive (the real `error` handler)
    (.mk 0 [] [if st ≥ 1000 then .raise (.lit (st - 1000)) else .answer (.lit st)] false, c)
  | .handle p body, c =>
    match adaptNodes body c with
    | (rs, c1) =>
      (.mk 0 (handleSets p)
          [.sub (stripRoutes p ++ consolidate (setGroups (drawGroups (body.filter Node.isHandle).length c1).1 body rs)) false []] false,
        (drawGroups (body.filter Node.isHandle).length c1).2)
def adaptNodes : List Node → Nat → List Route × Nat
  | [], c => ([], c)
  | n :: ns, c =>
    match adaptNode n c with
    | (rt, c1) =>
      match adaptNodes ns c1 with
      | (rts, c2) => (rt :: rts, c2)
end

/-- the routes of a site whose body is `nodes` -/
def adaptSite (nodes : List Node) : List Route :=
  match adaptNodes nodes 0 with
  | (rs, c1) => consolidate (setGroups (drawGroups (nodes.filter Node.isHandle).length c1).1 nodes rs)

/-! ### a whole site: `handle` blocks, `error`, and `handle_errors` blocks with `handle` blocks inside

The directives of a site are parsed in source order with ONE group counter: first the bodies of the
primary `handle` blocks (inside out), then the bodies of the `handle_errors` blocks (each body is a
`buildSubroute` of its own, drawing its groups), and only then the site's own `buildSubroute`. -/

structure EBlock where
  args : List Bytes
  body : List Node

/-- the status test put on the routes of one `handle_errors` body -/
def statusWrap (a : StatusArgs) (rs : List Route) : List Route :=
  if a.classes.isEmpty && a.codes.isEmpty then rs
  else rs.map fun rt =>
    match rt with
    | .mk g [] hs term => .mk g [[selMatcher a]] hs term
    | rt => .mk 0 [[selMatcher a]] [.sub [rt] false []] false

/-- the error-route bodies, in source order, threading the counter -/
def adaptEBlocks : List EBlock → Nat → Option (List (List Route) × Nat)
  | [], c => some ([], c)
  | b :: bs, c =>
    match parseArgs b.args ⟨[], []⟩ with
    | none => none
    | some a =>
      match adaptNodes b.body c with
      | (rs, c1) =>
        match adaptEBlocks bs (drawGroups (b.body.filter Node.isHandle).length c1).2 with
        | none => none
        | some (rest, c2) =>
          some (statusWrap a (consolidate (setGroups (drawGroups (b.body.filter Node.isHandle).length c1).1 b.body rs)) :: rest, c2)

/-- primary routes and error routes of the site; `none` = the adapter refuses it -/
def adaptFull (nodes : List Node) (ebs : List EBlock) : Option (List Route × List Route) :=
  match adaptNodes nodes 0 with
  | (rs, c1) =>
    match adaptEBlocks ebs c1 with
    | none => none
    | some (blocks, c2) =>
      some (consolidate (setGroups (drawGroups (nodes.filter Node.isHandle).length c2).1 nodes rs),
            (C16.insertionSort blockLess blocks).flatten)

/-! ### several sites on one server

`ServerType.Setup` (httptype.go) parses the directives of ALL site blocks first, in source order,
with ONE group counter for the whole Caddyfile (the bodies of `handle` / `handle_errors` blocks
draw their names then); afterwards, per server, the site blocks are sorted (longer hosts first,
the block without a host last — the harness lists them in that order, equal-length hosts stay in
source order) and each site's own `buildSubroute` draws its names.  `appendSubrouteToRouteList`
puts every site — unless it is the only block and has no host — into ONE route: the site's host
matcher, the site's routes in a subroute, and `terminal: true` ("site blocks do not cascade nor
inherit").  The error routes of a site that has `handle_errors` blocks are wrapped the same way. -/

structure Site where
  host : Option Nat
  nodes : List Node
  ebs : List EBlock

/-- what the parse phase leaves of one site: its directive routes (groups unset) and its error blocks -/
structure ParsedSite where
  host : Option Nat
  nodes : List Node
  rs : List Route
  blocks : List (List Route)
  hasErrorBlocks : Bool

def parseSites : List Site → Nat → Option (List ParsedSite × Nat)
  | [], c => some ([], c)
  | s :: ss, c =>
    match adaptNodes s.nodes c with
    | (rs, c1) =>
      match adaptEBlocks s.ebs c1 with
      | none => none
      | some (blocks, c2) =>
        match parseSites ss c2 with
        | none => none
        | some (rest, c3) => some (⟨s.host, s.nodes, rs, blocks, !s.ebs.isEmpty⟩ :: rest, c3)

def hostSets : Option Nat → List (List Matcher)
  | some h => [[.atom .host [h]]]
  | none => []

/-- `appendSubrouteToRouteList` for a block that is wrapped -/
def wrapSite (host : Option Nat) (routes : List Route) : List Route :=
  if host.isNone && routes.isEmpty then []
  else [.mk 0 (hostSets host) (if routes.isEmpty then [] else [.sub routes false []]) true]

/-- the second phase: each site's own `buildSubroute`, in (sorted) order, then the wrapping -/
def buildSites (single : Bool) : List ParsedSite → Nat → List Route × List Route
  | [], _ => ([], [])
  | p :: ps, c =>
    match buildSites single ps (drawGroups (p.nodes.filter Node.isHandle).length c).2 with
    | (prim, errs) =>
      let routes := consolidate (setGroups (drawGroups (p.nodes.filter Node.isHandle).length c).1 p.nodes p.rs)
      let eroutes := (C16.insertionSort blockLess p.blocks).flatten
      if single && p.host.isNone then (routes ++ prim, eroutes ++ errs)
      else (wrapSite p.host routes ++ prim, (if p.hasErrorBlocks then wrapSite p.host eroutes else []) ++ errs)

/-- primary routes, `srv.Errors != nil`, error routes of the server -/
def adaptSites (sites : List Site) : Option (List Route × Bool × List Route) :=
  match parseSites sites 0 with
  | none => none
  | some (ps, c) =>
    match buildSites (sites.length == 1) ps c with
    | (prim, errs) => some (prim, sites.any (fun s => !s.ebs.isEmpty), errs)

end CaddyModel.C05
