/-
C05 — the routing rules as documented, written directly (no continuations):

  * routes are tried in order;
  * a route applies iff it has no matcher sets or at least one set all of whose matchers match;
  * of the routes of one group only the first applicable one runs;
  * the handlers of an applicable route run in listed order, each one either passing the
    request on (possibly rewritten), answering it, or failing;
  * a terminal route ends routing once its handlers have passed the request on;
  * a subroute evaluates its routes by the same rules; if ITS routes fail and it has error
    routes, those are evaluated by the same rules and routing goes on behind the subroute;
  * a handler or matcher error that nobody caught diverts the request to the server's error
    routes, evaluated by the same rules on the request with its original URI;
  * what no route answers gets the empty default response.

Every function returns either `cont` ("the request was passed on, here is its state")
or `stop` ("routing is over with this outcome").
-/
import CaddyModel.C05.Model

namespace CaddyModel.C05

/-- a route applies iff no sets, or some set all of whose matchers match (as a proposition) -/
def Applies (sets : List (List Matcher)) (r : Req) : Prop :=
  sets = [] ∨ ∃ s ∈ sets, ∀ m ∈ s, evalMatcher m r = .ok true

inductive Res where
  | cont (r : Req) (t : Trace)
  | stop (o : Out)
deriving DecidableEq, Repr

def Res.bind (x : Res) (k : K) : Out :=
  match x with
  | .cont r t => k r t
  | .stop o => o

mutual
def specHandlers : List Handler → Req → Trace → Res
  | [], r, t => .cont r t
  | h :: hs, r, t =>
    match specHandler h r t with
    | .cont r' t' => specHandlers hs r' t'
    | .stop o => .stop o
def specHandler : Handler → Req → Trace → Res
  | .pass id, r, t => .cont r (t ++ [ev id r])
  | .respond id st, r, t => .stop (.done (t ++ [ev id r]) (some st))
  | .rewrite id p, r, t => .cont { r with path := p, uri := p } (t ++ [ev id r])
  | .strip, r, t => .cont { r with path := stripPath r.path, uri := requestLineOf (stripPath r.path) } t
  | .fail id st, r, t => .stop (.err (t ++ [ev id r]) st r)
  | .raise src, r, t => .stop (.err t (raiseStatus src r) r)
  | .invoke _, r, t => .stop (.err t 0 r)
  | .answer src, r, t =>
    match answerStep src r with
    | .write n => .stop (.done t (some n))
    | .hint => .cont r (t ++ [hintEv])
    | .fail => .stop (.err t 500 r)
  | .sub rs hasErrs errs, r, t =>
    match specRoutes rs r t with
    | .cont r' t' => .cont r' t'
    | .stop (.done t' s) => .stop (.done t' s)
    | .stop (.reached r' t') => .cont r' t'     -- never produced by the rules (`specRoutes_no_marker`)
    | .stop (.err t' st r') =>
      if hasErrs then specRoutes errs (catchAt r st r') t'
      else .stop (.err t' st r')
def specRoutes : List Route → Req → Trace → Res
  | [], r, t => .cont r t
  | rt :: rs, r, t =>
    match specRoute rt r t with
    | .cont r' t' => specRoutes rs r' t'
    | .stop o => .stop o
def specRoute : Route → Req → Trace → Res
  | .mk g sets hs term, r, t =>
    match anyMatch sets r with
    | .err st => .stop (.err t st r)
    | .ok false => .cont r t
    | .ok true =>
      if groupDone g r then .cont r t
      else
        match specHandlers hs (markGroup g r) t with
        | .cont r' t' => if term then .stop (termK r r' t') else .cont r' t'
        | .stop o => .stop o
end

/-- the whole request, by the documented rules -/
def eval (routes : List Route) (hasErrs : Bool) (errs : List Route) (req : Req) : Result :=
  match specRoutes routes { req with groups := [], ctxErr := none, replStatus := none } [] with
  | .cont _ t => ⟨t, none⟩                      -- nobody answered: empty default response
  | .stop (.done t s) => ⟨t, s⟩
  | .stop (.reached _ t) => ⟨t, none⟩
  | .stop (.err t st r') =>
    if hasErrs && !errs.isEmpty then
      match specRoutes errs (serverCatch req st r') t with
      | .cont r'' t2 => ⟨t2, some (writeStatus r''.ctxErr)⟩   -- error routes did not answer: error status
      | .stop (.done t2 s2) => ⟨t2, s2⟩
      | .stop (.reached _ t2) => ⟨t2, none⟩
      | .stop (.err t2 _ _) => ⟨t2, some (writeStatus (some st))⟩
    else ⟨t, some (writeStatus (some st))⟩


/-! ### which matchers can report an error (one with `mCanErr m = false` never does: `evalMatcher_noerr`) -/

mutual
def mCanErr : Matcher → Bool
  | .atom _ _ => false
  | .err _ _ => true
  | .legacy _ => false
  | .errRange _ _ => true
  | .errIn _ => false
  | .errSel ranges _ => !ranges.isEmpty
  | .not sets => setsCanErr sets
def setsCanErr : List (List Matcher) → Bool
  | [] => false
  | s :: ss => setCanErr s || setsCanErr ss
def setCanErr : List Matcher → Bool
  | [] => false
  | m :: ms => mCanErr m || setCanErr ms
end

end CaddyModel.C05
