/-
C05 — model of HTTP route evaluation as the code performs it
(modules/caddyhttp/routes.go, subroute.go, server.go, matchers.go:MatchNot).

The Go code compiles a route list into a chain of closures (`RouteList.Compile`,
`wrapRoute`, `wrapMiddleware`): every route and every handler receives "the rest of the
chain" as a `next` handler.  The model keeps exactly that shape: continuation-passing
functions `runRoutes / runRoute / runHandlers / runHandler`, one per Go function.

What travels with a request (`Req`):
  * `method host path hdr` – the fields the real `method`/`host`/`path`/`header` matchers read
    (indices into the harness alphabets); only `path` is ever rewritten;
  * `groups` – the `routeGroupCtxKey` map: ONE map per request, created in `PrepareRequest`,
    shared by the primary chain, every subroute and the error chain;
  * `replStatus` – the `http.error.status_code` placeholder in the request's replacer (ONE
    replacer per request, shared by every copy of the request): `WithError` sets it for a
    `HandlerError` and leaves it alone for any other error;
  * `uri`, `olds` – `RequestURI` is a string field of the request STRUCT, the URL sits behind a
    pointer: `WithError` (`r.WithContext`) copies the struct, so every catch creates a new request
    object that shares `path` but has its own `RequestURI`.  Running code always holds the newest
    object (`uri`); a `Subroute.ServeHTTP` frame that catches an error resumes with ITS object —
    the one that was newest when the frame was entered (`olds` keeps those) — and copies that;
  * `ctxErr` – the `ErrorCtxKey` context value put there by `HTTPErrorConfig.WithError`
    (`some st`, `st = 0` meaning "an error that is not a `HandlerError`").

Go `error` return values are the `Out.err` outcome; it carries the request state at the moment
of failure because URL and group map are shared by pointer and stay mutated.
-/
namespace CaddyModel.C05

inductive Field where
  | method | host | path | header
deriving DecidableEq, Repr

structure Req where
  method : Nat
  host : Nat
  path : Nat
  hdr : Nat
  groups : List Nat := []
  ctxErr : Option Nat := none
  replStatus : Option Nat := none
  uri : Nat                     -- `RequestURI` of the CURRENT request object
  olds : List Nat := []         -- `RequestURI` of every older request object, in creation order
deriving DecidableEq, Repr

def Req.get (r : Req) : Field → Nat
  | .method => r.method
  | .host => r.host
  | .path => r.path
  | .header => r.hdr

/-- one probe-handler invocation: which handler, the URL path it saw, the context error it saw,
    the `{http.error.status_code}` placeholder it saw, the `RequestURI` it saw -/
structure Ev where
  id : Nat
  path : Nat
  err : Option Nat
  repl : Option Nat
  uri : Nat
deriving DecidableEq, Repr

abbrev Trace := List Ev

def ev (id : Nat) (r : Req) : Ev := ⟨id, r.path, r.ctxErr, r.replStatus, r.uri⟩

/-- `HTTPErrorConfig.WithError(r, err)`: the error goes into the context of a shallow copy of the
    request; `http.error.status_code` is set in the shared replacer only `if handlerErr, ok :=
    err.(HandlerError)` (status 0 = not a `HandlerError`). -/
def withError (st : Nat) (r : Req) : Req :=
  { r with ctxErr := some st, replStatus := if st = 0 then r.replStatus else some st }

/-- `RequestURI` of request object number `i` (objects are numbered in creation order; the
    current one is number `olds.length`) -/
def objUri (r : Req) (i : Nat) : Option Nat := (r.olds ++ [r.uri])[i]?

/-- a shallow copy of a request object whose `RequestURI` is `u` becomes the current object -/
def newObject (u : Nat) (r : Req) : Req := { r with olds := r.olds ++ [r.uri], uri := u }

/-- the `RequestURI` a `Subroute.ServeHTTP` frame finds in ITS request when it catches an error:
    `frame` is the state in which the frame was entered, `r'` the state at the failure.  The
    fallback is never used (`Props.frame_object_always_exists`). -/
def frameUri (frame r' : Req) : Nat := (objUri r' frame.olds.length).getD frame.uri

/-- Subroute.ServeHTTP on an error of its own routes: `r = sr.Errors.WithError(r, err)` with the
    frame's `r` — shared URL and group map as mutated, the frame's own `RequestURI` -/
def catchAt (frame : Req) (st : Nat) (r' : Req) : Req := withError st (newObject (frameUri frame r') r')

/-- Server.ServeHTTP on an error: `r.RequestURI = origReq.RequestURI; cloneURL(origReq.URL, r.URL)`
    on the server's request object, then `s.Errors.WithError(r, err)` -/
def serverCatch (req : Req) (st : Nat) (r' : Req) : Req :=
  withError st (newObject req.uri { r' with path := req.path })

/-- `strip_path_prefix "/a"` on the path alphabet `/ /a /a/b /b /c /a/c` (0…5): `/a/b ↦ /b`,
    `/a/c ↦ /c`, `/a ↦ ""` (index 6: the empty path, which no request has and no matcher lists),
    everything else unchanged — except that the handler first CLEANS the path and `path.Clean("")`
    is `.` (index 7): stripping an already empty path yields `.` -/
def stripPath : Nat → Nat
  | 1 => 6
  | 2 => 3
  | 5 => 4
  | 6 => 7
  | p => p

/-- `r.URL.RequestURI()`: the empty path is written `/` in the request line -/
def requestLineOf (p : Nat) : Nat := if p = 6 then 0 else p

/-- where a real `error` / `static_response` handler takes its status from (`status_code`, a
    `WeakString` expanded by the replacer and parsed with `strconv.Atoi`) -/
inductive Src where
  | empty            -- not configured
  | lit (n : Nat)    -- a number
  | errCode          -- "{http.error.status_code}"
  | bad              -- text that is not a number
deriving DecidableEq, Repr

/-- `strconv.Atoi(repl.ReplaceAll(codeStr, ""))`; `none` = Atoi failed (an unset placeholder
    expands to the empty string) -/
def Src.resolve : Src → Req → Option Nat
  | .empty, _ => none
  | .lit n, _ => some n
  | .errCode, r => r.replStatus
  | .bad, _ => none

/-- StaticError.ServeHTTP: default 500; a status that does not parse is a 500 as well -/
def raiseStatus (src : Src) (r : Req) : Nat :=
  match src with
  | .empty => 500
  | _ => (src.resolve r).getD 500

/-- StaticResponse.ServeHTTP without `status_code`: 200, or "the recommended status code" of the
    `HandlerError` in the request context -/
def answerDefault (r : Req) : Nat :=
  match r.ctxErr with
  | some st => if st = 0 then 200 else st
  | none => 200

/-- what StaticResponse.ServeHTTP does once it has its status: answer; or, for 103 Early Hints,
    write the interim header and `return next.ServeHTTP(w, r)`; or fail (`Atoi` error → 500) -/
inductive AnswerStep where
  | write (n : Nat)
  | hint
  | fail
deriving DecidableEq, Repr

def answerStep (src : Src) (r : Req) : AnswerStep :=
  match src with
  | .empty => .write (answerDefault r)
  | _ =>
    match src.resolve r with
    | some n => if n = 103 then .hint else .write n
    | none => .fail

/-- the trace entry of an interim `WriteHeader(103)` (no probe, no request data) -/
def hintEv : Ev := ⟨0, 999, none, none, 999⟩   -- no probe event has this path

/-- request matchers. `atom f vals` is a real `host`/`path`/`method`/`header` matcher configured
    with exact values; `err kind st` is a matcher that reports an error (kind 0: `(false, err)`,
    kind 1: `(true, err)`, kind 2: legacy `Match` + `MatcherErrorVarKey`); `legacy b` implements
    only the deprecated `RequestMatcher` interface and answers `b`; `not` is `MatchNot`. -/
inductive Matcher where
  | atom (f : Field) (vals : List Nat)
  | err (kind st : Nat)
  | legacy (b : Bool)
  | errRange (lo hi : Nat)       -- real `expression` matcher, what `handle_errors 4xx` adapts to:
                                 -- "{http.error.status_code} >= lo && {http.error.status_code} <= hi"
  | errIn (codes : List Nat)     -- "{http.error.status_code} in [c, …]"  (`handle_errors 404 500`)
  | errSel (ranges : List (Nat × Nat)) (codes : List Int)
                                 -- the general form `parseHandleErrors` builds: the range tests joined
                                 -- by `||`, then `|| … in [codes]` (see Adapt.lean)
  | not (sets : List (List Matcher))

/-- `(bool, error)` of the `MatchWithError` family -/
inductive MRes where
  | ok (b : Bool)
  | err (st : Nat)
deriving DecidableEq, Repr

mutual
/-- `m.MatchWithError(r)` -/
def evalMatcher : Matcher → Req → MRes
  | .atom f vals, r => .ok (vals.contains (r.get f))
  | .err _ st, _ => .err st
  | .legacy b, _ => .ok b
  | .errRange lo hi, r =>
    match r.replStatus with
    | some c => .ok (decide (lo ≤ c) && decide (c ≤ hi))
    | none => .err 0               -- CEL: "no such overload: _>=_" on the unset placeholder
  | .errIn codes, r =>
    match r.replStatus with
    | some c => .ok (codes.contains c)
    | none => .ok false
  | .errSel ranges codes, r =>
    match r.replStatus with
    | some c => .ok (ranges.any (fun p => decide (p.1 ≤ c) && decide (c ≤ p.2)) || codes.contains (c : Int))
    | none => if ranges.isEmpty then .ok false else .err 0   -- CEL: `error || false` is the error
  | .not sets, r => evalNot sets r
/-- `MatchNot.MatchWithError`: an error aborts, a matching set makes the result false -/
def evalNot : List (List Matcher) → Req → MRes
  | [], _ => .ok true
  | s :: ss, r =>
    match evalSet s r with
    | .err st => .err st
    | .ok true => .ok false
    | .ok false => evalNot ss r
/-- `MatcherSet.MatchWithError`: AND, left to right, first error or non-match returns -/
def evalSet : List Matcher → Req → MRes
  | [], _ => .ok true
  | m :: ms, r =>
    match evalMatcher m r with
    | .err st => .err st
    | .ok false => .ok false
    | .ok true => evalSet ms r
end

/-- loop of `MatcherSets.AnyMatchWithError`: OR, left to right, first error or match returns -/
def evalAny : List (List Matcher) → Req → MRes
  | [], _ => .ok false
  | s :: ss, r =>
    match evalSet s r with
    | .err st => .err st
    | .ok true => .ok true
    | .ok false => evalAny ss r

/-- `MatcherSets.AnyMatchWithError` (`return len(ms) == 0, nil` after the loop) -/
def anyMatch (sets : List (List Matcher)) (r : Req) : MRes :=
  if sets.isEmpty then .ok true else evalAny sets r

mutual
/-- `pass/respond/rewrite/fail` are the harness probe handlers; `sub` is `caddyhttp.Subroute`
    (`hasErrs = false` ⇔ `Errors == nil`; then `errs` is ignored). Status 0 in `fail` = an
    `error` that is not a `HandlerError`. -/
inductive Handler where
  | pass (id : Nat)
  | respond (id st : Nat)
  | rewrite (id p : Nat)
  | fail (id st : Nat)
  | strip                 -- the real `rewrite` handler with `strip_path_prefix: "/a"` (no probe);
                          -- this is what the Caddyfile's `handle_path /a/*` puts in front of its body
  | raise (src : Src)     -- the real `error` handler (no probe: leaves no trace event)
  | answer (src : Src)    -- the real `static_response` handler (no probe)
  | invoke (name : Nat)   -- the real `invoke` handler; in a tree handed to `run*` it stands for a
                          -- name that is NOT among the server's named routes (see `inlineNamed`)
  | sub (rs : List Route) (hasErrs : Bool) (errs : List Route)
/-- `group = 0` is the empty group name -/
inductive Route where
  | mk (group : Nat) (sets : List (List Matcher)) (hs : List Handler) (terminal : Bool)
end

/-- what `Server.ServeHTTP` / a handler chain ends with: `done` = returned nil, `status` is the
    `WriteHeader` call that happened (`none`: nothing was written — the empty default response);
    `err` = returned a Go error with HTTP status `st` (0: not a `HandlerError`). -/
inductive Out where
  | done (t : Trace) (status : Option Nat)
  | err (t : Trace) (st : Nat) (r : Req)
  | reached (r : Req) (t : Trace)   -- only inside `Subroute.ServeHTTP`: "the handler behind the
                                    -- subroute was reached with this request" (see `reachK`)
deriving DecidableEq, Repr

abbrev K := Req → Trace → Out

/-- status written for a context error (`errorEmptyHandler`, `errLogValues`, server.go:429) -/
def writeStatus : Option Nat → Nat
  | some 0 => 500
  | some st => st
  | none => 500

/-- the marker `Subroute.ServeHTTP` compiles its routes with: the code wraps `next` and remembers
    (`nextFailed`) whether an error came out of it; since no modelled handler does anything after
    `next` returns, that is the same as stopping at the marker and running `next` afterwards,
    outside the reach of the subroute's error routes. -/
def reachK : K := fun r t => .reached r t

/-- `emptyHandler`: sets the `unhandled` var, writes nothing -/
def emptyK : K := fun _ t => .done t none

/-- `errorEmptyHandler`: writes the status of the error found in the context of the request it
    is handed -/
def errorEmptyK : K := fun r t => .done t (some (writeStatus r.ctxErr))

/-- wrapRoute: "make terminal routes terminate" — chosen from the request ENTERING the route -/
def termK (entry : Req) : K := if entry.ctxErr.isSome then errorEmptyK else emptyK

/-- group bookkeeping of wrapRoute -/
def groupDone (g : Nat) (r : Req) : Bool := g != 0 && r.groups.contains g

def markGroup (g : Nat) (r : Req) : Req :=
  if g != 0 then { r with groups := g :: r.groups } else r

mutual
/-- the loop `for i := len(route.middleware)-1 …` of wrapRoute -/
def runHandlers : List Handler → K → K
  | [], k => k
  | h :: hs, k => runHandler h (runHandlers hs k)
/-- `wrapMiddleware` + the handler's `ServeHTTP(w, r, next)` -/
def runHandler : Handler → K → K
  | .pass id, k => fun r t => k r (t ++ [ev id r])
  | .respond id st, _ => fun r t => .done (t ++ [ev id r]) (some st)
  | .rewrite id p, k => fun r t => k { r with path := p, uri := p } (t ++ [ev id r])
  | .strip, k => fun r t => k { r with path := stripPath r.path, uri := requestLineOf (stripPath r.path) } t
  | .fail id st, _ => fun r t => .err (t ++ [ev id r]) st r
  | .raise src, _ => fun r t => .err t (raiseStatus src r) r
  | .answer src, k => fun r t =>
    match answerStep src r with
    | .write n => .done t (some n)
    | .hint => k r (t ++ [hintEv])
    | .fail => .err t 500 r         -- `return Error(http.StatusInternalServerError, err)`
  | .invoke _, _ => fun r t => .err t 0 r   -- `fmt.Errorf("invoke: route '%s' not found", …)`
  | .sub rs hasErrs errs, k => fun r t =>
    -- Subroute.ServeHTTP: `sr.Routes.Compile(<next, remembering whether it failed>)`; on an error
    -- of the subroute's OWN routes (`!nextFailed`) and `sr.Errors != nil`:
    -- `sr.Errors.WithError(r, err)`, `sr.Errors.Routes.Compile(next)` — no URI restore
    match runRoutes rs reachK r t with
    | .reached r' t' => k r' t'           -- whatever the rest of the chain returns is returned as is
    | .done t' s => .done t' s
    | .err t' st r' =>
      if hasErrs then runRoutes errs k (catchAt r st r') t'
      else .err t' st r'
/-- `RouteList.Compile(next)` -/
def runRoutes : List Route → K → K
  | [], k => k
  | rt :: rs, k => runRoute rt (runRoutes rs k)
/-- `wrapRoute(route)(next)` -/
def runRoute : Route → K → K
  | .mk g sets hs term, next => fun r t =>
    match anyMatch sets r with
    | .err st => .err t st r
    | .ok false => next r t
    | .ok true =>
      if groupDone g r then next r t
      else runHandlers hs (if term then termK r else next) (markGroup g r) t
end

/-- the observable result of one request: handler trace and the status written (if any) -/
structure Result where
  trace : Trace
  status : Option Nat
deriving DecidableEq, Repr

/-- `Server.ServeHTTP`: primary chain; on error restore the original URI, add the error to the
    context and run the error chain if `s.Errors != nil && len(s.Errors.Routes) > 0`.
    `hasErrs = false` ⇔ `s.Errors == nil`. The group map is NOT reset. -/
def serve (routes : List Route) (hasErrs : Bool) (errs : List Route) (req : Req) : Result :=
  match runRoutes routes emptyK { req with groups := [], ctxErr := none, replStatus := none } [] with
  | .done t s => ⟨t, s⟩
  | .reached _ t => ⟨t, none⟩          -- never happens (`Props.serve_chain_never_returns_marker`)
  | .err t st r' =>
    if hasErrs && !errs.isEmpty then
      match runRoutes errs errorEmptyK (serverCatch req st r') t with
      | .done t2 s2 => ⟨t2, s2⟩
      | .reached _ t2 => ⟨t2, none⟩
      | .err t2 _ _ => ⟨t2, some (writeStatus (some st))⟩
    else ⟨t, some (writeStatus (some st))⟩

/-! ### named routes

`Invoke.ServeHTTP` looks the name up in `server.NamedRoutes` and runs `route.Compile(next)` — the
very `wrapRoute` closure a subroute would build for a one-route list.  The model resolves names by
substitution: `inlineRs` replaces every `invoke n` whose name is defined by a subroute holding
that one route; `inlineNamed` does so `env.length` times, which resolves everything when named
routes only invoke later-named ones (the harness' acyclicity rule; a cycle would be unbounded
recursion in the Go code).  Names are 1-based positions in `env`. -/

def lookupNamed (env : List Route) (n : Nat) : Option Route :=
  if n = 0 then none else env[n - 1]?

mutual
def inlineHs (env : List Route) : List Handler → List Handler
  | [] => []
  | h :: hs => inlineH env h :: inlineHs env hs
def inlineH (env : List Route) : Handler → Handler
  | .invoke n =>
    match lookupNamed env n with
    | some rt => .sub [rt] false []
    | none => .invoke n
  | .sub rs hasErrs errs => .sub (inlineRs env rs) hasErrs (inlineRs env errs)
  | .pass id => .pass id
  | .respond id st => .respond id st
  | .rewrite id p => .rewrite id p
  | .strip => .strip
  | .fail id st => .fail id st
  | .raise src => .raise src
  | .answer src => .answer src
def inlineRs (env : List Route) : List Route → List Route
  | [] => []
  | rt :: rs => inlineR env rt :: inlineRs env rs
def inlineR (env : List Route) : Route → Route
  | .mk g sets hs term => .mk g sets (inlineHs env hs) term
end

def inlineNamed (env : List Route) : Nat → List Route → List Route
  | 0, rs => rs
  | n + 1, rs => inlineNamed env n (inlineRs env rs)

mutual
/-- does the tree still contain an `invoke` of a defined name? -/
def hsUnresolved (env : List Route) : List Handler → Bool
  | [] => false
  | h :: hs => hUnresolved env h || hsUnresolved env hs
def hUnresolved (env : List Route) : Handler → Bool
  | .invoke n => (lookupNamed env n).isSome
  | .sub rs _ errs => rsUnresolved env rs || rsUnresolved env errs
  | _ => false
def rsUnresolved (env : List Route) : List Route → Bool
  | [] => false
  | rt :: rs => rUnresolved env rt || rsUnresolved env rs
def rUnresolved (env : List Route) : Route → Bool
  | .mk _ _ hs _ => hsUnresolved env hs
end

mutual
/-- every `invoke` inside names a route > `b` -/
def hsInvGt (b : Nat) : List Handler → Bool
  | [] => true
  | h :: hs => hInvGt b h && hsInvGt b hs
def hInvGt (b : Nat) : Handler → Bool
  | .invoke n => n > b
  | .sub rs _ errs => rsInvGt b rs && rsInvGt b errs
  | _ => true
def rsInvGt (b : Nat) : List Route → Bool
  | [] => true
  | rt :: rs => rInvGt b rt && rsInvGt b rs
def rInvGt (b : Nat) : Route → Bool
  | .mk _ _ hs _ => hsInvGt b hs
end

/-- the route named j (position j-1) only invokes names > j -/
def namedValid : Nat → List Route → Bool
  | _, [] => true
  | j, rt :: rs => rInvGt (j + 1) rt && namedValid (j + 1) rs

/-- `Server.ServeHTTP` on a server with named routes -/
def serveNamed (env routes : List Route) (hasErrs : Bool) (errs : List Route) (req : Req) : Result :=
  serve (inlineNamed env env.length routes) hasErrs (inlineNamed env env.length errs) req

/-! ### response handlers (`caddyhttp.ResponseHandler`: intercept / reverse_proxy `handle_response`)

A response handler pairs a response matcher with either a replacement status or a route list that
is evaluated by `rh.Routes.Compile(next).ServeHTTP(w, r)` — the same `RouteList.Compile`.  The
model covers the shape the harness builds around the real `intercept` handler: the server's routes
are `[intercept {handle_response …}]` followed by one `static_response <st>`; the response the
rest of the chain produced (`st`) is buffered, the first response handler whose matcher matches
it is picked, and its routes run in front of the same rest of the chain. -/

structure RespHandler where
  codes : List Nat          -- `match.status_code`; empty = no matcher (always matches); < 100 = a class
  replace : Option Nat      -- `status_code`: only replace the status, stream the response
  routes : List Route

/-- `caddyhttp.StatusCodeMatches` -/
def statusCodeMatches (actual configured : Nat) : Bool :=
  actual == configured ||
    (decide (configured < 100) && decide (actual ≥ configured * 100) && decide (actual < (configured + 1) * 100))

def RespHandler.matchesStatus (rh : RespHandler) (st : Nat) : Bool :=
  rh.codes.isEmpty || rh.codes.any (statusCodeMatches st)

/-- `Intercept.ServeHTTP` over the chain `[static_response st]` -/
def serveIntercepted (rhs : List RespHandler) (st : Nat) (req : Req) : Result :=
  match rhs.find? (·.matchesStatus st) with
  | none => ⟨[], some st⟩                               -- nobody intercepts: the response goes out
  | some rh =>
    match rh.replace with
    | some _ => ⟨[], some st⟩
      -- "only replace the status": the response is streamed, no route runs, later response handlers
      -- are not consulted — but the status that goes out is the ORIGINAL one: `next.ServeHTTP(rec, r)`
      -- hands over a COPY of `rec` (a struct with value-receiver methods) made before the callback
      -- stores the replacement in `rec.statusCode`, and the callback runs inside the very
      -- `WriteHeader` that should have used it.  Modelled as it is (not a routing clause).
    | none => serve (rh.routes ++ [.mk 0 [] [.answer (.lit st)] false]) false [] req

end CaddyModel.C05
