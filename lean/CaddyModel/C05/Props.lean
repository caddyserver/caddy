/-
C05 — the clause theorems of the evaluator.  Those that lower modules use stand in Lemmas.lean; their `example`s are here.
Witness.lean, AdaptProps.lean and ProvisionProps.lean are imported because CaddyModel.lean, Audit.lean and the check's command name this module alone.

Statement: for any route configuration and request, the handlers that run and their order are
exactly those the routing rules prescribe: routes are tried in order, a route applies iff it has
no matcher sets or at least one set all of whose matchers match, only the first applicable route
of a group runs, a terminal route ends routing, and handlers chain in listed order with nested
subroutes following the same rules.  A handler error or matcher error diverts the request to the
error routes (evaluated by the same rules, with the original URI restored), and a request no
route answers gets the empty default response.

`serve`/`run*` (Model.lean) is the code as it is: closures receiving "the rest of the chain".
`eval`/`spec*` (Spec.lean) is the rules written directly.  All theorems are for every route
tree, every request, every continuation — no size bound.
-/
import CaddyModel.C05.Lemmas
import CaddyModel.C05.Witness
import CaddyModel.C05.AdaptProps
import CaddyModel.C05.ProvisionProps

namespace CaddyModel.C05

/-- **the handlers that run and their order are exactly those the routing rules prescribe**: the
    code-shaped evaluator and the rules agree on every route tree, every error-route list and
    every request.  (The code before the repair of `Subroute.ServeHTTP` did not:
    `compile_correct_old_code_fails` (Witness.lean).) -/
theorem compile_correct (routes errs : List Route) (hasErrs : Bool) (req : Req) :
    serve routes hasErrs errs req = eval routes hasErrs errs req := by
  unfold serve eval
  rw [rs_ok routes emptyK _ []]
  cases specRoutes routes { req with groups := [], ctxErr := none, replStatus := none } [] with
  | cont r t => rfl
  | stop o =>
    cases o with
    | done t s => rfl
    | reached r t => rfl
    | err t st r' =>
      simp only [Res.bind]
      split
      · rw [rs_ok errs errorEmptyK _ t]
        cases specRoutes errs (serverCatch req st r') t with
        | cont r'' t2 => rfl
        | stop o2 => cases o2 <;> rfl
      · rfl

-- a tree with groups, a terminal route, `not`, a rewrite, a failing handler inside a subroute WITH error
-- routes, a failing handler BEHIND it, and server error routes (whose first route is skipped: group 1 is satisfied)
example : serve
    [ .mk 1 [[.atom .path [1, 2], .not [[.atom .method [1]]]]] [.rewrite 1 3, .pass 2] false,
      .mk 0 [] [.sub [.mk 0 [] [.fail 5 500] false] true [.mk 0 [[.atom .path [3]]] [.pass 6] false]] false,
      .mk 0 [] [.fail 7 404] false ]
    true [ .mk 1 [] [.pass 8] false, .mk 0 [[.atom .path [1]]] [.respond 9 404] true ] wReq
    = ⟨[⟨1, 1, none, none, 1⟩, ⟨2, 3, none, none, 3⟩, ⟨5, 3, none, none, 3⟩, ⟨6, 3, some 500, some 500, 3⟩,
        ⟨7, 3, some 500, some 500, 3⟩, ⟨9, 1, some 404, some 404, 1⟩], some 404⟩ := by decide +kernel

/-- the marker of `Subroute.ServeHTTP` never leaves it: the two arms of `serve` that mention it are
    dead code -/
theorem serve_chain_never_returns_marker (routes : List Route) (r r' : Req) (t t' : Trace) :
    runRoutes routes emptyK r t ≠ .reached r' t' ∧ runRoutes routes errorEmptyK r t ≠ .reached r' t' :=
  have ne : ∀ k, NoMarkK k → runRoutes routes k r t ≠ .reached r' t' := fun k hk e => by
    have := runRoutes_nomark routes k hk r t
    rw [e] at this
    cases this
  ⟨ne _ emptyK_nomark, ne _ errorEmptyK_nomark⟩

example : runRoutes ([.mk 0 [] [.pass 1] false] ++ [.mk 0 [] [.pass 2] false]) emptyK wReq []
    = .done [⟨1, 1, none, none, 1⟩, ⟨2, 1, none, none, 1⟩] none := by decide +kernel

/-- **a route applies iff it has no matcher sets or at least one set all of whose matchers
    match** — whenever matching does not end in a matcher error. -/
theorem applies_iff (sets : List (List Matcher)) (r : Req) (b : Bool) (h : anyMatch sets r = .ok b) :
    b = true ↔ Applies sets r := by
  unfold Applies
  cases sets with
  | nil => cases h; simp
  | cons s ss =>
    rw [evalAny_ok (s :: ss) r b h]
    simp only [evalSet_true_iff, reduceCtorEq, false_or]

example : anyMatch [[.atom .host [1]], [.atom .path [1], .not [[.atom .method [1]]]]] wReq = .ok true := by decide
example : anyMatch [[.atom .host [1]], [.atom .path [1], .not [[.atom .method [0]]]]] wReq = .ok false := by decide

/-- `not` negates the OR of its sets (each an AND) — whenever no matcher error occurs. -/
theorem not_is_negated_or_of_ands (sets : List (List Matcher)) (r : Req) (b : Bool)
    (h : evalMatcher (.not sets) r = .ok b) :
    b = true ↔ ¬ ∃ s ∈ sets, ∀ m ∈ s, evalMatcher m r = .ok true := by
  rw [evalMatcher] at h
  rw [evalNot_ok sets r b h]
  simp only [evalSet_true_iff]

example : evalMatcher (.not [[.atom .host [1]], [.atom .path [1], .atom .method [0]]]) wReq = .ok false := by decide

example : anyMatch [[.atom .host [1]]] wReq = .ok false := by decide

/-- **only the first applicable route of a group runs** (2; (1) is `first_of_group_only`, (3) `groups_only_grow`): an applicable
    route of group `g` whose handlers pass the request on leaves `g` satisfied for everything that follows — nested or not. -/
theorem applicable_grouped_route_marks_group (g : Nat) (sets : List (List Matcher)) (hs : List Handler)
    (term : Bool) (r r' : Req) (t t' : Trace)
    (hg : g ≠ 0) (h : anyMatch sets r = .ok true)
    (hc : specRoute (.mk g sets hs term) r t = .cont r' t') : g ∈ r'.groups := by
  rw [specRoute, h] at hc
  simp only at hc
  split at hc
  · cases hc; exact ((groupDone_iff g r).mp ‹_›).2
  · have hk := specHandlers_keeps hs (markGroup g r) t
    revert hc hk
    cases specHandlers hs (markGroup g r) t with
    | stop o => exact fun hc => nomatch hc
    | cont r'' t'' =>
      cases term with
      | true => exact fun hc => nomatch hc
      | false =>
        rintro ⟨⟩ hk
        exact hk g (mem_markGroup.mpr (Or.inl ⟨rfl, hg⟩))

example : specRoute (.mk 2 [] [.pass 1] false) wReq [] = .cont { wReq with groups := [2] } [⟨1, 1, none, none, 1⟩] := by decide
example : runRoutes [.mk 2 [] [.pass 1] false, .mk 2 [] [.pass 2] false, .mk 0 [] [.pass 3] false] emptyK wReq []
    = .done [⟨1, 1, none, none, 1⟩, ⟨3, 1, none, none, 1⟩] none := by decide

example : runRoutes [.mk 0 [] [.pass 1] true, .mk 0 [] [.pass 2] false] emptyK wReq []
    = .done [⟨1, 1, none, none, 1⟩] none := by decide

/-- **handlers chain in listed order** (2; (1) is `handlers_chain_in_order`): handlers that pass the request on run one after
    the other, each exactly once. -/
theorem passing_handlers_run_in_listed_order (ids : List Nat) (k : K) (r : Req) (t : Trace) :
    runHandlers (ids.map .pass) k r t = k r (t ++ ids.map (ev · r)) := by
  induction ids generalizing t with
  | nil => simp [runHandlers]
  | cons i is ih => simp [runHandlers, runHandler, ih]

example : runHandlers [.pass 1, .rewrite 2 3, .pass 3, .respond 4 201, .pass 5] emptyK wReq []
    = .done [⟨1, 1, none, none, 1⟩, ⟨2, 1, none, none, 1⟩, ⟨3, 3, none, none, 3⟩, ⟨4, 3, none, none, 3⟩] (some 201) := by decide

example : serve [.mk 0 [] [.sub [.mk 1 [[.atom .path [1]]] [.rewrite 1 3, .fail 2 404] true] false []] false]
      true [.mk 0 [[.atom .path [1]]] [.pass 3] false] wReq
    = ⟨[⟨1, 1, none, none, 1⟩, ⟨2, 3, none, none, 3⟩, ⟨3, 1, some 404, some 404, 1⟩], some 404⟩ := by decide +kernel

/-- **nested subroutes follow the same rules** (3; (1) is `subroute_same_rules`, (2) `subroute_wrap_invariant`): a subroute
    WITH error routes: if its chain fails, the error routes are evaluated by the same function, on the request as it is at that
    moment plus the error — the URI is NOT restored here (`subroute_error_routes_see_rewritten_uri` (Witness.lean)). -/
theorem subroute_error_routes_same_rules (rs es : List Route) (k : K) (r r' : Req) (t t' : Trace) (st : Nat)
    (h : runRoutes rs reachK r t = .err t' st r') :
    runHandler (.sub rs true es) k r t = runRoutes es k (catchAt r st r') t' := by
  simp [runHandler, h]

/-- (4): … and ONLY if ITS chain fails: once the subroute's routes have passed the request on, the
    rest of the chain runs outside the reach of the subroute's error routes — whatever it returns,
    an error included, is returned as is, and it runs once.  (This is the clause the code violated
    before the repair.) -/
theorem subroute_does_not_catch_later_failures (rs es : List Route) (hasErrs : Bool) (k : K)
    (r r' : Req) (t t' : Trace) (h : runRoutes rs reachK r t = .reached r' t') :
    runHandler (.sub rs hasErrs es) k r t = k r' t' := by
  simp [runHandler, h]

example : runRoutes [.mk 0 [] [.pass 1] false] reachK wReq [] = .reached wReq [⟨1, 1, none, none, 1⟩] := by decide

/-- (5): **a subroute's decision depends on its own invocation only**: a nested subroute that let
    the request continue — whatever it contains, with or without error routes of its own — leaves
    no trace in the decision of the enclosing subroute: a LATER handler of the enclosing subroute's
    own routes that fails is handled by the enclosing subroute's error routes. -/
theorem subroute_decision_is_its_own (rs' es' es : List Route) (he' : Bool) (id st : Nat) (k : K)
    (r r' : Req) (t t' : Trace) (h : specRoutes rs' r t = .cont r' t') :
    runHandler (.sub [.mk 0 [] [.sub rs' he' es', .fail id st] false] true es) k r t
      = runRoutes es k (catchAt r st r') (t' ++ [ev id r']) := by
  have hin : runRoutes rs' reachK r t = .reached r' t' := by
    rw [rs_ok rs' reachK r t, h]; rfl
  exact subroute_error_routes_same_rules _ es k r r' t _ st
    (subroute_does_not_catch_later_failures rs' es' he' _ r r' t t' hin)

example : serve [.mk 0 [] [.sub [.mk 0 [] [.sub [.mk 0 [] [.pass 1] false] true [.mk 0 [] [.pass 8] false], .fail 2 404] false]
      true [.mk 0 [] [.pass 9] false]] false] false [] wReq
    = ⟨[⟨1, 1, none, none, 1⟩, ⟨2, 1, none, none, 1⟩, ⟨9, 1, some 404, some 404, 1⟩], none⟩ := by decide +kernel

example : runRoutes [.mk 0 [] [.fail 2 500] false] reachK wReq [] = .err [⟨2, 1, none, none, 1⟩] 500 wReq := by decide

example : anyMatch [[.atom .host [1]], [.atom .path [1], .err 1 403]] wReq = .err 403 := by decide

/-- **errors divert to the error routes, evaluated by the same rules, with the original URI
    restored**: if the primary chain fails, the result is that of `runRoutes` (the same function)
    on the error routes, for the request with `path` = the ORIGINAL path and the error in its
    context; a second failure, or error routes that do not answer, yield the first error's status. -/
theorem error_diverts_with_original_uri (routes errs : List Route) (req r' : Req) (t : Trace) (st : Nat)
    (hne : errs ≠ [])
    (h : runRoutes routes emptyK { req with groups := [], ctxErr := none, replStatus := none } [] = .err t st r') :
    serve routes true errs req =
      match runRoutes errs errorEmptyK (serverCatch req st r') t with
      | .done t2 s2 => ⟨t2, s2⟩
      | .reached _ t2 => ⟨t2, none⟩        -- dead arm (`serve_chain_never_returns_marker`)
      | .err t2 _ _ => ⟨t2, some (writeStatus (some st))⟩ := by
  have : errs.isEmpty = false := List.isEmpty_eq_false_iff.mpr hne
  simp only [serve, h, this, Bool.not_false, Bool.and_self, if_true]
  generalize runRoutes errs errorEmptyK _ t = o
  cases o <;> rfl

/-- in particular a handler in the error routes sees the original path and the error, whatever
    the primary chain rewrote; and if the error routes do not answer, the error's status is sent. -/
theorem error_route_sees_original_uri_and_error (routes : List Route) (req r' : Req) (t : Trace) (st i : Nat)
    (h : runRoutes routes emptyK { req with groups := [], ctxErr := none, replStatus := none } [] = .err t st r') :
    serve routes true [.mk 0 [] [.pass i] false] req =
      ⟨t ++ [⟨i, req.path, some st, if st = 0 then r'.replStatus else some st, req.uri⟩], some (writeStatus (some st))⟩ := by
  rw [error_diverts_with_original_uri routes _ req r' t st (by simp) h]
  rfl

example : runRoutes [.mk 0 [] [.rewrite 1 3, .fail 2 404] false] emptyK wReq []
    = .err [⟨1, 1, none, none, 1⟩, ⟨2, 3, none, none, 3⟩] 404 { wReq with path := 3, uri := 3 } := by decide
example : serve [.mk 0 [] [.rewrite 1 3, .fail 2 404] false] true [.mk 0 [] [.pass 7] false] wReq
    = ⟨[⟨1, 1, none, none, 1⟩, ⟨2, 3, none, none, 3⟩, ⟨7, 1, some 404, some 404, 1⟩], some 404⟩ := by decide

example : serve [.mk 0 [[.legacy true, .err 2 0]] [.pass 1] false] false [] wReq = ⟨[], some 500⟩ := by decide

/-- modelled quirk: the group set lives for the whole request, so a group satisfied in the primary
    chain stays satisfied in the error chain — an error route of that group is skipped. -/
theorem groups_persist_into_error_chain (routes : List Route) (req r' : Req) (t : Trace) (st g : Nat)
    (sets : List (List Matcher)) (hs : List Handler) (term : Bool)
    (h : runRoutes routes emptyK { req with groups := [], ctxErr := none, replStatus := none } [] = .err t st r')
    (hg : g ≠ 0) (hm : g ∈ r'.groups)
    (ha : anyMatch sets (serverCatch req st r') = .ok true) :
    serve routes true [.mk g sets hs term] req = ⟨t, some (writeStatus (some st))⟩ := by
  rw [error_diverts_with_original_uri routes _ req r' t st (by simp) h]
  simp only [runRoutes]
  rw [first_of_group_only g sets hs term errorEmptyK (serverCatch req st r') t hg hm ha]
  rfl

example : serve [.mk 1 [] [.fail 1 404] false] true [.mk 1 [] [.respond 2 200] false] wReq
    = ⟨[⟨1, 1, none, none, 1⟩], some 404⟩ := by decide

/-- **a request no route answers gets the empty default response**: if no route applies, no
    handler runs and nothing is written. -/
theorem unanswered_gets_empty_default (routes errs : List Route) (hasErrs : Bool) (req : Req)
    (h : ∀ g sets hs term, Route.mk g sets hs term ∈ routes →
      anyMatch sets { req with groups := [], ctxErr := none, replStatus := none } = .ok false) :
    serve routes hasErrs errs req = ⟨[], none⟩ :=
  serve_of_done (runRoutes_none_apply emptyK _ [] routes h)

/-- more generally: whenever the rules pass the request through
    all routes, the response is empty, whatever handlers ran on the way. -/
theorem passed_through_gets_empty_default (routes errs : List Route) (hasErrs : Bool) (req r : Req) (t : Trace)
    (h : specRoutes routes { req with groups := [], ctxErr := none, replStatus := none } [] = .cont r t) :
    serve routes hasErrs errs req = ⟨t, none⟩ := by
  rw [compile_correct routes errs hasErrs req]
  simp [eval, h]

example : specRoutes [.mk 0 [] [.pass 1, .rewrite 2 3] false, .mk 0 [[.atom .path [1]]] [.respond 3 200] true]
    wReq [] = .cont { wReq with path := 3, uri := 3 } [⟨1, 1, none, none, 1⟩, ⟨2, 1, none, none, 1⟩] := by decide

example : serve [.mk 0 [[.atom .host [1]]] [.respond 1 200] true, .mk 0 [[.atom .method [1]]] [.pass 2] false] false [] wReq
    = ⟨[], none⟩ := by decide

/-- matcher sets are built by ranging over a Go map: without matcher errors the order inside a
    set is irrelevant (with an error matcher it is not: `matcher_order_matters_with_error` (Witness.lean)). -/
theorem matcher_order_irrelevant_without_errors (s s' : List Matcher) (r : Req) (hp : s.Perm s')
    (h : ∀ m ∈ s, ∀ st, evalMatcher m r ≠ .err st) : evalSet s' r = evalSet s r := by
  have h' : ∀ m ∈ s', ∀ st, evalMatcher m r ≠ .err st := fun m hm => h m (hp.mem_iff.mpr hm)
  rw [evalSet_eq_all s r h, evalSet_eq_all s' r h']
  congr 1
  exact (hp.all_eq (f := fun m => evalMatcher m r == .ok true)).symm

example : ∀ m ∈ [Matcher.atom .host [0], .not [[.atom .path [2]]]], ∀ st, evalMatcher m wReq ≠ .err st := by
  intro m hm st
  simp at hm
  rcases hm with rfl | rfl <;> exact evalMatcher_noerr _ _ (by decide) st

/-- **the request object a subroute resumes with always exists**: whenever the routes of a
    subroute fail, the request object that was current when the subroute was entered is still among
    the objects of the failing state — the fallback in `frameUri` is dead code.  (Request objects
    are only ever added: `WithError` copies, nothing is dropped.) -/
theorem frame_object_always_exists (rs : List Route) (r r' : Req) (t t' : Trace) (st : Nat)
    (h : specRoutes rs r t = .stop (.err t' st r')) : (objUri r' r.olds.length).isSome = true := by
  have hle : r.olds.length ≤ r'.olds.length := by
    have := specRoutes_olds rs r t
    rwa [h] at this
  rw [objUri, isSome_getElem?, List.length_append]
  exact Nat.lt_succ_of_le hle

/-- the server's error routes see the original `RequestURI` next to the original URL path — the
    request line is restored as well, on a fresh copy of the server's own request object -/
theorem server_error_chain_request_is_consistent (req : Req) (st : Nat) (r' : Req) :
    (serverCatch req st r').path = req.path ∧ (serverCatch req st r').uri = req.uri :=
  ⟨rfl, rfl⟩

/-- **what the error routes are told about the error is the error**: every handler that ever runs —
    primary chain, subroutes, subroute error routes, server error routes, after any number of
    errors — sees a `{http.error.status_code}` placeholder equal to the status of the
    `HandlerError` in its request context.  (For an error that is not a `HandlerError` the
    placeholder is stale: `status_placeholder_stale_after_plain_error` (Witness.lean).) -/
theorem status_placeholder_tracks_handler_errors (routes errs : List Route) (hasErrs : Bool) (req : Req) :
    ∀ e ∈ (serve routes hasErrs errs req).trace, ∀ st, e.err = some st → st ≠ 0 → e.repl = some st := by
  have h0 : Req.PlaceholderOk { req with groups := [], ctxErr := none, replStatus := none } := by
    intro st h; cases h
  have h1 := (runRoutes_pok routes emptyK emptyK_pok _ [] h0 (by simp)).1
  unfold serve
  revert h1
  cases runRoutes routes emptyK { req with groups := [], ctxErr := none, replStatus := none } [] with
  | done t s => exact id
  | reached r' t => exact id
  | err t st r' =>
    intro h1
    simp only
    split
    · have h2 := (runRoutes_pok errs errorEmptyK errorEmptyK_pok (serverCatch req st r') t (withError_ok st _) h1).1
      revert h2
      cases runRoutes errs errorEmptyK (serverCatch req st r') t <;> exact id
    · exact h1

example : serve [.mk 0 [] [.sub [.mk 0 [] [.fail 1 404] false] true [.mk 0 [] [.pass 2, .raise (.lit 503)] false]] false]
      true [.mk 0 [] [.pass 3] false] wReq
    = ⟨[⟨1, 1, none, none, 1⟩, ⟨2, 1, some 404, some 404, 1⟩, ⟨3, 1, some 503, some 503, 1⟩], some 503⟩ := by decide +kernel

/-- an error route that answers with `"{http.error.status_code}"` (the usual `respond
    "{err.status_code}"`) sends the status of the error being handled … -/
theorem respond_with_error_placeholder_sends_error_status (k : K) (r : Req) (t : Trace) (st : Nat)
    (hr : ∀ s, r.ctxErr = some s → s ≠ 0 → r.replStatus = some s) (he : r.ctxErr = some st) (hne : st ≠ 0)
    (h103 : st ≠ 103) :
    runHandler (.answer .errCode) k r t = .done t (some st) ∧
    runHandler (.answer .empty) k r t = .done t (some st) ∧
    runHandler (.raise .errCode) k r t = .err t st r := by
  have := hr st he hne
  refine ⟨?_, ?_, ?_⟩
  · simp [runHandler, answerStep, Src.resolve, this, h103]
  · simp [runHandler, answerStep, answerDefault, he, hne]
  · simp [runHandler, raiseStatus, Src.resolve, this]

/-- … and outside the error path (no error yet) that same configuration is itself an error 500:
    the unset placeholder expands to the empty string, which is not a number. -/
theorem error_placeholder_outside_error_path (k : K) (r : Req) (t : Trace) (h : r.replStatus = none) :
    runHandler (.answer .errCode) k r t = .err t 500 r ∧
    runHandler (.raise .errCode) k r t = .err t 500 r := by
  simp [runHandler, answerStep, raiseStatus, Src.resolve, h]

/-- `static_response` with 103 (Early Hints) writes the interim header and passes the request on:
    it is a handler that BOTH writes and calls next — the rest of the chain runs as usual. -/
theorem early_hints_pass_the_request_on (k : K) (r : Req) (t : Trace) :
    runHandler (.answer (.lit 103)) k r t = k r (t ++ [hintEv]) :=
  rfl

example : serve [.mk 0 [] [.answer (.lit 103), .pass 1, .answer (.lit 103), .respond 2 200] false] false [] wReq
    = ⟨[hintEv, ⟨1, 1, none, none, 1⟩, hintEv, ⟨2, 1, none, none, 1⟩], some 200⟩ := by decide

/-- the real `error` handler diverts exactly like a failing handler (it just leaves no probe event) -/
theorem error_handler_diverts (n : Nat) (k : K) (r : Req) (t : Trace) :
    runHandler (.raise (.lit n)) k r t = .err t n r ∧ runHandler (.raise .empty) k r t = .err t 500 r ∧
    runHandler (.raise .bad) k r t = .err t 500 r :=
  ⟨rfl, rfl, rfl⟩

example : serve [.mk 0 [] [.raise (.lit 404)] false] true [.mk 0 [] [.pass 1, .answer .errCode] false] wReq
    = ⟨[⟨1, 1, some 404, some 404, 1⟩], some 404⟩ := by decide
example : serve [.mk 0 [] [.answer .errCode] false] true [.mk 0 [] [.pass 1, .answer .empty] false] wReq
    = ⟨[⟨1, 1, some 500, some 500, 1⟩], some 500⟩ := by decide

/-- **error routes select on the status of the error being handled**: the matchers the Caddyfile's
    `handle_errors 4xx` / `handle_errors 404 500` adapt to (`expression` on
    `{http.error.status_code}`) decide by the status of the `HandlerError` in the request context,
    in every state the error path can produce (`status_placeholder_tracks_handler_errors`). -/
theorem status_matchers_select_by_error_status (r : Req) (st lo hi : Nat) (codes : List Nat)
    (hr : ∀ s, r.ctxErr = some s → s ≠ 0 → r.replStatus = some s) (he : r.ctxErr = some st) (hne : st ≠ 0) :
    evalMatcher (.errRange lo hi) r = .ok (decide (lo ≤ st) && decide (st ≤ hi)) ∧
    evalMatcher (.errIn codes) r = .ok (codes.contains st) := by
  simp [evalMatcher, hr st he hne]

/-- outside the error path the range form is a matcher ERROR (CEL cannot compare the unset
    placeholder) — the request is diverted to the error routes with status 500 —, the list form
    simply does not match. -/
theorem status_matchers_outside_error_path (r : Req) (lo hi : Nat) (codes : List Nat) (h : r.replStatus = none) :
    evalMatcher (.errRange lo hi) r = .err 0 ∧ evalMatcher (.errIn codes) r = .ok false := by
  simp [evalMatcher, h]

example : serve [.mk 0 [] [.raise (.lit 404)] false] true
      [.mk 0 [[.errRange 500 599]] [.pass 1] true, .mk 0 [[.errIn [404, 410]]] [.pass 2, .answer .errCode] true] wReq
    = ⟨[⟨2, 1, some 404, some 404, 1⟩], some 404⟩ := by decide
example : serve [.mk 0 [[.errRange 400 499]] [.pass 1] false] false [] wReq = ⟨[], some 500⟩ := by decide

/-- **a named route follows the same rules**: invoking a defined name evaluates that route by the
    very function used for a listed route (`runRoute` = `wrapRoute`), in place, with the rest of
    the chain as its continuation — matchers, group, terminal flag and all. -/
theorem invoke_runs_named_route_in_place (env : List Route) (n : Nat) (rt : Route) (k : K) (r : Req) (t : Trace)
    (h : lookupNamed env n = some rt) :
    runHandler (inlineH env (.invoke n)) k r t = runRoute rt k r t := by
  simp only [inlineH, h]
  rw [subroute_same_rules]
  simp [runRoutes]

/-- invoking a name the server does not define is a plain error (status 500 unless handled) -/
theorem unknown_invoke_is_plain_error (env : List Route) (n : Nat) (k : K) (r : Req) (t : Trace)
    (h : lookupNamed env n = none) :
    runHandler (inlineH env (.invoke n)) k r t = .err t 0 r := by
  simp [inlineH, h, runHandler]

example : lookupNamed [.mk 1 [[.atom .path [1]]] [.pass 7] true] 1 = some (.mk 1 [[.atom .path [1]]] [.pass 7] true) := rfl
-- the named route is terminal: handler 5 behind the invoke does not run; the named route itself invokes
-- the next one (handler 8)
example : serveNamed [.mk 1 [[.atom .path [1]]] [.pass 7, .invoke 2] true, .mk 0 [] [.pass 8] false]
      [.mk 0 [] [.invoke 1, .pass 5] false] false [] wReq
    = ⟨[⟨7, 1, none, none, 1⟩, ⟨8, 1, none, none, 1⟩], none⟩ := by decide
example : serveNamed [.mk 0 [] [.pass 7] false] [.mk 0 [] [.invoke 2, .pass 5] false] false [] wReq
    = ⟨[], some 500⟩ := by decide

/-- **every defined name is resolved**: when named routes only invoke later-named ones (the
    acyclicity rule; a cycle is unbounded recursion in the Go code), `inlineNamed` leaves no
    `invoke` of a defined name behind — what `serveNamed` hands to `serve` fails with "route not
    found" only for names the server really does not define. -/
theorem inline_resolves_every_defined_name (env rs : List Route) (hv : namedValid 0 env = true) :
    rsUnresolved env (inlineNamed env env.length rs) = false :=
  rsResolved env _ (inlineNamed_resGt env hv env.length 0 rs (rsResGt_zero env rs))

example : namedValid 0 [.mk 1 [[.atom .path [1]]] [.pass 7, .invoke 2] true, .mk 0 [] [.pass 8, .invoke 3] false] = true := by decide

/-- **the routes of a response handler follow the same rules**: they are evaluated by the same
    evaluator, in front of the rest of the chain — so everything proved about `serve` (and, through
    `compile_correct`, the routing rules) holds for them; a response nobody intercepts, or whose
    handler only replaces the status, runs no route at all. -/
theorem response_handler_routes_same_rules (rhs : List RespHandler) (st : Nat) (req : Req) (rh : RespHandler)
    (hf : rhs.find? (·.matchesStatus st) = some rh) (hr : rh.replace = none) :
    serveIntercepted rhs st req = eval (rh.routes ++ [.mk 0 [] [.answer (.lit st)] false]) false [] req := by
  simp [serveIntercepted, hf, hr, compile_correct]

theorem response_not_intercepted (rhs : List RespHandler) (st : Nat) (req : Req)
    (h : ∀ rh ∈ rhs, rh.matchesStatus st = false) : serveIntercepted rhs st req = ⟨[], some st⟩ := by
  have : rhs.find? (·.matchesStatus st) = none := by
    rw [List.find?_eq_none]; intro x hx; simp [h x hx]
  simp [serveIntercepted, this]

example : serveIntercepted [⟨[5], none, [.mk 0 [] [.pass 9] false]⟩, ⟨[404], none, [.mk 0 [[.atom .path [1]]] [.pass 1, .respond 2 201] false]⟩]
    404 wReq = ⟨[⟨1, 1, none, none, 1⟩, ⟨2, 1, none, none, 1⟩], some 201⟩ := by decide
example : serveIntercepted [⟨[4], some 299, []⟩, ⟨[], none, [.mk 0 [] [.respond 1 201] false]⟩] 404 wReq
    = ⟨[], some 404⟩ := by decide

end CaddyModel.C05
