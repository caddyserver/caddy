/-
C05 — proved counter-examples: first what the code before the repair of `Subroute.ServeHTTP`
(`serveOld`) did, then clauses of the property that the code, as it is, does not satisfy
at full strength.  Each one is a closed term evaluated by the kernel (`decide`); those about the
code as it is are exported by the driver as protocol lines (`witnessLines`) and replayed on the real
implementation on every run.
-/
import CaddyModel.C05.Spec
import CaddyModel.C05.OldModel
import CaddyModel.C05.WitnessData

namespace CaddyModel.C05

/-
The code BEFORE the repair of `Subroute.ServeHTTP` (OldModel.lean) did not satisfy
    ∀ routes hasErrs errs req, serve routes hasErrs errs req = eval routes hasErrs errs req :
it compiled the REST OF THE CHAIN into the subroute's primary routes and diverted every error
coming back to the subroute's error routes, so a subroute with error routes also caught an error
raised by a LATER route, ran its error routes (handler 9) and then the rest of the chain a second
time (handler 3 ran twice).  The repaired code is `compile_correct` (Props.lean).
-/
theorem compile_correct_old_code_fails :
    ∃ routes hasErrs errs req, serveOld routes hasErrs errs req ≠ eval routes hasErrs errs req :=
  ⟨wDownstreamRoutes, false, [], wReq, by decide⟩

/-- the same witness, spelled out: the old code ran handlers 1, 3, 9, 3 — the rules, and the
    repaired code, say 1, 3 -/
theorem old_code_ran_handler_twice_behind_subroute_with_errors :
    (serveOld wDownstreamRoutes false [] wReq).trace.map (·.id) = [1, 3, 9, 3] ∧
    (eval wDownstreamRoutes false [] wReq).trace.map (·.id) = [1, 3] ∧
    (serve wDownstreamRoutes false [] wReq).trace.map (·.id) = [1, 3] := by decide +kernel

/-
"with the original URI restored" holds for the SERVER's error routes only: the error routes of a
subroute (handler 3) see the rewritten path /b (index 3), the server's error routes (handler 4)
see the original path /a (index 1).  Modelled as it is; both `serve` and `eval` agree here.
-/
theorem subroute_error_routes_see_rewritten_uri :
    serve wRewriteRoutes true wRewriteErrs wReq =
      ⟨[⟨1, 1, none, none, 1⟩, ⟨2, 3, none, none, 3⟩, ⟨3, 3, some 500, some 500, 3⟩, ⟨4, 1, some 404, some 404, 1⟩], some 404⟩ ∧
    eval wRewriteRoutes true wRewriteErrs wReq = serve wRewriteRoutes true wRewriteErrs wReq := by decide +kernel

/-
`WithError` sets `{http.error.status_code}` only for a `HandlerError`.  After a first error with
status 404, a second error that is NOT a `HandlerError` (the server answers those with 500) leaves
the placeholder at 404: handler 3 sees context error `some 0` next to placeholder 404, and an
error route answering with "{http.error.status_code}" sends 404.  Modelled as it is.
-/
theorem status_placeholder_stale_after_plain_error :
    serve wStaleRoutes true wStaleErrs wReq =
      ⟨[⟨1, 1, none, none, 1⟩, ⟨2, 1, some 404, some 404, 1⟩, ⟨3, 1, some 0, some 404, 1⟩], some 404⟩ ∧
    serve wStaleRoutes true [.mk 0 [] [.pass 3] false] wReq =
      ⟨[⟨1, 1, none, none, 1⟩, ⟨2, 1, some 404, some 404, 1⟩, ⟨3, 1, some 0, some 404, 1⟩], some 500⟩ := by decide +kernel

/-
`WithError` copies the request struct: the URL (a pointer) is shared, `RequestURI` (a string) is
not.  The inner subroute's error routes run on a copy; their rewrite (handler 2) reaches the OUTER
subroute's error routes through the URL only, because the outer frame resumes with ITS request
object: handler 7 sees URL path /b (3) next to RequestURI /a (1).  Modelled as it is.
-/
theorem stale_request_uri_in_enclosing_subroute_error_routes :
    serve wStaleUriRoutes false [] wReq =
      ⟨[⟨1, 1, none, none, 1⟩, ⟨2, 1, some 500, some 500, 1⟩, ⟨3, 3, some 500, some 500, 3⟩,
        ⟨7, 3, some 404, some 404, 1⟩], none⟩ ∧
    eval wStaleUriRoutes false [] wReq = serve wStaleUriRoutes false [] wReq := by decide +kernel

/-
A matcher set is a JSON object; caddy builds it by ranging over a Go map, so the order of the
matchers inside a set is arbitrary.  With an error matcher in the set the order is observable:
the same set answers 200 (not applicable → empty default) or diverts to the error path (403).
-/
theorem matcher_order_matters_with_error :
    wSetA.Perm wSetB ∧
    serve (wOrderRoutes wSetA) false [] wReq = ⟨[], none⟩ ∧
    serve (wOrderRoutes wSetB) false [] wReq = ⟨[], some 403⟩ := by
  refine ⟨?_, by decide, by decide⟩
  exact List.Perm.swap _ _ _

end CaddyModel.C05
