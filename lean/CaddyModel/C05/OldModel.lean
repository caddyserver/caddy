/-
C05 — route evaluation as the code performed it BEFORE `Subroute.ServeHTTP` was repaired
(kept for `compile_correct_old_code_fails`, Witness.lean): the rest of the chain was compiled into the
subroute's primary routes and every error coming back from that chain — also one raised by a
LATER handler — was diverted to the subroute's error routes, which then ran the rest of the
chain a second time.  Everything else is identical to Model.lean.
-/
import CaddyModel.C05.Model

namespace CaddyModel.C05

mutual
/-- the loop `for i := len(route.middleware)-1 …` of wrapRoute -/
def runHandlersOld : List Handler → K → K
  | [], k => k
  | h :: hs, k => runHandlerOld h (runHandlersOld hs k)
/-- `wrapMiddleware` + the handler's `ServeHTTP(w, r, next)` -/
def runHandlerOld : Handler → K → K
  | .pass id, k => fun r t => k r (t ++ [ev id r])
  | .respond id st, _ => fun r t => .done (t ++ [ev id r]) (some st)
  | .rewrite id p, k => fun r t => k { r with path := p, uri := p } (t ++ [ev id r])
  | .strip, k => fun r t => k { r with path := stripPath r.path, uri := requestLineOf (stripPath r.path) } t
  | .fail id st, _ => fun r t => .err (t ++ [ev id r]) st r
  | .raise src, _ => fun r t => .err t (raiseStatus src r) r
  | .answer src, k => fun r t =>
    match answerStep src r with
    | .write n => .done t (some n)
    | .hint => k r (t ++ [hintEv])
    | .fail => .err t 500 r         -- `return Error(http.StatusInternalServerError, err)`
  | .invoke _, _ => fun r t => .err t 0 r   -- `fmt.Errorf("invoke: route '%s' not found", …)`
  | .sub rs hasErrs errs, k => fun r t =>
    -- Subroute.ServeHTTP BEFORE the repair: `sr.Routes.Compile(next)`, and ANY error coming back —
    -- also one returned by `next` — goes to `sr.Errors.Routes.Compile(next)`
    match runRoutesOld rs k r t with
    | .done t' s => .done t' s
    | .reached r' t' => .reached r' t'
    | .err t' st r' =>
      if hasErrs then runRoutesOld errs k (catchAt r st r') t'
      else .err t' st r'
/-- `RouteList.Compile(next)` -/
def runRoutesOld : List Route → K → K
  | [], k => k
  | rt :: rs, k => runRouteOld rt (runRoutesOld rs k)
/-- `wrapRoute(route)(next)` -/
def runRouteOld : Route → K → K
  | .mk g sets hs term, next => fun r t =>
    match anyMatch sets r with
    | .err st => .err t st r
    | .ok false => next r t
    | .ok true =>
      if groupDone g r then next r t
      else runHandlersOld hs (if term then termK r else next) (markGroup g r) t
end


/-- `Server.ServeHTTP` over the old chain: primary chain; on error restore the original URI, add the error to the
    context and run the error chain if `s.Errors != nil && len(s.Errors.Routes) > 0`.
    `hasErrs = false` ⇔ `s.Errors == nil`. The group map is NOT reset. -/
def serveOld (routes : List Route) (hasErrs : Bool) (errs : List Route) (req : Req) : Result :=
  match runRoutesOld routes emptyK { req with groups := [], ctxErr := none, replStatus := none } [] with
  | .done t s => ⟨t, s⟩
  | .reached _ t => ⟨t, none⟩
  | .err t st r' =>
    if hasErrs && !errs.isEmpty then
      match runRoutesOld errs errorEmptyK (serverCatch req st r') t with
      | .done t2 s2 => ⟨t2, s2⟩
      | .reached _ t2 => ⟨t2, none⟩
      | .err t2 _ _ => ⟨t2, some (writeStatus (some st))⟩
    else ⟨t, some (writeStatus (some st))⟩


end CaddyModel.C05
