/-
C05 — theorems about the glue around the evaluator:
  * provisioning (`Provision.lean`) hands the evaluator exactly the route tree the config lists:
    every matcher set (EMPTY ones included), in order; every handler, in order; every route in
    place with its group and terminal flag — and why dropping an empty set would change routing;
  * the per-request state the routing reads: ONE group map per request — created once, handed on
    by every error hand-off (`WithError` in `Server.ServeHTTP` and in `Subroute.ServeHTTP`);
  * an adapter observation (`named_route_in_invokers_group_is_skipped_observation`);
  * the source facts the first two rest on (`…_match_source`, regenerated from /repo on every run).
-/
import CaddyModel.C05.Provision
import CaddyModel.C05.Lemmas
import CaddyModel.C05.WitnessData
import CaddyModel.Gen.RouteCompile

namespace CaddyModel.C05

mutual
theorem provMatcher_id : ∀ (m : Matcher), provMatcher m = m
  | .atom f vals => rfl
  | .err kind st => rfl
  | .legacy b => rfl
  | .errRange lo hi => rfl
  | .errIn codes => rfl
  | .errSel ranges codes => rfl
  | .not sets => by
    rw [provMatcher, provSetsInto_app sets []]; simp
theorem provSetInto_app : ∀ (s acc : List Matcher), provSetInto acc s = acc ++ s
  | [], acc => (List.append_nil acc).symm
  | m :: ms, acc => by
    rw [provSetInto, provMatcher_id m, provSetInto_app ms]; simp
theorem provSetsInto_app : ∀ (ss acc : List (List Matcher)), provSetsInto acc ss = acc ++ ss
  | [], acc => (List.append_nil acc).symm
  | s :: ss, acc => by
    rw [provSetsInto, provSetInto_app s [], provSetsInto_app ss]; simp
end

/-- **`FromInterface` appends one matcher set per loaded set** — whatever the set holds, an empty
    set included — behind what the field held before, in the listed order. -/
theorem fromInterface_appends_every_set (ms loaded : List (List Matcher)) :
    fromInterface ms loaded = ms ++ loaded := provSetsInto_app loaded ms

example : fromInterface [] [[.atom .host [9]], [], [.legacy true]] = [[.atom .host [9]], [], [.legacy true]] := rfl

/-- the number of matcher sets, and which of them are empty, survive provisioning -/
theorem provisioning_keeps_empty_matcher_sets (loaded : List (List Matcher)) :
    (fromInterface [] loaded).length = loaded.length ∧
    (fromInterface [] loaded).map List.isEmpty = loaded.map List.isEmpty := by
  rw [fromInterface_appends_every_set]; simp

example : (fromInterface [] [[.atom .host [9]], []]).map List.isEmpty = [false, true] := by decide

/-- consequence of the appending shape, as the code has it: `ProvisionMatchers` is not idempotent —
    a second call on the same route doubles its matcher sets (harmless for routing: OR of the same
    sets; `App.Provision` calls it once per route). -/
theorem second_provisioning_appends_again (loaded : List (List Matcher)) :
    fromInterface (fromInterface [] loaded) loaded = loaded ++ loaded := by
  simp [fromInterface_appends_every_set]

example : fromInterface (fromInterface [] [[.legacy true]]) [[.legacy true]] = [[.legacy true], [.legacy true]] := rfl

mutual
theorem provHandlersInto_app : ∀ (hs acc : List Handler), provHandlersInto acc hs = acc ++ hs
  | [], acc => (List.append_nil acc).symm
  | h :: hs, acc => by
    rw [provHandlersInto, provHandler_id h, provHandlersInto_app hs]; simp
theorem provHandler_id : ∀ (h : Handler), provHandler h = h
  | .pass id => rfl
  | .respond id st => rfl
  | .rewrite id p => rfl
  | .fail id st => rfl
  | .strip => rfl
  | .raise src => rfl
  | .answer src => rfl
  | .invoke n => rfl
  | .sub rs hasErrs errs => by
    rw [provHandler, provisioning_preserves_route_tree rs, provisioning_preserves_route_tree errs]
/-- **provisioning preserves the route tree**: the evaluator ranges over exactly the routes the
    config lists — same order, same groups and terminal flags, same matcher sets (empty ones
    included) and the same handlers in the same order, at every nesting depth (subroutes, their
    error routes, the sets of `not`). -/
theorem provisioning_preserves_route_tree (rs : List Route) : provRoutes rs = rs :=
  match rs with
  | [] => rfl
  | rt :: rs => by
    rw [provRoutes, provRoute_id rt, provisioning_preserves_route_tree rs]
theorem provRoute_id : ∀ (rt : Route), provRoute rt = rt
  | .mk g sets hs term => by
    rw [provRoute, fromInterface_appends_every_set, provHandlersInto_app hs []]; simp
end

example : provRoutes [.mk 1 [[], [.not [[], [.legacy false]]]] [.sub [.mk 0 [[]] [.pass 1] true] true [.mk 2 [] [.respond 2 200] false]] false]
    = [.mk 1 [[], [.not [[], [.legacy false]]]] [.sub [.mk 0 [[]] [.pass 1] true] true [.mk 2 [] [.respond 2 200] false]] false] := rfl

theorem provisioning_keeps_route_order (rs : List Route) :
    (provRoutes rs).map Route.group = rs.map Route.group ∧
    (provRoutes rs).map Route.terminal = rs.map Route.terminal ∧
    (provRoutes rs).map Route.sets = rs.map Route.sets ∧
    (provRoutes rs).map Route.handlers = rs.map Route.handlers := by
  rw [provisioning_preserves_route_tree]; simp

example : (provRoutes [.mk 2 [[]] [] true, .mk 0 [] [.pass 1] false]).map Route.group = [2, 0] := by decide

/-- serving a provisioned configuration is serving the configuration as listed: every theorem of
    Props.lean about `serve` / `serveNamed` speaks about what `App.Provision` builds. -/
theorem serve_provisioned_is_serve_listed (env routes errs : List Route) (hasErrs : Bool) (req : Req) :
    serveProvisioned env routes hasErrs errs req = serveNamed env routes hasErrs errs req := by
  simp [serveProvisioned, provisioning_preserves_route_tree]

example : serveProvisioned [] [.mk 0 [[.atom .host [9]], []] [.respond 1 200] false] false [] wReq
    = ⟨[⟨1, 1, none, none, 1⟩], some 200⟩ := by decide

/-- **why the empty set must survive**: a route one of whose matcher sets is empty applies to every
    request for which the sets in front of it do not match (and do not fail) — "at least one set
    all of whose matchers match" is satisfied by a set without matchers. -/
theorem empty_matcher_set_makes_route_apply (pre post : List (List Matcher)) (r : Req)
    (h : ∀ s ∈ pre, evalSet s r = .ok false) : anyMatch (pre ++ [] :: post) r = .ok true := by
  have hne : (pre ++ [] :: post).isEmpty = false := by cases pre <;> rfl
  rw [anyMatch, hne, if_neg Bool.false_ne_true, evalAny_skip _ r pre h]; rfl

example : anyMatch ([[.atom .host [9]]] ++ [] :: []) wReq = .ok true := by decide

/-- … and dropping it changes what is served: with the empty set the route answers, without it the
    request falls through to the empty default response. A provisioning step that skips empty
    sets (seeded C05-empty-matcher-set-dropped-at-provision) is therefore a routing defect. -/
theorem dropping_an_empty_set_changes_routing :
    ∃ (g : Nat) (sets : List (List Matcher)) (hs : List Handler) (req : Req),
      serve [.mk g sets hs false] false [] req ≠ serve [.mk g (dropEmptySets sets) hs false] false [] req :=
  ⟨0, [[.atom .host [9]], []], [.respond 1 200], wReq, by decide⟩

/-- worse when ALL sets are empty: dropping them leaves a route without matcher sets, which still
    applies — so that slip is only visible through routes that mix empty and non-empty sets -/
theorem dropping_only_empty_sets_is_invisible (n : Nat) (r : Req) :
    anyMatch (dropEmptySets (List.replicate (n + 1) [])) r = anyMatch (List.replicate (n + 1) []) r := by
  have h1 : ∀ k, dropEmptySets (List.replicate k ([] : List Matcher)) = [] := by
    intro k; induction k with
    | zero => rfl
    | succ k ih => simp [List.replicate_succ, dropEmptySets, ih]
  rw [h1]
  simp [anyMatch, List.replicate_succ, evalAny, evalSet]

example : anyMatch (dropEmptySets [[], []]) wReq = anyMatch [[], []] wReq := by decide

/-- **every error hand-off keeps the request's group map**: `HTTPErrorConfig.WithError` only adds
    the error to the context (and the placeholders to the shared replacer); neither the server's
    catch (restore of the original URI) nor a subroute's catch (its own request object) creates a
    new map — the map of the error chain IS the map of the failed chain. -/
theorem error_handoff_keeps_the_group_map (frame req r' : Req) (st : Nat) :
    (withError st r').groups = r'.groups ∧
    (catchAt frame st r').groups = r'.groups ∧
    (serverCatch req st r').groups = r'.groups := by
  simp [withError, catchAt, serverCatch, newObject]

example : (serverCatch wReq 404 { wReq with groups := [2, 1] }).groups = [2, 1] := by decide

/-- **one group map per request**: along primary chain, subroutes with error routes, and the
    server's error chain, the set of satisfied groups starts empty (`PrepareRequest`) and only
    grows: whatever group was satisfied when the primary chain failed is still satisfied at every
    point the error chain reaches. -/
theorem one_group_map_per_request (errs : List Route) (req r' r'' : Req) (st : Nat) (t t'' : Trace)
    (hc : specRoutes errs (serverCatch req st r') t = .cont r'' t'') :
    ∀ g ∈ r'.groups, g ∈ r''.groups :=
  (error_handoff_keeps_the_group_map req req r' st).2.2 ▸ groups_only_grow errs _ r'' t t'' hc

example : specRoutes [.mk 2 [] [.pass 7] false, .mk 1 [] [.pass 8] false] (serverCatch wReq 404 { wReq with groups := [2] }) []
    = .cont { serverCatch wReq 404 { wReq with groups := [2] } with groups := [1, 2] } [⟨8, 1, some 404, some 404, 1⟩] := by decide

/-- the same inside a subroute: its error routes start from the groups its own routes satisfied -/
theorem subroute_error_routes_share_the_group_map (es : List Route) (frame r' r'' : Req) (st : Nat) (t t'' : Trace)
    (hc : specRoutes es (catchAt frame st r') t = .cont r'' t'') :
    ∀ g ∈ r'.groups, g ∈ r''.groups :=
  (error_handoff_keeps_the_group_map frame frame r' st).2.1 ▸ groups_only_grow es _ r'' t t'' hc

example : (catchAt wReq 500 { wReq with groups := [1] }).groups = [1] := by decide

/-- a fresh map per chain (what the seeded change C05-witherror-resets-route-groups does) is a
    different server: an error route of a group the primary chain already satisfied would run. -/
theorem fresh_group_map_in_error_chain_changes_routing :
    ∃ (routes errs : List Route) (req r' : Req) (st : Nat) (t : Trace),
      runRoutes routes emptyK { req with groups := [], ctxErr := none, replStatus := none } [] = .err t st r' ∧
      runRoutes errs errorEmptyK (serverCatch req st r') t
        ≠ runRoutes errs errorEmptyK { serverCatch req st r' with groups := [] } t :=
  ⟨[.mk 1 [] [.fail 1 404] false], [.mk 1 [] [.respond 2 200] false], wReq,
    { wReq with groups := [1] }, 404, [⟨1, 1, none, none, 1⟩], by decide⟩

/-! ### observation: group names of Caddyfile named routes (outside the property's quantifier) -/

/-- the tree the Caddyfile adapter emits for
    `&(nr) { handle /b { respond 201 }  handle { respond 202 } }` invoked from
    `handle /a { invoke nr }  handle { respond 203 }`: `extractNamedRoutes` counts groups with a
    counter of its own, so the named route's handle blocks carry group `g` = the group of the
    site's handle blocks (real adapter output: "group2" four times) -/
def namedGroupSite : List Route :=
  [ .mk 2 [[.atom .path [1]]] [.sub [.mk 0 [] [.invoke 1] false] false []] false,
    .mk 2 [] [.sub [.mk 0 [] [.answer (.lit 203)] false] false []] false ]
def namedGroupEnv (g : Nat) : List Route :=
  [ .mk 0 [] [.sub [ .mk g [[.atom .path [3]]] [.sub [.mk 0 [] [.answer (.lit 201)] false] false []] false,
                     .mk g [] [.sub [.mk 0 [] [.answer (.lit 202)] false] false []] false ] false []] false ]

/-- the server evaluates that tree exactly by the rules — groups are global to the request — and
    so skips every handle block of the named route: the request for `/a` gets the empty default
    response instead of the 202 the Caddyfile prescribes; with a group name of its own (candidate
    adapter patch) the named route answers. Not a clause of C05 (the emitted tree is evaluated
    correctly); reported as an adapter observation. -/
theorem named_route_in_invokers_group_is_skipped_observation :
    serveNamed (namedGroupEnv 2) namedGroupSite false [] wReq = ⟨[], none⟩ ∧
    serveNamed (namedGroupEnv 3) namedGroupSite false [] wReq = ⟨[], some 202⟩ := by decide

/-- the request-context values the routing reads are written at these places and nowhere else
    (sites identified by the key argument of `context.WithValue`, counted over the functions
    reachable from each entry point by same-package static calls — helper extraction and renames
    do not change the counts): vars table and original-request copy once each from `PrepareRequest`,
    the error once from `WithError` (reached from `Subroute.ServeHTTP` and `Server.ServeHTTP`), which
    writes NOTHING else; the second vars/original-request write of the totals is the active health
    checker's synthetic request (property C09). -/
theorem request_context_writes_match_source :
    Gen.requestCtxWrites = [
  ("PrepareRequest", "WithValue VarsCtxKey", 1),
  ("PrepareRequest", "WithValue OriginalRequestCtxKey", 1),
  ("PrepareRequest", "WithValue ErrorCtxKey", 0),
  ("wrapRoute", "WithValue VarsCtxKey", 0),
  ("wrapRoute", "WithValue OriginalRequestCtxKey", 0),
  ("wrapRoute", "WithValue ErrorCtxKey", 0),
  ("HTTPErrorConfig.WithError", "WithValue VarsCtxKey", 0),
  ("HTTPErrorConfig.WithError", "WithValue OriginalRequestCtxKey", 0),
  ("HTTPErrorConfig.WithError", "WithValue ErrorCtxKey", 1),
  ("Subroute.ServeHTTP", "WithValue VarsCtxKey", 0),
  ("Subroute.ServeHTTP", "WithValue OriginalRequestCtxKey", 0),
  ("Subroute.ServeHTTP", "WithValue ErrorCtxKey", 1),
  ("Server.ServeHTTP", "WithValue VarsCtxKey", 0),
  ("Server.ServeHTTP", "WithValue OriginalRequestCtxKey", 0),
  ("Server.ServeHTTP", "WithValue ErrorCtxKey", 1),
  ("total modules/caddyhttp/**", "WithValue VarsCtxKey", 2),
  ("total modules/caddyhttp/**", "WithValue OriginalRequestCtxKey", 2),
  ("total modules/caddyhttp/**", "WithValue ErrorCtxKey", 1)] := rfl

/-- the group map: exactly ONE `WithValue(routeGroupCtxKey)` in the tree, reachable from
    `PrepareRequest` and from no other entry point — none from `WithError`, `Subroute.ServeHTTP` or
    the server's error path; one reader, reachable from `wrapRoute`; no other mention. -/
theorem route_group_map_sites_match_source :
    Gen.routeGroupCtxUses = [
  ("PrepareRequest", "WithValue routeGroupCtxKey", 1),
  ("PrepareRequest", "Value routeGroupCtxKey", 0),
  ("wrapRoute", "WithValue routeGroupCtxKey", 0),
  ("wrapRoute", "Value routeGroupCtxKey", 1),
  ("HTTPErrorConfig.WithError", "WithValue routeGroupCtxKey", 0),
  ("HTTPErrorConfig.WithError", "Value routeGroupCtxKey", 0),
  ("Subroute.ServeHTTP", "WithValue routeGroupCtxKey", 0),
  ("Subroute.ServeHTTP", "Value routeGroupCtxKey", 0),
  ("Server.ServeHTTP", "WithValue routeGroupCtxKey", 0),
  ("Server.ServeHTTP", "Value routeGroupCtxKey", 0),
  ("total modules/caddyhttp/**", "WithValue routeGroupCtxKey", 1),
  ("total modules/caddyhttp/**", "Value routeGroupCtxKey", 1),
  ("total modules/caddyhttp/**", "other routeGroupCtxKey", 0)] := rfl

/-- `FromInterface` appends `matcherSet` to `*ms` unconditionally, once per round of its outer loop
    (the shape `provSetsInto` has), and so does `MatchNot.Provision` for the sets of a `not`; `ProvisionHandlers` appends every loaded handler and wraps every
    handler, in order (`provHandlersInto`). -/
theorem provisioning_loops_match_source :
    Gen.fromInterfaceLoopBody = ["decl", "range matcherSetIfaces", "*ms = append(*ms,matcherSet)"] ∧
    Gen.matchNotProvisionLoopBody = ["decl", "range modMap", "m.MatcherSets = append(m.MatcherSets,ms)"] ∧
    Gen.provisionHandlersLoops =
      [ "range ?: r.Handlers = append(r.Handlers,?)",
        "range r.Handlers: r.middleware = append(r.middleware,wrapMiddleware(ctx,midhandler,metrics))" ] :=
  ⟨rfl, rfl, rfl⟩

end CaddyModel.C05
