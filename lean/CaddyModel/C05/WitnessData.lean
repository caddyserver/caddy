/-
C05 — the concrete route trees used by the proved counter-examples (Witness.lean); those about the
code as it is are exported by the driver as protocol lines (`witnessLines`: replayed on the
implementation on every run).
-/
import CaddyModel.C05.Model

namespace CaddyModel.C05

/-- GET a.test /a, no X-T header -/
def wReq : Req := ⟨0, 0, 1, 0, [], none, none, 1, []⟩

/-- A subroute WITH error routes (handler 1 passes; its error route runs handler 9), followed by a
    route whose handler 3 fails with 404.  The failure happens BEHIND the subroute. -/
def wDownstreamRoutes : List Route :=
  [ .mk 0 [] [.sub [.mk 0 [] [.pass 1] false] true [.mk 0 [] [.pass 9] false]] false,
    .mk 0 [] [.fail 3 404] false ]

/-- One route: rewrite to /b (handler 1), then a subroute whose handler 2 fails with 500 and whose
    error route runs handler 3.  The server's error route runs handler 4. -/
def wRewriteRoutes : List Route :=
  [ .mk 0 [] [.rewrite 1 3, .sub [.mk 0 [] [.fail 2 500] false] true [.mk 0 [] [.fail 3 404] false]] false ]

def wRewriteErrs : List Route := [ .mk 0 [] [.pass 4] false ]

/-- A subroute whose handler 1 fails with a `HandlerError` 404 and whose error route (handler 2)
    fails again with a plain error; the server's error routes: handler 3 passes on, then the real
    `static_response` handler answers with status "{http.error.status_code}". -/
def wStaleRoutes : List Route :=
  [ .mk 0 [] [.sub [.mk 0 [] [.fail 1 404] false] true [.mk 0 [] [.fail 2 0] false]] false ]

def wStaleErrs : List Route := [ .mk 0 [] [.pass 3, .answer .errCode] false ]

/-- A subroute with error routes (handler 7) around a subroute whose handler 1 fails and whose own
    error routes rewrite to /b (handler 2) and fail again (handler 3). -/
def wStaleUriRoutes : List Route :=
  [ .mk 0 [] [.sub [.mk 0 [] [.sub [.mk 0 [] [.fail 1 500] false] true
                                     [.mk 0 [] [.rewrite 2 3, .fail 3 404] false]] false]
              true [.mk 0 [] [.pass 7] false]] false ]

/-- the same two matchers in two orders: a host matcher that does not match `wReq`, and an
    error matcher -/
def wSetA : List Matcher := [.atom .host [1], .err 0 403]
def wSetB : List Matcher := [.err 0 403, .atom .host [1]]

def wOrderRoutes (s : List Matcher) : List Route := [ .mk 0 [s] [.respond 1 200] false ]

end CaddyModel.C05
