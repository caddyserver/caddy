/-
C05 — the continuation-passing code shape (`run*`) against the direct rules (`spec*`): matcher sets as propositions;
the arms of `runRoute`, chains (`routes_in_order`, `handlers_chain_in_order`) and `serve` without error routes; the refinement `run* = spec*.bind` by
mutual structural recursion over the nested route tree; the invariants of the rules (one induction, four instances),
what they mean for the code shape, and the clauses read off them (`subroute_same_rules`, `subroute_wrap_invariant`,
`groups_only_grow`); last, on Model.lean alone, the resolution of named routes.
-/
import CaddyModel.C05.Spec

namespace CaddyModel.C05

theorem evalNot_eq_any : ∀ (sets : List (List Matcher)) (r : Req),
    evalNot sets r = match evalAny sets r with | .ok b => .ok (!b) | .err st => .err st
  | [], _ => rfl
  | s :: ss, r => by
    rw [evalNot, evalAny]
    cases evalSet s r with
    | err st => rfl
    | ok c =>
      cases c with
      | false => exact evalNot_eq_any ss r
      | true => rfl

mutual
theorem evalMatcher_noerr : ∀ (m : Matcher) (r : Req), mCanErr m = false → ∀ st, evalMatcher m r ≠ .err st
  | .atom f vals, r, _, st => by simp [evalMatcher]
  | .err k s, r, h, st => by simp [mCanErr] at h
  | .legacy b, r, _, st => by simp [evalMatcher]
  | .errRange lo hi, r, h, st => by simp [mCanErr] at h
  | .errIn codes, r, _, st => by cases hr : r.replStatus <;> simp [evalMatcher, hr]
  | .errSel ranges codes, r, h, st => by
    simp only [mCanErr, Bool.not_eq_eq_eq_not, Bool.not_false] at h
    cases hr : r.replStatus <;> simp [evalMatcher, hr, h]
  | .not sets, r, h, st => by
    have h1 := evalAny_noerr sets r (by simpa [mCanErr] using h)
    rw [evalMatcher, evalNot_eq_any]
    cases ha : evalAny sets r with
    | err st' => exact absurd ha (h1 st')
    | ok b => simp
theorem evalAny_noerr : ∀ (sets : List (List Matcher)) (r : Req), setsCanErr sets = false → ∀ st, evalAny sets r ≠ .err st
  | [], r, _, st => by simp [evalAny]
  | s :: ss, r, h, st => by
    simp only [setsCanErr, Bool.or_eq_false_iff] at h
    rw [evalAny]
    have h1 := evalSet_noerr s r h.1
    have h2 := evalAny_noerr ss r h.2 st
    cases hs : evalSet s r with
    | err st' => exact absurd hs (h1 st')
    | ok b => cases b <;> simp [h2]
theorem evalSet_noerr : ∀ (s : List Matcher) (r : Req), setCanErr s = false → ∀ st, evalSet s r ≠ .err st
  | [], r, _, st => by simp [evalSet]
  | m :: ms, r, h, st => by
    simp only [setCanErr, Bool.or_eq_false_iff] at h
    rw [evalSet]
    have h1 := evalMatcher_noerr m r h.1
    have h2 := evalSet_noerr ms r h.2 st
    cases hm : evalMatcher m r with
    | err st' => exact absurd hm (h1 st')
    | ok b => cases b <;> simp [h2]
end

theorem anyMatch_noerr (sets : List (List Matcher)) (r : Req) (h : setsCanErr sets = false) (st : Nat) :
    anyMatch sets r ≠ .err st := by
  unfold anyMatch; split
  · simp
  · exact evalAny_noerr sets r h st

theorem evalSet_true_iff : ∀ (s : List Matcher) (r : Req),
    evalSet s r = .ok true ↔ ∀ m ∈ s, evalMatcher m r = .ok true
  | [], r => by simp [evalSet]
  | m :: ms, r => by
    rw [evalSet]
    have ih := evalSet_true_iff ms r
    cases hm : evalMatcher m r with
    | err st => simp [hm]
    | ok b => cases b <;> simp [hm, ih]

theorem evalAny_ok (sets : List (List Matcher)) (r : Req) (b : Bool) : evalAny sets r = .ok b →
    (b = true ↔ ∃ s ∈ sets, evalSet s r = .ok true) := by
  fun_induction evalAny sets r
  case case1 => rintro ⟨⟩; simp
  case case2 s ss st hs => exact fun h => nomatch h
  case case3 s ss hs => rintro ⟨⟩; simp [hs]
  case case4 s ss hs ih => exact fun h => by simp [ih h, hs]

theorem evalAny_skip (post : List (List Matcher)) (r : Req) : ∀ (pre : List (List Matcher)),
    (∀ s ∈ pre, evalSet s r = .ok false) → evalAny (pre ++ post) r = evalAny post r
  | [], _ => rfl
  | s :: pre, h => by
    rw [List.cons_append, evalAny, h s (List.mem_cons_self ..)]
    exact evalAny_skip post r pre fun s' hs' => h s' (List.mem_cons_of_mem _ hs')

theorem evalNot_ok (sets : List (List Matcher)) (r : Req) (b : Bool) (h : evalNot sets r = .ok b) :
    b = true ↔ ¬ ∃ s ∈ sets, evalSet s r = .ok true := by
  rw [evalNot_eq_any] at h
  cases ha : evalAny sets r with
  | err st => rw [ha] at h; cases h
  | ok c =>
    rw [ha] at h; cases h
    rw [← evalAny_ok sets r c ha]
    cases c <;> simp

theorem evalSet_eq_all : ∀ (s : List Matcher) (r : Req), (∀ m ∈ s, ∀ st, evalMatcher m r ≠ .err st) →
    evalSet s r = .ok (s.all fun m => evalMatcher m r == .ok true)
  | [], r, _ => by simp [evalSet]
  | m :: ms, r, h => by
    rw [evalSet]
    have ih := evalSet_eq_all ms r (fun m' hm' => h m' (List.mem_cons_of_mem _ hm'))
    cases hm : evalMatcher m r with
    | err st => exact absurd hm (h m (List.mem_cons_self ..) st)
    | ok b => cases b <;> simp [hm, ih]

theorem runRoute_plain (hs : List Handler) (k : K) : runRoute (.mk 0 [] hs false) k = runHandlers hs k := rfl

theorem groupDone_iff (g : Nat) (r : Req) : groupDone g r = true ↔ g ≠ 0 ∧ g ∈ r.groups := by
  simp [groupDone]

theorem anyMatch_atom (f : Field) (vals : List Nat) (r : Req) :
    anyMatch [[.atom f vals]] r = .ok (vals.contains (r.get f)) := by
  simp only [anyMatch, List.isEmpty_cons, Bool.false_eq_true, if_false, evalAny, evalSet, evalMatcher]
  cases vals.contains (r.get f) <;> rfl

theorem mem_markGroup {x g : Nat} {r : Req} : x ∈ (markGroup g r).groups ↔ (x = g ∧ g ≠ 0) ∨ x ∈ r.groups := by
  unfold markGroup
  split <;> simp_all

theorem markGroup_eq (g : Nat) (r : Req) : markGroup g r = { r with groups := (markGroup g r).groups } := by
  unfold markGroup; split <;> rfl

theorem markGroup_path (g : Nat) (r : Req) : (markGroup g r).path = r.path := by
  rw [markGroup_eq]

/-! ### one step of `wrapRoute`: the arms of `runRoute` -/

/-- **a matcher error diverts**: the route's handlers do not run, nothing after it runs; the error
    surfaces exactly like a handler error. -/
theorem matcher_error_diverts (g : Nat) (sets : List (List Matcher)) (hs : List Handler) (term : Bool)
    (k : K) (r : Req) (t : Trace) (st : Nat) (h : anyMatch sets r = .err st) :
    runRoute (.mk g sets hs term) k r t = .err t st r := by
  simp [runRoute, h]

/-- a route that does not apply has no effect whatsoever (no handler, no group mark, no
    termination): the request goes on to the rest of the chain unchanged. -/
theorem inapplicable_route_is_skipped (g : Nat) (sets : List (List Matcher)) (hs : List Handler)
    (term : Bool) (k : K) (r : Req) (t : Trace) (h : anyMatch sets r = .ok false) :
    runRoute (.mk g sets hs term) k r t = k r t := by
  simp [runRoute, h]

/-- **only the first applicable route of a group runs** (1): an applicable route whose group is
    already satisfied is skipped like an inapplicable one. -/
theorem first_of_group_only (g : Nat) (sets : List (List Matcher)) (hs : List Handler)
    (term : Bool) (k : K) (r : Req) (t : Trace)
    (hg : g ≠ 0) (hm : g ∈ r.groups) (h : anyMatch sets r = .ok true) :
    runRoute (.mk g sets hs term) k r t = k r t := by
  simp [runRoute, h, (groupDone_iff g r).mpr ⟨hg, hm⟩]

theorem runRoute_entered (g : Nat) (sets : List (List Matcher)) (hs : List Handler) (term : Bool)
    (k : K) (r : Req) (t : Trace) (h : anyMatch sets r = .ok true) (hg : groupDone g r = false) :
    runRoute (.mk g sets hs term) k r t = runHandlers hs (if term then termK r else k) (markGroup g r) t := by
  simp [runRoute, h, hg]

/-- **a terminal route ends routing**: once an applicable terminal route is entered, neither the
    routes after it nor the rest of any enclosing chain can run — the outcome does not depend on
    them (`termK` only writes the pending error status, if there is one). -/
theorem terminal_stops (g : Nat) (sets : List (List Matcher)) (hs : List Handler) (rest : List Route)
    (k : K) (r : Req) (t : Trace) (h : anyMatch sets r = .ok true) (hg : groupDone g r = false) :
    runRoutes (.mk g sets hs true :: rest) k r t = runHandlers hs (termK r) (markGroup g r) t :=
  runRoute_entered g sets hs true _ r t h hg

/-- **routes are tried in order**: the chain compiled from `rs₁ ++ rs₂` is the chain of `rs₁`
    whose rest-of-chain is the chain of `rs₂`. -/
theorem routes_in_order (rs₁ rs₂ : List Route) (k : K) :
    runRoutes (rs₁ ++ rs₂) k = runRoutes rs₁ (runRoutes rs₂ k) := by
  induction rs₁ with
  | nil => simp [runRoutes]
  | cons rt rs ih => simp [runRoutes, ih]

/-- **handlers chain in listed order** (1): the chain of `hs₁ ++ hs₂` is the chain of `hs₁` whose
    next handler is the chain of `hs₂`. -/
theorem handlers_chain_in_order (hs₁ hs₂ : List Handler) (k : K) :
    runHandlers (hs₁ ++ hs₂) k = runHandlers hs₁ (runHandlers hs₂ k) := by
  induction hs₁ with
  | nil => simp [runHandlers]
  | cons h hs ih => simp [runHandlers, ih]

theorem runRoutes_none_apply (k : K) (r : Req) (t : Trace) : ∀ (routes : List Route),
    (∀ g sets hs term, Route.mk g sets hs term ∈ routes → anyMatch sets r = .ok false) →
    runRoutes routes k r t = k r t
  | [], _ => rfl
  | .mk g sets hs term :: rs, h => by
    rw [runRoutes, inapplicable_route_is_skipped _ _ _ _ _ _ _ (h g sets hs term (List.mem_cons_self ..))]
    exact runRoutes_none_apply k r t rs fun g' s' h' t' hm => h g' s' h' t' (List.mem_cons_of_mem _ hm)

theorem serve_of_done {routes errs : List Route} {hasErrs : Bool} {req : Req} {t : Trace} {s : Option Nat}
    (h : runRoutes routes emptyK { req with groups := [], ctxErr := none, replStatus := none } [] = .done t s) :
    serve routes hasErrs errs req = ⟨t, s⟩ := by
  simp only [serve, h]

theorem error_without_error_routes (routes : List Route) (req r' : Req) (t : Trace) (st : Nat)
    (h : runRoutes routes emptyK { req with groups := [], ctxErr := none, replStatus := none } [] = .err t st r') :
    serve routes false [] req = ⟨t, some (writeStatus (some st))⟩ := by
  simp [serve, h]

mutual
theorem hs_ok : ∀ (hs : List Handler) (k : K) (r : Req) (t : Trace),
    runHandlers hs k r t = (specHandlers hs r t).bind k
  | [], k, r, t => rfl
  | h :: hs, k, r, t => by
    rw [runHandlers, h_ok h (runHandlers hs k) r t, specHandlers]
    cases specHandler h r t with
    | cont r' t' => exact hs_ok hs k r' t'
    | stop o => rfl
theorem h_ok : ∀ (h : Handler) (k : K) (r : Req) (t : Trace),
    runHandler h k r t = (specHandler h r t).bind k
  | .pass id, k, r, t => rfl
  | .respond id st, k, r, t => rfl
  | .rewrite id p, k, r, t => rfl
  | .strip, k, r, t => rfl
  | .fail id st, k, r, t => rfl
  | .raise src, k, r, t => rfl
  | .invoke n, k, r, t => rfl
  | .answer src, k, r, t => by
    simp only [runHandler, specHandler]; cases answerStep src r <;> rfl
  | .sub rs hasErrs errs, k, r, t => by
    simp only [runHandler, specHandler]
    rw [rs_ok rs reachK r t]
    cases specRoutes rs r t with
    | cont r' t' => rfl
    | stop o =>
      cases o with
      | done t' s => rfl
      | reached r' t' => rfl
      | err t' st r' =>
        cases hasErrs with
        | false => rfl
        | true => exact rs_ok errs k _ t'
theorem rs_ok : ∀ (rs : List Route) (k : K) (r : Req) (t : Trace),
    runRoutes rs k r t = (specRoutes rs r t).bind k
  | [], k, r, t => rfl
  | rt :: rs, k, r, t => by
    rw [runRoutes, r_ok rt (runRoutes rs k) r t, specRoutes]
    cases specRoute rt r t with
    | cont r' t' => exact rs_ok rs k r' t'
    | stop o => rfl
theorem r_ok : ∀ (rt : Route) (k : K) (r : Req) (t : Trace),
    runRoute rt k r t = (specRoute rt r t).bind k
  | .mk g sets hs term, k, r, t => by
    simp only [runRoute, specRoute]
    cases anyMatch sets r with
    | err st => rfl
    | ok b =>
      cases b with
      | false => rfl
      | true =>
        simp only
        split
        · rfl
        · rw [hs_ok hs _ (markGroup g r) t]
          cases specHandlers hs (markGroup g r) t <;> cases term <;> rfl
end

/-! ### invariants of the rules: one induction over the tree

A property `P` of request states and a property `Q` of traces that every state-changing step of the
rules keeps hold of whatever a run of the rules hands on, answers or fails with.  That the marker is
never an outcome, that the group set and the list of request objects only grow, and that the status
placeholder follows the context error are all instances. -/

-- `rewrite` has path and URI apart because `strip` sets them apart.  The server's catch is no step of the rules (`eval` does
-- it between two runs): `status_placeholder_tracks_handler_errors` and `one_group_map_per_request` say it where they need it.
structure Preserved (P : Req → Prop) (Q : Trace → Prop) : Prop where
  probe : ∀ id r t, P r → Q t → Q (t ++ [ev id r])
  hint : ∀ t, Q t → Q (t ++ [hintEv])
  rewrite : ∀ r p u, P r → P { r with path := p, uri := u }
  mark : ∀ g r, P r → P (markGroup g r)
  caught : ∀ frame st r, P r → P (catchAt frame st r)

def Res.Inv (P : Req → Prop) (Q : Trace → Prop) : Res → Prop
  | .cont r t => P r ∧ Q t
  | .stop (.done t _) => Q t
  | .stop (.err t _ r) => P r ∧ Q t
  | .stop (.reached _ _) => False

theorem termK_done (e r : Req) (t : Trace) : ∃ s, termK e r t = .done t s := by
  unfold termK; split
  · exact ⟨_, rfl⟩
  · exact ⟨_, rfl⟩

mutual
theorem specHandlers_inv {P : Req → Prop} {Q : Trace → Prop} (S : Preserved P Q) :
    ∀ (hs : List Handler) (r : Req) (t : Trace), P r → Q t → (specHandlers hs r t).Inv P Q
  | [], r, t, hr, ht => ⟨hr, ht⟩
  | h :: hs, r, t, hr, ht => by
    have h1 := specHandler_inv S h r t hr ht
    rw [specHandlers]
    revert h1
    cases specHandler h r t with
    | cont r' t' => exact fun h1 => specHandlers_inv S hs r' t' h1.1 h1.2
    | stop o => exact id
theorem specHandler_inv {P : Req → Prop} {Q : Trace → Prop} (S : Preserved P Q) :
    ∀ (h : Handler) (r : Req) (t : Trace), P r → Q t → (specHandler h r t).Inv P Q
  | .pass id, r, t, hr, ht => ⟨hr, S.probe id r t hr ht⟩
  | .respond id st, r, t, hr, ht => S.probe id r t hr ht
  | .rewrite id p, r, t, hr, ht => ⟨S.rewrite r p p hr, S.probe id r t hr ht⟩
  | .strip, r, t, hr, ht => ⟨S.rewrite r _ _ hr, ht⟩
  | .fail id st, r, t, hr, ht => ⟨hr, S.probe id r t hr ht⟩
  | .raise src, r, t, hr, ht => ⟨hr, ht⟩
  | .invoke n, r, t, hr, ht => ⟨hr, ht⟩
  | .answer src, r, t, hr, ht => by
    rw [specHandler]
    cases answerStep src r with
    | write n => exact ht
    | hint => exact ⟨hr, S.hint t ht⟩
    | fail => exact ⟨hr, ht⟩
  | .sub rs hasErrs errs, r, t, hr, ht => by
    have h1 := specRoutes_inv S rs r t hr ht
    rw [specHandler]
    revert h1
    cases specRoutes rs r t with
    | cont r' t' => exact id
    | stop o =>
      cases o with
      | done t' s => exact id
      | reached r' t' => exact False.elim
      | err t' st r' =>
        intro h1
        cases hasErrs with
        | false => exact h1
        | true => exact specRoutes_inv S errs _ t' (S.caught r st r' h1.1) h1.2
theorem specRoutes_inv {P : Req → Prop} {Q : Trace → Prop} (S : Preserved P Q) :
    ∀ (rs : List Route) (r : Req) (t : Trace), P r → Q t → (specRoutes rs r t).Inv P Q
  | [], r, t, hr, ht => ⟨hr, ht⟩
  | rt :: rs, r, t, hr, ht => by
    have h1 := specRoute_inv S rt r t hr ht
    rw [specRoutes]
    revert h1
    cases specRoute rt r t with
    | cont r' t' => exact fun h1 => specRoutes_inv S rs r' t' h1.1 h1.2
    | stop o => exact id
theorem specRoute_inv {P : Req → Prop} {Q : Trace → Prop} (S : Preserved P Q) :
    ∀ (rt : Route) (r : Req) (t : Trace), P r → Q t → (specRoute rt r t).Inv P Q
  | .mk g sets hs term, r, t, hr, ht => by
    have h1 := specHandlers_inv S hs (markGroup g r) t (S.mark g r hr) ht
    rw [specRoute]
    cases anyMatch sets r with
    | err st => exact ⟨hr, ht⟩
    | ok b =>
      cases b with
      | false => exact ⟨hr, ht⟩
      | true =>
        simp only
        split
        · exact ⟨hr, ht⟩
        · revert h1
          cases specHandlers hs (markGroup g r) t with
          | stop o => exact id
          | cont r' t' =>
            intro h1
            cases term with
            | false => exact h1
            | true =>
              obtain ⟨s, hs⟩ := termK_done r r' t'
              simpa [hs, Res.Inv] using h1.2
end

def Res.NoMarker : Res → Prop
  | .stop (.reached _ _) => False
  | _ => True

theorem Res.Inv.noMarker {P : Req → Prop} {Q : Trace → Prop} : ∀ {x : Res}, x.Inv P Q → x.NoMarker
  | .cont _ _, _ => trivial
  | .stop (.done _ _), _ => trivial
  | .stop (.err _ _ _), _ => trivial
  | .stop (.reached _ _), h => h

theorem preserved_true : Preserved (fun _ => True) (fun _ => True) := by
  constructor <;> intros <;> trivial

theorem specHandlers_no_marker : ∀ (hs : List Handler) (r : Req) (t : Trace), (specHandlers hs r t).NoMarker :=
  fun hs r t => (specHandlers_inv preserved_true hs r t trivial trivial).noMarker
theorem specHandler_no_marker : ∀ (h : Handler) (r : Req) (t : Trace), (specHandler h r t).NoMarker :=
  fun h r t => (specHandler_inv preserved_true h r t trivial trivial).noMarker
theorem specRoutes_no_marker : ∀ (rs : List Route) (r : Req) (t : Trace), (specRoutes rs r t).NoMarker :=
  fun rs r t => (specRoutes_inv preserved_true rs r t trivial trivial).noMarker
theorem specRoute_no_marker : ∀ (rt : Route) (r : Req) (t : Trace), (specRoute rt r t).NoMarker :=
  fun rt r t => (specRoute_inv preserved_true rt r t trivial trivial).noMarker

def Out.isMarker : Out → Bool
  | .reached _ _ => true
  | _ => false

def NoMarkK (k : K) : Prop := ∀ r t, (k r t).isMarker = false

theorem emptyK_nomark : NoMarkK emptyK := fun _ _ => rfl
theorem errorEmptyK_nomark : NoMarkK errorEmptyK := fun _ _ => rfl

theorem bind_nomark {k : K} (hk : NoMarkK k) : ∀ {x : Res}, x.NoMarker → (x.bind k).isMarker = false
  | .cont r t, _ => hk r t
  | .stop (.done _ _), _ => rfl
  | .stop (.err _ _ _), _ => rfl
  | .stop (.reached _ _), h => h.elim

theorem runHandlers_nomark : ∀ (hs : List Handler) (k : K), NoMarkK k → NoMarkK (runHandlers hs k) :=
  fun hs k hk r t => by rw [hs_ok]; exact bind_nomark hk (specHandlers_no_marker hs r t)
theorem runHandler_nomark : ∀ (h : Handler) (k : K), NoMarkK k → NoMarkK (runHandler h k) :=
  fun h k hk r t => by rw [h_ok]; exact bind_nomark hk (specHandler_no_marker h r t)
theorem runRoutes_nomark : ∀ (rs : List Route) (k : K), NoMarkK k → NoMarkK (runRoutes rs k) :=
  fun rs k hk r t => by rw [rs_ok]; exact bind_nomark hk (specRoutes_no_marker rs r t)
theorem runRoute_nomark : ∀ (rt : Route) (k : K), NoMarkK k → NoMarkK (runRoute rt k) :=
  fun rt k hk r t => by rw [r_ok]; exact bind_nomark hk (specRoute_no_marker rt r t)

/-- **nested subroutes follow the same rules** (1): a subroute without error routes IS its route
    list, evaluated by the same function in the same chain. -/
theorem subroute_same_rules (rs es : List Route) (k : K) (r : Req) (t : Trace) :
    runHandler (.sub rs false es) k r t = runRoutes rs k r t := by
  simp only [runHandler]
  rw [rs_ok rs reachK r t, rs_ok rs k r t]
  have hn := specRoutes_no_marker rs r t
  revert hn
  cases specRoutes rs r t with
  | cont r' t' => exact fun _ => rfl
  | stop o =>
    cases o with
    | done t' s => exact fun _ => rfl
    | err t' st r' => exact fun _ => rfl
    | reached r' t' => exact False.elim

/-- **nested subroutes follow the same rules** (2): wrapping a server's whole route list into one subroute changes nothing observable. -/
theorem subroute_wrap_invariant (rs errs : List Route) (hasErrs : Bool) (req : Req) :
    serve [.mk 0 [] [.sub rs false []] false] hasErrs errs req = serve rs hasErrs errs req := by
  unfold serve
  have : ∀ r t, runRoutes [.mk 0 [] [.sub rs false []] false] emptyK r t = runRoutes rs emptyK r t := by
    intro r t
    simp only [runRoutes, runRoute_plain, runHandlers]
    exact subroute_same_rules rs [] emptyK r t
  rw [this]

theorem runRoute_nested_and (m : Matcher) (s : List Matcher) (hs : List Handler) (k : K) (r : Req) (t : Trace) :
    runRoute (.mk 0 [[m]] [.sub [.mk 0 [s] hs false] false []] false) k r t = runRoute (.mk 0 [m :: s] hs false) k r t := by
  simp only [runRoute, anyMatch, List.isEmpty_cons, Bool.false_eq_true, if_false, evalAny, evalSet,
    groupDone, markGroup, bne_self_eq_false, Bool.false_and, runHandlers]
  cases hm : evalMatcher m r with
  | err st => rfl
  | ok b =>
    cases b with
    | false => rfl
    | true =>
      rw [subroute_same_rules]
      simp only [runRoutes, runRoute, anyMatch, List.isEmpty_cons, Bool.false_eq_true,
        if_false, evalAny, groupDone, markGroup, bne_self_eq_false, Bool.false_and]

-- `KeepsGroups` and `OldsGE` speak of the marker's request too, so that they can be stated of any outcome;
-- coming from `Res.Inv` that arm is never met
def Res.KeepsGroups (x : Res) (gs : List Nat) : Prop :=
  match x with
  | .cont r' _ => ∀ g ∈ gs, g ∈ r'.groups
  | .stop (.err _ _ r') => ∀ g ∈ gs, g ∈ r'.groups
  | .stop (.done _ _) => True
  | .stop (.reached r' _) => ∀ g ∈ gs, g ∈ r'.groups

theorem preserved_groups (gs : List Nat) : Preserved (fun r => ∀ g ∈ gs, g ∈ r.groups) (fun _ => True) where
  probe := fun _ _ _ _ _ => trivial
  hint := fun _ _ => trivial
  rewrite := fun _ _ _ h => h
  mark := fun _ _ h x hx => mem_markGroup.mpr (Or.inr (h x hx))
  caught := fun _ _ _ h => h

theorem Res.Inv.keepsGroups {gs : List Nat} {Q : Trace → Prop} :
    ∀ {x : Res}, x.Inv (fun r => ∀ g ∈ gs, g ∈ r.groups) Q → x.KeepsGroups gs
  | .cont _ _, h => h.1
  | .stop (.done _ _), _ => trivial
  | .stop (.err _ _ _), h => h.1
  | .stop (.reached _ _), h => h.elim

theorem specHandlers_keeps : ∀ (hs : List Handler) (r : Req) (t : Trace), (specHandlers hs r t).KeepsGroups r.groups :=
  fun hs r t => (specHandlers_inv (preserved_groups r.groups) hs r t (fun _ h => h) trivial).keepsGroups
theorem specHandler_keeps : ∀ (h : Handler) (r : Req) (t : Trace), (specHandler h r t).KeepsGroups r.groups :=
  fun h r t => (specHandler_inv (preserved_groups r.groups) h r t (fun _ h => h) trivial).keepsGroups
theorem specRoutes_keeps : ∀ (rs : List Route) (r : Req) (t : Trace), (specRoutes rs r t).KeepsGroups r.groups :=
  fun rs r t => (specRoutes_inv (preserved_groups r.groups) rs r t (fun _ h => h) trivial).keepsGroups
theorem specRoute_keeps : ∀ (rt : Route) (r : Req) (t : Trace), (specRoute rt r t).KeepsGroups r.groups :=
  fun rt r t => (specRoute_inv (preserved_groups r.groups) rt r t (fun _ h => h) trivial).keepsGroups

/-- **only the first applicable route of a group runs** (3): the set of satisfied groups only grows
    along a chain. -/
theorem groups_only_grow (rs : List Route) (r r' : Req) (t t' : Trace)
    (hc : specRoutes rs r t = .cont r' t') : ∀ g ∈ r.groups, g ∈ r'.groups := by
  have := specRoutes_keeps rs r t
  rw [hc] at this
  exact this

/-! ### request objects are only ever added: a frame's own object still exists when it catches -/

def Res.OldsGE (x : Res) (n : Nat) : Prop :=
  match x with
  | .cont r' _ => n ≤ r'.olds.length
  | .stop (.err _ _ r') => n ≤ r'.olds.length
  | .stop (.done _ _) => True
  | .stop (.reached r' _) => n ≤ r'.olds.length

theorem preserved_olds (n : Nat) : Preserved (fun r => n ≤ r.olds.length) (fun _ => True) where
  probe := fun _ _ _ _ _ => trivial
  hint := fun _ _ => trivial
  rewrite := fun _ _ _ h => h
  mark := fun g r h => by rw [markGroup_eq]; exact h
  caught := fun frame st r h => by simp only [catchAt, withError, newObject, List.length_append]; omega

theorem Res.Inv.oldsGE {n : Nat} {Q : Trace → Prop} : ∀ {x : Res}, x.Inv (fun r => n ≤ r.olds.length) Q → x.OldsGE n
  | .cont _ _, h => h.1
  | .stop (.done _ _), _ => trivial
  | .stop (.err _ _ _), h => h.1
  | .stop (.reached _ _), h => h.elim

theorem specHandlers_olds : ∀ (hs : List Handler) (r : Req) (t : Trace), (specHandlers hs r t).OldsGE r.olds.length :=
  fun hs r t => (specHandlers_inv (preserved_olds _) hs r t (Nat.le_refl _) trivial).oldsGE
theorem specHandler_olds : ∀ (h : Handler) (r : Req) (t : Trace), (specHandler h r t).OldsGE r.olds.length :=
  fun h r t => (specHandler_inv (preserved_olds _) h r t (Nat.le_refl _) trivial).oldsGE
theorem specRoutes_olds : ∀ (rs : List Route) (r : Req) (t : Trace), (specRoutes rs r t).OldsGE r.olds.length :=
  fun rs r t => (specRoutes_inv (preserved_olds _) rs r t (Nat.le_refl _) trivial).oldsGE
theorem specRoute_olds : ∀ (rt : Route) (r : Req) (t : Trace), (specRoute rt r t).OldsGE r.olds.length :=
  fun rt r t => (specRoute_inv (preserved_olds _) rt r t (Nat.le_refl _) trivial).oldsGE

/-- the placeholder agrees with the context error whenever that is a `HandlerError` -/
def Req.PlaceholderOk (r : Req) : Prop := ∀ st, r.ctxErr = some st → st ≠ 0 → r.replStatus = some st

def Ev.PlaceholderOk (e : Ev) : Prop := ∀ st, e.err = some st → st ≠ 0 → e.repl = some st

def Out.trace : Out → Trace
  | .done t _ => t
  | .err t _ _ => t
  | .reached _ t => t

def Out.POk (o : Out) : Prop :=
  (∀ e ∈ o.trace, e.PlaceholderOk) ∧ (∀ r' t', o = .reached r' t' → r'.PlaceholderOk)

def KPlaceholderOk (k : K) : Prop :=
  ∀ r t, r.PlaceholderOk → (∀ e ∈ t, e.PlaceholderOk) → (k r t).POk

theorem withError_ok (st : Nat) (r : Req) : (withError st r).PlaceholderOk := by
  intro st' h hne
  simp only [withError] at h ⊢
  cases h
  simp [hne]

theorem snoc_ok {t : Trace} {e : Ev} (ht : ∀ e ∈ t, e.PlaceholderOk) (he : e.PlaceholderOk) :
    ∀ e' ∈ t ++ [e], e'.PlaceholderOk :=
  List.forall_mem_append.mpr ⟨ht, List.forall_mem_singleton.mpr he⟩

theorem preserved_placeholder : Preserved Req.PlaceholderOk (fun t => ∀ e ∈ t, e.PlaceholderOk) where
  probe := fun _ _ _ hr ht => snoc_ok ht hr
  hint := fun _ ht => snoc_ok ht (fun _ h => by cases h)
  rewrite := fun _ _ _ h => h
  mark := fun g r h => by rw [markGroup_eq]; exact h
  caught := fun _ st _ _ => withError_ok st _

theorem done_pok {t : Trace} (s : Option Nat) (ht : ∀ e ∈ t, e.PlaceholderOk) : (Out.done t s).POk :=
  ⟨ht, fun _ _ h => by cases h⟩
theorem err_pok {t : Trace} (st : Nat) (r : Req) (ht : ∀ e ∈ t, e.PlaceholderOk) : (Out.err t st r).POk :=
  ⟨ht, fun _ _ h => by cases h⟩

theorem emptyK_pok : KPlaceholderOk emptyK := fun _ _ _ ht => done_pok _ ht
theorem errorEmptyK_pok : KPlaceholderOk errorEmptyK := fun _ _ _ ht => done_pok _ ht

theorem bind_pok {k : K} (hk : KPlaceholderOk k) :
    ∀ {x : Res}, x.Inv Req.PlaceholderOk (fun t => ∀ e ∈ t, e.PlaceholderOk) → (x.bind k).POk
  | .cont r t, h => hk r t h.1 h.2
  | .stop (.done _ s), h => done_pok s h
  | .stop (.err _ st r), h => err_pok st r h.2
  | .stop (.reached _ _), h => h.elim

theorem runHandlers_pok : ∀ (hs : List Handler) (k : K), KPlaceholderOk k → KPlaceholderOk (runHandlers hs k) :=
  fun hs k hk r t hr ht => by rw [hs_ok]; exact bind_pok hk (specHandlers_inv preserved_placeholder hs r t hr ht)
theorem runHandler_pok : ∀ (h : Handler) (k : K), KPlaceholderOk k → KPlaceholderOk (runHandler h k) :=
  fun h k hk r t hr ht => by rw [h_ok]; exact bind_pok hk (specHandler_inv preserved_placeholder h r t hr ht)
theorem runRoutes_pok : ∀ (rs : List Route) (k : K), KPlaceholderOk k → KPlaceholderOk (runRoutes rs k) :=
  fun rs k hk r t hr ht => by rw [rs_ok]; exact bind_pok hk (specRoutes_inv preserved_placeholder rs r t hr ht)
theorem runRoute_pok : ∀ (rt : Route) (k : K), KPlaceholderOk k → KPlaceholderOk (runRoute rt k) :=
  fun rt k hk r t hr ht => by rw [r_ok]; exact bind_pok hk (specRoute_inv preserved_placeholder rt r t hr ht)

/-! ### `inlineNamed` resolves every defined name when named routes only invoke later ones -/

mutual
/-- every `invoke` of a DEFINED name inside names a route > `b` -/
def hsResGt (env : List Route) (b : Nat) : List Handler → Bool
  | [] => true
  | h :: hs => hResGt env b h && hsResGt env b hs
def hResGt (env : List Route) (b : Nat) : Handler → Bool
  | .invoke n => (lookupNamed env n).isNone || decide (n > b)
  | .sub rs _ errs => rsResGt env b rs && rsResGt env b errs
  | _ => true
def rsResGt (env : List Route) (b : Nat) : List Route → Bool
  | [] => true
  | rt :: rs => rResGt env b rt && rsResGt env b rs
def rResGt (env : List Route) (b : Nat) : Route → Bool
  | .mk _ _ hs _ => hsResGt env b hs
end

theorem lookupNamed_some {env : List Route} {n : Nat} {rt : Route} (h : lookupNamed env n = some rt) :
    n ≠ 0 ∧ env[n - 1]? = some rt := by
  unfold lookupNamed at h
  split at h
  · cases h
  · exact ⟨‹_›, h⟩

theorem lookupNamed_le {env : List Route} {n : Nat} {rt : Route} (h : lookupNamed env n = some rt) :
    1 ≤ n ∧ n ≤ env.length := by
  obtain ⟨h0, h1⟩ := lookupNamed_some h
  have h2 : n - 1 < env.length := (List.getElem?_eq_some_iff.mp h1).1
  exact ⟨Nat.pos_of_ne_zero h0, Nat.le_of_pred_lt h2⟩

/-- `n` is a variable of its own so that the induction step does not have to rewrite the sum `j + i + 1` -/
theorem namedValid_get {rt : Route} {n : Nat} : ∀ (env : List Route) (j i : Nat),
    namedValid j env = true → env[i]? = some rt → n = j + i + 1 → rInvGt n rt = true := by
  intro env
  induction env with
  | nil => exact fun _ _ _ h => nomatch h
  | cons r rs ih =>
    intro j i hv h hn
    simp only [namedValid, Bool.and_eq_true] at hv
    cases i with
    | zero => cases h; subst hn; exact hv.1
    | succ i => exact ih (j + 1) i hv.2 h (by omega)

theorem namedValid_lookup {env : List Route} {n : Nat} {rt : Route}
    (hv : namedValid 0 env = true) (h : lookupNamed env n = some rt) : rInvGt n rt = true := by
  obtain ⟨h0, h1⟩ := lookupNamed_some h
  exact namedValid_get env 0 (n - 1) hv h1 (by rw [Nat.zero_add, Nat.sub_add_cancel (Nat.pos_of_ne_zero h0)])

theorem and_true_imp {a b a' b' : Bool} (h1 : a = true → a' = true) (h2 : b = true → b' = true)
    (h : (a && b) = true) : (a' && b') = true := by
  rw [Bool.and_eq_true] at h ⊢
  exact ⟨h1 h.1, h2 h.2⟩

def Handler.Plain (h : Handler) : Prop := (∀ n, h ≠ .invoke n) ∧ ∀ rs he es, h ≠ .sub rs he es

/-- The folds over a tree with named routes (`*InvGt`, `*ResGt`, `*Unresolved`) and the substitution `inline*` treat every handler
    but `invoke` and `sub` alike (`hResGt_plain`, `hUnresolved_plain`, `inlineH_plain`).  This is `hsInvGt.mutual_induct` with its cases
    named: a fact about these functions is decided at the `invoke` leaves, the other cases pass it on.  (`mutual_induct` takes the
    premises in its own order — handler, route, route list, handler list —, not in that of the binders.) -/
theorem Handler.tree_induct {Phs : List Handler → Prop} {Ph : Handler → Prop} {Prs : List Route → Prop} {Pr : Route → Prop}
    (invoke : ∀ n, Ph (.invoke n))
    (sub : ∀ rs he es, Prs rs → Prs es → Ph (.sub rs he es))
    (plain : ∀ h, h.Plain → Ph h)
    (route : ∀ g sets hs term, Phs hs → Pr (.mk g sets hs term))
    (hnil : Phs []) (hcons : ∀ h hs, Ph h → Phs hs → Phs (h :: hs))
    (rnil : Prs []) (rcons : ∀ rt rs, Pr rt → Prs rs → Prs (rt :: rs)) :
    (∀ hs, Phs hs) ∧ (∀ h, Ph h) ∧ (∀ rs, Prs rs) ∧ ∀ rt, Pr rt :=
  hsInvGt.mutual_induct Phs Ph Prs Pr invoke sub (fun h h1 h2 => plain h ⟨h1, h2⟩) route rnil rcons hnil hcons

theorem hResGt_plain (env : List Route) (b : Nat) {h : Handler} (hp : h.Plain) : hResGt env b h = true := by
  cases h <;> first | rfl | exact absurd rfl (hp.1 _) | exact absurd rfl (hp.2 _ _ _)

theorem hUnresolved_plain (env : List Route) {h : Handler} (hp : h.Plain) : hUnresolved env h = false := by
  cases h <;> first | rfl | exact absurd rfl (hp.1 _) | exact absurd rfl (hp.2 _ _ _)

theorem inlineH_plain (env : List Route) {h : Handler} (hp : h.Plain) : inlineH env h = h := by
  cases h <;> first | rfl | exact absurd rfl (hp.1 _) | exact absurd rfl (hp.2 _ _ _)

theorem invGt_resGt (env : List Route) {m b : Nat} (hb : b ≤ m) :
    (∀ hs, hsInvGt m hs = true → hsResGt env b hs = true) ∧ (∀ h, hInvGt m h = true → hResGt env b h = true) ∧
    (∀ rs, rsInvGt m rs = true → rsResGt env b rs = true) ∧ ∀ rt, rInvGt m rt = true → rResGt env b rt = true := by
  apply Handler.tree_induct
  case invoke =>
    intro n hh
    simp only [hInvGt, decide_eq_true_eq] at hh
    simp only [hResGt, Bool.or_eq_true, decide_eq_true_eq]
    right; omega
  case sub => exact fun _ _ _ ih1 ih2 => and_true_imp ih1 ih2
  case plain => exact fun _ hp _ => hResGt_plain env b hp
  case route => exact fun _ _ _ _ ih => ih
  case hnil => exact fun _ => rfl
  case hcons => exact fun _ _ ih1 ih2 => and_true_imp ih1 ih2
  case rnil => exact fun _ => rfl
  case rcons => exact fun _ _ ih1 ih2 => and_true_imp ih1 ih2

theorem hsInvGt_resGt : ∀ (env : List Route) (m b : Nat) (hs : List Handler), b ≤ m →
    hsInvGt m hs = true → hsResGt env b hs = true :=
  fun env _ _ hs hb => (invGt_resGt env hb).1 hs
theorem hInvGt_resGt : ∀ (env : List Route) (m b : Nat) (h : Handler), b ≤ m →
    hInvGt m h = true → hResGt env b h = true :=
  fun env _ _ h hb => (invGt_resGt env hb).2.1 h
theorem rsInvGt_resGt : ∀ (env : List Route) (m b : Nat) (rs : List Route), b ≤ m →
    rsInvGt m rs = true → rsResGt env b rs = true :=
  fun env _ _ rs hb => (invGt_resGt env hb).2.2.1 rs
theorem rInvGt_resGt : ∀ (env : List Route) (m b : Nat) (rt : Route), b ≤ m →
    rInvGt m rt = true → rResGt env b rt = true :=
  fun env _ _ rt hb => (invGt_resGt env hb).2.2.2 rt

theorem inline_step (env : List Route) (b : Nat) (hv : namedValid 0 env = true) :
    (∀ hs, hsResGt env b hs = true → hsResGt env (b + 1) (inlineHs env hs) = true) ∧
    (∀ h, hResGt env b h = true → hResGt env (b + 1) (inlineH env h) = true) ∧
    (∀ rs, rsResGt env b rs = true → rsResGt env (b + 1) (inlineRs env rs) = true) ∧
    ∀ rt, rResGt env b rt = true → rResGt env (b + 1) (inlineR env rt) = true := by
  apply Handler.tree_induct
  case invoke =>
    -- a defined name `n > b` is replaced by its route, which only invokes names `> n`
    intro n hh
    simp only [inlineH]
    cases hl : lookupNamed env n with
    | none => simp [hResGt, hl]
    | some rt =>
      simp only [hResGt, hl, Option.isNone_some, Bool.false_or, decide_eq_true_eq] at hh
      simp only [hResGt, rsResGt, Bool.and_true]
      exact rInvGt_resGt env n (b + 1) rt (by omega) (namedValid_lookup hv hl)
  case sub => exact fun _ _ _ ih1 ih2 => and_true_imp ih1 ih2
  case plain => exact fun _ hp _ => (inlineH_plain env hp).symm ▸ hResGt_plain env _ hp
  case route => exact fun _ _ _ _ ih => ih
  case hnil => exact fun _ => rfl
  case hcons => exact fun _ _ ih1 ih2 => and_true_imp ih1 ih2
  case rnil => exact fun _ => rfl
  case rcons => exact fun _ _ ih1 ih2 => and_true_imp ih1 ih2

theorem inlineHs_step : ∀ (env : List Route) (b : Nat) (hs : List Handler), namedValid 0 env = true →
    hsResGt env b hs = true → hsResGt env (b + 1) (inlineHs env hs) = true :=
  fun env b hs hv => (inline_step env b hv).1 hs
theorem inlineH_step : ∀ (env : List Route) (b : Nat) (h : Handler), namedValid 0 env = true →
    hResGt env b h = true → hResGt env (b + 1) (inlineH env h) = true :=
  fun env b h hv => (inline_step env b hv).2.1 h
theorem inlineRs_step : ∀ (env : List Route) (b : Nat) (rs : List Route), namedValid 0 env = true →
    rsResGt env b rs = true → rsResGt env (b + 1) (inlineRs env rs) = true :=
  fun env b rs hv => (inline_step env b hv).2.2.1 rs
theorem inlineR_step : ∀ (env : List Route) (b : Nat) (rt : Route), namedValid 0 env = true →
    rResGt env b rt = true → rResGt env (b + 1) (inlineR env rt) = true :=
  fun env b rt hv => (inline_step env b hv).2.2.2 rt

theorem resGt_zero (env : List Route) :
    (∀ hs, hsResGt env 0 hs = true) ∧ (∀ h, hResGt env 0 h = true) ∧
    (∀ rs, rsResGt env 0 rs = true) ∧ ∀ rt, rResGt env 0 rt = true := by
  apply Handler.tree_induct
  case invoke =>
    intro n
    simp only [hResGt, Bool.or_eq_true, decide_eq_true_eq]
    cases hl : lookupNamed env n with
    | none => left; rfl
    | some rt => right; exact (lookupNamed_le hl).1
  case sub => exact fun _ _ _ ih1 ih2 => Bool.and_eq_true_iff.mpr ⟨ih1, ih2⟩
  case plain => exact fun _ hp => hResGt_plain env 0 hp
  case route => exact fun _ _ _ _ ih => ih
  case hnil => rfl
  case hcons => exact fun _ _ ih1 ih2 => Bool.and_eq_true_iff.mpr ⟨ih1, ih2⟩
  case rnil => rfl
  case rcons => exact fun _ _ ih1 ih2 => Bool.and_eq_true_iff.mpr ⟨ih1, ih2⟩

theorem hsResGt_zero : ∀ (env : List Route) (hs : List Handler), hsResGt env 0 hs = true :=
  fun env => (resGt_zero env).1
theorem hResGt_zero : ∀ (env : List Route) (h : Handler), hResGt env 0 h = true :=
  fun env => (resGt_zero env).2.1
theorem rsResGt_zero : ∀ (env : List Route) (rs : List Route), rsResGt env 0 rs = true :=
  fun env => (resGt_zero env).2.2.1
theorem rResGt_zero : ∀ (env : List Route) (rt : Route), rResGt env 0 rt = true :=
  fun env => (resGt_zero env).2.2.2

theorem or_false_of_and {a b a' b' : Bool} (h1 : a = true → a' = false) (h2 : b = true → b' = false)
    (h : (a && b) = true) : (a' || b') = false := by
  rw [Bool.and_eq_true] at h
  rw [h1 h.1, h2 h.2]; rfl

theorem resGt_resolved (env : List Route) :
    (∀ hs, hsResGt env env.length hs = true → hsUnresolved env hs = false) ∧
    (∀ h, hResGt env env.length h = true → hUnresolved env h = false) ∧
    (∀ rs, rsResGt env env.length rs = true → rsUnresolved env rs = false) ∧
    ∀ rt, rResGt env env.length rt = true → rUnresolved env rt = false := by
  apply Handler.tree_induct
  case invoke =>
    -- a defined name is at most `env.length`
    intro n hh
    simp only [hResGt, Bool.or_eq_true, decide_eq_true_eq] at hh
    simp only [hUnresolved]
    cases hl : lookupNamed env n with
    | none => rfl
    | some rt =>
      have := lookupNamed_le hl
      rcases hh with h1 | h1
      · simp [hl] at h1
      · omega
  case sub => exact fun _ _ _ ih1 ih2 => or_false_of_and ih1 ih2
  case plain => exact fun _ hp _ => hUnresolved_plain env hp
  case route => exact fun _ _ _ _ ih => ih
  case hnil => exact fun _ => rfl
  case hcons => exact fun _ _ ih1 ih2 => or_false_of_and ih1 ih2
  case rnil => exact fun _ => rfl
  case rcons => exact fun _ _ ih1 ih2 => or_false_of_and ih1 ih2

theorem hsResolved : ∀ (env : List Route) (hs : List Handler), hsResGt env env.length hs = true →
    hsUnresolved env hs = false :=
  fun env => (resGt_resolved env).1
theorem hResolved : ∀ (env : List Route) (h : Handler), hResGt env env.length h = true →
    hUnresolved env h = false :=
  fun env => (resGt_resolved env).2.1
theorem rsResolved : ∀ (env : List Route) (rs : List Route), rsResGt env env.length rs = true →
    rsUnresolved env rs = false :=
  fun env => (resGt_resolved env).2.2.1
theorem rResolved : ∀ (env : List Route) (rt : Route), rResGt env env.length rt = true →
    rUnresolved env rt = false :=
  fun env => (resGt_resolved env).2.2.2

theorem inlineNamed_resGt (env : List Route) (hv : namedValid 0 env = true) :
    ∀ (n b : Nat) (rs : List Route), rsResGt env b rs = true →
      rsResGt env (n + b) (inlineNamed env n rs) = true := by
  intro n
  induction n with
  | zero => intro b rs h; rw [Nat.zero_add]; exact h
  | succ n ih =>
    intro b rs h
    rw [Nat.succ_add_eq_add_succ]
    exact ih (b + 1) (inlineRs env rs) (inlineRs_step env b rs hv h)

end CaddyModel.C05
