/-
C05 — provisioning of a route tree, as the code performs it
(modules/caddyhttp/routes.go: MatcherSets.FromInterface, Route.ProvisionMatchers,
Route.ProvisionHandlers, RouteList.Provision*; matchers.go: MatchNot.Provision;
subroute.go: Subroute.Provision).

What a config lists (`MatcherSetsRaw`, `HandlersRaw`: the trees the driver parses) is turned into
the values the evaluator ranges over (`MatcherSets`, `Handlers`) by loops that APPEND to the
provisioned field:

  * `FromInterface`: per loaded matcher set an inner loop appends every matcher to a fresh
    `matcherSet`, then `*ms = append(*ms, matcherSet)` — unconditionally, so an EMPTY set is kept
    (it matches every request: `MatcherSet.MatchWithError` of no matchers is true);
  * `MatchNot.Provision` does the same for the sets of a `not`;
  * `ProvisionHandlers`: `r.Handlers = append(r.Handlers, handler)` per loaded handler, then one
    `wrapMiddleware` per handler in the same order; `Subroute.Provision` provisions its routes and
    its error routes;
  * `RouteList.ProvisionMatchers/Handlers` go through the routes by index: group, terminal flag and
    position of a route are not touched.

The accumulators are explicit (`acc`): the code appends to whatever the field held before (a
freshly decoded route holds nothing: both fields are `json:"-"`).
-/
import CaddyModel.C05.Model

namespace CaddyModel.C05

mutual
/-- a loaded matcher module after its own `Provision` -/
def provMatcher : Matcher → Matcher
  | .atom f vals => .atom f vals
  | .err kind st => .err kind st
  | .legacy b => .legacy b
  | .errRange lo hi => .errRange lo hi
  | .errIn codes => .errIn codes
  | .errSel ranges codes => .errSel ranges codes
  | .not sets => .not (provSetsInto [] sets)      -- MatchNot.Provision
/-- the inner loop of `FromInterface`: `matcherSet = append(matcherSet, m)` -/
def provSetInto (acc : List Matcher) : List Matcher → List Matcher
  | [] => acc
  | m :: ms => provSetInto (acc ++ [provMatcher m]) ms
/-- `MatcherSets.FromInterface`: `*ms = append(*ms, matcherSet)` once per loaded set -/
def provSetsInto (acc : List (List Matcher)) : List (List Matcher) → List (List Matcher)
  | [] => acc
  | s :: ss => provSetsInto (acc ++ [provSetInto [] s]) ss
end

/-- `MatcherSets.FromInterface` on the field as it is (`ms`) -/
def fromInterface (ms loaded : List (List Matcher)) : List (List Matcher) := provSetsInto ms loaded

mutual
/-- the loop of `Route.ProvisionHandlers`: `r.Handlers = append(r.Handlers, handler)` -/
def provHandlersInto (acc : List Handler) : List Handler → List Handler
  | [] => acc
  | h :: hs => provHandlersInto (acc ++ [provHandler h]) hs
/-- a loaded handler module after its own `Provision` (`Subroute.Provision`) -/
def provHandler : Handler → Handler
  | .pass id => .pass id
  | .respond id st => .respond id st
  | .rewrite id p => .rewrite id p
  | .fail id st => .fail id st
  | .strip => .strip
  | .raise src => .raise src
  | .answer src => .answer src
  | .invoke n => .invoke n
  | .sub rs hasErrs errs => .sub (provRoutes rs) hasErrs (provRoutes errs)
/-- `RouteList.Provision`: every route in place -/
def provRoutes : List Route → List Route
  | [] => []
  | rt :: rs => provRoute rt :: provRoutes rs
/-- `Route.Provision` of a freshly decoded route: `ProvisionMatchers` then `ProvisionHandlers` -/
def provRoute : Route → Route
  | .mk g sets hs term => .mk g (fromInterface [] sets) (provHandlersInto [] hs) term
end

/-- what a route exposes to the evaluator -/
def Route.sets : Route → List (List Matcher)
  | .mk _ sets _ _ => sets
def Route.group : Route → Nat
  | .mk g _ _ _ => g
def Route.terminal : Route → Bool
  | .mk _ _ _ term => term
def Route.handlers : Route → List Handler
  | .mk _ _ hs _ => hs

/-- `App.Provision` + `Server.ServeHTTP`: the config is provisioned, then requests are served -/
def serveProvisioned (env routes : List Route) (hasErrs : Bool) (errs : List Route) (req : Req) : Result :=
  serveNamed (provRoutes env) (provRoutes routes) hasErrs (provRoutes errs) req

/-- the matcher sets of a route with the empty ones dropped (what provisioning must NOT do) -/
def dropEmptySets : List (List Matcher) → List (List Matcher)
  | [] => []
  | s :: ss => if s.isEmpty then dropEmptySets ss else s :: dropEmptySets ss

end CaddyModel.C05
