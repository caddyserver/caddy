/-
C12 — `indexConfigObjects` files exactly the tagged objects, each under the `path.Join` of
its position; and a tagged position really names that object.
-/
import CaddyModel.C12.PathLemmas
import CaddyModel.C12.EffectLemmas

namespace CaddyModel.C12

/-- the index entry of a tagged object: its id text and `path.Join` folded over its position -/
def entryOf (p : Bytes) (e : List Bytes × Bytes) : Bytes × Bytes := (e.2, e.1.foldl pathJoin p)

theorem append2_some {a b : Option Index} {idx : Index} (h : append2 a b = some idx) :
    ∃ x y, a = some x ∧ b = some y ∧ idx = x ++ y := by
  cases a <;> cases b <;> simp [append2] at h
  exact ⟨_, _, rfl, rfl, h.symm⟩

theorem consIdx_some {id : Option Bytes} {p : Bytes} {r : Option Index} {idx : Index} (h : consIdx id p r = some idx) :
    ∃ t y, id = some t ∧ r = some y ∧ idx = (t, p) :: y := by
  cases r <;> cases id <;> simp [consIdx] at h
  exact ⟨_, _, rfl, rfl, h.symm⟩

theorem map_entry_cons (k : Bytes) (p : Bytes) (l : List (List Bytes × Bytes)) :
    (l.map (fun e => (k :: e.1, e.2))).map (entryOf p) = l.map (entryOf (pathJoin p k)) := by
  simp [List.map_map, entryOf, Function.comp_def]

mutual
theorem indexJ_tagged : ∀ (j : Json) (p : Bytes) (idx : Index), indexJ j p = some idx → idx = (taggedJ j).map (entryOf p)
  | .obj kvs, p, idx, h => by rw [indexJ] at h; rw [taggedJ]; exact indexO_tagged kvs p idx h
  | .arr xs, p, idx, h => by rw [indexJ] at h; rw [taggedJ]; exact indexL_tagged xs 0 p idx h
  | .null, p, idx, h => by simp [indexJ] at h; simp [taggedJ, h]
  | .bool _, p, idx, h => by simp [indexJ] at h; simp [taggedJ, h]
  | .num _, p, idx, h => by simp [indexJ] at h; simp [taggedJ, h]
  | .str _, p, idx, h => by simp [indexJ] at h; simp [taggedJ, h]
theorem indexO_tagged : ∀ (kvs : Obj) (p : Bytes) (idx : Index), indexO kvs p = some idx → idx = (taggedO kvs).map (entryOf p)
  | [], p, idx, h => by simp [indexO] at h; simp [taggedO, h]
  | (k, v) :: r, p, idx, h => by
    rw [indexO] at h
    rw [taggedO]
    split at h
    · next hk =>
      obtain ⟨t, y, ht, hy, rfl⟩ := consIdx_some h
      have := indexO_tagged r p y hy
      simp [hk, ht, entryOf, this]
    · next hk =>
      obtain ⟨x, y, hx, hy, rfl⟩ := append2_some h
      have h1 := indexJ_tagged v (pathJoin p k) x hx
      have h2 := indexO_tagged r p y hy
      simp only [hk, if_false, List.map_append, map_entry_cons]
      rw [← h1, ← h2]
theorem indexL_tagged : ∀ (xs : List Json) (i : Nat) (p : Bytes) (idx : Index), indexL xs i p = some idx →
    idx = (taggedL xs i).map (entryOf p)
  | [], i, p, idx, h => by simp [indexL] at h; simp [taggedL, h]
  | x :: xs, i, p, idx, h => by
    rw [indexL] at h
    rw [taggedL]
    obtain ⟨a, b, ha, hb, rfl⟩ := append2_some h
    have h1 := indexJ_tagged x (pathJoin p (natDigits i)) a ha
    have h2 := indexL_tagged xs (i + 1) p b hb
    simp only [List.map_append, map_entry_cons]
    rw [← h1, ← h2]
end

theorem candidates_map (t p : Bytes) (l : List (List Bytes × Bytes)) :
    candidates t (l.map (entryOf p)) = (l.filter (fun e => e.2 = t)).map (fun e => e.1.foldl pathJoin p) := by
  simp only [candidates, List.filter_map, List.map_map, entryOf, Function.comp_def]
  rfl

theorem foldl_pathJoin_ok : ∀ {segs base : List Bytes}, okSegs base → base ≠ [] → okSegs segs →
    segs.foldl pathJoin (renderPath base) = renderPath (base ++ segs)
  | [], base, _, _, _ => by simp
  | k :: r, base, hb, hne, hs => by
    simp only [List.foldl_cons]
    rw [pathJoin_ok hb hne (hs k (by simp))]
    have hb' : okSegs (base ++ [k]) := okSegs_append hb (okSegs_singleton (hs k (by simp)))
    rw [foldl_pathJoin_ok hb' (by simp) hs.tail]
    simp

def EntryJ (j : Json) (e : List Bytes × Bytes) : Prop :=
  ∃ kvs v, sget e.1 j = some (.obj kvs) ∧ lookup idKey kvs = some v ∧ idText v = some e.2

theorem lookup_cons_other {k k' : Bytes} {v : Json} {r : Obj} (h : lookup k r = none) (h' : (lookup k' r).isSome) :
    lookup k' ((k, v) :: r) = lookup k' r := by
  have : k' ≠ k := by intro e; subst e; simp [h] at h'
  simp [lookup, this]

def EntryO (kvs : Obj) (e : List Bytes × Bytes) : Prop :=
  (e.1 = [] ∧ ∃ v, lookup idKey kvs = some v ∧ idText v = some e.2) ∨
  (∃ k s v, e.1 = k :: s ∧ lookup k kvs = some v ∧ EntryJ v (s, e.2))

theorem EntryO_cons {k : Bytes} {v : Json} {r : Obj} (hk : lookup k r = none) {e : List Bytes × Bytes}
    (h : EntryO r e) : EntryO ((k, v) :: r) e := by
  rcases h with ⟨h1, w, h2, h3⟩ | ⟨k', s, w, h1, h2, h3⟩
  · exact Or.inl ⟨h1, w, by rw [lookup_cons_other hk (by simp [h2])]; exact h2, h3⟩
  · exact Or.inr ⟨k', s, w, h1, by rw [lookup_cons_other hk (by simp [h2])]; exact h2, h3⟩

theorem EntryJ_of_obj {kvs : Obj} {e : List Bytes × Bytes} (h : EntryO kvs e) : EntryJ (.obj kvs) e := by
  rcases h with ⟨h1, w, h2, h3⟩ | ⟨k, s, w, h1, h2, kv, w', h3, h4, h5⟩
  · exact ⟨kvs, w, by rw [h1]; simp [sget], h2, h3⟩
  · exact ⟨kv, w', by rw [h1, sget_obj_cons, h2]; exact h3, h4, h5⟩

mutual
theorem taggedJ_entry : ∀ (j : Json), uniqueKeys j = true → shortArrays j = true → ∀ e ∈ taggedJ j, EntryJ j e
  | .obj kvs, hu, hs, e, he => by
    rw [taggedJ] at he; rw [uniqueKeys] at hu; rw [shortArrays] at hs
    exact EntryJ_of_obj (taggedO_entry kvs hu hs e he)
  | .arr xs, hu, hs, e, he => by
    rw [taggedJ] at he; rw [uniqueKeys] at hu; rw [shortArrays] at hs
    simp at hs
    obtain ⟨i, s, x, h1, h2, h3, kv, w, h4, h5, h6⟩ := taggedL_entry xs 0 hu hs.2 e he
    simp at h1 h2
    have hlt : i < xs.length := (List.getElem?_eq_some_iff.1 h3).1
    have hat : atoi (natDigits i) = some (i : Int) := atoi_natDigits (by omega)
    refine ⟨kv, w, ?_, h5, h6⟩
    rw [h1, sget_arr_at hat, h3]; exact h4
  | .null, _, _, e, he => by simp [taggedJ] at he
  | .bool _, _, _, e, he => by simp [taggedJ] at he
  | .num _, _, _, e, he => by simp [taggedJ] at he
  | .str _, _, _, e, he => by simp [taggedJ] at he
theorem taggedO_entry : ∀ (kvs : Obj), uniqueKeysO kvs = true → shortArraysO kvs = true → ∀ e ∈ taggedO kvs, EntryO kvs e
  | [], _, _, e, he => by simp [taggedO] at he
  | (k, v) :: r, hu, hs, e, he => by
    rw [taggedO] at he
    rw [uniqueKeysO] at hu; rw [shortArraysO] at hs
    simp at hu hs
    obtain ⟨⟨hk, huv⟩, hur⟩ := hu
    split at he
    · next hid =>
      rw [List.mem_append] at he
      rcases he with he | he
      · cases ht : idText v with
        | none => simp [ht] at he
        | some t =>
          simp [ht] at he; subst he
          exact Or.inl ⟨rfl, v, by simp [lookup, hid], ht⟩
      · exact EntryO_cons hk (taggedO_entry r hur hs.2 e he)
    · next hid =>
      rw [List.mem_append] at he
      rcases he with he | he
      · obtain ⟨⟨s, t⟩, hm, heq⟩ := List.mem_map.1 he
        rw [← heq]
        exact Or.inr ⟨k, s, v, rfl, by simp [lookup], taggedJ_entry v huv hs.1 (s, t) hm⟩
      · exact EntryO_cons hk (taggedO_entry r hur hs.2 e he)
theorem taggedL_entry : ∀ (xs : List Json) (base : Nat), uniqueKeysL xs = true → shortArraysL xs = true →
    ∀ e ∈ taggedL xs base, ∃ i s x, e.1 = natDigits (base + i) :: s ∧ True ∧ xs[i]? = some x ∧ EntryJ x (s, e.2)
  | [], _, _, _, e, he => by simp [taggedL] at he
  | x :: xs, base, hu, hs, e, he => by
    rw [taggedL] at he
    rw [uniqueKeysL] at hu; rw [shortArraysL] at hs
    simp at hu hs
    rw [List.mem_append] at he
    rcases he with he | he
    · obtain ⟨⟨s, t⟩, hm, heq⟩ := List.mem_map.1 he
      rw [← heq]
      exact ⟨0, s, x, by simp, trivial, by simp, taggedJ_entry x hu.1 hs.1 (s, t) hm⟩
    · obtain ⟨i, s, y, h1, _, h3, h4⟩ := taggedL_entry xs (base + 1) hu.2 hs.2 e he
      exact ⟨i + 1, s, y, by rw [h1]; congr 2; omega, trivial, by simpa using h3, h4⟩
end

end CaddyModel.C12
