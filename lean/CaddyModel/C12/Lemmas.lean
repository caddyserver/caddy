/-
C12 — association lists; what `arrayOp` and `lastOp` return, written with `appended` (what a POST appends) and
`indexedOp` (the indexed methods once the index is checked), both defined here; the equations of the traversal loop on a
map, and the fact that it leaves a map a map.
-/
import CaddyModel.C12.Model

namespace CaddyModel.C12

theorem replaceKey_self {k : Bytes} {v : Json} {m : Obj} (h : lookup k m = some v) : replaceKey k v m = m := by
  fun_induction replaceKey k v m <;> simp_all [lookup]

theorem lookup_replaceKey_same {k : Bytes} {v : Json} {m : Obj} (h : (lookup k m).isSome) :
    lookup k (replaceKey k v m) = some v := by
  fun_induction replaceKey k v m <;> simp_all [lookup]

theorem lookup_replaceKey_other {k k' : Bytes} {v : Json} (hne : k' ≠ k) {m : Obj} :
    lookup k' (replaceKey k v m) = lookup k' m := by
  fun_induction replaceKey k v m <;> simp_all [lookup]

theorem lookup_insertSorted_same {k : Bytes} {v : Json} {m : Obj} (h : lookup k m = none) :
    lookup k (insertSorted k v m) = some v := by
  fun_induction insertSorted k v m <;> simp_all [lookup]
  split <;> simp_all

theorem lookup_insertSorted_other {k k' : Bytes} {v : Json} (hne : k' ≠ k) {m : Obj} :
    lookup k' (insertSorted k v m) = lookup k' m := by
  fun_induction insertSorted k v m <;> simp_all [lookup]

theorem setKey_cases (k : Bytes) (v : Json) (m : Obj) :
    ((lookup k m).isSome ∧ setKey k v m = replaceKey k v m) ∨ (lookup k m = none ∧ setKey k v m = insertSorted k v m) := by
  unfold setKey
  cases h : lookup k m <;> simp

theorem lookup_setKey_same (k : Bytes) (v : Json) (m : Obj) : lookup k (setKey k v m) = some v := by
  rcases setKey_cases k v m with ⟨h, e⟩ | ⟨h, e⟩ <;> rw [e]
  · exact lookup_replaceKey_same h
  · exact lookup_insertSorted_same h

theorem lookup_setKey_other {k k' : Bytes} (v : Json) (m : Obj) (hne : k' ≠ k) : lookup k' (setKey k v m) = lookup k' m := by
  rcases setKey_cases k v m with ⟨_, e⟩ | ⟨_, e⟩ <;> rw [e]
  · exact lookup_replaceKey_other hne
  · exact lookup_insertSorted_other hne

theorem replaceKey_eq_setKey {k : Bytes} {m : Obj} (h : (lookup k m).isSome) (v : Json) : replaceKey k v m = setKey k v m := by
  simp [setKey, h]

theorem lookup_eraseKey_same (k : Bytes) (m : Obj) : lookup k (eraseKey k m) = none := by
  fun_induction eraseKey k m <;> simp_all [lookup]

theorem lookup_eraseKey_other {k k' : Bytes} (hne : k' ≠ k) : ∀ (m : Obj), lookup k' (eraseKey k m) = lookup k' m := by
  intro m
  fun_induction eraseKey k m <;> simp_all [lookup]

theorem set_self {α} {xs : List α} {i : Nat} {c : α} (h : xs[i]? = some c) : xs.set i c = xs := by
  obtain ⟨hlt, rfl⟩ := List.getElem?_eq_some_iff.1 h
  exact List.set_getElem_self hlt

theorem idx_in_range {idx : Int} {n : Nat} (h0 : ¬ idx < 0) (h1 : ¬ idx ≥ (n : Int)) : idx.toNat < n := by
  omega

/-- the elements a POST appends: the body, or (with a trailing `...`) the elements of the body -/
def appended (ell : Bool) (val : Json) : Option (List Json) :=
  if ell then (match val with | .arr vs => some vs | _ => none) else some [val]

theorem arrayOp_post (ell : Bool) (val : Json) (idxStr : Bytes) (arr : List Json) :
    arrayOp .post ell val idxStr arr =
      match appended ell val with
      | some app => (arr ++ app, .ok none)
      | none => (arr, .err .notArray) := by
  unfold arrayOp appended
  cases ell <;> cases val <;> rfl

/-- what the array-destination block does for a method that takes an index, once the index is
    parsed and checked -/
def indexedOp (m : Method) (val : Json) (i : Nat) (arr : List Json) : List Json × Res :=
  match m with
  | .get => (arr, .ok arr[i]?)
  | .put => (arr.insertIdx i val, .ok none)
  | .patch => (arr.set i val, .ok none)
  | .delete => (arr.eraseIdx i, .ok none)
  | .post => (arr, .ok none)     -- not reached: POST takes no index (`arrayOp_post`)

/-- an index that parses and is in range for the method (`len` itself only for PUT, which inserts) -/
theorem arrayOp_at {m : Method} (hm : m ≠ .post) (ell : Bool) (val : Json) {idxStr : Bytes} {arr : List Json} {i : Nat}
    (ha : atoi idxStr = some ↑i) (hi : i ≤ arr.length) (hi' : m ≠ .put → i < arr.length) :
    arrayOp m ell val idxStr arr = indexedOp m val i arr := by
  have hb : ¬((i : Int) < 0 ∨ (m ≠ .put ∧ (i : Int) ≥ arr.length) ∨ (i : Int) > arr.length) := by
    rintro (h | ⟨hp, h⟩ | h)
    · omega
    · have := hi' hp; omega
    · omega
  unfold arrayOp indexedOp
  rw [if_neg hm]
  simp only [ha, if_neg hb, Int.toNat_natCast]
  cases m with
  | put => rfl
  | post => rfl
  | get => simp only [List.getElem?_eq_getElem (hi' (by simp))]
  | patch => simp only [if_pos (hi' (by simp))]
  | delete => simp only [if_pos (hi' (by simp))]

theorem arrayOp_indexed {m : Method} (hm : m ≠ .post) (ell : Bool) (val : Json) (idxStr : Bytes) (arr : List Json) :
    (∃ e, arrayOp m ell val idxStr arr = (arr, .err e)) ∨
    ∃ i : Nat, atoi idxStr = some ↑i ∧ i ≤ arr.length ∧ (m ≠ .put → i < arr.length) ∧
      arrayOp m ell val idxStr arr = indexedOp m val i arr := by
  cases ha : atoi idxStr with
  | none => exact Or.inl ⟨.badIndex, by simp [arrayOp, hm, ha]⟩
  | some idx =>
    by_cases hb : idx < 0 ∨ (m ≠ .put ∧ idx ≥ arr.length) ∨ idx > arr.length
    · exact Or.inl ⟨.oob, by simp only [arrayOp, if_neg hm, ha, if_pos hb]⟩
    · obtain ⟨i, rfl⟩ := Int.eq_ofNat_of_zero_le (Int.not_lt.1 fun h => hb (Or.inl h))
      have h1 : i ≤ arr.length := Nat.le_of_not_lt fun h => hb (Or.inr (Or.inr (Int.ofNat_lt.2 h)))
      have h2 : m ≠ .put → i < arr.length := fun hp => Nat.lt_of_not_le fun h => hb (Or.inr (Or.inl ⟨hp, Int.ofNat_le.2 h⟩))
      exact Or.inr ⟨i, rfl, h1, h2, arrayOp_at hm ell val ha h1 h2⟩

theorem arrayOp_unchanged {m : Method} {ell : Bool} {val : Json} {idxStr : Bytes} {arr : List Json}
    (h : m = .get ∨ ∀ o, (arrayOp m ell val idxStr arr).2 ≠ .ok o) : (arrayOp m ell val idxStr arr).1 = arr := by
  by_cases hm : m = .post
  · subst hm; rw [arrayOp_post] at h ⊢
    cases ha : appended ell val <;> simp_all
  · rcases arrayOp_indexed hm ell val idxStr arr with ⟨e, he⟩ | ⟨i, _, _, _, he⟩ <;> rw [he] at h ⊢
    cases m <;> simp_all [indexedOp]

theorem arrayOp_no_panic (m : Method) (ell : Bool) (val : Json) (idxStr : Bytes) (arr : List Json) :
    (arrayOp m ell val idxStr arr).2 ≠ .panic := by
  by_cases hm : m = .post
  · subst hm; rw [arrayOp_post]
    cases appended ell val <;> simp
  · rcases arrayOp_indexed hm ell val idxStr arr with ⟨e, he⟩ | ⟨i, _, _, _, he⟩ <;> rw [he]
    · simp
    · cases m <;> simp [indexedOp]

theorem lastOp_post (ell : Bool) (val : Json) (part : Bytes) (kvs : Obj) (child : Option Json) :
    lastOp .post ell val part kvs child =
      match child with
      | some (.arr arr) =>
        (match appended ell val with
          | some app => (.obj (setKey part (.arr (arr ++ app)) kvs), .ok none)
          | none => (.obj kvs, .err .notArray))
      | _ => (.obj (setKey part val kvs), .ok none) := by
  unfold lastOp appended
  cases child with
  | none => rfl
  | some c => cases c <;> first | rfl | (cases ell <;> cases val <;> rfl)

theorem lastOp_unchanged {m : Method} {ell : Bool} {val : Json} {part : Bytes} {kvs : Obj} {child : Option Json}
    (h : m = .get ∨ ∀ out, (lastOp m ell val part kvs child).2 ≠ .ok out) :
    (lastOp m ell val part kvs child).1 = .obj kvs := by
  revert h
  fun_cases lastOp m ell val part kvs child <;> simp

theorem lastOp_no_panic (m : Method) (ell : Bool) (val : Json) (part : Bytes) (kvs : Obj) (child : Option Json) :
    (lastOp m ell val part kvs child).2 ≠ .panic := by
  fun_cases lastOp m ell val part kvs child <;> simp

theorem lastOp_fst (m : Method) (ell : Bool) (val : Json) (part : Bytes) (kvs : Obj) (child : Option Json) :
    ∃ kvs', (lastOp m ell val part kvs child).1 = .obj kvs' ∧
      (kvs' = kvs ∨
       (∃ v, (v = val ∨ ∃ arr app, child = some (.arr arr) ∧ appended ell val = some app ∧ v = .arr (arr ++ app)) ∧
          kvs' = setKey part v kvs) ∨
       (m = .delete ∧ kvs' = eraseKey part kvs)) := by
  fun_cases lastOp m ell val part kvs child
  -- POST to an array appends; POST elsewhere, PUT and PATCH set the key; DELETE removes it
  case case2 | case4 => exact ⟨_, rfl, Or.inr (Or.inl ⟨_, Or.inr ⟨_, _, rfl, by simp [appended, *], rfl⟩, rfl⟩)⟩
  case case5 | case7 | case8 => exact ⟨_, rfl, Or.inr (Or.inl ⟨_, Or.inl rfl, rfl⟩)⟩
  case case10 => exact ⟨_, rfl, Or.inr (Or.inr ⟨rfl, rfl⟩)⟩
  all_goals exact ⟨_, rfl, Or.inl rfl⟩

theorem trav_nil (m : Method) (ell : Bool) (val : Json) (node : Json) : trav m ell val [] node = (node, .ok none) :=
  trav.eq_1 m ell val node

theorem trav_obj_special {m : Method} {ell : Bool} {val : Json} {part idxStr : Bytes} {kvs : Obj} {arr : List Json}
    (h : lookup part kvs = some (.arr arr)) :
    trav m ell val [part, idxStr] (.obj kvs) = inArrayDest part kvs (arrayOp m ell val idxStr arr) :=
  trav.eq_2 m ell val part kvs arr idxStr h

theorem trav_obj_last (m : Method) (ell : Bool) (val : Json) (part : Bytes) (kvs : Obj) :
    trav m ell val [part] (.obj kvs) = lastOp m ell val part kvs (lookup part kvs) :=
  trav.eq_3 m ell val part kvs

theorem trav_obj_mid {m : Method} {ell : Bool} {val : Json} {part a : Bytes} {b : List Bytes} {kvs : Obj}
    (hns : ∀ arr, lookup part kvs = some (.arr arr) → b ≠ []) :
    trav m ell val (part :: a :: b) (.obj kvs) =
      if isNil (lookup part kvs) && m == .put then inNewObj part kvs (trav m ell val (a :: b) (.obj []))
      else match lookup part kvs with
        | none => (.obj kvs, .err .traversal)
        | some c => inObj part kvs (trav m ell val (a :: b) c) :=
  trav.eq_4 m ell val part kvs a b hns

theorem isNil_some {c : Json} : isNil (some c) = true ↔ c = .null := by
  cases c <;> simp [isNil]

/-- the map the traversal starts in stays a map and changes at `part` only: what keeps `RootShape` and the `config` key -/
theorem trav_obj_fst (m : Method) (ell : Bool) (val : Json) (part : Bytes) (rest : List Bytes) (kvs : Obj) :
    ∃ kvs', (trav m ell val (part :: rest) (.obj kvs)).1 = .obj kvs' ∧
      (kvs' = kvs ∨ (∃ v, kvs' = setKey part v kvs) ∨ (m = .delete ∧ kvs' = eraseKey part kvs)) := by
  cases rest with
  | nil =>
    rw [trav_obj_last]
    obtain ⟨kvs', h1, h2 | ⟨v, _, h2⟩ | h2⟩ := lastOp_fst m ell val part kvs (lookup part kvs)
    · exact ⟨kvs', h1, Or.inl h2⟩
    · exact ⟨kvs', h1, Or.inr (Or.inl ⟨v, h2⟩)⟩
    · exact ⟨kvs', h1, Or.inr (Or.inr h2)⟩
  | cons a b =>
    by_cases hs : ∃ arr, lookup part kvs = some (.arr arr) ∧ b = []
    · obtain ⟨arr, hl, rfl⟩ := hs
      rw [trav_obj_special hl]
      exact ⟨_, rfl, Or.inr (Or.inl ⟨_, replaceKey_eq_setKey (by simp [hl]) _⟩)⟩
    · rw [trav_obj_mid fun arr hl hb => hs ⟨arr, hl, hb⟩]
      split
      · exact ⟨_, rfl, Or.inr (Or.inl ⟨_, rfl⟩)⟩
      · split
        · exact ⟨_, rfl, Or.inl rfl⟩
        · next c hl => exact ⟨_, rfl, Or.inr (Or.inl ⟨_, replaceKey_eq_setKey (by simp [hl]) _⟩)⟩

end CaddyModel.C12
