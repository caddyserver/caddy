/-
C12 — property theorems, with those notions of their statements that no lemma module needs (`Reachable` and
its variants, `Addressable`, `WireResp.rejected`; the others are defined where their lemmas are) and a few helpers
next to the theorems that use them. The examples of the non-vacuity section stand in the middle: after them come
the theorems about request targets (Wire.lean), forced overlap and adapter warnings (Warn.lean).

Statement: the admin API's config endpoints behave as atomic operations on one JSON
document: GET returns exactly the value at the path in the running configuration; POST,
PUT, PATCH and DELETE have their documented effect at the addressed path and nowhere else;
a rejected request changes nothing; an object tagged with @id is reachable under /id/ as
that same object; a write carrying If-Match succeeds only if the addressed value is
unchanged since its ETag was issued, so concurrent read-modify-write cycles never lose an
update; and @id tags never change what the configuration means.

The one clause the code as it is does not satisfy at full strength — every tagged object is
reachable under /id/ — has its negation proved in `Witness.lean` (`id_resolves_full_fails`) and
appears here as `id_resolves_partial`, with the excluded region as an explicit predicate
(`Addressable`); the `…_old_code_fails` witnesses there show what the code did before /repo's
fixes, for clauses that hold at full strength.
-/
import CaddyModel.C12.StripLemmas
import CaddyModel.C12.SourceFacts
import CaddyModel.C12.UniqueLemmas
import CaddyModel.C12.IdResolve
import CaddyModel.C12.CasProof
import CaddyModel.C12.RegionsProof
import CaddyModel.C12.CanonLemmas
import CaddyModel.C12.WireLemmas
import CaddyModel.C12.Warn

namespace CaddyModel.C12

/-- every state the process can be in: any finite sequence of admin requests, whatever their
    method, path, body, headers, and whatever the apps accept -/
inductive Reachable (env : Env) : State → Prop
  | init : Reachable env initState
  | step {s : State} (r : Req) : Reachable env s → Reachable env (serve env r s).1

theorem reachable_inv {env : Env} {s : State} (h : Reachable env s) : Inv s := by
  induction h with
  | init => exact inv_init
  | step r _ ih => exact serve_inv ih

/-! ### a failing call leaves the tree alone; GET is a pure read; no Go panic -/

/-- **errors are pure.** `unsyncedConfigAccess` mutates `rawCfg` in place and `changeConfig`
    returns its error without rolling anything back; this is sound because a call that
    returns an error (or panics) has not touched the tree — for every method, path, body and
    tree, including PUT which creates intermediate maps before it can know the outcome. -/
theorem error_pure (m : Method) (path : Bytes) (body : Body) (root : Json)
    (h : ∀ out, (access m path body root).2 ≠ .ok out) : (access m path body root).1 = root :=
  access_unchanged (Or.inr h)

theorem get_pure (path : Bytes) (body : Body) (root : Json) : (access .get path body root).1 = root :=
  access_unchanged (Or.inl rfl)

/-- the index expressions `arr[idx]`, `v[partInt]`, `arr[idx+1:]` never go out of range -/
theorem access_never_panics (m : Method) (path : Bytes) (body : Body) (root : Json) :
    (access m path body root).2 ≠ .panic :=
  access_no_panic m path body root

/-! ### GET is lookup; each write has its documented effect at the path and nowhere else -/

/-- **GET returns the value at the path** (soundness): whatever GET writes is the value the
    path names in the tree — or `null` for a key the addressed object does not have. -/
theorem get_is_lookup (path : Bytes) (body : Body) (root v : Json)
    (h : (access .get path body root).2 = .ok (some v)) :
    sget (partsOf path) root = some v ∨ (v = .null ∧ sget (partsOf path) root = none) := by
  rw [access_ok_trav h] at h
  exact trav_get_sound h

/-- **… and every value is returned** (completeness): whatever value the path names in the
    tree — object member, array element, element of an array that is itself an element of an
    array (which the code before /repo's fix could not reach, `get_is_lookup_old_code_fails`)
    — GET writes exactly it and leaves the tree alone. -/
theorem get_returns_every_value (path : Bytes) (kvs : Obj) (v : Json) (hpath : trimSlash path ≠ [])
    (hne : partsOf path ≠ []) (hv : sget (partsOf path) (.obj kvs) = some v) :
    access .get path .empty (.obj kvs) = (.obj kvs, .ok (some v)) := by
  have h2 := trav_get_complete (ell := (pathParts path).2) (val := .null) ⟨hne, guard_of_obj⟩ hv
  have h1 : (access .get path .empty (.obj kvs)).1 = .obj kvs := access_unchanged (Or.inl rfl)
  rw [access_trav (by simp) hpath] at h1 ⊢
  exact Prod.ext h1 h2

theorem handleConfig_get_at {env : Env} {r : Req} {s : State} {p : Bytes} {segs : List Bytes} {j v : Json}
    (hm : r.method = .get) (hp : pathParts p = (cfgKey :: segs, false)) (ht : trimSlash p ≠ [])
    (hroot : s.rawCfg = .obj [(cfgKey, j)]) (hv : sget segs j = some v) :
    handleConfig env r p s = (s, .okGet (some v) p) := by
  have hparts : partsOf p = cfgKey :: segs := congrArg Prod.fst hp
  rw [handleConfig_get hm, hroot,
    get_returns_every_value p _ v ht (by rw [hparts]; simp) (by rw [hparts, sget_obj_cons]; simpa [lookup] using hv)]

/-- **PUT**: afterwards the path names the body (a new object member, or the element
    inserted at that index; intermediate objects are created on the way). `partsOf path ≠ []`
    only excludes the degenerate path "/...", which no handler passes on. -/
theorem write_effect_put (path : Bytes) (body : Body) (kvs : Obj) (o : Option Json)
    (h : (access .put path body (.obj kvs)).2 = .ok o) (hne : partsOf path ≠ []) :
    sget (partsOf path) (access .put path body (.obj kvs)).1 = some (bodyVal body) := by
  have ht := access_ok_trav h
  rw [ht] at h ⊢
  exact trav_set_effect (Or.inl rfl) h ⟨hne, guard_of_obj⟩

theorem write_effect_patch (path : Bytes) (body : Body) (kvs : Obj) (o : Option Json)
    (h : (access .patch path body (.obj kvs)).2 = .ok o) (hne : partsOf path ≠ []) :
    sget (partsOf path) (access .patch path body (.obj kvs)).1 = some (bodyVal body) := by
  have ht := access_ok_trav h
  rw [ht] at h ⊢
  exact trav_set_effect (Or.inr rfl) h ⟨hne, guard_of_obj⟩

/-- **POST**: the addressed array has the body (or, with `...`, the body's elements)
    appended — the array being named by the path or by the path minus a trailing index,
    which POST ignores — or, where there is no array, the path names the body. -/
theorem write_effect_post (path : Bytes) (body : Body) (kvs : Obj) (o : Option Json)
    (h : (access .post path body (.obj kvs)).2 = .ok o) (hne : partsOf path ≠ []) :
    PostEffect (pathParts path).2 (bodyVal body) (partsOf path) (.obj kvs) (access .post path body (.obj kvs)).1 := by
  have ht := access_ok_trav h
  rw [ht] at h ⊢
  exact trav_post_effect h ⟨hne, guard_of_obj⟩

/-- **DELETE**: the array is one element shorter (that element), or the object no longer
    has the key. -/
theorem write_effect_delete (path : Bytes) (body : Body) (kvs : Obj) (o : Option Json)
    (h : (access .delete path body (.obj kvs)).2 = .ok o) (hne : partsOf path ≠ []) :
    DeleteEffect (partsOf path) (.obj kvs) (access .delete path body (.obj kvs)).1 := by
  have ht := access_ok_trav h
  rw [ht] at h ⊢
  exact trav_delete_effect h ⟨hne, guard_of_obj⟩

/-- **… and nowhere else.** For every method, body and outcome: a path `q` that parts ways
    with the path of the container the request ends in (a different key, or a different
    array index, at some level both reach) reads the same value before and after. -/
theorem write_frame (m : Method) (path : Bytes) (body : Body) (root : Json) (q : List Bytes)
    (hq : apart q (partsOf path).dropLast root = true) :
    sget q (access m path body root).1 = sget q root := by
  rcases access_cases m path body with ⟨e, he⟩ | he <;> rw [he]
  exact trav_frame hq

/-! ### If-Match is compare-and-swap; concurrent read–modify–write never loses an update -/

/-- **If-Match.** A write carrying `If-Match: "<p> <h>"` gets past the check — is loaded, or
    found unchanged — only if the hash of what GET `p` returns *now* is `h`; when the hash
    separates the values involved, only if the value at `p` is the one the ETag was issued
    for.  Otherwise: 412 (or the error of that GET) and nothing has happened. -/
theorem if_match_succeeds_only_if_unchanged {env : Env} {m : Method} {path : Bytes} {body : Body} {force : Bool}
    {s : State} {p h : Bytes} (hp : p ≠ []) (hps : noSpace p) (hh : h ≠ []) (hhs : noSpace h)
    (hok : (change env m path body (mkEtag p h) force s).2 = .ok ∨ (change env m path body (mkEtag p h) force s).2 = .same) :
    ∃ out, (access .get p .empty s.rawCfg).2 = .ok out ∧ env.hash out = h := by
  rw [change_cas hp hps hh hhs] at hok
  cases hr : (access .get p .empty s.rawCfg).2 with
  | err e => simp [hr] at hok
  | panic => simp [hr] at hok
  | ok out =>
    -- were the hash another, the answer would be 412
    refine ⟨out, rfl, Decidable.byContradiction fun hne => ?_⟩
    simp [hr, hne] at hok

theorem if_match_mismatch_changes_nothing {env : Env} {m : Method} {path : Bytes} {body : Body} {force : Bool}
    {s : State} {p h : Bytes} (hp : p ≠ []) (hps : noSpace p) (hh : h ≠ []) (hhs : noSpace h) (out : Option Json)
    (hget : (access .get p .empty s.rawCfg).2 = .ok out) (hne : env.hash out ≠ h) :
    change env m path body (mkEtag p h) force s = (s, .precondition) := by
  rw [change_cas hp hps hh hhs, hget]
  exact if_pos hne

/-- **no lost update.** Any number of clients run GET + conditional PATCH cycles on `p`,
    interleaved in any order (every schedule, any length; a client may be arbitrarily stale,
    writes may be refused by the check, by the indexer or by the apps).  Then the
    acknowledged writes form a chain: each was computed from exactly the value the previous
    acknowledged write left behind, and the value at `p` is the end of that chain.
    (The atomicity of a request that this transition system takes for granted is tied to the
    source by `request_atomicity_matches_source`.) -/
theorem cas_no_lost_update {env : Env} {p : Bytes} {f : Nat → Option Json → Json} {V : Option Json → Prop}
    (hyp : CasHyp env p f V) {s0 : State} (hs0 : Reachable env s0)
    {v0 : Json} (hv0 : (access .get p .empty s0.rawCfg).2 = .ok (some v0)) (hV0 : V (some v0)) (sched : List Nat) :
    ∃ v, (access .get p .empty (runSched env p f sched ⟨s0, fun _ => none, []⟩).s.rawCfg).2 = .ok (some v) ∧
      chain f v0 (runSched env p f sched ⟨s0, fun _ => none, []⟩).log = some v := by
  have h0 : CasInv p f V v0 ⟨s0, fun _ => none, []⟩ :=
    ⟨reachable_inv hs0, ⟨v0, hv0, rfl, hV0⟩, by intro c ep out h; cases h⟩
  obtain ⟨v, h1, h2, _⟩ := (cas_run hyp sched _ h0).cur
  exact ⟨v, h1, h2⟩

/-- the counter reading: if every write adds one, the final count is the initial count plus
    the number of acknowledged writes — none is lost, none is applied twice -/
theorem cas_counter {env : Env} {p : Bytes} {f : Nat → Option Json → Json} {V : Option Json → Prop}
    (hyp : CasHyp env p f V) {s0 : State} (hs0 : Reachable env s0)
    {v0 : Json} (hv0 : (access .get p .empty s0.rawCfg).2 = .ok (some v0)) (hV0 : V (some v0))
    (size : Json → Nat) (hsz : ∀ c v, size (f c (some v)) = size v + 1) (sched : List Nat) :
    ∃ v, (access .get p .empty (runSched env p f sched ⟨s0, fun _ => none, []⟩).s.rawCfg).2 = .ok (some v) ∧
      size v = size v0 + (runSched env p f sched ⟨s0, fun _ => none, []⟩).log.length := by
  obtain ⟨v, h1, h2⟩ := cas_no_lost_update hyp hs0 hv0 hV0 sched
  exact ⟨v, h1, chain_size f size hsz _ _ _ h2⟩

/-- **reading changes nothing.** A GET (and HEAD or any other method the handlers answer 405)
    to any path — /config/…, /id/…, /load, /adapt, anything else — leaves every global as it
    was, whatever it answers. -/
theorem read_request_changes_nothing (env : Env) (r : Req) (s : State)
    (hm : r.method = .get ∨ r.method = .other) : (serve env r s).1 = s := by
  refine (serve_viaChange env r s).elim id fun ⟨_, _, _, _, hw, _⟩ => ?_
  rcases hm with h | h <;> rw [h] at hw <;> cases hw

/-- **what a GET answers does not depend on other reads**, before it or overlapping with it:
    any number of GET (or 405-answered) requests to any paths leave the state alone, so a
    read served after them — or, in an interleaving, around them — is answered exactly as it
    would have been alone: the value at ITS path, with the ETag of that value. (The `gg` op
    holds the real handler to this with GETs that overlap inside one another.) -/
theorem get_answer_is_independent_of_other_reads (env : Env) (r : Req) :
    ∀ (others : List Req) (s : State), (∀ o ∈ others, o.method = .get ∨ o.method = .other) →
      serve env r (serial env others s) = serve env r s := by
  intro others s h
  have : serial env others s = s :=
    List.foldlRecOn (motive := (· = s)) others _ rfl fun _ hs o ho => hs ▸ read_request_changes_nothing env o s (h o ho)
  rw [this]

/-! ### atomicity: the document, the index and the running apps always agree -/

/-- **one document.** After any history: the tree GET reads from is the configuration that was
    last loaded; the `/id/` index is the index of exactly that configuration; and the apps
    are running exactly that configuration with the `@id` members removed. No request —
    accepted, unchanged, rejected by the traversal, by the indexer or by the apps — leaves
    the three out of step. -/
theorem running_config_is_document {env : Env} {s : State} (h : Reachable env s) :
    cfgOf s.rawCfg = encodeOf s.rawCfgJSON ∧
    s.running = s.rawCfgJSON.map stripIds ∧
    (∀ j, s.rawCfgJSON = some j → indexJ j (slash :: cfgKey) = some s.index) := by
  have hi := reachable_inv h
  exact ⟨hi.doc, hi.run, fun _ hj => hi.idx_some hj⟩

/-- **a rejected request changes nothing.** After any history, any request that is not
    answered 200 (traversal error, 409/404, malformed or failed If-Match, index failure, load
    rejected by the apps, unknown id, 301, 405) leaves `rawCfg`, `rawCfgJSON`, the id index
    and the running configuration exactly as they were — including right after
    `DELETE /config/`, where the code before /repo's fix re-created the deleted key
    (`rejected_changes_nothing_old_code_fails`). -/
theorem rejected_changes_nothing {env : Env} {s : State} (h : Reachable env s) (r : Req)
    (hrej : (serve env r s).2.rejected = true) : (serve env r s).1 = s :=
  serve_rejected (reachable_inv h) hrej

/-! ### /load and /adapt (caddyconfig/load.go) write and read the same document -/

/-- **/load is an unconditional `POST /config`.** For a JSON body (no Content-Type, or one
    that ends in "/json") the endpoint is exactly
    `changeConfig(POST, "/config", body, "", forceReload)`: same lock, same mutation, same
    unchanged test, index, run and rollback as a request to /config/ — so every theorem about
    `change` (atomicity, rejected-changes-nothing, the state invariant) covers it; no
    Content-Type requirement and **no If-Match**: the header is not looked at. -/
theorem load_is_unconditional_post_config (env : Env) (r : Req) (s : State) (hp : r.path = loadPath)
    (hm : r.method = .post) (hct : r.ct = .none ∨ r.ct = .json ∨ r.ct = .jsonParams) :
    serve env r s = ((change env .post (slash :: cfgKey) r.body [] r.force s).1,
                     loadResp (change env .post (slash :: cfgKey) r.body [] r.force s).2) := by
  rw [serve_load hp]
  exact handleLoad_post hm (by rcases hct with h | h | h <;> simp [h, adaptByContentType])

/-- **/load replaces the entire configuration.** An accepted /load (JSON or adapted body `j`)
    leaves exactly `j` as the document GET reads from — whatever was there before (the
    hypothesis excludes only a current document that is an array, which no run step accepts). -/
theorem load_replaces_document {env : Env} {s : State} (h : Reachable env s) (r : Req) (j : Json)
    (hp : r.path = loadPath) (hm : r.method = .post)
    (hb : adaptByContentType env r.ct r.body = .body (.val j))
    (hna : ∀ xs, cfgOf s.rawCfg ≠ .arr xs) (hok : (serve env r s).2 = .okWrite) :
    cfgOf (serve env r s).1.rawCfg = j := by
  rw [serve_load hp, handleLoad_post hm hb] at hok ⊢
  exact post_cfg_accepted (reachable_inv h) hna ((loadResp_ok_iff _).1 hok)

theorem load_ignores_if_match (env : Env) (r : Req) (s : State) (hp : r.path = loadPath) (x : Bytes) :
    serve env { r with ifMatch := x } s = serve env r s := by
  rw [serve_load hp, serve_load (r := { r with ifMatch := x }) hp]
  rfl

theorem adapt_changes_nothing (env : Env) (r : Req) (s : State) (hp : r.path = adaptPath) :
    (serve env r s).1 = s := by
  rw [serve_adapt hp]
  exact handleAdapt_pure env r s

/-! ### interleavings of lock regions (`Regions.lean`) -/

theorem serial_preserves_reachable {env : Env} (reqs : List Req) {s : State} (h : Reachable env s) :
    Reachable env (serial env reqs s) :=
  List.foldlRecOn reqs _ h fun _ hs r _ => .step r hs

/-- **every interleaving of lock regions is a serial history.** Any number of threads send
    any requests; a /config/ or /load request is one critical section, an /id/ request two
    (index read; handler on the rewritten path), and the regions interleave in any order.
    Then the state at the end is the state a *serial* history produces: the requests that took
    effect, one after the other, each atomic — an /id/ request counted as the direct request to
    the path it had been resolved to, at the moment its second region ran. -/
theorem interleaving_is_serial_history (env : Env) (s0 : State) (sched : List (Nat × Req)) :
    (regionRun env sched (RSys.start s0)).s = serial env (regionRun env sched (RSys.start s0)).hist s0 :=
  (rinv_run sched _ (rinv_start env s0)).state

/-- … hence every state any interleaving passes through is a reachable state: the document,
    the id index, the loaded configuration and the running apps agree, rejected requests have
    changed nothing, no object has a key twice — all theorems over histories apply. -/
theorem interleaved_states_are_reachable {env : Env} {s0 : State} (h : Reachable env s0) (sched : List (Nat × Req)) :
    Reachable env (regionRun env sched (RSys.start s0)).s := by
  rw [interleaving_is_serial_history]
  exact serial_preserves_reachable _ h

/-- **every answer is an answer of the serial history.** In any interleaving, whatever any
    thread was told is what the atomic model answers in a state of that one serial history:
    a direct request in the state after some prefix; an /id/ request resolved against the index
    after one prefix and handled in the state after a later one. No request ever observes an
    intermediate state of another — in particular none sees the tree of a write that ends up
    rejected while it is being run and rolled back (what the `peek` op samples on the real
    handler), and a GET's body and ETag come from the same state. -/
theorem every_answer_is_an_answer_of_the_serial_history (env : Env) (s0 : State) (sched : List (Nat × Req)) :
    ∀ e ∈ (regionRun env sched (RSys.start s0)).done,
      Explained env s0 (regionRun env sched (RSys.start s0)).hist e :=
  (rinv_run sched _ (rinv_start env s0)).answers

theorem id_request_back_to_back_is_atomic (env : Env) (y : RSys) (c : Nat) (r r' : Req)
    (hidle : y.pend c = .idle) (hid : route r.path = .id) :
    (regionStep env (regionStep env y c r) c r').s = (serve env r y.s).1 ∧
    (regionStep env (regionStep env y c r) c r').done = y.done ++ [(c, r, (serve env r y.s).2)] := by
  have h1 : regionStep env y c r = { y with pend := updP y.pend c (.resolved r (handleConfigID y.s.index r.path)) } := by
    unfold regionStep; simp [hidle, hid]
  rw [h1, serve_id hid]
  unfold regionStep
  simp [updP]

/-- **an accepted If-Match write was computed from the current document.** Whatever ran
    between the client's GET and the critical section in which its write executes — and,
    for a write through /id/, between the index read and that section: if the write is
    answered 200, then *in the state of that critical section* the value at the If-Match path
    hashes to the If-Match hash. -/
theorem accepted_if_match_write_used_current_document {env : Env} {r : Req} {p : Bytes} {s : State} {q h : Bytes}
    (hq : q ≠ []) (hqs : noSpace q) (hh : h ≠ []) (hhs : noSpace h) (hifm : r.ifMatch = mkEtag q h)
    (hacc : (handleConfig env r p s).2 = .okWrite) :
    ∃ out, (access .get q .empty s.rawCfg).2 = .ok out ∧ env.hash out = h := by
  cases hm : toMethod r.method with
  | none => exact absurd hacc (handleConfig_read hm p s).2
  | some m =>
    rw [handleConfig_write hm, hifm] at hacc
    split at hacc
    · cases hacc
    · exact if_match_succeeds_only_if_unchanged hq hqs hh hhs ((changeResp_ok_iff _).1 hacc)

/-- the same, as it appears in an interleaving: the second region of a conditional write
    through /id/ checks the document as it is *then* -/
theorem id_write_checks_current_document {env : Env} {r : Req} {p : Bytes} {s : State} {q h : Bytes}
    (hq : q ≠ []) (hqs : noSpace q) (hh : h ≠ []) (hhs : noSpace h) (hifm : r.ifMatch = mkEtag q h)
    (hroute : route p = .config) (hacc : (finishId env r (.to p) s).2.1 = .okWrite) :
    ∃ out, (access .get q .empty s.rawCfg).2 = .ok out ∧ env.hash out = h := by
  rw [finishId_config hroute] at hacc
  exact accepted_if_match_write_used_current_document hq hqs hh hhs hifm hacc

/-! ### unchanged configurations, forced reloads -/

/-- **an unchanged configuration is not reloaded** — unless the client forces it: when the
    mutation leaves the document equal to the last loaded one and `Cache-Control:
    must-revalidate` is absent, `changeConfig` returns errSameConfig (answered 200): the apps
    are not restarted, the index and `rawCfgJSON` are untouched, and the tree GET reads from is
    the mutated one, i.e. still that document. -/
theorem unchanged_config_is_not_reloaded (env : Env) (s : State) (root : Json)
    (hsame : s.rawCfgJSON = some (cfgOf root)) :
    commit env false s root = ({ s with rawCfg := root }, .same) := by
  simp [commit, hsame]

/-- **a forced reload reloads**: with `Cache-Control: must-revalidate` the same situation goes
    through index, run and commit; if the apps accept, they are started once more with the
    same (stripped) document; if they reject, everything is restored. -/
theorem forced_reload_reloads (env : Env) (s : State) (root : Json) :
    ((commit env true s root).2 = .ok ∧ (commit env true s root).1.loads = s.loads + 1 ∧
      (commit env true s root).1.running = some (stripIds (cfgOf root)) ∧
      (commit env true s root).1.rawCfgJSON = some (cfgOf root)) ∨
    (((commit env true s root).2 = .index ∨ (commit env true s root).2 = .load) ∧
      (commit env true s root).1 = restore s root) := by
  rcases commit_cases env true s root with ⟨hf, _⟩ | ⟨r, hr, h⟩ | ⟨idx, _, _, _, h⟩
  · cases hf
  · rw [h]; exact Or.inr ⟨hr, rfl⟩
  · rw [h]; exact Or.inl ⟨rfl, rfl, rfl, rfl⟩

/-- **an accepted change is loaded**: whenever `changeConfig` commits (answer 200, not
    "unchanged"), the apps have been started exactly once more, with the new document minus
    `@id`; `rawCfgJSON` and the index are those of the new document. (What the oracle checks as
    `config-changed-without-load` / `apps-saw-different-config`.) -/
theorem accepted_change_is_loaded (env : Env) (force : Bool) (s : State) (root : Json)
    (h : (commit env force s root).2 = .ok) :
    (commit env force s root).1.loads = s.loads + 1 ∧
    (commit env force s root).1.running = some (stripIds (cfgOf root)) ∧
    (commit env force s root).1.rawCfgJSON = some (cfgOf root) ∧
    indexJ (cfgOf root) (slash :: cfgKey) = some (commit env force s root).1.index ∧
    (commit env force s root).1.rawCfg = root := by
  rcases commit_cases env force s root with ⟨_, _, hc⟩ | ⟨r, hr, hc⟩ | ⟨idx, hidx, _, _, hc⟩ <;> rw [hc] at h ⊢
  · cases h
  · rcases hr with rfl | rfl <;> cases h
  · exact ⟨rfl, rfl, rfl, hidx, rfl⟩

/-- **a fresh If-Match is never refused as stale**: when the hash of what GET `p` returns now
    is the If-Match hash, the check lets the write through — the outcome is that of the same
    write without the header. (What the oracle checks as `if-match-fresh-write-refused`.) -/
theorem fresh_if_match_is_not_refused {env : Env} {m : Method} {path : Bytes} {body : Body} {force : Bool}
    {s : State} {p h : Bytes} (hp : p ≠ []) (hps : noSpace p) (hh : h ≠ []) (hhs : noSpace h) (out : Option Json)
    (hget : (access .get p .empty s.rawCfg).2 = .ok out) (heq : env.hash out = h) :
    change env m path body (mkEtag p h) force s = change env m path body [] force s := by
  rw [change_cas hp hps hh hhs, hget, change_noIfMatch]
  simp [heq]

/-! ### the representation invariant of Go maps -/

/-- histories whose request bodies are trees without duplicate object keys — which is what
    `encoding/json` decodes any body into -/
inductive ReachableUK (env : Env) : State → Prop
  | init : ReachableUK env initState
  | step {s : State} (r : Req) : bodyUK r.body → ReachableUK env s → ReachableUK env (serve env r s).1

theorem ReachableUK.reachable {env : Env} {s : State} (h : ReachableUK env s) : Reachable env s := by
  induction h with
  | init => exact .init
  | step r _ _ ih => exact .step r ih

/-- **no key twice, ever.** Every operation of the API (all five methods, array and object
    destinations, PUT's fresh maps, rollback, /load, adapters) keeps the association lists
    that stand for Go maps free of duplicate keys: after any such history neither the
    in-memory tree nor the last loaded configuration has an object with a key twice. This
    discharges the `uniq` hypothesis of `Addressable` / `id_resolves_partial`. -/
theorem unique_keys_preserved {env : Env} (ha : adaptUK env) {s : State} (h : ReachableUK env s) :
    uniqueKeys s.rawCfg = true ∧ ∀ j, s.rawCfgJSON = some j → uniqueKeys j = true := by
  induction h with
  | init => exact uniqueKeys_treeInv.init
  | step r hb _ ih => exact uniqueKeys_treeInv.serve ha ih hb

/-- histories whose request bodies are in canonical form (keys strictly increasing) — the
    form the model gives every decoded body -/
inductive ReachableCN (env : Env) : State → Prop
  | init : ReachableCN env initState
  | step {s : State} (r : Req) : bodyCN r.body → ReachableCN env s → ReachableCN env (serve env r s).1

/-- **canonical form is preserved.** Every operation of the API keeps every object's keys in
    strictly increasing byte order (`insertSorted` for new keys, in-place replacement for
    existing ones, deletion): after any such history the in-memory tree and the last loaded
    configuration are canonical. -/
theorem canonical_form_preserved {env : Env} (ha : adaptCN env) {s : State} (h : ReachableCN env s) :
    canonical s.rawCfg = true ∧ ∀ j, s.rawCfgJSON = some j → canonical j = true := by
  induction h with
  | init => exact canonical_treeInv.init
  | step r hb _ ih => exact canonical_treeInv.serve ha ih hb

/-- **the model's equality test is the code's.** `changeConfig` decides "unchanged" by
    `bytes.Equal(rawCfgJSON, json.Marshal(rawCfg["config"]))`; `json.Marshal` prints a Go map
    with its keys sorted, so the bytes are equal iff the two documents are equal *as nested
    maps* (`mapEq`: same keys, equal values, whatever the order members happen to be listed
    in). On canonical trees — which by `canonical_form_preserved` is all the model ever holds —
    that is structural equality, the `==` the model uses. -/
theorem same_config_test_is_map_equality {a b : Json} (ha : canonical a = true) (hb : canonical b = true) :
    mapEq a b = true ↔ a = b :=
  ⟨mapEq_eq a b ha hb, fun h => h ▸ mapEq_refl a ha⟩

/-! ### `caddy reload` (cmd/commandfuncs.go) -/

/-- **`caddy reload` is the /load request**: whenever the command gets as far as sending
    (file readable as JSON or adapted), the instance ends up exactly as after
    `POST /load` with that body, `Content-Type: application/json` and — iff `--force` —
    `Cache-Control: must-revalidate`; so everything proved about /load (unconditional
    `POST /config`, replaces the document, unchanged ⇒ not reloaded unless forced) is what the
    command does. -/
theorem cli_reload_is_the_load_request (env : Env) (file body : Body) (a : CliAdapter) (force addr : Bool) (s : State)
    (h : cliLoadConfig env file a = some body) (ha : cliAddressFound addr body = true) :
    (cliReload env file a force addr s).1 = (serve env ⟨.post, loadPath, body, [], force, .json⟩ s).1 ∧
    ((cliReload env file a force addr s).2 = .ok ↔ (serve env ⟨.post, loadPath, body, [], force, .json⟩ s).2 = .okWrite) := by
  unfold cliReload
  simp only [h, ha, Bool.not_true, Bool.false_eq_true, if_false]
  generalize serve env ⟨.post, loadPath, body, [], force, .json⟩ s = x
  obtain ⟨s', resp⟩ := x
  cases resp <;> simp

theorem cli_reload_failure_changes_nothing {env : Env} {s : State} (hs : Reachable env s) (file : Body) (a : CliAdapter)
    (force addr : Bool) (h : (cliReload env file a force addr s).2 ≠ .ok) : (cliReload env file a force addr s).1 = s := by
  cases hl : cliLoadConfig env file a with
  | none =>
    unfold cliReload
    rw [hl]
  | some body =>
    by_cases haddr : cliAddressFound addr body = true
    case neg =>
      unfold cliReload
      simp [hl, haddr]
    obtain ⟨hst, hok⟩ := cli_reload_is_the_load_request env file body a force addr s hl haddr
    rw [hst]
    -- /load answers okWrite or a failure, nothing else
    apply serve_rejected (reachable_inv hs)
    rw [serve_load rfl, handleLoad_post (b := body) rfl rfl] at hok ⊢
    exact loadResp_rejected.2 fun hc => h (hok.2 ((loadResp_ok_iff _).2 hc))

/-! ### pulled configs (config loaders, caddy.go finishSettingUp) -/

/-- **a pulled config replaces the document or changes nothing**, and keeps the invariant: it
    goes through the same `changeConfig` as a request — accepted (or identical to what runs), the
    document is exactly the pulled one; refused by the decoder, the indexer or the apps, every
    global is as before. Either way the state is one a history of requests reaches. -/
theorem pulled_config_replaces_document_or_changes_nothing {env : Env} {s : State} (h : Reachable env s) (j : Json)
    (hna : ∀ xs, cfgOf s.rawCfg ≠ .arr xs) :
    (((pulledConfig env (.val j) s).2 = .ok ∨ (pulledConfig env (.val j) s).2 = .same) ∧
        cfgOf (pulledConfig env (.val j) s).1.rawCfg = j) ∨
    (pulledConfig env (.val j) s).1 = s := by
  have hi := reachable_inv h
  unfold pulledConfig
  by_cases hacc : (change env .post (slash :: cfgKey) (.val j) [] false s).2 = .ok ∨
      (change env .post (slash :: cfgKey) (.val j) [] false s).2 = .same
  · exact Or.inl ⟨hacc, post_cfg_accepted hi hna hacc⟩
  · exact Or.inr ((change_sound hi underConfig_cfg).2 hacc)

/-- **after a pulled config the id index is that of the document in place** (and the other
    globals agree with it too): `indexConfigObjects` runs for a pulled config as for a pushed
    one, so /id/ never resolves through the index of the replaced document. -/
theorem pulled_config_keeps_index_in_step {env : Env} {s : State} (h : Reachable env s) (config : Body) :
    cfgOf (pulledConfig env config s).1.rawCfg = encodeOf (pulledConfig env config s).1.rawCfgJSON ∧
    (∀ j, (pulledConfig env config s).1.rawCfgJSON = some j →
      indexJ j (slash :: cfgKey) = some (pulledConfig env config s).1.index) := by
  have hi : Inv (pulledConfig env config s).1 := (change_sound (reachable_inv h) underConfig_cfg).1
  exact ⟨hi.doc, fun _ hj => hi.idx_some hj⟩

/-! ### an object tagged with @id is reachable under /id/ as that same object -/

/-- the tagged object at position `segs` of the loaded document `j`, indexed under `t`, can
    be expressed by a URL and reached by the traversal.  Every field but the two
    representation invariants excludes a proved counter-example or an inherent limit:
    `segsOk` (a key that is "", "." or contains '/': `id_resolves_full_fails`), `notDots` (a trailing
    "..." is the append marker), `idOk` (the id has to fit one URL path segment), `unambiguous`
    (two objects with the same id: Go's map order decides). -/
structure Addressable (j : Json) (segs : List Bytes) (t : Bytes) : Prop where
  uniq : uniqueKeys j = true
  short : shortArrays j = true
  segsOk : okSegs segs
  notDots : segs.getLast? ≠ some dots
  idOk : okSeg t
  unambiguous : (taggedJ j).filter (fun e => e.2 = t) = [(segs, t)]

/-- **@id resolves.** After any history, for every addressable tagged object of the running
    configuration — the top-level object included: `GET /id/<id>` is answered 200 with exactly
    that object — the value at its position in the document, carrying that `@id` — and the
    ETag names its expanded path. -/
theorem id_resolves_partial {env : Env} {s : State} (h : Reachable env s)
    {j : Json} (hj : s.rawCfgJSON = some j) {segs : List Bytes} {t : Bytes} (ha : Addressable j segs t) :
    ∃ kvs v, serve env (readReq (idPrefix ++ t)) s = (s, .okGet (some (.obj kvs)) (idPath segs)) ∧
      sget segs j = some (.obj kvs) ∧ lookup idKey kvs = some v ∧ idText v = some t := by
  have hi := reachable_inv h
  -- the tree: the "config" key is there, for without it the document is null and nothing is tagged
  have hroot : s.rawCfg = .obj [(cfgKey, j)] := by
    have hd : cfgOf s.rawCfg = j := by rw [hi.doc, hj]; rfl
    cases hk : hasCfgKey s.rawCfg with
    | true => rw [← hd]; exact cfgOf_root_eq hi.shape hk
    | false =>
      have := ha.unambiguous
      rw [← hd, root_nokey hi.shape hk] at this
      cases this
  have hmem : (segs, t) ∈ taggedJ j :=
    (List.mem_filter.1 (by rw [ha.unambiguous]; simp : (segs, t) ∈ (taggedJ j).filter (fun e => e.2 = t))).1
  obtain ⟨kvs, v, hs1, hs2, hs3⟩ := taggedJ_entry j ha.uniq ha.short (segs, t) hmem
  refine ⟨kvs, v, ?_, hs1, hs2, hs3⟩
  have hokid : okSegs [idSeg, t] := okSegs_append (okSegs_singleton okSeg_idSeg) (okSegs_singleton ha.idOk)
  rw [serve_id_tagged hi hj ha.segsOk hokid ha.unambiguous (readReq (idPrefix ++ t)) (by simp [readReq, renderPath, idPrefix]),
    List.append_nil]
  exact handleConfig_get_at rfl (pathParts_idPath ha.segsOk ha.notDots).1 (pathParts_idPath ha.segsOk ha.notDots).2 hroot hs1

/-- **/id/<id>/<rest> is <expanded path>/<rest>, for every kind of request.** After any
    history, for a uniquely tagged object at an addressable position `segs` and any addressable
    rest of the path: a request to `/id/<id>/<rest>` — whatever its method, body, If-Match,
    Cache-Control and Content-Type — is answered exactly like the same request to
    `/config/<segs>/<rest>` and leaves exactly the same state. (`id_resolves_partial` is the case
    `rest = []` with GET, and adds the top-level object, `segs = []`, which `hne` leaves out here;
    both are `serve_id_tagged`. Here the object may also be written, deleted or appended to
    through its id.) -/
theorem id_path_is_expanded_path {env : Env} {s : State} (h : Reachable env s) {j : Json}
    (hj : s.rawCfgJSON = some j) {segs rest : List Bytes} {t : Bytes}
    (hsegs : okSegs segs) (hid : okSegs (idSeg :: t :: rest)) (hne : segs ++ rest ≠ [])
    (huniq : (taggedJ j).filter (fun e => e.2 = t) = [(segs, t)])
    (r : Req) (hp : r.path = renderPath (idSeg :: t :: rest)) :
    serve env r s = serve env { r with path := renderPath (cfgKey :: (segs ++ rest)) } s := by
  have hr := route_idPath (okSegs_append hsegs hid.tail.tail)
  rw [serve_id_tagged (reachable_inv h) hj hsegs hid huniq r hp]
  rw [idPath, if_neg hne] at hr ⊢
  rw [serve_config_path hr]

/-! ### `@id` never changes what the configuration means -/

/-- what the run step decides and hands to the apps depends on the document only through
    `stripIds`: two documents that differ only in `@id` members are accepted or rejected
    alike and start the apps with the same tree, which contains no `@id` at all -/
theorem ids_never_change_meaning (env : Env) (s : State) (root₁ root₂ : Json)
    (hs : stripIds (cfgOf root₁) = stripIds (cfgOf root₂))
    (h₁ : (commit env true s root₁).2 = .ok) (h₂ : (commit env true s root₂).2 ≠ .load) (h₃ : (commit env true s root₂).2 ≠ .index) :
    (commit env true s root₂).2 = .ok ∧
    (commit env true s root₁).1.running = (commit env true s root₂).1.running ∧
    ∃ d, (commit env true s root₁).1.running = some d ∧ noIds d = true := by
  have loaded : ∀ root, (commit env true s root).2 ≠ .load → (commit env true s root).2 ≠ .index →
      (commit env true s root).2 = .ok ∧ (commit env true s root).1.running = some (stripIds (cfgOf root)) := by
    intro root h1 h2
    rcases forced_reload_reloads env s root with ⟨hok, _, hr, _⟩ | ⟨hr, _⟩
    · exact ⟨hok, hr⟩
    · exact (hr.elim h2 h1).elim
  obtain ⟨_, hr₁⟩ := loaded root₁ (by simp [h₁]) (by simp [h₁])
  obtain ⟨hok₂, hr₂⟩ := loaded root₂ h₂ h₃
  exact ⟨hok₂, by rw [hr₁, hr₂, hs], _, hr₁, stripIds_noIds _⟩

/-! ### non-vacuity (byte strings spelled out so that the kernel can evaluate them) -/

def kApps : Bytes := [97, 112, 112, 115]            -- "apps"
def kC12 : Bytes := [99, 49, 50]               -- "c12"
def kA : Bytes := [97]
def kX : Bytes := [120]
def pRoot : Bytes := [47, 99, 111, 110, 102, 105, 103, 47]    -- "/config/"
def pApps : Bytes := [47, 99, 111, 110, 102, 105, 103, 47, 97, 112, 112, 115]   -- "/config/apps"
def pDeep : Bytes := [47, 99, 111, 110, 102, 105, 103, 47, 97, 112, 112, 115, 47, 99, 49, 50, 47, 110, 47, 109, 47, 107]   -- "/config/apps/c12/n/m/k"
def pId : Bytes := [47, 99, 111, 110, 102, 105, 103, 47, 97, 112, 112, 115, 47, 99, 49, 50, 47, 64, 105, 100]     -- "/config/apps/c12/@id"
def pC12 : Bytes := [47, 99, 111, 110, 102, 105, 103, 47, 97, 112, 112, 115, 47, 99, 49, 50]    -- "/config/apps/c12"

/-- `{"apps":{"c12":{"@id":"x","a":[1]}}}` -/
def exDoc : Json := .obj [(kApps, .obj [(kC12, .obj [(idKey, .str kX), (kA, .arr [.num [49]])])])]
def exEnv : Env := ⟨fun _ => [], fun _ => true, fun _ => none⟩
def exReq (m : HMethod) (p : Bytes) (b : Body) : Req := ⟨m, p, b, [], false, .json⟩
def exLoaded : State := (serve exEnv (exReq .post pRoot (.val exDoc)) initState).1

example : Reachable exEnv exLoaded := .step _ .init
/-- the loaded state, computed once for the examples below -/
theorem exLoaded_eq : exLoaded = ⟨.obj [(cfgKey, exDoc)], some exDoc, [(kX, pC12)], some (stripIds exDoc), 1⟩ := by
  decide +kernel
example : exLoaded.rawCfgJSON = some exDoc := by rw [exLoaded_eq]
example : exLoaded.index = [(kX, pC12)] := by rw [exLoaded_eq]
example : exLoaded.loads = 1 := by rw [exLoaded_eq]
-- error_pure: PUT on an existing key fails (409) …
example : (access .put pApps (.val .null) exLoaded.rawCfg).2 = .err .keyExists := by rw [exLoaded_eq]; decide
-- … and a PUT that has to create two maps succeeds
example : (access .put pDeep (.val .null) exLoaded.rawCfg).2 = .ok none := by rw [exLoaded_eq]; decide +kernel
-- rejected_changes_nothing: rejected writes on a loaded state
example : (serve exEnv (exReq .put pId (.val (.bool true))) exLoaded).2 = .fail (.access .keyExists) := by rw [exLoaded_eq]; decide +kernel
example : (serve exEnv (exReq .patch pId (.val (.bool true))) exLoaded).2 = .fail .index := by rw [exLoaded_eq]; decide +kernel
-- ids_never_change_meaning: a document that differs from its stripped version, accepted
example : stripIds exDoc ≠ exDoc := by decide
example : (commit exEnv true initState (.obj [(cfgKey, exDoc)])).2 = .ok := by decide

-- get_is_lookup / get_returns_every_value / write effects: a path into the loaded document
def pA0 : Bytes := [47, 99, 111, 110, 102, 105, 103, 47, 97, 112, 112, 115, 47, 99, 49, 50, 47, 97, 47, 48]   -- "/config/apps/c12/a/0"
def pA : Bytes := [47, 99, 111, 110, 102, 105, 103, 47, 97, 112, 112, 115, 47, 99, 49, 50, 47, 97]     -- "/config/apps/c12/a"
example : partsOf pA0 ≠ [] := by decide
example : sget (partsOf pA0) exLoaded.rawCfg = some (.num [49]) := by rw [exLoaded_eq]; decide +kernel
example : (access .get pA0 .empty exLoaded.rawCfg).2 = .ok (some (.num [49])) := by rw [exLoaded_eq]; decide +kernel
example : (access .put pA0 (.val .null) exLoaded.rawCfg).2 = .ok none := by rw [exLoaded_eq]; decide +kernel
example : (access .patch pA0 (.val .null) exLoaded.rawCfg).2 = .ok none := by rw [exLoaded_eq]; decide +kernel
example : (access .post pA (.val .null) exLoaded.rawCfg).2 = .ok none := by rw [exLoaded_eq]; decide +kernel
example : (access .delete pA0 .empty exLoaded.rawCfg).2 = .ok none := by rw [exLoaded_eq]; decide +kernel
-- write_frame: the "@id" member of c12 is apart from the container `a` of /config/apps/c12/a/0
example : apart [cfgKey, kApps, kC12, idKey] (partsOf pA0).dropLast exLoaded.rawCfg = true := by rw [exLoaded_eq]; decide +kernel

-- If-Match: a header issued for the current value passes, one for another value is refused
def hashEx : Option Json → Bytes
  | some (.num t) => 104 :: t
  | _ => [104]
def casEnv : Env := ⟨hashEx, fun _ => true, fun _ => none⟩
def pN : Bytes := [47, 99, 111, 110, 102, 105, 103, 47, 97, 112, 112, 115, 47, 99, 49, 50, 47, 110]     -- "/config/apps/c12/n"
/-- `{"apps":{"c12":{"n":1}}}` loaded -/
def casLoaded : State :=
  (serve casEnv (exReq .post pRoot (.val (.obj [(kApps, .obj [(kC12, .obj [([110], .num [49])])])]))) initState).1
example : (change casEnv .patch pN (.val (.num [49, 49])) (mkEtag pN (hashEx (some (.num [49])))) false casLoaded).2 = .ok := by decide +kernel
example : (change casEnv .patch pN (.val (.num [49, 49])) (mkEtag pN (hashEx (some (.num [50])))) false casLoaded).2 = .precondition := by decide +kernel

-- cas_no_lost_update: a unary counter ("1", "11", "111", …), each write prepends a digit
def incr (_ : Nat) : Option Json → Json
  | some (.num t) => .num (49 :: t)
  | _ => .num [49]
def unary (o : Option Json) : Prop := ∃ t, o = some (.num t) ∧ ∀ c ∈ t, c = 49
def sizeEx : Json → Nat
  | .num t => t.length
  | _ => 0

example : CasHyp casEnv pN incr unary where
  inj := by
    rintro a b ⟨t, rfl, _⟩ ⟨u, rfl, _⟩ h
    simp [casEnv, hashEx] at h; rw [h]
  closed := by
    rintro c v ⟨t, h, ht⟩
    simp at h; subst h
    exact ⟨49 :: t, rfl, by intro c hc; simp at hc; rcases hc with rfl | hc; rfl; exact ht c hc⟩
  hne := by rintro a ⟨t, rfl, _⟩; simp [casEnv, hashEx]
  hns := by
    rintro a ⟨t, rfl, ht⟩ c hc
    simp [casEnv, hashEx] at hc
    rcases hc with rfl | hc
    · decide
    · rw [ht c hc]; decide
  route := by decide
  pns := by unfold noSpace; decide

example : Reachable casEnv casLoaded := .step _ .init
example : hasCfgKey casLoaded.rawCfg = true := by decide +kernel
example : (access .get pN .empty casLoaded.rawCfg).2 = .ok (some (.num [49])) := by decide +kernel
example : ∀ c v, sizeEx (incr c (some v)) = sizeEx v + 1 := by
  intro c v; cases v <;> simp [incr, sizeEx]
-- two clients; client 1 reads, client 0 reads and writes, client 1's stale write is refused,
-- client 1 reads again and writes: two acknowledged writes, counter "1" -> "111"
example : (runSched casEnv pN incr [1, 0, 0, 1, 1, 1] ⟨casLoaded, fun _ => none, []⟩).log
    = [(0, .num [49, 49]), (1, .num [49, 49, 49])] := by decide +kernel
example : (access .get pN .empty (runSched casEnv pN incr [1, 0, 0, 1, 1, 1] ⟨casLoaded, fun _ => none, []⟩).s.rawCfg).2
    = .ok (some (.num [49, 49, 49])) := by decide +kernel

-- id_resolves_partial: the tagged object of the loaded example document is addressable …
example : Addressable exDoc [kApps, kC12] kX where
  uniq := by decide
  short := by decide
  segsOk := by unfold okSegs okSeg; decide
  notDots := by decide
  idOk := by unfold okSeg; decide
  unambiguous := by decide
-- … and GET /id/x returns it
example : (serve exEnv (readReq (idPrefix ++ kX)) exLoaded).2 =
    .okGet (some (.obj [(idKey, .str kX), (kA, .arr [.num [49]])])) pC12 := by rw [exLoaded_eq]; decide +kernel

-- /load and /adapt
def wrapEx : Body → Option Json
  | .val j => some (.obj [(kApps, .obj [(kC12, j)])])
  | _ => none
def loadEnv : Env := ⟨fun _ => [], fun _ => true, wrapEx⟩
def loadReq (m : HMethod) (p : Bytes) (b : Body) (ct : CT) : Req := ⟨m, p, b, [34], false, ct⟩   -- carries a malformed If-Match
-- a JSON /load on the loaded example state is accepted although its If-Match header is garbage,
example : (serve loadEnv (loadReq .post loadPath (.val .null) .json) exLoaded).2 = .okWrite := by rw [exLoaded_eq]; decide +kernel
example : cfgOf (serve loadEnv (loadReq .post loadPath (.val .null) .json) exLoaded).1.rawCfg = .null := by rw [exLoaded_eq]; decide +kernel
-- the same request to /config/ is refused (400, malformed If-Match)
example : (serve loadEnv (loadReq .post pRoot (.val .null) .json) exLoaded).2 = .fail .ifMatchQuote := by rw [exLoaded_eq]; decide
-- load_replaces_document with an adapted body: hypotheses and conclusion on a concrete request
example : adaptByContentType loadEnv .adapter (.val (.num [49])) = .body (.val (.obj [(kApps, .obj [(kC12, .num [49])])])) := by decide
example : ∀ xs, cfgOf exLoaded.rawCfg ≠ .arr xs := by
  have : cfgOf exLoaded.rawCfg = exDoc := by rw [exLoaded_eq]; decide
  intro xs; rw [this]; simp [exDoc]
example : (serve loadEnv (loadReq .post loadPath (.val (.num [49])) .adapter) exLoaded).2 = .okWrite := by rw [exLoaded_eq]; decide +kernel
-- Content-Type dispatch: unknown adapter, no slash, unparsable, GET
example : (serve loadEnv (loadReq .post loadPath (.val .null) .plain) exLoaded).2 = .fail .adapterUnknown := by rw [exLoaded_eq]; decide
example : (serve loadEnv (loadReq .post loadPath (.val .null) .jsonx) exLoaded).2 = .fail .adapterUnknown := by rw [exLoaded_eq]; decide
example : (serve loadEnv (loadReq .post loadPath (.val .null) .noSlash) exLoaded).2 = .fail .ctMalformed := by rw [exLoaded_eq]; decide
example : (serve loadEnv (loadReq .get loadPath .empty .none) exLoaded).2 = .fail .method := by rw [exLoaded_eq]; decide
-- a rejected /load answers 400 "loading config: …" and changes nothing
example : (serve loadEnv (loadReq .post loadPath (.val (.obj [(idKey, .bool true)])) .none) exLoaded)
    = (exLoaded, .fail (.viaLoad .index)) := by rw [exLoaded_eq]; decide +kernel
example : (serve loadEnv (loadReq .post adaptPath (.val (.num [49])) .adapter) exLoaded)
    = (exLoaded, .okAdapt (.obj [(kApps, .obj [(kC12, .num [49])])])) := by rw [exLoaded_eq]; decide +kernel

-- unique_keys_preserved: the example histories are of that kind, and the wrapping adapter qualifies
example : ReachableUK exEnv exLoaded := .step _ (by show uniqueKeys exDoc = true; decide +kernel) .init
example : adaptUK loadEnv := by
  intro b j hb h
  cases b with
  | val x =>
    simp [loadEnv, wrapEx] at h; subst h
    simp only [uniqueKeys, uniqueKeysO, lookup]
    have : uniqueKeys x = true := hb
    simp [this]
  | empty => simp [loadEnv, wrapEx] at h
  | bad => simp [loadEnv, wrapEx] at h

-- id_path_is_expanded_path: PATCH /id/x/a/0 on the loaded example document is PATCH /config/apps/c12/a/0
def pIdXA0 : Bytes := [47, 105, 100, 47, 120, 47, 97, 47, 48]     -- "/id/x/a/0"
example : pIdXA0 = renderPath (idSeg :: kX :: [kA, [48]]) := by decide
example : (taggedJ exDoc).filter (fun e => e.2 = kX) = [([kApps, kC12], kX)] := by decide
example : serve exEnv (exReq .patch pIdXA0 (.val .null)) exLoaded = serve exEnv (exReq .patch pA0 (.val .null)) exLoaded := by rw [exLoaded_eq]; decide +kernel
example : (serve exEnv (exReq .patch pIdXA0 (.val .null)) exLoaded).2 = .okWrite := by rw [exLoaded_eq]; decide +kernel

-- unchanged / forced: PATCHing the loaded document with itself
example : (serve exEnv (exReq .patch pRoot (.val exDoc)) exLoaded) = (exLoaded, .okWrite) := by rw [exLoaded_eq]; decide +kernel
example : (serve exEnv ⟨.patch, pRoot, .val exDoc, [], true, .json⟩ exLoaded).1.loads = 2 := by rw [exLoaded_eq]; decide +kernel

-- interleavings of lock regions: `{"apps":{"c12":{"a":[{"@id":"x","v":1}]}}}`; thread 0 PATCHes /id/x,
-- thread 1 inserts an element in front of it between thread 0's two regions
def xObj : Json := .obj [(idKey, .str kX), ([118], .num [49])]
def yObj : Json := .obj [(idKey, .str [121])]
def raceDoc : Json := .obj [(kApps, .obj [(kC12, .obj [(kA, .arr [xObj])])])]
def hashRace : Option Json → Bytes := fun o => if o = some xObj then [120] else [111]
def raceEnv : Env := ⟨hashRace, fun _ => true, fun _ => none⟩
def raceLoaded : State := (serve raceEnv (exReq .post pRoot (.val raceDoc)) initState).1
def pIdX : Bytes := [47, 105, 100, 47, 120]                       -- "/id/x"
def patchX (ifm : Bytes) : Req := ⟨.patch, pIdX, .val (.obj [([118], .num [50])]), ifm, false, .json⟩
def insertY : Req := ⟨.put, pA0, .val yObj, [], false, .json⟩
def raceSched (ifm : Bytes) : List (Nat × Req) := [(0, patchX ifm), (1, insertY), (0, patchX ifm)]
/-- **/id/ resolution is not atomic with the write** (an observation the region model makes
    precise, not a clause of the property: its concurrency clause is about conditional
    writers). An UNCONDITIONAL write through /id/ can hit a neighbour: the id is resolved to
    `/config/apps/c12/a/0` in the first region, another thread inserts an element in front,
    and the second region patches index 0 — the inserted object; the object tagged "x" is
    untouched. The serial history it amounts to says so: `PATCH /config/apps/c12/a/0` after the
    insert. -/
theorem id_resolution_is_not_atomic_with_the_write :
    cfgOf (regionRun raceEnv (raceSched []) (RSys.start raceLoaded)).s.rawCfg =
      .obj [(kApps, .obj [(kC12, .obj [(kA, .arr [.obj [([118], .num [50])], xObj])])])] ∧
    (regionRun raceEnv (raceSched []) (RSys.start raceLoaded)).hist = [insertY, { patchX [] with path := pA0 }] := by
  decide +kernel

/-- … and If-Match protects against exactly that: the same schedule with the ETag of an earlier
    `GET /id/x` ("/config/apps/c12/a/0 <hash of the x object>") is refused with 412 and the
    document holds the inserted object and the untouched x. -/
theorem id_race_is_refused_with_if_match :
    ((regionRun raceEnv (raceSched (mkEtag pA0 (hashRace (some xObj)))) (RSys.start raceLoaded)).done.map (·.2.2))
      = [.okWrite, .fail .precondition] ∧
    cfgOf (regionRun raceEnv (raceSched (mkEtag pA0 (hashRace (some xObj)))) (RSys.start raceLoaded)).s.rawCfg =
      .obj [(kApps, .obj [(kC12, .obj [(kA, .arr [yObj, xObj])])])] := by
  decide +kernel

-- back to back the same request patches the tagged object
example : cfgOf (regionRun raceEnv [(0, patchX []), (0, patchX [])] (RSys.start raceLoaded)).s.rawCfg =
    .obj [(kApps, .obj [(kC12, .obj [(kA, .arr [.obj [([118], .num [50])]])])])] := by decide +kernel

-- canonical form / map equality: the same object with its members listed in two orders is `mapEq`
-- but not `=`; only one of the two is canonical
example : mapEq (.obj [([97], .null), ([98], .bool true)]) (.obj [([98], .bool true), ([97], .null)]) = true := by decide
example : canonical (.obj [([97], .null), ([98], .bool true)]) = true ∧ canonical (.obj [([98], .bool true), ([97], .null)]) = false := by decide
example : canonical exDoc = true := by decide
example : ReachableCN exEnv exLoaded := .step _ (by show canonical exDoc = true; decide +kernel) .init

-- every_answer_…: in the race above, thread 1's insert was answered in the state after 0 requests of the
-- serial history, thread 0's patch was resolved there too but handled after 1
example : Explained raceEnv raceLoaded [insertY, { patchX [] with path := pA0 }] (1, insertY, .okWrite) :=
  Or.inl ⟨0, by decide, by decide +kernel⟩
example : Explained raceEnv raceLoaded [insertY, { patchX [] with path := pA0 }] (0, patchX [], .okWrite) :=
  Or.inr ⟨0, 1, by decide, by decide, by decide +kernel⟩

-- caddy reload: a JSON file replaces the document; the same file again is not reloaded unless --force
def cliState : State := (cliReload loadEnv (.val exDoc) .none false false initState).1
example : (cliReload loadEnv (.val exDoc) .none false false initState).2 = .ok ∧ cliState.loads = 1 := by decide +kernel
example : (cliReload loadEnv (.val exDoc) .none false false cliState).1.loads = 1 := by decide +kernel
example : (cliReload loadEnv (.val exDoc) .none true false cliState).1.loads = 2 := by decide +kernel
example : (cliReload loadEnv .bad .none false false cliState) = (cliState, .failedBeforeSend) := by decide +kernel
-- a file holding a JSON array: without --address the command cannot even look for admin.listen; with it, it is sent (and this world's apps accept anything)
example : (cliReload loadEnv (.val (.arr [])) .none false false cliState) = (cliState, .failedBeforeSend) := by decide +kernel
example : (cliReload loadEnv (.val (.arr [])) .none false true cliState).2 = .ok := by decide +kernel
example : (cliReload loadEnv (.val (.num [49])) .registered false false cliState).2 = .ok := by decide +kernel
example : (cliReload loadEnv (.val (.obj [(idKey, .bool true)])) .none false false cliState) = (cliState, .refused (.viaLoad .index)) := by decide +kernel

-- pulled configs: accepted → the document; rejected by the indexer → nothing changes
example : cfgOf (pulledConfig exEnv (.val .null) exLoaded).1.rawCfg = .null := by rw [exLoaded_eq]; decide
example : pulledConfig exEnv (.val (.obj [(idKey, .bool true)])) exLoaded = (exLoaded, .index) := by rw [exLoaded_eq]; decide +kernel

/-! ### request targets as they arrive on a connection (Wire.lean): which document path a
    request addresses -/

/-- **the document path a request addresses is the decoded path**: whatever the spelling of the
    request target, once the mux (which looks at the escaped path) hands it to the config handler,
    what runs is `handleConfig` on `URL.Path` as net/url decoded it -/
theorem wire_request_addresses_decoded_path (env : Env) (r : Req) (s : State) {t p ep : Bytes}
    (hp : parseTarget t = some (p, ep)) (hr : wireRoute ep = .config) :
    wireServe env r t s = ((handleConfig env r p s).1, .served (handleConfig env r p s).2) := by
  simp [wireServe, hp, hr]

theorem wire_spelling_does_not_matter (env : Env) (r : Req) (s : State) {t₁ t₂ p e₁ e₂ : Bytes}
    (h₁ : parseTarget t₁ = some (p, e₁)) (h₂ : parseTarget t₂ = some (p, e₂))
    (r₁ : wireRoute e₁ = .config) (r₂ : wireRoute e₂ = .config) :
    wireServe env r t₁ s = wireServe env r t₂ s := by
  rw [wire_request_addresses_decoded_path env r s h₁ r₁, wire_request_addresses_decoded_path env r s h₂ r₂]

/-- every byte string has a spelling: net/url's `escape` is undone by its `unescape`, and
    `EscapedPath()` of the parsed URL is that spelling again (what the mux routes on) -/
theorem every_path_has_a_spelling (p : Bytes) :
    unescapePath (escapePath p) = some p ∧ escapedPath (escapePath p) p = escapePath p :=
  ⟨unescape_escape_eq p, by simp [escapedPath]⟩

def WireResp.rejected : WireResp → Bool
  | .badRequest => true
  | .served r => r.rejected

/-- **a rejected request changes nothing — stated at the connection**: refused by net/http (400),
    redirected or not routed by the mux, or rejected by a handler. `hcfg`: the decoded path of a
    target routed to the config handler starts with the `config` key (the mux matched the unescaped
    first segment against it) — checked on every case by the correspondence, decided in the examples -/
theorem wire_rejected_changes_nothing {env : Env} {s : State} (h : Reachable env s) (r : Req) (t : Bytes)
    (hcfg : ∀ p ep, parseTarget t = some (p, ep) → wireRoute ep = .config → underConfig p)
    (hrej : (wireServe env r t s).2.rejected = true) : (wireServe env r t s).1 = s := by
  have hi := reachable_inv h
  revert hrej
  fun_cases wireServe env r t s     -- 4 /config/, 5 /load, 6 /adapt, 9 /id/ resolved to a /config/ path
  case case4 p ep hp hr => exact (handleConfig_viaChange env r s (hcfg p ep hp hr)).rejected hi
  case case5 => exact (handleLoad_viaChange env r s).rejected hi
  case case6 => exact fun _ => handleAdapt_pure env r s
  case case9 hr => exact (handleConfig_viaChange env r s (underConfig_of_prefix (route_config hr))).rejected hi
  all_goals exact fun _ => rfl

/-! ### forced overlap (the ovl op): a writer held inside `changeConfig` while another writer and
    a reader wait on `rawCfgMu` -/

/-- **every overlapped history is one of the serial orders.** Writer `a` holds the write lock;
    writer `b` and reader `g` (requests with one critical section each) wait. Whichever of the two
    the lock admits next, the final state is that of the serial history `a; b`, `a` and `b` get the
    answers they get in that history, and the reader gets the value as it is after `a` or after
    `a; b` — never a state in between (e.g. of `a` before its rollback). -/
theorem overlapped_history_is_a_serial_order (env : Env) (s : State) (a b g : Req)
    (ha : route a.path ≠ .id) (hb : route b.path ≠ .id) (hg : route g.path ≠ .id) (hm : g.method = .get) :
    ((regionRun env [(0, a), (1, b), (2, g)] (RSys.start s)).s = serial env [a, b] s ∧
     (regionRun env [(0, a), (1, b), (2, g)] (RSys.start s)).done =
       [(0, a, (serve env a s).2), (1, b, (serve env b (serve env a s).1).2), (2, g, (serve env g (serial env [a, b] s)).2)]) ∧
    ((regionRun env [(0, a), (2, g), (1, b)] (RSys.start s)).s = serial env [a, b] s ∧
     (regionRun env [(0, a), (2, g), (1, b)] (RSys.start s)).done =
       [(0, a, (serve env a s).2), (2, g, (serve env g (serve env a s).1).2), (1, b, (serve env b (serve env a s).1).2)]) := by
  have hr : ∀ t, (serve env g t).1 = t := fun t => read_request_changes_nothing env g t (Or.inl hm)
  simp [regionRun, regionStep, RSys.start, serial, ha, hb, hg, hr]

-- overlapped_history_…: a PUT held while a DELETE and a GET of the same value wait
example : route (wReq .put pSlash (.val .null)).path ≠ .id ∧ route (wReq .delete pSlash .empty).path ≠ .id ∧
    (wReq .get pSlash .empty).method = .get := by decide +kernel
example : (regionRun yesEnv [(0, wReq .put (pSlash.take 18 ++ [47, 122]) (.val .null)), (2, wReq .get (pSlash.take 18) .empty),
      (1, wReq .delete (pSlash.take 18) .empty)] (RSys.start slashState)).done.map (·.2.2) =
    [.okWrite, .okGet (some (.obj [([121], .num [50]), ([122], .null)])) (pSlash.take 18), .okWrite] := by decide +kernel

/-! ### adapter warnings on /load (Warn.lean) -/

/-- a world with the wrapping adapter whose apps accept only the empty configuration -/
def warnEnv : Env := ⟨fun _ => [], fun j => j == .null,
  fun b => match b with
    | .val j => some (.obj [([97, 112, 112, 115], .obj [([99, 49, 50], j)])])
    | _ => none⟩

def warnReq : Req := ⟨.post, loadPath, .val (.bool true), [], false, .adapter⟩

/-- **a rejected POST /load is reported as rejected** (full strength; the code before /repo
    bbbf7b6: `rejected_load_is_reported_old_code_fails`): whatever the adapter warns about, the
    client of a load that was rejected reads an error status -/
theorem rejected_load_is_reported (env : Env) (r : Req) (s : State)
    (hrej : (handleLoad env r s).2.rejected = true) : loadStatusSeen env r s ≠ 200 := by
  unfold loadStatusSeen
  cases h : (handleLoad env r s).2 <;> simp_all [respStatus, Resp.rejected, statusOf_ne_200]

theorem warnings_written_only_after_successful_load (env : Env) (warns : Body → Bool) (r : Req) (s : State)
    (hw : warnsWritten env warns r s = true) : (handleLoad env r s).2 = .okWrite ∧ loadStatusSeen env r s = 200 := by
  unfold warnsWritten at hw
  have h : (handleLoad env r s).2 = .okWrite := by simp_all
  exact ⟨h, by simp [loadStatusSeen, h, respStatus]⟩

/-- **the old code answered a rejected load with 200** (non-vacuity of `rejected_load_is_reported`):
    before /repo bbbf7b6 the adapter's warnings were written to the response before `caddy.Load`
    ran; the load was rejected, nothing changed — and the client read status 200 -/
theorem rejected_load_is_reported_old_code_fails :
    ∃ (env : Env) (warns : Body → Bool) (r : Req) (s : State), Reachable env s ∧
      (handleLoad env r s).2.rejected = true ∧ (handleLoad env r s).1 = s ∧
      loadStatusSeenOld env warns r s = 200 ∧ loadStatusSeen env r s = 400 :=
  ⟨warnEnv, fun _ => true, warnReq, initState, .init, by decide +kernel⟩

/-- warnings or not, what is loaded is the same: the state after `POST /load` is `handleLoad`'s, in
    which warnings do not occur, and an accepted load answers 200 with or without them -/
theorem adapter_warnings_do_not_change_the_load (env : Env) (r : Req) (s : State)
    (hok : (handleLoad env r s).2 = .okWrite) : loadStatusSeen env r s = 200 := by
  simp [loadStatusSeen, hok, respStatus]

example : adapterWarned warnEnv (fun _ => true) warnReq = true ∧ (handleLoad warnEnv warnReq initState).2.rejected = true ∧
    warnsWritten warnEnv (fun _ => true) warnReq initState = false := by decide
example : loadStatusSeen warnEnv warnReq initState = 400 := by decide
-- an accepted load with warnings (this world's apps accept anything)
example : warnsWritten { warnEnv with accepts := fun _ => true } (fun _ => true) warnReq initState = true := by decide
example : (handleLoad warnEnv { warnReq with body := .val .null, ct := .json } initState).2 = .okWrite := by decide

/-! ### request targets, continued -/

theorem wire_unparsable_target_changes_nothing (env : Env) (r : Req) (s : State) {t : Bytes}
    (h : parseTarget t = none) : wireServe env r t s = (s, .badRequest) := by
  simp [wireServe, h]

/-- **an encoded slash is a separator**: `/config/apps/c12/x%2Fy` decodes to `…/x/y` and reads the
    member `y` of `x` (2), not the member `x/y` (1) that the document also has — no spelling of a
    request target addresses a key containing '/' (cf. the known finding `id-below-unaddressable-key`) -/
theorem encoded_slash_is_a_separator :
    parseTarget tEncSlash = some (pSlash, tEncSlash) ∧ wireRoute tEncSlash = .config ∧
    cfgOf slashState.rawCfg = slashDoc ∧
    (wireServe yesEnv (wReq .get [] .empty) tEncSlash slashState).2 = .served (.okGet (some (.num [50])) pSlash) := by
  decide +kernel

/-- **the route is decided on the escaped path**: `/config%2Fapps` and `/%63onfig/apps` both decode
    to `/config/apps`; the first is not routed (404), the second is served -/
theorem route_is_decided_on_the_escaped_path :
    parseTarget tEncSep = some (wpApps, tEncSep) ∧ wireRoute tEncSep = .none ∧
    parseTarget tEncFirst = some (wpApps, tEncFirst) ∧ wireRoute tEncFirst = .config ∧ route wpApps = .config := by
  decide +kernel

/-- **encoded dots are not cleaned away**: the mux cleans the escaped path, so `%2e%2e` reaches
    the handler as a key named `..`, whereas the literal spelling is redirected -/
theorem encoded_dots_are_a_key :
    parseTarget tEncDots = some (pDots, tEncDots) ∧ wireRoute tEncDots = .config ∧ route pDots = .redirect ∧
    (wireServe yesEnv (wReq .get [] .empty) tEncDots slashState).2 = .served (.fail (.access .traversal)) := by
  decide +kernel

example : parseTarget tBadEsc = none := by decide
example : wireServe yesEnv (wReq .put [] (.val .null)) tBadEsc slashState = (slashState, .badRequest) :=
  wire_unparsable_target_changes_nothing _ _ _ (by decide)
example : unescapePath (escapePath [47, 107, 32, 107, 37, 63]) = some [47, 107, 32, 107, 37, 63] := (every_path_has_a_spelling _).1
-- wire_rejected_changes_nothing: a PUT with an undecodable body to an encoded spelling
example : (wireServe yesEnv (wReq .put [] .bad) tEncFirst slashState).2.rejected = true := by decide +kernel
example : underConfig wpApps := ⟨[[97, 112, 112, 115]], by decide⟩
example : wireServe yesEnv (wReq .get [] .empty) tEncFirst slashState = wireServe yesEnv (wReq .get [] .empty) wpApps slashState :=
  wire_spelling_does_not_matter _ _ _ (p := wpApps) (e₁ := tEncFirst) (e₂ := wpApps) (by decide +kernel) (by decide +kernel) (by decide +kernel) (by decide +kernel)

end CaddyModel.C12
