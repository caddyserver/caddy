/-
C12 — read–modify–write (`Cas.lean`): the If-Match header, what PATCH does to the value GET
reads, and the invariant of the transition system of interleaved conditional writers.
-/
import CaddyModel.C12.Cas
import CaddyModel.C12.StateLemmas

namespace CaddyModel.C12

def noSpace (w : Bytes) : Prop := ∀ c ∈ w, isSpace c = false

theorem fieldsGo_word : ∀ (w : Bytes), noSpace w → ∀ (rest cur : Bytes),
    fieldsGo (w ++ rest) cur = fieldsGo rest (w.reverse ++ cur)
  | [], _, rest, cur => by simp
  | c :: w, hw, rest, cur => by
    have hc : isSpace c = false := hw c (by simp)
    have hw' : noSpace w := fun d hd => hw d (by simp [hd])
    simp only [List.cons_append, fieldsGo, hc]
    rw [fieldsGo_word w hw' rest (c :: cur)]
    simp

theorem fieldsGo_two {p h : Bytes} (hp : p ≠ []) (hps : noSpace p) (hh : h ≠ []) (hhs : noSpace h) :
    fieldsGo (p ++ 32 :: h) [] = [p, h] := by
  rw [fieldsGo_word p hps]
  have h1 : isSpace 32 = true := by decide
  have h2 : (p.reverse ++ ([] : Bytes)).isEmpty = false := by simp [hp]
  simp only [fieldsGo, h1, h2, if_true]
  have := fieldsGo_word h hhs [] []
  simp only [List.append_nil] at this
  rw [this]
  simp [fieldsGo, hh]

/-- `changeConfig` with a well-formed `If-Match: "<p> <h>"` -/
theorem change_cas {env : Env} {m : Method} {path : Bytes} {body : Body} {force : Bool} {s : State} {p h : Bytes}
    (hp : p ≠ []) (hps : noSpace p) (hh : h ≠ []) (hhs : noSpace h) :
    change env m path body (mkEtag p h) force s =
      match (access .get p .empty s.rawCfg).2 with
      | .err e => (s, .ifMatchAccess e)
      | .panic => (s, .panic)
      | .ok out => if env.hash out ≠ h then (s, .precondition) else mutate env m path body force s := by
  unfold change
  have hm : mkEtag p h = (quote :: (p ++ 32 :: h)) ++ [quote] := by simp [mkEtag]
  have h1 : mkEtag p h ≠ [] := by simp [mkEtag]
  have h2 : ¬ ((mkEtag p h).length < 2 ∨ (mkEtag p h).head? ≠ some quote ∨ (mkEtag p h).getLast? ≠ some quote) := by
    rw [hm, List.getLast?_concat]; simp; omega
  have h3 : ((mkEtag p h).drop 1).dropLast = p ++ 32 :: h := by
    rw [hm]; simp only [List.cons_append, List.drop_succ_cons, List.drop_zero]
    exact List.dropLast_concat
  rw [if_neg h1, if_neg h2, h3, fieldsGo_two hp hps hh hhs]
  dsimp only
  generalize access .get p .empty s.rawCfg = ar
  obtain ⟨a, r⟩ := ar
  cases r <;> rfl

/-- after the PATCH the path names the body (`trav_set_effect`), and GET returns what a path names (`trav_get_complete`) -/
theorem access_patch_then_get {path : Bytes} {root : Json} {kvs : Obj} {val x : Json}
    (hroot : root = .obj kvs) (hg : (access .get path .empty root).2 = .ok (some x))
    (hp : ∃ o, (access .patch path (.val val) root).2 = .ok o) :
    (access .get path .empty (access .patch path (.val val) root).1).2 = .ok (some val) := by
  subst hroot
  obtain ⟨o, hp⟩ := hp
  rcases access_cases .get path .empty with ⟨e, he⟩ | hge
  · rw [he] at hg; cases hg
  rcases access_cases .patch path (.val val) with ⟨e, he⟩ | hpe
  · rw [he] at hp; cases hp
  rw [hge] at hg ⊢
  rw [hpe] at hp ⊢
  obtain ⟨part, rest, hparts⟩ : ∃ part rest, (pathParts path).1 = part :: rest := by
    cases h : (pathParts path).1 with
    | nil => rw [h, trav_nil] at hg; cases hg
    | cons part rest => exact ⟨part, rest, rfl⟩
  rw [hparts] at hp ⊢
  have heff := trav_set_effect (Or.inr rfl) hp ⟨by simp, guard_of_obj⟩
  obtain ⟨kvs', hk, _⟩ := trav_obj_fst .patch (pathParts path).2 (bodyVal (.val val)) part rest kvs
  rw [hk] at heff ⊢
  exact trav_get_complete ⟨by simp, guard_of_obj⟩ heff

theorem access_patch_keeps_key {path : Bytes} {body : Body} {root : Json} (hp : underConfig path) (h : RootShape root)
    (hk : hasCfgKey root = true) : hasCfgKey (access .patch path body root).1 = true := by
  obtain ⟨rest, hp⟩ := hp
  obtain ⟨kvs, rfl⟩ := h.isObj
  rcases access_cases .patch path body with ⟨e, he⟩ | he <;> rw [he]
  · exact hk
  · rw [hp]
    obtain ⟨kvs', heq, rfl | ⟨v, rfl⟩ | ⟨hm, _⟩⟩ := trav_obj_fst .patch (pathParts path).2 (bodyVal body) cfgKey rest kvs
    · rw [heq]; exact hk
    · rw [heq]; simp [hasCfgKey, lookup_setKey_same]
    · cases hm

/-- what the theorem assumes about the world: the ETag hash separates the values compared
    (trusted: xxhash collisions) and prints as a non-empty word; `p` is a /config/ path
    without white space (so that the ETag `"<p> <hash>"` has exactly two fields); `route` also keeps
    /id/ paths out, whose requests are two lock regions (`Regions.lean`) -/
structure CasHyp (env : Env) (p : Bytes) (f : Nat → Option Json → Json) (V : Option Json → Prop) : Prop where
  /-- `V` = the values the counter can take; the hash has to separate only those -/
  inj : ∀ a b, V a → V b → env.hash a = env.hash b → a = b
  closed : ∀ c v, V (some v) → V (some (f c (some v)))
  hne : ∀ a, V a → env.hash a ≠ []
  hns : ∀ a, V a → noSpace (env.hash a)
  route : route p = .config
  pns : noSpace p

theorem CasHyp.pne {env : Env} {p : Bytes} {f : Nat → Option Json → Json} {V : Option Json → Prop} (h : CasHyp env p f V) : p ≠ [] := by
  intro hp
  have := h.route
  rw [hp] at this
  simp [CaddyModel.C12.route] at this

theorem chain_append (f : Nat → Option Json → Json) (log : List (Nat × Json)) (v0 v : Json) (c : Nat)
    (h : chain f v0 log = some v) : chain f v0 (log ++ [(c, f c (some v))]) = some (f c (some v)) := by
  fun_induction chain f v0 log <;> simp_all [chain]

structure CasInv (p : Bytes) (f : Nat → Option Json → Json) (V : Option Json → Prop) (v0 : Json) (y : Sys) : Prop where
  inv : Inv y.s
  cur : ∃ v, (access .get p .empty y.s.rawCfg).2 = .ok (some v) ∧ chain f v0 y.log = some v ∧ V (some v)
  held : ∀ c ep out, y.held c = some (ep, out) → ep = p ∧ V out

theorem cas_request {env : Env} {p : Bytes} {f : Nat → Option Json → Json} {V : Option Json → Prop}
    (hyp : CasHyp env p f V) {s : State} (hi : Inv s) {v w : Json} {out : Option Json}
    (hv : (access .get p .empty s.rawCfg).2 = .ok (some v)) (hV : V (some v)) (hVout : V out) :
    ((serve env (casReq env p p out w) s).2 ≠ .okWrite ∧ (serve env (casReq env p p out w) s).1 = s) ∨
    ((serve env (casReq env p p out w) s).2 = .okWrite ∧ out = some v ∧ Inv (serve env (casReq env p p out w) s).1 ∧
      (access .get p .empty (serve env (casReq env p p out w) s).1.rawCfg).2 = .ok (some w)) := by
  have hund : underConfig p := underConfig_of_prefix (route_config hyp.route)
  rw [serve_config (r := casReq env p p out w) hyp.route, handleConfig_write (m := .patch) rfl,
    if_neg (fun h => nomatch h.2), if_neg (by decide)]
  dsimp only [casReq]
  rw [change_cas hyp.pne hyp.pns (hyp.hne _ hVout) (hyp.hns _ hVout), hv]
  dsimp only
  by_cases hhash : env.hash (some v) ≠ env.hash out
  · -- the value changed since the ETag was issued: 412
    rw [if_pos hhash]
    exact Or.inl ⟨by simp [changeResp], rfl⟩
  · rw [if_neg hhash]
    have hout : out = some v := (hyp.inj _ _ hV hVout (by simpa using hhash)).symm
    by_cases hacc2 : (mutate env .patch p (.val w) false s).2 = .ok ∨ (mutate env .patch p (.val w) false s).2 = .same
    · obtain ⟨kvs, hk⟩ := hi.shape.isObj
      refine Or.inr ⟨(changeResp_ok_iff _).2 hacc2, hout, (mutate_sound hi hund).1, ?_⟩
      rw [(mutate_accepted hacc2).1]
      exact access_patch_then_get hk hv (mutate_accepted hacc2).2
    · -- refused after the check (traversal error, rejected by the indexer or the apps): rolled back
      exact Or.inl ⟨fun h => hacc2 ((changeResp_ok_iff _).1 h), (mutate_sound hi hund).2 hacc2⟩

theorem upd_held {h : Nat → Held} {c : Nat} {x : Held} {Q : Bytes → Option Json → Prop}
    (hx : ∀ ep out, x = some (ep, out) → Q ep out) (hh : ∀ c' ep out, h c' = some (ep, out) → Q ep out) :
    ∀ c' ep out, upd h c x c' = some (ep, out) → Q ep out := by
  intro c' ep out he
  simp only [upd] at he
  split at he
  · exact hx ep out he
  · exact hh c' ep out he

theorem cas_step {env : Env} {p : Bytes} {f : Nat → Option Json → Json} {V : Option Json → Prop} {v0 : Json}
    (hyp : CasHyp env p f V) {y : Sys} (hi : CasInv p f V v0 y) (c : Nat) : CasInv p f V v0 (stepClient env p f y c) := by
  obtain ⟨v, hv, hch, hV⟩ := hi.cur
  have hread : serve env (readReq p) y.s = (y.s, .okGet (some v) p) := by
    rw [serve_config (r := readReq p) hyp.route, handleConfig_get rfl]
    dsimp only [readReq]
    rw [hv]
  fun_cases stepClient env p f y c
  case case1 _ out ep heq =>
    rw [hread] at heq
    cases heq
    exact ⟨hi.inv, ⟨v, hv, hch, hV⟩, upd_held (by rintro _ _ ⟨⟩; exact ⟨rfl, hV⟩) hi.held⟩
  case case2 => exact hi
  case case3 ep out hh s' heq =>
    obtain ⟨rfl, hVout⟩ := hi.held c ep out hh
    rcases cas_request hyp hi.inv hv hV hVout (w := f c out) with ⟨hne, _⟩ | ⟨_, rfl, hinv, hget⟩
    · rw [heq] at hne; exact absurd rfl hne
    · rw [heq] at hinv hget
      exact ⟨hinv, ⟨_, hget, chain_append f _ _ _ _ hch, hyp.closed c v hV⟩, upd_held (fun _ _ h => nomatch h) hi.held⟩
  case case4 ep out hh s' r hne heq =>
    obtain ⟨rfl, hVout⟩ := hi.held c ep out hh
    rcases cas_request hyp hi.inv hv hV hVout (w := f c out) with ⟨_, hs⟩ | ⟨hok, _⟩
    · rw [heq] at hs; cases hs
      exact ⟨hi.inv, ⟨v, hv, hch, hV⟩, upd_held (fun _ _ h => nomatch h) hi.held⟩
    · rw [heq] at hok; exact absurd hok hne

theorem cas_run {env : Env} {p : Bytes} {f : Nat → Option Json → Json} {V : Option Json → Prop} {v0 : Json}
    (hyp : CasHyp env p f V) (sched : List Nat) (y : Sys) (h : CasInv p f V v0 y) :
    CasInv p f V v0 (runSched env p f sched y) :=
  List.foldlRecOn sched _ h fun _ hy c _ => cas_step hyp hy c

theorem chain_size (f : Nat → Option Json → Json) (size : Json → Nat)
    (hsz : ∀ c v, size (f c (some v)) = size v + 1) (log : List (Nat × Json)) (v0 v : Json)
    (h : chain f v0 log = some v) : size v = size v0 + log.length := by
  fun_induction chain f v0 log <;> simp_all
  omega

end CaddyModel.C12
