/-
C12 — what a traversal does to the tree. `put` is the writing half of `sget`, with the laws of a lens along a path
that is there; `Trav` says once what `trav` is — it gives up, runs off the path, acts through `arrayOp` / `lastOp` on
the container the path without its last part names and puts the result back, or (PUT) makes the missing maps —
and `trav_spec` is the one induction over the loop. That errors and GET leave the tree alone, that no Go panic is
reachable, the frame, the focus with the effect of each method, and completeness of GET are read off it.
-/
import CaddyModel.C12.Lemmas
import CaddyModel.C12.Spec
namespace CaddyModel.C12

theorem sget_obj_cons (a : Bytes) (q : List Bytes) (kvs : Obj) :
    sget (a :: q) (.obj kvs) = match lookup a kvs with | some c => sget q c | none => none := by
  cases h : lookup a kvs <;> simp [sget, h]

theorem sget_arr_cons (a : Bytes) (q : List Bytes) (xs : List Json) :
    sget (a :: q) (.arr xs) =
      match atoi a with
      | some i => if 0 ≤ i then (match xs[i.toNat]? with | some c => sget q c | none => none) else none
      | none => none := by
  cases h : atoi a with
  | none => simp [sget, h]
  | some i =>
    by_cases h0 : 0 ≤ i
    · cases hx : xs[i.toNat]? <;> simp [sget, h, h0, hx]
    · simp [sget, h, h0]

theorem sget_arr_at {a : Bytes} {i : Nat} (ha : atoi a = some ↑i) (q : List Bytes) (xs : List Json) :
    sget (a :: q) (.arr xs) = match xs[i]? with | some c => sget q c | none => none := by
  rw [sget_arr_cons, ha]; simp

theorem sget_arr_some {a : Bytes} {q : List Bytes} {xs : List Json} {v : Json} (h : sget (a :: q) (.arr xs) = some v) :
    ∃ i : Nat, atoi a = some ↑i ∧ ∃ c, xs[i]? = some c ∧ sget q c = some v := by
  rw [sget_arr_cons] at h
  cases ha : atoi a with
  | none => simp [ha] at h
  | some idx =>
    simp only [ha] at h
    split at h
    · next h0 =>
      obtain ⟨i, rfl⟩ := Int.eq_ofNat_of_zero_le h0
      cases hx : xs[i]? with
      | none => simp [hx] at h
      | some c => exact ⟨i, rfl, c, hx, by simpa [hx] using h⟩
    · cases h

theorem sget_single_obj (part : Bytes) (kvs : Obj) : sget [part] (.obj kvs) = lookup part kvs := by
  rw [sget_obj_cons]; cases lookup part kvs <;> rfl

theorem sget_single_arr {a : Bytes} {i : Nat} (ha : atoi a = some ↑i) (xs : List Json) : sget [a] (.arr xs) = xs[i]? := by
  rw [sget_arr_at ha]; cases xs[i]? <;> rfl

theorem sget_append (p q : List Bytes) (x : Json) : sget (p ++ q) x = (sget p x).bind (sget q) := by
  fun_induction sget p x <;>
    simp only [List.cons_append, List.nil_append, sget, Option.bind_some, Option.bind_none, if_true, if_false, *]

theorem sget_dropLast {parts : List Bytes} {last : Bytes} {x y : Json} (hl : parts.getLast? = some last)
    (h : sget parts.dropLast x = some y) : sget parts x = sget [last] y := by
  obtain ⟨front, rfl⟩ := List.getLast?_eq_some_iff.1 hl
  rw [List.dropLast_concat] at h
  rw [sget_append, h]; rfl

theorem apart_nil_right (q : List Bytes) (node : Json) : apart q [] node = false := by
  cases q <;> cases node <;> simp [apart]

theorem apart_obj {q : List Bytes} {b : Bytes} {p : List Bytes} {kvs : Obj} (h : apart q (b :: p) (.obj kvs) = true) :
    ∃ a q', q = a :: q' ∧ (a ≠ b ∨ (a = b ∧ ∃ c, lookup b kvs = some c ∧ apart q' p c = true)) := by
  cases q with
  | nil => simp [apart] at h
  | cons a q' =>
    refine ⟨a, q', rfl, ?_⟩
    simp only [apart] at h
    by_cases hab : a = b
    · subst hab
      rw [if_pos rfl] at h
      cases hl : lookup a kvs with
      | none => simp [hl] at h
      | some c => exact Or.inr ⟨rfl, c, rfl, by simpa [hl] using h⟩
    · exact Or.inl hab

theorem apart_arr {q : List Bytes} {b : Bytes} {p : List Bytes} {xs : List Json} {j : Nat} (hb : atoi b = some ↑j)
    (h : apart q (b :: p) (.arr xs) = true) :
    ∃ a q' i, q = a :: q' ∧ atoi a = some i ∧ (i ≠ ↑j ∨ (i = ↑j ∧ ∃ c, xs[j]? = some c ∧ apart q' p c = true)) := by
  cases q with
  | nil => simp [apart] at h
  | cons a q' =>
    simp only [apart, hb] at h
    cases ha : atoi a with
    | none => simp [ha] at h
    | some i =>
      refine ⟨a, q', i, rfl, ha, ?_⟩
      simp only [ha] at h
      by_cases hij : i = ↑j
      · subst hij
        cases hx : xs[j]? with
        | none => simp [hx] at h
        | some c => exact Or.inr ⟨rfl, c, rfl, by simpa [hx] using h⟩
      · exact Or.inl hij

theorem sget_set_other {a : Bytes} {i : Int} {j : Nat} (ha : atoi a = some i) (hij : i ≠ ↑j) (q : List Bytes)
    (xs : List Json) (c : Json) : sget (a :: q) (.arr (xs.set j c)) = sget (a :: q) (.arr xs) := by
  simp only [sget_arr_cons, ha]
  split
  · rw [List.getElem?_set_ne (by omega)]
  · rfl

/-- `node` with what `ds` names replaced by `x` (nothing happens where `ds` names nothing): the writing half of `sget` -/
def put : List Bytes → Json → Json → Json
  | [], _, x => x
  | k :: ds, .obj kvs, x =>
    match lookup k kvs with
    | some c => .obj (replaceKey k (put ds c x) kvs)
    | none => .obj kvs
  | k :: ds, .arr xs, x =>
    match atoi k with
    | some i =>
      if 0 ≤ i then
        match xs[i.toNat]? with
        | some c => .arr (xs.set i.toNat (put ds c x))
        | none => .arr xs
      else .arr xs
    | none => .arr xs
  | _ :: _, node, _ => node

theorem put_obj {k : Bytes} {kvs : Obj} {c : Json} (h : lookup k kvs = some c) (ds : List Bytes) (x : Json) :
    put (k :: ds) (.obj kvs) x = .obj (replaceKey k (put ds c x) kvs) := by
  simp only [put, h]

theorem put_arr {k : Bytes} {i : Nat} {xs : List Json} {c : Json} (ha : atoi k = some ↑i) (hx : xs[i]? = some c)
    (ds : List Bytes) (x : Json) : put (k :: ds) (.arr xs) x = .arr (xs.set i (put ds c x)) := by
  simp [put, ha, hx]

theorem sget_ind {motive : List Bytes → Json → Json → Prop} (nil : ∀ y, motive [] y y)
    (obj : ∀ k ds kvs c y, lookup k kvs = some c → motive ds c y → motive (k :: ds) (.obj kvs) y)
    (arr : ∀ k ds xs (i : Nat) c y, atoi k = some ↑i → xs[i]? = some c → motive ds c y → motive (k :: ds) (.arr xs) y) :
    ∀ {ds : List Bytes} {node y : Json}, sget ds node = some y → motive ds node y := by
  intro ds node y
  fun_induction sget ds node <;> intro h
  case case1 => cases h; exact nil _
  case case2 hl ih => exact obj _ _ _ _ _ hl (ih h)
  case case4 i ha h0 c hx ih =>
    obtain ⟨n, rfl⟩ := Int.eq_ofNat_of_zero_le h0
    exact arr _ _ _ n _ _ ha hx (ih h)
  all_goals cases h

theorem put_self {ds : List Bytes} {node y : Json} (h : sget ds node = some y) : put ds node y = node := by
  refine sget_ind (motive := fun ds node y => put ds node y = node) (fun _ => rfl) ?_ ?_ h
  · intro k ds kvs c y hl ih; rw [put_obj hl, ih, replaceKey_self hl]
  · intro k ds xs i c y ha hx ih; rw [put_arr ha hx, ih, set_self hx]

theorem sget_put {ds : List Bytes} {node y : Json} (h : sget ds node = some y) (q : List Bytes) (x : Json) :
    sget (ds ++ q) (put ds node x) = sget q x := by
  refine sget_ind (motive := fun ds node _ => sget (ds ++ q) (put ds node x) = sget q x) (fun _ => rfl) ?_ ?_ h
  · intro k ds kvs c y hl ih
    rw [put_obj hl, List.cons_append, sget_obj_cons, lookup_replaceKey_same (by simp [hl])]; exact ih
  · intro k ds xs i c y ha hx ih
    rw [put_arr ha hx, List.cons_append, sget_arr_at ha, List.getElem?_set_self (List.getElem?_eq_some_iff.1 hx).1]; exact ih

theorem sget_put_self {ds : List Bytes} {node y : Json} (h : sget ds node = some y) (x : Json) :
    sget ds (put ds node x) = some x := by
  simpa [sget] using sget_put h [] x

/-- **frame of `put`.** A path `q` that parts ways with `ds ++ t` does not see `x` put at `ds`, if `x` reads like what it
    replaces on every path that parts ways with `t` (with `t = []`: on none) -/
theorem sget_put_apart {t : List Bytes} {x : Json} {ds : List Bytes} {node y : Json} (h : sget ds node = some y)
    (hx : ∀ q', apart q' t y = true → sget q' x = sget q' y) :
    ∀ {q : List Bytes}, apart q (ds ++ t) node = true → sget q (put ds node x) = sget q node := by
  refine sget_ind (motive := fun ds node y => (∀ q', apart q' t y = true → sget q' x = sget q' y) →
    ∀ {q : List Bytes}, apart q (ds ++ t) node = true → sget q (put ds node x) = sget q node) (fun _ hx _ hq => hx _ hq) ?_ ?_ h hx
  · intro k ds kvs c y hl ih hx q hq
    obtain ⟨a, q, rfl, hne | ⟨rfl, c', hl', hc⟩⟩ := apart_obj hq
    · simp only [put_obj hl, sget_obj_cons, lookup_replaceKey_other hne]
    · cases hl.symm.trans hl'
      simp only [put_obj hl, sget_obj_cons, hl, lookup_replaceKey_same (show (lookup a kvs).isSome by simp [hl])]
      exact ih hx hc
  · intro k ds xs i c y ha hxi ih hx q hq
    obtain ⟨a, q, i', rfl, ha', hne | ⟨rfl, c', hx', hc⟩⟩ := apart_arr ha hq
    · rw [put_arr ha hxi]; exact sget_set_other ha' hne q xs _
    · cases hxi.symm.trans hx'
      simp only [put_arr ha hxi, sget_arr_at ha', hxi, List.getElem?_set_self (List.getElem?_eq_some_iff.1 hxi).1]
      exact ih hx hc

/-- the maps a PUT makes below a missing key: `{k₁: {k₂: … v}}` -/
def nest : List Bytes → Json → Json
  | [], v => v
  | k :: r, v => .obj [(k, nest r v)]

theorem trav_put_fresh (ell : Bool) (val : Json) : ∀ (rest : List Bytes), rest ≠ [] →
    trav .put ell val rest (.obj []) = (nest rest val, .ok none)
  | [], h => absurd rfl h
  | [p], _ => by rw [trav_obj_last]; rfl
  | p :: q :: r, _ => by
    rw [trav_obj_mid (fun _ h => by cases h), trav_put_fresh ell val (q :: r) (List.cons_ne_nil _ _)]; rfl

theorem sget_nest (v : Json) (r : List Bytes) : ∀ ds : List Bytes, sget ds (nest (ds ++ r) v) = some (nest r v)
  | [] => rfl
  | k :: ds => by simp [nest, sget_obj_cons, lookup, sget_nest v r ds]

/-- **What a traversal is.** `trav` on `parts` from `node` gives up with the tree as it was (where `parts` names nothing),
    runs off the end of `parts` (no part, or one part into a slice), or acts on the container `ds` names for
    `parts = ds ++ [last]`: a slice in the array-destination block (`arrayOp`), a map in the last-part arm (`lastOp`);
    or, for PUT, makes the maps missing below the first absent key. In every case the rest of the tree is put back as it was. -/
inductive Trav (m : Method) (ell : Bool) (val : Json) (parts : List Bytes) (node : Json) (r : Json × Res) : Prop
  | gaveUp (e : Err) : sget parts node = none → r = (node, .err e) → Trav m ell val parts node r
  | ranOff : (parts = [] ∨ ∃ xs p, node = .arr xs ∧ parts = [p]) → r = (node, .ok none) → Trav m ell val parts node r
  | inArray (ds : List Bytes) (last : Bytes) (arr : List Json) : parts = ds ++ [last] → sget ds node = some (.arr arr) →
      r = (put ds node (.arr (arrayOp m ell val last arr).1), (arrayOp m ell val last arr).2) → Trav m ell val parts node r
  | inObject (ds : List Bytes) (last : Bytes) (kvs : Obj) : parts = ds ++ [last] → sget ds node = some (.obj kvs) →
      r = (put ds node (lastOp m ell val last kvs (lookup last kvs)).1, (lastOp m ell val last kvs (lookup last kvs)).2) →
      Trav m ell val parts node r
  | made (ds : List Bytes) (k : Bytes) (rest : List Bytes) (kvs : Obj) : parts = ds ++ k :: rest → rest ≠ [] → m = .put →
      sget ds node = some (.obj kvs) → isNil (lookup k kvs) = true →
      r = (put ds node (.obj (setKey k (nest rest val) kvs)), .ok none) → Trav m ell val parts node r

/-- one step down: `part` selects `c` in `node`, `wrap` puts a child back there -/
theorem Trav.lift {m : Method} {ell : Bool} {val : Json} {part : Bytes} {rest : List Bytes} {node c : Json} {r : Json × Res}
    {wrap : Json → Json} (hs : ∀ q, sget (part :: q) node = sget q c) (hp : ∀ ds x, put (part :: ds) node x = wrap (put ds c x))
    (hoff : rest = [] → ∃ xs, node = .arr xs) (hns : ∀ arr idxStr, c = .arr arr → rest ≠ [idxStr])
    (h : Trav m ell val rest c r) : Trav m ell val (part :: rest) node (wrap r.1, r.2) := by
  have hself : wrap c = node := by rw [← put_self (hs []), hp]; rfl
  cases h with
  | gaveUp e h1 h2 => subst h2; exact .gaveUp e ((hs rest).trans h1) (by rw [hself])
  | ranOff h1 h2 =>
    subst h2
    rcases h1 with rfl | ⟨xs, p, rfl, rfl⟩
    · obtain ⟨xs, hx⟩ := hoff rfl
      exact .ranOff (Or.inr ⟨xs, part, hx, rfl⟩) (by rw [hself])
    · exact absurd rfl (hns xs p rfl)
  | inArray ds last arr h1 h2 h3 => subst h1 h3; exact .inArray (part :: ds) last arr rfl ((hs ds).trans h2) (by rw [hp])
  | inObject ds last kvs h1 h2 h3 => subst h1 h3; exact .inObject (part :: ds) last kvs rfl ((hs ds).trans h2) (by rw [hp])
  | made ds k rest' kvs h1 h2 h3 h4 h5 h6 =>
    subst h1 h6; exact .made (part :: ds) k rest' kvs rfl h2 h3 ((hs ds).trans h4) h5 (by rw [hp])

theorem trav_spec (m : Method) (ell : Bool) (val : Json) : ∀ (parts : List Bytes) (node : Json),
    Trav m ell val parts node (trav m ell val parts node) := by
  have nat : ∀ {i : Int} {xs : List Json}, ¬(i < 0 ∨ i ≥ xs.length) → ∃ n : Nat, i = n ∧ n < xs.length := by
    intro i xs h
    obtain ⟨n, rfl⟩ := Int.eq_ofNat_of_zero_le (Int.not_lt.1 fun h0 => h (Or.inl h0))
    exact ⟨n, rfl, Nat.lt_of_not_le fun hle => h (Or.inr (Int.ofNat_le.2 hle))⟩
  intro parts node
  -- the cases follow the arms of `trav`: 1 no part left; 2–6 a map (array destination, last part, PUT makes the map, key
  -- missing, step into the member); 7–11 a slice (index not a number, out of bounds, no such element — excluded by the
  -- bounds —, array destination, step into the element); 12 anything else
  induction parts, node using trav.induct_unfolding (m := m) (ell := ell) (val := val) with
  | case1 node => exact .ranOff (Or.inl rfl) rfl
  | case2 part kvs arr idxStr hl =>
    exact .inArray [part] idxStr arr rfl ((sget_single_obj part kvs).trans hl) (by rw [put_obj hl]; rfl)
  | case3 part kvs => exact .inObject [] part kvs rfl rfl rfl
  | case4 part kvs a b _ hc ih =>
    rw [Bool.and_eq_true, beq_iff_eq] at hc
    obtain ⟨hn, rfl⟩ := hc
    exact .made [] part (a :: b) kvs rfl (by simp) rfl rfl hn (by rw [trav_put_fresh ell val (a :: b) (by simp)]; rfl)
  | case5 part kvs a b _ hc hl => exact .gaveUp _ (by rw [sget_obj_cons, hl]) rfl
  | case6 part kvs a b c hns hc hl ih =>
    exact ih.lift (wrap := fun y => .obj (replaceKey part y kvs)) (fun q => by rw [sget_obj_cons, hl]) (put_obj hl)
      (fun h => nomatch h) fun arr idxStr harr hr => hns arr (harr ▸ hl) (List.cons.inj hr).2
  | case7 part rest xs ha => exact .gaveUp _ (by rw [sget_arr_cons, ha]) rfl
  | case8 part rest xs i ha hb =>
    refine .gaveUp _ ?_ rfl
    cases hs : sget (part :: rest) (.arr xs) with
    | none => rfl
    | some v =>
      obtain ⟨j, hj, _, hx, _⟩ := sget_arr_some hs
      have := (List.getElem?_eq_some_iff.1 hx).1
      rw [ha] at hj; cases hj; omega
  | case9 part rest xs i ha hb hx =>
    obtain ⟨n, rfl, hn⟩ := nat hb
    simp at hx; omega
  | case10 part xs i ha hb arr idxStr hx =>
    obtain ⟨n, rfl, hn⟩ := nat hb
    have hx : xs[n]? = some (.arr arr) := hx
    exact .inArray [part] idxStr arr rfl ((sget_single_arr ha xs).trans hx) (by rw [put_arr ha hx]; rfl)
  | case11 part rest xs i ha hb c hx hns ih =>
    obtain ⟨n, rfl, hn⟩ := nat hb
    have hx : xs[n]? = some c := hx
    exact ih.lift (wrap := fun y => .arr (xs.set n y)) (fun q => by rw [sget_arr_at ha, hx]) (put_arr ha hx)
      (fun _ => ⟨xs, rfl⟩) fun arr idxStr hc hr => hns arr idxStr hr hc
  | case12 part rest node h1 h2 =>
    exact .gaveUp _ (by cases node <;> first | rfl | exact absurd rfl (h1 _) | exact absurd rfl (h2 _)) rfl

theorem trav_unchanged {m : Method} {ell : Bool} {val : Json} {parts : List Bytes} {node : Json}
    (h : m = .get ∨ ∀ out, (trav m ell val parts node).2 ≠ .ok out) : (trav m ell val parts node).1 = node := by
  cases trav_spec m ell val parts node with
  | gaveUp e _ hr => rw [hr]
  | ranOff _ hr => rw [hr]
  | inArray ds last arr _ hs hr => rw [hr] at h ⊢; simp only [arrayOp_unchanged h, put_self hs]
  | inObject ds last kvs _ hs hr => rw [hr] at h ⊢; simp only [lastOp_unchanged h, put_self hs]
  | made _ _ _ _ _ _ hm _ _ hr =>
    -- a PUT that makes maps succeeds
    rw [hr, hm] at h
    rcases h with h | h
    · cases h
    · exact absurd rfl (h none)

theorem trav_no_panic (m : Method) (ell : Bool) (val : Json) (parts : List Bytes) (node : Json) :
    (trav m ell val parts node).2 ≠ .panic := by
  cases trav_spec m ell val parts node with
  | inArray ds last arr _ _ hr => rw [hr]; exact arrayOp_no_panic m ell val last arr
  | inObject ds last kvs _ _ hr => rw [hr]; exact lastOp_no_panic m ell val last kvs _
  | gaveUp _ _ hr | ranOff _ hr | made _ _ _ _ _ _ _ _ _ hr => rw [hr]; simp

theorem trav_frame {m : Method} {ell : Bool} {val : Json} {parts : List Bytes} {node : Json} {q : List Bytes}
    (hq : apart q parts.dropLast node = true) : sget q (trav m ell val parts node).1 = sget q node := by
  have here : ∀ {ds : List Bytes} {last : Bytes} {y x : Json}, parts = ds ++ [last] → sget ds node = some y →
      sget q (put ds node x) = sget q node := by
    intro ds last y x hp hs
    rw [hp, List.dropLast_concat, ← List.append_nil ds] at hq
    exact sget_put_apart hs (fun q' h => by rw [apart_nil_right] at h; cases h) hq
  cases trav_spec m ell val parts node with
  | gaveUp e _ hr => rw [hr]
  | ranOff _ hr => rw [hr]
  | inArray ds last arr hp hs hr => rw [hr]; exact here hp hs
  | inObject ds last kvs hp hs hr => rw [hr]; exact here hp hs
  | made ds k rest kvs hp hne _ hs hn hr =>
    rw [hr]
    rw [hp, show ds ++ k :: rest = (ds ++ [k]) ++ rest by simp, List.dropLast_append_of_ne_nil hne,
      List.append_assoc] at hq
    refine sget_put_apart hs (fun q' h => ?_) hq
    -- below a key that is absent or `null` nothing parts ways
    obtain ⟨a, q', rfl, hne | ⟨_, c, hl, hc⟩⟩ := apart_obj h
    · simp only [sget_obj_cons, lookup_setKey_other _ _ hne]
    · rw [hl, isNil_some] at hn; subst hn
      cases q' <;> simp [apart] at hc

/-- side condition under which the loop cannot run off the end of `parts` inside an array: an
    array node is never entered with a single part left (its parent handles that case in the
    array-destination block); at a map it holds outright (`guard_of_obj`) -/
def Guard (parts : List Bytes) (node : Json) : Prop :=
  ∀ xs, node = .arr xs → 2 ≤ parts.length

theorem guard_of_obj {parts : List Bytes} {kvs : Obj} : Guard parts (.obj kvs) := by
  intro xs h; cases h

theorem not_ranOff {parts : List Bytes} {node : Json} (hs : parts ≠ [] ∧ Guard parts node) :
    ¬(parts = [] ∨ ∃ xs p, node = .arr xs ∧ parts = [p]) := by
  rintro (rfl | ⟨xs, p, rfl, rfl⟩)
  · exact hs.1 rfl
  · have := hs.2 xs rfl; simp at this

/-- The traversal of `parts` from `node` to `node'` with output `o` acts in the array-destination
    block or in the last-part arm, on the container the path without its last part names: that
    container is there before and holds what `arrayOp` / `lastOp` leave afterwards. -/
def Focus (m : Method) (ell : Bool) (val : Json) (parts : List Bytes) (node node' : Json) (o : Option Json) : Prop :=
  ∃ last, parts.getLast? = some last ∧
    ((∃ arr, sget parts.dropLast node = some (.arr arr) ∧ (arrayOp m ell val last arr).2 = .ok o ∧
        sget parts.dropLast node' = some (.arr (arrayOp m ell val last arr).1)) ∨
     (∃ kvs, sget parts.dropLast node = some (.obj kvs) ∧
        (lastOp m ell val last kvs (lookup last kvs)).2 = .ok o ∧
        sget parts.dropLast node' = some (lastOp m ell val last kvs (lookup last kvs)).1))

/-- `hg` excludes `Trav.ranOff`, which answers `.ok none`; the second alternative is `Trav.made`, where there was
    no container before -/
theorem trav_focus {m : Method} {ell : Bool} {val : Json} {parts : List Bytes} {node : Json} {o : Option Json}
    (h : (trav m ell val parts node).2 = .ok o) (hg : o ≠ none ∨ (parts ≠ [] ∧ Guard parts node)) :
    Focus m ell val parts node (trav m ell val parts node).1 o ∨
      (m = .put ∧ sget parts (trav m ell val parts node).1 = some val) := by
  cases trav_spec m ell val parts node with
  | gaveUp e _ hr => rw [hr] at h; cases h
  | ranOff hp hr =>
    rw [hr] at h; cases h
    exact absurd hp (not_ranOff (hg.resolve_left (by simp)))
  | inArray ds last arr hp hs hr =>
    rw [hr] at h ⊢; subst hp
    refine Or.inl ⟨last, List.getLast?_concat .., ?_⟩
    rw [List.dropLast_concat]
    exact Or.inl ⟨arr, hs, h, sget_put_self hs _⟩
  | inObject ds last kvs hp hs hr =>
    rw [hr] at h ⊢; subst hp
    refine Or.inl ⟨last, List.getLast?_concat .., ?_⟩
    rw [List.dropLast_concat]
    exact Or.inr ⟨kvs, hs, h, sget_put_self hs _⟩
  | made ds k rest kvs hp _ hm hs _ hr =>
    rw [hr]; subst hp
    refine Or.inr ⟨hm, ?_⟩
    rw [sget_put hs, sget_obj_cons, lookup_setKey_same]
    simpa [nest] using sget_nest val [] rest

theorem trav_set_effect {m : Method} (hm : m = .put ∨ m = .patch) {ell : Bool} {val : Json} {parts : List Bytes}
    {node : Json} {o : Option Json} (h : (trav m ell val parts node).2 = .ok o) (hs : parts ≠ [] ∧ Guard parts node) :
    sget parts (trav m ell val parts node).1 = some val := by
  obtain ⟨last, hlast, ⟨arr, _, hop, hafter⟩ | ⟨kvs, _, hop, hafter⟩⟩ | ⟨_, hmade⟩ := trav_focus h (Or.inr hs)
  case inr => exact hmade
  all_goals rw [sget_dropLast hlast hafter]
  · have hnp : m ≠ .post := by rcases hm with rfl | rfl <;> simp
    rcases arrayOp_indexed hnp ell val last arr with ⟨e, he⟩ | ⟨i, ha, hi, hi', he⟩ <;> rw [he] at hop ⊢
    · cases hop
    · -- PUT inserts at `i ≤ length`, PATCH overwrites at `i < length`
      rcases hm with rfl | rfl
      · simp [indexedOp, sget_single_arr ha, List.getElem?_insertIdx_self, hi]
      · simp [indexedOp, sget_single_arr ha, List.getElem?_set_self (hi' (by simp))]
  · rcases hm with rfl | rfl
    all_goals
      simp only [lastOp] at hop ⊢
      split <;> simp_all [sget_single_obj, lookup_setKey_same]

/-- what DELETE leaves: an array one element shorter, or an object without the key -/
def DeleteEffect (parts : List Bytes) (node node' : Json) : Prop :=
  (∃ arr last i, sget parts.dropLast node = some (.arr arr) ∧ parts.getLast? = some last ∧ atoi last = some i ∧
      0 ≤ i ∧ i < arr.length ∧ sget parts.dropLast node' = some (.arr (arr.eraseIdx i.toNat))) ∨
  ((sget parts node).isSome ∧ sget parts node' = none)

theorem trav_delete_effect {ell : Bool} {val : Json} {parts : List Bytes} {node : Json} {o : Option Json}
    (h : (trav .delete ell val parts node).2 = .ok o) (hs : parts ≠ [] ∧ Guard parts node) :
    DeleteEffect parts node (trav .delete ell val parts node).1 := by
  obtain ⟨last, hlast, ⟨arr, hbefore, hop, hafter⟩ | ⟨kvs, hbefore, hop, hafter⟩⟩ :=
    (trav_focus h (Or.inr hs)).resolve_right (by simp)
  · rcases arrayOp_indexed (m := .delete) (by simp) ell val last arr with ⟨e, he⟩ | ⟨i, ha, _, hi, he⟩ <;> rw [he] at hop hafter
    · cases hop
    · exact Or.inl ⟨arr, last, i, hbefore, hlast, ha, Int.natCast_nonneg i, Int.ofNat_lt.2 (hi (by simp)), hafter⟩
  · refine Or.inr ?_
    rw [sget_dropLast hlast hbefore, sget_dropLast hlast hafter]
    simp only [lastOp] at hop ⊢
    split <;> simp_all [sget_single_obj, lookup_eraseKey_same]

/-- what POST leaves: the addressed array (named by the whole path, or by the path without
    its last part — POST ignores an index after an array) with the body appended, or the
    body itself where there was no array -/
def PostEffect (ell : Bool) (val : Json) (parts : List Bytes) (node node' : Json) : Prop :=
  (∃ arr app, appended ell val = some app ∧ sget parts.dropLast node = some (.arr arr) ∧
      sget parts.dropLast node' = some (.arr (arr ++ app))) ∨
  (∃ arr app, appended ell val = some app ∧ sget parts node = some (.arr arr) ∧
      sget parts node' = some (.arr (arr ++ app))) ∨
  ((∀ arr, sget parts node ≠ some (.arr arr)) ∧ sget parts node' = some val)

theorem trav_post_effect {ell : Bool} {val : Json} {parts : List Bytes} {node : Json} {o : Option Json}
    (h : (trav .post ell val parts node).2 = .ok o) (hs : parts ≠ [] ∧ Guard parts node) :
    PostEffect ell val parts node (trav .post ell val parts node).1 := by
  obtain ⟨last, hlast, ⟨arr, hbefore, hop, hafter⟩ | ⟨kvs, hbefore, hop, hafter⟩⟩ :=
    (trav_focus h (Or.inr hs)).resolve_right (by simp)
  · rw [arrayOp_post] at hop hafter
    cases happ : appended ell val with
    | none => simp [happ] at hop
    | some app => rw [happ] at hafter; exact Or.inl ⟨arr, app, happ, hbefore, hafter⟩
  · refine Or.inr ?_
    rw [sget_dropLast hlast hbefore, sget_dropLast hlast hafter, sget_single_obj]
    rw [lastOp_post] at hop ⊢
    split
    · next arr hl =>
      cases happ : appended ell val with
      | none => simp [hl, happ] at hop
      | some app => exact Or.inl ⟨arr, app, rfl, hl, by rw [sget_single_obj, lookup_setKey_same]⟩
    · next hna => exact Or.inr ⟨fun arr harr => hna arr harr, by rw [sget_single_obj, lookup_setKey_same]⟩

theorem trav_get_sound {ell : Bool} {val : Json} {parts : List Bytes} {node : Json} {v : Json}
    (h : (trav .get ell val parts node).2 = .ok (some v)) :
    sget parts node = some v ∨ (v = .null ∧ sget parts node = none) := by
  obtain ⟨last, hlast, ⟨arr, hbefore, hop, _⟩ | ⟨kvs, hbefore, hop, _⟩⟩ :=
    (trav_focus h (Or.inl (by simp))).resolve_right (by simp)
  · rw [sget_dropLast hlast hbefore]
    rcases arrayOp_indexed (m := .get) (by simp) ell val last arr with ⟨e, he⟩ | ⟨i, ha, _, _, he⟩ <;> rw [he] at hop
    · cases hop
    · exact Or.inl ((sget_single_arr ha arr).trans (by simpa [indexedOp] using hop))
  · rw [sget_dropLast hlast hbefore, sget_single_obj]
    simp only [lastOp, Res.ok.injEq, Option.some.injEq] at hop
    subst hop
    cases lookup last kvs <;> simp [encodeOf]

theorem arrayOp_get {ell : Bool} {val : Json} {idxStr : Bytes} {arr : List Json} {v : Json}
    (h : sget [idxStr] (.arr arr) = some v) : arrayOp .get ell val idxStr arr = (arr, .ok (some v)) := by
  obtain ⟨i, ha, c, hx, hv⟩ := sget_arr_some h
  cases hv
  have hlt := (List.getElem?_eq_some_iff.1 hx).1
  simp only [arrayOp_at (m := .get) (by simp) ell val ha (Nat.le_of_lt hlt) (fun _ => hlt), indexedOp, hx]

theorem trav_get_complete {ell : Bool} {val : Json} {parts : List Bytes} {node : Json} {v : Json}
    (hg : parts ≠ [] ∧ Guard parts node) (hv : sget parts node = some v) :
    (trav .get ell val parts node).2 = .ok (some v) := by
  cases trav_spec .get ell val parts node with
  | gaveUp e hs _ => rw [hs] at hv; cases hv
  | ranOff hp _ => exact absurd hp (not_ranOff hg)
  | inArray ds last arr hp hs hr =>
    rw [hr]; subst hp
    rw [sget_append, hs] at hv
    simp only [arrayOp_get hv]
  | inObject ds last kvs hp hs hr =>
    rw [hr]; subst hp
    rw [sget_append, hs] at hv
    simp only [Option.bind_some, sget_single_obj] at hv
    simp [lastOp, hv, encodeOf]
  | made _ _ _ _ _ _ hm => cases hm

end CaddyModel.C12
