/-
C12 — concurrent read–modify–write clients as a labelled transition system.

Every request to /config/… is one atomic step (the handler holds `rawCfgMu` for all of
`readConfig` / `changeConfig`; an /id/ request is two, `Regions.lean`, and `CasHyp.route`
keeps such paths out), so a concurrent execution is an interleaving of whole
requests: a *schedule* is the list of client numbers in the order their next request is
served.  A client alternates `GET p` (remember value and ETag) and
`PATCH p  f(value)  If-Match: <that ETag>`; whatever the answer, it goes back to reading.
-/
import CaddyModel.C12.Model

namespace CaddyModel.C12

/-- the ETag header value `"<path> <hash>"` -/
def mkEtag (p h : Bytes) : Bytes := quote :: (p ++ 32 :: h) ++ [quote]

/-- what a client remembers from its last GET: ETag path and the value it read -/
abbrev Held := Option (Bytes × Option Json)

structure Sys where
  s : State
  held : Nat → Held
  /-- acknowledged (200) conditional writes, oldest first: client and value written -/
  log : List (Nat × Json)

def upd (h : Nat → Held) (c : Nat) (v : Held) : Nat → Held := fun c' => if c' = c then v else h c'

def readReq (p : Bytes) : Req := ⟨.get, p, .empty, [], false, .json⟩

def casReq (env : Env) (p ep : Bytes) (out : Option Json) (v : Json) : Req :=
  ⟨.patch, p, .val v, mkEtag ep (env.hash out), false, .json⟩

/-- client `c` gets its next request served -/
def stepClient (env : Env) (p : Bytes) (f : Nat → Option Json → Json) (y : Sys) (c : Nat) : Sys :=
  match y.held c with
  | none =>
    match (serve env (readReq p) y.s).2 with
    | .okGet out ep => { y with held := upd y.held c (some (ep, out)) }
    | _ => y
  | some (ep, out) =>
    match serve env (casReq env p ep out (f c out)) y.s with
    | (s', .okWrite) => { s := s', held := upd y.held c none, log := y.log ++ [(c, f c out)] }
    | (s', _) => { y with s := s', held := upd y.held c none }

def runSched (env : Env) (p : Bytes) (f : Nat → Option Json → Json) (sched : List Nat) (y : Sys) : Sys :=
  sched.foldl (stepClient env p f) y

/-- each acknowledged write was computed from the value the previous acknowledged write left
    (the first one from `v0`); returns the value the chain ends with -/
def chain (f : Nat → Option Json → Json) : Json → List (Nat × Json) → Option Json
  | v, [] => some v
  | v, (c, w) :: r => if w = f c (some v) then chain f w r else none

end CaddyModel.C12
