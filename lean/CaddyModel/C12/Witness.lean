/-
C12 — proved counter-examples, each a concrete, kernel-evaluated history.
`id_resolves_full_fails`: the one clause the code as it is does NOT satisfy at full strength;
the same situation inside `apps.c12` is exported as a protocol line (`witnessLines`, Driver.lean) and
replayed on the real handler on every run. The `…_old_code_fails` theorems: what the code did before /repo's fixes
(`restoreOld`, `travOld` are the replaced functions), for clauses that hold at full strength.
-/
import CaddyModel.C12.Spec

namespace CaddyModel.C12

/-- a world in which the apps accept only the empty configuration -/
def wEnv : Env := ⟨fun _ => [], fun j => j == .null, fun _ => none⟩

def cfgSlash : Bytes := cfgPrefix     -- "/config/"

def wReq (m : HMethod) (p : Bytes) (b : Body) : Req := ⟨m, p, b, [], false, .json⟩

/-- state after `DELETE /config/` on a fresh process: the Go map `rawCfg` has no "config" key -/
def wDeleted : State := (serve wEnv (wReq .delete cfgSlash .empty) initState).1

/-- `restoreOldCfg` as it was before /repo's fix: it always stored the old configuration under
    the `config` key, also when `DELETE /config/` had removed that key -/
def restoreOld (s : State) (root : Json) : State :=
  { s with rawCfg := setCfg (encodeOf s.rawCfgJSON) root }

/-- **the old code let a rejected request change something** (non-vacuity of
    `rejected_changes_nothing`): after `DELETE /config/` the Go map has no `config` key; the
    old restore re-created it with a nil value — `GET /config/` read `null` either way, but a
    following `PUT /config/` was answered 409 instead of 200. The restore of the current code
    removes the key again. -/
theorem rejected_changes_nothing_old_code_fails :
    wDeleted.rawCfg = .obj [] ∧
    restoreOld wDeleted (.obj [(cfgKey, .bool true)]) ≠ wDeleted ∧
    restore wDeleted (.obj [(cfgKey, .bool true)]) = wDeleted ∧
    (serve wEnv (wReq .put cfgSlash (.val (.bool true))) wDeleted) = (wDeleted, .fail .load) := by
  decide +kernel

/-- `{"config":{"a":[[1,2]]}}` -/
def wNested : Json := .obj [(cfgKey, .obj [([97], .arr [.arr [.num [49], .num [50]]])])]
def wNestedPath : Bytes := [47, 99, 111, 110, 102, 105, 103, 47, 97, 47, 48, 47, 49]   -- "/config/a/0/1"

/-- `traverseLoop` as it was before /repo's fix: the array-destination block could only be
    entered from a map (`v[part].([]any)`); the `[]any` arm just stepped into the element -/
def travOld (m : Method) (ell : Bool) (val : Json) : List Bytes → Json → Json × Res
  | [], node => (node, .ok none)
  | part :: rest, .obj kvs =>
    match lookup part kvs, rest with
    | some (.arr arr), [idxStr] => inArrayDest part kvs (arrayOp m ell val idxStr arr)
    | child, [] => lastOp m ell val part kvs child
    | child, _ :: _ =>
      if isNil child && m == .put then inNewObj part kvs (travOld m ell val rest (.obj []))
      else
        match child with
        | none => (.obj kvs, .err .traversal)
        | some c => inObj part kvs (travOld m ell val rest c)
  | part :: rest, .arr xs =>
    match atoi part with
    | none => (.arr xs, .err .badIndex)
    | some i =>
      if i < 0 ∨ i ≥ xs.length then (.arr xs, .err .oob)
      else
        match xs[i.toNat]? with
        | none => (.arr xs, .panic)
        | some c => inArr i.toNat xs (travOld m ell val rest c)
  | _ :: _, node => (node, .err .traversal)

def wNestedParts : List Bytes := (pathParts wNestedPath).1     -- ["config", "a", "0", "1"]

/-- **the old code did not return every value** (non-vacuity of `get_returns_every_value`):
    the element `2` of the inner array of `{"a":[[1,2]]}` is named by `/config/a/0/1`, but the
    old `[]any` arm only stepped into elements, ran off the end of the path and returned `nil`
    having written nothing (HTTP: 200 with an empty body and the ETag of the empty string).
    The current code returns `2`. -/
theorem get_is_lookup_old_code_fails :
    sget wNestedParts wNested = some (.num [50]) ∧
    (travOld .get false .null wNestedParts wNested).2 = .ok none ∧
    (access .get wNestedPath .empty wNested).2 = .ok (some (.num [50])) := by
  decide +kernel

/-- **the old code acknowledged writes it did not perform** (non-vacuity of the
    `write_effect_*` theorems on such paths): PATCH on the same element returned `nil` —
    answered 200 — with the tree unchanged.  The current code replaces the element. -/
theorem write_effect_old_code_fails :
    travOld .patch false (.num [55]) wNestedParts wNested = (wNested, .ok none) ∧
    (access .patch wNestedPath (.val (.num [55])) wNested).2 = .ok none ∧
    sget wNestedParts (access .patch wNestedPath (.val (.num [55])) wNested).1 = some (.num [55]) := by
  decide +kernel

def wAll : Env := ⟨fun _ => [], fun _ => true, fun _ => none⟩
def wGet (p : Bytes) : Req := ⟨.get, p, .empty, [], false, .json⟩
def wLoad (doc : Json) : State := (serve wAll (wReq .post cfgSlash (.val doc)) initState).1

/-- `{"a":{"b":7},"a/b":{"@id":"s","v":1}}` -/
def wSlashDoc : Json :=
  .obj [([97], .obj [([98], .num [55])]), ([97, 47, 98], .obj [(idKey, .str [115]), ([118], .num [49])])]
def wIdS : Bytes := [47, 105, 100, 47, 115]       -- "/id/s"

/-- **an @id can resolve to a different object.**  The object tagged `"@id":"s"` sits under
    the key `a/b`; `indexConfigObjects` files it under `path.Join("/config", "a/b")` =
    `/config/a/b`, which names the member `b` of the object `a`: `GET /id/s` answers 200
    with `7`. (Same for keys "", "." and a trailing "...".) -/
theorem id_resolves_full_fails :
    (wLoad wSlashDoc).rawCfgJSON = some wSlashDoc ∧
    ([[97, 47, 98]], [115]) ∈ taggedJ wSlashDoc ∧
    (serve wAll (wGet wIdS) (wLoad wSlashDoc)).2 = .okGet (some (.num [55])) [47, 99, 111, 110, 102, 105, 103, 47, 97, 47, 98] := by
  decide +kernel

/-- `{"@id":"r","v":1}` -/
def wRootDoc : Json := .obj [(idKey, .str [114]), ([118], .num [49])]
def wIdR : Bytes := [47, 105, 100, 47, 114]       -- "/id/r"

/-- **the old code did not serve an @id on the top-level object** (non-vacuity of the root
    case of `id_resolves_partial`): it is indexed as `/config`; `handleConfigID` used to hand
    exactly that path to the mux, which answers 301 (to `/config/`).  The current code
    appends the slash and `GET /id/r` returns the whole configuration. -/
theorem id_on_root_old_code_fails :
    (wLoad wRootDoc).index = [([114], slash :: cfgKey)] ∧ route (slash :: cfgKey) = .redirect ∧
    (serve wAll (wGet wIdR) (wLoad wRootDoc)).2 = .okGet (some wRootDoc) cfgPrefix := by
  decide +kernel

end CaddyModel.C12
