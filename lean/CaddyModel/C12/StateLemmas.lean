/-
C12 — the process-global state: the shape of `rawCfg`, the invariant that ties `rawCfg`,
`rawCfgJSON`, `rawCfgIndex` and the running configuration together, the exits of
`changeConfig`, what each handler is on each kind of request and `serve` on each route, and the
fact that every handler reaches the state only through `changeConfig`.
-/
import CaddyModel.C12.EffectLemmas
import CaddyModel.C12.PathLemmas
import CaddyModel.C12.Regions

namespace CaddyModel.C12

/-- `rawCfg` is the map `{"config": d}` or — after `DELETE /config/` — the empty map -/
def RootShape (r : Json) : Prop := r = .obj [] ∨ ∃ d, r = .obj [(cfgKey, d)]

theorem arrayOp_fst_eq (m : Method) (ell : Bool) (val : Json) (idxStr : Bytes) (arr : List Json) :
    ∃ arr', (arrayOp m ell val idxStr arr).1 = arr' := ⟨_, rfl⟩

theorem setKey_root {kvs : Obj} (h : RootShape (.obj kvs)) (v : Json) : setKey cfgKey v kvs = [(cfgKey, v)] := by
  rcases h with h | ⟨d, h⟩ <;> cases h <;> simp [setKey, lookup, insertSorted, replaceKey]

theorem eraseKey_root {kvs : Obj} (h : RootShape (.obj kvs)) : eraseKey cfgKey kvs = [] := by
  rcases h with h | ⟨d, h⟩ <;> cases h <;> simp [eraseKey]

theorem RootShape.isObj {root : Json} (h : RootShape root) : ∃ kvs, root = .obj kvs := by
  rcases h with h | ⟨d, h⟩ <;> exact ⟨_, h⟩

theorem trav_root (m : Method) (ell : Bool) (val : Json) (rest : List Bytes) {root : Json} (h : RootShape root) :
    RootShape (trav m ell val (cfgKey :: rest) root).1 := by
  obtain ⟨kvs, rfl⟩ := h.isObj
  obtain ⟨kvs', heq, rfl | ⟨v, rfl⟩ | ⟨_, rfl⟩⟩ := trav_obj_fst m ell val cfgKey rest kvs <;> rw [heq]
  · exact h
  · exact Or.inr ⟨v, by rw [setKey_root h]⟩
  · exact Or.inl (by rw [eraseKey_root h])

theorem setCfg_root {root : Json} (h : RootShape root) (v : Json) : setCfg v root = .obj [(cfgKey, v)] := by
  obtain ⟨kvs, rfl⟩ := h.isObj
  exact congrArg Json.obj (setKey_root h v)

theorem eraseCfg_root {root : Json} (h : RootShape root) : eraseCfg root = .obj [] := by
  obtain ⟨kvs, rfl⟩ := h.isObj
  exact congrArg Json.obj (eraseKey_root h)

theorem cfgOf_root_eq {root : Json} (h : RootShape root) (hk : hasCfgKey root = true) :
    root = .obj [(cfgKey, cfgOf root)] := by
  rcases h with h | ⟨d, h⟩ <;> subst h
  · simp [hasCfgKey, lookup] at hk
  · simp [cfgOf, lookup, encodeOf]

theorem root_nokey {root : Json} (h : RootShape root) (hk : hasCfgKey root = false) : root = .obj [] := by
  rcases h with h | ⟨d, h⟩ <;> subst h
  · rfl
  · simp [hasCfgKey, lookup] at hk

/-- what ties the four globals together between two requests -/
structure Inv (s : State) : Prop where
  shape : RootShape s.rawCfg
  /-- the in-memory document is the last configuration that was loaded -/
  doc : cfgOf s.rawCfg = encodeOf s.rawCfgJSON
  idx : match s.rawCfgJSON with
    | none => s.index = []
    | some j => indexJ j (slash :: cfgKey) = some s.index
  run : s.running = s.rawCfgJSON.map stripIds
  /-- the textual `@id` removal left the loaded JSON whole -/
  clean : ∀ j, s.rawCfgJSON = some j → stripBreaks j = false

theorem Inv.idx_some {s : State} (hi : Inv s) {j : Json} (hj : s.rawCfgJSON = some j) :
    indexJ j (slash :: cfgKey) = some s.index := by
  have := hi.idx
  rw [hj] at this
  exact this

theorem inv_init : Inv initState := by
  refine ⟨Or.inr ⟨.null, rfl⟩, ?_, ?_, ?_, ?_⟩ <;> simp [initState, cfgOf, lookup, encodeOf]

theorem access_cases (m : Method) (path : Bytes) (body : Body) :
    (∃ e, ∀ root, access m path body root = (root, .err e)) ∨
    ∀ root, access m path body root = trav m (pathParts path).2 (bodyVal body) (pathParts path).1 root := by
  unfold access
  split
  · exact Or.inl ⟨_, fun _ => rfl⟩
  · split
    · exact Or.inl ⟨_, fun _ => rfl⟩
    · exact Or.inr fun _ => rfl

/-- the parts `unsyncedConfigAccess` walks for a request path -/
abbrev partsOf (path : Bytes) : List Bytes := (pathParts path).1

theorem access_trav {m : Method} {path : Bytes} {body : Body} (hb : body ≠ .bad) (hp : trimSlash path ≠ []) (root : Json) :
    access m path body root = trav m (pathParts path).2 (bodyVal body) (partsOf path) root := by
  simp [access, hb, hp]

theorem access_ok_trav {m : Method} {path : Bytes} {body : Body} {root : Json} {o : Option Json}
    (h : (access m path body root).2 = .ok o) :
    access m path body root = trav m (pathParts path).2 (bodyVal body) (partsOf path) root := by
  rcases access_cases m path body with ⟨e, he⟩ | he
  · rw [he] at h; cases h
  · exact he root

theorem access_root {m : Method} {path : Bytes} {body : Body} {root : Json}
    (hp : underConfig path) (h : RootShape root) : RootShape (access m path body root).1 := by
  obtain ⟨rest, hp⟩ := hp
  rcases access_cases m path body with ⟨e, he⟩ | he <;> rw [he]
  · exact h
  · rw [hp]; exact trav_root _ _ _ _ h

theorem access_unchanged {m : Method} {path : Bytes} {body : Body} {root : Json}
    (h : m = .get ∨ ∀ out, (access m path body root).2 ≠ .ok out) : (access m path body root).1 = root := by
  rcases access_cases m path body with ⟨e, he⟩ | he <;> rw [he] at h ⊢
  exact trav_unchanged h

theorem access_no_panic (m : Method) (path : Bytes) (body : Body) (root : Json) : (access m path body root).2 ≠ .panic := by
  rcases access_cases m path body with ⟨e, he⟩ | he <;> rw [he]
  · simp
  · exact trav_no_panic _ _ _ _ _

theorem restore_eq {s : State} {root : Json} (hi : Inv s) (hr : RootShape root) : restore s root = s := by
  unfold restore
  cases hk : hasCfgKey s.rawCfg with
  | true =>
    have h1 := cfgOf_root_eq hi.shape hk
    simp only [if_true]
    rw [setCfg_root hr, ← hi.doc, ← h1]
  | false =>
    simp only [Bool.false_eq_true, if_false]
    rw [eraseCfg_root hr, ← root_nokey hi.shape hk]

theorem commit_cases (env : Env) (force : Bool) (s : State) (root : Json) :
    (force = false ∧ s.rawCfgJSON = some (cfgOf root) ∧ commit env force s root = ({ s with rawCfg := root }, .same)) ∨
    (∃ r, (r = .index ∨ r = .load) ∧ commit env force s root = (restore s root, r)) ∨
    (∃ idx, indexJ (cfgOf root) (slash :: cfgKey) = some idx ∧ stripBreaks (cfgOf root) = false ∧
      env.accepts (stripIds (cfgOf root)) = true ∧
      commit env force s root =
        ({ rawCfg := root, rawCfgJSON := some (cfgOf root), index := idx,
           running := some (stripIds (cfgOf root)), loads := s.loads + 1 }, .ok)) := by
  fun_cases commit env force s root
  · next hc => simp at hc; exact Or.inl ⟨hc.1, hc.2, rfl⟩
  · exact Or.inr (Or.inl ⟨_, Or.inl rfl, rfl⟩)
  · exact Or.inr (Or.inl ⟨_, Or.inr rfl, rfl⟩)
  · next idx hidx hacc => simp at hacc; exact Or.inr (Or.inr ⟨idx, hidx, hacc.1, hacc.2, rfl⟩)

theorem mutate_cases (env : Env) (m : Method) (path : Bytes) (body : Body) (force : Bool) (s : State) :
    (∃ r, ¬(r = .ok ∨ r = .same) ∧ mutate env m path body force s = (s, r)) ∨
    (∃ o, (access m path body s.rawCfg).2 = .ok o ∧
      mutate env m path body force s = commit env force s (access m path body s.rawCfg).1) := by
  have hu := access_unchanged (m := m) (path := path) (body := body) (root := s.rawCfg)
  have hp := access_no_panic m path body s.rawCfg
  unfold mutate
  generalize access m path body s.rawCfg = ar at hu hp
  obtain ⟨root, res⟩ := ar
  cases res with
  | ok o => exact Or.inr ⟨o, rfl, rfl⟩
  | err e => cases hu (Or.inr (by simp)); exact Or.inl ⟨_, by simp, rfl⟩
  | panic => exact absurd rfl hp

theorem change_noIfMatch (env : Env) (m : Method) (path : Bytes) (body : Body) (force : Bool) (s : State) :
    change env m path body [] force s = mutate env m path body force s := by
  rw [change, if_pos rfl]

theorem change_cases (env : Env) (m : Method) (path : Bytes) (body : Body) (ifm : Bytes) (force : Bool) (s : State) :
    (∃ r, ¬(r = .ok ∨ r = .same) ∧ change env m path body ifm force s = (s, r)) ∨
    change env m path body ifm force s = mutate env m path body force s := by
  fun_cases change env m path body ifm force s
  all_goals first | exact Or.inr rfl | exact Or.inl ⟨_, by simp, rfl⟩

theorem mutate_accepted {env : Env} {m : Method} {path : Bytes} {body : Body} {force : Bool} {s : State}
    (h : (mutate env m path body force s).2 = .ok ∨ (mutate env m path body force s).2 = .same) :
    (mutate env m path body force s).1.rawCfg = (access m path body s.rawCfg).1 ∧
    ∃ o, (access m path body s.rawCfg).2 = .ok o := by
  rcases mutate_cases env m path body force s with ⟨r, h1, hm⟩ | ⟨o, ho, hm⟩ <;> rw [hm] at h ⊢
  · exact absurd h h1
  · refine ⟨?_, o, ho⟩
    rcases commit_cases env force s (access m path body s.rawCfg).1 with ⟨_, _, hc⟩ | ⟨r, hr, hc⟩ | ⟨idx, _, _, _, hc⟩
      <;> rw [hc] at h ⊢
    rcases hr with rfl | rfl <;> simp at h

theorem commit_sound {env : Env} {force : Bool} {s : State} {root : Json} (hi : Inv s) (hr : RootShape root) :
    Inv (commit env force s root).1 ∧
    (¬((commit env force s root).2 = .ok ∨ (commit env force s root).2 = .same) → (commit env force s root).1 = s) := by
  rcases commit_cases env force s root with ⟨_, hsame, h⟩ | ⟨r, _, h⟩ | ⟨idx, hidx, hclean, _, h⟩ <;> rw [h]
  · exact ⟨⟨hr, by simp [hsame, encodeOf], hi.idx, hi.run, hi.clean⟩, fun h' => absurd (Or.inr rfl) h'⟩
  · rw [restore_eq hi hr]; exact ⟨hi, fun _ => rfl⟩
  · exact ⟨⟨hr, rfl, hidx, rfl, by intro j hj; cases hj; exact hclean⟩, fun h => absurd (Or.inl rfl) h⟩

theorem mutate_sound {env : Env} {m : Method} {path : Bytes} {body : Body} {force : Bool} {s : State}
    (hi : Inv s) (hp : underConfig path) :
    Inv (mutate env m path body force s).1 ∧
    (¬((mutate env m path body force s).2 = .ok ∨ (mutate env m path body force s).2 = .same) →
      (mutate env m path body force s).1 = s) := by
  rcases mutate_cases env m path body force s with ⟨r, _, h⟩ | ⟨o, _, h⟩ <;> rw [h]
  · exact ⟨hi, fun _ => rfl⟩
  · exact commit_sound hi (access_root hp hi.shape)

theorem change_sound {env : Env} {m : Method} {path : Bytes} {body : Body} {ifm : Bytes} {force : Bool} {s : State}
    (hi : Inv s) (hp : underConfig path) :
    Inv (change env m path body ifm force s).1 ∧
    (¬((change env m path body ifm force s).2 = .ok ∨ (change env m path body ifm force s).2 = .same) →
      (change env m path body ifm force s).1 = s) := by
  rcases change_cases env m path body ifm force s with ⟨r, _, h⟩ | h <;> rw [h]
  · exact ⟨hi, fun _ => rfl⟩
  · exact mutate_sound hi hp

/-- not answered 200: failures, and also the mux's 301 and an ambiguous `@id` -/
def Resp.rejected : Resp → Bool
  | .okGet _ _ => false
  | .okWrite => false
  | .okAdapt _ => false
  | _ => true

/-- `res` is what a handler makes of request `r` in state `s`: it leaves the state alone, or — only for
    POST, PUT, PATCH, DELETE — hands it to `changeConfig` for a path under `config` with a body taken from
    the request, and then answers 200 only if `changeConfig` loaded the new document or found it unchanged -/
def ViaChange (env : Env) (r : Req) (s : State) (res : State × Resp) : Prop :=
  res.1 = s ∨ ∃ m path body ifm, (toMethod r.method).isSome ∧ underConfig path ∧
    (body = .empty ∨ body = r.body ∨ ∃ j, env.adapt r.body = some j ∧ body = .val j) ∧
    res.1 = (change env m path body ifm r.force s).1 ∧
    (res.2.rejected = true →
      ¬((change env m path body ifm r.force s).2 = .ok ∨ (change env m path body ifm r.force s).2 = .same))

theorem ViaChange.inv {env : Env} {r : Req} {s : State} {res : State × Resp} (h : ViaChange env r s res) (hi : Inv s) :
    Inv res.1 := by
  rcases h with h | ⟨m, path, body, ifm, _, hp, _, h, _⟩ <;> rw [h]
  · exact hi
  · exact (change_sound hi hp).1

theorem ViaChange.rejected {env : Env} {r : Req} {s : State} {res : State × Resp} (h : ViaChange env r s res) (hi : Inv s)
    (hrej : res.2.rejected = true) : res.1 = s := by
  rcases h with h | ⟨m, path, body, ifm, _, hp, _, h, hc⟩
  · exact h
  · rw [h]; exact (change_sound hi hp).2 (hc hrej)

theorem changeResp_rejected {c : ChangeRes} (h : (changeResp c).rejected = true) : ¬(c = .ok ∨ c = .same) := by
  cases c <;> simp_all [changeResp, Resp.rejected]

theorem loadResp_rejected {c : ChangeRes} : (loadResp c).rejected = true ↔ ¬(c = .ok ∨ c = .same) := by
  cases c <;> simp [loadResp, changeResp, Resp.rejected]

theorem changeResp_ok_iff (c : ChangeRes) : changeResp c = .okWrite ↔ (c = .ok ∨ c = .same) := by
  cases c <;> simp [changeResp]

theorem loadResp_ok_iff (c : ChangeRes) : loadResp c = .okWrite ↔ (c = .ok ∨ c = .same) := by
  cases c <;> simp [loadResp, changeResp]

theorem handleConfig_read {env : Env} {r : Req} (hm : toMethod r.method = none) (p : Bytes) (s : State) :
    (handleConfig env r p s).1 = s ∧ (handleConfig env r p s).2 ≠ .okWrite := by
  fun_cases handleConfig env r p s <;> simp_all

theorem handleConfig_write {env : Env} {r : Req} {m : Method} (hm : toMethod r.method = some m) (p : Bytes) (s : State) :
    handleConfig env r p s =
      if m ≠ .delete ∧ !r.ctJSON then (s, .fail .ctype)
      else ((change env m p (if m = .delete then .empty else r.body) r.ifMatch r.force s).1,
            changeResp (change env m p (if m = .delete then .empty else r.body) r.ifMatch r.force s).2) := by
  unfold handleConfig
  cases hr : r.method <;> rw [hr] at hm <;> cases hm <;> rfl

theorem handleConfig_get {env : Env} {r : Req} (h : r.method = .get) (p : Bytes) (s : State) :
    handleConfig env r p s =
      match (access .get p .empty s.rawCfg).2 with
      | .ok out => (s, .okGet out p)
      | .err e => (s, .fail (.access e))
      | .panic => (s, .fail .panic) := by
  unfold handleConfig; simp only [h]
  generalize access .get p .empty s.rawCfg = ar
  obtain ⟨a, r⟩ := ar
  cases r <;> rfl

theorem handleConfig_viaChange (env : Env) (r : Req) {p : Bytes} (s : State) (hp : underConfig p) :
    ViaChange env r s (handleConfig env r p s) := by
  cases hm : toMethod r.method with
  | none => exact Or.inl (handleConfig_read hm p s).1
  | some m =>
    rw [handleConfig_write hm]
    split
    · exact Or.inl rfl
    · refine Or.inr ⟨m, p, _, r.ifMatch, by rw [hm]; rfl, hp, ?_, rfl, changeResp_rejected⟩
      split
      · exact Or.inl rfl
      · exact Or.inr (Or.inl rfl)

theorem adapt_body {env : Env} {ct : CT} {b b' : Body} (h : adaptByContentType env ct b = .body b') :
    b' = b ∨ ∃ j, env.adapt b = some j ∧ b' = .val j := by
  revert h
  fun_cases adaptByContentType env ct b <;> intro h <;> cases h
  all_goals first | exact Or.inl rfl | exact Or.inr ⟨_, ‹_›, rfl⟩

theorem handleLoad_viaChange (env : Env) (r : Req) (s : State) : ViaChange env r s (handleLoad env r s) := by
  fun_cases handleLoad env r s
  · exact Or.inl rfl
  · exact Or.inl rfl
  · next hm b hb =>
    have hm : r.method = .post := Decidable.not_not.1 hm
    exact Or.inr ⟨.post, _, b, [], by rw [hm]; rfl, underConfig_cfg, Or.inr (adapt_body hb), rfl, loadResp_rejected.1⟩

theorem handleAdapt_pure (env : Env) (r : Req) (s : State) : (handleAdapt env r s).1 = s := by
  fun_cases handleAdapt env r s <;> rfl

theorem serve_config {env : Env} {r : Req} {s : State} (h : route r.path = .config) :
    serve env r s = handleConfig env r r.path s := by
  unfold serve; simp [h]

/-- `handleConfig` works on the path it is handed (`r.URL.Path` as rewritten for /id/), not on the request's own -/
theorem handleConfig_path_irrelevant (env : Env) (r : Req) (x p : Bytes) (s : State) :
    handleConfig env { r with path := x } p s = handleConfig env r p s := by
  unfold handleConfig; rfl

theorem serve_config_path {env : Env} {r : Req} {p : Bytes} {s : State} (h : route p = .config) :
    serve env { r with path := p } s = handleConfig env r p s :=
  (serve_config (r := { r with path := p }) h).trans (handleConfig_path_irrelevant env r p p s)

theorem serve_load {env : Env} {r : Req} {s : State} (hp : r.path = loadPath) : serve env r s = handleLoad env r s := by
  unfold serve
  rw [hp, show route loadPath = .load by decide]

/-- `POST /config <doc>` on `rawCfg`: the document is replaced — unless the current one is an
    array, to which POST appends -/
theorem access_post_cfg {root j : Json} (hr : RootShape root) (hna : ∀ xs, cfgOf root ≠ .arr xs) :
    access .post (slash :: cfgKey) (.val j) root = (.obj [(cfgKey, j)], .ok none) := by
  have hparts : pathParts (slash :: cfgKey) = ([cfgKey], false) := by decide
  rw [access_trav (by simp) (by decide), partsOf, hparts]
  obtain ⟨kvs, rfl⟩ := hr.isObj
  rw [trav_obj_last, lastOp_post]
  split
  · next arr hl => exact absurd (by rw [cfgOf, hl]; rfl) (hna arr)
  · rw [setKey_root hr]; rfl

/-- an accepted `changeConfig(POST, "/config", j, "", force)` — what /load, `caddy reload` and a
    config loader run — leaves exactly `j` as the document -/
theorem post_cfg_accepted {env : Env} {s : State} {j : Json} {force : Bool} (hi : Inv s)
    (hna : ∀ xs, cfgOf s.rawCfg ≠ .arr xs)
    (hacc : (change env .post (slash :: cfgKey) (.val j) [] force s).2 = .ok ∨
      (change env .post (slash :: cfgKey) (.val j) [] force s).2 = .same) :
    cfgOf (change env .post (slash :: cfgKey) (.val j) [] force s).1.rawCfg = j := by
  rw [change_noIfMatch] at hacc ⊢
  rw [(mutate_accepted hacc).1, access_post_cfg hi.shape hna]
  simp [cfgOf, lookup, encodeOf]

theorem handleLoad_post {env : Env} {r : Req} {b : Body} {s : State} (hm : r.method = .post)
    (hb : adaptByContentType env r.ct r.body = .body b) :
    handleLoad env r s = ((change env .post (slash :: cfgKey) b [] r.force s).1,
                          loadResp (change env .post (slash :: cfgKey) b [] r.force s).2) := by
  simp [handleLoad, hm, hb]

theorem serve_adapt {env : Env} {r : Req} {s : State} (hp : r.path = adaptPath) : serve env r s = handleAdapt env r s := by
  unfold serve
  rw [hp, show route adaptPath = .adapt by decide]

theorem finishId_config {env : Env} {r : Req} {p : Bytes} {s : State} (h : route p = .config) :
    finishId env r (.to p) s = ((handleConfig env r p s).1, (handleConfig env r p s).2, some { r with path := p }) := by
  simp only [finishId, h]

/-- an /id/ request is its two lock regions (`Regions.lean`) run back to back -/
theorem serve_id {env : Env} {r : Req} {s : State} (h : route r.path = .id) :
    serve env r s =
      ((finishId env r (handleConfigID s.index r.path) s).1, (finishId env r (handleConfigID s.index r.path) s).2.1) := by
  unfold serve finishId
  simp only [h]
  cases handleConfigID s.index r.path with
  | to p => simp only; cases route p <;> rfl
  | _ => rfl

theorem serve_viaChange (env : Env) (r : Req) (s : State) : ViaChange env r s (serve env r s) := by
  fun_cases serve env r s     -- 3 /config/, 4 /load, 5 /adapt, 8 /id/ resolved to a /config/ path; the others answer without a handler
  case case3 hr => exact handleConfig_viaChange env r s (underConfig_of_prefix (route_config hr))
  case case4 => exact handleLoad_viaChange env r s
  case case5 => exact Or.inl (handleAdapt_pure env r s)
  case case8 hr => exact handleConfig_viaChange env r s (underConfig_of_prefix (route_config hr))
  all_goals exact Or.inl rfl

theorem serve_inv {env : Env} {r : Req} {s : State} (hi : Inv s) : Inv (serve env r s).1 :=
  (serve_viaChange env r s).inv hi

theorem serve_rejected {env : Env} {r : Req} {s : State} (hi : Inv s)
    (h : (serve env r s).2.rejected = true) : (serve env r s).1 = s :=
  (serve_viaChange env r s).rejected hi h

end CaddyModel.C12
