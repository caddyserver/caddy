/-
C12 — byte strings: a URL path the mux routes to `handleConfig` ("/config/…") is split by
`unsyncedConfigAccess` into parts that begin with "config"; `strconv.Itoa`/`Atoi`; `path.Join`
on addressable segments; how the path strings the `@id` index stores are split again.
-/
import CaddyModel.C12.Model
import CaddyModel.Util.GoStrings

namespace CaddyModel.C12

def rtrim (s : Bytes) : Bytes := (s.reverse.dropWhile (· = slash)).reverse

theorem trimSlash_eq (s : Bytes) : trimSlash s = rtrim (s.dropWhile (· = slash)) := rfl

theorem rtrim_cons_ne {a : UInt8} (h : a ≠ slash) (l : Bytes) : rtrim (a :: l) = a :: rtrim l := by
  unfold rtrim
  rw [List.reverse_cons, List.dropWhile_append]
  split
  · next he =>
    have : List.dropWhile (fun x => decide (x = slash)) l.reverse = [] := by simpa using he
    simp [this, List.dropWhile, h]
  · simp

theorem rtrim_slash_cons (l : Bytes) : rtrim (slash :: l) = [] ∨ rtrim (slash :: l) = slash :: rtrim l := by
  unfold rtrim
  rw [List.reverse_cons, List.dropWhile_append]
  split
  · left; simp [List.dropWhile]
  · right; simp

theorem splitSlash_eq : splitSlash = Go.split slash := Go.split_unique rfl fun _ _ => rfl

theorem joinSlash_eq : joinSlash = Go.join slash := Go.join_unique rfl (fun _ => rfl) fun _ _ _ => rfl

theorem splitSlash_append (a b : Bytes) : splitSlash (a ++ slash :: b) = splitSlash a ++ splitSlash b :=
  splitSlash_eq ▸ Go.split_append_sep slash a b

theorem splitSlash_noslash {k : Bytes} (h : slash ∉ k) : splitSlash k = [k] := splitSlash_eq ▸ Go.split_of_not_mem h

/-- the path addresses something below `rawCfg["config"]` -/
def underConfig (path : Bytes) : Prop := ∃ rest, (pathParts path).1 = cfgKey :: rest

theorem underConfig_of_prefix {p : Bytes} (h : cfgPrefix.isPrefixOf p = true) : underConfig p := by
  rw [List.isPrefixOf_iff_prefix] at h
  obtain ⟨x, rfl⟩ := h
  have h1 : trimSlash (cfgPrefix ++ x) = cfgKey ++ rtrim (slash :: x) := by
    rw [trimSlash_eq]
    have : (cfgPrefix ++ x).dropWhile (· = slash) = cfgKey ++ slash :: x := by
      simp [cfgPrefix, cfgKey, slash, List.dropWhile]
    rw [this]
    simp only [cfgKey, List.cons_append, List.nil_append]
    repeat rw [rtrim_cons_ne (by decide)]
  have h2 : ∃ ps, splitSlash (trimSlash (cfgPrefix ++ x)) = cfgKey :: ps := by
    rw [h1]
    rcases rtrim_slash_cons x with h | h <;> rw [h]
    · exact ⟨[], by decide⟩
    · exact ⟨_, splitSlash_append cfgKey _⟩
  obtain ⟨ps, h2⟩ := h2
  unfold underConfig pathParts
  rw [h2]
  split
  · next hl =>
    cases ps with
    | nil => simp at hl; exact absurd hl (by decide)
    | cons q qs => exact ⟨(q :: qs).dropLast, by simp [List.dropLast]⟩
  · exact ⟨ps, rfl⟩

theorem route_config {p : Bytes} (h : route p = .config) : cfgPrefix.isPrefixOf p = true := by
  revert h
  fun_cases route p
  all_goals first | exact fun _ => ‹_› | exact fun h => nomatch h

theorem underConfig_cfg : underConfig (slash :: cfgKey) := ⟨[], by decide⟩

theorem digit_facts : ∀ d, d < 10 → isDigit (48 + d).toUInt8 = true ∧ (48 + d).toUInt8.toNat - 48 = d := by
  decide

theorem digitsVal_snoc (l : Bytes) (d : UInt8) (a : Nat) (hd : isDigit d = true) :
    digitsVal (l ++ [d]) a = (digitsVal l a).map (fun x => x * 10 + (d.toNat - 48)) := by
  fun_induction digitsVal l a <;> simp_all [digitsVal]

def allDigitsB (s : Bytes) : Prop := ∀ c ∈ s, isDigit c = true

theorem natDigitsF_spec (fuel n : Nat) (h : n < fuel) :
    digitsVal (natDigitsF fuel n) 0 = some n ∧ natDigitsF fuel n ≠ [] ∧ allDigitsB (natDigitsF fuel n) := by
  fun_induction natDigitsF fuel n with
  | case1 => omega
  | case2 fuel n hlt =>
    obtain ⟨h1, h2⟩ := digit_facts n hlt
    exact ⟨by rw [digitsVal, if_pos h1, digitsVal, h2]; simp, by simp, List.forall_mem_singleton.2 h1⟩
  | case3 fuel n hge ih =>
    obtain ⟨ih1, ih2, ih3⟩ := ih (by omega)
    obtain ⟨h1, h2⟩ := digit_facts (n % 10) (by omega)
    exact ⟨by rw [digitsVal_snoc _ _ _ h1, ih1, h2]; simp; omega, by simp,
      List.forall_mem_append.2 ⟨ih3, List.forall_mem_singleton.2 h1⟩⟩

theorem atoi_of_digits {s : Bytes} {n : Nat} (hne : s ≠ []) (hd : allDigitsB s) (hv : digitsVal s 0 = some n)
    (hn : n ≤ 9223372036854775807) : atoi s = some (n : Int) := by
  cases s with
  | nil => exact absurd rfl hne
  | cons c r =>
    have hc : isDigit c = true := hd c (by simp)
    have h45 : c ≠ 45 := by intro h; subst h; simp [isDigit] at hc
    have h43 : c ≠ 43 := by intro h; subst h; simp [isDigit] at hc
    unfold atoi
    split
    · next heq => simp at heq; exact absurd heq.1 h45
    · next heq => simp at heq; exact absurd heq.1 h43
    · simp [unsignedVal, hv, hn]

theorem atoi_natDigits {n : Nat} (hn : n ≤ 9223372036854775807) : atoi (natDigits n) = some (n : Int) := by
  obtain ⟨h1, h2, h3⟩ := natDigitsF_spec (n + 1) n (by omega)
  exact atoi_of_digits h2 h3 h1 hn

/-- a path segment a URL can carry and `path.Clean` keeps: not empty, no '/', not "." or ".." -/
def okSeg (k : Bytes) : Prop := k ≠ [] ∧ slash ∉ k ∧ k ≠ dot ∧ k ≠ dotdot

theorem okSeg_natDigits (n : Nat) : okSeg (natDigits n) := by
  obtain ⟨_, h2, h3⟩ := natDigitsF_spec (n + 1) n (by omega)
  have h3' : ∀ c ∈ natDigits n, isDigit c = true := h3
  refine ⟨h2, ?_, ?_, ?_⟩
  · intro h; have := h3' _ h; simp [isDigit, slash] at this
  · intro h; rw [h] at h3'
    have := h3' 46 (by simp [dot]); simp [isDigit] at this
  · intro h; rw [h] at h3'
    have := h3' 46 (by simp [dotdot]); simp [isDigit] at this

def okSegs (segs : List Bytes) : Prop := ∀ k ∈ segs, okSeg k

theorem okSegs_append {a b : List Bytes} (ha : okSegs a) (hb : okSegs b) : okSegs (a ++ b) :=
  List.forall_mem_append.2 ⟨ha, hb⟩

theorem okSegs.tail {a : Bytes} {l : List Bytes} (h : okSegs (a :: l)) : okSegs l :=
  fun x hx => h x (List.mem_cons_of_mem _ hx)

theorem okSegs_singleton {k : Bytes} (hk : okSeg k) : okSegs [k] := List.forall_mem_singleton.2 hk

theorem renderPath_ne_nil : ∀ {segs : List Bytes}, segs ≠ [] → renderPath segs = segs.flatMap fun p => slash :: p
  | [], h => absurd rfl h
  | _ :: _, _ => rfl

theorem flatMap_joinSlash : ∀ {rest : List Bytes}, rest ≠ [] → (rest.flatMap fun p => slash :: p) = slash :: joinSlash rest
  | [], h => absurd rfl h
  | [p], _ => by simp [joinSlash]
  | p :: q :: r, _ => by
    have ih := flatMap_joinSlash (rest := q :: r) (by simp)
    simp only [List.flatMap_cons] at ih ⊢
    rw [ih]; simp [joinSlash]

theorem splitSlash_render {segs : List Bytes} (hok : okSegs segs) (hne : segs ≠ []) :
    splitSlash (renderPath segs) = [] :: segs := by
  have hr : renderPath segs = [] ++ slash :: joinSlash segs := (renderPath_ne_nil hne).trans (flatMap_joinSlash hne)
  rw [hr, splitSlash_append, joinSlash_eq, splitSlash_eq, Go.split_join slash hne fun k hk => (hok k hk).2.1]; rfl

theorem cleanStep_ok {st : List Bytes} {k : Bytes} (h : okSeg k) : cleanStep st k = k :: st := by
  unfold cleanStep
  simp [h.1, h.2.2.1, h.2.2.2]

theorem foldl_cleanStep_ok : ∀ {segs : List Bytes} (st : List Bytes), okSegs segs → segs.foldl cleanStep st = segs.reverse ++ st
  | [], st, _ => by simp
  | k :: r, st, h => by
    simp only [List.foldl_cons]
    rw [cleanStep_ok (h k (by simp)), foldl_cleanStep_ok (k :: st) (fun x hx => h x (by simp [hx]))]
    simp

theorem foldl_cleanStep_rooted {segs : List Bytes} (h : okSegs segs) : ([] :: segs).foldl cleanStep [] = segs.reverse := by
  rw [List.foldl_cons, show cleanStep [] ([] : Bytes) = [] by simp [cleanStep], foldl_cleanStep_ok [] h, List.append_nil]

theorem pathJoin_ok {segs : List Bytes} {k : Bytes} (hs : okSegs segs) (hne : segs ≠ []) (hk : okSeg k) :
    pathJoin (renderPath segs) k = renderPath (segs ++ [k]) := by
  unfold pathJoin cleanRooted
  rw [splitSlash_append, splitSlash_render hs hne, splitSlash_noslash hk.2.1, List.cons_append,
    foldl_cleanStep_rooted (okSegs_append hs (okSegs_singleton hk)), List.reverse_reverse]

theorem rtrim_of_last_ne : ∀ (s : Bytes) (c : UInt8), c ≠ slash → rtrim (s ++ [c]) = s ++ [c] := by
  intro s c hc
  unfold rtrim
  rw [List.reverse_append]
  simp [hc]

theorem renderPath_cons (s : Bytes) (t : List Bytes) :
    renderPath (s :: t) = slash :: (s ++ (t.flatMap fun p => slash :: p)) := by
  simp [renderPath]

theorem render_snoc {segs : List Bytes} (hok : okSegs segs) (hne : segs ≠ []) :
    ∃ (body : Bytes) (c : UInt8), c ≠ slash ∧ renderPath segs = body ++ [c] := by
  obtain ⟨pre, last, rfl⟩ : ∃ pre last, segs = pre ++ [last] := by
    refine ⟨segs.dropLast, segs.getLast hne, ?_⟩
    exact (List.dropLast_concat_getLast hne).symm
  have hl := hok last (by simp)
  obtain ⟨lb, lc, hlast⟩ : ∃ lb lc, last = lb ++ [lc] :=
    ⟨last.dropLast, last.getLast hl.1, (List.dropLast_concat_getLast hl.1).symm⟩
  have hc : lc ≠ slash := by
    intro h; apply hl.2.1; rw [hlast, h]; simp
  refine ⟨(pre.flatMap fun p => slash :: p) ++ slash :: lb, lc, hc, ?_⟩
  rw [renderPath_ne_nil hne, hlast]; simp

theorem trimSlash_render {segs : List Bytes} (hok : okSegs segs) (hne : segs ≠ []) :
    slash :: trimSlash (renderPath segs) = renderPath segs := by
  obtain ⟨body, c, hc, hr⟩ := render_snoc hok hne
  cases segs with
  | nil => exact absurd rfl hne
  | cons s t =>
    have hs := hok s (by simp)
    obtain ⟨s0, sr, hs0⟩ : ∃ s0 sr, s = s0 :: sr := by
      cases s with
      | nil => exact absurd rfl hs.1
      | cons a b => exact ⟨a, b, rfl⟩
    have hs0ne : s0 ≠ slash := by intro h; apply hs.2.1; rw [hs0, h]; simp
    rw [trimSlash_eq]
    have hdrop : (renderPath (s :: t)).dropWhile (· = slash) = s ++ (t.flatMap fun p => slash :: p) := by
      rw [renderPath_cons, hs0]; simp [List.dropWhile, hs0ne]
    rw [hdrop]
    have hrem : ∃ body', s ++ (t.flatMap fun p => slash :: p) = body' ++ [c] := by
      rw [renderPath_cons] at hr
      cases body with
      | nil => simp at hr; exact absurd hr.1.symm hc
      | cons b0 body' => simp at hr; exact ⟨body', hr.2⟩
    obtain ⟨body', hb⟩ := hrem
    rw [hb, rtrim_of_last_ne _ _ hc, ← hb, renderPath_cons]

theorem pathParts_render {segs : List Bytes} (hok : okSegs segs) (hne : segs ≠ []) (hlast : segs.getLast? ≠ some dots) :
    pathParts (renderPath segs) = (segs, false) := by
  have h := splitSlash_render hok hne
  rw [← trimSlash_render hok hne, splitSlash, if_pos rfl] at h
  unfold pathParts
  rw [(List.cons.inj h).2]
  simp [hlast]

theorem trimSlash_render_ne {segs : List Bytes} (hok : okSegs segs) (hne : segs ≠ []) : trimSlash (renderPath segs) ≠ [] := by
  intro h
  have h1 := trimSlash_render hok hne
  cases segs with
  | nil => exact absurd rfl hne
  | cons s t =>
    -- "/" is not the rendering of a non-empty first segment
    rw [h, renderPath_cons] at h1
    simp at h1
    exact (hok s (by simp)).1 h1.1

end CaddyModel.C12
