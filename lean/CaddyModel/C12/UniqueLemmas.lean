/-
C12 — "no key twice" (the representation invariant of a Go map, `uniqueKeys`) is a `TreeInv`
(`uniqueKeys_treeInv`: kept by `replaceKey`, `insertSorted`, `eraseKey`); and the vocabulary of
`unique_keys_preserved`: `bodyUK` (`encoding/json` decodings have it), `adaptUK`; `UKS` is its conclusion as a
structure, which no statement uses.
-/
import CaddyModel.C12.TreeInv

namespace CaddyModel.C12

theorem ukO_cons (k : Bytes) (v : Json) (r : Obj) :
    uniqueKeysO ((k, v) :: r) = ((lookup k r).isNone && uniqueKeys v && uniqueKeysO r) := by
  rw [uniqueKeysO]

theorem uk_lookup {kvs : Obj} {k : Bytes} {c : Json} (hu : uniqueKeysO kvs = true) (h : lookup k kvs = some c) :
    uniqueKeys c = true := by
  fun_induction lookup k kvs <;> simp_all [ukO_cons]

theorem uk_replaceKey {k : Bytes} {v : Json} (hv : uniqueKeys v = true) {m : Obj} (hu : uniqueKeysO m = true) :
    uniqueKeysO (replaceKey k v m) = true := by
  fun_induction replaceKey k v m with
  | case1 => rfl
  | case2 v' r => simp_all [ukO_cons]
  | case3 k' v' r hne ih => simp_all [ukO_cons, lookup_replaceKey_other (Ne.symm hne)]

theorem uk_insertSorted {k : Bytes} {v : Json} (hv : uniqueKeys v = true) {m : Obj} (hu : uniqueKeysO m = true)
    (hn : lookup k m = none) : uniqueKeysO (insertSorted k v m) = true := by
  fun_induction insertSorted k v m with
  | case1 => simp [lookup, hv, uniqueKeysO]
  | case2 k' v' r hlt => simp_all [ukO_cons]
  | case3 k' v' r hlt ih =>
    have hne : k ≠ k' := fun e => by simp [lookup, e] at hn
    simp_all [ukO_cons, lookup, lookup_insertSorted_other (Ne.symm hne)]

theorem uk_setKey {k : Bytes} {v : Json} {m : Obj} (hv : uniqueKeys v = true) (hu : uniqueKeysO m = true) :
    uniqueKeysO (setKey k v m) = true := by
  rcases setKey_cases k v m with ⟨_, e⟩ | ⟨hn, e⟩ <;> rw [e]
  · exact uk_replaceKey hv hu
  · exact uk_insertSorted hv hu hn

theorem lookup_eraseKey_none {k k' : Bytes} {m : Obj} (h : lookup k' m = none) : lookup k' (eraseKey k m) = none := by
  by_cases hk : k' = k
  · rw [hk]; exact lookup_eraseKey_same k m
  · rw [lookup_eraseKey_other hk]; exact h

theorem uk_eraseKey {k : Bytes} {m : Obj} (hu : uniqueKeysO m = true) : uniqueKeysO (eraseKey k m) = true := by
  fun_induction eraseKey k m <;> simp_all [lookup_eraseKey_none, uniqueKeysO]

theorem ukL_iff : ∀ (xs : List Json), uniqueKeysL xs = true ↔ ∀ x ∈ xs, uniqueKeys x = true
  | [] => by simp [uniqueKeysL]
  | x :: xs => by rw [uniqueKeysL]; simp [ukL_iff xs]

theorem uk_arr (xs : List Json) : uniqueKeys (.arr xs) = uniqueKeysL xs := by rw [uniqueKeys]
theorem uk_obj (kvs : Obj) : uniqueKeys (.obj kvs) = uniqueKeysO kvs := by rw [uniqueKeys]

theorem uniqueKeys_treeInv : TreeInv (fun j => uniqueKeys j = true) where
  scalar := by intro j h1 h2; cases j <;> simp_all [uniqueKeys]
  empty := rfl
  arr := by intro xs; rw [uk_arr, ukL_iff]
  member := by intro kvs k c h hl; rw [uk_obj] at h; exact uk_lookup h hl
  set := by intro kvs v k h hv; rw [uk_obj] at h ⊢; exact uk_setKey hv h
  erase := by intro kvs k h; rw [uk_obj] at h ⊢; exact uk_eraseKey h

def bodyUK : Body → Prop
  | .val j => uniqueKeys j = true
  | _ => True

structure UKS (s : State) : Prop where
  tree : uniqueKeys s.rawCfg = true
  loaded : ∀ j, s.rawCfgJSON = some j → uniqueKeys j = true

def adaptUK (env : Env) : Prop := ∀ b j, bodyUK b → env.adapt b = some j → uniqueKeys j = true

end CaddyModel.C12
