/-
C12 — tree properties that every operation of the API keeps (`TreeInv`): proved once for the
traversal, `changeConfig` and the handlers; "no key twice" and canonical form are instances.
-/
import CaddyModel.C12.StateLemmas

namespace CaddyModel.C12

/-- a property of trees that the operations on Go maps and slices keep (`set` is `m[k] = v`, `erase` is `delete(m, k)`) -/
structure TreeInv (Q : Json → Prop) : Prop where
  scalar : ∀ {j}, (∀ kvs, j ≠ .obj kvs) → (∀ xs, j ≠ .arr xs) → Q j
  empty : Q (.obj [])
  arr : ∀ {xs}, Q (.arr xs) ↔ ∀ x ∈ xs, Q x
  member : ∀ {kvs k c}, Q (.obj kvs) → lookup k kvs = some c → Q c
  set : ∀ {kvs v} k, Q (.obj kvs) → Q v → Q (.obj (setKey k v kvs))
  erase : ∀ {kvs} k, Q (.obj kvs) → Q (.obj (eraseKey k kvs))

namespace TreeInv
variable {Q : Json → Prop} (t : TreeInv Q)
include t

theorem null : Q .null := t.scalar (fun _ h => nomatch h) (fun _ h => nomatch h)

theorem encodeOf {o : Option Json} (h : ∀ j, o = some j → Q j) : Q (encodeOf o) := by
  cases o with
  | none => exact t.null
  | some j => exact h j rfl

theorem replace {kvs : Obj} {k : Bytes} {c v : Json} (h : Q (.obj kvs)) (hl : lookup k kvs = some c) (hv : Q v) :
    Q (.obj (replaceKey k v kvs)) := by
  rw [replaceKey_eq_setKey (by simp [hl])]; exact t.set k h hv

theorem setElem {xs : List Json} {i : Nat} {c : Json} (h : Q (.arr xs)) (hc : Q c) : Q (.arr (xs.set i c)) :=
  t.arr.2 fun x hx => (List.mem_or_eq_of_mem_set hx).elim (t.arr.1 h x) (· ▸ hc)

theorem elem {xs : List Json} {i : Nat} {c : Json} (h : Q (.arr xs)) (hx : xs[i]? = some c) : Q c :=
  t.arr.1 h c (List.mem_of_getElem? hx)

theorem append {xs ys : List Json} (hx : Q (.arr xs)) (hy : Q (.arr ys)) : Q (.arr (xs ++ ys)) :=
  t.arr.2 (List.forall_mem_append.2 ⟨t.arr.1 hx, t.arr.1 hy⟩)

theorem appended {ell : Bool} {val : Json} {app : List Json} (hval : Q val) (h : appended ell val = some app) :
    Q (.arr app) := by
  unfold C12.appended at h
  split at h
  · split at h <;> cases h; exact hval
  · cases h; exact t.arr.2 (by simpa using hval)

theorem arrayOp {m : Method} {ell : Bool} {val : Json} {idxStr : Bytes} {arr : List Json}
    (hval : Q val) (harr : Q (.arr arr)) : Q (.arr (arrayOp m ell val idxStr arr).1) := by
  by_cases hm : m = .post
  · subst hm; rw [arrayOp_post]
    cases h : C12.appended ell val with
    | none => exact harr
    | some app => exact t.append harr (t.appended hval h)
  · rcases arrayOp_indexed hm ell val idxStr arr with ⟨e, he⟩ | ⟨i, _, hi, _, he⟩ <;> rw [he]
    · exact harr
    · cases m <;> simp only [indexedOp]
      · exact harr
      · exact harr
      · exact t.arr.2 fun x hx => ((List.mem_insertIdx hi).1 hx).elim (· ▸ hval) (t.arr.1 harr x)
      · exact t.setElem harr hval
      · exact t.arr.2 fun x hx => t.arr.1 harr x (List.mem_of_mem_eraseIdx hx)

theorem lastOp {m : Method} {ell : Bool} {val : Json} {part : Bytes} {kvs : Obj}
    (hval : Q val) (h : Q (.obj kvs)) : Q (lastOp m ell val part kvs (lookup part kvs)).1 := by
  obtain ⟨kvs', heq, rfl | ⟨v, hv, rfl⟩ | ⟨_, rfl⟩⟩ := lastOp_fst m ell val part kvs (lookup part kvs) <;> rw [heq]
  · exact h
  · refine t.set part h ?_
    rcases hv with rfl | ⟨arr, app, hl, happ, rfl⟩
    · exact hval
    · exact t.append (t.member h hl) (t.appended hval happ)
  · exact t.erase part h

theorem sget {ds : List Bytes} {node y : Json} (hs : C12.sget ds node = some y) : Q node → Q y := by
  refine sget_ind (motive := fun _ node y => Q node → Q y) (fun _ => id) ?_ ?_ hs
  · exact fun k ds kvs c y hl ih h => ih (t.member h hl)
  · exact fun k ds xs i c y ha hx ih h => ih (t.elem h hx)

theorem put {ds : List Bytes} {node y x : Json} (hs : C12.sget ds node = some y) (hx : Q x) : Q node → Q (C12.put ds node x) := by
  refine sget_ind (motive := fun ds node _ => Q node → Q (C12.put ds node x)) (fun _ _ => hx) ?_ ?_ hs
  · intro k ds kvs c y hl ih h; rw [put_obj hl]; exact t.replace h hl (ih (t.member h hl))
  · intro k ds xs i c y ha hxs ih h; rw [put_arr ha hxs]; exact t.setElem h (ih (t.elem h hxs))

theorem nest {v : Json} (hv : Q v) : ∀ r : List Bytes, Q (C12.nest r v)
  | [] => hv
  | k :: r => t.set (kvs := []) k t.empty (nest hv r)

theorem trav (m : Method) (ell : Bool) {val : Json} (hval : Q val)
    (parts : List Bytes) (node : Json) (h : Q node) : Q (C12.trav m ell val parts node).1 := by
  cases trav_spec m ell val parts node with
  | gaveUp e _ hr => rw [hr]; exact h
  | ranOff _ hr => rw [hr]; exact h
  | inArray ds last arr _ hs hr => rw [hr]; exact t.put hs (t.arrayOp hval (t.sget hs h)) h
  | inObject ds last kvs _ hs hr => rw [hr]; exact t.put hs (t.lastOp hval (t.sget hs h)) h
  | made ds k rest kvs _ _ _ hs _ hr => rw [hr]; exact t.put hs (t.set k (t.sget hs h) (t.nest hval rest)) h

/-- the request body, where it is a tree, has `Q` (the shape of `bodyUK`, `bodyCN`, which unfold to it) -/
def OfBody (Q : Json → Prop) : Body → Prop
  | .val j => Q j
  | _ => True

theorem access {m : Method} {path : Bytes} {body : Body} {root : Json} (hb : OfBody Q body) (h : Q root) :
    Q (access m path body root).1 := by
  rcases access_cases m path body with ⟨e, he⟩ | he <;> rw [he]
  · exact h
  · refine t.trav _ _ ?_ _ _ h
    cases body with
    | val j => exact hb
    | _ => exact t.null

def OfState (Q : Json → Prop) (s : State) : Prop := Q s.rawCfg ∧ ∀ j, s.rawCfgJSON = some j → Q j

theorem init : OfState Q initState := ⟨t.set (kvs := []) cfgKey t.empty t.null, fun _ h => nomatch h⟩

theorem cfgOf {root : Json} (h : Q root) : Q (cfgOf root) := by
  cases root with
  | obj kvs => exact t.encodeOf fun c hl => t.member h hl
  | _ => exact t.null

theorem restore {s : State} {root : Json} (hs : OfState Q s) (hr : Q root) : OfState Q (restore s root) := by
  refine ⟨?_, hs.2⟩
  show Q (if hasCfgKey s.rawCfg then setCfg (C12.encodeOf s.rawCfgJSON) root else eraseCfg root)
  split
  · cases root with
    | obj kvs => exact t.set cfgKey hr (t.encodeOf hs.2)
    | _ => exact hr
  · cases root with
    | obj kvs => exact t.erase cfgKey hr
    | _ => exact hr

theorem commit {env : Env} {force : Bool} {s : State} {root : Json} (hs : OfState Q s) (hr : Q root) :
    OfState Q (commit env force s root).1 := by
  rcases commit_cases env force s root with ⟨_, _, h⟩ | ⟨r, _, h⟩ | ⟨idx, _, _, _, h⟩ <;> rw [h]
  · exact ⟨hr, hs.2⟩
  · exact t.restore hs hr
  · exact ⟨hr, by intro j hj; cases hj; exact t.cfgOf hr⟩

theorem change {env : Env} {m : Method} {path : Bytes} {body : Body} {ifm : Bytes} {force : Bool} {s : State}
    (hs : OfState Q s) (hb : OfBody Q body) : OfState Q (change env m path body ifm force s).1 := by
  rcases change_cases env m path body ifm force s with ⟨r, _, h⟩ | h <;> rw [h]
  · exact hs
  · rcases mutate_cases env m path body force s with ⟨r, _, h⟩ | ⟨o, _, h⟩ <;> rw [h]
    · exact hs
    · exact t.commit hs (t.access hb hs.1)

theorem serve {env : Env} {r : Req} {s : State}
    (ha : ∀ b j, OfBody Q b → env.adapt b = some j → Q j) (hs : OfState Q s) (hb : OfBody Q r.body) :
    OfState Q (serve env r s).1 := by
  rcases serve_viaChange env r s with h | ⟨m, path, body, ifm, _, _, hbody, h, _⟩ <;> rw [h]
  · exact hs
  · refine t.change hs ?_
    rcases hbody with rfl | rfl | ⟨j, hj, rfl⟩
    · trivial
    · exact hb
    · exact ha _ _ hb hj

end TreeInv
end CaddyModel.C12
