/-
C12 — for Wire.lean (request targets as net/http parses them): net/url's `unescape` undoes `escape`
(`unescape_escape_eq`, from the nibble fact `hex_roundtrip`); and the concrete world of the
evaluated wire theorems of Props (`yesEnv`, `slashDoc`, `slashState`, the targets `tEnc…`).
-/
import CaddyModel.C12.Wire
import CaddyModel.C12.Witness

namespace CaddyModel.C12

theorem unescape_cons_plain {c : UInt8} (r : Bytes) (h : c ≠ pct) :
    unescapePath (c :: r) = (unescapePath r).map (c :: ·) := by
  match r with
  | [] => simp [unescapePath, h]
  | [d] => simp [unescapePath, h]; split <;> simp_all
  | a :: b :: r => simp [unescapePath, h]; split <;> simp_all

theorem unescape_pct {a b x y : UInt8} {r t : Bytes} (h1 : hexVal a = some x) (h2 : hexVal b = some y)
    (h3 : unescapePath r = some t) : unescapePath (pct :: a :: b :: r) = some ((x * 16 + y) :: t) := by
  simp [unescapePath, h1, h2, h3]

theorem hex_nibble : ∀ n : Nat, n < 16 → hexVal (upperHex (UInt8.ofNat n)) = some (UInt8.ofNat n) := by
  decide

theorem hex_roundtrip (c : UInt8) :
    hexVal (upperHex (c / 16)) = some (c / 16) ∧ hexVal (upperHex (c % 16)) = some (c % 16) ∧
    (c / 16) * 16 + c % 16 = c := by
  have hc : c.toNat < 256 := c.toNat_lt
  have hd : c / 16 = UInt8.ofNat (c.toNat / 16) := UInt8.toNat_inj.1 (by
    simp only [UInt8.toNat_div, UInt8.reduceToNat, UInt8.toNat_ofNat']
    exact (Nat.mod_eq_of_lt (by omega)).symm)
  have hm : c % 16 = UInt8.ofNat (c.toNat % 16) := UInt8.toNat_inj.1 (by
    simp only [UInt8.toNat_mod, UInt8.reduceToNat, UInt8.toNat_ofNat']
    exact (Nat.mod_eq_of_lt (by omega)).symm)
  refine ⟨?_, ?_, UInt8.toNat_inj.1 ?_⟩
  · rw [hd]; exact hex_nibble _ (by omega)
  · rw [hm]; exact hex_nibble _ (by omega)
  · simp only [UInt8.toNat_add, UInt8.toNat_mul, UInt8.toNat_div, UInt8.reduceToNat, UInt8.toNat_mod]
    rw [Nat.mod_eq_of_lt (a := c.toNat / 16 * 16) (by omega), Nat.div_add_mod', Nat.mod_eq_of_lt hc]

theorem unescape_escape_eq (p : Bytes) : unescapePath (escapePath p) = some p := by
  induction p with
  | nil => simp [escapePath, unescapePath]
  | cons c r ih =>
    unfold escapePath
    by_cases hs : shouldEscape c = true
    · simp only [hs, if_true]
      have h := hex_roundtrip c
      rw [unescape_pct h.1 h.2.1 ih, h.2.2]
    · have hc : c ≠ pct := by
        intro h; subst h; exact hs (by decide)
      simp only [hs]
      rw [if_neg (by simp), unescape_cons_plain _ hc, ih]
      rfl

/-- a world that accepts every configuration -/
def yesEnv : Env := ⟨fun _ => [], fun _ => true, fun _ => none⟩

/-- the running document {"apps":{"c12":{"x":{"y":2},"x/y":1}}} -/
def slashDoc : Json :=
  .obj [([97, 112, 112, 115], .obj [([99, 49, 50], .obj [([120], .obj [([121], .num [50])]), ([120, 47, 121], .num [49])])])]

def slashState : State := (serve yesEnv (wReq .post cfgPrefix (.val slashDoc)) initState).1

/-- "/config/apps/c12/x%2Fy" -/
def tEncSlash : Bytes := [47, 99, 111, 110, 102, 105, 103, 47, 97, 112, 112, 115, 47, 99, 49, 50, 47, 120, 37, 50, 70, 121]
/-- "/config/apps/c12/x/y" -/
def pSlash : Bytes := [47, 99, 111, 110, 102, 105, 103, 47, 97, 112, 112, 115, 47, 99, 49, 50, 47, 120, 47, 121]
/-- "/config%2Fapps" and its decoding "/config/apps" -/
def tEncSep : Bytes := [47, 99, 111, 110, 102, 105, 103, 37, 50, 70, 97, 112, 112, 115]
def wpApps : Bytes := [47, 99, 111, 110, 102, 105, 103, 47, 97, 112, 112, 115]
/-- "/%63onfig/apps" -/
def tEncFirst : Bytes := [47, 37, 54, 51, 111, 110, 102, 105, 103, 47, 97, 112, 112, 115]
/-- "/config/apps/%2e%2e/apps" and its decoding "/config/apps/../apps" -/
def tEncDots : Bytes := [47, 99, 111, 110, 102, 105, 103, 47, 97, 112, 112, 115, 47, 37, 50, 101, 37, 50, 101, 47, 97, 112, 112, 115]
def pDots : Bytes := [47, 99, 111, 110, 102, 105, 103, 47, 97, 112, 112, 115, 47, 46, 46, 47, 97, 112, 112, 115]
/-- "/config/apps/%zz" -/
def tBadEsc : Bytes := [47, 99, 111, 110, 102, 105, 103, 47, 97, 112, 112, 115, 47, 37, 122, 122]

end CaddyModel.C12
