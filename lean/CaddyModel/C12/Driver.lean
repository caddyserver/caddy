/-
C12 line-protocol driver.

  hist <step>;<step>;…        a whole history against a fresh process state (after caddy.Stop())
      step  = <M>,<path>,<body>,<ifmatch>,<flags>
      M     = G | P (POST) | U (PUT) | A (PATCH) | D (DELETE) | H (anything else → 405)
      path  = hex of r.URL.Path; must start with "/config/" or "/id/", or be "/load" or "/adapt"
      body  = `-` (no body) | `!` (undecodable JSON) | tree
      tree  = n | t | f | #<num># | s<hex>. | [tree…] | {<keyhex>.tree …}   (keys strictly sorted)
      ifm   = `-` | e<k> (the ETag step k returned) | p<k>.<pathhex> (that ETag's hash, other path)
            | w<pathhex> (well-formed, wrong hash) | r<hex> (raw header that is NOT of the form "a b")
      flags = `-` | [f][one Content-Type letter]  (f = Cache-Control: must-revalidate; see `ctOfChar`)
  answer: per step  <resp>  for G/H, and  <resp>/<config>/<ids>/<probe loads>/<probe saw>/<loads>/<autosave file>  otherwise
          (loads = how often any configuration was started)
      resp  = g:<tree|->:<etag path hex> | w | d:<tree> (/adapt) | r | amb | F<status>:<class>
            | ww (/load, 200 with adapter warnings) | dw:<tree> (/adapt with warnings)
              (a rejected /load answers F<status>:<class> whatever the adapter warned about; the harness prints
              W200:<class> if it meets the behaviour before /repo bbbf7b6: warnings first, status 200, error appended)
      ids   = for every distinct "@id" text in the config, sorted: <hex>=<resp of GET /id/<text>, etag path only>
  cas <k> <n>                 k concurrent clients × n conditional increments → `cas <k*n>`
  pull <tree T> <pulled: tree|!>
                              load {"admin":{"config":{"load":{"module":"c12pull"}}},"apps":{"c12":T}}; the loader
                              hands out <pulled>; then PATCH /id/<first id> {"w":1}; answer <status of the load>/<config>/<loads>/<autosave file>/<patch answer>/<config>
  cli <init tree> <file: tree|!|-> <flags>
                              `caddy reload` (the real command function) against the instance running <init>, over its
                              real admin listener; answer <ok|presend|F<status>:<class>>/<config>/<loads caused>
  gg <tree> <pathA> <pathB> [<pathC> [<pathD>]]
                              overlapping GETs after loading <tree>: GET A is served with a ResponseWriter whose
                              first Write performs complete GETs of B, C, D through the same handler before it
                              looks at its argument; answer: the GET answers of A|B|C|D
  ovl <tree> <M,path,body> <M,path,body> <GET path hex>
                              after loading <tree>: writer A is held inside changeConfig by the probe app while writer B
                              and the GET wait; answer: outcome of the serial order A;B;R | outcome of A;R;B
  wire <tree> <M> <target hex> <body>
                              after loading <tree>: one request whose request line carries <target> verbatim, through
                              a real http.Server in front of the handler; answer <resp | B400>/<config>/<ids>
  idrace <n> | peek <k> <n>   concurrency samples on the real handler for Regions.lean: the two critical
                              sections of /id/ requests; a rejected write is invisible to concurrent readers
  clean <p> | join <a> <b> | fields <s> | atoi <s> | itoa <n> | route <p>
                              the byte-level models of path.Clean, path.Join, strings.Fields,
                              strconv.Atoi/Itoa and the ServeMux dispatch, against the real functions
-/
import CaddyModel.C12.Model
import CaddyModel.C12.Wire
import CaddyModel.C12.Warn

namespace CaddyModel.C12

/-! #### tree encoding -/

def hexOf (b : Bytes) : String := if b.isEmpty then "" else Hex.encode b

mutual
partial def encTree : Json → String
  | .null => "n"
  | .bool true => "t"
  | .bool false => "f"
  | .num t => "#" ++ bytesToString t ++ "#"
  | .str s => "s" ++ hexOf s ++ "."
  | .arr xs => "[" ++ String.join (xs.map encTree) ++ "]"
  | .obj kvs => "{" ++ String.join (kvs.map fun (k, v) => hexOf k ++ "." ++ encTree v) ++ "}"
end

def isHexChar (c : Char) : Bool := ('0' ≤ c && c ≤ '9') || ('a' ≤ c && c ≤ 'f')

def takeHex : List Char → List Char → Option (Bytes × List Char)
  | '.' :: r, acc => match Hex.decodeChars acc.reverse with
    | some b => some (b, r)
    | none => none
  | c :: r, acc => if isHexChar c then takeHex r (c :: acc) else none
  | [], _ => none

def allDigits (l : List Char) : Bool := !l.isEmpty && l.all (fun c => '0' ≤ c && c ≤ '9')

/-- no exponent-form numbers in the protocol (as an `@id` value — which any PATCH can make of
    them — they are outside the model's domain, see `Model.memberBreaks`) -/
def expTokens : List String := []

/-- the number texts both sides accept: plain decimals that `json.Marshal` prints unchanged
    (≤ 15 significant digits, 1e-6 ≤ |x| < 1e15 or 0, no "-0") -/
def canonicalNum (s : List Char) : Bool :=
  if expTokens.contains (String.ofList s) then true else
  let u := if s.head? = some '-' then s.drop 1 else s
  let ip := u.takeWhile (· ≠ '.')
  let rest := u.dropWhile (· ≠ '.')
  let fp := rest.drop 1
  allDigits ip && (ip == ['0'] || ip.head? ≠ some '0') &&
  (rest.isEmpty || (allDigits fp && fp.getLast? ≠ some '0')) &&
  ip.length + fp.length ≤ 15 &&
  !(s.head? = some '-' && ip == ['0'] && rest.isEmpty) &&
  !(ip == ['0'] && !rest.isEmpty && (fp.takeWhile (· = '0')).length > 5)

def asciiOnly (b : Bytes) : Bool := b.all (· < 128)

def lower (b : Bytes) : Bytes := b.map fun c => if 65 ≤ c && c ≤ 90 then c + 32 else c

def hasInfix (pat : Bytes) : Bytes → Bool
  | [] => pat.isEmpty
  | c :: r => pat.isPrefixOf (c :: r) || hasInfix pat r

/-- names the harness world must not meet: other top-level `Config` fields (matched
    case-insensitively by encoding/json), `..` path components (index entries would leave
    /config/), keys containing `"@id` (not modelled, see `Model.memberBreaks`) -/
def forbiddenName (k : Bytes) : Bool :=
  [str "admin", str "logging", str "storage"].contains (lower k) ||
  (lower k == str "apps" && k != str "apps") ||
  (splitSlash k).contains dotdot ||
  hasInfix [34, 64, 105, 100] k        -- `"@id` inside a key: the textual idRegexp fires there too

mutual
partial def parseTree : List Char → Option (Json × List Char)
  | 'n' :: r => some (.null, r)
  | 't' :: r => some (.bool true, r)
  | 'f' :: r => some (.bool false, r)
  | '#' :: r =>
    let t := r.takeWhile (· ≠ '#')
    match r.dropWhile (· ≠ '#') with
    | '#' :: r' => if canonicalNum t then some (.num (t.map fun c => c.toNat.toUInt8), r') else none
    | _ => none
  | 's' :: r => match takeHex r [] with
    | some (b, r') => if asciiOnly b then some (.str b, r') else none
    | none => none
  | '[' :: r => parseElems r []
  | '{' :: r => parseMembers r [] none
  | _ => none
partial def parseElems : List Char → List Json → Option (Json × List Char)
  | ']' :: r, acc => some (.arr acc.reverse, r)
  | cs, acc => match parseTree cs with
    | some (j, r) => parseElems r (j :: acc)
    | none => none
partial def parseMembers : List Char → Obj → Option Bytes → Option (Json × List Char)
  | '}' :: r, acc, _ => some (.obj acc.reverse, r)
  | cs, acc, prev => match takeHex cs [] with
    | some (k, r) =>
      if !asciiOnly k || forbiddenName k then none
      else if (match prev with | some p => !bytesLt p k | none => false) then none
      else match parseTree r with
        | some (v, r') => parseMembers r' ((k, v) :: acc) (some k)
        | none => none
    | none => none
end

def parseWholeTree (s : String) : Option Json :=
  match parseTree s.toList with
  | some (j, []) => some j
  | _ => none

/-! #### the harness world: what the registered apps accept -/

def appRejects : Json → Bool
  | .obj m => lookup (str "reject") m == some (.bool true)
  | _ => false

def appsOK : Json → Bool
  | .null => true
  | .obj as => as.all fun (k, v) => k == str "c12" && v != .null && !appRejects v
  | _ => false

/-- does caddy (with only the probe app `c12` registered) load this stripped document? -/
def probeAccepts : Json → Bool
  | .null => true
  | .obj kvs => kvs.all fun (k, v) => k == str "apps" && appsOK v
  | _ => false

/-- executable stand-in for xxhash: injective, never contains a space or a quote, never
    equals the harness's "wrong hash" `0000000000000000` -/
def hashText : Option Json → Bytes
  | none => str "h-"
  | some j => str ("h" ++ encTree j)

/-- the harness world's one config adapter ("c12wrap"): X ↦ {"apps":{"c12":X}}; an empty or
    undecodable body is an adapter error -/
def wrapAdapter : Body → Option Json
  | .val j => some (.obj [(str "apps", .obj [(str "c12", j)])])
  | _ => none

def drvEnv : Env := ⟨hashText, probeAccepts, wrapAdapter⟩

/-- … and warns about a body that is an object with a member "warn" -/
def drvWarns : Body → Bool
  | .val (.obj kvs) => (lookup (str "warn") kvs).isSome
  | _ => false

/-- what the probe app was started with, if the running config has one -/
def probeOf : Option Json → Option Json
  | some (.obj kvs) => match lookup (str "apps") kvs with
    | some (.obj as) => lookup (str "c12") as
    | _ => none
  | _ => none

/-! #### steps -/

def showErr : Err → String
  | .decode => "decode" | .noPath => "nopath" | .badIndex => "badindex" | .oob => "oob"
  | .notArray => "notarray" | .traversal => "traversal" | .keyExists => "exists" | .keyMissing => "missing"

def showFail : Fail → String
  | .access e => showErr e
  | .ctype => "ctype" | .method => "method" | .ifMatchQuote => "ifmatch-quote" | .ifMatchFormat => "ifmatch-format"
  | .ifMatchAccess e => showErr e     -- same message text as a failing mutation; always 500
  | .precondition => "precondition" | .index => "index" | .load => "load"
  | .idMissing => "id-missing" | .idMalformed => "id-malformed" | .idUnknown => "id-unknown"
  | .notFound => "notfound" | .panic => "panic"
  | .ctInvalid => "ct-invalid" | .ctMalformed => "ct-malformed" | .adapterUnknown => "adapter-unknown"
  | .adaptFailed => "adapt-failed" | .adaptEncode => "adapt-encode"
  | .viaLoad f => "L-" ++ showFail f

def showStatus (f : Fail) (isGet : Bool) : Nat :=
  match f with
  | .access e => if isGet then 400 else statusOf (.access e)
  | f => statusOf f

def showResp (isGet : Bool) : Resp → String
  | .okGet out p => "g:" ++ (match out with | some j => encTree j | none => "-") ++ ":" ++ Hex.encode p
  | .okWrite => "w"
  | .okAdapt j => "d:" ++ encTree j
  | .redirect => "r"
  | .ambiguous => "amb"
  | .fail f => "F" ++ toString (showStatus f isGet) ++ ":" ++ showFail f

def showIdResp : Resp → String
  | .okGet _ p => Hex.encode p
  | r => showResp true r

/-- every `@id` value of the tree as the text a client would put after /id/ (the JSON text) -/
partial def idTexts : Json → List Bytes
  | .arr xs => xs.flatMap idTexts
  | .obj kvs => kvs.flatMap fun (k, v) =>
      if k == idKey then (match v with | .str s => [s] | .num t => [t] | _ => []) else idTexts v
  | _ => []

def insertUniq (b : Bytes) : List Bytes → List Bytes
  | [] => [b]
  | x :: r => if b == x then x :: r else if bytesLt b x then b :: x :: r else x :: insertUniq b r

def getReq (p : Bytes) : Req := ⟨.get, p, .empty, [], false, .json⟩

def showIds (s : State) : String :=
  let ids := (idTexts (cfgOf s.rawCfg)).foldl (fun acc b => insertUniq b acc) []
  ",".intercalate (ids.map fun t => hexOf t ++ "=" ++ showIdResp (serve drvEnv (getReq (idPrefix ++ t)) s).2)

structure Drv where
  s : State := initState
  etags : List (Option (Bytes × Bytes)) := []     -- per step: (etag path, hash text)
  probeLoads : Nat := 0
  probeSaw : Option Json := none
  saved : Option Json := none     -- the autosave file: the last accepted non-null document
  out : List String := []

def parseMethod : String → Option HMethod
  | "G" => some .get | "P" => some .post | "U" => some .put | "A" => some .patch
  | "D" => some .delete | "H" => some .other
  | _ => none

def parseBody : String → Option Body
  | "-" => some .empty
  | "!" => some .bad
  | s => (parseWholeTree s).map .val

def wrongHash : Bytes := str "0000000000000000"

def mkHeader (p h : Bytes) : Bytes := quote :: p ++ 32 :: h ++ [quote]

def parseIfMatch (etags : List (Option (Bytes × Bytes))) (s : String) : Option Bytes :=
  match s.toList with
  | ['-'] => some []
  | 'e' :: k => match (String.ofList k).toNat? with
    | some k => match etags[k]? with
      | some (some (p, h)) => some (mkHeader p h)
      | _ => some []
    | none => none
  | 'p' :: r =>
    match (String.ofList r).splitOn "." with
    | [k, ph] => match k.toNat?, Hex.decode ph with
      | some k, some p => if !asciiOnly p then none else match etags[k]? with
        | some (some (_, h)) => some (mkHeader p h)
        | _ => some []
      | _, _ => none
    | _ => none
  | 'w' :: ph => match Hex.decode (String.ofList ph) with
    | some p => if asciiOnly p && !p.isEmpty && !p.any isSpace then some (mkHeader p wrongHash) else none
    | none => none
  | 'r' :: h => match Hex.decode (String.ofList h) with
    | some b =>
      if !asciiOnly b || b.isEmpty then none
      else if b.length ≥ 2 ∧ b.head? = some quote ∧ b.getLast? = some quote ∧
          (fieldsGo ((b.drop 1).dropLast) []).length = 2 then none
      else some b
    | none => none
  | _ => none

/-- flags: `f` = Cache-Control: must-revalidate, plus at most one Content-Type letter:
    (default) application/json, `n` none, `u` "application/json; charset=utf-8",
    `x` application/jsonx, `c` text/plain, `m` "json", `i` "text/plain; charset" (unparsable),
    `w` application/c12wrap (the registered adapter) -/
def ctOfChar : Char → Option CT
  | 'n' => some .none | 'u' => some .jsonParams | 'x' => some .jsonx | 'c' => some .plain
  | 'm' => some .noSlash | 'i' => some .invalid | 'w' => some .adapter
  | _ => none

def parseFlags (s : String) : Option (Bool × CT) :=
  if s == "-" then some (false, .json)
  else
    -- optional `f` (Cache-Control: must-revalidate) or `F` ("no-cache, must-revalidate": not the exact value
    -- the handlers compare with, so not forced), then at most one Content-Type letter
    match s.toList with
    | ['f'] => some (true, .json)
    | ['F'] => some (false, .json)
    | ['f', c] => (ctOfChar c).map fun ct => (true, ct)
    | ['F', c] => (ctOfChar c).map fun ct => (false, ct)
    | [c] => (ctOfChar c).map fun ct => (false, ct)
    | _ => none

def pathOK (p : Bytes) : Bool :=
  asciiOnly p && (cfgPrefix.isPrefixOf p || idPrefix.isPrefixOf p || p == loadPath || p == adaptPath) &&
    !(splitSlash p).any forbiddenName

/-! #### the wire op: domain shared with the harness -/

def wireByteOK (c : UInt8) : Bool := (0x21 ≤ c && c ≤ 0x7f) || (1 ≤ c && c ≤ 8)

def hasDup : List Bytes → Bool
  | [] => false
  | x :: r => r.contains x || hasDup r

def wireDomain (m : HMethod) (decoded : Bytes) (body : Body) : Bool :=
  decoded.all (fun c => 0x20 ≤ c && c ≤ 0x7e) &&
  ((str "/config").isPrefixOf decoded || (str "/id").isPrefixOf decoded || loadPath.isPrefixOf decoded ||
    adaptPath.isPrefixOf decoded) &&
  (splitSlash decoded).all (fun seg => (seg == dotdot && m == .get && cfgPrefix.isPrefixOf decoded) || !forbiddenName seg) &&
  !(decoded == adaptPath && m == .post && body == .empty)

def showWire (isGet : Bool) : WireResp → String
  | .badRequest => "B400"
  | .served r => showResp isGet r

/-! #### the ovl op -/

def parseOvlStep (st : String) : Option Req :=
  match st.splitOn "," with
  | [m, p, b] =>
    match parseMethod m, Hex.decode p, parseBody b with
    | some hm, some path, some body =>
      if hm == .get || hm == .other || !pathOK path || !cfgPrefix.isPrefixOf path then none
      else some ⟨hm, path, body, [], false, .json⟩
    | _, _, _ => none
  | _ => none

/-- answers of A, B, the GET, and the final document, for the serial order A;B;R (`true`) or A;R;B -/
def ovlOrder (s0 : State) (a b g : Req) (bFirst : Bool) : String :=
  let x := serve drvEnv a s0
  let y := serve drvEnv b x.1
  let rg := if bFirst then (serve drvEnv g y.1).2 else (serve drvEnv g x.1).2
  showResp false x.2 ++ ";" ++ showResp false y.2 ++ ";" ++ showResp true rg ++ ";" ++ encTree (cfgOf y.1.rawCfg)

def stepDrv (d : Drv) (step : String) : Option Drv :=
  match step.splitOn "," with
  | [m, p, b, im, fl] =>
    match parseMethod m, Hex.decode p, parseBody b, parseIfMatch d.etags im, parseFlags fl with
    | some hm, some path, some body, some ifm, some (force, ct) =>
      if !pathOK path then none
      -- POST /adapt with an empty body is not a function of the request (pooled buffer: nil vs empty
      -- json.RawMessage); outside the domain on both sides
      else if path == adaptPath && hm == .post && body == .empty then none else
      let req : Req := ⟨hm, path, body, ifm, force, ct⟩
      let (s', resp) := serve drvEnv req d.s
      let isGet := hm == .get
      let et := match resp with
        | .okGet out ep => some (ep, hashText out)
        | _ => none
      let loaded := s'.loads > d.s.loads
      let pl := if loaded && (probeOf s'.running).isSome then d.probeLoads + 1 else d.probeLoads
      let ps := if loaded && (probeOf s'.running).isSome then probeOf s'.running else d.probeSaw
      -- unsyncedDecodeAndRun: `if allowPersist && newCfg != nil && persist not disabled` write cfgJSON
      let sv := if loaded && cfgOf s'.rawCfg != .null then some (cfgOf s'.rawCfg) else d.saved
      -- adapter warnings: /adapt carries them in its answer; /load writes them once caddy.Load has
      -- succeeded (Warn.lean) — a rejected load answers its error status whatever the adapter warned about
      let rs :=
        if path == adaptPath && adapterWarned drvEnv drvWarns req then
          (match resp with
            | .okAdapt j => "dw:" ++ encTree j
            | r => showResp isGet r)
        else if path == loadPath && warnsWritten drvEnv drvWarns req d.s then "ww"
        else showResp isGet resp
      let line :=
        if hm == .get || hm == .other then showResp isGet resp
        else rs ++ "/" ++ encTree (cfgOf s'.rawCfg) ++ "/" ++ showIds s' ++ "/" ++
          toString pl ++ "/" ++ (match ps with | some j => encTree j | none => "-") ++ "/" ++ toString s'.loads ++ "/" ++ (match sv with | some j => encTree j | none => "-")
      some { s := s', etags := d.etags ++ [et], probeLoads := pl, probeSaw := ps, saved := sv, out := line :: d.out }
    | _, _, _, _, _ => none
  | _ => none

def runHist (steps : List String) : Option String :=
  match steps.foldlM stepDrv ({} : Drv) with
  | some d => some (";".intercalate d.out.reverse)
  | none => none

def handle : List String → String
  | ["hist", steps] =>
    match runHist (steps.splitOn ";") with
    | some s => s
    | none => "bad-op"
  -- byte-level models of the standard-library functions the model relies on, against the real ones
  | ["clean", p] =>
    match Hex.decode p with
    | some b => if b.head? == some slash then "ok " ++ Hex.encode (cleanRooted b) else "bad-op"
    | none => "bad-op"
  | ["join", a, b] =>
    match Hex.decode a, Hex.decode b with
    | some x, some y => if x.head? == some slash then "ok " ++ Hex.encode (pathJoin x y) else "bad-op"
    | _, _ => "bad-op"
  | ["fields", p] =>
    match Hex.decode p with
    | some b => if asciiOnly b then "ok " ++ ",".intercalate ((fieldsGo b []).map Hex.encode) else "bad-op"
    | none => "bad-op"
  | ["atoi", p] =>
    match Hex.decode p with
    | some b => match atoi b with
      | some i => "ok " ++ toString i
      | none => "err"
    | none => "bad-op"
  | ["itoa", n] =>
    match n.toNat? with
    | some k => "ok " ++ Hex.encode (natDigits k)
    | none => "bad-op"
  | ["route", p] =>
    match Hex.decode p with
    | some b =>
      if !asciiOnly b || b.isEmpty then "bad-op" else
      (match route b with
        | .config => "config" | .id => "id" | .load => "load" | .adapt => "adapt"
        | .redirect => "redirect" | .none => "none")
    | none => "bad-op"
  | ["pull", sub, pulled] =>
    -- a config naming a config loader (admin.config.load, no load_delay) is loaded; once it runs, caddy pulls
    -- <pulled> from the loader and applies it: changeConfig(POST, "/config", pulled, "", false)
    match parseWholeTree sub, (if pulled == "-" then none else parseBody pulled) with
    | some t, some pb =>
      let adminSec : Json := .obj [(str "config", .obj [(str "load", .obj [(str "module", .str (str "c12pull"))])])]
      let init : Json := .obj [(str "admin", adminSec), (str "apps", .obj [(str "c12", t)])]
      -- the loader's world: the admin section above is a valid top-level field
      let acc : Json → Bool := fun d => match d with
        | .obj kvs => (lookup (str "admin") kvs == none || lookup (str "admin") kvs == some adminSec) &&
                      probeAccepts (.obj (kvs.filter (fun e => e.1 != str "admin")))
        | d => probeAccepts d
      let env : Env := ⟨hashText, acc, wrapAdapter⟩
      let (s1, r1) := serve env ⟨.post, cfgPrefix, .val init, [], false, .json⟩ initState
      let s2 := if s1.loads == 1 then (pulledConfig env pb s1).1 else s1
      let sv := if s2.loads == 2 && cfgOf s2.rawCfg != .null then some (cfgOf s2.rawCfg)
                else if s1.loads == 1 then some init else none
      -- then one write through /id/: PATCH the first id of the document in place with {"w":1}
      let ids := ((idTexts (cfgOf s2.rawCfg)).foldl (fun acc b => insertUniq b acc) []).filter
        fun t => !t.isEmpty && !t.contains slash && t != dot && t != dotdot
      let follow := match ids with
        | [] => "noid"
        | t :: _ =>
          let (s3, r3) := serve env ⟨.patch, idPrefix ++ t, .val (.obj [(str "w", .num (str "1"))]), [], false, .json⟩ s2
          match r3 with
          | .ambiguous => "amb"
          | r3 => showResp false r3 ++ "/" ++ encTree (cfgOf s3.rawCfg)
      (match r1 with | .okWrite => "200" | .fail f => toString (statusOf f) | _ => "?") ++ "/" ++
        encTree (cfgOf s2.rawCfg) ++ "/" ++ toString s2.loads ++ "/" ++ (match sv with | some j => encTree j | none => "-") ++
        "/" ++ follow
    | _, _ => "bad-op"
  | ["cli", init, file, flags] =>
    -- `caddy reload --config <file>.json [--force] [--adapter …] [--address …]` against the running instance
    -- (after loading <init>); flags: f = --force, a = --address given explicitly, w / x = --adapter c12wrap / nosuch
    match parseWholeTree init, parseBody file with
    | some j, some fb =>
      if flags != "-" && !(flags.toList.all (fun c => c == 'f' || c == 'a' || c == 'w' || c == 'x')) then "bad-op"
      else if flags.contains 'w' && flags.contains 'x' then "bad-op" else
      let s0 := (serve drvEnv ⟨.post, cfgPrefix, .val .null, [], false, .json⟩ initState).1
      let s1 := (serve drvEnv ⟨.post, cfgPrefix, .val j, [], false, .json⟩ s0).1
      let ad : CliAdapter := if flags.contains 'w' then .registered else if flags.contains 'x' then .unknown else .none
      let (s2, res) := cliReload drvEnv fb ad (flags.contains 'f') (flags.contains 'a') s1
      (match res with
        | .ok => "ok"
        | .failedBeforeSend => "presend"
        | .refused f => "F" ++ toString (statusOf f) ++ ":" ++ showFail f) ++
      "/" ++ encTree (cfgOf s2.rawCfg) ++ "/" ++ toString (s2.loads - s1.loads)
    | _, _ => "bad-op"
  | "gg" :: doc :: paths =>
    -- overlapping GETs: the first is being written out while the others are served completely; each GET
    -- answers the value at its own path, whatever overlaps (`get_answer_is_independent_of_other_reads`)
    match parseWholeTree doc, paths.mapM Hex.decode with
    | some j, some ps =>
      if ps.length < 2 || ps.length > 4 || !ps.all pathOK then "bad-op" else
      let s := (serve drvEnv ⟨.post, cfgPrefix, .val j, [], false, .json⟩ initState).1
      "|".intercalate (ps.map fun p => showResp true (serve drvEnv (getReq p) s).2)
    | _, _ => "bad-op"
  | ["ovl", doc, a, b, p] =>
    -- writer A held inside changeConfig (write lock) while writer B and a GET wait: by the lock model
    -- (Regions.lean) the outcome is that of A;B;R or of A;R;B — both are the answer
    match parseWholeTree doc, parseOvlStep a, parseOvlStep b, Hex.decode p with
    | some j, some ra, some rb, some gp =>
      if !pathOK gp || !cfgPrefix.isPrefixOf gp then "bad-op" else
      let s0 := (serve drvEnv ⟨.post, cfgPrefix, .val j, [], false, .json⟩ initState).1
      ovlOrder s0 ra rb (getReq gp) true ++ "|" ++ ovlOrder s0 ra rb (getReq gp) false
    | _, _, _, _ => "bad-op"
  | ["wire", doc, m, t, b] =>
    -- one request written byte by byte onto a connection of a real http.Server in front of the handler,
    -- after loading <doc>: net/http parses the target, the mux routes on the escaped path, the handlers
    -- address the decoded one (Wire.lean)
    match parseWholeTree doc, parseMethod m, Hex.decode t, parseBody b with
    | some j, some hm, some tg, some body =>
      if hm == .other || hasDup (idTexts j) || tg.head? != some slash || !tg.all wireByteOK then "bad-op"
      else if (match parseTarget tg with | some (p, _) => !wireDomain hm p body | none => false) then "bad-op" else
      let s1 := (serve drvEnv ⟨.post, cfgPrefix, .val j, [], false, .json⟩ initState).1
      let x := wireServe drvEnv ⟨hm, [], body, [], false, .json⟩ tg s1
      showWire (hm == .get) x.2 ++ "/" ++ encTree (cfgOf x.1.rawCfg) ++ "/" ++ showIds x.1
    | _, _, _, _ => "bad-op"
  | ["idrace", n] =>
    -- samples the two lock regions of /id/ requests on the real handler (Regions.lean); the race is
    -- not a function of the input, the answer is constant
    match n.toNat? with
    | some k => if 1 ≤ k ∧ k ≤ 2000 then "idrace" else "bad-op"
    | none => "bad-op"
  | ["peek", k, n] =>
    -- concurrent readers while rejected writes are processed (one critical section each, Regions.lean):
    -- nothing to compute, the oracle asserts that no reader sees a trace of them
    match k.toNat?, n.toNat? with
    | some k, some n => if 1 ≤ k ∧ k ≤ 32 ∧ 1 ≤ n ∧ n ≤ 2000 then "peek" else "bad-op"
    | _, _ => "bad-op"
  | ["cas", k, n] =>
    match k.toNat?, n.toNat? with
    | some k, some n => if 1 ≤ k ∧ k ≤ 64 ∧ 1 ≤ n ∧ n ≤ 1000 then "cas " ++ toString (k * n) else "bad-op"
    | _, _ => "bad-op"
  | _ => "bad-op"

/-- counter-example lines replayed on the implementation on every run (see Witness.lean) -/
def witnessLines : List String := [
  "C12 hist P,2f636f6e6669672f,{61707073.{633132.{61.{62.#7#}612f62.{406964.s73.76.#1#}}}},-,-;G,2f69642f73,-,-,-"
]

end CaddyModel.C12
