/-
C12 — `stripIds` (the tree-level meaning of `RemoveMetaFields`) leaves no `@id` (`noIds`,
`stripIds_noIds`) and is the identity where there is none (`stripIds_of_noIds`), hence idempotent.
-/
import CaddyModel.C12.Model

namespace CaddyModel.C12

mutual
def noIds : Json → Bool
  | .arr xs => noIdsL xs
  | .obj kvs => noIdsO kvs
  | _ => true
def noIdsL : List Json → Bool
  | [] => true
  | x :: xs => noIds x && noIdsL xs
def noIdsO : Obj → Bool
  | [] => true
  | (k, v) :: r => k != idKey && noIds v && noIdsO r
end

mutual
theorem stripIds_noIds : ∀ j : Json, noIds (stripIds j) = true
  | .null => by simp [stripIds, noIds]
  | .bool _ => by simp [stripIds, noIds]
  | .num _ => by simp [stripIds, noIds]
  | .str _ => by simp [stripIds, noIds]
  | .arr xs => by simp [stripIds, noIds, stripIdsL_noIds xs]
  | .obj kvs => by simp [stripIds, noIds, stripIdsO_noIds kvs]
theorem stripIdsL_noIds : ∀ l : List Json, noIdsL (stripIdsL l) = true
  | [] => by simp [stripIdsL, noIdsL]
  | x :: xs => by simp [stripIdsL, noIdsL, stripIds_noIds x, stripIdsL_noIds xs]
theorem stripIdsO_noIds : ∀ l : Obj, noIdsO (stripIdsO l) = true
  | [] => by simp [stripIdsO, noIdsO]
  | (k, v) :: r => by
    unfold stripIdsO
    split
    · exact stripIdsO_noIds r
    · next hk => simp [noIdsO, hk, stripIds_noIds v, stripIdsO_noIds r]
end

mutual
theorem stripIds_of_noIds : ∀ j : Json, noIds j = true → stripIds j = j
  | .null, _ => by simp [stripIds]
  | .bool _, _ => by simp [stripIds]
  | .num _, _ => by simp [stripIds]
  | .str _, _ => by simp [stripIds]
  | .arr xs, h => by simp [noIds] at h; simp [stripIds, stripIdsL_of_noIds xs h]
  | .obj kvs, h => by simp [noIds] at h; simp [stripIds, stripIdsO_of_noIds kvs h]
theorem stripIdsL_of_noIds : ∀ l : List Json, noIdsL l = true → stripIdsL l = l
  | [], _ => by simp [stripIdsL]
  | x :: xs, h => by
    simp [noIdsL] at h
    simp [stripIdsL, stripIds_of_noIds x h.1, stripIdsL_of_noIds xs h.2]
theorem stripIdsO_of_noIds : ∀ l : Obj, noIdsO l = true → stripIdsO l = l
  | [], _ => by simp [stripIdsO]
  | (k, v) :: r, h => by
    simp [noIdsO] at h
    simp [stripIdsO, h.1.1, stripIds_of_noIds v h.1.2, stripIdsO_of_noIds r h.2]
end

theorem stripIds_idem (j : Json) : stripIds (stripIds j) = stripIds j :=
  stripIds_of_noIds _ (stripIds_noIds j)

end CaddyModel.C12
