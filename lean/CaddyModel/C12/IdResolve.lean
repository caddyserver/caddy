/-
C12 — `/id/<id>` end to end: mux → handleConfigID → internal redirect → mux → handleConfig.
-/
import CaddyModel.C12.TaggedLemmas
import CaddyModel.C12.StateLemmas

namespace CaddyModel.C12

theorem cleanRooted_render {segs : List Bytes} (hok : okSegs segs) (hne : segs ≠ []) :
    cleanRooted (renderPath segs) = renderPath segs := by
  unfold cleanRooted
  rw [splitSlash_render hok hne, foldl_cleanStep_rooted hok, List.reverse_reverse]

theorem cleanRooted_render_slash {segs : List Bytes} (hok : okSegs segs) (hne : segs ≠ []) :
    cleanRooted (renderPath segs ++ slash :: []) = renderPath segs := by
  unfold cleanRooted
  rw [splitSlash_append, splitSlash_render hok hne, List.foldl_append, foldl_cleanStep_rooted hok]
  simp [splitSlash, cleanStep]

theorem muxClean_render {segs : List Bytes} (hok : okSegs segs) (hne : segs ≠ []) :
    muxClean (renderPath segs) = renderPath segs := by
  obtain ⟨body, c, hc, hr⟩ := render_snoc hok hne
  unfold muxClean
  have : (renderPath segs).getLast? ≠ some slash := by
    rw [hr, List.getLast?_concat]; simp; exact hc
  simp [this, cleanRooted_render hok hne]

theorem okSeg_cfgKey : okSeg cfgKey := by unfold okSeg; decide
theorem okSeg_idSeg : okSeg idSeg := by unfold okSeg; decide

theorem okSegs_cfg {segs : List Bytes} (h : okSegs segs) : okSegs (cfgKey :: segs) :=
  okSegs_append (okSegs_singleton okSeg_cfgKey) h

theorem route_of_clean {p : Bytes} (h1 : p.head? = some slash) (h2 : muxClean p = p)
    (h3 : ¬(p = slash :: cfgKey ∨ p = slash :: idSeg)) :
    route p = if cfgPrefix.isPrefixOf p then .config else if idPrefix.isPrefixOf p then .id
      else if p = loadPath then .load else if p = adaptPath then .adapt else .none := by
  unfold route
  rw [if_neg fun h => h h1, if_neg fun h => h h2, if_neg h3]

theorem route_render_config {s : Bytes} {rest : List Bytes} (hok : okSegs (cfgKey :: s :: rest)) :
    route (renderPath (cfgKey :: s :: rest)) = .config := by
  have hr : renderPath (cfgKey :: s :: rest) = cfgPrefix ++ (s ++ (rest.flatMap fun p => slash :: p)) := by
    simp [renderPath, cfgPrefix]
  have hm := muxClean_render hok (by simp)
  rw [hr] at hm ⊢
  rw [route_of_clean (by simp [cfgPrefix]) hm (by simp [cfgPrefix, cfgKey, idSeg]),
    if_pos (List.isPrefixOf_iff_prefix.2 (List.prefix_append _ _))]

theorem route_render_id {t : Bytes} {rest : List Bytes} (hok : okSegs (idSeg :: t :: rest)) :
    route (renderPath (idSeg :: t :: rest)) = .id := by
  have hr : renderPath (idSeg :: t :: rest) = idPrefix ++ (t ++ (rest.flatMap fun p => slash :: p)) := by
    simp [renderPath, idPrefix]
  have hm := muxClean_render hok (by simp)
  rw [hr] at hm ⊢
  rw [route_of_clean (by simp [idPrefix]) hm (by simp [idPrefix, cfgKey, idSeg]),
    if_neg (by simp [cfgPrefix, idPrefix, cfgKey, idSeg, List.isPrefixOf]),
    if_pos (List.isPrefixOf_iff_prefix.2 (List.prefix_append _ _))]

/-- the expanded path of a tagged position: "/config/" for the top-level object (`segs = []`;
    the code before /repo's fix: `id_on_root_old_code_fails`), "/config/k1/…/kn" below -/
def idPath (segs : List Bytes) : Bytes := if segs = [] then cfgPrefix else renderPath (cfgKey :: segs)

theorem rootSlash_render (l : List Bytes) : rootSlash (renderPath (cfgKey :: l)) = idPath l := by
  cases l with
  | nil => decide
  | cons a b =>
    have : renderPath (cfgKey :: a :: b) ≠ slash :: cfgKey := by simp [renderPath, cfgKey]
    simp [rootSlash, idPath, this]

theorem route_idPath {l : List Bytes} (h : okSegs l) : route (idPath l) = .config := by
  cases l with
  | nil => decide
  | cons a b =>
    rw [idPath, if_neg (List.cons_ne_nil _ _)]
    exact route_render_config (okSegs_cfg h)

theorem pathParts_idPath {segs : List Bytes} (hok : okSegs segs) (hnd : segs.getLast? ≠ some dots) :
    pathParts (idPath segs) = (cfgKey :: segs, false) ∧ trimSlash (idPath segs) ≠ [] := by
  have hokc := okSegs_cfg hok
  cases segs with
  | nil => decide
  | cons a b =>
    rw [idPath, if_neg (List.cons_ne_nil _ _)]
    exact ⟨pathParts_render hokc (by simp) (by simpa [List.getLast?_cons_cons] using hnd), trimSlash_render_ne hokc (by simp)⟩

theorem renderPath_append {a rest : List Bytes} (ha : a ≠ []) (hr : rest ≠ []) :
    renderPath (a ++ rest) = renderPath a ++ slash :: joinSlash rest := by
  rw [renderPath_ne_nil (by simp [ha]), renderPath_ne_nil ha, List.flatMap_append, flatMap_joinSlash hr]

theorem handleConfigID_rest {idx : Index} {t : Bytes} {segs rest : List Bytes} (hokid : okSegs (idSeg :: t :: rest))
    (hc : candidates t idx = [renderPath segs]) (hok : okSegs segs) (hne : segs ≠ []) :
    handleConfigID idx (renderPath (idSeg :: t :: rest)) = .to (rootSlash (renderPath (segs ++ rest))) := by
  have hrest : okSegs rest := hokid.tail.tail
  have ht : t ≠ [] := (hokid t (by simp)).1
  unfold handleConfigID
  rw [splitSlash_render hokid (by simp)]
  simp only
  simp only [ht, if_false, hc]
  have : ¬ (([] : Bytes) ≠ [] ∨ idSeg ≠ idSeg) := by simp
  simp only [this, if_false]
  cases rest with
  | nil => simp [joinSlash, cleanRooted_render_slash hok hne]
  | cons r0 r' =>
    rw [← renderPath_append hne (by simp), cleanRooted_render (okSegs_append hok hrest) (by simp [hne])]

theorem candidates_tagged {s : State} {j : Json} {segs : List Bytes} {t : Bytes} (hi : Inv s)
    (hj : s.rawCfgJSON = some j) (hsegs : okSegs segs)
    (huniq : (taggedJ j).filter (fun e => e.2 = t) = [(segs, t)]) :
    candidates t s.index = [renderPath (cfgKey :: segs)] := by
  have hidx : s.index = (taggedJ j).map (entryOf (slash :: cfgKey)) := indexJ_tagged j _ _ (hi.idx_some hj)
  have hfold : segs.foldl pathJoin (renderPath [cfgKey]) = renderPath (cfgKey :: segs) :=
    foldl_pathJoin_ok (okSegs_singleton okSeg_cfgKey) (by simp) hsegs
  rw [hidx, candidates_map, huniq]
  exact congrArg (fun x => [x]) hfold

/-- **`/id/<t>/<rest>` is `/config/<segs>/<rest>`** ("/config/" when both are empty), for an id `t` carried by exactly
    one object, at an addressable position `segs` of the loaded document, and for every kind of request -/
theorem serve_id_tagged {env : Env} {s : State} (hi : Inv s) {j : Json} (hj : s.rawCfgJSON = some j)
    {segs rest : List Bytes} {t : Bytes} (hsegs : okSegs segs) (hid : okSegs (idSeg :: t :: rest))
    (huniq : (taggedJ j).filter (fun e => e.2 = t) = [(segs, t)]) (r : Req)
    (hp : r.path = renderPath (idSeg :: t :: rest)) :
    serve env r s = handleConfig env r (idPath (segs ++ rest)) s := by
  have hrest : okSegs rest := hid.tail.tail
  have hto := handleConfigID_rest (idx := s.index) hid (candidates_tagged hi hj hsegs huniq) (okSegs_cfg hsegs) (by simp)
  rw [List.cons_append, rootSlash_render] at hto
  rw [serve_id (hp ▸ route_render_id hid), hp, hto, finishId_config (route_idPath (okSegs_append hsegs hrest))]

end CaddyModel.C12
