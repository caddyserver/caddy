/-
C12 — every interleaving of lock regions is a serial history: one region keeps the state that of the
history (`regionStep_serial`); an answer is explained by a prefix of the history (`stateAt`,
`Explained`); both, with what pending /id/ requests hold, are the invariant `RInv` (`rinv_step`, `rinv_run`).
-/
import CaddyModel.C12.StateLemmas

namespace CaddyModel.C12

theorem serial_append (env : Env) (a b : List Req) (s : State) :
    serial env (a ++ b) s = serial env b (serial env a s) := by
  simp [serial, List.foldl_append]

theorem finishId_serial (env : Env) (r : Req) (res : IdRes) (s : State) :
    (finishId env r res s).1 = serial env (finishId env r res s).2.2.toList s := by
  unfold finishId
  cases res with
  | fail f => simp [serial]
  | ambiguous => simp [serial]
  | to p =>
    simp only
    cases hr : route p <;> simp [serial, Option.toList]
    rw [serve_config_path hr]

theorem regionStep_serial {env : Env} {s0 : State} {y : RSys} (h : y.s = serial env y.hist s0) (c : Nat) (r : Req) :
    (regionStep env y c r).s = serial env (regionStep env y c r).hist s0 := by
  fun_cases regionStep env y c r
  · next r0 res _ => simp only; rw [serial_append, ← h]; exact finishId_serial env r0 res y.s
  · exact h
  · simp only; rw [serial_append, ← h]; rfl

theorem serial_reachable {env : Env} : ∀ (reqs : List Req) (s : State), Inv s → Inv (serial env reqs s) :=
  fun reqs _ h => List.foldlRecOn reqs _ h fun _ hs _ _ => serve_inv hs

def stateAt (env : Env) (s0 : State) (hist : List Req) (n : Nat) : State := serial env (hist.take n) s0

/-- an answer some thread got is explained by the serial history `hist`: a direct request was
    served atomically in the state after some prefix; an /id/ request was resolved against the
    index of the state after one prefix and its handler ran in the state after a later one -/
def Explained (env : Env) (s0 : State) (hist : List Req) (e : Nat × Req × Resp) : Prop :=
  (∃ n, n ≤ hist.length ∧ e.2.2 = (serve env e.2.1 (stateAt env s0 hist n)).2) ∨
  (∃ m n, m ≤ n ∧ n ≤ hist.length ∧
    e.2.2 = (finishId env e.2.1 (handleConfigID (stateAt env s0 hist m).index e.2.1.path) (stateAt env s0 hist n)).2.1)

theorem stateAt_append {env : Env} {s0 : State} {hist : List Req} (ext : List Req) {n : Nat} (h : n ≤ hist.length) :
    stateAt env s0 (hist ++ ext) n = stateAt env s0 hist n := by
  unfold stateAt; rw [List.take_append_of_le_length h]

theorem stateAt_full (env : Env) (s0 : State) (hist : List Req) : stateAt env s0 hist hist.length = serial env hist s0 := by
  unfold stateAt; rw [List.take_length]

theorem Explained.mono {env : Env} {s0 : State} {hist : List Req} (ext : List Req) {e : Nat × Req × Resp}
    (h : Explained env s0 hist e) : Explained env s0 (hist ++ ext) e := by
  rcases h with ⟨n, hn, h⟩ | ⟨m, n, hmn, hn, h⟩
  · exact Or.inl ⟨n, by simp; omega, by rw [stateAt_append ext hn]; exact h⟩
  · exact Or.inr ⟨m, n, hmn, by simp; omega, by
      rw [stateAt_append ext hn, stateAt_append ext (Nat.le_trans hmn hn)]; exact h⟩

structure RInv (env : Env) (s0 : State) (y : RSys) : Prop where
  state : y.s = serial env y.hist s0
  answers : ∀ e ∈ y.done, Explained env s0 y.hist e
  /-- a thread between its two regions holds a resolution computed from the index of an earlier serial state -/
  pending : ∀ c r res, y.pend c = .resolved r res →
    ∃ m, m ≤ y.hist.length ∧ res = handleConfigID (stateAt env s0 y.hist m).index r.path

theorem rinv_start (env : Env) (s0 : State) : RInv env s0 (RSys.start s0) :=
  ⟨rfl, by intro e he; simp [RSys.start] at he, by intro c r res h; simp [RSys.start] at h⟩

theorem pending_mono {env : Env} {s0 : State} {hist : List Req} (ext : List Req) {r : Req} {res : IdRes}
    (h : ∃ m, m ≤ hist.length ∧ res = handleConfigID (stateAt env s0 hist m).index r.path) :
    ∃ m, m ≤ (hist ++ ext).length ∧ res = handleConfigID (stateAt env s0 (hist ++ ext) m).index r.path := by
  obtain ⟨m, hm, hres⟩ := h
  exact ⟨m, by simp; omega, by rw [stateAt_append _ hm]; exact hres⟩

theorem rinv_step {env : Env} {s0 : State} {y : RSys} (hi : RInv env s0 y) (c : Nat) (r : Req) :
    RInv env s0 (regionStep env y c r) := by
  have hstate := regionStep_serial hi.state c r
  have hnow : stateAt env s0 y.hist y.hist.length = y.s := by rw [stateAt_full, ← hi.state]
  refine ⟨hstate, ?_, ?_⟩ <;> clear hstate <;> fun_cases regionStep env y c r
  · next r0 res hp =>
    obtain ⟨m, hm, hres⟩ := hi.pending c r0 res hp
    refine List.forall_mem_append.2 ⟨fun e he => (hi.answers e he).mono _, List.forall_mem_singleton.2 ?_⟩
    exact Or.inr ⟨m, y.hist.length, hm, by simp, by
      simp only; rw [stateAt_append _ (Nat.le_refl _), stateAt_append _ hm, hnow, ← hres]⟩
  · exact hi.answers
  · refine List.forall_mem_append.2 ⟨fun e he => (hi.answers e he).mono _, List.forall_mem_singleton.2 ?_⟩
    exact Or.inl ⟨y.hist.length, by simp, by simp only; rw [stateAt_append _ (Nat.le_refl _), hnow]⟩
  · next r0 res hp =>
    intro c' r' res' h
    simp only [updP] at h
    split at h
    · cases h
    · exact pending_mono _ (hi.pending c' r' res' h)
  · intro c' r' res' h
    simp only [updP] at h
    split at h
    · cases h; exact ⟨y.hist.length, Nat.le_refl _, by rw [hnow]⟩
    · exact hi.pending c' r' res' h
  · intro c' r' res' h
    exact pending_mono _ (hi.pending c' r' res' h)

theorem rinv_run {env : Env} {s0 : State} (sched : List (Nat × Req)) (y : RSys) (h : RInv env s0 y) :
    RInv env s0 (regionRun env sched y) :=
  List.foldlRecOn sched _ h fun _ hy cr _ => rinv_step hy cr.1 cr.2

end CaddyModel.C12
