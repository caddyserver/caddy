/-
C12 — what the model takes for granted about the source, decided on the facts that
`Gen/ConfigLocks.lean` holds (regenerated from caddy.go / admin.go on every run): a request to
/config/ is one critical section with respect to the config globals and a request to /id/ two
(what `Cas.lean` and `Regions.lean` assume); the mux registers the config and id handlers as `route` has them; the buffer a
GET response is encoded into is not handed back before the response is written. The three
theorems are re-elaborated whenever the generated file changes.
-/
import CaddyModel.Gen.ConfigLocks

namespace CaddyModel.C12

def isLockOp (e : String) : Bool :=
  ["Lock", "Unlock", "RLock", "RUnlock", "TryLock", "TryRLock",
   "defer:Lock", "defer:Unlock", "defer:RLock", "defer:RUnlock"].contains e

/-- events that read or change `rawCfg` / `rawCfgJSON` / `rawCfgIndex` -/
def touchesConfig (e : String) : Bool :=
  ["call:unsyncedConfigAccess", "call:indexConfigObjects", "call:unsyncedDecodeAndRun",
   "set:rawCfg", "set:rawCfgJSON", "set:rawCfgIndex"].contains e

def eventsOf (name : String) (t : List (String × List String)) : List String :=
  match t.find? (·.1 == name) with
  | some r => r.2
  | none => ["<missing>"]

/-- the function takes `first` as its first statement about the config, releases it only by
    the matching deferred call, and performs no other lock operation: everything it does to
    the config happens inside one critical section that lasts until it returns -/
def oneCriticalSection (first release : String) (evs : List String) : Bool :=
  match evs with
  | a :: b :: rest => a == first && b == "defer:" ++ release && !rest.any isLockOp
  | _ => false

/-- what the transition systems of `Cas.lean` and (last clause) `Regions.lean` assume of the code:
    * `changeConfig` holds the write lock from before the If-Match read to after the commit
      (check, mutation, index, run, rollback and the two assignments are one critical section);
    * `readConfig` holds the read lock around its one traversal;
    * `unsyncedConfigAccess` itself never locks or unlocks;
    * `handleConfig` reaches the config only through exactly one `readConfig` (GET: body and
      ETag come from that single read) and exactly one `changeConfig`;
    * `handleConfigID` only reads the index, under the read lock -/
def lockDisciplineOK (t : List (String × List String)) : Bool :=
  oneCriticalSection "Lock" "Unlock" (eventsOf "changeConfig" t) &&
  (eventsOf "changeConfig" t).count "call:unsyncedDecodeAndRun" == 1 &&
  (eventsOf "changeConfig" t).count "set:rawCfgJSON" == 1 &&
  oneCriticalSection "RLock" "RUnlock" (eventsOf "readConfig" t) &&
  (eventsOf "readConfig" t).count "call:unsyncedConfigAccess" == 1 &&
  !(eventsOf "unsyncedConfigAccess" t).any isLockOp &&
  (eventsOf "handleConfig" t).count "call:readConfig" == 1 &&
  (eventsOf "handleConfig" t).count "call:changeConfig" == 1 &&
  !(eventsOf "handleConfig" t).any (fun e => isLockOp e || touchesConfig e) &&
  eventsOf "handleConfigID" t == ["RLock", "RUnlock"]

/-- **the atomic steps of the transition system are the critical sections of the code** -/
theorem request_atomicity_matches_source : lockDisciplineOK Gen.configLocks = true := by decide +kernel

-- non-vacuity: the predicate rejects the two ways the discipline is typically broken
-- (If-Match check under the read lock, then a separate write-locked section: time of check / time of use)
example : lockDisciplineOK [("changeConfig", ["RLock", "call:unsyncedConfigAccess", "RUnlock", "Lock", "defer:Unlock",
    "call:unsyncedConfigAccess", "call:indexConfigObjects", "call:unsyncedDecodeAndRun", "set:rawCfgJSON", "set:rawCfgIndex"]),
    ("readConfig", ["RLock", "defer:RUnlock", "call:unsyncedConfigAccess"]),
    ("handleConfig", ["call:readConfig", "call:makeEtag", "call:changeConfig"]),
    ("handleConfigID", ["RLock", "RUnlock"]), ("unsyncedConfigAccess", [])] = false := by decide +kernel
-- (ETag computed from a second read)
example : lockDisciplineOK [("changeConfig", ["Lock", "defer:Unlock", "call:unsyncedConfigAccess", "call:unsyncedConfigAccess",
    "call:indexConfigObjects", "call:unsyncedDecodeAndRun", "set:rawCfgJSON", "set:rawCfgIndex"]),
    ("readConfig", ["RLock", "defer:RUnlock", "call:unsyncedConfigAccess"]),
    ("handleConfig", ["call:readConfig", "call:readConfig", "call:makeEtag", "call:changeConfig"]),
    ("handleConfigID", ["RLock", "RUnlock"]), ("unsyncedConfigAccess", [])] = false := by decide +kernel

/-- the routes of `newAdminHandler` that do not concern the config document -/
def otherRoutes : List String := [
  "\"/stop\"|AdminHandlerFunc(handleStop)|0",
  "\"/debug/pprof/\"|http.HandlerFunc(pprof.Index)|0",
  "\"/debug/pprof/cmdline\"|http.HandlerFunc(pprof.Cmdline)|0",
  "\"/debug/pprof/profile\"|http.HandlerFunc(pprof.Profile)|0",
  "\"/debug/pprof/symbol\"|http.HandlerFunc(pprof.Symbol)|0",
  "\"/debug/pprof/trace\"|http.HandlerFunc(pprof.Trace)|0",
  "\"/debug/vars\"|expvar.Handler()|0"]

def cfgRoute : String := "\"/\"+rawConfigKey+\"/\"|AdminHandlerFunc(handleConfig)|0"
def idRoute : String := "\"/id/\"|AdminHandlerFunc(handleConfigID)|0"
def moduleRoutes : String := "route.Pattern|route.Handler|2"

/-- the mux of the model (`route`) is the mux of the code, on the local and on the remote
    endpoint alike: "/config/" → handleConfig and "/id/" → handleConfigID are registered
    exactly once and outside any conditional of `newAdminHandler` (nesting 0: not under
    `if remote`); every other built-in route is one of the known ones (none of which lies
    below /config/ or /id/, so nothing shadows the two handlers); module routes — where
    caddyconfig's /load and /adapt come from — are added in the loop over the `admin.api`
    modules -/
def routesOK (rs : List String) : Bool :=
  rs.count cfgRoute == 1 && rs.count idRoute == 1 && rs.count moduleRoutes == 1 &&
  rs.all fun r => r == cfgRoute || r == idRoute || r == moduleRoutes || otherRoutes.contains r

theorem config_routes_match_source : routesOK Gen.adminRoutes = true := by decide +kernel

/-- the pooled buffer a GET is encoded into stays checked out until the response has been
    written: the body is written (`w.Write`), and every `bufferPool.Put` is a deferred call of a
    function that itself performs that write — it cannot run while `buf.Bytes()` is still to be
    sent. (Handed back earlier, an overlapping GET re-uses the buffer and overwrites the bytes
    of the first; the `gg` op exhibits that on the real handler.) -/
def bufferScopeOK (evs : List (String × String)) : Bool :=
  evs.any (fun e => e.2 == "Write") && evs.any (fun e => e.2 == "Get") &&
  evs.all fun e => (e.2 != "Put" && e.2 != "defer:Put") ||
    (e.2 == "defer:Put" && evs.any (fun w => w.2 == "Write" && w.1 == e.1))

theorem response_buffer_scope_matches_source : bufferScopeOK Gen.responseBuffer = true := by decide +kernel

-- non-vacuity: the Put deferred in a helper that returns before the handler writes
example : bufferScopeOK [("readConfigWithEtag", "Get"), ("readConfigWithEtag", "defer:Put"), ("handleConfig", "Write")] = false := by decide +kernel
-- … while a helper that does all three is fine
example : bufferScopeOK [("serveConfigGET", "Get"), ("serveConfigGET", "defer:Put"), ("serveConfigGET", "Write")] = true := by decide +kernel

end CaddyModel.C12
