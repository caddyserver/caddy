/-
C03 — the two balances of the property, as facts about event lists: Provision / Cleanup of module
instances (`Bal`) and "Start returned nil" / Stop of apps (`BalS`). Both are `Paired` of two event
kinds; they differ in how a new identity is known to be new: an instance by its number, an app by
(context number, name not yet attempted).
Below them, what `C01/Phases.lean` states the phases with: `SB` (the balance of a state), `nq` / `keys` / `probeApps`
of a list that grows by one entry; last `Quiet`, in which `closeLogs_quiet` (Lemmas.lean) is stated and which nothing else uses.
-/
import CaddyModel.C03.Model
import CaddyModel.C03.Paired

namespace CaddyModel.C03
open CaddyModel.Lifecycle

/-! ### Provision / Cleanup

`Bal E L n`: in the event list `E`, with `L` the instances that are currently alive (loaded into
some context that has not been cancelled) and `n` the instance counter: no instance was
provisioned twice, the live ones were provisioned once and never cleaned up, every other one was
cleaned up exactly as often as it was provisioned. -/
structure Bal (E : List Ev) (L : List Inst) (n : Nat) : Prop where
  fresh : ∀ e ∈ E, ∀ i, evInst e = some i → i.seq < n
  lfresh : ∀ i ∈ L, i.seq < n
  nodup : L.Nodup
  prov1 : ∀ i, E.count (.prov i) ≤ 1
  live : ∀ i ∈ L, E.count (.clean i) = 0 ∧ E.count (.prov i) = 1
  dead : ∀ i, i ∉ L → E.count (.clean i) = E.count (.prov i)

theorem provClean : Kinds Ev.prov Ev.clean :=
  ⟨fun _ _ e => Ev.prov.inj e, fun _ _ e => Ev.clean.inj e, fun _ _ e => nomatch e⟩

theorem startedStop : Kinds (fun p : Nat × Nat => Ev.started p.1 p.2) (fun p => Ev.stop p.1 p.2) :=
  ⟨fun ⟨_, _⟩ ⟨_, _⟩ e => by cases e; rfl, fun ⟨_, _⟩ ⟨_, _⟩ e => by cases e; rfl, fun _ _ e => nomatch e⟩

namespace Bal
variable {E : List Ev} {L : List Inst} {n : Nat}

theorem paired (h : Bal E L n) : Paired Ev.prov Ev.clean E L := ⟨h.nodup, h.prov1, h.live, h.dead⟩

theorem perm {L' : List Inst} (h : Bal E L n) (p : L.Perm L') : Bal E L' n :=
  have q := h.paired.perm p
  ⟨h.fresh, fun i hi => h.lfresh i (p.mem_iff.mpr hi), q.nodup, q.once, q.live, q.dead⟩

theorem mono {n' : Nat} (h : Bal E L n) (hn : n ≤ n') : Bal E L n' :=
  ⟨fun e he i hi => Nat.lt_of_lt_of_le (h.fresh e he i hi) hn,
   fun i hi => Nat.lt_of_lt_of_le (h.lfresh i hi) hn, h.nodup, h.prov1, h.live, h.dead⟩

theorem fresh_append {n' : Nat} (h : Bal E L n) (hn : n ≤ n') (es : List Ev)
    (hes : ∀ e ∈ es, ∀ i, evInst e = some i → i.seq < n') :
    ∀ e ∈ E ++ es, ∀ i, evInst e = some i → i.seq < n' :=
  List.forall_mem_append.mpr ⟨fun e he i hi => Nat.lt_of_lt_of_le (h.fresh e he i hi) hn, hes⟩

theorem append (h : Bal E L n) (es : List Ev) (hpc : ∀ e ∈ es, ∀ i, e ≠ .prov i ∧ e ≠ .clean i)
    (hes : ∀ e ∈ es, ∀ i, evInst e = some i → i.seq < n) : Bal (E ++ es) L n :=
  have q := h.paired.other es hpc
  ⟨h.fresh_append (Nat.le_refl n) es hes, h.lfresh, q.nodup, q.once, q.live, q.dead⟩

theorem other (h : Bal E L n) (es : List Ev) (hes : ∀ e ∈ es, evInst e = none) : Bal (E ++ es) L n := by
  refine h.append es (fun e he i => ?_) fun e he i hi => ?_
  · constructor <;> (rintro rfl; cases hes _ he)
  · rw [hes e he] at hi; cases hi

theorem valid (h : Bal E L n) (i : Inst) (hi : i.seq < n) : Bal (E ++ [.valid i]) L n := by
  refine h.append _ (fun e he j => ?_) fun e he j hj => ?_
  · cases List.mem_singleton.mp he; constructor <;> (intro hh; cases hh)
  · cases List.mem_singleton.mp he; cases hj; exact hi

theorem prov (h : Bal E L n) (i : Inst) (hi : i.seq = n) : Bal (E ++ [.prov i]) (i :: L) (n + 1) := by
  have q := h.paired.opened provClean i
    (List.count_eq_zero.mpr fun hm => absurd (h.fresh _ hm i rfl) (by omega)) fun hm => absurd (h.lfresh i hm) (by omega)
  refine ⟨h.fresh_append (Nat.le_succ n) _ fun e he j hj => ?_, fun j hj => ?_, q.nodup, q.once, q.live, q.dead⟩
  · cases List.mem_singleton.mp he; cases hj; omega
  · rcases List.mem_cons.mp hj with rfl | hj
    · omega
    · exact Nat.lt_succ_of_lt (h.lfresh j hj)

theorem clean {i : Inst} (h : Bal E (i :: L) n) : Bal (E ++ [.clean i]) L n := by
  have q := h.paired.closed provClean
  refine ⟨h.fresh_append (Nat.le_refl n) _ fun e he j hj => ?_, fun j hj => h.lfresh j (List.mem_cons_of_mem _ hj),
    q.nodup, q.once, q.live, q.dead⟩
  cases List.mem_singleton.mp he; cases hj; exact h.lfresh _ List.mem_cons_self

theorem prov_valid (h : Bal E L n) (i : Inst) (hi : i.seq = n) :
    Bal (E ++ [.prov i, .valid i]) (i :: L) (n + 1) := by
  simpa using (h.prov i hi).valid i (by omega)

theorem prov_clean (h : Bal E L n) (i : Inst) (hi : i.seq = n) : Bal (E ++ [.prov i, .clean i]) L (n + 1) := by
  simpa using (h.prov i hi).clean

theorem prov_valid_clean (h : Bal E L n) (i : Inst) (hi : i.seq = n) :
    Bal (E ++ [.prov i, .valid i, .clean i]) L (n + 1) := by
  simpa using (h.prov_valid i hi).clean

theorem valid_clean {i : Inst} (h : Bal E (i :: L) n) : Bal (E ++ [.valid i, .clean i]) L n := by
  simpa using (h.valid i (h.lfresh i List.mem_cons_self)).clean

theorem cleans : ∀ (P : List Inst) {E : List Ev}, Bal E (L ++ P) n → Bal (E ++ P.map .clean) L n
  | [], _, h => by simpa using h
  | _ :: P, _, h => by simpa using cleans P (h.perm List.perm_middle).clean

end Bal

/-- `BalS E A n F`: in the app-event list `E`, with `A` the probe apps that are currently running,
    `n` the number of the context being built and `F` the names of its apps whose Start has
    already been attempted: no app finished Start twice, the running ones finished Start once and
    were never stopped, every other one was stopped exactly as often as it finished Start. -/
structure BalS (E : List Ev) (A : List (Nat × Nat)) (n : Nat) (F : List Nat) : Prop where
  fresh : ∀ c nm, (Ev.started c nm ∈ E ∨ Ev.stop c nm ∈ E) → c < n ∨ (c = n ∧ nm ∈ F)
  afresh : ∀ p ∈ A, p.1 < n ∨ (p.1 = n ∧ p.2 ∈ F)
  nodup : A.Nodup
  started1 : ∀ c nm, E.count (.started c nm) ≤ 1
  live : ∀ p ∈ A, E.count (.stop p.1 p.2) = 0 ∧ E.count (.started p.1 p.2) = 1
  dead : ∀ p, p ∉ A → E.count (.stop p.1 p.2) = E.count (.started p.1 p.2)

section
variable {E : List Ev} {A : List (Nat × Nat)} {n : Nat} {F : List Nat}

theorem BalS.paired (h : BalS E A n F) :
    Paired (fun p => Ev.started p.1 p.2) (fun p => Ev.stop p.1 p.2) E A :=
  ⟨h.nodup, fun p => h.started1 p.1 p.2, h.live, h.dead⟩

theorem BalS.perm {A' : List (Nat × Nat)} (h : BalS E A n F) (p : A.Perm A') : BalS E A' n F :=
  have q := h.paired.perm p
  ⟨h.fresh, fun x hx => h.afresh x (p.mem_iff.mpr hx), q.nodup, h.started1, q.live, q.dead⟩

theorem BalS.monoF {F' : List Nat} (h : BalS E A n F) (hf : ∀ x ∈ F, x ∈ F') : BalS E A n F' :=
  ⟨fun c nm hm => (h.fresh c nm hm).imp id (fun ⟨a, b⟩ => ⟨a, hf _ b⟩),
   fun p hp => (h.afresh p hp).imp id (fun ⟨a, b⟩ => ⟨a, hf _ b⟩), h.nodup, h.started1, h.live, h.dead⟩

/-- the next context: everything so far is older -/
theorem BalS.bump (h : BalS E A n F) : BalS E A (n + 1) [] :=
  ⟨fun c nm hm => Or.inl (by rcases h.fresh c nm hm with h | ⟨h, _⟩ <;> omega),
   fun p hp => Or.inl (by rcases h.afresh p hp with h | ⟨h, _⟩ <;> omega), h.nodup, h.started1, h.live, h.dead⟩

theorem BalS.fresh_append (h : BalS E A n F) (es : List Ev)
    (hes : ∀ c nm, (Ev.started c nm ∈ es ∨ Ev.stop c nm ∈ es) → c < n ∨ (c = n ∧ nm ∈ F)) :
    ∀ c nm, (Ev.started c nm ∈ E ++ es ∨ Ev.stop c nm ∈ E ++ es) → c < n ∨ (c = n ∧ nm ∈ F) := by
  intro c nm hm
  rcases hm with hm | hm <;> rcases List.mem_append.mp hm with hm | hm
  · exact h.fresh c nm (Or.inl hm)
  · exact hes c nm (Or.inl hm)
  · exact h.fresh c nm (Or.inr hm)
  · exact hes c nm (Or.inr hm)

theorem BalS.other (h : BalS E A n F) (es : List Ev)
    (hes : ∀ e ∈ es, ∀ c nm, e ≠ .started c nm ∧ e ≠ .stop c nm) : BalS (E ++ es) A n F := by
  have q := h.paired.other es fun e he p => hes e he p.1 p.2
  refine ⟨h.fresh_append es fun c nm hm => ?_, h.afresh, q.nodup, fun c nm => q.once (c, nm), q.live, q.dead⟩
  rcases hm with hm | hm
  · exact absurd rfl (hes _ hm c nm).1
  · exact absurd rfl (hes _ hm c nm).2

end

theorem BalS.started {E : List Ev} {A : List (Nat × Nat)} {n : Nat} {F : List Nat} (h : BalS E A n F)
    (nm : Nat) (hnm : nm ∉ F) : BalS (E ++ [.started n nm]) ((n, nm) :: A) n (nm :: F) := by
  have hnew : ¬(n < n ∨ (n = n ∧ nm ∈ F)) := fun h => h.elim (Nat.lt_irrefl n) fun h => hnm h.2
  have q := h.paired.opened startedStop (n, nm) (List.count_eq_zero.mpr fun hm => hnew (h.fresh n nm (Or.inl hm)))
    fun hm => hnew (h.afresh _ hm)
  have h' := h.monoF (F' := nm :: F) fun _ hx => List.mem_cons_of_mem _ hx
  refine ⟨h'.fresh_append _ fun c m hm => ?_, fun p hp => ?_, q.nodup, fun c m => q.once (c, m), q.live, q.dead⟩
  · rcases hm with hm | hm
    · cases List.mem_singleton.mp hm; exact Or.inr ⟨rfl, List.mem_cons_self⟩
    · cases List.mem_singleton.mp hm
  · rcases List.mem_cons.mp hp with rfl | hp
    · exact Or.inr ⟨rfl, List.mem_cons_self⟩
    · exact h'.afresh p hp

theorem BalS.stop {E : List Ev} {A : List (Nat × Nat)} {n : Nat} {F : List Nat} {p : Nat × Nat}
    (h : BalS E (p :: A) n F) : BalS (E ++ [.stop p.1 p.2]) A n F := by
  have q := h.paired.closed startedStop (i := p)
  refine ⟨h.fresh_append _ fun c m hm => ?_, fun x hx => h.afresh x (List.mem_cons_of_mem _ hx), q.nodup,
    fun c m => q.once (c, m), q.live, q.dead⟩
  rcases hm with hm | hm
  · cases List.mem_singleton.mp hm
  · cases List.mem_singleton.mp hm; exact h.afresh p List.mem_cons_self

theorem BalS.stops {n : Nat} {F : List Nat} {A : List (Nat × Nat)} : ∀ (P : List (Nat × Nat)) {E : List Ev},
    BalS E (P ++ A) n F → BalS (E ++ P.map fun p => .stop p.1 p.2) A n F
  | [], _, h => by simpa using h
  | p :: P, E, h => by
    have := BalS.stops P (BalS.stop h)
    simpa using this

def SB (s : State) (L : List Inst) : Prop := Bal s.events L s.nseq

/-! `curLive`, `curKeys`, `curApps` of a context that need not be the current one -/

def nqOpt : Option Ctx → List Inst
  | none => []
  | some ctx => nq ctx.live

def keysOpt : Option Ctx → List Nat
  | none => []
  | some ctx => keys ctx.live

def probeOpt : Option Ctx → List (Nat × Nat)
  | none => []
  | some ctx => probeApps ctx.cid ctx.apps

theorem nq_append_probe (live : List Live) (i : Inst) (k : Option Nat) :
    nq (live ++ [⟨i, k, false⟩]) = nq live ++ [i] := by simp [nq, List.filter_append]

theorem nq_append_quiet (live : List Live) (i : Inst) (k : Option Nat) :
    nq (live ++ [⟨i, k, true⟩]) = nq live := by simp [nq, List.filter_append]

theorem nq_cons (l : Live) (ls : List Live) :
    nq (l :: ls) = if l.quiet then nq ls else l.inst :: nq ls := by
  cases hq : l.quiet <;> simp [nq, hq]

theorem keys_cons (l : Live) (ls : List Live) : keys (l :: ls) = l.key.toList ++ keys ls := by
  cases h : l.key <;> simp [keys, h]

theorem keys_append_some (live : List Live) (i : Inst) (k : Nat) (q : Bool) :
    keys (live ++ [⟨i, some k, q⟩]) = keys live ++ [k] := by simp [keys, List.filterMap_append]

theorem keys_append_none (live : List Live) (i : Inst) (q : Bool) :
    keys (live ++ [⟨i, none, q⟩]) = keys live := by simp [keys, List.filterMap_append]

theorem probeApps_cons (cid : Nat) (a : App) (l : List App) :
    probeApps cid (a :: l) = (if a.isHttp then [] else [(cid, a.name)]) ++ probeApps cid l := by
  unfold probeApps
  cases h : a.isHttp <;> simp [h]

theorem probeApps_append (cid : Nat) (l l' : List App) :
    probeApps cid (l ++ l') = probeApps cid l ++ probeApps cid l' := by
  simp [probeApps, List.filter_append]

theorem probeApps_perm (cid : Nat) {l l' : List App} (p : l.Perm l') :
    (probeApps cid l).Perm (probeApps cid l') := (p.filter _).map _

theorem decr_incr (f : Nat → Nat) (k : Nat) : decr (incr f k) k = f := by
  funext x; unfold decr incr; split <;> simp

structure Quiet (s s' : State) : Prop where
  ev : ∃ es, s'.events = s.events ++ es ∧ ∀ e ∈ es, evInst e = none
  nseq : s'.nseq = s.nseq

end CaddyModel.C03
