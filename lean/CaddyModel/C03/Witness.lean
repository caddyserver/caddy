/-
C03 — clauses of the property the unchanged tree violates, refuted with concrete witnesses
(kernel-evaluated). Protocol lines: witnessLines (Driver.lean), replayed on the real code on every run.

F4  `Context.OnCancel` is a no-op: openLogs calls it on a by-value copy of the context, the
    cancel function ranges over the slice of the value NewContext was called with. closeLogs never
    runs; the writers pool gains one reference per context and never loses one.
hosts (FIXED by d6561d4) reverseproxy.Handler.Cleanup used to release a hosts-pool reference per
    configured upstream even if Provision had failed before it took them: a rejected load stole
    the running configuration's reference. The old Cleanup is kept below as a separate
    definition, with the theorem that it breaks the pool clause (non-vacuity of the fix).
-/
import CaddyModel.C03.Spec

namespace CaddyModel.C03
open CaddyModel.Lifecycle

/-- probe app 0 with one custom log writing to probe writer 1 -/
def wLog : Cfg := ⟨0, [⟨0, 1⟩], [⟨0, 1, 0, [], []⟩], ⟨0, 0⟩⟩
def wEnv : Env := ⟨true, false, 0, [], [0], [0]⟩

/-- Full clause: "cleanup callbacks registered for the configuration's lifetime are invoked when
    it ends":  ∀ ops c, cbReg c ∈ events → (context c has ended) → cbRun c ∈ events.
    Refuted: load a config, stop — the callback was registered, the config is gone, it never ran;
    the probe writer was opened and never closed. -/
theorem oncancel_callbacks_run_full_fails :
    ∃ ops : List Op, ∃ c : Nat,
      Ev.cbReg c ∈ (runOps State.init ops).events ∧ (runOps State.init ops).cur = none ∧
      Ev.cbRun c ∉ (runOps State.init ops).events ∧
      Ev.wopen 1 ∈ (runOps State.init ops).events ∧ Ev.wclose 1 ∉ (runOps State.init ops).events :=
  ⟨[.load wLog wEnv, .stop], 0, by decide +kernel⟩

/-- Full clause: "shared resources are a function of the currently running configuration only":
    ∀ ops k, writers k = Spec.wantWriters running k.
    Refuted: the same configuration loaded twice — one configuration runs, the writers pool holds
    two references to the stderr writer and two to probe writer 1; after Stop, still two. -/
theorem writers_function_of_current_full_fails :
    ∃ ops : List Op,
      (runOps State.init ops).rawJSON = some wLog ∧
      (runOps State.init ops).writers 1 = 2 ∧ Spec.wantWriters (some wLog) 1 = 1 ∧
      (runOps State.init ops).writers 0 = 2 ∧ Spec.wantWriters (some wLog) 0 = 1 ∧
      (runOps State.init (ops ++ [.stop])).writers 1 = 2 ∧ Spec.wantWriters none 1 = 0 :=
  ⟨[.load wLog wEnv, .load wLog wEnv], by decide +kernel⟩

/-- HTTP app with a reverse proxy to upstream 4 -/
def wRpA : Cfg := ⟨0, [], [⟨3, 1, 0, [], [⟨0, 4⟩]⟩], ⟨0, 0⟩⟩
/-- the same with a reverse proxy whose Provision fails early -/
def wRpB : Cfg := ⟨0, [], [⟨3, 2, 0, [], [⟨3, 4⟩]⟩], ⟨0, 0⟩⟩
def wEnvH : Env := ⟨true, false, 0, [], [3], []⟩

/-- what LoadModuleByID's immediate Cleanup did to the hosts pool BEFORE fix d6561d4 when a reverse
    proxy with upstream `key` failed early: hosts.Delete for an upstream it never acquired -/
def oldEarlyRpCleanup (key : Nat) (s : State) : State := { s with mpool := decr s.mpool key }

/-- with the old Cleanup the pool clause fails: config A (reverse proxy to upstream 4) runs; the
    rejected config B's early-failing reverse proxy to the same upstream would leave the entry
    with 0 references although A still holds it. With the code as it is now the same history
    keeps the reference (regression case in corpus/C03). -/
theorem hosts_function_of_current_old_code_fails :
    curKeys (runOps State.init [.load wRpA wEnvH]) = [4] ∧
    (runOps State.init [.load wRpA wEnvH]).mpool 4 = 1 ∧
    (oldEarlyRpCleanup 4 (runOps State.init [.load wRpA wEnvH])).mpool 4 = 0 ∧
    (trace State.init [.load wRpA wEnvH, .load wRpB wEnvH]).map (·.1) = [.ok, .errProvision] ∧
    (runOps State.init [.load wRpA wEnvH, .load wRpB wEnvH]).mpool 4 = 1 := by decide

end CaddyModel.C03
