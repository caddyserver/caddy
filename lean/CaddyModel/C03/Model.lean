/-
C03 — the model is the shared Lifecycle machine (C01/Lifecycle.lean: instances, events, the guest
/ hosts usage pool, the writers pool, cleanupFuncs as the code implements them). This file adds the
vocabulary the property talks about.
-/
import CaddyModel.C01.Lifecycle

namespace CaddyModel.C03
open CaddyModel.Lifecycle

/-- the module instance a probe event is about -/
def evInst : Ev → Option Inst
  | .prov i => some i
  | .valid i => some i
  | .clean i => some i
  | _ => none

/-- the app (context, name) a start/stop event is about -/
def evApp : Ev → Option (Nat × Nat)
  | .start c n => some (c, n)
  | .started c n => some (c, n)
  | .startFail c n => some (c, n)
  | .stop c n => some (c, n)
  | _ => none

/-- the probe instances among the entries of a `moduleInstances` list -/
def nq (live : List Live) : List Inst := (live.filter (fun l => !l.quiet)).map (·.inst)

/-- the pool keys held by the entries of a `moduleInstances` list -/
def keys (live : List Live) : List Nat := live.filterMap (·.key)

/-- the probe instances of the configuration that is running -/
def curLive (s : State) : List Inst :=
  match s.cur with
  | none => []
  | some ctx => nq ctx.live

def curKeys (s : State) : List Nat :=
  match s.cur with
  | none => []
  | some ctx => keys ctx.live

def probeApps (cid : Nat) (apps : List App) : List (Nat × Nat) :=
  (apps.filter (fun a => !a.isHttp)).map fun a => (cid, a.name)

/-- the probe apps (context, name) of the configuration that is running -/
def curApps (s : State) : List (Nat × Nat) :=
  match s.cur with
  | none => []
  | some ctx => probeApps ctx.cid ctx.apps

end CaddyModel.C03
