import CaddyModel.C03.Props
open CaddyModel.C03
#print axioms cleanup_at_most_once
#print axioms every_instance_cleaned_exactly_once
#print axioms cleanup_only_of_provisioned
#print axioms failed_provision_cleaned_immediately
#print axioms stop_then_cleanup
#print axioms started_stopped_exactly_once
#print axioms stop_only_of_started
#print axioms pools_function_of_current
#print axioms sockets_function_of_current
#print axioms oncancel_list_always_empty
#print axioms oncancel_callbacks_run_full_fails
#print axioms writers_function_of_current_full_fails
#print axioms hosts_function_of_current_old_code_fails
#print axioms CaddyModel.C01.provision_rollback_sees_every_error
#print axioms CaddyModel.Deps.provisioned_at_most_once
#print axioms CaddyModel.Deps.rejected_rolled_back
#print axioms CaddyModel.Deps.accepted_runs_everything_once
#print axioms cleanup_order_irrelevant
#print axioms CaddyModel.Deps.load_never_runs_out_of_fuel
#print axioms cleanup_errors_do_not_stop_releases
#print axioms cleanupOne_is_runSteps
#print axioms cancel_pool_ignores_cleanup_errors
#print axioms early_return_leaks
#print axioms CaddyModel.C01.Std.cert_cache_function_of_running
#print axioms CaddyModel.C01.Std.cert_cache_function_of_running_old_code_fails
#print axioms CaddyModel.C01.Std.stopW_clears_cert_cache
#print axioms CaddyModel.C01.Std.post_start_rejected_started_then_stopping
#print axioms CaddyModel.C01.Std.unused_config_handler_cleaned_exactly_once
#print axioms CaddyModel.C01.Std.ended_config_stopping_then_cleanup
#print axioms CaddyModel.C01.Std.history_well_addressed
