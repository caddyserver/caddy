/-
C03 — the ORDER in which one cancel calls the Cleanups (Go ranges a map) does not matter: any two
orders end in the same state up to the order of the events they append.
-/
import CaddyModel.C01.Phases

namespace CaddyModel.C03
open CaddyModel.Lifecycle

/-- equal in every field, the module events up to order -/
structure Sim (s s' : State) : Prop where
  raw : s.raw = s'.raw
  rawJSON : s.rawJSON = s'.rawJSON
  cur : s.cur = s'.cur
  socks : s.socks = s'.socks
  mpool : s.mpool = s'.mpool
  writers : s.writers = s'.writers
  events : s.events.Perm s'.events
  aevents : s.aevents = s'.aevents
  next : s.next = s'.next
  nseq : s.nseq = s'.nseq
  dstor : s.dstor = s'.dstor
  dlogger : s.dlogger = s'.dlogger

/-- any two orders of the Cleanups, whatever callbacks ran before them (`C01.cleanupAll_eq`: the pool
    effect and the events of the Cleanups depend on the entries as a multiset only) -/
theorem cancel_order_irrelevant (cid : Nat) (cbs wk : List Nat) (live live' : List Live) (s : State)
    (p : live.Perm live') : Sim (cancel cid cbs wk live s) (cancel cid cbs wk live' s) := by
  unfold cancel
  rw [C01.cleanupAll_eq, C01.cleanupAll_eq]
  exact ⟨rfl, rfl, rfl, rfl, funext fun x => congrArg (_ - ·) ((p.filterMap (·.key)).count_eq x), rfl,
    (((p.filter _).map _).map _).append_left _, rfl, rfl, rfl, rfl, rfl⟩

end CaddyModel.C03
