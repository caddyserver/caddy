/-
Deps — the phases of one load seen through the two pairings (`startAll_spec`, `start_phase`, `cancel_phase`,
`load_spec`) and, read off `load_spec`, the property theorems of lazy app loading (C03: "every module instance … cleanup exactly once;
every app that was started is stopped exactly once", for apps that are provisioned on demand from
inside other apps' Provision). All for EVERY dependency graph (cycles, self-dependencies, apps nobody
configured, failing dependencies), every fault, every map order `pp` / `ps`, every fuel.
-/
import CaddyModel.C03.DepsLemmas

namespace CaddyModel.Deps

theorem dinv_init : DInv ⟨[], [], []⟩ [] :=
  ⟨⟨List.nodup_nil, by simp, by simp, by simp⟩, by simp, List.nodup_nil, by simp⟩

/-- run's start loop: "Start returned nil" / Stop are paired like Provision / Cleanup -/
theorem startAll_spec (defs : List DApp) (started rest : List Nat) (s : DSt)
    (hp : Paired DEv.started DEv.stop s.events started) (hs : ∀ m, DEv.started m ∈ s.events → m ∈ started)
    (hn : (started ++ rest).Nodup) :
    (startAll defs started rest s).1.apps = s.apps ∧ (startAll defs started rest s).1.live = s.live ∧
    (∃ es, (startAll defs started rest s).1.events = s.events ++ es ∧ ∀ e ∈ es, isStartEv e = true) ∧
    Paired DEv.started DEv.stop (startAll defs started rest s).1.events
      (if (startAll defs started rest s).2 = true then started ++ rest else []) ∧
    ((startAll defs started rest s).2 = true → ∀ m, DEv.stop m ∈ (startAll defs started rest s).1.events →
      DEv.stop m ∈ s.events) := by
  fun_induction startAll defs started rest s
  · rename_i started s
    exact ⟨rfl, rfl, ⟨[], by simp, by simp⟩, by simpa using hp, fun _ m h => h⟩
  · rename_i started n rest s _
    rw [stopAll_eq]
    refine ⟨rfl, rfl, ⟨_, List.append_assoc .., by simp [isStartEv]⟩, ?_, fun h => nomatch h⟩
    exact (hp.other [.start n, .startFail n] (by simp)).closedEvery startedStop
  · rename_i started n rest s _ ih
    have hnot : n ∉ started := fun hm => (List.nodup_append.mp hn).2.2 n hm n List.mem_cons_self rfl
    have h0 : s.events.count (.started n) = 0 := List.count_eq_zero.mpr fun hm => hnot (hs n hm)
    have hp' : Paired DEv.started DEv.stop (dev s [.start n, .started n]).events (started ++ [n]) := by
      have := ((hp.other [.start n] (by simp)).opened startedStop n (by simpa [List.count_append] using h0) hnot).perm
        (List.perm_append_singleton n started).symm
      simpa [dev, List.append_assoc] using this
    obtain ⟨a1, a2, ⟨es, e1, e2⟩, a4, a5⟩ := ih hp' (fun m hm => by
        simp only [dev, List.mem_append, List.mem_cons, List.mem_nil_iff, or_false, reduceCtorEq, false_or,
          DEv.started.injEq] at hm ⊢
        exact hm.imp (hs m) id) (by simpa using hn)
    refine ⟨a1, a2, ⟨_, by rw [e1]; exact List.append_assoc .., by simpa [isStartEv] using e2⟩,
      by simpa using a4, fun h m hm => ?_⟩
    have := a5 h m hm
    simpa [dev] using this

theorem start_phase (defs : List DApp) (ps : List Nat) (s : DSt) (h : DInv s []) :
    (startAll defs [] (orderNames ps s.apps) s).1.apps = s.apps ∧
    (startAll defs [] (orderNames ps s.apps) s).1.live = s.live ∧
    (∀ n, DEv.prov n ∈ (startAll defs [] (orderNames ps s.apps) s).1.events ↔ DEv.prov n ∈ s.events) ∧
    Paired DEv.prov DEv.clean (startAll defs [] (orderNames ps s.apps) s).1.events s.live ∧
    Paired DEv.started DEv.stop (startAll defs [] (orderNames ps s.apps) s).1.events
      (if (startAll defs [] (orderNames ps s.apps) s).2 = true then s.apps else []) ∧
    ((startAll defs [] (orderNames ps s.apps) s).2 = true →
      (∀ n, DEv.clean n ∈ (startAll defs [] (orderNames ps s.apps) s).1.events → DEv.clean n ∈ s.events) ∧
      ∀ n, DEv.stop n ∉ (startAll defs [] (orderNames ps s.apps) s).1.events) := by
  obtain ⟨a1, a2, ⟨es, e1, e2⟩, a4, a5⟩ := startAll_spec defs [] (orderNames ps s.apps) s
    (Paired.nil_of fun i => ⟨h.not_start rfl, h.not_start rfl⟩) (fun m hm => (h.not_start rfl hm).elim) (by simpa using (orderNames_perm ps s.apps).nodup_iff.mpr h.anodup)
  refine ⟨a1, a2, fun n => ?_, ?_, ?_, fun hok => ⟨fun n hm => ?_, fun n hm => h.not_start rfl (a5 hok n hm)⟩⟩
  · rw [e1, List.mem_append]
    exact ⟨fun hm => hm.elim id fun hm => (nomatch e2 _ hm), Or.inl⟩
  · rw [e1]
    exact (by simpa using h.pair : Paired DEv.prov DEv.clean s.events s.live).other es fun e he i => by
      constructor <;> (rintro rfl; exact nomatch e2 _ he)
  · by_cases hb : (startAll defs [] (orderNames ps s.apps) s).2 = true
    · rw [if_pos hb] at a4 ⊢
      exact (by simpa using a4 : Paired _ _ _ (orderNames ps s.apps)).perm (orderNames_perm ps s.apps)
    · rw [if_neg hb] at a4 ⊢; exact a4
  · rw [e1] at hm
    exact (List.mem_append.mp hm).elim id fun hm => nomatch e2 _ hm

theorem cancel_phase {t : DSt} {B : List Nat} (hp : Paired DEv.prov DEv.clean t.events t.live)
    (hs : Paired DEv.started DEv.stop t.events B) :
    Paired DEv.prov DEv.clean (cancelAll t.live t).events [] ∧
    Paired DEv.started DEv.stop (cancelAll t.live t).events B := by
  rw [cancelAll_eq]
  exact ⟨hp.closedEvery provClean, hs.other _ (by simp)⟩

theorem load_spec (defs : List DApp) (pp ps : List Nat) (fuel : Nat) :
    ((load defs pp ps fuel).2 ≠ .ok ∧ Paired DEv.prov DEv.clean (load defs pp ps fuel).1.events [] ∧
      Paired DEv.started DEv.stop (load defs pp ps fuel).1.events []) ∨
    ((load defs pp ps fuel).2 = .ok ∧
      Paired DEv.prov DEv.clean (load defs pp ps fuel).1.events (load defs pp ps fuel).1.live ∧
      Paired DEv.started DEv.stop (load defs pp ps fuel).1.events (load defs pp ps fuel).1.apps ∧
      (load defs pp ps fuel).1.apps.Nodup ∧
      (∀ n, n ∈ (load defs pp ps fuel).1.apps ↔ DEv.prov n ∈ (load defs pp ps fuel).1.events) ∧
      (∀ n, DEv.clean n ∉ (load defs pp ps fuel).1.events) ∧ ∀ n, DEv.stop n ∉ (load defs pp ps fuel).1.events) := by
  have hg := loadNeeds_good (appLoad defs fuel) (appLoad_good defs fuel) (orderNames pp (defs.map (·.name)))
    ⟨[], [], []⟩ [] dinv_init
  have hne := loadNeeds_ne_ok (appLoad defs fuel) (appLoad_ne_ok defs fuel) (orderNames pp (defs.map (·.name)))
    ⟨[], [], []⟩
  fun_cases load defs pp ps fuel
  · rename_i s r x
    rw [x] at hg hne
    exact Or.inl ⟨fun e => hne (congrArg some e), cancel_phase (by simpa using hg.1.pair)
      (Paired.nil_of fun i => ⟨hg.1.not_start rfl, hg.1.not_start rfl⟩)⟩
  · rename_i s x s' x2
    rw [x] at hg
    obtain ⟨a1, a2, _, hp, hs, _⟩ := start_phase defs ps s hg.1
    rw [x2] at a1 a2 hp hs
    exact Or.inl ⟨fun e => (nomatch e), cancel_phase (a2 ▸ hp) hs⟩
  · rename_i s x s' x2
    rw [x] at hg
    simp only at hg
    obtain ⟨h, hc⟩ := hg
    obtain ⟨a1, a2, ha, hp, hs, hok⟩ := start_phase defs ps s h
    rw [x2] at a1 a2 ha hp hs hok
    exact Or.inr ⟨rfl, a2 ▸ hp, a1 ▸ hs, a1 ▸ h.anodup, fun n => by rw [a1, ha n]; exact h.apps n,
      fun n hm => hc trivial (fun _ hm => (nomatch hm)) n ((hok rfl).1 n hm), (hok rfl).2⟩

/-- **provisioned at most once.** Whatever the dependency graph — cycles, self-dependencies, an app
    asked for by several others, apps nobody configured — no app is provisioned twice. -/
theorem provisioned_at_most_once (defs : List DApp) (pp ps : List Nat) (fuel n : Nat) :
    (load defs pp ps fuel).1.events.count (.prov n) ≤ 1 := by
  rcases load_spec defs pp ps fuel with ⟨_, h, _⟩ | ⟨_, h, _⟩ <;> exact h.once n

/-- **a rejected load is rolled back completely.** If the load is rejected — a dependency of a
    dependency fails to provision or validate, some app fails in Start — then every app that was
    provisioned (on demand or from the list) has been cleaned up exactly as often (once), and every
    app that finished Start has been stopped exactly once. -/
theorem rejected_rolled_back (defs : List DApp) (pp ps : List Nat) (fuel : Nat)
    (hr : (load defs pp ps fuel).2 ≠ .ok) (n : Nat) :
    (load defs pp ps fuel).1.events.count (.clean n) = (load defs pp ps fuel).1.events.count (.prov n) ∧
    (load defs pp ps fuel).1.events.count (.stop n) = (load defs pp ps fuel).1.events.count (.started n) := by
  rcases load_spec defs pp ps fuel with ⟨_, h1, h2⟩ | ⟨h, _⟩
  · exact ⟨h1.dead n (fun hm => nomatch hm), h2.dead n (fun hm => nomatch hm)⟩
  · exact absurd h hr

/-- **an accepted load runs everything it provisioned, once.** If the load is accepted, the apps
    in the map are exactly the loaded ones; each was provisioned once, finished Start once, and was
    neither cleaned up nor stopped; and unloading the configuration stops and cleans up each of them
    exactly once. -/
theorem accepted_runs_everything_once (defs : List DApp) (pp ps : List Nat) (fuel : Nat)
    (hr : (load defs pp ps fuel).2 = .ok) (n : Nat) :
    (n ∈ (load defs pp ps fuel).1.apps ↔ n ∈ (load defs pp ps fuel).1.live) ∧
    (load defs pp ps fuel).1.events.count (.prov n) = (load defs pp ps fuel).1.apps.count n ∧
    (load defs pp ps fuel).1.events.count (.started n) = (load defs pp ps fuel).1.events.count (.prov n) ∧
    (load defs pp ps fuel).1.events.count (.clean n) = 0 ∧
    (load defs pp ps fuel).1.events.count (.stop n) = 0 ∧
    (unload (load defs pp ps fuel).1).events.count (.clean n) = (load defs pp ps fuel).1.events.count (.prov n) ∧
    (unload (load defs pp ps fuel).1).events.count (.stop n) = (load defs pp ps fuel).1.events.count (.prov n) := by
  rcases load_spec defs pp ps fuel with ⟨h, _⟩ | ⟨_, hp, hs, hnd, happs, hnc, hns⟩
  · exact absurd hr h
  generalize (load defs pp ps fuel).1 = s at hp hs hnd happs hnc hns ⊢
  have c0 : s.events.count (.clean n) = 0 := List.count_eq_zero.mpr (hnc n)
  have s0 : s.events.count (.stop n) = 0 := List.count_eq_zero.mpr (hns n)
  -- provisioned ⇔ in the map ⇔ loaded (what is not alive was cleaned up as often as provisioned: never)
  have hprov : s.events.count (.prov n) = if n ∈ s.apps then 1 else 0 := by
    by_cases ha : n ∈ s.apps
    · have := List.count_pos_iff.mpr ((happs n).mp ha); have := hp.once n; rw [if_pos ha]; omega
    · rw [if_neg ha]; exact List.count_eq_zero.mpr fun hm => ha ((happs n).mpr hm)
  have hiff : n ∈ s.apps ↔ n ∈ s.live := by
    constructor
    · intro ha
      rcases hp.exactly_once n ((happs n).mp ha) with ⟨hl, _⟩ | ⟨_, h1⟩
      · exact hl
      · rw [c0] at h1; cases h1
    · intro hl
      exact (happs n).mpr (List.count_pos_iff.mp (by rw [(hp.live n hl).2]; exact Nat.one_pos))
  have hstarted : s.events.count (.started n) = s.events.count (.prov n) := by
    rw [hprov]
    by_cases ha : n ∈ s.apps
    · rw [if_pos ha]; exact (hs.live n ha).2
    · rw [if_neg ha, ← hs.dead n ha]; exact s0
  have hu : (unload s).events = s.events ++ s.apps.map .stop ++ s.live.map .clean := by
    unfold unload; rw [cancelAll_eq, stopAll_eq]
  have hc : Paired DEv.prov DEv.clean (unload s).events [] := by
    rw [hu]
    exact (hp.other (s.apps.map .stop) (by simp)).closedEvery provClean
  have hst : Paired DEv.started DEv.stop (unload s).events [] := by
    rw [hu]
    exact (hs.closedEvery startedStop).other _ (by simp)
  refine ⟨hiff, by rw [hprov, hnd.count], hstarted, c0, s0, ?_, ?_⟩
  · rw [hc.dead n (fun hm => nomatch hm), hu]; simp [List.count_append, List.count_eq_zero]
  · rw [hst.dead n (fun hm => nomatch hm), hu, ← hstarted]; simp [List.count_append, List.count_eq_zero]

example : (load exDefs [0, 1, 2] [0, 1, 3, 2] (enough exDefs)).2 = .errStart ∧
    (load exDefs [0, 1, 2] [0, 1, 3, 2] (enough exDefs)).1.events.count (.prov 3) = 1 ∧
    (load exDefs [0, 1, 2] [0, 1, 3, 2] (enough exDefs)).1.events.count (.clean 3) = 1 ∧
    (load exDefs [0, 1, 2] [0, 1, 3, 2] (enough exDefs)).1.events.count (.stop 3) = 1 := by decide +kernel
-- the same graph without the fault is accepted, the unconfigured app 3 runs
example : (load [⟨0, [1, 2], 0⟩, ⟨1, [0, 3], 0⟩, ⟨2, [], 0⟩] [2, 0] [] 9).2 = .ok ∧
    (load [⟨0, [1, 2], 0⟩, ⟨1, [0, 3], 0⟩, ⟨2, [], 0⟩] [2, 0] [] 9).1.apps = [2, 0, 1, 3] := by decide +kernel
-- a dependency of a dependency fails to provision: rejected
example : (load [⟨0, [1], 0⟩, ⟨1, [2], 0⟩, ⟨2, [], 3⟩] [0] [] 9).2 = .errProvision := by decide

end CaddyModel.Deps
