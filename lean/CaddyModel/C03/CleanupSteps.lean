/-
C03 — a module's Cleanup seen from inside: several release steps, each of which may report an
error. The lifecycle (context.go: the cancel function made by NewContext) calls Cleanup exactly
once and only LOGS the error it returns; it cannot retry. So the clause "everything a
configuration acquires is released exactly once" needs, of every module:

    an error of one release step does not stop the remaining releases.

The real case: reverseproxy.(*Handler).Cleanup = [close the streaming connections that are still
open (may fail: EPIPE on a client that has gone away), give back one `hosts` reference per
upstream]. It remembers the first error, carries on, and returns it at the end (`runSteps`).
Returning at the first error (`runStepsEarly`, seeded mutant
C03-proxy-cleanup-returns-before-releasing-hosts) leaves the upstream entries in the pool for ever.

The shared model's `cleanupOne` (Lifecycle.lean) is the pool effect of `runSteps`, whichever steps
fail (`cleanupOne_is_runSteps`); in the line protocol guest fault 5 on reverse proxy key 6 says
"the stream-closing step fails when the configuration ends", and the harness makes it so on the
real handler (an upgraded stream through the proxy whose client connection reports EPIPE).
-/
import CaddyModel.C01.Model

namespace CaddyModel.C03
open CaddyModel.Lifecycle CaddyModel.C01

/-- one release step of a Cleanup: the pool reference it gives back (none: it closes something
    that is not pooled, e.g. streams) and whether it reports an error -/
structure RStep where
  key : Option Nat
  fails : Bool
deriving DecidableEq, Repr

def release (pool : Nat → Nat) : Option Nat → Nat → Nat
  | some k => decr pool k
  | none => pool

/-- Cleanup done right: every step runs; the first error is remembered and returned at the end -/
def runSteps : List RStep → (Nat → Nat) → (Nat → Nat) × Bool
  | [], pool => (pool, false)
  | st :: rest, pool =>
    let r := runSteps rest (release pool st.key)
    (r.1, st.fails || r.2)

/-- Cleanup that returns at the first error: the steps after it never run -/
def runStepsEarly : List RStep → (Nat → Nat) → (Nat → Nat) × Bool
  | [], pool => (pool, false)
  | st :: rest, pool =>
    if st.fails then (pool, true)   -- (the failing step itself released nothing either)
    else runStepsEarly rest (release pool st.key)

/-- the steps of the Cleanup of a loaded module: reverse proxy (and probe guests alike) — close
    what is open, then give back the pool reference -/
def stepsOf (l : Live) (closeFails : Bool) : List RStep := [⟨none, closeFails⟩, ⟨l.key, false⟩]

/-- what `runSteps` gives back to the pool
    does not depend on which steps report an error — for every list of steps and every pool -/
theorem cleanup_errors_do_not_stop_releases (steps : List RStep) (pool : Nat → Nat) :
    (runSteps steps pool).1 = steps.foldl (fun p st => release p st.key) pool := by
  induction steps generalizing pool with
  | nil => rfl
  | cons st rest ih => simp [runSteps, ih]

theorem runSteps_reports (steps : List RStep) (pool : Nat → Nat) :
    (runSteps steps pool).2 = steps.any (·.fails) := by
  induction steps generalizing pool with
  | nil => rfl
  | cons st rest ih => simp [runSteps, ih]

theorem cleanupOne_is_runSteps (l : Live) (closeFails : Bool) (s : State) :
    (cleanupOne l s).mpool = (runSteps (stepsOf l closeFails) s.mpool).1 := by
  unfold cleanupOne stepsOf
  cases h : l.key <;> simp [runSteps, release, ev]

/-- hence: cancelling a context gives back the same references whatever subset of its modules'
    Cleanups report an error (`fails` says which) -/
theorem cancel_pool_ignores_cleanup_errors (fails : Live → Bool) :
    ∀ (live : List Live) (s : State),
      (cleanupAll live s).mpool
        = live.foldl (fun p l => (runSteps (stepsOf l (fails l)) p).1) s.mpool
  | [], _ => rfl
  | l :: ls, s => by
    show (cleanupAll ls (cleanupOne l s)).mpool = _
    rw [cancel_pool_ignores_cleanup_errors fails ls, cleanupOne_is_runSteps l (fails l)]
    rfl

/-- the negation for the early-returning Cleanup: a reverse proxy holding upstream entry 6 whose
    stream-closing step fails keeps its reference (pool 1 → 1), while the code as it is gives it
    back (1 → 0) and still reports the error -/
theorem early_return_leaks :
    let pool : Nat → Nat := fun k => if k = 6 then 1 else 0
    let l : Live := ⟨⟨0, 0, 3, 1⟩, some 6, true⟩
    (runStepsEarly (stepsOf l true) pool).1 6 = 1 ∧ (runStepsEarly (stepsOf l true) pool).2 = true ∧
    (runSteps (stepsOf l true) pool).1 6 = 0 ∧ (runSteps (stepsOf l true) pool).2 = true ∧
    (runStepsEarly (stepsOf l false) pool).1 6 = 0 := by decide

-- non-vacuity: three steps, the first two failing — everything is released all the same
example : (runSteps [⟨some 1, true⟩, ⟨none, true⟩, ⟨some 2, false⟩] (fun _ => 3)).1 1 = 2 ∧
    (runSteps [⟨some 1, true⟩, ⟨none, true⟩, ⟨some 2, false⟩] (fun _ => 3)).1 2 = 2 ∧
    (runSteps [⟨some 1, true⟩, ⟨none, true⟩, ⟨some 2, false⟩] (fun _ => 3)).2 = true := by decide

end CaddyModel.C03
