/-
C03 — the invariants of reachable states: Provision / Cleanup balance (`Inv3`), the guest / hosts
pool as a function of the running configuration (`Inv5`), Started / Stop balance (`Inv4`). Each
is kept by an operation that leaves what runs alone (`C01.Kept`) and by one that replaces it
(`C01.Replaced`): `C01/Outcome.lean`; hence by every history (`C01.reachable_invariants`, `reachable_inv4`).
`Inv4` holds of histories of well-formed operations: `opWF`, `attempted_names`. Last, two facts about `closeLogs`.
-/
import CaddyModel.C01.Outcome

namespace CaddyModel.C03
open CaddyModel.Lifecycle CaddyModel.C01

/-! `curLive` / `curKeys` / `curApps` of the model speak of a state; the outcome relations need the same of a
context that is not (yet, any more) the current one: `nqOpt` / `keysOpt` / `probeOpt` (Balance.lean) -/

theorem curLive_eq (s : State) : curLive s = nqOpt s.cur := rfl

theorem curKeys_eq (s : State) : curKeys s = keysOpt s.cur := rfl

theorem curApps_eq (s : State) : curApps s = probeOpt s.cur := rfl

structure Inv3 (s : State) : Prop where
  bal : SB s (curLive s)
  cbs : ∀ ctx, s.cur = some ctx → ctx.cbs = []

structure Inv5 (s : State) : Prop where
  pool : ∀ k, s.mpool k = (curKeys s).count k
  cbs : ∀ ctx, s.cur = some ctx → ctx.cbs = []

theorem inv3_init : Inv3 State.init :=
  ⟨⟨by simp [State.init], by simp [curLive, State.init], by simp [curLive, State.init],
    by simp [State.init], by simp [curLive, State.init], by simp [State.init]⟩, by simp [State.init]⟩

theorem inv5_init : Inv5 State.init :=
  ⟨by simp [State.init, curKeys], by simp [State.init]⟩

theorem inv35_kept {op : Op} {res : Res} {s s' : State} (h3 : Inv3 s) (h5 : Inv5 s) (k : Kept op res s s') :
    Inv3 s' ∧ Inv5 s' := by
  refine ⟨⟨?_, fun ctx hx => h3.cbs ctx (k.cur ▸ hx)⟩, fun x => ?_, fun ctx hx => h5.cbs ctx (k.cur ▸ hx)⟩
  · rw [curLive_eq, k.cur, ← curLive_eq]; exact k.bal _ h3.bal
  · rw [curKeys_eq, k.cur, k.mpool, ← curKeys_eq]; exact h5.pool x

/-- the new context's instances and keys come in, the old context's are given back -/
theorem inv35_replaced {op : Op} {newc : Option Cfg} {new : Option Ctx} {s s' : State} (h3 : Inv3 s) (h5 : Inv5 s)
    (r : Replaced op newc new s s') : Inv3 s' ∧ Inv5 s' := by
  obtain ⟨m, b⟩ := r.released h3.cbs
  have hcbs : ∀ ctx, s'.cur = some ctx → ctx.cbs = [] := fun ctx hx => r.cbs ctx (r.cur ▸ hx)
  refine ⟨⟨?_, hcbs⟩, fun k => ?_, hcbs⟩
  · rw [curLive_eq, r.cur]; exact b [] (curLive_eq s ▸ h3.bal)
  · rw [curKeys_eq, r.cur, m k, h5.pool k, curKeys_eq]; omega

theorem inv35_step {s : State} (h3 : Inv3 s) (h5 : Inv5 s) (op : Op) :
    Inv3 (step s op).1 ∧ Inv5 (step s op).1 := by
  rcases step_kept_or_replaced s op with k | ⟨_, _, r⟩
  · exact inv35_kept h3 h5 k
  · exact inv35_replaced h3 h5 r

theorem inv35_runOps : ∀ (ops : List Op) (s : State), Inv3 s → Inv5 s → Inv3 (runOps s ops) ∧ Inv5 (runOps s ops)
  | [], _, h3, h5 => ⟨h3, h5⟩
  | o :: os, _, h3, h5 => inv35_runOps os _ (inv35_step h3 h5 o).1 (inv35_step h3 h5 o).2

/-- both trees carry distinct app names: PATCH / DELETE edit `raw`, and a refused attempt puts `rawJSON` back
    into `raw` (`Kept.raw`) -/
structure Inv4 (s : State) : Prop where
  bal : BalS s.aevents (curApps s) s.next []
  rawWF : ∀ c, s.raw = some c → (c.apps.map (·.name)).Nodup
  jsonWF : ∀ c, s.rawJSON = some c → (c.apps.map (·.name)).Nodup

theorem inv4_init : Inv4 State.init :=
  ⟨⟨by simp [State.init], by simp [curApps, State.init], by simp [curApps, State.init],
    by simp [State.init], by simp [curApps, State.init], by simp [State.init]⟩,
   by simp [State.init], by simp [State.init]⟩

theorem replaceApp_names (a : App) (l : List App) : ∀ l', replaceApp a l = some l' →
    l'.map (·.name) = l.map (·.name) := by
  fun_induction replaceApp a l
  · intro _ h; cases h
  · rename_i hb; intro _ h; cases h; simp [hb]
  · rename_i hr ih; intro _ h; cases h; simp [ih _ hr]
  · intro _ h; cases h

theorem removeApp_sublist (n : Nat) (l : List App) : ∀ l', removeApp n l = some l' → l'.Sublist l := by
  fun_induction removeApp n l
  · intro _ h; cases h
  · intro _ h; cases h; exact List.sublist_cons_self _ _
  · rename_i hr ih; intro _ h; cases h; exact (ih _ hr).cons_cons _
  · intro _ h; cases h

/-- configurations that are submitted whole have distinct app names (JSON object keys) -/
def opWF : Op → Prop
  | .load c _ => (c.apps.map (·.name)).Nodup
  | _ => True

instance (op : Op) : Decidable (opWF op) := by
  cases op <;> unfold opWF <;> infer_instance

theorem attempted_names {running : Option Cfg} {op : Op} {c : Cfg} (hw : opWF op)
    (hr : ∀ c0, running = some c0 → (c0.apps.map (·.name)).Nodup) (ha : C01.Spec.attempted running op = some c) :
    (c.apps.map (·.name)).Nodup := by
  revert ha
  fun_cases C01.Spec.attempted running op
  · rintro ⟨⟩; exact hw
  · exact fun h => nomatch h
  · rename_i c0
    intro ha
    obtain ⟨apps, hra, rfl⟩ := Option.map_eq_some_iff.mp ha
    show (apps.map (·.name)).Nodup
    rw [replaceApp_names _ _ _ hra]; exact hr c0 rfl
  · exact fun h => nomatch h
  · rename_i c0
    intro ha
    obtain ⟨apps, hra, rfl⟩ := Option.map_eq_some_iff.mp ha
    exact ((removeApp_sublist _ _ _ hra).map _).nodup (hr c0 rfl)
  · exact fun h => nomatch h

theorem inv4_step {s : State} (h : Inv4 s) (op : Op) (hw : opWF op) : Inv4 (step s op).1 := by
  have hbal := curApps_eq s ▸ h.bal
  have wf : AttWF s.raw op := fun c ha => attempted_names hw h.rawWF ha
  have hn := (step_outcome s op).1
  rcases step_kept_or_replaced s op with k | ⟨newc, new, r⟩
  · exact ⟨by rw [curApps_eq, k.cur, hn]; exact k.balS wf _ hbal,
      fun c hc => k.raw.elim (fun e => h.rawWF c (e ▸ hc)) (fun e => h.jsonWF c (e ▸ hc)),
      fun c hc => h.jsonWF c (k.rawJSON ▸ hc)⟩
  · have hnew : ∀ c, newc = some c → (c.apps.map (·.name)).Nodup := fun c hc => wf c (r.att c hc)
    exact ⟨by rw [curApps_eq, r.cur, hn]; exact r.balS wf hbal, fun c hc => hnew c (r.raw ▸ hc),
      fun c hc => hnew c (r.rawJSON ▸ hc)⟩

theorem inv4_runOps : ∀ (ops : List Op) (s : State), Inv4 s → (∀ op ∈ ops, opWF op) → Inv4 (runOps s ops)
  | [], _, h, _ => h
  | o :: os, _, h, hw => inv4_runOps os _ (inv4_step h o (hw o List.mem_cons_self))
      (fun op hop => hw op (List.mem_cons_of_mem _ hop))

theorem reachable_inv4 (ops : List Op) (hw : ∀ op ∈ ops, opWF op) : Inv4 (runOps State.init ops) :=
  inv4_runOps ops State.init inv4_init hw

/-! ### closeLogs (which no cancel ever reaches: the callback list is empty) -/

theorem closeLogs_quiet : ∀ (ks : List Nat) (s : State), Quiet s (closeLogs ks s) := fun ks s => by
  obtain ⟨w, es, h1, h2⟩ := closeLogs_eq ks s
  rw [h1]; exact ⟨⟨es, rfl, h2⟩, rfl⟩

theorem closeLogs_mpool : ∀ (ks : List Nat) (s : State), (closeLogs ks s).mpool = s.mpool := fun ks s => by
  obtain ⟨w, es, h1, _⟩ := closeLogs_eq ks s
  rw [h1]

end CaddyModel.C03

namespace CaddyModel.C01
open CaddyModel.Lifecycle

/-- every reachable state satisfies the two invariants `rejected_leaves_no_module` asks for -/
theorem reachable_invariants (ops : List Op) :
    C03.Inv3 (runOps State.init ops) ∧ C03.Inv5 (runOps State.init ops) :=
  C03.inv35_runOps ops State.init C03.inv3_init C03.inv5_init

end CaddyModel.C01
