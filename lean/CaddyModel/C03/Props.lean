/-
C03 — property theorems.

Statement: for every module instance set up for a configuration, its cleanup runs exactly once,
after that configuration has been rejected or its apps have been stopped and never earlier; every
app that was started is stopped exactly once; cleanup callbacks registered for the configuration's
lifetime are invoked when it ends. Consequently the shared resources held by the process are a
function of the currently running configuration only.

Quantifiers: every history of load / partial change / validate / stop / malformed operations
(`runOps State.init ops`), every configuration, every fault at every provision / validate / start
/ bind / post-start point, every map order — no bound on anything.

Apps that are provisioned on demand from inside other apps' Provision (ctx.App: dependency graphs with
cycles, unconfigured apps, failing dependencies) have their own small model and theorems:
Deps.lean / DepsProps.lean (provisioned_at_most_once, rejected_rolled_back,
accepted_runs_everything_once) and DepsFuel.lean (load_never_runs_out_of_fuel), tied to the real code by the `G=` cases.

Clauses the unchanged tree violates are refuted in Witness.lean (F4: OnCancel callbacks, writers
pool). The hosts-pool clause holds with fix d6561d4.
-/
import CaddyModel.C03.Lemmas
import CaddyModel.C03.LemmasO
import CaddyModel.C01.Props
-- the next four are not used below: imported so that building this module (the target `./check` builds) builds everything
-- `Audit.lean` asks about; the `C01.Std.*` theorems it lists are in C01/StdProps.lean and C01/StdHistory.lean,
-- which C01/Props.lean imports for the same reason
import CaddyModel.C03.Witness
import CaddyModel.C03.DepsProps
import CaddyModel.C03.DepsFuel
import CaddyModel.C03.CleanupSteps

namespace CaddyModel.C03
open CaddyModel.Lifecycle

theorem cleanup_at_most_once (ops : List Op) (i : Inst) :
    (runOps State.init ops).events.count (.clean i) ≤ 1 :=
  have h := (C01.reachable_invariants ops).1.bal.paired.closed_le i
  Nat.le_trans h.1 h.2

/-- **exactly once, and never earlier** (with fix dd15951). After any
    history, every instance that was ever provisioned either belongs to the configuration that
    is running right now and has not been cleaned up, or belongs to a configuration that was
    rejected, replaced, validated or stopped and has been cleaned up exactly once. -/
theorem every_instance_cleaned_exactly_once (ops : List Op) (i : Inst)
    (hp : Ev.prov i ∈ (runOps State.init ops).events) :
    (i ∈ curLive (runOps State.init ops) ∧ (runOps State.init ops).events.count (.clean i) = 0) ∨
    (i ∉ curLive (runOps State.init ops) ∧ (runOps State.init ops).events.count (.clean i) = 1) :=
  (C01.reachable_invariants ops).1.bal.paired.exactly_once i hp

theorem cleanup_only_of_provisioned (ops : List Op) (i : Inst) :
    (runOps State.init ops).events.count (.prov i) ≤ 1 ∧
    (runOps State.init ops).events.count (.clean i) ≤ (runOps State.init ops).events.count (.prov i) :=
  ((C01.reachable_invariants ops).1.bal.paired.closed_le i).symm

/-- **a failed Provision / Validate is cleaned up on the spot** (LoadModuleByID): the events of a
    probe guest whose Provision (fault 3) or Validate (fault 4) fails end with its own Cleanup, and
    the instance is not recorded in `moduleInstances` — it will not be cleaned up again. -/
theorem failed_provision_cleaned_immediately (cid app idx : Nat) (m : Mod) (s : State) (live : List Live)
    (hrp : m.isRp = false) (hf : m.fault = 3 ∨ m.fault = 4) :
    (loadMod cid app idx m s live).2.1 = live ∧
    ((loadMod cid app idx m s live).1.events = s.events ++ [.prov ⟨s.nseq, cid, app, idx⟩, .clean ⟨s.nseq, cid, app, idx⟩] ∨
     (loadMod cid app idx m s live).1.events =
       s.events ++ [.prov ⟨s.nseq, cid, app, idx⟩, .valid ⟨s.nseq, cid, app, idx⟩, .clean ⟨s.nseq, cid, app, idx⟩]) := by
  unfold loadMod loadModAt
  rcases hf with hf | hf <;> simp [hf, hrp, ev, alloc]

/-- **Cleanup comes after Stop**: stopping a context is "Stop every app, then cancel"; the Stop
    phase produces no module event, the cancel phase no app event. -/
theorem stop_then_cleanup (ctx : Ctx) (s : State) :
    unsyncedStop (some ctx) s = cancel ctx.cid ctx.cbs ctx.wkeys ctx.live (stopApps ctx.cid ctx.apps s) ∧
    (stopApps ctx.cid ctx.apps s).events = s.events ∧
    (unsyncedStop (some ctx) s).aevents = (stopApps ctx.cid ctx.apps s).aevents :=
  ⟨rfl, by rw [C01.stopApps_eq], (C01.cancel_frame _ _ _ _ _).aevents⟩

/-- **the order of the Cleanups inside one cancel does not matter.** The cancel function ranges a Go
    map (`moduleInstances`), so the order in which it calls the modules' Cleanup is arbitrary; the
    model uses load order. For ANY other order (any permutation of the list) the resulting state is
    the same in every field — pool references, writers, sockets, … — and the appended events are the
    same multiset. This is what entitles the correspondence check to compare events as multisets. -/
theorem cleanup_order_irrelevant (cid : Nat) (wk : List Nat) (live live' : List Live) (s : State)
    (p : live.Perm live') : Sim (cancel cid [] wk live s) (cancel cid [] wk live' s) :=
  cancel_order_irrelevant cid [] wk live live' s p

/-- **every started app is stopped exactly once** — and not while its configuration runs. After
    any history of well-formed operations (`opWF`: app names of a submitted configuration are
    distinct), every app whose Start returned nil either belongs to the running configuration and
    has not been stopped, or has been stopped exactly once. -/
theorem started_stopped_exactly_once (ops : List Op) (hw : ∀ op ∈ ops, opWF op) (c n : Nat)
    (hs : Ev.started c n ∈ (runOps State.init ops).aevents) :
    ((c, n) ∈ curApps (runOps State.init ops) ∧ (runOps State.init ops).aevents.count (.stop c n) = 0) ∨
    ((c, n) ∉ curApps (runOps State.init ops) ∧ (runOps State.init ops).aevents.count (.stop c n) = 1) :=
  (reachable_inv4 ops hw).bal.paired.exactly_once (c, n) hs

theorem stop_only_of_started (ops : List Op) (hw : ∀ op ∈ ops, opWF op) (c n : Nat) :
    (runOps State.init ops).aevents.count (.started c n) ≤ 1 ∧
    (runOps State.init ops).aevents.count (.stop c n) ≤ (runOps State.init ops).aevents.count (.started c n) :=
  ((reachable_inv4 ops hw).bal.paired.closed_le (c, n)).symm

/-- for the guest / hosts usage pool (with fix
    d6561d4; the old reverse_proxy Cleanup breaks it: hosts_function_of_current_old_code_fails (Witness.lean);
    for the writers pool the clause is refuted: F4). For every history, with every fault anywhere —
    including reverse proxies failing before or after they set up their upstreams: the pool
    holds, for every key, exactly as many references as the modules of the running configuration
    hold — nothing for rejected, replaced, validated or stopped ones. -/
theorem pools_function_of_current (ops : List Op) (k : Nat) :
    (runOps State.init ops).mpool k = (curKeys (runOps State.init ops)).count k :=
  (C01.reachable_invariants ops).2.pool k

/-- bound sockets are a function of the running configuration, for every history
    (C01.history_atomic, restated for this property) -/
theorem sockets_function_of_current (ops : List Op) :
    (C01.answers (C01.runBoth State.init none ops).1).Perm (C01.Spec.cfgAnswers (C01.runBoth State.init none ops).2) ∧
    ((C01.runBoth State.init none ops).2 = none → (C01.runBoth State.init none ops).1.socks = []) :=
  (C01.history_atomic ops).2

/-- **why the callbacks never run** (the mechanism behind F4, for every history): the cancel
    function of every context that ever becomes current ranges over an EMPTY callback list, and
    cancelling with an empty list releases no log writer. -/
theorem oncancel_list_always_empty (ops : List Op) (ctx : Ctx)
    (hc : (runOps State.init ops).cur = some ctx) :
    ctx.cbs = [] ∧ ∀ s : State, (cancel ctx.cid ctx.cbs ctx.wkeys ctx.live s).writers = s.writers := by
  have h := (C01.reachable_invariants ops).1.cbs ctx hc
  exact ⟨h, fun s => by rw [h]; exact (C01.cleanupAll_spec _ _).2.1⟩

/-- probe app 0 (guest keys 0,1), HTTP app with a probe handler (key 0) and a reverse proxy (4) -/
def exA : Cfg := ⟨0, [⟨0, 1⟩], [⟨0, 1, 0, [0], [⟨0, 0⟩, ⟨0, 1⟩]⟩, ⟨3, 2, 0, [1], [⟨0, 0⟩, ⟨0, 4⟩]⟩], ⟨0, 0⟩⟩
/-- a config whose second guest of app 1 fails to provision -/
def exB : Cfg := ⟨0, [], [⟨0, 5, 0, [2], [⟨0, 2⟩]⟩, ⟨1, 6, 0, [], [⟨0, 3⟩, ⟨3, 3⟩]⟩], ⟨0, 0⟩⟩
/-- a config whose app 1 fails in Start after app 0 started -/
def exC : Cfg := ⟨0, [], [⟨0, 5, 0, [2], [⟨0, 2⟩]⟩, ⟨1, 6, 5, [], []⟩], ⟨0, 0⟩⟩
def exE : Env := ⟨true, false, 0, [], [0, 1, 3], [0, 1, 3]⟩
/-- healthy, but the post-start step will fail -/
def exD : Cfg := ⟨0, [], [⟨0, 5, 0, [2], [⟨0, 2⟩]⟩, ⟨1, 6, 0, [], []⟩], ⟨0, 0⟩⟩
/-- its reverse proxy to upstream 4 (shared with exA) fails before setting up its upstreams -/
def exF : Cfg := ⟨0, [], [⟨3, 9, 0, [], [⟨3, 4⟩]⟩], ⟨0, 0⟩⟩
def exOps : List Op := [.load exA exE, .load exB exE, .load exC exE, .validate exB exE,
  .load exD ⟨true, true, 0, [], [0, 1], [0, 1]⟩, .load exF exE, .load exD ⟨true, false, 2, [], [0, 1], [0, 1]⟩]

-- the history has rejected loads in every phase and satisfies the hypotheses
example : (trace State.init exOps).map (·.1) =
    [.ok, .errProvision, .errStart, .errProvision, .errPost, .errProvision, .errAdmin] := by decide +kernel
example : ∀ op ∈ exOps, opWF op := by decide
-- an instance of a rejected config that was provisioned and then cleaned at cancel, exactly once
example : Ev.prov ⟨8, 1, 0, 1⟩ ∈ (runOps State.init exOps).events ∧
    (runOps State.init exOps).events.count (.clean ⟨8, 1, 0, 1⟩) = 1 ∧
    (⟨8, 1, 0, 1⟩ : Inst) ∉ curLive (runOps State.init exOps) := by decide +kernel
-- an instance of the running config: provisioned, alive, not cleaned
example : (⟨2, 0, 0, 1⟩ : Inst) ∈ curLive (runOps State.init exOps) ∧
    (runOps State.init exOps).events.count (.clean ⟨2, 0, 0, 1⟩) = 0 := by decide +kernel
-- app 0 of the config rejected in Start (context 2) started and was stopped once; app 0 of the
-- running config (context 0) started and runs
example : Ev.started 2 0 ∈ (runOps State.init exOps).aevents ∧
    (runOps State.init exOps).aevents.count (.stop 2 0) = 1 ∧
    (0, 0) ∈ curApps (runOps State.init exOps) ∧ (runOps State.init exOps).aevents.count (.stop 0 0) = 0 := by decide +kernel
-- the pool after all that is the running config's: keys 0 (twice), 1, 4
example : (runOps State.init exOps).mpool 0 = 2 ∧ (runOps State.init exOps).mpool 4 = 1 ∧
    (runOps State.init exOps).mpool 2 = 0 ∧ (runOps State.init exOps).mpool 3 = 0 := by decide +kernel
-- cleanup_order_irrelevant: two different orders of three instances holding pool keys
example : ([⟨⟨0, 0, 0, 1⟩, some 0, false⟩, ⟨⟨1, 0, 0, 2⟩, some 1, false⟩, ⟨⟨2, 0, 3, 1⟩, some 0, true⟩] : List Live).Perm
    [⟨⟨2, 0, 3, 1⟩, some 0, true⟩, ⟨⟨0, 0, 0, 1⟩, some 0, false⟩, ⟨⟨1, 0, 0, 2⟩, some 1, false⟩] := by decide
-- failed_provision_cleaned_immediately: hypotheses inhabited
example : (⟨3, 3⟩ : Mod).isRp = false ∧ ((⟨3, 3⟩ : Mod).fault = 3 ∨ (⟨3, 3⟩ : Mod).fault = 4) := by decide
-- oncancel_list_always_empty: there is a current context after the history
example : ((runOps State.init exOps).cur.map (·.cid)) = some 0 := by decide +kernel

end CaddyModel.C03
