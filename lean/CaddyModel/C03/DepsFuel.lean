/-
Deps — the nesting depth of ctx.App is bounded: with one unit of fuel per app that can ever get into
the map (`enough`), the model never runs out of fuel.
-/
import CaddyModel.C03.DepsLemmas

namespace CaddyModel.Deps

/-- every name that can ever be asked for -/
def allNames (defs : List DApp) : List Nat := defs.map (·.name) ++ defs.flatMap (·.needs)

theorem needs_in_allNames (defs : List DApp) (n : Nat) : ∀ d ∈ (lookup defs n).needs, d ∈ allNames defs := by
  intro d hd
  unfold lookup at hd
  cases hf : defs.find? (fun a => a.name == n) with
  | none => rw [hf] at hd; simp at hd
  | some a =>
    rw [hf] at hd
    have ha : a ∈ defs := List.mem_of_find?_eq_some hf
    exact List.mem_append_right _ (List.mem_flatMap.mpr ⟨a, ha, hd⟩)

/-- enough fuel is left in state `s`. `room` is strict (and `enough` has its `+ 1`) because `appLoad` looks at the
    fuel before it looks whether the app is in the map: a call for a loaded app still needs one unit -/
structure FInv (U : List Nat) (k : Nat) (s : DSt) : Prop where
  nodup : s.apps.Nodup
  sub : ∀ m ∈ s.apps, m ∈ U
  room : U.length < k + s.apps.length

def FGood (U : List Nat) (k : Nat) (f : Nat → DSt → DSt × Option DRes) : Prop :=
  ∀ n s, n ∈ U → FInv U k s → (f n s).2 ≠ some .fuel ∧ FInv U k (f n s).1

theorem loadNeeds_fuel (U : List Nat) (k : Nat) (f : Nat → DSt → DSt × Option DRes) (hf : FGood U k f)
    (ns : List Nat) (s : DSt) (hn : ∀ n ∈ ns, n ∈ U) (h : FInv U k s) :
    (loadNeeds f ns s).2 ≠ some .fuel ∧ FInv U k (loadNeeds f ns s).1 := by
  fun_induction loadNeeds f ns s
  · exact ⟨fun e => (nomatch e), h⟩
  · rename_i n ns s s' x ih
    have h1 := hf n s (hn n List.mem_cons_self) h
    rw [x] at h1
    exact ih (fun m hm => hn m (List.mem_cons_of_mem _ hm)) h1.2
  · rename_i n ns s s' r x
    have h1 := hf n s (hn n List.mem_cons_self) h
    rwa [x] at h1

theorem appLoad_fuel (defs : List DApp) : ∀ k, FGood (allNames defs) k (appLoad defs k)
  | 0 => by
    intro n s _ h
    exfalso
    have := h.nodup.length_le_of_subset (fun m hm => h.sub m hm)
    have := h.room
    omega
  | k + 1 => by
    intro n s hn h
    -- after the map entry for `n` is made there is still room for everything below
    have key : ¬ s.apps.contains n = true → ∀ s' o,
        loadNeeds (appLoad defs k) (lookup defs n).needs (dev { s with apps := s.apps ++ [n] } [.prov n]) = (s', o) →
        o ≠ some .fuel ∧ ∀ t : DSt, t.apps = s'.apps → FInv (allNames defs) (k + 1) t := by
      intro hnin s' o x
      have hn' : n ∉ s.apps := by simpa using hnin
      have h1 : FInv (allNames defs) k (dev { s with apps := s.apps ++ [n] } [.prov n]) := by
        refine ⟨(List.perm_append_singleton n s.apps).nodup_iff.mpr (List.nodup_cons.mpr ⟨hn', h.nodup⟩),
          List.forall_mem_append.mpr ⟨h.sub, List.forall_mem_singleton.mpr hn⟩, ?_⟩
        have := h.room
        simp only [dev, List.length_append, List.length_singleton]
        omega
      have g := loadNeeds_fuel (allNames defs) k (appLoad defs k) (appLoad_fuel defs k)
        (lookup defs n).needs _ (needs_in_allNames defs n) h1
      rw [x] at g
      simp only at g
      refine ⟨g.1, fun t ht => ⟨ht ▸ g.2.nodup, fun m hm => g.2.sub m (ht ▸ hm), ?_⟩⟩
      have := g.2.room
      rw [ht]; omega
    generalize hk : k + 1 = k'
    fun_cases appLoad defs k' n s
    · cases hk
    all_goals cases hk
    · exact ⟨fun e => (nomatch e), h⟩
    · rename_i hnin x; exact ⟨(key hnin _ _ x).1, (key hnin _ _ x).2 _ rfl⟩
    all_goals rename_i hnin x; exact ⟨fun e => (nomatch e), (key hnin _ _ x).2 _ rfl⟩

/-- **the model never runs out of fuel**: with `enough defs` units — one per app that can ever get
    into the map, plus one — a load never answers `fuel`, whatever the graph and the orders. -/
theorem load_never_runs_out_of_fuel (defs : List DApp) (pp ps : List Nat) :
    (load defs pp ps (enough defs)).2 ≠ .fuel := by
  have h0 : FInv (allNames defs) (enough defs) ⟨[], [], []⟩ := by
    refine ⟨List.nodup_nil, by simp, ?_⟩
    simp [enough, allNames, List.length_append]
  obtain ⟨g1, _⟩ := loadNeeds_fuel (allNames defs) (enough defs) (appLoad defs (enough defs))
    (appLoad_fuel defs (enough defs)) (orderNames pp (defs.map (·.name))) ⟨[], [], []⟩ (by
      intro n hn
      exact List.mem_append_left _ ((orderNames_perm pp (defs.map (·.name))).mem_iff.mp hn)) h0
  fun_cases load defs pp ps (enough defs)
  · rename_i x; rw [x] at g1; exact fun e => g1 (congrArg some e)
  all_goals exact fun e => (nomatch e)

-- non-vacuity: the cycle 0 ↔ 1 with the unconfigured app 3 behind it needs depth 3 (2 runs out); `enough` gives 8
example : (load exDefs [0] [] 2).2 = .fuel ∧ (load exDefs [0] [] (enough exDefs)).2 ≠ .fuel := by decide

end CaddyModel.Deps
