/-
Two kinds of events, one opening and one closing the things identified by `ι` (Provision / Cleanup
of a module instance, "Start returned nil" / Stop of an app): in the event list `E`, with `A` the
things that are open now, nothing was opened twice, what is open was opened once and never closed,
everything else was closed exactly as often as it was opened. Shared by the balances of the
Lifecycle model (`C03/Balance.lean`) and of lazy app loading (`C03/DepsLemmas.lean`).
-/
namespace CaddyModel

structure Paired {ε ι : Type} [DecidableEq ε] (opn cls : ι → ε) (E : List ε) (A : List ι) : Prop where
  nodup : A.Nodup
  once : ∀ i, E.count (opn i) ≤ 1
  live : ∀ i ∈ A, E.count (cls i) = 0 ∧ E.count (opn i) = 1
  dead : ∀ i, i ∉ A → E.count (cls i) = E.count (opn i)

/-- what the proofs ask of the two event constructors, said once per pair of kinds (`Ev.prov` / `Ev.clean`, …) -/
structure Kinds {ε ι : Type} (opn cls : ι → ε) : Prop where
  opn_inj : ∀ i j, opn j = opn i → j = i
  cls_inj : ∀ i j, cls j = cls i → j = i
  ne : ∀ i j, opn j ≠ cls i

theorem count_snoc_ne {ε : Type} [DecidableEq ε] {E : List ε} {e x : ε} (h : e ≠ x) : (E ++ [x]).count e = E.count e := by
  simp [List.count_append, Ne.symm h]

namespace Paired
variable {ε ι : Type} [DecidableEq ε] {opn cls : ι → ε} {E : List ε} {A : List ι}

theorem perm {A' : List ι} (h : Paired opn cls E A) (p : A.Perm A') : Paired opn cls E A' :=
  ⟨p.nodup_iff.mp h.nodup, h.once, fun i hi => h.live i (p.mem_iff.mpr hi),
   fun i hi => h.dead i (fun hh => hi (p.mem_iff.mp hh))⟩

theorem closed_le (h : Paired opn cls E A) (i : ι) : E.count (cls i) ≤ E.count (opn i) ∧ E.count (opn i) ≤ 1 := by
  refine ⟨?_, h.once i⟩
  by_cases hi : i ∈ A
  · rw [(h.live i hi).1]; exact Nat.zero_le _
  · rw [h.dead i hi]; exact Nat.le_refl _

theorem exactly_once (h : Paired opn cls E A) (i : ι) (ho : opn i ∈ E) :
    (i ∈ A ∧ E.count (cls i) = 0) ∨ (i ∉ A ∧ E.count (cls i) = 1) := by
  by_cases hi : i ∈ A
  · exact Or.inl ⟨hi, (h.live i hi).1⟩
  · have := h.once i; have := List.count_pos_iff.mpr ho
    exact Or.inr ⟨hi, by rw [h.dead i hi]; omega⟩

theorem nil_of (h : ∀ i, opn i ∉ E ∧ cls i ∉ E) : Paired opn cls E [] :=
  ⟨List.nodup_nil, fun i => by rw [List.count_eq_zero.mpr (h i).1]; exact Nat.zero_le _, fun _ hm => (nomatch hm),
    fun i _ => by rw [List.count_eq_zero.mpr (h i).1, List.count_eq_zero.mpr (h i).2]⟩

theorem other (h : Paired opn cls E A) (es : List ε) (hes : ∀ e ∈ es, ∀ i, e ≠ opn i ∧ e ≠ cls i) :
    Paired opn cls (E ++ es) A := by
  have ho : ∀ i, es.count (opn i) = 0 := fun i => List.count_eq_zero.mpr fun hm => (hes _ hm i).1 rfl
  have hc : ∀ i, es.count (cls i) = 0 := fun i => List.count_eq_zero.mpr fun hm => (hes _ hm i).2 rfl
  refine ⟨h.nodup, fun i => ?_, fun i hi => ?_, fun i hi => ?_⟩
  · rw [List.count_append, ho]; exact h.once i
  · rw [List.count_append, List.count_append, ho, hc]; exact h.live i hi
  · rw [List.count_append, List.count_append, ho, hc]; exact h.dead i hi

/-- (`i` never opened and not open: then never closed either, by `dead`) -/
theorem opened (k : Kinds opn cls) (h : Paired opn cls E A) (i : ι) (ho : E.count (opn i) = 0) (hi : i ∉ A) :
    Paired opn cls (E ++ [opn i]) (i :: A) := by
  have hc : E.count (cls i) = 0 := (h.dead i hi).trans ho
  have hoc : ∀ j, cls j ≠ opn i := fun j e => k.ne j i e.symm
  have hne : ∀ j, j ≠ i → (E ++ [opn i]).count (opn j) = E.count (opn j) :=
    fun j hj => count_snoc_ne fun e => hj (k.opn_inj i j e)
  have hself : (E ++ [opn i]).count (opn i) = 1 := by simp [List.count_append, ho]
  refine ⟨List.nodup_cons.mpr ⟨hi, h.nodup⟩, fun j => ?_, fun j hj => ?_, fun j hj => ?_⟩
  · by_cases e : j = i
    · rw [e, hself]; exact Nat.le_refl 1
    · rw [hne j e]; exact h.once j
  · rw [count_snoc_ne (hoc j)]
    rcases List.mem_cons.mp hj with rfl | hj
    · exact ⟨hc, hself⟩
    · rw [hne j fun e => hi (e ▸ hj)]; exact h.live j hj
  · rw [count_snoc_ne (hoc j), hne j fun e => hj (e ▸ List.mem_cons_self)]
    exact h.dead j fun hm => hj (List.mem_cons_of_mem _ hm)

theorem closed (k : Kinds opn cls) {i : ι} (h : Paired opn cls E (i :: A)) : Paired opn cls (E ++ [cls i]) A := by
  obtain ⟨hi, hn⟩ := List.nodup_cons.mp h.nodup
  have hoc : ∀ j, opn j ≠ cls i := k.ne i
  have hne : ∀ j, j ≠ i → (E ++ [cls i]).count (cls j) = E.count (cls j) :=
    fun j hj => count_snoc_ne fun e => hj (k.cls_inj i j e)
  refine ⟨hn, fun j => ?_, fun j hj => ?_, fun j hj => ?_⟩
  · rw [count_snoc_ne (hoc j)]; exact h.once j
  · rw [count_snoc_ne (hoc j), hne j fun e => hi (e ▸ hj)]
    exact h.live j (List.mem_cons_of_mem _ hj)
  · rw [count_snoc_ne (hoc j)]
    by_cases e : j = i
    · have := h.live i List.mem_cons_self
      rw [e, this.2]; simp [List.count_append, this.1]
    · rw [hne j e]
      exact h.dead j fun hm => (List.mem_cons.mp hm).elim e hj

theorem closedAll (k : Kinds opn cls) {P : List ι} (h : Paired opn cls E (P ++ A)) :
    Paired opn cls (E ++ P.map cls) A := by
  induction P generalizing E with
  | nil => simpa using h
  | cons i P ih => simpa using ih (h.closed k)

theorem closedEvery (k : Kinds opn cls) (h : Paired opn cls E A) : Paired opn cls (E ++ A.map cls) [] :=
  closedAll k (by simpa using h)

end Paired

end CaddyModel
