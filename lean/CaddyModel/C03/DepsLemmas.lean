/-
Deps — invariant of lazy app loading: whatever the dependency graph (cycles, unconfigured apps,
failing dependencies), Provision / Cleanup events are paired (`Paired`, as in the Lifecycle model):
every app is provisioned at most once, and the apps alive are those on the call stack of ctx.App
or loaded. Beside it: `orderNames_perm`, `cancelAll` / `stopAll` in closed form, ctx.App never answers `ok`, the example `exDefs`.
-/
import CaddyModel.C03.Deps
import CaddyModel.C03.Paired

namespace CaddyModel.Deps

def isStartEv : DEv → Bool
  | .start _ => true | .started _ => true | .startFail _ => true | .stop _ => true
  | _ => false

theorem provClean : Kinds DEv.prov DEv.clean :=
  ⟨fun _ _ e => DEv.prov.inj e, fun _ _ e => DEv.clean.inj e, fun _ _ e => nomatch e⟩

theorem startedStop : Kinds DEv.started DEv.stop :=
  ⟨fun _ _ e => DEv.started.inj e, fun _ _ e => DEv.stop.inj e, fun _ _ e => nomatch e⟩

theorem orderNames_perm (π rest : List Nat) : (orderNames π rest).Perm rest := by
  fun_induction orderNames π rest
  · exact List.Perm.refl _
  · rename_i h ih
    exact (ih.cons _).trans (List.perm_cons_erase (by simpa using h)).symm
  · rename_i ih; exact ih

theorem cancelAll_eq (l : List Nat) (s : DSt) : cancelAll l s = { s with events := s.events ++ l.map .clean } := by
  fun_induction cancelAll l s <;> simp_all [dev]

theorem stopAll_eq (l : List Nat) (s : DSt) : stopAll l s = { s with events := s.events ++ l.map .stop } := by
  fun_induction stopAll l s <;> simp_all [dev]

/-- `DInv s stk`: `stk` = the apps whose Provision is in progress (the call stack of ctx.App) -/
structure DInv (s : DSt) (stk : List Nat) : Prop where
  pair : Paired DEv.prov DEv.clean s.events (stk ++ s.live)
  apps : ∀ n, n ∈ s.apps ↔ DEv.prov n ∈ s.events
  anodup : s.apps.Nodup
  nostart : ∀ e ∈ s.events, isStartEv e = false

theorem DInv.not_start {s : DSt} {stk : List Nat} (h : DInv s stk) {e : DEv} (he : isStartEv e = true) :
    e ∉ s.events := fun hm => by rw [h.nostart e hm] at he; cases he

/-- no failure so far -/
def NoClean (s : DSt) : Prop := ∀ n, DEv.clean n ∉ s.events

/-- what one call of ctx.App guarantees: the invariant, and — as long as it reports no error — that nothing has been
    cleaned up yet (an accepted load has no `.clean` event: `load_spec`) -/
def Good (f : Nat → DSt → DSt × Option DRes) : Prop :=
  ∀ n s stk, DInv s stk → DInv (f n s).1 stk ∧ ((f n s).2 = none → NoClean s → NoClean (f n s).1)

theorem loadNeeds_good (f : Nat → DSt → DSt × Option DRes) (hf : Good f) (ns : List Nat) (s : DSt)
    (stk : List Nat) (h : DInv s stk) :
    DInv (loadNeeds f ns s).1 stk ∧ ((loadNeeds f ns s).2 = none → NoClean s → NoClean (loadNeeds f ns s).1) := by
  fun_induction loadNeeds f ns s
  · exact ⟨h, fun _ hc => hc⟩
  · rename_i n ns s s' x ih
    have h1 := hf n s stk h
    rw [x] at h1
    obtain ⟨g1, g2⟩ := ih h1.1
    exact ⟨g1, fun hn hc => g2 hn (h1.2 rfl hc)⟩
  · rename_i n ns s s' r x
    have h1 := hf n s stk h
    rw [x] at h1
    exact ⟨h1.1, fun hn => nomatch hn⟩

theorem appLoad_good (defs : List DApp) : ∀ fuel, Good (appLoad defs fuel)
  | 0 => fun n s stk h => ⟨h, fun hn => nomatch hn⟩
  | fuel + 1 => by
    intro n s stk h
    have key : ¬ s.apps.contains n = true → ∀ s' o,
        loadNeeds (appLoad defs fuel) (lookup defs n).needs (dev { s with apps := s.apps ++ [n] } [.prov n]) = (s', o) →
        DInv s' (n :: stk) ∧ (o = none → NoClean s → NoClean s') := by
      intro hnin s' o x
      have hn : DEv.prov n ∉ s.events := fun hm => hnin (by simpa using (h.apps n).mpr hm)
      have hA : n ∉ stk ++ s.live := fun hm => by
        have := (h.pair.live n hm).2
        rw [List.count_eq_zero.mpr hn] at this; cases this
      have h1 : DInv (dev { s with apps := s.apps ++ [n] } [.prov n]) (n :: stk) := by
        refine ⟨h.pair.opened provClean n (List.count_eq_zero.mpr hn) hA, fun m => ?_, ?_,
          List.forall_mem_append.mpr ⟨h.nostart, List.forall_mem_singleton.mpr rfl⟩⟩
        · simp only [dev, List.mem_append, List.mem_singleton, h.apps m, DEv.prov.injEq]
        · exact (List.perm_append_singleton n s.apps).nodup_iff.mpr
            (List.nodup_cons.mpr ⟨fun ha => hn ((h.apps n).mp ha), h.anodup⟩)
      have g := loadNeeds_good (appLoad defs fuel) (appLoad_good defs fuel) (lookup defs n).needs _ (n :: stk) h1
      rw [x] at g
      exact ⟨g.1, fun ho hc => g.2 ho fun m hm => by
        rcases List.mem_append.mp hm with hm | hm
        · exact hc m hm
        · cases List.mem_singleton.mp hm⟩
    -- Provision / Validate of n failed: immediate Cleanup, with `es` = the events that end it
    have fail : ∀ {s'} es, DInv s' (n :: stk) → (es = [.clean n] ∨ es = [.valid n, .clean n]) → DInv (dev s' es) stk := by
      intro s' es g hes
      have hp : Paired DEv.prov DEv.clean (s'.events ++ es) (stk ++ s'.live) := by
        rcases hes with rfl | rfl
        · exact g.pair.closed provClean
        · have := (g.pair.other [.valid n] (by simp)).closed provClean
          simpa using this
      refine ⟨hp, fun m => ?_, g.anodup, List.forall_mem_append.mpr ⟨g.nostart, ?_⟩⟩
      · show m ∈ s'.apps ↔ _
        rw [g.apps m]; rcases hes with rfl | rfl <;> simp [dev]
      · rcases hes with rfl | rfl
        · exact List.forall_mem_singleton.mpr rfl
        · exact List.forall_mem_cons.mpr ⟨rfl, List.forall_mem_singleton.mpr rfl⟩
    -- (`fun_cases` wants a variable for the fuel)
    generalize hk : fuel + 1 = k
    fun_cases appLoad defs k n s
    · cases hk
    all_goals cases hk
    · exact ⟨h, fun _ hc => hc⟩
    · rename_i s' r hnin x
      exact ⟨fail _ (key hnin s' _ x).1 (Or.inl rfl), fun hn => nomatch hn⟩
    · rename_i s' _ hnin x
      exact ⟨fail _ (key hnin s' _ x).1 (Or.inl rfl), fun hn => nomatch hn⟩
    · rename_i s' _ _ hnin x
      exact ⟨fail _ (key hnin s' _ x).1 (Or.inr rfl), fun hn => nomatch hn⟩
    · rename_i s' _ _ hnin x
      obtain ⟨g, gc⟩ := key hnin s' _ x
      refine ⟨⟨?_, fun m => ?_, g.anodup, List.forall_mem_append.mpr ⟨g.nostart, List.forall_mem_singleton.mpr rfl⟩⟩,
        fun _ hc m hm => ?_⟩
      · have := (g.pair.other [.valid n] (by simp)).perm (List.perm_append_singleton n (stk ++ s'.live)).symm
        simpa [dev, List.append_assoc] using this
      · show m ∈ s'.apps ↔ _
        rw [g.apps m]; simp [dev]
      · rcases List.mem_append.mp hm with hm | hm
        · exact gc rfl hc m hm
        · cases List.mem_singleton.mp hm

theorem loadNeeds_ne_ok (f : Nat → DSt → DSt × Option DRes) (hf : ∀ n s, (f n s).2 ≠ some .ok) (ns : List Nat)
    (s : DSt) : (loadNeeds f ns s).2 ≠ some .ok := by
  fun_induction loadNeeds f ns s
  · exact fun h => nomatch h
  · rename_i ih; exact ih
  · rename_i n _ s _ _ x; have := hf n s; rwa [x] at this

theorem appLoad_ne_ok (defs : List DApp) : ∀ fuel n s, (appLoad defs fuel n s).2 ≠ some .ok
  | 0, n, s => fun h => nomatch h
  | fuel + 1, n, s => by
    have h := loadNeeds_ne_ok (appLoad defs fuel) (appLoad_ne_ok defs fuel) (lookup defs n).needs
      (dev { s with apps := s.apps ++ [n] } [.prov n])
    generalize hk : fuel + 1 = k
    fun_cases appLoad defs k n s
    · cases hk
    all_goals cases hk
    · exact fun h => nomatch h
    · rename_i x; rwa [x] at h
    all_goals exact fun h => nomatch h

-- 0 needs 1 and 2; 1 needs 0 (a cycle) and 3 (configured by nobody); 2 fails in Start
def exDefs : List DApp := [⟨0, [1, 2], 0⟩, ⟨1, [0, 3], 0⟩, ⟨2, [], 5⟩]

end CaddyModel.Deps
