/-
C13 — model of the admin endpoint's request gate (admin.go), as the code is:

  newAdminHandler      enforceHost from the listen address kind, allowedOrigins, enforceOrigin,
                       remoteControl; every route (built-in and module) registered on one mux
  allowedOrigins       configured origins, or the default set derived from the listen address
  serveHTTP            remote ACL → websocket → host → origin (+CORS headers) → mux,
                       re-entered from handleError on errInternalRedir (the /id/ handler)
  checkHost / checkOrigin / getOrigin / originAllowed
  enforceAccessControls  chains → certificates → ACL entries → keys; the FIRST listed key found
                       decides; EVERY permission entry of that ACL entry must allow
  handleConfigID       "/id/<id>/rest…" → path.Join(index[id], rest…), errInternalRedir
  http.ServeMux        only for the pattern forms admin.go and the harness register
                       ("/exact" and "/subtree/"), incl. the 301 for unclean paths and "/x" → "/x/"

What the Go code delegates to the standard library's parsers enters this file as data: `url.Parse`
results (`Url`), the `netip.ParseAddr` classification (`IpClass`), the split listen address (`Addr`);
the gate theorems hold for every value of them.  `Url.lean`, `Netip.lean` and `Listen.lean` model
those parsers byte by byte, and the driver fills the fields from these models.  Public keys are
small numbers; `Equal` is `=`.
Byte strings are `List UInt8`; constants are spelled as byte lists so that `decide` can
evaluate the model (no `String` at run time of a proof).
-/
import CaddyModel.Util.Hex

namespace CaddyModel.C13

-- ---------------------------------------------------------------- constants
def sUnix : Bytes := [117, 110, 105, 120]   -- "unix"
def sFd : Bytes := [102, 100]   -- "fd"
def sLocalhost : Bytes := [108, 111, 99, 97, 108, 104, 111, 115, 116]   -- "localhost"
def sV6Loop : Bytes := [58, 58, 49]   -- "::1"
def sV4Loop : Bytes := [49, 50, 55, 46, 48, 46, 48, 46, 49]   -- "127.0.0.1"
def sWebsocket : Bytes := [119, 101, 98, 115, 111, 99, 107, 101, 116]   -- "websocket"
def sSchemeSep : Bytes := [58, 47, 47]   -- "://"
def sId : Bytes := [105, 100]   -- "id"
def sDot : Bytes := [46]   -- "."
def sDotDot : Bytes := [46, 46]   -- ".."
def sOPTIONS : Bytes := [79, 80, 84, 73, 79, 78, 83]   -- "OPTIONS"
def pConfig : Bytes := [47, 99, 111, 110, 102, 105, 103, 47]   -- "/config/"
def pId : Bytes := [47, 105, 100, 47]   -- "/id/"
def pStop : Bytes := [47, 115, 116, 111, 112]   -- "/stop"
def pPprof : Bytes := [47, 100, 101, 98, 117, 103, 47, 112, 112, 114, 111, 102, 47]   -- "/debug/pprof/"
def pCmdline : Bytes := [47, 100, 101, 98, 117, 103, 47, 112, 112, 114, 111, 102, 47, 99, 109, 100, 108, 105, 110, 101]   -- "/debug/pprof/cmdline"
def pProfile : Bytes := [47, 100, 101, 98, 117, 103, 47, 112, 112, 114, 111, 102, 47, 112, 114, 111, 102, 105, 108, 101]   -- "/debug/pprof/profile"
def pSymbol : Bytes := [47, 100, 101, 98, 117, 103, 47, 112, 112, 114, 111, 102, 47, 115, 121, 109, 98, 111, 108]   -- "/debug/pprof/symbol"
def pTrace : Bytes := [47, 100, 101, 98, 117, 103, 47, 112, 112, 114, 111, 102, 47, 116, 114, 97, 99, 101]   -- "/debug/pprof/trace"
def pVars : Bytes := [47, 100, 101, 98, 117, 103, 47, 118, 97, 114, 115]   -- "/debug/vars"

def slash : UInt8 := 47
def colon : UInt8 := 58
def percent : UInt8 := 37

-- ---------------------------------------------------------------- Go string helpers
/-- `strings.HasPrefix(s, p)` -/
def hasPrefix (s p : Bytes) : Bool := p.isPrefixOf s

/-- `strings.Contains(s, sub)` -/
def containsSub : Bytes → Bytes → Bool
  | [], sub => sub.isEmpty
  | c :: cs, sub => sub.isPrefixOf (c :: cs) || containsSub cs sub

/-- `strings.Split(s, "/")` -/
def splitSlash : Bytes → List Bytes
  | [] => [[]]
  | c :: cs =>
    if c = slash then [] :: splitSlash cs
    else match splitSlash cs with
      | [] => [[c]]
      | h :: t => (c :: h) :: t

/-- `strings.Join(l, "/")` -/
def joinSlash : List Bytes → Bytes
  | [] => []
  | [a] => a
  | a :: b :: t => a ++ slash :: joinSlash (b :: t)

def decDigits : Nat → Nat → List UInt8 → List UInt8
  | 0, _, acc => acc
  | fuel + 1, n, acc =>
    if n < 10 then (48 + n).toUInt8 :: acc
    else decDigits fuel (n / 10) ((48 + n % 10).toUInt8 :: acc)

/-- `strconv.FormatUint(n, 10)` -/
def natToDec (n : Nat) : Bytes := decDigits (n + 1) n []

/-- the element loop of `path.Clean` on the `/`-separated elements; `st` is the output so far
    (reversed). Empty and `.` elements vanish, `..` removes the previous element, cannot climb
    above the root of a rooted path and accumulates at the front of a relative one. -/
def cleanSegs (rooted : Bool) : List Bytes → List Bytes → List Bytes
  | [], st => st.reverse
  | s :: ss, st =>
    if s = [] || s = sDot then cleanSegs rooted ss st
    else if s = sDotDot then
      match st with
      | t :: st' => if t = sDotDot then cleanSegs rooted ss (s :: st) else cleanSegs rooted ss st'
      | [] => if rooted then cleanSegs rooted ss [] else cleanSegs rooted ss [s]
    else cleanSegs rooted ss (s :: st)

/-- `path.Clean(p)` -/
def pathClean (p : Bytes) : Bytes :=
  if p = [] then sDot
  else if p.head? = some slash then slash :: joinSlash (cleanSegs true (splitSlash p) [])
  else if cleanSegs false (splitSlash p) [] = [] then sDot
  else joinSlash (cleanSegs false (splitSlash p) [])

/-- `path.Join(elems…)`: empty elements are ignored, the rest is joined and cleaned -/
def pathJoin (elems : List Bytes) : Bytes :=
  if elems.filter (· ≠ []) = [] then [] else pathClean (joinSlash (elems.filter (· ≠ [])))

-- ---------------------------------------------------------------- listen address
/-- what `netip.ParseAddr(host)` says about the host part (a field of `Addr`; `Netip.lean` computes it) -/
inductive IpClass where
  | notIP | unspecified | loopback | other
deriving DecidableEq, Repr

/-- `NetworkAddress` after `parseAdminListenAddr` (exactly one port) -/
structure Addr where
  network : Bytes
  host : Bytes
  port : Nat
  ip : IpClass
deriving DecidableEq, Repr

def Addr.isUnix (a : Addr) : Bool := hasPrefix a.network sUnix
def Addr.isFd (a : Addr) : Bool := hasPrefix a.network sFd
def Addr.isLoopback (a : Addr) : Bool :=
  a.isUnix || a.isFd || a.host == sLocalhost || a.ip == IpClass.loopback
def Addr.isWildcard (a : Addr) : Bool := a.host == [] || a.ip == IpClass.unspecified

/-- `net.JoinHostPort` (Go 1.24: square brackets iff the host contains a colon) -/
def joinHostPort (host port : Bytes) : Bytes :=
  if host.contains colon then 91 :: host ++ 93 :: colon :: port
  else host ++ colon :: port

def Addr.joinHostPort (a : Addr) : Bytes :=
  if a.isUnix || a.isFd then a.host else C13.joinHostPort a.host (natToDec a.port)

-- ---------------------------------------------------------------- configuration
/-- `url.Parse(s)` followed by clearing Path/RawPath/Fragment/RawQuery: what the gate looks at -/
structure Url where
  ok : Bool
  scheme : Bytes
  host : Bytes
deriving DecidableEq, Repr

/-- one entry of `admin.origins` with the table value `url.Parse(raw)` (consulted only when
    `raw` contains "://") -/
structure OriginEntry where
  raw : Bytes
  parsed : Url
deriving DecidableEq, Repr

/-- an element of `adminHandler.allowedOrigins` -/
structure Allowed where
  scheme : Bytes
  host : Bytes
deriving DecidableEq, Repr

/-- `AdminPermissions`; `none` is a nil slice (no restriction), `some []` allows nothing -/
structure Perm where
  methods : Option (List Bytes)
  paths : Option (List Bytes)
deriving DecidableEq, Repr

/-- `AdminAccess` after key extraction -/
structure Access where
  keys : List Nat
  perms : List Perm
deriving DecidableEq, Repr

structure AdminCfg where
  origins : Option (List OriginEntry)     -- `none` = JSON null / absent
  enforceOrigin : Bool
  remote : Option (List Access)           -- `admin.remote` (`none` = not configured)
deriving DecidableEq, Repr

/-- body of the loop over `uniqueOrigins` in `allowedOrigins` -/
def entryAllowed (e : OriginEntry) : Option Allowed :=
  if containsSub e.raw sSchemeSep then
    (if e.parsed.ok then some ⟨e.parsed.scheme, e.parsed.host⟩ else none)
  else some ⟨[], e.raw⟩

/-- the default origins added when `admin.origins` is null (never contain "://") -/
def defaultOrigins (a : Addr) : List Bytes :=
  if a.isLoopback then
    [joinHostPort sLocalhost (natToDec a.port), joinHostPort sV6Loop (natToDec a.port),
     joinHostPort sV4Loop (natToDec a.port)]
  else [a.joinHostPort]

/-- `AdminConfig.allowedOrigins(addr)`; Go collects the strings in a map first, so the order of
    the result is unspecified — every consumer below is an existential over the list. -/
def allowedOrigins (origins : Option (List OriginEntry)) (a : Addr) : List Allowed :=
  match origins with
  | some l => l.filterMap entryAllowed
  | none =>
    if !a.isUnix && !a.isFd then (defaultOrigins a).map (fun h => (⟨[], h⟩ : Allowed)) else []

/-- the fields of `adminHandler` plus the patterns registered on its mux -/
structure Handler where
  remote : Option (List Access)
  enforceHost : Bool
  enforceOrigin : Bool
  allowed : List Allowed
  pats : List Bytes
deriving DecidableEq, Repr

def builtinPats : List Bytes :=
  [pConfig, pId, pStop, pPprof, pCmdline, pProfile, pSymbol, pTrace, pVars]

/-- `newAdminHandler(addr, remote, _)`; `modulePats` are the patterns of every `admin.api` module -/
def newAdminHandler (cfg : AdminCfg) (a : Addr) (remote : Bool) (modulePats : List Bytes) : Handler :=
  if remote then
    { remote := cfg.remote, enforceHost := false, enforceOrigin := false, allowed := [],
      pats := builtinPats ++ modulePats }
  else
    { remote := none,
      enforceHost := !a.isWildcard && !a.isUnix && !a.isFd,
      enforceOrigin := cfg.enforceOrigin,
      allowed := allowedOrigins cfg.origins a,
      pats := builtinPats ++ modulePats }

-- ---------------------------------------------------------------- request
structure Req where
  method : Bytes
  host : Bytes                      -- r.Host
  path : Bytes                      -- r.URL.Path (the only field an internal redirect rewrites)
  upgrade : List Bytes              -- values of the Upgrade header, in order
  origin : Bytes                    -- r.Header.Get("Origin")  ("" when absent)
  referer : Bytes                   -- r.Header.Get("Referer")
  originUrl : Url                   -- table: url.Parse(origin), cleared
  refererUrl : Url                  -- table: url.Parse(referer), cleared
  tls : Option (List (List Nat))    -- r.TLS.VerifiedChains as key ids; `none` = r.TLS == nil
deriving DecidableEq, Repr

def Req.withPath (r : Req) (p : Bytes) : Req := { r with path := p }

-- ---------------------------------------------------------------- enforceAccessControls
inductive AclRes where
  | allow | methodDenied | pathDenied
deriving DecidableEq, Repr

def methodOK (p : Perm) (method : Bytes) : Bool :=
  match p.methods with
  | none => true
  | some ms => ms.contains method

def pathOK (p : Perm) (path : Bytes) : Bool :=
  match p.paths with
  | none => true
  | some ps => ps.any (fun allowedPath => hasPrefix path allowedPath)

/-- `for _, accessPerm := range adminAccess.Permissions { … }` -/
def permsCheck (method path : Bytes) : List Perm → AclRes
  | [] => .allow
  | p :: ps =>
    if !methodOK p method then .methodDenied
    else if !pathOK p path then .pathDenied
    else permsCheck method path ps

/-- `for _, adminAccess := range remote.AccessControl` for one peer certificate -/
def accessScan (method path : Bytes) (k : Nat) : List Access → Option AclRes
  | [] => none
  | a :: as => if a.keys.contains k then some (permsCheck method path a.perms) else accessScan method path k as

/-- `for _, peerCert := range chain` -/
def certScan (acl : List Access) (method path : Bytes) : List Nat → Option AclRes
  | [] => none
  | k :: ks =>
    match accessScan method path k acl with
    | some r => some r
    | none => certScan acl method path ks

/-- `for _, chain := range r.TLS.VerifiedChains`; `none` = fell through to the final 401 -/
def chainScan (acl : List Access) (method path : Bytes) : List (List Nat) → Option AclRes
  | [] => none
  | c :: cs =>
    match certScan acl method path c with
    | some r => some r
    | none => chainScan acl method path cs

-- ---------------------------------------------------------------- the gate (one pass of serveHTTP before the mux)
inductive Refusal where
  | aclMethod | aclPath | aclIdentity     -- 403 / 403 / 401
  | websocket                             -- 500 (plain error)
  | host | originMissing | originDenied   -- 403
deriving DecidableEq, Repr

inductive Gate where
  | pass (cors : Nat)      -- 0: no CORS header, 1: Allow-Origin, 2: Allow-Origin + Allow-Methods/-Headers/-Credentials
  | refuse (why : Refusal)
  | panic                  -- nil dereference of r.TLS on the remote endpoint
deriving DecidableEq, Repr

/-- `r.Header.Get("Upgrade")`: the first value -/
def firstUpgrade (r : Req) : Bytes :=
  match r.upgrade with
  | [] => []
  | v :: _ => v

def lowerByte (b : UInt8) : UInt8 := if 65 ≤ b ∧ b ≤ 90 then b + 32 else b
/-- `strings.ToLower` on an ASCII string (the protocol only carries ASCII Upgrade values) -/
def asciiLower (s : Bytes) : Bytes := s.map lowerByte

/-- the websocket test of `serveHTTP` as it is now (since /repo cc84cea):
    `slices.ContainsFunc(r.Header.Values("Upgrade"), v ↦ strings.Contains(strings.ToLower(v), "websocket"))` -/
def wsCheck (r : Req) : Bool := r.upgrade.any (fun v => containsSub (asciiLower v) sWebsocket)

/-- the test as it was before cc84cea: `strings.Contains(r.Header.Get("Upgrade"), "websocket")` —
    first value only, case-sensitive.  Kept for `websocket_old_code_fails`. -/
def wsCheckOld (r : Req) : Bool := containsSub (firstUpgrade r) sWebsocket

def checkHost (h : Handler) (r : Req) : Bool := h.allowed.any (fun a => r.host == a.host)

/-- `getOrigin`: Origin, else Referer; the parse result is the table value -/
def getOrigin (r : Req) : Url := if r.origin = [] then r.refererUrl else r.originUrl

def originMatches (u : Url) (a : Allowed) : Bool :=
  !(a.scheme != [] && u.scheme != a.scheme) && u.host == a.host

def originAllowed (h : Handler) (u : Url) : Bool := h.allowed.any (originMatches u)

/-- the remote half of the gate; `none` = continue with the local checks -/
def aclGate (h : Handler) (r : Req) : Option Gate :=
  match h.remote with
  | none => none
  | some acl =>
    match r.tls with
    | none => some .panic
    | some chains =>
      match chainScan acl r.method r.path chains with
      | some .allow => none
      | some .methodDenied => some (.refuse .aclMethod)
      | some .pathDenied => some (.refuse .aclPath)
      | none => some (.refuse .aclIdentity)

/-- `originStr` of `getOrigin`: the Origin header, else the Referer header ("" = neither) -/
def originStr (r : Req) : Bytes := if r.origin = [] then r.referer else r.origin

/-- the checks after the ACL.  `ws` is the websocket test; `strictMissing` says whether
    `checkOrigin` refuses an absent Origin/Referer outright (`originStr == "" || origin == nil`, the
    code as it is now) or only an unparsable one (`origin == nil`, the code before the fix, for
    which the absent header is the empty URL and goes on to `originAllowed`). -/
def localGateWith (ws : Req → Bool) (strictMissing : Bool) (h : Handler) (r : Req) : Gate :=
  if ws r then .refuse .websocket
  else if h.enforceHost && !checkHost h r then .refuse .host
  else if h.enforceOrigin then
    (if (strictMissing && originStr r == []) || !(getOrigin r).ok then .refuse .originMissing
     else if !originAllowed h (getOrigin r) then .refuse .originDenied
     else .pass (if r.method = sOPTIONS then 2 else 1))
  else .pass 0

def localGate (h : Handler) (r : Req) : Gate := localGateWith wsCheck true h r

def gate (h : Handler) (r : Req) : Gate :=
  match aclGate h r with
  | some g => g
  | none => localGate h r

/-- the gate with the websocket test of the old code (before cc84cea) -/
def gateOld (h : Handler) (r : Req) : Gate :=
  match aclGate h r with
  | some g => g
  | none => localGateWith wsCheckOld false h r

/-- the gate with the `checkOrigin` of the old code (absent header not refused outright) -/
def gateOldOrigin (h : Handler) (r : Req) : Gate :=
  match aclGate h r with
  | some g => g
  | none => localGateWith wsCheck false h r

/-- which top-level statement of `serveHTTP` answers the request: the name of the refusing check,
    or "mux" when all pass (names as in the regenerated `Gen.adminGateSequence`) -/
def answeredBy (h : Handler) (r : Req) : String :=
  match gate h r with
  | .refuse .aclMethod => "acl" | .refuse .aclPath => "acl" | .refuse .aclIdentity => "acl"
  | .refuse .websocket => "websocket"
  | .refuse .host => "host"
  | .refuse .originMissing => "origin" | .refuse .originDenied => "origin"
  | .pass _ => "mux"
  | .panic => "panic"

-- ---------------------------------------------------------------- http.ServeMux (restricted pattern forms)
inductive Route where
  | handler (pat : Bytes)
  | redirect               -- 301: unclean path, or "/tree" → "/tree/"
  | notFound               -- 404 from the mux itself
deriving DecidableEq, Repr

def okSeg (s : Bytes) : Bool := s != [] && s != sDot && s != sDotDot

/-- all elements but the last must be proper names; the last may be empty (trailing slash) -/
def okSegs : List Bytes → Bool
  | [] => true
  | [s] => s = [] || okSeg s
  | s :: t => okSeg s && okSegs t

/-- the mux serves `p` itself (instead of redirecting to the cleaned path) -/
def isCleanPath (p : Bytes) : Bool :=
  match p with
  | [] => false
  | c :: rest => c = slash && okSegs (splitSlash rest)

def isSubtree (pat : Bytes) : Bool := pat.getLast? = some slash

def matchesPat (pat p : Bytes) : Bool := if isSubtree pat then hasPrefix p pat else p == pat

/-- the most specific (= longest) registered pattern matching `p` -/
def bestMatch (p : Bytes) : List Bytes → Option Bytes → Option Bytes
  | [], acc => acc
  | pat :: pats, acc =>
    if matchesPat pat p then
      match acc with
      | none => bestMatch p pats (some pat)
      | some b => if b.length < pat.length then bestMatch p pats (some pat) else bestMatch p pats acc
    else bestMatch p pats acc

/-- `matchOrRedirect` on a path the mux takes as it is: an exactly registered path wins, "/tree" is
    redirected to a registered "/tree/", else the longest matching subtree pattern -/
def routeRaw (pats : List Bytes) (p : Bytes) : Route :=
  if pats.contains p then .handler p
  else if p.getLast? != some slash && pats.contains (p ++ [slash]) then .redirect
  else match bestMatch p pats none with
    | some pat => .handler pat
    | none => .notFound

/-- every method but CONNECT: the path is canonicalised first, an unclean one is redirected -/
def route (pats : List Bytes) (p : Bytes) : Route :=
  if !isCleanPath p then .redirect else routeRaw pats p

def sCONNECT : Bytes := [67, 79, 78, 78, 69, 67, 84]   -- "CONNECT"

/-- CONNECT requests are not canonicalised ("//", "." and ".." segments are matched as they are).
    The routing tree drops the first byte of the path without looking at it (`firstSegment`), so a
    path that lost its leading slash in an `/id/` rewrite is matched as if it had one; the empty
    path matches nothing, but is redirected to "/" when "/" is registered. -/
def routeConnect (pats : List Bytes) (p : Bytes) : Route :=
  match p with
  | [] => if pats.contains [slash] then .redirect else .notFound
  | _ :: t => routeRaw pats (slash :: t)

-- ---------------------------------------------------------------- handleConfigID
inductive IdRes where
  | badRequest | unknownId
  | redirect (newPath : Bytes)
deriving DecidableEq, Repr

abbrev Index := List (Bytes × Bytes)   -- rawCfgIndex: id ↦ expanded path

def lookupId (idx : Index) (id : Bytes) : Option Bytes := (idx.find? (·.1 = id)).map (·.2)

def sConfigRoot : Bytes := [47, 99, 111, 110, 102, 105, 103]   -- "/config"

/-- `path.Join` drops a trailing slash, but the config as a whole is only served at "/config/"
    (since /repo dc51022): `if r.URL.Path == "/"+rawConfigKey { r.URL.Path += "/" }` -/
def topLevelSlash (p : Bytes) : Bytes := if p = sConfigRoot then p ++ [slash] else p

def handleConfigID (idx : Index) (path : Bytes) : IdRes :=
  match splitSlash path with
  | p0 :: p1 :: p2 :: rest =>
    if p2 = [] then .badRequest
    else if p0 ≠ [] || p1 ≠ sId then .badRequest
    else match lookupId idx p2 with
      | none => .unknownId
      | some expanded => .redirect (topLevelSlash (pathJoin (expanded :: rest)))
  | _ => .badRequest

/-- the paths `handleConfigID` alone would produce from `p`, ignoring the gate and the mux (an
    over-approximation of the real redirect chain); `none` = longer than `n` hops.  Used by the
    driver and the harness to keep cyclic indexes (on which the Go code recurses for ever) out of
    the protocol, and by `serve_never_runs_out_of_fuel`. -/
def idChain (idx : Index) : Nat → Bytes → Option (List Bytes)
  | 0, p => match handleConfigID idx p with
    | .redirect _ => none
    | _ => some [p]
  | n + 1, p => match handleConfigID idx p with
    | .redirect np => (idChain idx n np).map (p :: ·)
    | _ => some [p]

-- ---------------------------------------------------------------- serveHTTP
/-- one invocation of a registered handler: which route, with which `r.URL.Path` -/
structure Dispatch where
  pat : Bytes
  path : Bytes
deriving DecidableEq, Repr

inductive Final where
  | refused (why : Refusal)
  | handled (pat : Bytes)      -- a handler other than a redirecting /id/ ran and answered
  | idBadRequest | idUnknown   -- the /id/ handler answered 400 / 404 itself
  | muxRedirect | muxNotFound
  | panic
  | fuel                       -- model artefact: more internal redirects than the budget
deriving DecidableEq, Repr

structure Result (σ : Type) where
  trace : List Dispatch        -- every handler invocation, in order
  final : Final
  path : Bytes                 -- r.URL.Path when the request ended
  cors : Nat                   -- CORS headers present on the response (0/1/2)
  state : σ

/-- `serveHTTP`, re-entered through `handleError` on `errInternalRedir`.
    `H pat r s` is the effect on the server state of the handler registered for `pat`
    (anything: config mutation, process stop, a module's own state).  `mux method path` is the
    routing decision of the `http.ServeMux` the handler wraps — a parameter, so that the theorems
    hold for every route table a module can register (methods, wildcards, host patterns …); the
    driver instantiates it with `muxOf` below.  `fuel` bounds the number of
    passes; the Go code has no bound (it recurses as long as `/id/` targets lead to `/id/`). -/
def serve {σ : Type} (H : Bytes → Req → σ → σ) (mux : Bytes → Bytes → Route) (h : Handler) (idx : Index) :
    Nat → Req → σ → List Dispatch → Nat → Result σ
  | 0, r, s, tr, c => ⟨tr, .fuel, r.path, c, s⟩
  | fuel + 1, r, s, tr, c =>
    match gate h r with
    | .panic => ⟨tr, .panic, r.path, c, s⟩
    | .refuse why => ⟨tr, .refused why, r.path, c, s⟩
    | .pass c' =>
      match mux r.method r.path with
      | .redirect => ⟨tr, .muxRedirect, r.path, max c c', s⟩
      | .notFound => ⟨tr, .muxNotFound, r.path, max c c', s⟩
      | .handler pat =>
        if pat = pId then
          match handleConfigID idx r.path with
          | .badRequest => ⟨tr ++ [⟨pat, r.path⟩], .idBadRequest, r.path, max c c', s⟩
          | .unknownId => ⟨tr ++ [⟨pat, r.path⟩], .idUnknown, r.path, max c c', s⟩
          | .redirect np => serve H mux h idx fuel (r.withPath np) s (tr ++ [⟨pat, r.path⟩]) (max c c')
        else ⟨tr ++ [⟨pat, r.path⟩], .handled pat, r.path, max c c', H pat r s⟩

/-- external entry point `adminHandler.ServeHTTP` -/
def serveHTTP {σ : Type} (H : Bytes → Req → σ → σ) (mux : Bytes → Bytes → Route) (h : Handler)
    (idx : Index) (fuel : Nat) (r : Req) (s : σ) : Result σ :=
  serve H mux h idx fuel r s [] 0

/-- the mux `newAdminHandler` fills: Go's ServeMux on the registered "/exact" and "/subtree/"
    patterns (the method matters only through CONNECT, which is not canonicalised) -/
def muxOf (h : Handler) : Bytes → Bytes → Route :=
  fun m p => if m = sCONNECT then routeConnect h.pats p else route h.pats p

/-- the handler as `newAdminHandler` builds it: gate + its own mux -/
def serveReal {σ : Type} (H : Bytes → Req → σ → σ) (h : Handler) (idx : Index) (fuel : Nat)
    (r : Req) (s : σ) : Result σ :=
  serveHTTP H (muxOf h) h idx fuel r s

end CaddyModel.C13
