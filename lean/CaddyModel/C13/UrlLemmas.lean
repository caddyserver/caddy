/-
C13 — `nameByte` (a word of the stated theorems) and facts about the net/url model (Url.lean): serialised
origins `scheme://host[:port]`.
-/
import CaddyModel.C13.Url
import CaddyModel.C13.ListenLemmas

namespace CaddyModel.C13

/-- a byte of a host NAME or IPv4 address: letter, digit, `.` or `-` -/
def nameByte (b : UInt8) : Bool := isAlphaB b || isDigitB b || b = 46 || b = 45

theorem beforeB_of_absent (c : UInt8) (s : Bytes) (h : ∀ b ∈ s, b ≠ c) : beforeB c s = s := by
  simp [beforeB, cutAt_none c s h]

theorem getSchemeAux_alpha (rest : Bytes) :
    ∀ (sch acc : Bytes) (first : Bool), (∀ b ∈ sch, isAlphaB b = true) → (sch ≠ [] ∨ first = false) →
      getSchemeAux (sch ++ colon :: rest) first acc = some (some (acc.reverse ++ sch, rest)) := by
  intro sch
  induction sch with
  | nil =>
    intro acc first _ hf
    obtain rfl : first = false := hf.resolve_left (· rfl)
    simp [getSchemeAux, colon, isAlphaB, isDigitB]
  | cons c cs ih =>
    intro acc first hs _
    have hc : isAlphaB c = true := hs c (by simp)
    have := ih (c :: acc) false (fun b hb => hs b (by simp [hb])) (Or.inr rfl)
    simp [getSchemeAux, hc, this]

theorem nameByte_of_alpha {b : UInt8} (h : isAlphaB b = true) : nameByte b = true := by simp [nameByte, h]
theorem nameByte_of_digit {b : UInt8} (h : isDigitB b = true) : nameByte b = true := by simp [nameByte, h]

theorem nameByte_not_ctl {b : UInt8} (hb : nameByte b = true) : isCtlB b = false := by
  simp only [nameByte, isAlphaB, isDigitB, isCtlB, Bool.or_eq_true, Bool.and_eq_true, decide_eq_true_eq,
    Bool.or_eq_false_iff, decide_eq_false_iff_not, UInt8.le_iff_toNat_le, UInt8.lt_iff_toNat_lt,
    ← UInt8.toNat_inj, UInt8.toNat_ofNat] at *
  omega

theorem nameByte_hostOK {b : UInt8} (hb : nameByte b = true) : hostByteOK b = true := by
  simp only [nameByte, Bool.or_eq_true, decide_eq_true_eq] at hb
  rcases hb with ((h | h) | rfl) | rfl
  · simp [hostByteOK, h]
  · simp [hostByteOK, h]
  · decide
  · decide

theorem escScan_no_pct (okEsc : UInt8 → UInt8 → Bool) (okByte : UInt8 → Bool) :
    ∀ s : Bytes, (∀ b ∈ s, b ≠ 37 ∧ okByte b = true) → escScan okEsc okByte s = true
  | [], _ => rfl
  | [c], h => by simp [escScan, (h c (by simp)).1, (h c (by simp)).2]
  | [c, d], h => by
    simp [escScan, (h c (by simp)).1, (h c (by simp)).2, (h d (by simp)).1, (h d (by simp)).2]
  | c :: a :: b :: rest, h => by
    have := escScan_no_pct okEsc okByte (a :: b :: rest) (fun x hx => h x (by simp [hx]))
    simp [escScan, (h c (by simp)).1, (h c (by simp)).2, this]

theorem unescapeB_no_pct : ∀ s : Bytes, (∀ b ∈ s, b ≠ 37) → unescapeB s = s
  | [], _ => rfl
  | [_], _ => rfl
  | [_, _], _ => rfl
  | c :: a :: b :: rest, h => by
    have := unescapeB_no_pct (a :: b :: rest) (fun x hx => h x (by simp [hx]))
    simp [unescapeB, h c (by simp), this]

theorem parseHost_plain (h : Bytes) (hb : ∀ b ∈ h, nameByte b = true ∨ b = colon)
    (hport : ∀ i, lastIndexOfB colon h = some i → validOptionalPort (h.drop i) = true) :
    parseHost h = some h := by
  have hhead : h.head? ≠ some lbrack := fun e =>
    (hb lbrack (List.mem_of_mem_head? e)).elim (by decide) (by decide)
  have hbytes : ∀ b ∈ h, b ≠ 37 ∧ hostByteOK b = true := by
    intro b hm
    rcases hb b hm with hn | rfl
    · exact ⟨ne_of_class hn rfl, nameByte_hostOK hn⟩
    · exact ⟨by decide, by decide⟩
  have hesc : escHost h = true :=
    escScan_no_pct _ _ h (fun b hm => ⟨(hbytes b hm).1, by simp [(hbytes b hm).2]⟩)
  have hun : unescapeB h = h := unescapeB_no_pct h (fun b hm => (hbytes b hm).1)
  unfold parseHost
  rw [if_neg hhead]
  cases hc : lastIndexOfB colon h with
  | none => simp [hesc, hun]
  | some i => simp [hport i hc, hesc, hun]

theorem parseHost_name (h : Bytes) (hh : ∀ b ∈ h, nameByte b = true) : parseHost h = some h := by
  refine parseHost_plain h (fun b hb => .inl (hh b hb)) fun i hi => ?_
  rw [lastIndexOfB_none colon h (fun b hb => ne_of_class (hh b hb) rfl)] at hi
  cases hi

theorem parseHost_name_port (h ds : Bytes) (hh : ∀ b ∈ h, nameByte b = true)
    (hd : ∀ b ∈ ds, isDigitB b = true) : parseHost (h ++ colon :: ds) = some (h ++ colon :: ds) := by
  refine parseHost_plain _ ?_ ?_
  · rw [List.forall_mem_append, List.forall_mem_cons]
    exact ⟨fun b hb => .inl (hh b hb), .inr rfl, fun b hb => .inl (nameByte_of_digit (hd b hb))⟩
  · intro i hi
    rw [lastIndexOfB_append colon h ds fun b hb => ne_of_class (hd b hb) rfl] at hi
    cases hi
    simpa [validOptionalPort] using hd

theorem urlParse_no_fragment (s : Bytes) (h : ∀ b ∈ s, b ≠ 35) : urlParse s = urlParseNoFrag s := by
  simp [urlParse, beforeB, afterB, cutAt_none 35 s h, escAny, escScan]

/-- `url.Parse (scheme ++ "://" ++ a)` for an authority `a` without `#` (35), `?` (63), `/` or `@` (64) -/
theorem urlParse_scheme_authority (sch a : Bytes) (hs : ∀ b ∈ sch, isAlphaB b = true) (hsne : sch ≠ [])
    (ha : ∀ b ∈ a, b ≠ 35 ∧ b ≠ 63 ∧ b ≠ slash ∧ b ≠ 64) (hctl : ∀ b ∈ a, isCtlB b = false) :
    urlParse (sch ++ colon :: slash :: slash :: a) =
      match parseHost a with
      | some h => ⟨true, asciiLower sch, h⟩
      | none => ⟨false, [], []⟩ := by
  have hall : ∀ P : UInt8 → Prop, (∀ b, isAlphaB b = true → P b) → P colon → P slash → (∀ b ∈ a, P b) →
      ∀ b ∈ sch ++ colon :: slash :: slash :: a, P b := by
    intro P h1 h2 h3 h4
    simp only [List.forall_mem_append, List.forall_mem_cons]
    exact ⟨fun b hb => h1 b (hs b hb), h2, h3, h3, h4⟩
  have hnoctl : (sch ++ colon :: slash :: slash :: a).any isCtlB = false :=
    List.any_eq_false.2 fun b hb => by
      rw [hall (isCtlB · = false) (fun b hb => nameByte_not_ctl (nameByte_of_alpha hb)) (by decide) (by decide)
        hctl b hb]
      exact Bool.false_ne_true
  have hstar : sch ++ colon :: slash :: slash :: a ≠ [42] := by
    cases sch with
    | nil => exact absurd rfl hsne
    | cons x xs => simp
  have hscheme : getScheme (sch ++ colon :: slash :: slash :: a) = some (some (sch, slash :: slash :: a)) := by
    simpa [getScheme] using getSchemeAux_alpha (slash :: slash :: a) sch [] true hs (Or.inl hsne)
  have hq : beforeB 63 (slash :: slash :: a) = slash :: slash :: a :=
    beforeB_of_absent _ _ (by
      rw [List.forall_mem_cons, List.forall_mem_cons]
      exact ⟨by decide, by decide, fun b hb => (ha b hb).2.1⟩)
  have hsl : beforeB slash a = a := beforeB_of_absent _ _ (fun b hb => (ha b hb).2.2.1)
  have hat : lastIndexOfB 64 a = none := lastIndexOfB_none 64 a (fun b hb => (ha b hb).2.2.2)
  have hpre : hasPrefix (slash :: slash :: a) [slash, slash] = true := by simp [hasPrefix, List.isPrefixOf]
  rw [urlParse_no_fragment _ (hall (· ≠ 35) (fun b hb => ne_of_class (nameByte_of_alpha hb) rfl) (by decide)
    (by decide) (fun b hb => (ha b hb).1))]
  unfold urlParseNoFrag
  simp only [hnoctl, hstar, if_false, hscheme, hq, hpre, if_true, List.drop_succ_cons, List.drop_zero, hsl,
    parseAuthority, hat, List.drop_length, Bool.false_eq_true]
  cases parseHost a <;> simp [escAny, escScan]

/-- what a browser sends for a cross-site request: `scheme://name:port` -/
theorem urlParse_origin (sch name ds : Bytes) (hsch : ∀ b ∈ sch, isAlphaB b = true) (hsne : sch ≠ [])
    (hname : ∀ b ∈ name, nameByte b = true) (hd : ∀ b ∈ ds, isDigitB b = true) :
    urlParse (sch ++ colon :: slash :: slash :: (name ++ colon :: ds)) =
      ⟨true, asciiLower sch, name ++ colon :: ds⟩ := by
  have hn : ∀ {b}, nameByte b = true → (b ≠ 35 ∧ b ≠ 63 ∧ b ≠ slash ∧ b ≠ 64) ∧ isCtlB b = false := by
    intro b hn
    exact ⟨⟨ne_of_class hn rfl, ne_of_class hn rfl, ne_of_class hn rfl, ne_of_class hn rfl⟩, nameByte_not_ctl hn⟩
  have hb : ∀ b ∈ name ++ colon :: ds, (b ≠ 35 ∧ b ≠ 63 ∧ b ≠ slash ∧ b ≠ 64) ∧ isCtlB b = false := by
    rw [List.forall_mem_append, List.forall_mem_cons]
    exact ⟨fun b hb => hn (hname b hb), by decide, fun b hb => hn (nameByte_of_digit (hd b hb))⟩
  rw [urlParse_scheme_authority sch _ hsch hsne (fun b h => (hb b h).1) (fun b h => (hb b h).2),
    parseHost_name_port name ds hname hd]

end CaddyModel.C13
