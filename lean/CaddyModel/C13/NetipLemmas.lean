/-
C13 — facts about the net/netip model (Netip.lean): host NAMES are not IP addresses.
-/
import CaddyModel.C13.Netip

namespace CaddyModel.C13

theorem v4Loop_none_of_bad_byte : ∀ (s : Bytes) (val digLen : Nat) (fields : List UInt8) (first prevDot : Bool),
    (∃ b ∈ s, isDigitB b = false ∧ b ≠ 46) → v4Loop s val digLen fields first prevDot = none := by
  intro s
  induction s with
  | nil => intro _ _ _ _ _ ⟨b, hb, _⟩; cases hb
  | cons c cs ih =>
    intro val digLen fields first prevDot ⟨b, hb, hnd, hndot⟩
    unfold v4Loop
    rcases List.mem_cons.1 hb with rfl | hbc
    · simp [hnd, hndot]
    · simp [fun v d f a p => ih v d f a p ⟨b, hbc, hnd, hndot⟩]

theorem firstIpMark_some (s : Bytes) (c : UInt8) (h : firstIpMark s = some c) : c ∈ s := by
  fun_induction firstIpMark s
  case case1 => cases h
  case case2 => cases h; exact List.mem_cons_self
  case case3 ih => exact List.mem_cons_of_mem _ (ih h)

/-- a host without `:` and with a byte other than digits and dots (46) is no IP address for netip, so
    `isWildcardInterface` is false for it and the Host check stays on -/
theorem ipClassOf_hostname (h : Bytes) (hc : ∀ b ∈ h, b ≠ colon)
    (hbad : ∃ b ∈ h, isDigitB b = false ∧ b ≠ 46) : ipClassOf h = .notIP := by
  -- the IPv4 parser fails on the bad byte, and without a colon the IPv6 parser is not asked
  have h4 : parseIPv4Fields h = none := v4Loop_none_of_bad_byte h 0 0 [] true false hbad
  have h6 : firstIpMark h ≠ some colon := fun e => hc colon (firstIpMark_some h colon e) rfl
  simp [ipClassOf, h4, h6]

end CaddyModel.C13
