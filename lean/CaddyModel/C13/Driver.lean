/-
C13 line-protocol driver.  One case = one admin handler + one request:

  req  <side> <addr> <origins> <eo> <acl> <pats> <idx> <method> <host> <path> <upg> <origin> <referer> <tls>
  load <side> <addr> …same fields…     the same case driven through caddy.Load of a JSON config
  cli  <flag> <listen|~> <origins> <eo>  the CLI side: real DetermineAdminAPIAddress + AdminAPIRequest (GET /config/) against the endpoint
                                       the real caddy.Load of that config starts; the free TCP port is written PORT
  hist <step> …                        a HISTORY of config loads (real caddy.Load each), step = <local>@<remote>, local = n | d | a0 | a1
                                       (default origins) | t0 | t1 (origins that exclude the address's own Host) | b (an address that
                                       cannot be bound: the load must be rejected) | a0! … t1! d! (the config is REJECTED LATE: an app cannot
                                       be provisioned), remote = ~ | a2=<acl> | a3=<acl> | x2=<acl> | x3=<acl> (an undecodable public
                                       key follows: rejected in replaceRemoteAdminServer); after each load
                                       every admin address configured so far is probed over the network (32 HTTP requests / mutual TLS
                                       with the keys 0..3): L<id>:dn|ok|no|mix  R<id>:dn|<4 × s m p r>
  ip   <hex>                           netip.ParseAddr + IsUnspecified / IsLoopback of a host → n | u | l | o
  url  <hex>                           net/url.Parse of any byte string → `ok <scheme> <host>` | `err`
  cf   <args> <block>                  the Caddyfile `admin` global option: args = . | hex,hex…  block = ~ (none) |
                                       . (empty) | line;line… (line = hex,hex…) → `ok <disabled> <listen> <eo> <origins>` | `err`

  side     L | R                                  local / remote endpoint (newAdminHandler's `remote`)
  addr     listen:ipclass                         listen = the configured `admin.listen` / `remote.listen`
                                                  string (hex; printable ASCII; placeholders only {env.C13_…}), expanded and parsed by the
                                                  model (Listen.lean); ipclass = netip's verdict on the
                                                  host it parses to (n|u|l|o)
  origins  ~ (null) | . (empty) | raw:ok:scheme:host;…     ok,scheme,host = url.Parse(raw) table
  eo       0 | 1                                  enforce_origin
  acl      ~ (no remote config) | . | keys/perms;…   keys = . | k,k…   perms = . | methods|paths+…
                                                  methods, paths = ~ (nil) | . (empty) | hex,hex…
  pats     . | hex,hex…                           patterns of the admin.api probe module
  idx      . | id:path;…                          rawCfgIndex
  method host path                                hex
  upg      . | hex,hex…                           values of the Upgrade header (ASCII bytes only)
  origin referer   raw:ok:scheme:host             header value + url.Parse table
  tls      ~ (r.TLS == nil) | . (no chain) | k,k;k…   VerifiedChains as key ids (< 8)

Answer:  <final> <path> <cors> <hits>     final = refused:<why> | handled:<pattern hex> | id-bad |
         id-unknown | mux-redirect | mux-notfound | panic;  path = r.URL.Path at the end (hex);
         cors = 0|1|2;  hits = invocations of probe-module handlers.
         `too-many-redirects` when the /id/ chain does not end within 16 hops, `bad-op` outside the domain
         (malformed, unsafe bytes in the path or in an index target).
-/
import CaddyModel.C13.Listen
import CaddyModel.C13.Caddyfile
import CaddyModel.C13.Url
import CaddyModel.C13.Netip
import CaddyModel.C13.Lifecycle
import CaddyModel.C13.Cli

namespace CaddyModel.C13

def maxHops : Nat := 16

def splitC (s : String) (c : String) : List String := s.splitOn c

def decList (s : String) (sep : String) : Option (List Bytes) :=
  if s == "." then some [] else (s.splitOn sep).mapM Hex.decode

def decOptList (s : String) (sep : String) : Option (Option (List Bytes)) :=
  if s == "~" then some none else (decList s sep).map some

def parseBool (s : String) : Option Bool :=
  if s == "0" then some false else if s == "1" then some true else none

def parseIp (s : String) : Option IpClass :=
  if s == "n" then some .notIP else if s == "u" then some .unspecified
  else if s == "l" then some .loopback else if s == "o" then some .other else none

/-- the addr field: the configured listen string and the netip class of the host it parses to -/
def parseAddr (s : String) : Option (Bytes × IpClass) :=
  match s.splitOn ":" with
  | [listen, ip] => do pure (← Hex.decode listen, ← parseIp ip)
  | _ => none

/-- the harness overrides `caddy.DefaultAdminListen` with this (nothing may bind localhost:2019
    from inside a check); the remote default is caddy's own -/
def defaultLocalListen : Bytes := str "unix/c13-default.sock"
def defaultRemoteListen : Bytes := str ":2021"

def listenByteOK (b : UInt8) : Bool := 32 ≤ b && b ≤ 126

/-- the environment the harness sets for placeholders in `listen` (same table in c13.go); every
    other `env.` name is unset, i.e. expands to the empty string -/
def listenEnvTable : List (Bytes × Bytes) :=
  [(str "C13_HOST", str "localhost"), (str "C13_IP", str "192.168.1.5"), (str "C13_PORT", str "2019"),
   (str "C13_WILD", str "0.0.0.0"), (str "C13_EMPTY", []), (str "C13_BRACE", str "{env.C13_HOST}")]

/-- the global placeholder providers as far as the protocol lets them be reached: `env.NAME`
    (always known, empty when unset); everything else is unknown -/
def listenEnv : C18.Env := fun key =>
  if hasPrefix key (str "env.") then
    some (match listenEnvTable.find? (·.1 == key.drop 4) with | some kv => kv.2 | none => [])
  else none

/-- placeholders of the other global providers (host name, working directory, clock, files) are
    outside the protocol, and `env.` names are confined to the harness's own variables -/
def listenPlaceholdersInDomain (s : Bytes) : Bool :=
  !containsSub s (str "system.") && !containsSub s (str "time.") && !containsSub s (str "file.") && envNamesOK s
where
  envNamesOK : Bytes → Bool
    | [] => true
    | c :: cs => (!hasPrefix (c :: cs) (str "env.") || hasPrefix (c :: cs) (str "env.C13_")) && envNamesOK cs

def parseUrlT (ok sc h : String) : Option Url := do
  pure ⟨← parseBool ok, ← Hex.decode sc, ← Hex.decode h⟩

/-- a header / origin value with its `url.Parse` table; inside the domain of `Url.lean` the model
    parses the bytes itself and the table is ignored (the harness still checks it against net/url) -/
def parseHeaderUrl (s : String) : Option (Bytes × Url) :=
  match s.splitOn ":" with
  | [raw, ok, sc, h] => do
    let raw ← Hex.decode raw
    let t ← parseUrlT ok sc h
    pure (raw, if urlInDomain raw then urlParse raw else t)
  | _ => none

def parseOrigins (s : String) : Option (Option (List OriginEntry)) :=
  if s == "~" then some none
  else if s == "." then some (some [])
  else ((s.splitOn ";").mapM fun e => (parseHeaderUrl e).map fun (raw, u) => (⟨raw, u⟩ : OriginEntry)).map some

def parseNats (s : String) : Option (List Nat) :=
  if s == "." then some [] else (s.splitOn ",").mapM (·.toNat?)

def parsePerm (s : String) : Option Perm :=
  match s.splitOn "|" with
  | [m, p] => do pure ⟨← decOptList m ",", ← decOptList p ","⟩
  | _ => none

def parseAccess (s : String) : Option Access :=
  match s.splitOn "/" with
  | [ks, ps] => do
    let ks ← parseNats ks
    let ps ← if ps == "." then some [] else (ps.splitOn "+").mapM parsePerm
    if ks.all (· < 8) then pure ⟨ks, ps⟩ else none
  | _ => none

def parseAcl (s : String) : Option (Option (List Access)) :=
  if s == "~" then some none
  else if s == "." then some (some [])
  else ((s.splitOn ";").mapM parseAccess).map some

def parseIdx (s : String) : Option Index :=
  if s == "." then some [] else
  (s.splitOn ";").mapM fun e =>
    match e.splitOn ":" with
    | [i, p] => do pure (← Hex.decode i, ← Hex.decode p)
    | _ => none

def parseTls (s : String) : Option (Option (List (List Nat))) :=
  if s == "~" then some none
  else if s == "." then some (some [])
  else ((s.splitOn ";").mapM fun c => do
    let ks ← parseNats c
    if ks.isEmpty || !ks.all (· < 8) then none else pure ks).map some

def safeByte (b : UInt8) : Bool :=
  (48 ≤ b && b ≤ 57) || (65 ≤ b && b ≤ 90) || (97 ≤ b && b ≤ 122) || b == 47 || b == 46 || b == 95 || b == 45 || b == 126

def alpha (b : UInt8) : Bool := (65 ≤ b && b ≤ 90) || (97 ≤ b && b ≤ 122)

/-- routes of the real admin.api modules linked into the harness binary (caddyconfig: /load, /adapt;
    caddypki: /pki/) — registered next to the probe routes;
    the harness checks this list against `caddy.GetModules("admin.api")` at start-up -/
def linkedModulePats : List Bytes := [str "/adapt", str "/load", str "/pki/"]

def validPat (p : Bytes) : Bool :=
  p.all safeByte && isCleanPath p && !builtinPats.contains p && !linkedModulePats.contains p

def distinct : List Bytes → Bool
  | [] => true
  | a :: t => !t.contains a && distinct t

def sPOST : Bytes := [80, 79, 83, 84]

def showRefusal : Refusal → String
  | .aclMethod => "acl-method" | .aclPath => "acl-path" | .aclIdentity => "acl-identity"
  | .websocket => "websocket" | .host => "host"
  | .originMissing => "origin-missing" | .originDenied => "origin-denied"

def showFinal : Final → String
  | .refused w => "refused:" ++ showRefusal w
  | .handled p => "handled:" ++ Hex.encode p
  | .idBadRequest => "id-bad" | .idUnknown => "id-unknown"
  | .muxRedirect => "mux-redirect" | .muxNotFound => "mux-notfound"
  | .panic => "panic" | .fuel => "model-out-of-fuel"

/-- the driver's handler effect: the state is the hit counter of the probe module's routes -/
def probeHits (pat : Bytes) (_ : Req) (s : Nat) : Nat :=
  if builtinPats.contains pat || pat == str "/adapt" || pat == str "/load" || pat == str "/pki/" then s else s + 1

/-- what the `load` op can bind from inside the harness: loopback / wildcard TCP on an ephemeral
    port, or a unix socket `c13-load…` in the (private) working directory -/
def bindableHosts : List Bytes := [str "localhost", str "127.0.0.1", str "127.0.0.2", [], str "0.0.0.0"]
def loadable (network host : Bytes) (port : Nat) : Bool :=
  (network == sTcp && port == 0 && bindableHosts.contains host) ||
  (network == sUnix && (hasPrefix host (str "c13-load") || host == str "c13-default.sock"))

/-- the (expanded) listen string names a unix network and carries more than 6 bytes after the
    first `|` of its address part -/
def permBitsTooLong (input : Bytes) : Bool :=
  match cutAt slash input with
  | some (before, after) =>
    hasPrefix (asciiLower (trimSpace before)) sUnix &&
    (match cutAt 124 after with
     | some (_, bits) => bits.length > 6
     | none => false)
  | none => false

/-- the permission-bits suffix of a unix socket address is modelled up to 6 octal digits -/
def unixPermInDomain (network host : Bytes) : Bool :=
  !hasPrefix network sUnix ||
  (match cutAt 124 host with
   | none => true
   | some (_, bits) => bits.length ≤ 6)

/-- `req`: the handler is built by `newAdminHandler` from the parsed address (hook);
    `load`: the same case driven through `caddy.Load` of a JSON config (real JSON decoding,
    replaceLocalAdminServer / replaceRemoteAdminServer, real key extraction) — same answer. -/
def handleReq (load : Bool) : List String → String
  | [side, addr, origins, eo, acl, pats, idx, method, host, path, upg, origin, referer, tls] =>
    match parseAddr addr, parseOrigins origins, parseBool eo, parseAcl acl, decList pats ",", parseIdx idx with
    | some (listen, ip), some os, some eo, some acl, some pats, some idx =>
      match Hex.decode method, Hex.decode host, Hex.decode path, decList upg ",",
            parseHeaderUrl origin, parseHeaderUrl referer, parseTls tls with
      | some m, some h, some p, some up, some (o, ou), some (rf, ru), some tls =>
        if side != "L" && side != "R" then "bad-op"
        else if !listen.all listenByteOK || !listenPlaceholdersInDomain listen then "bad-op"
        else if !up.all (fun v => v.all (· < 128)) then "bad-op"   -- strings.ToLower is only modelled on ASCII
        else if !(pats.all validPat) || !distinct pats || !distinct (idx.map (·.1)) then "bad-op"
        else if !idx.all (fun e => e.2.all safeByte) then "bad-op"   -- rewritten paths stay in the mux's unescaped alphabet
        else if m.isEmpty || !m.all alpha then "bad-op"
        else if p.head? != some slash || !p.all safeByte then "bad-op"
        else match idChain idx maxHops p with
          | none => "too-many-redirects"
          | some chain =>
            -- the routing tree's handling of a CONNECT path that lost its leading slash in an /id/
            -- rewrite (slash counting in exactMatch) is outside the modelled mux
            if m == sCONNECT && chain.any (fun q => q != [] && q.head? != some slash) then "bad-op"
            -- unix permission bits beyond 6 octal digits (FileMode type bits) are outside the model
            else if permBitsTooLong (match C18.replaceOrErr listen true true listenEnv with
                                     | .ok input => if input = [] then (if side == "R" then defaultRemoteListen else defaultLocalListen) else input
                                     | _ => []) then "bad-op"
            else
            match parseAdminListenAddrP listenEnv listen (if side == "R" then defaultRemoteListen else defaultLocalListen) with
              | .err => "listen-error"
              | .ok network ahost port =>
                if !unixPermInDomain network ahost then "bad-op"
                else if load && !loadable network ahost port then "bad-op"
                else if load && side == "R" && acl.isNone then "bad-op"
                else
                  -- the netip class of the host is computed by the model (Netip.lean); the table value `ip` is
                  -- only checked by the harness against net/netip
                  let hd := newAdminHandler ⟨os, eo, acl⟩ ⟨network, ahost, port, (fun (_ : IpClass) => ipClassOf ahost) ip⟩ (side == "R") (pats ++ linkedModulePats)
                  let r : Req := ⟨m, h, p, up, o, rf, ou, ru, tls⟩
                  let res := serveReal probeHits hd idx (maxHops + 1) r 0
                  s!"{showFinal res.final} {Hex.encode res.path} {res.cors} {res.state}"
      | _, _, _, _, _, _, _ => "bad-op"
    | _, _, _, _, _, _ => "bad-op"
  | _ => "bad-op"

def sImport : Bytes := str "import"

def cfTokenOK (t : Bytes) : Bool :=
  !t.isEmpty && t != sImport &&
  t.all (fun b => (48 ≤ b && b ≤ 58) || (65 ≤ b && b ≤ 90) || (97 ≤ b && b ≤ 122) || b == 46 || b == 95 || b == 47 || b == 45)

def parseCfBlock (s : String) : Option (Option (List (List Bytes))) :=
  if s == "~" then some none
  else if s == "." then some (some [])
  else ((s.splitOn ";").mapM fun (l : String) => (l.splitOn ",").mapM Hex.decode).map some

/-- `cf <args> <block>`: the Caddyfile `admin` global option → the AdminConfig it produces -/
def handleCf : List String → String
  | [args, block] =>
    match decList args ",", parseCfBlock block with
    | some args, some block =>
      if !args.all cfTokenOK || !(match block with | some ls => ls.all (fun l => !l.isEmpty && l.all cfTokenOK) | none => true) then "bad-op"
      else match parseOptAdmin defaultLocalListen args block with
        | none => "err"
        | some a =>
          let os := match a.origins with
            | none => "~"
            | some l => ",".intercalate (l.map Hex.encode)
          s!"ok {if a.disabled then 1 else 0} {Hex.encode a.listen} {if a.enforceOrigin then 1 else 0} {os}"
    | _, _ => "bad-op"
  | _ => "bad-op"

/-- `url <hex>`: the model of net/url.Parse on its domain → `ok <scheme> <host>` | `err` -/
def handleUrl : List String → String
  | [raw] =>
    match Hex.decode raw with
    | some raw =>
      if !urlInDomain raw then "bad-op"
      else
        let u := urlParse raw
        if u.ok then s!"ok {Hex.encode u.scheme} {Hex.encode u.host}" else "err"
    | none => "bad-op"
  | _ => "bad-op"

def showIp : IpClass → String
  | .notIP => "n" | .unspecified => "u" | .loopback => "l" | .other => "o"

/-- `ip <hex>`: the model of netip.ParseAddr + IsUnspecified / IsLoopback → n | u | l | o -/
def handleIp : List String → String
  | [raw] => match Hex.decode raw with
    | some raw => showIp (ipClassOf raw)
    | none => "bad-op"
  | _ => "bad-op"

/-- one step of a `hist` line: `<local>@<remote>`; `<local>!` = the config is rejected while its
    apps are provisioned, `x2=`/`x3=` = the access list ends in an entry with an undecodable key -/
def parseHistStep (s : String) : Option Attempt :=
  match s.splitOn "@" with
  | [l0, r0] =>
    let prov := l0.length > 1 && l0.endsWith "!" && l0 != "n!" && l0 != "b!"
    let l := if prov then (l0.dropRight 1) else l0
    let key := !prov && (r0.startsWith "x2=" || r0.startsWith "x3=")
    let r := if key then "a" ++ r0.drop 1 else r0
    let fail : Fail := if prov then .prov else if key then .key else .none
    let loc : Option LocalCfg :=
      if l == "n" then some .absent else if l == "d" then some .disabled else if l == "b" then some .blocked
      else if l == "a0" then some (.listen 0 false) else if l == "a1" then some (.listen 1 false)
      else if l == "t0" then some (.listen 0 true) else if l == "t1" then some (.listen 1 true) else none
    match loc with
    | none => none
    | some loc =>
      if r == "~" then some ⟨⟨loc, none⟩, fail⟩
      else match r.splitOn "=" with
        | [a, acl] =>
          if (a != "a2" && a != "a3") || l == "n" || l == "b" then none
          else match parseAcl acl with
            | some (some acl) =>
              if acl.all (fun e => e.keys.all (· < 4)) then some ⟨⟨loc, some (if a == "a2" then 2 else 3, acl)⟩, fail⟩ else none
            | _ => none
        | _ => none
  | _ => none

def histSeen (hist : List LoadCfg) : List Nat × List Nat :=
  (([0, 1] : List Nat).filter (fun a => hist.any (fun c => c.loc == .listen a false || c.loc == .listen a true)),
   ([2, 3] : List Nat).filter (fun a => hist.any (fun c => match c.remote with | some (b, _) => a == b | none => false)))

def showLife (s : Life) (seen : List Nat × List Nat) : String :=
  " ".intercalate
    (seen.1.map (fun a => s!"L{a}:" ++
       (if !s.liveLocal.any (·.addr == a) then "dn"
        else if (s.liveLocal.filter (·.addr == a)).all (fun v => !v.tight) then "ok"
        else if (s.liveLocal.filter (·.addr == a)).all (·.tight) then "no" else "mix")) ++
     seen.2.map (fun a => s!"R{a}:" ++
       (match s.liveRemote.find? (·.addr == a) with
        | some srv => String.ofList ([0, 1, 2, 3].map (keyAnswer srv.acl))
        | none => "dn")))

/-- the answers after each prefix of the history -/
def histAnswers : List LoadCfg → List Attempt → Life → List String
  | _, [], _ => []
  | done, a :: rest, s =>
    showLife (attempt s a) (histSeen (done ++ [a.cfg])) :: histAnswers (done ++ [a.cfg]) rest (attempt s a)

/-- `hist <step> …`: a history of config loads; after each load, for every admin address configured
    so far: is a server up there, and what does it answer the keys 0..3 -/
def handleHist (steps : List String) : String :=
  if steps.isEmpty || steps.length > 8 then "bad-op"
  else match steps.mapM parseHistStep with
    | some hist => " / ".intercalate (histAnswers [] hist Life.init)
    | none => "bad-op"

/-- the protocol writes the (unknown, free) TCP port of a `cli` case as the word PORT; the model
    takes 2019 for it (no outcome depends on the number) -/
def substPort : Bytes → Bytes
  | [] => []
  | c :: cs => if hasPrefix (c :: cs) (str "PORT") then str "2019" ++ substPort (cs.drop 3) else c :: substPort cs
termination_by s => s.length
decreasing_by all_goals simp_wf <;> omega

def cliBindable (network host : Bytes) (port : Nat) : Bool :=
  (network == sTcp && port == 2019 && [str "127.0.0.1", str "localhost", str "127.0.0.2"].contains host) ||
  (network == sUnix && (host == str "c13-cli.sock" || host == str "c13-default.sock"))

/-- `cli <addressFlag> <admin.listen | ~> <origins> <eo>`: the real `DetermineAdminAPIAddress` +
    `AdminAPIRequest` (GET /config/) against the endpoint the real `caddy.Load` of that config starts
    → `<address the CLI chose> served | refused:<why> | invalid-address` -/
def handleCli : List String → String
  | [flag, cfgl, origins, eo] =>
    match Hex.decode flag, (if cfgl == "~" then some [] else Hex.decode cfgl), parseOrigins origins, parseBool eo with
    | some flag, some cfgl, some os, some eo =>
      if !(flag.all listenByteOK) || !(cfgl.all listenByteOK) || flag.contains 123 || cfgl.contains 123 then "bad-op"
      else
        let adminAddr := determineAdminAddr flag (some cfgl) defaultLocalListen
        let serverListen := if cfgl = [] then defaultLocalListen else cfgl
        match parseNetworkAddress (substPort serverListen) with
        | .err => "bad-op"
        | .ok sn sh sp =>
          if !cliBindable sn sh sp then "bad-op"
          else
            let same := adminAddr == serverListen ||
              (match parseNetworkAddress (substPort adminAddr) with
               | .ok an ah ap => an == sTcp && sn == sTcp && ap == sp &&
                   [str "127.0.0.1", str "localhost"].contains ah && [str "127.0.0.1", str "localhost"].contains sh
               | .err => true)
            if !same then "bad-op"
            else match cliRequestFor (substPort adminAddr) with
              | none => s!"{Hex.encode adminAddr} invalid-address"
              | some (_, _, host, origin) =>
                let os' := os.map (fun l => l.map (fun e => (⟨substPort e.raw, urlParse (substPort e.raw)⟩ : OriginEntry)))
                let hd := newAdminHandler ⟨os', eo, none⟩ ⟨sn, sh, sp, ipClassOf sh⟩ false linkedModulePats
                let r : Req := ⟨str "GET", host, pConfig, [], origin, [], urlParse origin, urlParse [], none⟩
                let res := serveReal probeHits hd [] 2 r 0
                let out := match res.final with
                  | .handled _ => "served"
                  | f => showFinal f
                s!"{Hex.encode adminAddr} {out}"
    | _, _, _, _ => "bad-op"
  | _ => "bad-op"

def handle : List String → String
  | "cli" :: rest => handleCli rest
  | "hist" :: rest => handleHist rest
  | "ip" :: rest => handleIp rest
  | "url" :: rest => handleUrl rest
  | "req" :: rest => handleReq false rest
  | "load" :: rest => handleReq true rest
  | "cf" :: rest => handleCf rest
  | _ => "bad-op"

end CaddyModel.C13

namespace CaddyModel.C13
/-- counter-example lines replayed on the implementation on every run (see Witness.lean) -/
def witnessLines : List String :=
  ["hist t0@~ a0!@~",          -- Witness.local_endpoint_of_running_config_full_fails (1): origins of a rejected config enforced
   "hist a0@~ a1!@~"]          -- (2): the endpoint of a rejected config listens on an address the running config never named
end CaddyModel.C13
