/-
C13 — the glue in front of `newAdminHandler`: how the configured `listen` string becomes the
`NetworkAddress` the gate decisions are taken from.  Transliterated from

  admin.go      parseAdminListenAddr      (empty → default, exactly one port)
  listeners.go  ParseNetworkAddressWithDefaults, SplitNetworkAddress, IsUnixNetwork, IsFdNetwork
  internal      SplitUnixSocketPermissionsBits   (only its error cases matter here)
  net           SplitHostPort, JoinHostPort       (Go 1.24: brackets iff the host contains ':')

on ASCII strings (`strings.ToLower`, `strings.TrimSpace` are the ASCII versions).
`parseAdminListenAddr` is the parser after the replacer (= on brace-free strings, where the replacer
is the identity); `parseAdminListenAddrP` puts the replacer, the C18 model, in front.  What
`netip.ParseAddr` says about the resulting host is a parameter here (`IpClass`); `Netip.lean` computes it.
-/
import CaddyModel.C13.Model
import CaddyModel.C18.Model

namespace CaddyModel.C13

def lbrack : UInt8 := 91
def rbrack : UInt8 := 93

/-- `strings.IndexByte` -/
def indexOfB (c : UInt8) : Bytes → Option Nat
  | [] => none
  | x :: xs => if x = c then some 0 else (indexOfB c xs).map (· + 1)

/-- `strings.LastIndexByte` -/
def lastIndexOfB (c : UInt8) : Bytes → Option Nat
  | [] => none
  | x :: xs =>
    match lastIndexOfB c xs with
    | some i => some (i + 1)
    | none => if x = c then some 0 else none

/-- `net.SplitHostPort`; `none` = any of its errors -/
def splitHostPort (hp : Bytes) : Option (Bytes × Bytes) :=
  match lastIndexOfB colon hp with
  | none => none                                        -- missing port
  | some i =>
    if hp.head? = some lbrack then
      match indexOfB rbrack hp with
      | none => none                                    -- missing ']'
      | some e =>
        if e + 1 = i then
          (if ((hp.drop 1).contains lbrack) || ((hp.drop (e + 1)).contains rbrack) then none
           else some ((hp.drop 1).take (e - 1), hp.drop (i + 1)))
        else none                                       -- missing port / too many colons
    else
      if (hp.take i).contains colon then none           -- too many colons
      else if hp.contains lbrack || hp.contains rbrack then none
      else some (hp.take i, hp.drop (i + 1))

/-- `strings.Cut(s, "/")` -/
def cutAt (c : UInt8) : Bytes → Option (Bytes × Bytes)
  | [] => none
  | x :: xs =>
    if x = c then some ([], xs)
    else match cutAt c xs with
      | some (b, a) => some (x :: b, a)
      | none => none

def isSpaceB (b : UInt8) : Bool := b = 32 || (9 ≤ b && b ≤ 13)

/-- `strings.TrimSpace` on ASCII -/
def trimSpace (s : Bytes) : Bytes := ((s.dropWhile isSpaceB).reverse.dropWhile isSpaceB).reverse

def isBracket (b : UInt8) : Bool := b = lbrack || b = rbrack

/-- `strings.Trim(s, "[]")` -/
def trimBrackets (s : Bytes) : Bytes := ((s.dropWhile isBracket).reverse.dropWhile isBracket).reverse

/-- `net.JoinHostPort` of Go 1.24 -/
def netJoinHostPort (host port : Bytes) : Bytes :=
  if host.contains colon then lbrack :: host ++ rbrack :: colon :: port else host ++ colon :: port

/-- the host/port half of `SplitNetworkAddress`: SplitHostPort, and on error a second try with
    the square brackets trimmed and an artificial port -/
def splitHostPortLenient (a : Bytes) : Option (Bytes × Bytes) :=
  match splitHostPort a with
  | some hp => some hp
  | none =>
    match splitHostPort (netJoinHostPort (trimBrackets a) [48]) with
    | some (h, _) => some (h, [])
    | none => none

/-- `SplitNetworkAddress` → (network, host, port) -/
def splitNetworkAddress (a : Bytes) : Option (Bytes × Bytes × Bytes) :=
  match cutAt slash a with
  | some (before, after) =>
    if hasPrefix (asciiLower (trimSpace before)) sUnix || hasPrefix (asciiLower (trimSpace before)) sFd then
      some (asciiLower (trimSpace before), after, [])
    else (splitHostPortLenient after).map (fun hp => (asciiLower (trimSpace before), hp.1, hp.2))
  | none => (splitHostPortLenient a).map (fun hp => ([], hp.1, hp.2))

def isDigitB (b : UInt8) : Bool := 48 ≤ b && b ≤ 57
def isOctB (b : UInt8) : Bool := 48 ≤ b && b ≤ 55

def digitsVal (base : Nat) (s : Bytes) : Nat := s.foldl (fun acc b => acc * base + (b.toNat - 48)) 0

/-- `strconv.ParseUint(s, 10, 16)` -/
def parsePort (s : Bytes) : Option Nat :=
  if s = [] || !s.all isDigitB then none
  else if digitsVal 10 s ≤ 65535 then some (digitsVal 10 s) else none

/-- does `SplitUnixSocketPermissionsBits(host)` succeed?  (no `|`, or octal bits with owner-write) -/
def unixPermOK (host : Bytes) : Bool :=
  match cutAt 124 host with
  | none => true
  | some (_, bits) =>
    bits != [] && bits.all isOctB && digitsVal 8 bits < 4294967296 && (digitsVal 8 bits / 128) % 2 = 1

def sTcp : Bytes := [116, 99, 112]   -- "tcp"

inductive ListenRes where
  | ok (network host : Bytes) (port : Nat)
  | err
deriving DecidableEq, Repr

/-- the port part of `ParseNetworkAddressWithDefaults` followed by `PortRangeSize() != 1` of
    `parseAdminListenAddr`: `none` = error (bad number, descending range, more than one port) -/
def singlePort (port : Bytes) : Option Nat :=
  if port = [] then some 0
  else match cutAt 45 port with
    | none => parsePort port
    | some (before, after) =>
      match parsePort before, parsePort after with
      | some s, some e => if s = e then some s else none
      | _, _ => none

/-- `ParseNetworkAddress(input)` + the single-port requirement -/
def parseNetworkAddress (input : Bytes) : ListenRes :=
  match splitNetworkAddress input with
  | none => .err
  | some (network, host, port) =>
    if hasPrefix (if network = [] then sTcp else network) sUnix then
      (if unixPermOK host then .ok network host 0 else .err)
    else if hasPrefix (if network = [] then sTcp else network) sFd then .ok network host 0
    else match singlePort port with
      | some p => .ok (if network = [] then sTcp else network) host p
      | none => .err

/-- `parseAdminListenAddr(addr, defaultAddr)` (the replacer is the identity on brace-free strings) -/
def parseAdminListenAddr (addr dflt : Bytes) : ListenRes :=
  parseNetworkAddress (if addr = [] then dflt else addr)

/-- `parseAdminListenAddr` with its first statement, `NewReplacer().ReplaceOrErr(addr, true, true)`
    (the replacer is the C18 model; `env` = the global placeholder providers): an unknown
    placeholder, or one that expands to nothing, is an ERROR — the endpoint does not start — and
    not an empty host, which would be the wildcard interface. -/
def parseAdminListenAddrP (env : C18.Env) (addr dflt : Bytes) : ListenRes :=
  match C18.replaceOrErr addr true true env with
  | .ok input => parseNetworkAddress (if input = [] then dflt else input)
  | _ => .err

/-- `replaceLocalAdminServer` up to the handler: parse `admin.listen` (or the default), build the
    handler for that address; `none` = the endpoint does not start.  `ip` is netip's verdict on the
    host the string parses to. -/
def localEndpoint (cfg : AdminCfg) (listen dflt : Bytes) (ip : IpClass) (modulePats : List Bytes) : Option Handler :=
  match parseAdminListenAddr listen dflt with
  | .ok network host port => some (newAdminHandler cfg ⟨network, host, port, ip⟩ false modulePats)
  | .err => none

end CaddyModel.C13
