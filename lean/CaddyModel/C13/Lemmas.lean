/-
C13 — `Passes` and `Admitted` (the gate in the words of the stated theorems).  The gate as propositions
about request and handler — Spec's `IsWebsocketUpgrade`, `OriginMissing`, membership in `h.allowed` —
(`localGate_eq`, `localGate_pass_iff`, `gate_pass_iff`, `gate_local`, `passes_withPath`); the loop of
serveHTTP: one pass (`serve_succ`), its invariants, and what they say of a request
(`every_dispatch_is_gated`, `state_changes_only_through_dispatch`, `untouched_of_never_passes`);
allowedOrigins vs. the spec; the permission loop and the ACL scan (`passes_remote`).
-/
import CaddyModel.C13.Spec

namespace CaddyModel.C13

def Passes (h : Handler) (r : Req) : Prop := ∃ c, gate h r = .pass c

/-- The property's own clause for the local endpoint of `cfg` on `a`: what a request must satisfy to
    be let through, with no order of checks and no handler fields.  `local_passes_iff` (Props.lean)
    says the gate of `newAdminHandler cfg a false _` passes exactly these requests; the
    configuration-level theorems are its two directions. -/
def Admitted (cfg : AdminCfg) (a : Addr) (r : Req) : Prop :=
  ¬ IsWebsocketUpgrade r ∧
  (SpecificAddress a → HostAllowed cfg a r.host) ∧
  (cfg.enforceOrigin = true → ¬ OriginMissing r ∧ OriginAllowed cfg a (getOrigin r))

theorem aclGate_ne_pass (h : Handler) (r : Req) (c : Nat) : aclGate h r ≠ some (.pass c) := by
  fun_cases aclGate h r <;> simp

theorem aclGate_none_iff (h : Handler) (r : Req) :
    aclGate h r = none ↔
      (h.remote = none ∨ ∃ acl chains, h.remote = some acl ∧ r.tls = some chains ∧
        chainScan acl r.method r.path chains = some .allow) := by
  fun_cases aclGate h r <;> simp_all

theorem wsCheck_iff (r : Req) : wsCheck r = true ↔ IsWebsocketUpgrade r := by
  simp [wsCheck, IsWebsocketUpgrade]

theorem originStr_eq_nil_iff (r : Req) : originStr r = [] ↔ OriginMissing r := by
  unfold originStr OriginMissing
  split <;> simp_all

theorem checkHost_iff (h : Handler) (r : Req) :
    checkHost h r = true ↔ ∃ a ∈ h.allowed, a.host = r.host := by
  simp [checkHost, @eq_comm _ r.host]

theorem originAllowed_iff (h : Handler) (u : Url) :
    originAllowed h u = true ↔
      ∃ a ∈ h.allowed, (a.scheme = [] ∨ a.scheme = u.scheme) ∧ a.host = u.host := by
  simp [originAllowed, originMatches, @eq_comm _ u.scheme, @eq_comm _ u.host]

theorem refuse_else_eq_pass {p : Prop} [Decidable p] {w : Refusal} {g : Gate} {c : Nat} :
    (if p then Gate.refuse w else g) = .pass c ↔ ¬ p ∧ g = .pass c := by
  by_cases hp : p <;> simp [hp]

/-- the checks after the ACL as propositions, in the order of `serveHTTP`: the first that fails answers -/
theorem localGate_eq (h : Handler) (r : Req) :
    localGate h r =
      if IsWebsocketUpgrade r then .refuse .websocket
      else if h.enforceHost = true ∧ ¬ ∃ a ∈ h.allowed, a.host = r.host then .refuse .host
      else if h.enforceOrigin = true then
        (if OriginMissing r ∨ (getOrigin r).ok = false then .refuse .originMissing
         else if ¬ ∃ a ∈ h.allowed, (a.scheme = [] ∨ a.scheme = (getOrigin r).scheme) ∧ a.host = (getOrigin r).host
           then .refuse .originDenied
         else .pass (if r.method = sOPTIONS then 2 else 1))
      else .pass 0 := by
  -- the right side back into the model's Bool tests; then both sides are the same ladder
  simp only [← wsCheck_iff, ← checkHost_iff, ← originAllowed_iff, ← originStr_eq_nil_iff]
  unfold localGate localGateWith
  simp

theorem localGate_pass_iff (h : Handler) (r : Req) (c : Nat) :
    localGate h r = .pass c ↔
      (¬ IsWebsocketUpgrade r ∧
       (h.enforceHost = true → ∃ a ∈ h.allowed, a.host = r.host) ∧
       (h.enforceOrigin = true → ¬ OriginMissing r ∧ (getOrigin r).ok = true ∧
          ∃ a ∈ h.allowed, (a.scheme = [] ∨ a.scheme = (getOrigin r).scheme) ∧ a.host = (getOrigin r).host)) ∧
      c = if h.enforceOrigin = true then (if r.method = sOPTIONS then 2 else 1) else 0 := by
  rw [localGate_eq]
  by_cases he : h.enforceOrigin = true <;>
    simp only [refuse_else_eq_pass, he, if_true, if_false, Gate.pass.injEq, not_and, Decidable.not_not, not_or,
      Bool.not_eq_false, true_imp_iff, false_imp_iff, and_true, and_assoc, @eq_comm _ c, Bool.false_eq_true]

theorem gate_pass_iff (h : Handler) (r : Req) (c : Nat) :
    gate h r = .pass c ↔ aclGate h r = none ∧ localGate h r = .pass c := by
  unfold gate
  cases hg : aclGate h r with
  | none => simp
  | some g =>
    simp only [reduceCtorEq, false_and, iff_false]
    rintro rfl
    exact aclGate_ne_pass h r c hg

theorem gate_local {h : Handler} (hl : h.remote = none) (r : Req) : gate h r = localGate h r := by
  simp [gate, aclGate, hl]

theorem localGate_withPath (h : Handler) (r : Req) (p : Bytes) :
    localGate h (r.withPath p) = localGate h r := rfl

theorem withPath_withPath (r : Req) (p q : Bytes) : (r.withPath p).withPath q = r.withPath q := rfl
theorem withPath_self (r : Req) : r.withPath r.path = r := rfl
theorem withPath_path (r : Req) (p : Bytes) : (r.withPath p).path = p := rfl

theorem passes_withPath {h : Handler} {r : Req} {p : Bytes} :
    Passes h (r.withPath p) ↔
    aclGate h (r.withPath p) = none ∧ ¬ IsWebsocketUpgrade r ∧
    (h.enforceHost = true → ∃ a ∈ h.allowed, a.host = r.host) ∧
    (h.enforceOrigin = true → ¬ OriginMissing r ∧ (getOrigin r).ok = true ∧
      ∃ a ∈ h.allowed, (a.scheme = [] ∨ a.scheme = (getOrigin r).scheme) ∧ a.host = (getOrigin r).host) := by
  simp only [Passes, gate_pass_iff, localGate_withPath, localGate_pass_iff, exists_and_left, exists_eq, and_true]

section Loop
variable {σ : Type} (H : Bytes → Req → σ → σ) (mux : Bytes → Bytes → Route) (h : Handler) (idx : Index)

/-- One pass of `serveHTTP` with fuel left does one of three things: it answers without calling a
    handler (refusal, panic, 301/404 of the mux); or the gate passes with decoration `g`, the mux
    picks `pat`, and that handler runs and answers; or that handler is `/id/`, which rewrites the
    path and re-enters.  The facts about the loop below are inductions over these three cases. -/
theorem serve_succ (n : Nat) (r : Req) (s : σ) (tr : List Dispatch) (c : Nat) :
    (∃ f c', serve H mux h idx (n + 1) r s tr c = ⟨tr, f, r.path, c', s⟩ ∧ f ≠ .fuel ∧
      (c' = c ∨ ∃ g, gate h r = .pass g ∧ c' = max c g)) ∨
    ∃ g pat, gate h r = .pass g ∧ mux r.method r.path = .handler pat ∧
      ((∃ f s', serve H mux h idx (n + 1) r s tr c = ⟨tr ++ [⟨pat, r.path⟩], f, r.path, max c g, s'⟩ ∧
          f ≠ .fuel ∧ (s' = s ∨ f = .handled pat ∧ s' = H pat r s)) ∨
       ∃ np, handleConfigID idx r.path = .redirect np ∧
          serve H mux h idx (n + 1) r s tr c =
            serve H mux h idx n (r.withPath np) s (tr ++ [⟨pat, r.path⟩]) (max c g)) := by
  rw [serve]
  cases gate h r with
  | panic => exact .inl ⟨_, _, rfl, nofun, .inl rfl⟩
  | refuse w => exact .inl ⟨_, _, rfl, nofun, .inl rfl⟩
  | pass g =>
    cases mux r.method r.path with
    | redirect => exact .inl ⟨_, _, rfl, nofun, .inr ⟨g, rfl, rfl⟩⟩
    | notFound => exact .inl ⟨_, _, rfl, nofun, .inr ⟨g, rfl, rfl⟩⟩
    | handler pat =>
      refine .inr ⟨g, pat, rfl, rfl, ?_⟩
      by_cases hp : pat = pId
      · simp only [if_pos hp]
        cases handleConfigID idx r.path with
        | badRequest => exact .inl ⟨_, _, rfl, nofun, .inl rfl⟩
        | unknownId => exact .inl ⟨_, _, rfl, nofun, .inl rfl⟩
        | redirect np => exact .inr ⟨np, rfl, rfl⟩
      · simp only [if_neg hp]
        exact .inl ⟨_, _, rfl, nofun, .inr ⟨rfl, rfl⟩⟩

theorem serve_trace_ext :
    ∀ (fuel : Nat) (r : Req) (s : σ) (tr : List Dispatch) (c : Nat),
      ∃ ext, (serve H mux h idx fuel r s tr c).trace = tr ++ ext ∧
        ∀ d ∈ ext, Passes h (r.withPath d.path) ∧ mux r.method d.path = .handler d.pat := by
  intro fuel
  induction fuel with
  | zero => intro r s tr c; exact ⟨[], (List.append_nil tr).symm, nofun⟩
  | succ n ih =>
    intro r s tr c
    rcases serve_succ H mux h idx n r s tr c with ⟨f, c', e, -⟩ | ⟨g, pat, hg, hm, ⟨f, s', e, -⟩ | ⟨np, -, e⟩⟩
    · exact ⟨[], by rw [e, List.append_nil], nofun⟩
    · exact ⟨[⟨pat, r.path⟩], by rw [e], List.forall_mem_singleton.2 ⟨⟨g, hg⟩, hm⟩⟩
    · obtain ⟨ext, he, hext⟩ := ih (r.withPath np) s (tr ++ [⟨pat, r.path⟩]) (max c g)
      exact ⟨⟨pat, r.path⟩ :: ext, by rw [e, he, List.append_assoc]; rfl,
        List.forall_mem_cons.2 ⟨⟨⟨g, hg⟩, hm⟩, hext⟩⟩

theorem serve_state :
    ∀ (fuel : Nat) (r : Req) (s : σ) (tr : List Dispatch) (c : Nat),
      (serve H mux h idx fuel r s tr c).state = s ∨
      ∃ pat, (serve H mux h idx fuel r s tr c).final = .handled pat ∧
        (⟨pat, (serve H mux h idx fuel r s tr c).path⟩ : Dispatch) ∈ (serve H mux h idx fuel r s tr c).trace ∧
        (serve H mux h idx fuel r s tr c).state = H pat (r.withPath (serve H mux h idx fuel r s tr c).path) s := by
  intro fuel
  induction fuel with
  | zero => intro r s tr c; exact .inl rfl
  | succ n ih =>
    intro r s tr c
    rcases serve_succ H mux h idx n r s tr c with ⟨f, c', e, -⟩ | ⟨g, pat, -, -, ⟨f, s', e, -, hs⟩ | ⟨np, -, e⟩⟩
    · rw [e]; exact .inl rfl
    · rw [e]
      rcases hs with hs | ⟨hf, hs⟩
      · exact .inl hs
      · exact .inr ⟨pat, hf, by simp, hs⟩
    · rw [e]; exact ih _ _ _ _

theorem serve_cors :
    ∀ (fuel : Nat) (r : Req) (s : σ) (tr : List Dispatch) (c : Nat),
      (serve H mux h idx fuel r s tr c).cors = c ∨
      ∃ p, gate h (r.withPath p) = .pass (serve H mux h idx fuel r s tr c).cors := by
  intro fuel
  induction fuel with
  | zero => intro r s tr c; exact .inl rfl
  | succ n ih =>
    intro r s tr c
    have grant : ∀ g x, gate h r = .pass g → x = max c g → x = c ∨ ∃ p, gate h (r.withPath p) = .pass x := by
      intro g x hg hx
      rw [hx, Nat.max_def]
      split
      · exact .inr ⟨r.path, hg⟩
      · exact .inl rfl
    rcases serve_succ H mux h idx n r s tr c with ⟨f, c', e, -, hc⟩ | ⟨g, pat, hg, -, ⟨f, s', e, -⟩ | ⟨np, -, e⟩⟩
    · rw [e]
      rcases hc with hc | ⟨g, hg, hc⟩
      · exact .inl hc
      · exact grant g _ hg hc
    · rw [e]; exact grant g _ hg rfl
    · rw [e]
      exact (ih (r.withPath np) s _ (max c g)).elim (grant g _ hg) .inr

theorem serveHTTP_refused {fuel : Nat} {r : Req} {s : σ} {w : Refusal} (hg : gate h r = .refuse w) :
    serveHTTP H mux h idx (fuel + 1) r s = ⟨[], .refused w, r.path, 0, s⟩ := by
  simp [serveHTTP, serve, hg]

end Loop

theorem serve_trace_prefix {σ : Type} (H : Bytes → Req → σ → σ) (mux : Bytes → Bytes → Route) (h : Handler) (idx : Index) :
    ∀ (fuel : Nat) (r : Req) (s : σ) (tr : List Dispatch) (c : Nat),
      ∃ ext, (serve H mux h idx fuel r s tr c).trace = tr ++ ext :=
  fun fuel r s tr c => (serve_trace_ext H mux h idx fuel r s tr c).imp fun _ he => he.1

section Request
variable {σ : Type}

/-- **Nothing is served ungated — for every route and after any number of /id/ redirects.**
    Each handler invocation `d` of a request (built-in route, module route, or the target of an
    internal redirect) was chosen by the mux for the path `d.path` and was preceded by a pass of
    the complete gate (remote ACL, websocket, Host, Origin) evaluated on the request carrying
    exactly that path. -/
theorem every_dispatch_is_gated (H : Bytes → Req → σ → σ) (mux : Bytes → Bytes → Route) (h : Handler) (idx : Index) (fuel : Nat)
    (r : Req) (s : σ) (d : Dispatch) (hd : d ∈ (serveHTTP H mux h idx fuel r s).trace) :
    Passes h (r.withPath d.path) ∧ mux r.method d.path = .handler d.pat := by
  obtain ⟨ext, he, hext⟩ := serve_trace_ext H mux h idx fuel r s [] 0
  rw [serveHTTP, he] at hd
  exact hext d hd

/-- **State changes only through a dispatched handler.**  Either the server state is what it was,
    or the request ended in a handler that is recorded in the trace (hence gated, by
    `every_dispatch_is_gated`) and the new state is that handler's effect. -/
theorem state_changes_only_through_dispatch (H : Bytes → Req → σ → σ) (mux : Bytes → Bytes → Route) (h : Handler) (idx : Index)
    (fuel : Nat) (r : Req) (s : σ) :
    (serveHTTP H mux h idx fuel r s).state = s ∨
    ∃ pat, (serveHTTP H mux h idx fuel r s).final = .handled pat ∧
      (⟨pat, (serveHTTP H mux h idx fuel r s).path⟩ : Dispatch) ∈ (serveHTTP H mux h idx fuel r s).trace ∧
      (serveHTTP H mux h idx fuel r s).state = H pat (r.withPath (serveHTTP H mux h idx fuel r s).path) s :=
  serve_state H mux h idx fuel r s [] 0

/-- the refusal theorems that hold for every budget are this, each with its reason why the gate cannot pass -/
theorem untouched_of_never_passes (H : Bytes → Req → σ → σ) (mux : Bytes → Bytes → Route)
    (h : Handler) (idx : Index) (fuel : Nat) (r : Req) (s : σ)
    (hno : ∀ p, ¬ Passes h (r.withPath p)) :
    Untouched (serveHTTP H mux h idx fuel r s) s := by
  have hnil : (serveHTTP H mux h idx fuel r s).trace = [] := Decidable.by_contra fun hne =>
    have ⟨d, hd⟩ := List.exists_mem_of_ne_nil _ hne
    hno _ (every_dispatch_is_gated H mux h idx fuel r s d hd).1
  refine ⟨hnil, (state_changes_only_through_dispatch H mux h idx fuel r s).resolve_right ?_⟩
  rintro ⟨pat, -, hmem, -⟩
  rw [hnil] at hmem
  exact List.not_mem_nil hmem

end Request

theorem joinHostPort_localhost (port : Bytes) : joinHostPort sLocalhost port = hpLocalhost port := rfl
theorem joinHostPort_v6 (port : Bytes) : joinHostPort sV6Loop port = hpV6Loop port := rfl
theorem joinHostPort_v4 (port : Bytes) : joinHostPort sV4Loop port = hpV4Loop port := rfl

theorem entryAllowed_some (e : OriginEntry) (al : Allowed) :
    entryAllowed e = some al ↔
      (containsSub e.raw sSchemeSep = true ∧ e.parsed.ok = true ∧ al.scheme = e.parsed.scheme ∧ al.host = e.parsed.host)
      ∨ (containsSub e.raw sSchemeSep = false ∧ al.scheme = [] ∧ al.host = e.raw) := by
  cases al with
  | mk sc ho =>
    unfold entryAllowed
    cases containsSub e.raw sSchemeSep <;> cases e.parsed.ok <;> simp [@eq_comm _ _ sc, @eq_comm _ _ ho]

theorem mem_allowedOrigins_iff (cfg : AdminCfg) (a : Addr) (al : Allowed) :
    al ∈ allowedOrigins cfg.origins a ↔ AllowedOrigin cfg a al.scheme al.host := by
  unfold allowedOrigins AllowedOrigin
  cases cfg.origins with
  | some l => simp only [List.mem_filterMap, entryAllowed_some]
  | none =>
    cases al with
    | mk sc ho =>
      cases hl : a.isLoopback <;>
        simp +contextual [defaultOrigins, hl, Addr.joinHostPort, joinHostPort_localhost, joinHostPort_v6,
          joinHostPort_v4, ← and_or_left, and_assoc]

theorem hostAllowed_spec_iff (cfg : AdminCfg) (a : Addr) (host : Bytes) :
    (∃ al ∈ allowedOrigins cfg.origins a, al.host = host) ↔ HostAllowed cfg a host := by
  constructor
  · rintro ⟨al, hal, rfl⟩; exact ⟨al.scheme, (mem_allowedOrigins_iff cfg a al).1 hal⟩
  · rintro ⟨sc, h⟩; exact ⟨⟨sc, host⟩, (mem_allowedOrigins_iff cfg a ⟨sc, host⟩).2 h, rfl⟩

theorem originAllowed_spec_iff (cfg : AdminCfg) (a : Addr) (u : Url) :
    (u.ok = true ∧ ∃ al ∈ allowedOrigins cfg.origins a, (al.scheme = [] ∨ al.scheme = u.scheme) ∧ al.host = u.host) ↔
      OriginAllowed cfg a u := by
  refine and_congr_right fun _ => ?_
  constructor
  · rintro ⟨al, hal, hs, hh⟩; exact ⟨al.scheme, hh ▸ (mem_allowedOrigins_iff cfg a al).1 hal, hs⟩
  · rintro ⟨sc, h, hs⟩; exact ⟨⟨sc, u.host⟩, (mem_allowedOrigins_iff cfg a ⟨sc, u.host⟩).2 h, hs, rfl⟩

theorem methodOK_iff (p : Perm) (m : Bytes) :
    methodOK p m = true ↔ (p.methods = none ∨ ∃ ms, p.methods = some ms ∧ m ∈ ms) := by
  unfold methodOK
  cases p.methods <;> simp

theorem pathOK_iff (p : Perm) (path : Bytes) :
    pathOK p path = true ↔ (p.paths = none ∨ ∃ ps, p.paths = some ps ∧ ∃ ap ∈ ps, hasPrefix path ap = true) := by
  unfold pathOK
  cases p.paths <;> simp

theorem permAllows_iff (p : Perm) (m path : Bytes) :
    PermAllows p m path ↔ methodOK p m = true ∧ pathOK p path = true := by
  rw [methodOK_iff, pathOK_iff]; rfl

theorem permsCheck_allow (m path : Bytes) (perms : List Perm) :
    permsCheck m path perms = .allow ↔ ∀ p ∈ perms, PermAllows p m path := by
  fun_induction permsCheck m path perms <;> simp_all [permAllows_iff]

theorem permsCheck_append (m path : Bytes) (pre rest : List Perm) (hpre : ∀ p ∈ pre, PermAllows p m path) :
    permsCheck m path (pre ++ rest) = permsCheck m path rest := by
  induction pre with
  | nil => rfl
  | cons a pre ih =>
    have ha := (permAllows_iff a m path).1 (hpre a List.mem_cons_self)
    rw [List.cons_append, permsCheck, ha.1, ha.2]
    exact ih fun p hp => hpre p (List.mem_cons_of_mem _ hp)

/-- the three nested loops of `enforceAccessControls` are "first hit" searches -/
theorem accessScan_eq (m path : Bytes) (k : Nat) (acl : List Access) :
    accessScan m path k acl = (acl.find? (·.keys.contains k)).map (fun a => permsCheck m path a.perms) := by
  induction acl with
  | nil => rfl
  | cons a as ih => cases hk : a.keys.contains k <;> simp only [accessScan, List.find?_cons, hk, ih] <;> rfl

theorem certScan_eq (acl : List Access) (m path : Bytes) (certs : List Nat) :
    certScan acl m path certs = certs.findSome? (accessScan m path · acl) := by
  induction certs with
  | nil => rfl
  | cons k ks ih => unfold certScan; rw [List.findSome?_cons]; split <;> simp [*]

theorem chainScan_eq (acl : List Access) (m path : Bytes) (chains : List (List Nat)) :
    chainScan acl m path chains = chains.findSome? (certScan acl m path) := by
  induction chains with
  | nil => rfl
  | cons c cs ih => unfold chainScan; rw [List.findSome?_cons]; split <;> simp [*]

theorem chainScan_some (acl : List Access) (m path : Bytes) (chains : List (List Nat)) (res : AclRes)
    (h : chainScan acl m path chains = some res) :
    ∃ chain ∈ chains, ∃ k ∈ chain, ∃ a ∈ acl, k ∈ a.keys ∧ res = permsCheck m path a.perms := by
  rw [chainScan_eq] at h
  obtain ⟨chain, hchain, h⟩ := List.exists_of_findSome?_eq_some h
  rw [certScan_eq] at h
  obtain ⟨k, hk, h⟩ := List.exists_of_findSome?_eq_some h
  rw [accessScan_eq, Option.map_eq_some_iff] at h
  obtain ⟨a, ha, hres⟩ := h
  exact ⟨chain, hchain, k, hk, a, List.mem_of_find?_eq_some ha,
    List.contains_iff_mem.1 (List.find?_some (p := fun a : Access => a.keys.contains k) ha), hres.symm⟩

theorem chainScan_none (acl : List Access) (m path : Bytes) (chains : List (List Nat)) :
    chainScan acl m path chains = none ↔ ¬ KeyListed acl chains := by
  simp [chainScan_eq, certScan_eq, accessScan_eq, KeyListed]

theorem chainScan_allow_authorised (acl : List Access) (m path : Bytes) (chains : List (List Nat))
    (h : chainScan acl m path chains = some .allow) : Authorised acl chains m path := by
  obtain ⟨c, hc, k, hk, a, ha, hka, he⟩ := chainScan_some acl m path chains _ h
  exact ⟨c, hc, k, hk, a, ha, hka, (permsCheck_allow m path a.perms).1 he.symm⟩

/-- the remote half of a pass in the terms of the specification; only this direction holds, since
    the FIRST listed key found decides -/
theorem passes_remote {h : Handler} {r : Req} {p : Bytes} {acl : List Access} (hr : h.remote = some acl)
    (hp : Passes h (r.withPath p)) : ∃ chains, r.tls = some chains ∧ Authorised acl chains r.method p := by
  rcases (aclGate_none_iff h _).1 (passes_withPath.1 hp).1 with hnone | ⟨acl', chains, hacl, htls, hscan⟩
  · rw [hr] at hnone; cases hnone
  · rw [hr] at hacl; cases hacl
    exact ⟨chains, htls, chainScan_allow_authorised acl r.method p chains hscan⟩

end CaddyModel.C13
