/-
C13 — the property theorems, with the definitions their statements use (the Caddyfile endpoint
`cfgOfCaddyfile` / `caddyfileEndpoint`, the route-pattern source facts, the assumptions
`assumedRemoteClientAuth` / `assumedRemoteKeyAppends`) and the examples that instantiate them.

Statement: on a local admin endpoint bound to a specific address (not a wildcard interface, unix
socket or fd), no request whose Host header is not an allowed origin — and, when origin
enforcement is on, whose Origin/Referer is missing or not allowed — reaches any API handler or
changes any state, for every route including those contributed by modules and paths reached
through /id/ redirection, and websocket upgrades are always refused.  On the remote endpoint a
request is served only if a verified client certificate carries a listed public key and the
permissions attached to that key allow its method and path; otherwise it is refused.

Every theorem below is for ALL handlers / configurations, listen addresses, id indexes, requests,
handler effects `H`, initial states, recursion budgets (= any number of /id/ redirects) and for
EVERY routing function `mux` (= every route table modules can register, whatever pattern syntax
they use; `muxOf` is the instance the driver runs).  `Witness.lean` (whose probe handlers and example
requests the statements below use) holds the counter-examples:
  * "websocket upgrades are always refused" — `websocket_refused`; false of the code before /repo
    commit cc84cea (case variants, later header values): `websocket_old_code_fails`
  * "missing Origin/Referer is refused" — `origin_missing_refused`; false of the code before the
    /repo `checkOrigin` fix when an allowed origin has an empty host: `origin_missing_old_code_fails`
  * the Host clause read as "allowed by the RUNNING config" — false of the code as it is after a
    load that is rejected late: `local_endpoint_of_running_config_full_fails`; what holds is
    `local_endpoint_is_of_last_bound_load` and `local_endpoint_of_running_config_partial`
-/
import CaddyModel.C13.Lemmas
import CaddyModel.C13.Witness
import CaddyModel.C13.ListenLemmas
import CaddyModel.C13.Caddyfile
import CaddyModel.C13.UrlLemmas
import CaddyModel.C13.NetipLemmas
import CaddyModel.C13.LifecycleLemmas
import CaddyModel.C13.Cli
import CaddyModel.Gen.AdminGate
import CaddyModel.Gen.Glue
import CaddyModel.Gen.ConfigLocks
import CaddyModel.Util.StrLemmas

namespace CaddyModel.C13

variable {σ : Type}

theorem refused_at_entry_untouched (H : Bytes → Req → σ → σ) (mux : Bytes → Bytes → Route) (h : Handler) (idx : Index) (fuel : Nat)
    (r : Req) (s : σ) (w : Refusal) (hg : gate h r = .refuse w) :
    (serveHTTP H mux h idx (fuel + 1) r s).final = .refused w ∧ Untouched (serveHTTP H mux h idx (fuel + 1) r s) s := by
  rw [serveHTTP_refused H mux h idx hg]; exact ⟨rfl, rfl, rfl⟩

theorem refused_at_entry_no_cors (H : Bytes → Req → σ → σ) (mux : Bytes → Bytes → Route) (h : Handler)
    (idx : Index) (fuel : Nat) (r : Req) (s : σ) (w : Refusal) (hg : gate h r = .refuse w) :
    (serveHTTP H mux h idx (fuel + 1) r s).cors = 0 := by
  rw [serveHTTP_refused H mux h idx hg]

/-- **enforcement is decided by the kind of listen address**: the Host check is on exactly for
    specific addresses (not a wildcard interface, not a unix socket, not an fd), whatever else is
    configured. -/
theorem enforceHost_iff_specific_address (cfg : AdminCfg) (a : Addr) (modulePats : List Bytes) :
    (newAdminHandler cfg a false modulePats).enforceHost = true ↔ SpecificAddress a := by
  simp only [newAdminHandler, SpecificAddress, Bool.false_eq_true, if_false, Bool.and_eq_true, Bool.not_eq_true']
  exact ⟨fun ⟨⟨hw, hu⟩, hf⟩ => ⟨hu, hf, hw⟩, fun ⟨hu, hf, hw⟩ => ⟨⟨hw, hu⟩, hf⟩⟩

/-- **the local gate is exactly the specification**, whatever path the request carries: sound (the
    refusal clauses below) and complete (`cli_request_passes_own_gate`). -/
theorem local_passes_iff (cfg : AdminCfg) (a : Addr) (pats : List Bytes) (r : Req) (p : Bytes) :
    Passes (newAdminHandler cfg a false pats) (r.withPath p) ↔ Admitted cfg a r := by
  have hacl : ∀ q, aclGate (newAdminHandler cfg a false pats) q = none := fun _ => rfl
  have hal : (newAdminHandler cfg a false pats).allowed = allowedOrigins cfg.origins a := rfl
  have heo : (newAdminHandler cfg a false pats).enforceOrigin = cfg.enforceOrigin := rfl
  -- the clause of `passes_withPath`, conjunct by conjunct: no ACL here; the Host flag is `SpecificAddress`;
  -- `∃ a ∈ allowed, …` is `HostAllowed` / `OriginAllowed`
  simp only [passes_withPath, Admitted, hacl, true_and, enforceHost_iff_specific_address, hal, heo, hostAllowed_spec_iff,
    originAllowed_spec_iff]

theorem local_endpoint_untouched_unless_admitted (H : Bytes → Req → σ → σ) (mux : Bytes → Bytes → Route)
    (cfg : AdminCfg) (a : Addr) (pats : List Bytes) (idx : Index) (fuel : Nat) (r : Req) (s : σ)
    (hna : ¬ Admitted cfg a r) :
    Untouched (serveHTTP H mux (newAdminHandler cfg a false pats) idx fuel r s) s :=
  untouched_of_never_passes H mux _ idx fuel r s fun p hp => hna ((local_passes_iff cfg a pats r p).1 hp)

/-- **host gate** (handler level): with host enforcement on, a request whose Host equals the host
    of no allowed origin reaches no handler — on any route, module routes and /id/ targets included —
    and changes no state. -/
theorem host_gate (H : Bytes → Req → σ → σ) (mux : Bytes → Bytes → Route) (h : Handler) (idx : Index) (fuel : Nat) (r : Req) (s : σ)
    (he : h.enforceHost = true) (hh : ∀ a ∈ h.allowed, a.host ≠ r.host) :
    Untouched (serveHTTP H mux h idx fuel r s) s := by
  refine untouched_of_never_passes H mux h idx fuel r s fun _ hp => ?_
  obtain ⟨a, ha, heq⟩ := (passes_withPath.1 hp).2.2.1 he
  exact hh a ha heq

/-- **host gate** (configuration level, the property's first clause): on a local endpoint bound to
    a specific address, for every origin list, enforce flag, module route table, id index and
    request: if the Host header is not an allowed origin, nothing is served and nothing changes. -/
theorem local_endpoint_rejects_foreign_host (H : Bytes → Req → σ → σ) (mux : Bytes → Bytes → Route) (cfg : AdminCfg) (a : Addr)
    (modulePats : List Bytes) (idx : Index) (fuel : Nat) (r : Req) (s : σ)
    (hs : SpecificAddress a) (hh : ¬ HostAllowed cfg a r.host) :
    Untouched (serveHTTP H mux (newAdminHandler cfg a false modulePats) idx fuel r s) s :=
  local_endpoint_untouched_unless_admitted H mux cfg a modulePats idx fuel r s fun ad => hh (ad.2.1 hs)

/-- **`host:port` listen strings** (the glue in front of `newAdminHandler`, parsed by the model of
    `parseAdminListenAddr`): for a non-empty plain host (a name or an IPv4 address) that netip does
    not classify as unspecified, and a decimal port, the endpoint starts, the Host check is on,
    and a request whose Host is not an allowed origin of exactly that host and port reaches no
    handler and changes nothing. -/
theorem plain_listen_string_host_gate (H : Bytes → Req → σ → σ) (mux : Bytes → Bytes → Route) (cfg : AdminCfg)
    (h ds dflt : Bytes) (ip : IpClass) (modulePats : List Bytes) (idx : Index) (fuel : Nat) (r : Req) (s : σ)
    (hh : ∀ b ∈ h, plainHostByte b) (hne : h ≠ []) (hip : ip ≠ .unspecified)
    (hdne : ds ≠ []) (hd : ∀ b ∈ ds, isDigitB b = true) (hle : digitsVal 10 ds ≤ 65535)
    (hhost : ¬ HostAllowed cfg ⟨sTcp, h, digitsVal 10 ds, ip⟩ r.host) :
    ∃ hd', localEndpoint cfg (h ++ colon :: ds) dflt ip modulePats = some hd' ∧ hd'.enforceHost = true ∧
      Untouched (serveHTTP H mux hd' idx fuel r s) s := by
  have hspec : SpecificAddress ⟨sTcp, h, digitsVal 10 ds, ip⟩ := by
    refine ⟨(by show hasPrefix sTcp sUnix = false; decide), (by show hasPrefix sTcp sFd = false; decide), ?_⟩
    simp [Addr.isWildcard, hne, hip]
  refine ⟨newAdminHandler cfg ⟨sTcp, h, digitsVal 10 ds, ip⟩ false modulePats, ?_, ?_, ?_⟩
  · simp [localEndpoint, parse_plain_host_port h ds dflt hh hdne hd hle]
  · exact (enforceHost_iff_specific_address cfg _ modulePats).2 hspec
  · exact local_endpoint_rejects_foreign_host H mux cfg _ modulePats idx fuel r s hspec hhost

/-- **`name:port` listen strings, the netip verdict computed by the model**: for a host NAME (plain
    bytes, at least one of them neither a digit nor a dot) nothing is left to a table — the listen
    string parses, netip does not take the name for an address, the Host check is on, and a
    foreign Host is never served. -/
theorem hostname_listen_string_host_gate (H : Bytes → Req → σ → σ) (mux : Bytes → Bytes → Route) (cfg : AdminCfg)
    (h ds dflt : Bytes) (modulePats : List Bytes) (idx : Index) (fuel : Nat) (r : Req) (s : σ)
    (hh : ∀ b ∈ h, plainHostByte b ∧ b ≠ percent) (hname : ∃ b ∈ h, isDigitB b = false ∧ b ≠ 46)
    (hdne : ds ≠ []) (hd : ∀ b ∈ ds, isDigitB b = true) (hle : digitsVal 10 ds ≤ 65535)
    (hhost : ¬ HostAllowed cfg ⟨sTcp, h, digitsVal 10 ds, ipClassOf h⟩ r.host) :
    ∃ hd', localEndpoint cfg (h ++ colon :: ds) dflt (ipClassOf h) modulePats = some hd' ∧ hd'.enforceHost = true ∧
      Untouched (serveHTTP H mux hd' idx fuel r s) s := by
  have hne : h ≠ [] := by
    obtain ⟨b, hb, _⟩ := hname
    exact List.ne_nil_of_mem hb
  have hip : ipClassOf h = .notIP := ipClassOf_hostname h (fun b hb => (hh b hb).1.1) hname
  exact plain_listen_string_host_gate H mux cfg h ds dflt (ipClassOf h) modulePats idx fuel r s
    (fun b hb => (hh b hb).1) hne (by rw [hip]; decide) hdne hd hle hhost

/-- **a placeholder in `listen` that cannot be expanded stops the endpoint**: whenever
    `ReplaceOrErr(addr, true, true)` does not succeed — unknown placeholder, placeholder that
    expands to nothing (an unset environment variable), too many unclosed braces — the result is an
    error and no endpoint starts; in particular `{env.HOST}:2019` with HOST unset never becomes
    `:2019`, the wildcard interface without Host check.  (And without braces the replacer step
    changes nothing: `parseAdminListenAddrP_no_braces`.) -/
theorem listen_placeholder_error_stops_endpoint (env : C18.Env) (addr dflt : Bytes)
    (h : ∀ out, C18.replaceOrErr addr true true env ≠ .ok out) :
    parseAdminListenAddrP env addr dflt = .err := by
  unfold parseAdminListenAddrP
  split
  · rename_i out heq; exact absurd heq (h out)
  · rfl

/-- **`:port` listen strings bind every interface**: the host is empty, so the Host check is off
    (the "not a wildcard interface" exclusion of the property, decided from the string). -/
theorem empty_host_listen_string_not_enforced (cfg : AdminCfg) (ds dflt : Bytes) (ip : IpClass)
    (modulePats : List Bytes) (hdne : ds ≠ []) (hd : ∀ b ∈ ds, isDigitB b = true) (hle : digitsVal 10 ds ≤ 65535) :
    ∃ hd', localEndpoint cfg (colon :: ds) dflt ip modulePats = some hd' ∧ hd'.enforceHost = false := by
  have hp := parse_plain_host_port [] ds dflt nofun hdne hd hle
  rw [List.nil_append] at hp
  exact ⟨newAdminHandler cfg ⟨sTcp, [], digitsVal 10 ds, ip⟩ false modulePats, by simp [localEndpoint, hp],
    by simp [newAdminHandler, Addr.isWildcard]⟩

/-- **`unix/<path>` listen strings**: the endpoint is a unix socket and the Host check is off,
    whatever the path looks like (the "not a unix socket" exclusion, decided from the string). -/
theorem unix_listen_string_not_enforced (cfg : AdminCfg) (path dflt : Bytes) (ip : IpClass)
    (modulePats : List Bytes) (hp : ∀ b ∈ path, b ≠ 124) :
    ∃ hd', localEndpoint cfg (sUnix ++ slash :: path) dflt ip modulePats = some hd' ∧
      hd'.enforceHost = false ∧ hd'.allowed = (match cfg.origins with | some l => l.filterMap entryAllowed | none => []) := by
  have hu : Addr.isUnix ⟨sUnix, path, 0, ip⟩ = true := by show hasPrefix sUnix sUnix = true; decide
  refine ⟨newAdminHandler cfg ⟨sUnix, path, 0, ip⟩ false modulePats,
    by simp [localEndpoint, parse_unix_socket path dflt hp], by simp [newAdminHandler, hu], ?_⟩
  simp [newAdminHandler, allowedOrigins, hu]
  cases cfg.origins <;> rfl

/-- **`enforce_origin` is on only if the user wrote it**: whatever the `admin` option's arguments and
    block are, the adapted AdminConfig has the flag set only if some line of the block contains
    the token `enforce_origin` (there is no other way to switch origin enforcement on, and it
    defaults to off). -/
theorem caddyfile_enforce_origin_only_if_written (dflt : Bytes) (args : List Bytes)
    (block : Option (List (List Bytes))) (a : CfAdmin)
    (hp : parseOptAdmin dflt args block = some a) (he : a.enforceOrigin = true) :
    ∃ ls, block = some ls ∧ ∃ l ∈ ls, sEnforceOrigin ∈ l :=
  (parseOptAdmin_written dflt args block a hp).1 he

/-- **the Caddyfile cannot express "no origin is allowed"**: the adapted `origins` is never the
    empty list — `origins` without arguments yields the nil list, i.e. the DEFAULT origins of the
    listen address (unlike JSON `"origins": []`, which allows nothing). -/
theorem caddyfile_origins_never_empty (dflt : Bytes) (args : List Bytes)
    (block : Option (List (List Bytes))) (a : CfAdmin)
    (hp : parseOptAdmin dflt args block = some a) : a.origins ≠ some [] :=
  (parseOptAdmin_written dflt args block a hp).2.1

/-- **allowed origins come only from what the user wrote**: every origin of the adapted AdminConfig
    is a token of one single line of the `admin` block (the arguments of an `origins` line) — the
    adapter neither invents origins nor merges lines. -/
theorem caddyfile_origins_only_written (dflt : Bytes) (args : List Bytes)
    (block : Option (List (List Bytes))) (a : CfAdmin) (os : List Bytes)
    (hp : parseOptAdmin dflt args block = some a) (ho : a.origins = some os) :
    ∃ ls, block = some ls ∧ ∃ l ∈ ls, ∀ o ∈ os, o ∈ l :=
  (parseOptAdmin_written dflt args block a hp).2.2 os ho

/-- the AdminConfig a Caddyfile `admin` option yields, as the model's configuration (origin entries
    parsed by the net/url model) -/
def cfgOfCaddyfile (a : CfAdmin) : AdminCfg :=
  ⟨a.origins.map (fun l => l.map (fun raw => (⟨raw, urlParse raw⟩ : OriginEntry))), a.enforceOrigin, none⟩

/-- adapter + start-up: the local endpoint a Caddyfile's `admin` option leads to (`none`: parse
    error, `admin off`, or an unusable listen address) -/
def caddyfileEndpoint (dflt : Bytes) (args : List Bytes) (block : Option (List (List Bytes)))
    (ip : IpClass) (modulePats : List Bytes) : Option Handler :=
  match parseOptAdmin dflt args block with
  | some a => if a.disabled then none else localEndpoint (cfgOfCaddyfile a) a.listen dflt ip modulePats
  | none => none

/-- **`admin <name>:<port>` in a Caddyfile** (no block — the usual way to move the endpoint to a
    LAN address): the three glue layers compose — `parseOptAdmin`, `parseAdminListenAddr`,
    `newAdminHandler` — to an endpoint with the Host check on, whose allowed origins are the
    defaults of that address, and on which a request with any other Host reaches no handler and
    changes nothing. -/
theorem caddyfile_admin_address_host_gate (H : Bytes → Req → σ → σ) (mux : Bytes → Bytes → Route)
    (h ds dflt : Bytes) (ip : IpClass) (modulePats : List Bytes) (idx : Index) (fuel : Nat) (r : Req) (s : σ)
    (hh : ∀ b ∈ h, plainHostByte b) (hne : h ≠ []) (hip : ip ≠ .unspecified)
    (hdne : ds ≠ []) (hd : ∀ b ∈ ds, isDigitB b = true) (hle : digitsVal 10 ds ≤ 65535)
    (hhost : ¬ HostAllowed ⟨none, false, none⟩ ⟨sTcp, h, digitsVal 10 ds, ip⟩ r.host) :
    ∃ hd', caddyfileEndpoint dflt [h ++ colon :: ds] none ip modulePats = some hd' ∧ hd'.enforceHost = true ∧
      Untouched (serveHTTP H mux hd' idx fuel r s) s := by
  have hoff : h ++ colon :: ds ≠ sOff := by
    intro e
    have : colon ∈ sOff := by rw [← e]; simp
    revert this; decide
  have hnil : h ++ colon :: ds ≠ [] := by simp
  have hparse : parseOptAdmin dflt [h ++ colon :: ds] none = some ⟨false, h ++ colon :: ds, false, none⟩ := by
    simp [parseOptAdmin, hoff, blockLines, cfBlock, hnil]
  obtain ⟨hd', h1, h2, h3⟩ := plain_listen_string_host_gate H mux ⟨none, false, none⟩ h ds dflt ip modulePats
    idx fuel r s hh hne hip hdne hd hle hhost
  refine ⟨hd', ?_, h2, h3⟩
  simp [caddyfileEndpoint, hparse, cfgOfCaddyfile, h1]

/-- **origin gate** (handler level): with origin enforcement on, a request whose Origin (else
    Referer) does not parse, or names no allowed origin, reaches no handler and changes no state. -/
theorem origin_gate (H : Bytes → Req → σ → σ) (mux : Bytes → Bytes → Route) (h : Handler) (idx : Index) (fuel : Nat) (r : Req) (s : σ)
    (he : h.enforceOrigin = true)
    (ho : ¬ ((getOrigin r).ok = true ∧
              ∃ a ∈ h.allowed, (a.scheme = [] ∨ a.scheme = (getOrigin r).scheme) ∧ a.host = (getOrigin r).host)) :
    Untouched (serveHTTP H mux h idx fuel r s) s :=
  untouched_of_never_passes H mux h idx fuel r s fun _ hp =>
    ho ((passes_withPath.1 hp).2.2.2 he).2

/-- **origin gate** (configuration level, second clause): on a local endpoint with
    `enforce_origin`, a request whose Origin/Referer is not an allowed origin is never served. -/
theorem local_endpoint_rejects_foreign_origin (H : Bytes → Req → σ → σ) (mux : Bytes → Bytes → Route) (cfg : AdminCfg) (a : Addr)
    (modulePats : List Bytes) (idx : Index) (fuel : Nat) (r : Req) (s : σ)
    (he : cfg.enforceOrigin = true) (ho : ¬ OriginAllowed cfg a (getOrigin r)) :
    Untouched (serveHTTP H mux (newAdminHandler cfg a false modulePats) idx fuel r s) s :=
  local_endpoint_untouched_unless_admitted H mux cfg a modulePats idx fuel r s fun ad => ho (ad.2.2 he).2

/-- **origin gate on the header BYTES** (net/url inside the model): with origin enforcement on, a
    request whose Origin header is the serialised origin `scheme://name:port` (scheme of letters;
    name of letters, digits, `.`, `-`; decimal port) — parsed by the byte-level model of
    `url.Parse` — reaches no handler and changes nothing unless `name:port` is the host of an
    allowed origin.  (What a browser sends for a cross-site request is exactly of this form.) -/
theorem origin_header_bytes_gate (H : Bytes → Req → σ → σ) (mux : Bytes → Bytes → Route) (h : Handler)
    (idx : Index) (fuel : Nat) (r : Req) (s : σ) (sch name ds : Bytes)
    (he : h.enforceOrigin = true)
    (hsch : ∀ b ∈ sch, isAlphaB b = true) (hsne : sch ≠ [])
    (hname : ∀ b ∈ name, nameByte b = true) (hnne : name ≠ []) (hd : ∀ b ∈ ds, isDigitB b = true)
    (horigin : r.origin = sch ++ colon :: slash :: slash :: (name ++ colon :: ds))
    (hparsed : r.originUrl = urlParse r.origin)
    (hforeign : ∀ a ∈ h.allowed, a.host ≠ name ++ colon :: ds) :
    Untouched (serveHTTP H mux h idx fuel r s) s := by
  have hurl : getOrigin r = ⟨true, asciiLower sch, name ++ colon :: ds⟩ := by
    have hne : r.origin ≠ [] := by
      rw [horigin]; exact List.append_ne_nil_of_right_ne_nil _ (List.cons_ne_nil _ _)
    rw [getOrigin, if_neg hne, hparsed, horigin, urlParse_origin sch name ds hsch hsne hname hd]
  apply origin_gate H mux h idx fuel r s he
  rintro ⟨_, a, ha, _, hhost⟩
  rw [hurl] at hhost
  exact hforeign a ha hhost

/-- **missing origin** (handler level, full strength since the `checkOrigin` fix): with origin
    enforcement on, a request that carries neither an Origin nor a Referer header reaches no
    handler and changes no state — whatever the allowed origins are (an allowed origin with an
    empty host included) and whatever `url.Parse("")` is said to return. -/
theorem missing_origin_gate (H : Bytes → Req → σ → σ) (mux : Bytes → Bytes → Route) (h : Handler)
    (idx : Index) (fuel : Nat) (r : Req) (s : σ)
    (he : h.enforceOrigin = true) (hm : OriginMissing r) :
    Untouched (serveHTTP H mux h idx fuel r s) s :=
  untouched_of_never_passes H mux h idx fuel r s fun _ hp =>
    ((passes_withPath.1 hp).2.2.2 he).1 hm

/-- **missing origin** (configuration level, the "missing" half of the second clause): on a local
    endpoint with `enforce_origin`, a request without Origin/Referer is never served. -/
theorem origin_missing_refused (H : Bytes → Req → σ → σ) (mux : Bytes → Bytes → Route) (cfg : AdminCfg) (a : Addr)
    (modulePats : List Bytes) (idx : Index) (fuel : Nat) (r : Req) (s : σ)
    (he : cfg.enforceOrigin = true) (hm : OriginMissing r) :
    Untouched (serveHTTP H mux (newAdminHandler cfg a false modulePats) idx fuel r s) s :=
  local_endpoint_untouched_unless_admitted H mux cfg a modulePats idx fuel r s fun ad => (ad.2.2 he).1 hm

/-- **CORS headers are granted only to allowed origins**: `Access-Control-Allow-Origin` (and, for
    OPTIONS, the other `Access-Control-Allow-*` headers) is present on a response only if origin
    enforcement is on and the request's Origin/Referer parses and names an allowed origin. -/
theorem cors_only_for_allowed_origin (H : Bytes → Req → σ → σ) (mux : Bytes → Bytes → Route) (h : Handler)
    (idx : Index) (fuel : Nat) (r : Req) (s : σ) (hc : (serveHTTP H mux h idx fuel r s).cors ≠ 0) :
    h.enforceOrigin = true ∧ (getOrigin r).ok = true ∧
      ∃ a ∈ h.allowed, (a.scheme = [] ∨ a.scheme = (getOrigin r).scheme) ∧ a.host = (getOrigin r).host := by
  rcases serve_cors H mux h idx fuel r s [] 0 with h0 | ⟨p, hp⟩
  · exact absurd h0 hc
  · -- a pass that decorates the response is a pass with origin enforcement on
    have hl := ((gate_pass_iff h _ _).1 hp).2
    rw [localGate_withPath, localGate_pass_iff] at hl
    have heo : h.enforceOrigin = true := Decidable.by_contra fun hn => hc (hl.2.trans (if_neg hn))
    exact ⟨heo, (hl.1.2.2 heo).2⟩

/-- **websocket upgrades are always refused** (at full strength; false of the code before /repo
    commit cc84cea, `websocket_old_code_fails`): a request with an Upgrade value — in any
    position of a repeated header — that contains "websocket" in any ASCII casing reaches no
    handler and changes no state, on every endpoint and route. -/
theorem websocket_refused (H : Bytes → Req → σ → σ) (mux : Bytes → Bytes → Route) (h : Handler)
    (idx : Index) (fuel : Nat) (r : Req) (s : σ) (hw : IsWebsocketUpgrade r) :
    Untouched (serveHTTP H mux h idx fuel r s) s :=
  untouched_of_never_passes H mux h idx fuel r s fun _ hp => (passes_withPath.1 hp).2.1 hw

/-- … and when the first pass is reached (fuel ≠ 0) on a local endpoint the answer is the
    websocket refusal itself. -/
theorem websocket_refused_answer (H : Bytes → Req → σ → σ) (mux : Bytes → Bytes → Route) (h : Handler)
    (idx : Index) (fuel : Nat) (r : Req) (s : σ) (hl : h.remote = none) (hw : IsWebsocketUpgrade r) :
    (serveHTTP H mux h idx (fuel + 1) r s).final = .refused .websocket := by
  have hg : gate h r = .refuse .websocket := by rw [gate_local hl, localGate_eq, if_pos hw]
  exact (refused_at_entry_untouched H mux h idx fuel r s _ hg).1

/-- **the modelled gate order is the order of the statements of `serveHTTP` in /repo's admin.go as
    it is now** (`Gen/AdminGate.lean` is regenerated from the source by tools/extract on every
    run): the sequence of top-level checks extracted from the source equals the sequence in which
    the model's `gate` answers a ladder of probe requests (everything wrong → ACL; no ACL →
    websocket; no upgrade → host; allowed host → origin; allowed origin → mux), the mux call is
    the last statement of `serveHTTP`, and it is the only `mux.ServeHTTP` call site of admin.go —
    which is what `state_changes_only_through_dispatch` and `every_dispatch_is_gated` rely on. -/
theorem gate_order_matches_source :
    Gen.adminGateSequence =
      [answeredBy probeRemote probeAllWrong, answeredBy probeLocal probeAllWrong,
       answeredBy probeLocal { probeAllWrong with upgrade := [] },
       answeredBy probeLocal { probeAllWrong with upgrade := [], host := str "localhost:2019" },
       answeredBy probeLocal probeAllRight]
    ∧ Gen.adminMuxIsLastStatement = true ∧ Gen.adminMuxCallSites = 1 := by
  unfold probeRemote probeLocal probeAllWrong probeAllRight exAddr
  repeat rw [str_ofList]
  decide +kernel

/-- **the permission loop, for arbitrary permission lists**: `for _, accessPerm := range
    adminAccess.Permissions` lets a request through iff EVERY entry allows both its method (nil
    list or listed) and its path (nil list or some listed prefix) — each entry decided on its own,
    nothing carried from one entry to the next; no entries = everything allowed. -/
theorem permissions_every_entry_must_allow (method path : Bytes) (perms : List Perm) :
    permsCheck method path perms = .allow ↔ ∀ p ∈ perms, PermAllows p method path :=
  permsCheck_allow method path perms

/-- … and the FIRST entry that does not allow decides the refusal, its method being looked at
    before its path (403 "not authorized to use this method" / "… to access this path"). -/
theorem permissions_first_failing_entry_decides (method path : Bytes) (pre post : List Perm) (q : Perm)
    (hpre : ∀ p ∈ pre, PermAllows p method path) (hq : ¬ PermAllows q method path) :
    permsCheck method path (pre ++ q :: post) =
      if methodOK q method = false then .methodDenied else .pathDenied := by
  rw [permsCheck_append method path pre _ hpre, permsCheck]
  cases hm : methodOK q method with
  | false => rfl
  | true =>
    have hp : pathOK q path = false :=
      Bool.eq_false_iff.2 fun hp => hq ((permAllows_iff q method path).2 ⟨hm, hp⟩)
    simp [hp]

/-- **remote: served only if authorised** — including the target of every /id/ redirect, which
    is re-authorised with its own path.  Whenever a handler runs for path `d.path`, the connection
    has verified chains, one of their certificates carries a key listed in an ACL entry, and every
    permission of that entry allows the request's method and `d.path`. -/
theorem remote_served_only_if_authorised (H : Bytes → Req → σ → σ) (mux : Bytes → Bytes → Route) (h : Handler) (idx : Index)
    (fuel : Nat) (r : Req) (s : σ) (acl : List Access) (hr : h.remote = some acl)
    (d : Dispatch) (hd : d ∈ (serveHTTP H mux h idx fuel r s).trace) :
    ∃ chains, r.tls = some chains ∧ Authorised acl chains r.method d.path :=
  passes_remote hr (every_dispatch_is_gated H mux h idx fuel r s d hd).1

/-- **remote: no listed key ⇒ 401, nothing served, nothing changed.** -/
theorem remote_unlisted_identity_401 (H : Bytes → Req → σ → σ) (mux : Bytes → Bytes → Route) (h : Handler) (idx : Index) (fuel : Nat)
    (r : Req) (s : σ) (acl : List Access) (chains : List (List Nat))
    (hr : h.remote = some acl) (ht : r.tls = some chains) (hk : ¬ KeyListed acl chains) :
    (serveHTTP H mux h idx (fuel + 1) r s).final = .refused .aclIdentity ∧
    Untouched (serveHTTP H mux h idx (fuel + 1) r s) s := by
  apply refused_at_entry_untouched
  have hc := (chainScan_none acl r.method r.path chains).2 hk
  simp [gate, aclGate, hr, ht, hc]

/-- **remote: no TLS connection state, nothing served** — the remote gate dereferences `r.TLS`
    before anything else; a request that somehow arrives without one panics there (the server's
    recover answers nothing) instead of falling through to the handlers. -/
theorem remote_without_tls_never_served (H : Bytes → Req → σ → σ) (mux : Bytes → Bytes → Route) (h : Handler)
    (idx : Index) (fuel : Nat) (r : Req) (s : σ) (acl : List Access)
    (hr : h.remote = some acl) (ht : r.tls = none) :
    Untouched (serveHTTP H mux h idx fuel r s) s :=
  untouched_of_never_passes H mux h idx fuel r s fun _ hp => by
    obtain ⟨chains, htls, -⟩ := passes_remote hr hp
    rw [ht] at htls; cases htls

/-- **remote endpoint, configuration level**: the handler built for the remote endpoint of a
    configuration with access controls serves a request only if it is authorised; Host and
    Origin play no role there. -/
theorem remote_endpoint_serves_only_authorised (H : Bytes → Req → σ → σ) (mux : Bytes → Bytes → Route) (cfg : AdminCfg) (a : Addr)
    (modulePats : List Bytes) (idx : Index) (fuel : Nat) (r : Req) (s : σ) (acl : List Access)
    (hc : cfg.remote = some acl)
    (hserved : Served (serveHTTP H mux (newAdminHandler cfg a true modulePats) idx fuel r s)) :
    ∃ chains, r.tls = some chains ∧ KeyListed acl chains ∧
      ∀ d ∈ (serveHTTP H mux (newAdminHandler cfg a true modulePats) idx fuel r s).trace,
        Authorised acl chains r.method d.path := by
  have hr : (newAdminHandler cfg a true modulePats).remote = some acl := hc
  obtain ⟨d0, hd0⟩ := List.exists_mem_of_ne_nil _ hserved
  obtain ⟨chains, htls, c, hc, k, hk, ac, hac, hka, -⟩ :=
    remote_served_only_if_authorised H mux _ idx fuel r s acl hr d0 hd0
  refine ⟨chains, htls, ⟨c, hc, k, hk, ac, hac, hka⟩, fun d hd => ?_⟩
  obtain ⟨chains', htls', hauth'⟩ := remote_served_only_if_authorised H mux _ idx fuel r s acl hr d hd
  rw [htls] at htls'; cases htls'
  exact hauth'

/-- a route pattern of the two forms the executable mux model (`route`, `routeConnect`) covers:
    "/exact" or "/subtree/" — it starts with a slash (no method or host qualifier) and has no
    wildcard -/
def simplePatternString (s : String) : Bool :=
  s.toList.head? == some '/' && s.toList.all (fun c => c != ' ' && c != '{')

/-- the pattern expression of an `addRoute…(pattern, label, handler)` call as the extractor prints it
    (`pattern|handler|nesting`) -/
def routePatternExpr (s : String) : List Char := s.toList.takeWhile (· != '|')

/-- the built-in route table of the model, next to the expression admin.go registers it with -/
def builtinPatSource : List (String × Bytes) :=
  [("\"/\"+rawConfigKey+\"/\"", pConfig), ("\"/id/\"", pId), ("\"/stop\"", pStop), ("\"/debug/pprof/\"", pPprof),
   ("\"/debug/pprof/cmdline\"", pCmdline), ("\"/debug/pprof/profile\"", pProfile),
   ("\"/debug/pprof/symbol\"", pSymbol), ("\"/debug/pprof/trace\"", pTrace), ("\"/debug/vars\"", pVars)]

/-- **the route table of the model is the route table of the source as it is now**
    (`Gen/ConfigLocks.lean`, `Gen/AdminGate.lean`: regenerated from /repo on every run): `newAdminHandler`
    registers exactly the nine built-in patterns of `builtinPats`, in this order, followed by the
    module routes (`route.Pattern`); and every pattern any admin.api module of the tree registers
    is of the two simple forms the executable mux model covers (which is why richer ServeMux
    pattern syntax is not modelled; the theorems hold for every mux anyway). -/
theorem admin_route_table_matches_source :
    Gen.adminRoutes.map routePatternExpr = (builtinPatSource.map (·.1.toList)) ++ ["route.Pattern".toList] ∧
    builtinPatSource.map (·.2) = builtinPats ∧
    Gen.moduleAdminRoutePatterns.all (fun fp => simplePatternString fp.2) = true ∧
    (Gen.moduleAdminRoutePatterns.map (·.2)).all (fun s => !builtinPats.contains (str s)) = true := by
  unfold Gen.adminRoutes Gen.moduleAdminRoutePatterns builtinPatSource
  simp only [routePatternExpr, simplePatternString, List.map, List.all]
  repeat rw [String.toList_ofList]
  repeat rw [str_ofList]
  decide +kernel

/-- what the model of the remote endpoint takes for granted about `replaceRemoteAdminServer`:
    the TLS server requires AND verifies a client certificate (so `Req.tls` really is the list of
    VERIFIED chains, and a request without one never arrives) … -/
def assumedRemoteClientAuth : List String := ["tls.RequireAndVerifyClientCert"]
/-- … and the public key of each configured certificate is appended to the access-control entry
    it was configured under (so `Access.keys` are the keys of that entry's `public_keys`, and the
    permissions checked for a key are those written next to it). -/
def assumedRemoteKeyAppends : List String :=
  ["accessControl <- range cfg.Admin.Remote.AccessControl : append(accessControl.publicKeys,cert.PublicKey)"]

/-- **the remote-endpoint glue the model assumes is the glue of the source as it is now**
    (`Gen/Glue.lean` is regenerated from /repo's admin.go by tools/extract on every run): every value
    assigned to a `.ClientAuth` field in `replaceRemoteAdminServer` is
    `tls.RequireAndVerifyClientCert` (and there is such an assignment), and the only assignment to
    a `.publicKeys` field appends the certificate's key to the very entry the loop ranges over.
    `remote_served_only_if_authorised` talks about verified chains and about the keys of one entry;
    this is what makes those the right notions. -/
theorem remote_admin_glue_matches_source :
    Gen.remoteAdminClientAuth = assumedRemoteClientAuth ∧
    Gen.remoteAdminKeyAppends = assumedRemoteKeyAppends :=
  ⟨rfl, rfl⟩

/-- **which endpoint the CLI talks to**: `--address` wins whatever the config says; without it the
    config's `admin.listen` if set; else the default address. -/
theorem cli_address_resolution (flag l dflt : Bytes) :
    (flag ≠ [] → ∀ c, determineAdminAddr flag c dflt = flag) ∧
    (l ≠ [] → determineAdminAddr [] (some l) dflt = l) ∧
    determineAdminAddr [] (some []) dflt = dflt ∧ determineAdminAddr [] none dflt = dflt := by
  refine ⟨?_, ?_, ?_, ?_⟩
  · intro h c; simp [determineAdminAddr, h]
  · intro h; simp [determineAdminAddr, h]
  · simp [determineAdminAddr]
  · simp [determineAdminAddr]

/-- **the instance's own CLI is an authorised client of its endpoint** (client glue and server glue
    agree): on a specific, non-loopback TCP address with the default origins, the request
    `AdminAPIRequest` builds for that address — Host and Origin both `JoinHostPort(host, port)` —
    passes the gate, with or without `enforce_origin`.  (For loopback addresses the defaults are the
    three aliases localhost / ::1 / 127.0.0.1, so this holds for those three spellings only:
    an endpoint on 127.0.0.2 refuses its own CLI unless `origins` names it — not a clause of the
    property, which is about refusals.) -/
theorem cli_request_passes_own_gate (cfg : AdminCfg) (h : Bytes) (p : Nat) (ip : IpClass) (modulePats : List Bytes) (r : Req)
    (horig : cfg.origins = none)
    (hspec : SpecificAddress ⟨sTcp, h, p, ip⟩) (hloop : Addr.isLoopback ⟨sTcp, h, p, ip⟩ = false)
    (hhost : r.host = joinHostPort h (natToDec p)) (hup : r.upgrade = [])
    (hor : r.origin = sHttpPrefix ++ r.host) (hurl : r.originUrl = ⟨true, [104, 116, 116, 112], r.host⟩) :
    Passes (newAdminHandler cfg ⟨sTcp, h, p, ip⟩ false modulePats) r := by
  obtain ⟨hu, hf, -⟩ := hspec
  have hne : r.origin ≠ [] := by rw [hor]; exact List.append_ne_nil_of_left_ne_nil (List.cons_ne_nil _ _) _
  have hgo : getOrigin r = ⟨true, [104, 116, 116, 112], r.host⟩ := by rw [getOrigin, if_neg hne, hurl]
  -- the only allowed origin is the address itself, which is what the CLI sends as Host and Origin
  have hal : AllowedOrigin cfg ⟨sTcp, h, p, ip⟩ [] r.host := by
    unfold AllowedOrigin; rw [horig]; exact ⟨hu, hf, rfl, .inr ⟨hloop, hhost⟩⟩
  refine (local_passes_iff cfg _ modulePats r r.path).2 ⟨?_, fun _ => ⟨[], hal⟩, fun _ => ⟨fun hm => hne hm.1, ?_⟩⟩
  · rintro ⟨v, hv, -⟩; rw [hup] at hv; cases hv
  · rw [hgo]; exact ⟨rfl, [], hal, .inl rfl⟩

/-- **after every load the only admin servers still listening are those of the CURRENT config** —
    for every history of loads (endpoints switched on and off, moved between addresses, access
    lists and origins changed, and loads REJECTED because the admin listener could not be bound
    anywhere in between): if the last load succeeded, the remote endpoint is down if its config has
    no `admin.remote`, else exactly one remote server listens, on the configured address,
    enforcing the configured access list; the local endpoint is down if the config disables it,
    else exactly one local server listens, on the configured address, with the configured policy.
    No server of an earlier config survives. -/
theorem only_current_config_servers_live (pre : List LoadCfg) (c : LoadCfg) (hok : c.loc ≠ .blocked) :
    (c.remote = none → (afterHistory (pre ++ [c])).liveRemote = []) ∧
    (∀ a acl, c.remote = some (a, acl) → ∃ id, (afterHistory (pre ++ [c])).liveRemote = [⟨id, a, acl⟩]) ∧
    (c.loc = .disabled → (afterHistory (pre ++ [c])).liveLocal = []) ∧
    (∀ a t, c.loc = .listen a t → ∃ id, (afterHistory (pre ++ [c])).liveLocal = [⟨id, a, t⟩]) := by
  obtain ⟨hloc, hrem⟩ := afterAttempts_snoc (pre.map (⟨·, .none⟩)) ⟨c, .none⟩ hok
  rw [afterHistory_snoc_eq, hloc, hrem]
  dsimp only
  exact ⟨fun h => by rw [h], fun a acl h => ⟨_, by rw [h]⟩, fun h => by rw [h]; rfl, fun a t h => ⟨_, by rw [h]; rfl⟩⟩

/-- **a rejected load leaves everything as it was** — the servers that listen, AND the package
    variables through which the next load will stop them: a load whose admin listener cannot be
    bound is a no-op, so any history has the state of its successful loads alone, and after it
    the live servers are those of the last load that SUCCEEDED. -/
theorem failed_loads_change_nothing (hist : List LoadCfg) :
    (∀ s c, c.loc = .blocked → load s c = s) ∧
    afterHistory hist = afterHistory (hist.filter (fun c => c.loc != .blocked)) :=
  ⟨load_blocked, foldl_filter_blocked hist Life.init⟩

/-- histories without late rejections are the histories of `afterHistory` -/
theorem attempts_without_late_rejections_are_loads (hist : List LoadCfg) :
    afterAttempts (hist.map (fun c => (⟨c, .none⟩ : Attempt))) = afterHistory hist :=
  foldl_attempt_none hist Life.init

/-- **whose policy the local endpoint enforces after ANY load that got past the bind — accepted or
    rejected** (`caddy.go run`: `replaceLocalAdminServer` runs before app provisioning, start and
    `finishSettingUp` can fail, and nothing puts the previous endpoint back): exactly one local
    server listens (none if that config disables the endpoint), on the address and with the origin
    policy of the config of THAT load.  So after a rejected load a request is accepted only if the
    REJECTED config's own policy accepts it — never one that neither config would accept; the
    endpoint of the running config is gone. -/
theorem local_endpoint_is_of_last_bound_load (pre : List Attempt) (a : Attempt) (hnb : a.cfg.loc ≠ .blocked) :
    ∃ id, (afterAttempts (pre ++ [a])).liveLocal =
      (match a.cfg.loc.endpoint with | some (ad, t) => [⟨id, ad, t⟩] | none => []) :=
  ⟨_, (afterAttempts_snoc pre a hnb).1⟩

/-- **the remote clause holds across rejected loads at full strength**: after any history of loads
    — accepted, rejected at the bind, rejected while provisioning apps, rejected for an undecodable
    public key — whatever remote admin server still listens, a request it serves (any handler
    invocation, /id/ targets included) is authorised by the access list of the RUNNING config, the
    last one that was accepted.  A rejected config's access list never takes effect; a rejected
    load can only switch the remote endpoint off. -/
theorem rejected_loads_never_widen_remote_access (H : Bytes → Req → σ → σ) (mux : Bytes → Bytes → Route)
    (hist : List Attempt) (srv : RSrv) (hsrv : srv ∈ (afterAttempts hist).liveRemote)
    (h : Handler) (hh : h.remote = some srv.acl)
    (idx : Index) (fuel : Nat) (r : Req) (s : σ) (d : Dispatch) (hd : d ∈ (serveHTTP H mux h idx fuel r s).trace) :
    ∃ c chains, runningConfig hist = some c ∧ c.remote = some (srv.addr, srv.acl) ∧ r.tls = some chains ∧
      Authorised srv.acl chains r.method d.path := by
  obtain ⟨c, hc, hrem⟩ := (afterAttempts_inv hist).2.2 srv hsrv
  obtain ⟨chains, htls, hauth⟩ := remote_served_only_if_authorised H mux h idx fuel r s srv.acl hh d hd
  exact ⟨c, chains, hc, hrem, htls, hauth⟩

/-- **the remote clause over histories, not just per request**: after any history of loads, whatever
    remote admin server is still listening, a request it serves — any handler invocation, /id/
    redirect targets included — is authorised by the access list of the CURRENT config: a verified
    certificate carries a key that list names, with permissions that allow the method and path.
    A key that only an earlier config listed is never served, and once `admin.remote` is removed
    nothing is. -/
theorem served_remotely_only_if_current_config_authorises (H : Bytes → Req → σ → σ) (mux : Bytes → Bytes → Route)
    (pre : List LoadCfg) (c : LoadCfg) (hok : c.loc ≠ .blocked) (srv : RSrv)
    (hsrv : srv ∈ (afterHistory (pre ++ [c])).liveRemote)
    (h : Handler) (hh : h.remote = some srv.acl)
    (idx : Index) (fuel : Nat) (r : Req) (s : σ) (d : Dispatch) (hd : d ∈ (serveHTTP H mux h idx fuel r s).trace) :
    ∃ a acl chains, c.remote = some (a, acl) ∧ srv.addr = a ∧ r.tls = some chains ∧
      Authorised acl chains r.method d.path := by
  rw [afterHistory_snoc_eq] at hsrv
  obtain ⟨c', chains, hrun, hrem, htls, hauth⟩ :=
    rejected_loads_never_widen_remote_access H mux _ srv hsrv h hh idx fuel r s d hd
  rw [runningConfig_snoc_accepted _ ⟨c, .none⟩ (by simp [Attempt.accepted, hok])] at hrun
  cases hrun
  exact ⟨_, _, chains, hrem, rfl, htls, hauth⟩

/-- a load rejected for an undecodable public key leaves NO remote endpoint (the deferred stop of the
    previous server has no error condition) — it fails closed -/
theorem undecodable_key_stops_remote_endpoint (pre : List Attempt) (a : Attempt)
    (hnb : a.cfg.loc ≠ .blocked) (hk : a.fail = .key) :
    (afterAttempts (pre ++ [a])).liveRemote = [] := by
  rw [(afterAttempts_snoc pre a hnb).2, hk]

/- FULL STATEMENT (fails of the tree, see Witness.lean `local_endpoint_of_running_config_full_fails`):
     ∀ hist, localAsRunning hist = true
   "every local admin server that listens is the endpoint of the RUNNING config, with its origins". -/

/-- **…_partial: the next ACCEPTED load repairs it** — whatever happened before (late rejections
    included), after a load that is accepted the local endpoint is that of the running config. -/
theorem local_endpoint_of_running_config_partial (pre : List Attempt) (a : Attempt) (hacc : a.accepted = true) :
    localAsRunning (pre ++ [a]) = true := by
  have hnb : a.cfg.loc ≠ .blocked := by
    intro hb; simp [Attempt.accepted, hb] at hacc
  obtain ⟨id, hl⟩ := local_endpoint_is_of_last_bound_load pre a hnb
  unfold localAsRunning
  rw [hl, runningConfig_snoc_accepted pre a hacc]
  cases he : a.cfg.loc.endpoint with
  | none => simp
  | some p => cases p; simp [he]

/-- **the lifecycle code the model follows is the code of the source as it is now**
    (`Gen/AdminGate.lean`, regenerated on every run): both replace functions register a `defer`
    that stops the previous server; in `replaceRemoteAdminServer` the only returning guard in front
    of it is `cfg == nil` (so "no admin.remote" returns AFTER the stop is registered), in
    `replaceLocalAdminServer` there is none (so `admin.disabled` stops the previous server too), and
    there the assignment to `localAdminServer` comes after the `Listen` call and its error return
    (so a failed bind leaves the variable on the server that is really running). -/
theorem admin_lifecycle_matches_source :
    Gen.remoteStopsPreviousServer = true ∧ Gen.remoteGuardsBeforeStop = ["cfg==nil"] ∧
    Gen.localStopsPreviousServer = true ∧ Gen.localGuardsBeforeStop = [] ∧
    Gen.localServerAssignedAfterBind = true := by
  decide

/-- **termination**: when the `/id/` chain of the request path ends within `n` hops (what the
    driver and the harness check before running a case; always true for an index whose targets do
    not lead back to `/id/`), a budget of `n + 1` passes is never exhausted. -/
theorem serve_never_runs_out_of_fuel (H : Bytes → Req → σ → σ) (mux : Bytes → Bytes → Route) (h : Handler) (idx : Index) :
    ∀ (n : Nat) (r : Req) (s : σ) (tr : List Dispatch) (c : Nat),
      (idChain idx n r.path).isSome = true → (serve H mux h idx (n + 1) r s tr c).final ≠ .fuel := by
  intro n
  induction n with
  | zero =>
    intro r s tr c hc
    rcases serve_succ H mux h idx 0 r s tr c with ⟨f, c', e, hf, -⟩ | ⟨g, pat, -, -, ⟨f, s', e, hf, -⟩ | ⟨np, hnp, -⟩⟩
    · rw [e]; exact hf
    · rw [e]; exact hf
    · simp [idChain, hnp] at hc
  | succ n ih =>
    intro r s tr c hc
    rcases serve_succ H mux h idx (n + 1) r s tr c with ⟨f, c', e, hf, -⟩ | ⟨g, pat, -, -, ⟨f, s', e, hf, -⟩ | ⟨np, hnp, e⟩⟩
    · rw [e]; exact hf
    · rw [e]; exact hf
    · rw [e]
      apply ih
      show (idChain idx n np).isSome = true
      simpa [idChain, hnp] using hc

section Examples

def exLan : Addr := ⟨str "tcp", str "192.168.1.5", 2019, .other⟩
def exCfg : AdminCfg := ⟨none, true, none⟩
/-- `POST /id/item` with Host evil.com, Origin http://evil.com -/
def exEvil : Req :=
  ⟨str "POST", str "evil.com", str "/id/item", [], str "http://evil.com", [], ⟨true, str "http", str "evil.com"⟩, emptyUrl, none⟩
/-- the same request sent with the right Host and Origin -/
def exGood : Req :=
  ⟨str "POST", str "localhost:2019", str "/id/item", [], str "http://localhost:2019", [],
   ⟨true, str "http", str "localhost:2019"⟩, emptyUrl, none⟩
def exIdx : Index := [(str "item", str "/probe/x")]
def exPats : List Bytes := [str "/probe/"]

-- every_dispatch_is_gated / state_changes_only_through_dispatch: a request that IS served, through an
-- /id/ redirect into a module route: two dispatches, state changed once
theorem exGood_served :
    (serveReal count (newAdminHandler exCfg exAddr false exPats) exIdx 3 exGood 0).trace
      = [⟨str "/id/", str "/id/item"⟩, ⟨str "/probe/", str "/probe/x"⟩] ∧
    (serveReal count (newAdminHandler exCfg exAddr false exPats) exIdx 3 exGood 0).state = 1 ∧
    (serveReal count (newAdminHandler exCfg exAddr false exPats) exIdx 3 exGood 0).cors = 1 := by
  unfold exGood exAddr exPats exIdx
  repeat rw [str_ofList]
  decide +kernel
example : (serveReal count (newAdminHandler exCfg exAddr false exPats) exIdx 3 exGood 0).trace
    = [⟨str "/id/", str "/id/item"⟩, ⟨str "/probe/", str "/probe/x"⟩] := exGood_served.1
example : (serveReal count (newAdminHandler exCfg exAddr false exPats) exIdx 3 exGood 0).state = 1 := exGood_served.2.1
-- refused_at_entry_untouched
example : gate (newAdminHandler exCfg exAddr false exPats) exEvil = .refuse .host := by
  unfold exEvil exAddr exPats
  repeat rw [str_ofList]
  decide +kernel
-- enforceHost_iff_specific_address: both sides occur
example : SpecificAddress exAddr ∧ SpecificAddress exLan := by
  unfold exAddr exLan
  repeat rw [str_ofList]
  decide
example : ¬ SpecificAddress ⟨str "tcp", [], 2019, .notIP⟩ ∧ ¬ SpecificAddress ⟨str "unix", str "/run/caddy.sock", 0, .notIP⟩
    ∧ ¬ SpecificAddress ⟨str "fd", str "3", 0, .notIP⟩ ∧ ¬ SpecificAddress ⟨str "tcp", str "0.0.0.0", 2019, .unspecified⟩ := by
  repeat rw [str_ofList]
  decide
-- host_gate / local_endpoint_rejects_foreign_host: hypotheses hold for the evil request
example : (newAdminHandler exCfg exAddr false exPats).enforceHost = true ∧
    ∀ a ∈ (newAdminHandler exCfg exAddr false exPats).allowed, a.host ≠ exEvil.host := by
  unfold exEvil exAddr exPats
  repeat rw [str_ofList]
  decide +kernel
example : SpecificAddress exLan ∧ ¬ HostAllowed ⟨none, false, none⟩ exLan (str "evil.com") := by
  unfold exLan
  repeat rw [str_ofList]
  refine ⟨by decide, ?_⟩
  rintro ⟨sc, -, -, -, h⟩
  revert h; decide
-- … and the conclusion is not vacuous: the same request with an allowed Host is served
example : Served (serveReal count (newAdminHandler exCfg exAddr false exPats) exIdx 3 exGood 0) :=
  fun h => List.cons_ne_nil _ _ (exGood_served.1.symm.trans h)
-- plain_listen_string_host_gate: "192.168.1.5:2019" with Host evil.com; the parser's other branches
example : (∀ b ∈ str "192.168.1.5", plainHostByte b) ∧ str "192.168.1.5" ≠ [] ∧ (∀ b ∈ str "2019", isDigitB b = true)
    ∧ digitsVal 10 (str "2019") = 2019 ∧ ¬ HostAllowed ⟨some [], false, none⟩ ⟨sTcp, str "192.168.1.5", 2019, .other⟩ (str "evil.com") := by
  repeat rw [str_ofList]
  refine ⟨by decide, by decide, by decide, by decide, ?_⟩
  rintro ⟨sc, e, he, -⟩
  cases he
example : parseAdminListenAddr (str "[::1]:2019") [] = .ok sTcp (str "::1") 2019
    ∧ parseAdminListenAddr (str "::1") [] = .ok sTcp (str "::1") 0
    ∧ parseAdminListenAddr (str " TCP /localhost:02019") [] = .ok sTcp (str "localhost") 2019
    ∧ parseAdminListenAddr [] (str "localhost:2019") = .ok sTcp (str "localhost") 2019
    ∧ parseAdminListenAddr (str "fd/3") [] = .ok sFd (str "3") 0
    ∧ parseAdminListenAddr (str "unix//run/c.sock|0220") [] = .ok sUnix (str "/run/c.sock|0220") 0
    ∧ parseAdminListenAddr (str "unix//run/c.sock|0444") [] = .err
    ∧ parseAdminListenAddr (str "localhost:2019-2020") [] = .err
    ∧ parseAdminListenAddr (str "localhost:x") [] = .err
    ∧ parseAdminListenAddr (str "a:b:c") [] = .ok sTcp (str "a:b:c") 0 := by
  repeat rw [str_ofList]
  decide +kernel   -- (sic, the last one: the lenient second try)
-- hostname_listen_string_host_gate, and netip's verdicts as computed by the model
example : (∀ b ∈ str "admin.example.com", plainHostByte b ∧ b ≠ percent) ∧ (∃ b ∈ str "admin.example.com", isDigitB b = false ∧ b ≠ 46) := by
  repeat rw [str_ofList]
  decide +kernel
example : ipClassOf (str "0.0.0.0") = .unspecified ∧ ipClassOf (str "::") = .unspecified ∧ ipClassOf (str "0:0:0:0:0:0:0:0") = .unspecified
    ∧ ipClassOf (str "::%eth0") = .other ∧ ipClassOf (str "::ffff:0.0.0.0") = .other
    ∧ ipClassOf (str "127.0.0.1") = .loopback ∧ ipClassOf (str "127.9.9.9") = .loopback ∧ ipClassOf (str "::1") = .loopback
    ∧ ipClassOf (str "::ffff:127.0.0.1") = .loopback ∧ ipClassOf (str "::1%lo") = .loopback
    ∧ ipClassOf (str "192.168.1.5") = .other ∧ ipClassOf (str "fe80::1%eth0") = .other
    ∧ ipClassOf (str "127.0.0.01") = .notIP ∧ ipClassOf (str "127.1") = .notIP ∧ ipClassOf (str "1:2:3:4:5:6:7:8::") = .notIP
    ∧ ipClassOf (str "localhost") = .notIP ∧ ipClassOf [] = .notIP := by
  repeat rw [str_ofList]
  decide +kernel
example : (localEndpoint exCfg (str "0.0.0.0:2019") [] (ipClassOf (str "0.0.0.0")) []).map (·.enforceHost) = some false
    ∧ (localEndpoint exCfg (str "[::]:2019") [] (ipClassOf (str "::")) []).map (·.enforceHost) = some false
    ∧ (localEndpoint exCfg (str "192.168.1.5:2019") [] (ipClassOf (str "192.168.1.5")) []).map (·.enforceHost) = some true := by
  repeat rw [str_ofList]
  decide +kernel
-- listen_placeholder_error_stops_endpoint: HOST=localhost, PORT=2019, UNSET unset
def exEnv : C18.Env := fun k =>
  if k = str "env.HOST" then some (str "localhost") else if k = str "env.PORT" then some (str "2019")
  else if hasPrefix k (str "env.") then some [] else none
example : parseAdminListenAddrP exEnv (str "{env.HOST}:{env.PORT}") [] = .ok sTcp (str "localhost") 2019
    ∧ parseAdminListenAddrP exEnv (str "{env.UNSET}:2019") [] = .err
    ∧ parseAdminListenAddrP exEnv (str "{nope}:2019") [] = .err
    ∧ (∀ out, C18.replaceOrErr (str "{env.UNSET}:2019") true true exEnv ≠ .ok out) := by
  refine ⟨?_, ?_, ?_, fun out h => ?_⟩
  iterate 3
    · unfold exEnv
      repeat rw [str_ofList]
      decide +kernel
  have : C18.replaceOrErr (str "{env.UNSET}:2019") true true exEnv = .emptyVal (str "env.UNSET") := by
    unfold exEnv
    repeat rw [str_ofList]
    decide +kernel
  rw [this] at h; cases h
-- empty_host_listen_string_not_enforced / unix_listen_string_not_enforced
example : (localEndpoint exCfg (str ":2019") [] .notIP []).map (·.enforceHost) = some false
    ∧ (localEndpoint exCfg (str "unix//run/caddy.sock") [] .notIP []).map (·.enforceHost) = some false
    ∧ (localEndpoint exCfg (str "localhost:2019") [] .notIP []).map (·.enforceHost) = some true := by
  repeat rw [str_ofList]
  decide +kernel
-- caddyfile_admin_address_host_gate: `admin 192.168.1.5:2019`; `admin off` and a typo give no endpoint
example : (caddyfileEndpoint (str "d") [str "192.168.1.5:2019"] none .other []).map (·.enforceHost) = some true
    ∧ caddyfileEndpoint (str "d") [sOff] none .other [] = none
    ∧ caddyfileEndpoint (str "d") [str "localhost:2019"] (some [[str "enforce_origins"]]) .notIP [] = none
    ∧ (caddyfileEndpoint (str "d") [str "localhost:2019"] (some [[sEnforceOrigin], [sOrigins, str "https://a.example:8443"]]) .notIP []).map
        (fun hd => (hd.enforceOrigin, hd.allowed)) = some (true, [⟨str "https", str "a.example:8443"⟩]) := by
  repeat rw [str_ofList]
  decide +kernel
-- caddyfile_*: `admin localhost:2019 { enforce_origin \n origins a b }`, `admin off`, `origins` without arguments
example : parseOptAdmin (str "d") [str "localhost:2019"] (some [[sEnforceOrigin], [sOrigins, str "a", str "b"]])
      = some ⟨false, str "localhost:2019", true, some [str "a", str "b"]⟩
    ∧ parseOptAdmin (str "d") [sOff] none = some ⟨true, [], false, none⟩
    ∧ parseOptAdmin (str "d") [sOff] (some []) = none
    ∧ parseOptAdmin (str "d") [] (some [[sOrigins, str "a"], [sOrigins]]) = some ⟨false, str "d", false, none⟩
    ∧ parseOptAdmin (str "d") [] (some [[sEnforceOrigin, str "x"]]) = none
    ∧ parseOptAdmin (str "d") [] (some [[sEnforceOrigin, sOrigins, sEnforceOrigin]])
        = some ⟨false, str "d", true, some [sEnforceOrigin]⟩ := by
  repeat rw [str_ofList]
  decide +kernel
-- origin_gate / local_endpoint_rejects_foreign_origin: right Host, foreign Origin
def exCsrf : Req := { exGood with origin := str "http://evil.com", originUrl := ⟨true, str "http", str "evil.com"⟩ }
example : (newAdminHandler exCfg exAddr false exPats).enforceOrigin = true ∧
    ¬ ((getOrigin exCsrf).ok = true ∧ ∃ a ∈ (newAdminHandler exCfg exAddr false exPats).allowed,
        (a.scheme = [] ∨ a.scheme = (getOrigin exCsrf).scheme) ∧ a.host = (getOrigin exCsrf).host) := by decide +kernel
example : gate (newAdminHandler exCfg exAddr false exPats) exCsrf = .refuse .originDenied := by
  unfold exCsrf exGood exAddr exPats
  repeat rw [str_ofList]
  decide +kernel
-- cors_only_for_allowed_origin: the served request above carries the header, an OPTIONS preflight all of them
example : (serveReal count (newAdminHandler exCfg exAddr false exPats) exIdx 3 exGood 0).cors = 1 ∧
    (serveReal count (newAdminHandler exCfg exAddr false exPats) exIdx 3 { exGood with method := sOPTIONS } 0).cors = 2 :=
  ⟨exGood_served.2.2, by decide +kernel⟩
-- origin_header_bytes_gate: Origin: http://evil.com:8080 — and the model of url.Parse on the usual suspects
example : urlParse (str "http://h%C3%A9.example") = ⟨true, str "http", [104, 195, 169] ++ str ".example"⟩
    ∧ urlParse (str "http://[fe80::1%25eth0]:80/x") = ⟨true, str "http", str "[fe80::1%eth0]:80"⟩
    ∧ (urlParse (str "http://h%41")).ok = false ∧ (urlParse (str "%zz")).ok = false
    ∧ (urlParse (str "http://h/p#f%z")).ok = false ∧ (urlParse (str "x:%zz")).ok = true
    ∧ (urlParse [104, 1]).ok = false := by
  repeat rw [str_ofList]
  decide +kernel
example : urlParse (str "http://evil.com:8080") = ⟨true, str "http", str "evil.com:8080"⟩
    ∧ urlParse (str "HTTPS://localhost:2019/p?q#f") = ⟨true, str "https", str "localhost:2019"⟩
    ∧ urlParse (str "http://user@localhost:2019@evil.com") = ⟨true, str "http", str "evil.com"⟩
    ∧ urlParse (str "http://[::1]:2019") = ⟨true, str "http", str "[::1]:2019"⟩
    ∧ urlParse (str "localhost:2019") = ⟨true, str "localhost", []⟩
    ∧ urlParse (str "null") = ⟨true, [], []⟩ ∧ urlParse [] = ⟨true, [], []⟩
    ∧ urlParse (str "//example.com") = ⟨true, [], str "example.com"⟩
    ∧ (urlParse (str "http://localhost:2019.evil.com")).ok = false
    ∧ (urlParse (str "http://[::1")).ok = false ∧ (urlParse (str "1.2.3.4:80")).ok = false := by
  repeat rw [str_ofList]
  decide +kernel
-- missing_origin_gate / origin_missing_refused: the request has no Origin; also with the empty-host origin configured
def exNoOrigin : Req := { exGood with origin := [], originUrl := emptyUrl }
example : exCfg.enforceOrigin = true ∧ OriginMissing exNoOrigin ∧
    (newAdminHandler exCfg exAddr false exPats).enforceOrigin = true := by decide
example : (serveReal count (newAdminHandler wCfgEmptyOrigin exAddr false []) [] 3 (wReq []) 0).final
    = .refused .originMissing := by
  unfold wCfgEmptyOrigin exAddr wReq
  repeat rw [str_ofList]
  decide +kernel
-- websocket_refused / websocket_refused_answer: capitals, and a second Upgrade value
def exWs : Req := { exGood with upgrade := [str "h2c", str "WebSocket"] }
example : IsWebsocketUpgrade exWs ∧ (newAdminHandler exCfg exAddr false exPats).remote = none := by decide +kernel
example : (serveReal count (newAdminHandler exCfg exAddr false exPats) exIdx 3 exWs 0).final = .refused .websocket := by decide +kernel
-- remote endpoint: key 1 may GET under /config/, key 2 may do anything
def exAcl : List Access := [⟨[1], [⟨some [str "GET"], some [str "/config/"]⟩]⟩, ⟨[2], []⟩]
def exRemoteCfg : AdminCfg := ⟨none, false, some exAcl⟩
def exRemoteAddr : Addr := ⟨str "tcp", [], 2021, .notIP⟩
def exRemoteReq (m p : String) (chains : List (List Nat)) : Req :=
  ⟨str m, str "whatever", str p, [], [], [], emptyUrl, emptyUrl, some chains⟩
-- remote_served_only_if_authorised / remote_endpoint_serves_only_authorised: a served request exists …
example : Served (serveReal count (newAdminHandler exRemoteCfg exRemoteAddr true []) [] 3
    (exRemoteReq "GET" "/config/apps" [[7, 1]]) 0) := by
  unfold exRemoteReq exRemoteCfg exAcl exRemoteAddr
  repeat rw [str_ofList]
  decide +kernel
-- … an /id/ redirect whose target the key may not access is refused at the second pass …
example : (serveReal count (newAdminHandler ⟨none, false, some [⟨[1], [⟨none, some [str "/id/"]⟩]⟩]⟩ exRemoteAddr true [])
    [(str "x", str "/stop")] 3 (exRemoteReq "GET" "/id/x" [[1]]) 0).final = .refused .aclPath := by
  repeat rw [str_ofList]
  decide +kernel
-- permissions_*: two entries, the second refuses the path although the first allowed it
example : (∀ p ∈ [(⟨none, some [str "/config/"]⟩ : Perm)], PermAllows p (str "GET") (str "/config/x"))
    ∧ ¬ PermAllows ⟨none, some [str "/id/"]⟩ (str "GET") (str "/config/x")
    ∧ permsCheck (str "GET") (str "/config/x") [⟨none, some [str "/config/"]⟩, ⟨none, some [str "/id/"]⟩] = .pathDenied := by
  repeat rw [str_ofList]
  simp only [permAllows_iff, List.forall_mem_singleton]
  decide
-- remote_without_tls_never_served: the model's outcome is the panic
example : (serveReal count (newAdminHandler exRemoteCfg exRemoteAddr true []) [] 3
    { exRemoteReq "GET" "/config/" [] with tls := none } 0).final = .panic := by decide
-- remote_unlisted_identity_401: hypotheses hold for a client presenting only key 7
example : (newAdminHandler exRemoteCfg exRemoteAddr true []).remote = some exAcl ∧
    (exRemoteReq "GET" "/config/" [[7]]).tls = some [[7]] ∧ ¬ KeyListed exAcl [[7]] := by decide +kernel
-- cli_*: `caddy reload --address …`, the request for 192.168.1.5:2019, and a unix socket
example : determineAdminAddr (str "127.0.0.1:2999") (some (str "localhost:2019")) (str "d") = str "127.0.0.1:2999"
    ∧ determineAdminAddr [] (some (str "localhost:2019")) (str "d") = str "localhost:2019"
    ∧ cliRequestFor (str "192.168.1.5:2019") = some (sTcp, str "192.168.1.5:2019", str "192.168.1.5:2019", str "http://192.168.1.5:2019")
    ∧ cliRequestFor (str "unix//run/caddy.sock") = some (sUnix, str "/run/caddy.sock", str "127.0.0.1", [])
    ∧ cliRequestFor (str "localhost:2019-2020") = none := by
  repeat rw [str_ofList]
  decide +kernel
example : SpecificAddress ⟨sTcp, str "192.168.1.5", 2019, .other⟩ ∧ Addr.isLoopback ⟨sTcp, str "192.168.1.5", 2019, .other⟩ = false := by
  repeat rw [str_ofList]
  decide
-- lifecycle: a history that switches the remote endpoint on (key 0), changes its list (key 1), then off
def exHist : List LoadCfg :=
  [⟨.listen 0 false, some (2, [⟨[0], []⟩])⟩, ⟨.listen 0 false, some (2, [⟨[1], []⟩])⟩, ⟨.listen 1 false, none⟩]
example : (afterHistory (exHist.take 1)).liveRemote = [⟨1, 2, [⟨[0], []⟩]⟩]
    ∧ (afterHistory (exHist.take 2)).liveRemote = [⟨3, 2, [⟨[1], []⟩]⟩]
    ∧ (afterHistory exHist).liveRemote = [] ∧ (afterHistory exHist).liveLocal = [⟨4, 1, false⟩]
    ∧ ([0, 1].map (keyAnswer [⟨[1], []⟩])) = ['r', 's'] := by decide
-- failed_loads_change_nothing: loose endpoint, a load that cannot bind, then the origins are tightened
example : (afterHistory [⟨.listen 0 false, none⟩, ⟨.blocked, none⟩, ⟨.listen 0 true, none⟩]).liveLocal = [⟨1, 0, true⟩]
    ∧ afterHistory [⟨.listen 0 false, none⟩, ⟨.blocked, none⟩] = afterHistory [⟨.listen 0 false, none⟩] := by decide
-- loads rejected late: tight endpoint accepted, then a config with default origins is rejected while
-- provisioning its apps; remote endpoint with key 0, then a load with an undecodable key
example : (afterAttempts [⟨⟨.listen 0 true, none⟩, .none⟩, ⟨⟨.listen 0 false, none⟩, .prov⟩]).liveLocal = [⟨1, 0, false⟩]
    ∧ runningConfig [⟨⟨.listen 0 true, none⟩, .none⟩, ⟨⟨.listen 0 false, none⟩, .prov⟩] = some ⟨.listen 0 true, none⟩
    ∧ (afterAttempts [⟨⟨.listen 0 false, some (2, [⟨[0], []⟩])⟩, .none⟩, ⟨⟨.listen 0 true, some (2, [⟨[1], []⟩])⟩, .key⟩]).liveRemote = []
    ∧ (afterAttempts [⟨⟨.listen 0 false, some (2, [⟨[0], []⟩])⟩, .none⟩, ⟨⟨.disabled, some (3, [⟨[1], []⟩])⟩, .prov⟩]).liveRemote = [⟨1, 2, [⟨[0], []⟩]⟩]
    ∧ localAsRunning [⟨⟨.listen 0 true, none⟩, .none⟩, ⟨⟨.listen 0 false, none⟩, .prov⟩, ⟨⟨.listen 1 false, none⟩, .none⟩] = true
    ∧ (⟨⟨.listen 1 false, none⟩, .none⟩ : Attempt).accepted = true := by decide
-- serve_never_runs_out_of_fuel: a two-hop chain ends within 2 hops, a cyclic index does not
example : (idChain [(str "a", str "/id/b"), (str "b", str "/config/x")] 2 (str "/id/a")).isSome = true := by
  repeat rw [str_ofList]
  decide +kernel
example : (idChain [(str "a", str "/id/a")] 16 (str "/id/a")).isSome = false := by
  repeat rw [str_ofList]
  decide

end Examples

end CaddyModel.C13
