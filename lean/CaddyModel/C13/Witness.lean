/-
C13 — counter-examples, and the small handlers and requests they and the examples of Props.lean
use.  One clause fails of the code as it is: read with "allowed origin" = allowed
by the RUNNING config, the Host clause fails after a load that is rejected late
(`local_endpoint_of_running_config_full_fails`; its protocol lines, `witnessLines` in Driver.lean, are
replayed on the real adminHandler on every run, and the oracle of the harness must still flag them:
KNOWN-FINDING).  The two clauses that failed of earlier code (websocket, missing origin) were repaired
in /repo; their counter-examples are kept as theorems about the OLD checks (`gateOld`,
`gateOldOrigin`), with the protocol lines as regression cases in corpus/C13/.  The other theorems
show that plausible variants of the code (`permsCheckSticky`, `replaceRemoteMerged`,
`replaceLocalAssignFirst`) are not the code.
-/
import CaddyModel.C13.Spec
import CaddyModel.C13.Lifecycle
import CaddyModel.Util.StrLemmas

namespace CaddyModel.C13

def exAddr : Addr := ⟨str "tcp", str "localhost", 2019, .notIP⟩
def emptyUrl : Url := ⟨true, [], []⟩
def count (_ : Bytes) (_ : Req) (n : Nat) : Nat := n + 1

/-- default local endpoint on localhost:2019 -/
def wHandler : Handler := newAdminHandler ⟨none, false, none⟩ exAddr false []

/-- probes for `gate_order_matches_source` (Props.lean) -/
def probeLocal : Handler := newAdminHandler ⟨none, true, none⟩ exAddr false []
def probeRemote : Handler := newAdminHandler ⟨none, true, some []⟩ exAddr true []
/-- no client key, websocket upgrade, foreign Host, foreign Origin -/
def probeAllWrong : Req :=
  ⟨str "GET", str "evil.com", str "/config/", [str "websocket"], str "http://evil.com", [],
   ⟨true, str "http", str "evil.com"⟩, emptyUrl, some []⟩
def probeAllRight : Req :=
  ⟨str "GET", str "localhost:2019", str "/config/", [], str "http://localhost:2019", [],
   ⟨true, str "http", str "localhost:2019"⟩, emptyUrl, some []⟩

def wReq (upgrade : List Bytes) : Req :=
  ⟨str "GET", str "localhost:2019", str "/config/", upgrade, [], [], emptyUrl, emptyUrl, none⟩

/-- The two counter-examples to "websocket upgrades are always refused", as a statement
    about the OLD test (`wsCheckOld`, the code before /repo cc84cea): `Upgrade: WebSocket` and
    `Upgrade: h2c` + `Upgrade: websocket` are websocket upgrades, the old gate let them pass, the
    current gate refuses them. -/
theorem websocket_old_code_fails :
    ∀ up ∈ [[str "WebSocket"], [str "h2c", str "websocket"]],
      IsWebsocketUpgrade (wReq up) ∧ gateOld wHandler (wReq up) = .pass 0 ∧
      gate wHandler (wReq up) = .refuse .websocket := by
  unfold wHandler wReq exAddr
  repeat rw [str_ofList]
  decide +kernel

/-- `"origins": ["", "localhost:2019"], "enforce_origin": true` -/
def wCfgEmptyOrigin : AdminCfg :=
  ⟨some [⟨[], emptyUrl⟩, ⟨str "localhost:2019", emptyUrl⟩], true, none⟩

/-- The counter-example to "with origin enforcement on, a request whose Origin/Referer is
    missing is refused", as a statement about the OLD `checkOrigin` (`gateOldOrigin`): on a
    specific address with an allowed origin whose host is empty, the old gate let a request without
    Origin/Referer pass (the absent header parsed as the empty URL, whose empty host "matched");
    the current gate refuses it as missing. -/
theorem origin_missing_old_code_fails :
    SpecificAddress exAddr ∧ wCfgEmptyOrigin.enforceOrigin = true ∧ OriginMissing (wReq []) ∧
    gateOldOrigin (newAdminHandler wCfgEmptyOrigin exAddr false []) (wReq []) = .pass 1 ∧
    gate (newAdminHandler wCfgEmptyOrigin exAddr false []) (wReq []) = .refuse .originMissing := by
  unfold wCfgEmptyOrigin wReq exAddr
  repeat rw [str_ofList]
  decide +kernel

/-- the permission loop with the `pathFound` flag declared OUTSIDE the loop and never reset (a
    plausible "tidy-up" of `enforceAccessControls`): once one permission entry has allowed the
    path, the path test of every later entry passes. -/
def permsCheckSticky (method path : Bytes) : List Perm → Bool → AclRes
  | [], _ => .allow
  | p :: ps, found =>
    if !methodOK p method then .methodDenied
    else if !(found || pathOK p path) then .pathDenied
    else permsCheckSticky method path ps true

/-- … which is NOT the loop of the code: with permissions `[{paths:["/config/"]}, {paths:["/id/"]}]`
    a request for `/config/x` is allowed by the sticky variant and refused (second entry) by the
    real loop — the per-entry reset of `pathFound` matters. -/
theorem permissions_sticky_path_flag_fails :
    ∃ (perms : List Perm) (m p : Bytes),
      permsCheckSticky m p perms false = .allow ∧ permsCheck m p perms = .pathDenied :=
  ⟨[⟨none, some [str "/config/"]⟩, ⟨none, some [str "/id/"]⟩], str "GET", str "/config/x", by
    repeat rw [str_ofList]
    decide⟩

/-- the lifecycle variant with the "remote administration not configured" guard merged in front of
    the `defer` (`replaceRemoteMerged`) is NOT the lifecycle of the code: after "remote on with key
    0, then remote off" it leaves the first server listening, still serving key 0, whereas the real
    step leaves nothing — where the guard stands matters. -/
theorem remote_merged_guard_fails :
    ∃ hist : List LoadCfg,
      (hist.getLast?.map (·.remote)) = some none ∧
      (afterHistory hist).liveRemote = [] ∧
      ∃ srv ∈ (hist.foldl loadMerged Life.init).liveRemote, keyAnswer srv.acl 0 = 's' :=
  ⟨[⟨.listen 0 false, some (2, [⟨[0], []⟩])⟩, ⟨.listen 0 false, none⟩], by decide⟩

/-- the variant of `replaceLocalAdminServer` that assigns `localAdminServer` before the listener is
    bound (`replaceLocalAssignFirst`) is NOT the lifecycle of the code: after "endpoint with the
    default origins, a load that cannot bind, the same address with tightened origins" it leaves
    TWO servers listening on the address, one of them still with the old, loose policy (the
    variable pointed at the never-started server, so the real one was never stopped) — whereas
    the real steps leave exactly the tightened one. -/
theorem local_assign_before_bind_fails :
    ∃ hist : List LoadCfg,
      (afterHistory hist).liveLocal = [⟨1, 0, true⟩] ∧
      ∃ srv ∈ (hist.foldl loadAssignFirst Life.init).liveLocal, srv.addr = 0 ∧ srv.tight = false :=
  ⟨[⟨.listen 0 false, none⟩, ⟨.blocked, none⟩, ⟨.listen 0 true, none⟩], by decide⟩

/-- **a REJECTED config's local admin policy takes effect** (`caddy.go run`: the local endpoint is
    replaced before the rest of the load can fail).  Read with "allowed origin" = allowed by the
    running config, the Host clause fails of the tree: (1) the running config allows only
    c13-only.example on address 0; a config with default origins is rejected while provisioning its
    apps — afterwards the server on address 0 serves the Host 127.0.0.1:port; (2) a rejected config
    names another address — an admin endpoint the running config never configured listens there.
    Protocol lines: `witnessLines`. -/
theorem local_endpoint_of_running_config_full_fails :
    (∃ hist, localAsRunning hist = false ∧
       (afterAttempts hist).liveLocal = [⟨1, 0, false⟩] ∧ runningConfig hist = some ⟨.listen 0 true, none⟩) ∧
    (∃ hist, localAsRunning hist = false ∧
       (afterAttempts hist).liveLocal = [⟨1, 1, false⟩] ∧ runningConfig hist = some ⟨.listen 0 false, none⟩) :=
  ⟨⟨[⟨⟨.listen 0 true, none⟩, .none⟩, ⟨⟨.listen 0 false, none⟩, .prov⟩], by decide⟩,
   ⟨[⟨⟨.listen 0 false, none⟩, .none⟩, ⟨⟨.listen 1 false, none⟩, .prov⟩], by decide⟩⟩

end CaddyModel.C13
