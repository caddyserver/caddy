/-
C13 — the listen-address parser (Listen.lean).  `plainHostByte` (a word of the stated theorems); scans of
byte lists (`cutAt_*`, `lastIndexOfB_*`, `contains_false_of_forall`, `ne_of_class`; UrlLemmas.lean uses some
of them too); then the listen strings that read back as written: `splitHostPort_plain`, `parsePort_digits`,
`parse_plain_host_port`, `parse_unix_socket`, and `parseAdminListenAddrP_no_braces`.
-/
import CaddyModel.C13.Listen

namespace CaddyModel.C13

/-- a byte that may occur in a plain host name / IPv4 address -/
def plainHostByte (b : UInt8) : Prop := b ≠ colon ∧ b ≠ slash ∧ b ≠ lbrack ∧ b ≠ rbrack

instance (b : UInt8) : Decidable (plainHostByte b) := by unfold plainHostByte; infer_instance

theorem cutAt_none (c : UInt8) (s : Bytes) (h : ∀ b ∈ s, b ≠ c) : cutAt c s = none := by
  induction s with
  | nil => rfl
  | cons x xs ih => simp [cutAt, h x List.mem_cons_self, ih fun b hb => h b (List.mem_cons_of_mem _ hb)]

theorem cutAt_append (c : UInt8) (s t : Bytes) (h : ∀ b ∈ s, b ≠ c) : cutAt c (s ++ c :: t) = some (s, t) := by
  induction s with
  | nil => simp [cutAt]
  | cons x xs ih => simp [cutAt, h x List.mem_cons_self, ih fun b hb => h b (List.mem_cons_of_mem _ hb)]

theorem lastIndexOfB_none (c : UInt8) (s : Bytes) (h : ∀ b ∈ s, b ≠ c) : lastIndexOfB c s = none := by
  induction s with
  | nil => rfl
  | cons x xs ih => simp [lastIndexOfB, h x List.mem_cons_self, ih fun b hb => h b (List.mem_cons_of_mem _ hb)]

theorem lastIndexOfB_append (c : UInt8) (s t : Bytes) (ht : ∀ b ∈ t, b ≠ c) :
    lastIndexOfB c (s ++ c :: t) = some s.length := by
  induction s with
  | nil => simp [lastIndexOfB, lastIndexOfB_none c t ht]
  | cons x xs ih => simp [lastIndexOfB, ih]

theorem contains_false_of_forall (c : UInt8) (s : Bytes) (h : ∀ b ∈ s, b ≠ c) : s.contains c = false := by
  simpa using fun hc => h c hc rfl

-- used as `ne_of_class (hd b hb) rfl`: `c` is read off the goal `b ≠ c`, and `rfl` evaluates the class on it
theorem ne_of_class {p : UInt8 → Bool} {b c : UInt8} (hb : p b = true) (hc : p c = false) : b ≠ c :=
  fun e => by rw [e, hc] at hb; cases hb

theorem splitHostPort_plain (h ds : Bytes) (hh : ∀ b ∈ h, plainHostByte b)
    (hd : ∀ b ∈ ds, isDigitB b = true) :
    splitHostPort (h ++ colon :: ds) = some (h, ds) := by
  have hbr : ∀ b ∈ h ++ colon :: ds, b ≠ lbrack ∧ b ≠ rbrack := by
    rw [List.forall_mem_append, List.forall_mem_cons]
    exact ⟨fun b hb => (hh b hb).2.2, by decide,
      fun b hb => ⟨ne_of_class (hd b hb) rfl, ne_of_class (hd b hb) rfl⟩⟩
  have hl := contains_false_of_forall lbrack _ fun b hb => (hbr b hb).1
  have hr := contains_false_of_forall rbrack _ fun b hb => (hbr b hb).2
  have hhead : (h ++ colon :: ds).head? ≠ some lbrack := fun e => (hbr _ (List.mem_of_mem_head? e)).1 rfl
  have hcol := contains_false_of_forall colon h fun b hb => (hh b hb).1
  have hdrop : (h ++ colon :: ds).drop (h.length + 1) = ds := List.drop_length_add_append 1
  unfold splitHostPort
  rw [lastIndexOfB_append colon h ds fun b hb => ne_of_class (hd b hb) rfl]
  simp only [hhead, if_false, List.take_left, hcol, hl, hr, hdrop, Bool.false_or, Bool.false_eq_true]

theorem parsePort_digits (ds : Bytes) (hne : ds ≠ []) (hd : ∀ b ∈ ds, isDigitB b = true)
    (hle : digitsVal 10 ds ≤ 65535) : parsePort ds = some (digitsVal 10 ds) := by
  have : ds.all isDigitB = true := List.all_eq_true.2 hd
  simp [parsePort, hne, this, hle]

theorem parse_plain_host_port (h ds dflt : Bytes) (hh : ∀ b ∈ h, plainHostByte b)
    (hne : ds ≠ []) (hd : ∀ b ∈ ds, isDigitB b = true) (hle : digitsVal 10 ds ≤ 65535) :
    parseAdminListenAddr (h ++ colon :: ds) dflt = .ok sTcp h (digitsVal 10 ds) := by
  have hnoslash : ∀ b ∈ h ++ colon :: ds, b ≠ slash := by
    rw [List.forall_mem_append, List.forall_mem_cons]
    exact ⟨fun b hb => (hh b hb).2.1, by decide, fun b hb => ne_of_class (hd b hb) rfl⟩
  have hnodash : ∀ b ∈ ds, b ≠ 45 := fun b hb => ne_of_class (hd b hb) rfl
  have hnonempty : h ++ colon :: ds ≠ [] := by simp
  have h1 : hasPrefix sTcp sUnix = false := by decide
  have h2 : hasPrefix sTcp sFd = false := by decide
  unfold parseAdminListenAddr parseNetworkAddress splitNetworkAddress splitHostPortLenient
  simp only [hnonempty, if_false]
  rw [cutAt_none slash _ hnoslash, splitHostPort_plain h ds hh hd]
  simp only [Option.map, if_true, h1, h2]
  simp [singlePort, hne, cutAt_none 45 ds hnodash, parsePort_digits ds hne hd hle]

/-- `hp`: no `|`, so no permission bits after the path; colons, brackets and further slashes may occur -/
theorem parse_unix_socket (path dflt : Bytes) (hp : ∀ b ∈ path, b ≠ 124) :
    parseAdminListenAddr (sUnix ++ slash :: path) dflt = .ok sUnix path 0 := by
  have hne : sUnix ++ slash :: path ≠ [] := by simp [sUnix]
  have h1 : asciiLower (trimSpace sUnix) = sUnix := by decide
  have h2 : hasPrefix sUnix sUnix = true := by decide
  have h3 : (sUnix = ([] : Bytes)) = False := by simp [sUnix]
  unfold parseAdminListenAddr parseNetworkAddress splitNetworkAddress
  simp only [hne, if_false, cutAt_append slash sUnix path (by decide), h1, h2, Bool.true_or, if_true, h3]
  simp [unixPermOK, cutAt_none 124 path hp]

theorem parseAdminListenAddrP_no_braces (env : C18.Env) (addr dflt : Bytes)
    (h1 : addr.contains C18.phOpen = false) (h2 : addr.contains C18.phClose = false) :
    parseAdminListenAddrP env addr dflt = parseAdminListenAddr addr dflt := by
  unfold parseAdminListenAddrP parseAdminListenAddr C18.replaceOrErr
  rw [C18.no_braces_identity addr env _ h1 h2]

end CaddyModel.C13
