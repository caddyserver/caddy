/-
C13 — the Caddyfile glue: the `admin` global option (caddyconfig/httpcaddyfile/options.go,
`parseOptAdmin`), which is where `enforce_origin` and `origins` come from for Caddyfile users.

    admin [<listen> | off] {
        enforce_origin
        origins <origin…>
    }

Input: the arguments after `admin` on its line, and the block as a list of lines of tokens (`none` =
no block).  The dispenser walks the block TOKEN by token (`NextBlock`), only `origins` consumes the
rest of its line (`RemainingArgs`), so `enforce_origin origins a b` on one line is accepted and
`enforce_origin x` is an "unrecognized parameter x" error.  Tokens are plain words (no braces,
quotes, placeholders).

Below the model, from `exists_mem_blockLines` on: where the flag and the origins of a parse come from
(`cfLine_inv` … `parseOptAdmin_cases`), which the `caddyfile_*` theorems read.
-/
import CaddyModel.C13.Model

namespace CaddyModel.C13

def sOff : Bytes := [111, 102, 102]   -- "off"
def sEnforceOrigin : Bytes := [101, 110, 102, 111, 114, 99, 101, 95, 111, 114, 105, 103, 105, 110]   -- "enforce_origin"
def sOrigins : Bytes := [111, 114, 105, 103, 105, 110, 115]   -- "origins"

/-- the fields of `caddy.AdminConfig` the option can set -/
structure CfAdmin where
  disabled : Bool
  listen : Bytes
  enforceOrigin : Bool
  origins : Option (List Bytes)     -- `none` = nil slice (JSON: absent → default origins)
deriving DecidableEq, Repr

/-- one line of the block, token by token; `none` = "unrecognized parameter" -/
def cfLine : List Bytes → CfAdmin → Option CfAdmin
  | [], a => some a
  | t :: rest, a =>
    if t = sEnforceOrigin then cfLine rest { a with enforceOrigin := true }
    else if t = sOrigins then some { a with origins := if rest = [] then none else some rest }
    else none

def cfBlock : List (List Bytes) → CfAdmin → Option CfAdmin
  | [], a => some a
  | l :: ls, a =>
    match cfLine l a with
    | some a' => cfBlock ls a'
    | none => none

def blockLines (block : Option (List (List Bytes))) : List (List Bytes) :=
  match block with
  | some ls => ls
  | none => []

/-- `parseOptAdmin`; `dflt` = `caddy.DefaultAdminListen`; `none` = a parse error -/
def parseOptAdmin (dflt : Bytes) (args : List Bytes) (block : Option (List (List Bytes))) : Option CfAdmin :=
  match args with
  | [] =>
    (cfBlock (blockLines block) ⟨false, [], false, none⟩).map
      (fun a => { a with listen := dflt })
  | [l] =>
    if l = sOff then (if block.isSome then none else some ⟨true, [], false, none⟩)
    else (cfBlock (blockLines block) ⟨false, l, false, none⟩).map
      (fun a => if a.listen = [] then { a with listen := dflt } else a)
  | _ :: _ :: _ => none     -- "off" + anything, or a second argument

theorem exists_mem_blockLines {block : Option (List (List Bytes))} {P : List Bytes → Prop}
    (h : ∃ l ∈ blockLines block, P l) : ∃ ls, block = some ls ∧ ∃ l ∈ ls, P l := by
  cases block with
  | none => obtain ⟨_, hl, _⟩ := h; cases hl
  | some ls => exact ⟨ls, rfl, h⟩

theorem cfLine_inv (l : List Bytes) (a a' : CfAdmin) (h : cfLine l a = some a') :
    (a'.enforceOrigin = true → a.enforceOrigin = true ∨ sEnforceOrigin ∈ l) ∧
    (a.origins ≠ some [] → a'.origins ≠ some []) ∧ a'.disabled = a.disabled ∧ a'.listen = a.listen := by
  fun_induction cfLine l a
  case case1 => cases h; exact ⟨.inl, id, rfl, rfl⟩
  case case2 rest a ih =>
    obtain ⟨h1, h2, h3, h4⟩ := ih h
    exact ⟨fun he => .inr (List.mem_cons.2 ((h1 he).elim (fun _ => .inl rfl) .inr)), h2, h3, h4⟩
  case case3 => cases h; exact ⟨.inl, fun _ => by split <;> simp [*], rfl, rfl⟩
  case case4 => cases h

theorem cfLine_origins (l : List Bytes) (a a' : CfAdmin) (os : List Bytes) (h : cfLine l a = some a')
    (ho : a'.origins = some os) : a.origins = some os ∨ ∀ o ∈ os, o ∈ l := by
  fun_induction cfLine l a
  case case1 => cases h; exact .inl ho
  case case2 rest a ih => exact (ih h).imp id fun h1 o hm => List.mem_cons_of_mem _ (h1 o hm)
  case case3 rest a _ =>
    cases h
    by_cases hr : rest = []
    · simp [hr] at ho
    · simp [hr] at ho
      exact .inr fun o hm => List.mem_cons_of_mem _ (ho ▸ hm)
  case case4 => cases h

theorem cfBlock_inv : ∀ (ls : List (List Bytes)) (a a' : CfAdmin), cfBlock ls a = some a' →
    (a'.enforceOrigin = true → a.enforceOrigin = true ∨ ∃ l ∈ ls, sEnforceOrigin ∈ l) ∧
    (a.origins ≠ some [] → a'.origins ≠ some []) ∧ a'.disabled = a.disabled ∧ a'.listen = a.listen := by
  intro ls a a' h
  fun_induction cfBlock ls a
  case case1 => cases h; exact ⟨.inl, id, rfl, rfl⟩
  case case2 l ls a a1 h1 ih =>
    obtain ⟨i1, i2, i3, i4⟩ := cfLine_inv l a a1 h1
    obtain ⟨j1, j2, j3, j4⟩ := ih h
    refine ⟨fun he => ?_, fun hn => j2 (i2 hn), j3.trans i3, j4.trans i4⟩
    rcases j1 he with h' | ⟨l', hl', hm⟩
    · exact (i1 h').imp id fun hm => ⟨l, List.mem_cons_self, hm⟩
    · exact .inr ⟨l', List.mem_cons_of_mem _ hl', hm⟩
  case case3 => cases h

theorem cfBlock_origins : ∀ (ls : List (List Bytes)) (a a' : CfAdmin) (os : List Bytes), cfBlock ls a = some a' →
    a'.origins = some os → a.origins = some os ∨ ∃ l ∈ ls, ∀ o ∈ os, o ∈ l := by
  intro ls a a' os h ho
  fun_induction cfBlock ls a
  case case1 => cases h; exact .inl ho
  case case2 l ls a a1 h1 ih =>
    rcases ih h with h2 | ⟨l', hl', hm⟩
    · exact (cfLine_origins l a a1 os h1 h2).imp id fun h3 => ⟨l, List.mem_cons_self, h3⟩
    · exact .inr ⟨l', List.mem_cons_of_mem _ hl', hm⟩
  case case3 => cases h

theorem parseOptAdmin_cases (dflt : Bytes) (args : List Bytes) (block : Option (List (List Bytes)))
    (a : CfAdmin) (hp : parseOptAdmin dflt args block = some a) :
    a = ⟨true, [], false, none⟩ ∨
    ∃ a0 a1, a0.enforceOrigin = false ∧ a0.origins = none ∧ cfBlock (blockLines block) a0 = some a1 ∧
      a.enforceOrigin = a1.enforceOrigin ∧ a.origins = a1.origins := by
  revert hp
  fun_cases parseOptAdmin dflt args block <;> intro hp
  case case1 =>
    obtain ⟨a1, hb, rfl⟩ := Option.map_eq_some_iff.1 hp
    exact .inr ⟨_, a1, rfl, rfl, hb, rfl, rfl⟩
  case case3 => cases hp; exact .inl rfl
  case case4 l _ =>
    obtain ⟨a1, hb, rfl⟩ := Option.map_eq_some_iff.1 hp
    exact .inr ⟨_, a1, rfl, rfl, hb, by split <;> rfl, by split <;> rfl⟩
  all_goals cases hp

/-- the same in terms of the block as written -/
theorem parseOptAdmin_written (dflt : Bytes) (args : List Bytes) (block : Option (List (List Bytes)))
    (a : CfAdmin) (hp : parseOptAdmin dflt args block = some a) :
    (a.enforceOrigin = true → ∃ ls, block = some ls ∧ ∃ l ∈ ls, sEnforceOrigin ∈ l) ∧
    a.origins ≠ some [] ∧
    ∀ os, a.origins = some os → ∃ ls, block = some ls ∧ ∃ l ∈ ls, ∀ o ∈ os, o ∈ l := by
  rcases parseOptAdmin_cases dflt args block a hp with rfl | ⟨a0, a1, h0, h0', hb, he, ho⟩
  · exact ⟨nofun, nofun, nofun⟩
  · obtain ⟨i1, i2, -⟩ := cfBlock_inv _ a0 a1 hb
    rw [he, ho]
    exact ⟨fun h => exists_mem_blockLines ((i1 h).resolve_left (h0 ▸ nofun)), i2 (h0' ▸ nofun),
      fun os h => exists_mem_blockLines ((cfBlock_origins _ a0 a1 os hb h).resolve_left (h0' ▸ nofun))⟩

end CaddyModel.C13
