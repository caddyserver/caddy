/-
C13 — the client-side glue: how `caddy stop | reload | …` find the admin endpoint and what they
send to it (cmd/commandfuncs.go).

  DetermineAdminAPIAddress   --address wins; else `admin.listen` of the given config; else the default
  AdminAPIRequest            ParseNetworkAddress(adminAddr) (no placeholders, no default, one port);
                             TCP: URL and Origin header "http://" + JoinHostPort, hence the same Host;
                             unix / fd: Host "127.0.0.1" and NO Origin header

Together with the server side (Listen.lean, Model.lean) this says whether the instance's own CLI is
an authorised client of the endpoint the same config starts.
-/
import CaddyModel.C13.Listen

namespace CaddyModel.C13

/-- `DetermineAdminAPIAddress(address, config, configFile, adapter)` with a config given
    (`cfgListen = none`: no config; `some l`: its `admin.listen`, empty when unset) -/
def determineAdminAddr (addressFlag : Bytes) (cfgListen : Option Bytes) (dflt : Bytes) : Bytes :=
  if addressFlag ≠ [] then addressFlag
  else match cfgListen with
    | some l => if l ≠ [] then l else dflt
    | none => dflt

def sHttpPrefix : Bytes := [104, 116, 116, 112, 58, 47, 47]   -- "http://"

/-- what `AdminAPIRequest` puts on the wire for `adminAddr`: (network, dial address, Host, Origin
    header — empty = none); `none` = "invalid admin address" -/
def cliRequestFor (adminAddr : Bytes) : Option (Bytes × Bytes × Bytes × Bytes) :=
  match parseNetworkAddress adminAddr with
  | .err => none
  | .ok network host port =>
    if hasPrefix network sUnix || hasPrefix network sFd then some (network, host, sV4Loop, [])
    else some (network, netJoinHostPort host (natToDec port), netJoinHostPort host (natToDec port),
               sHttpPrefix ++ netJoinHostPort host (natToDec port))

end CaddyModel.C13
