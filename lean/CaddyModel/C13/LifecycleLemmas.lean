/-
C13 — the admin server lifecycle (Lifecycle.lean).  `load` / `afterHistory` as the case `fail = none` of
`attempt` / `afterAttempts` (`attempt_none`, `foldl_attempt_none`, `afterHistory_snoc_eq`), blocked loads as
no-ops (`load_blocked`, `foldl_filter_blocked`).  The invariants `RemoteInv`, `LocalInv`, `RemoteCur`; what
the two replace functions and one attempt do under them (`replaceLocal_step`, `replaceRemote_step`,
`attempt_step`); the fold (`afterAttempts_inv`) and the end of a history (`afterAttempts_snoc`,
`runningConfig_snoc_accepted`).
-/
import CaddyModel.C13.Lifecycle

namespace CaddyModel.C13

/-- at most one remote server is listening, and it is the one `remoteAdminServer` points to -/
def RemoteInv (s : Life) : Prop :=
  s.liveRemote = [] ∨ ∃ srv, s.remoteVar = some srv ∧ s.liveRemote = [srv]

/-- at most one local server is listening, and it is the one `localAdminServer` points to -/
def LocalInv (s : Life) : Prop :=
  s.liveLocal = [] ∨ ∃ srv, s.localVar = some srv ∧ s.liveLocal = [srv]

theorem stopR_inv (s : Life) (h : RemoteInv s) : stopR s.liveRemote s.remoteVar = [] := by
  rcases h with h | ⟨srv, hv, hl⟩
  · rw [h]; cases s.remoteVar <;> simp [stopR]
  · rw [hv, hl]; simp [stopR]

theorem stopL_inv (s : Life) (h : LocalInv s) : stopL s.liveLocal s.localVar = [] := by
  rcases h with h | ⟨srv, hv, hl⟩
  · rw [h]; cases s.localVar <;> simp [stopL]
  · rw [hv, hl]; simp [stopL]

theorem replaceLocal_remote (s : Life) (c : LoadCfg) :
    (replaceLocal s c).liveRemote = s.liveRemote ∧ (replaceLocal s c).remoteVar = s.remoteVar := by
  unfold replaceLocal; cases c.loc <;> simp

theorem replaceRemote_local (s : Life) (c : LoadCfg) :
    (replaceRemote s c).liveLocal = s.liveLocal ∧ (replaceRemote s c).localVar = s.localVar := by
  unfold replaceRemote; cases c.remote with
  | none => simp
  | some p => cases p; simp

theorem load_blocked (s : Life) (c : LoadCfg) (hb : c.loc = .blocked) : load s c = s := by
  simp [load, hb, replaceLocal]

theorem foldl_filter_blocked (hist : List LoadCfg) (s : Life) :
    hist.foldl load s = (hist.filter (fun c => c.loc != .blocked)).foldl load s := by
  rw [List.foldl_filter]
  congr; funext s c
  by_cases hb : c.loc = .blocked <;> simp [hb, load_blocked]

theorem attempt_none (s : Life) (c : LoadCfg) : attempt s ⟨c, .none⟩ = load s c := by
  unfold attempt load
  by_cases h : c.loc = .blocked <;> simp [h, replaceLocal]

theorem foldl_attempt_none (hist : List LoadCfg) (s : Life) :
    (hist.map (fun c => (⟨c, .none⟩ : Attempt))).foldl attempt s = hist.foldl load s := by
  simp only [List.foldl_map, attempt_none]

theorem afterHistory_snoc_eq (pre : List LoadCfg) (c : LoadCfg) :
    afterHistory (pre ++ [c]) = afterAttempts (pre.map (⟨·, .none⟩) ++ [⟨c, .none⟩]) := by
  rw [afterHistory, ← foldl_attempt_none, List.map_append]; rfl

/-- `replaceLocalAdminServer` past the bind: afterwards exactly the endpoint THIS config asks for
    listens, and the variable points at it -/
theorem replaceLocal_step (s : Life) (c : LoadCfg) (hnb : c.loc ≠ .blocked) (hl : LocalInv s) :
    LocalInv (replaceLocal s c) ∧
    (replaceLocal s c).liveLocal =
      (match c.loc.endpoint with | some (a, t) => [⟨s.next, a, t⟩] | none => []) := by
  have hstopL := stopL_inv s hl
  unfold replaceLocal LocalInv LocalCfg.endpoint
  cases hc : c.loc with
  | disabled => simp [hstopL]
  | absent => simp [hstopL]
  | listen a t => simp [hstopL]
  | blocked => exact absurd hc hnb

theorem replaceRemote_step (s : Life) (c : LoadCfg) (hr : RemoteInv s) :
    RemoteInv (replaceRemote s c) ∧
    (replaceRemote s c).liveRemote =
      (match c.remote with | some (a, acl) => [⟨s.next, a, acl⟩] | none => []) := by
  have hstopR := stopR_inv s hr
  unfold replaceRemote RemoteInv
  cases c.remote with
  | none => simp [hstopR]
  | some p => cases p; simp [hstopR]

/-- the remote server that listens (if any) is the one the RUNNING config configures -/
def RemoteCur (s : Life) (cur : Option LoadCfg) : Prop :=
  ∀ srv, srv ∈ s.liveRemote → ∃ c, cur = some c ∧ c.remote = some (srv.addr, srv.acl)

theorem attempt_blocked (s : Life) (a : Attempt) (hb : a.cfg.loc = .blocked) : attempt s a = s := by
  simp [attempt, hb]

theorem runningStep_not_accepted (cur : Option LoadCfg) (a : Attempt) (h : a.accepted = false) :
    runningStep cur a = cur := by simp [runningStep, h]

theorem runningConfig_snoc_accepted (pre : List Attempt) (a : Attempt) (h : a.accepted = true) :
    runningConfig (pre ++ [a]) = some a.cfg := by
  simp [runningConfig, List.foldl_append, runningStep, h]

/-- one load that gets past the bind of its local listener, ACCEPTED OR REJECTED LATE.  The new remote server's
    id is `(replaceLocal s a.cfg).next`, not `s.next + 1`: a `disabled` local config draws no id. -/
theorem attempt_step (s : Life) (cur : Option LoadCfg) (a : Attempt) (hnb : a.cfg.loc ≠ .blocked)
    (hr : RemoteInv s) (hl : LocalInv s) (hc : RemoteCur s cur) :
    RemoteInv (attempt s a) ∧ LocalInv (attempt s a) ∧ RemoteCur (attempt s a) (runningStep cur a) ∧
    (attempt s a).liveLocal =
      (match a.cfg.loc.endpoint with | some (ad, t) => [⟨s.next, ad, t⟩] | none => []) ∧
    (attempt s a).liveRemote =
      (match a.fail with
       | .none => (match a.cfg.remote with
                   | some (ad, acl) => [⟨(replaceLocal s a.cfg).next, ad, acl⟩] | none => [])
       | .prov => s.liveRemote
       | .key => []) := by
  obtain ⟨hl', hlive⟩ := replaceLocal_step s a.cfg hnb hl
  obtain ⟨hrl, hrv⟩ := replaceLocal_remote s a.cfg
  have hr' : RemoteInv (replaceLocal s a.cfg) := by
    unfold RemoteInv; rw [hrl, hrv]; exact hr
  have hrun : runningStep cur a = if a.fail = .none then some a.cfg else cur := by
    simp [runningStep, Attempt.accepted, hnb]
  unfold attempt
  rw [if_neg hnb, hrun]
  cases a.fail <;> simp only [reduceCtorEq, ↓reduceIte]
  case none =>
    obtain ⟨hr'', hrem⟩ := replaceRemote_step _ a.cfg hr'
    obtain ⟨hll, hlv⟩ := replaceRemote_local (replaceLocal s a.cfg) a.cfg
    refine ⟨hr'', by unfold LocalInv; rw [hll, hlv]; exact hl', fun srv hsrv => ⟨a.cfg, rfl, ?_⟩,
      hll.trans hlive, hrem⟩
    rw [hrem] at hsrv
    cases hrc : a.cfg.remote with
    | none => simp [hrc] at hsrv
    | some p => cases p; simp [hrc] at hsrv; subst hsrv; rfl
  case prov => exact ⟨hr', hl', fun srv hsrv => hc srv (hrl ▸ hsrv), hlive, hrl⟩
  case key =>
    have hnone : (replaceRemoteKeyErr (replaceLocal s a.cfg)).liveRemote = [] := stopR_inv _ hr'
    exact ⟨.inl hnone, hl', (fun srv hsrv => by rw [hnone] at hsrv; cases hsrv), hlive, hnone⟩

theorem foldl_attempt_inv : ∀ (hist : List Attempt) (s : Life) (cur : Option LoadCfg),
    RemoteInv s → LocalInv s → RemoteCur s cur →
    RemoteInv (hist.foldl attempt s) ∧ LocalInv (hist.foldl attempt s) ∧
    RemoteCur (hist.foldl attempt s) (hist.foldl runningStep cur) := by
  intro hist
  induction hist with
  | nil => intro s cur hr hl hc; exact ⟨hr, hl, hc⟩
  | cons a as ih =>
    intro s cur hr hl hc
    by_cases hb : a.cfg.loc = .blocked
    · have hna : a.accepted = false := by simp [Attempt.accepted, hb]
      simp only [List.foldl_cons, attempt_blocked s a hb, runningStep_not_accepted cur a hna]
      exact ih s cur hr hl hc
    · have h := attempt_step s cur a hb hr hl hc
      exact ih (attempt s a) (runningStep cur a) h.1 h.2.1 h.2.2.1

theorem afterAttempts_inv (hist : List Attempt) :
    RemoteInv (afterAttempts hist) ∧ LocalInv (afterAttempts hist) ∧
    RemoteCur (afterAttempts hist) (runningConfig hist) :=
  foldl_attempt_inv hist Life.init none (.inl rfl) (.inl rfl) (fun _ hsrv => nomatch hsrv)

/-- `attempt_step` at the end of a history: the theorems about the last load of a history —
    accepted, or rejected late — are read off this -/
theorem afterAttempts_snoc (pre : List Attempt) (a : Attempt) (hnb : a.cfg.loc ≠ .blocked) :
    (afterAttempts (pre ++ [a])).liveLocal =
      (match a.cfg.loc.endpoint with | some (ad, t) => [⟨(afterAttempts pre).next, ad, t⟩] | none => []) ∧
    (afterAttempts (pre ++ [a])).liveRemote =
      (match a.fail with
       | .none => (match a.cfg.remote with
                   | some (ad, acl) => [⟨(replaceLocal (afterAttempts pre) a.cfg).next, ad, acl⟩] | none => [])
       | .prov => (afterAttempts pre).liveRemote
       | .key => []) := by
  obtain ⟨hr, hl, hc⟩ := afterAttempts_inv pre
  have heq : afterAttempts (pre ++ [a]) = attempt (afterAttempts pre) a := by
    simp [afterAttempts, List.foldl_append]
  rw [heq]
  exact (attempt_step _ _ a hnb hr hl hc).2.2.2

end CaddyModel.C13
