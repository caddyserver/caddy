/-
C18 — what the consumers of the replacer need of `regexp` and `strings`, as far as the
correspondence streams use them.  The regular-expression ENGINE is not modelled; two pattern
families are, exactly (the harness builds the pattern text from the family's operands with
`regexp.QuoteMeta`, so every pattern it runs is in a family):

  `lit l`      the pattern `\Ql\E` (l non-empty): matches are the occurrences of `l`, no groups;
  `anch p s`   the pattern `^\Qp\E(.*)\Qs\E$`: matches the whole text iff it starts with `p`, ends
               with `s` behind that and has no newline in between; group 1 is the middle.

`Regexp.expand` (the `$1` / `${1}` / `$name` / `$$` template language of `ExpandString` and
`ReplaceAllString`) is transliterated for ASCII templates.  All protocol fields of the streams that
use this file are ASCII (both sides answer `bad-op` otherwise), so `unicode.IsLetter/IsDigit` are
the ASCII classes.
-/
import CaddyModel.C18.Rewrite

namespace CaddyModel.C18

def isAscii (s : Bytes) : Bool := s.all (· < 128)

def hasSuffix (suf s : Bytes) : Bool := hasPrefix suf.reverse s.reverse

/-- `strings.Index(s, sub)` for non-empty `sub` -/
def indexOfSub (sub : Bytes) : Bytes → Option Nat
  | [] => none
  | c :: rest =>
    if hasPrefix sub (c :: rest) then some 0 else (indexOfSub sub rest).map (· + 1)

def containsSub (sub s : Bytes) : Bool := sub.isEmpty || (indexOfSub sub s).isSome

inductive Pat where
  | lit (l : Bytes)
  | anch (p s : Bytes)
deriving DecidableEq, Repr

def isRegexMeta (b : UInt8) : Bool :=
  b = 92 || b = 46 || b = 43 || b = 42 || b = 63 || b = 40 || b = 41 || b = 124 ||
  b = 91 || b = 93 || b = 123 || b = 125 || b = 94 || b = 36

/-- `regexp.QuoteMeta`: a backslash in front of each of ``\.+*?()|[]{}^$`` -/
def quoteMeta (s : Bytes) : Bytes := s.flatMap fun b => if isRegexMeta b then [92, b] else [b]

/-- the pattern text the harness compiles -/
def Pat.text : Pat → Bytes
  | .lit l => quoteMeta l
  | .anch p s => [94] ++ quoteMeta p ++ str "(.*)" ++ quoteMeta s ++ [36]

/-- a match: where it is and the text of its groups (group 0 first) -/
structure Match where
  start : Nat
  stop : Nat
  groups : List Bytes
deriving DecidableEq, Repr

/-- `re.FindStringSubmatchIndex(t)` (leftmost match) -/
def Pat.find : Pat → Bytes → Option Match
  | .lit l, t =>
    if l.isEmpty then none
    else match indexOfSub l t with
      | some k => some ⟨k, k + l.length, [l]⟩
      | none => none
  | .anch p s, t =>
    if hasPrefix p t && hasSuffix s (t.drop p.length) &&
        !((t.drop p.length).take (t.length - p.length - s.length)).contains 10 then
      some ⟨0, t.length, [t, (t.drop p.length).take (t.length - p.length - s.length)]⟩
    else none

/-! ### `Regexp.expand` -/

def isNameByte (b : UInt8) : Bool := isAlnum b || b = 95

/-- the text of group `name` (only the names `0`, `1`, … of existing groups denote anything: the
    families have no named groups, and a numeric name with a leading zero is not a number) -/
def groupText (groups : List Bytes) (name : Bytes) : Bytes :=
  if name = [48] then (match groups[0]? with | some g => g | none => [])
  else if name = [49] then (match groups[1]? with | some g => g | none => [])
  else []

/-- `extract`: the name behind a `$` and the rest of the template; `none` = malformed -/
def extractName (t : Bytes) : Option (Bytes × Bytes) :=
  match t with
  | [] => none
  | c :: rest =>
    if c = 123 then
      (if (rest.takeWhile isNameByte).isEmpty then none
       else match rest.dropWhile isNameByte with
         | d :: after => if d = 125 then some (rest.takeWhile isNameByte, after) else none
         | [] => none)
    else
      (if ((c :: rest).takeWhile isNameByte).isEmpty then none
       else some ((c :: rest).takeWhile isNameByte, (c :: rest).dropWhile isNameByte))

/-- `re.expand(nil, template, src, match)` -/
def expandTmpl (groups : List Bytes) : Nat → Bytes → Bytes
  | 0, t => t
  | _ + 1, [] => []
  | fuel + 1, c :: rest =>
    if c = 36 then
      match rest with
      | d :: rest' =>
        if d = 36 then 36 :: expandTmpl groups fuel rest'
        else match extractName (d :: rest') with
          | none => 36 :: expandTmpl groups fuel (d :: rest')
          | some (name, after) => groupText groups name ++ expandTmpl groups fuel after
      | [] => [36]
    else c :: expandTmpl groups fuel rest

def expand (groups : List Bytes) (t : Bytes) : Bytes := expandTmpl groups (t.length + 1) t

/-- `re.ReplaceAllString(t, repl)` -/
def Pat.replaceAll : Pat → Bytes → Bytes → Bytes
  | .lit l, t, repl => if l.isEmpty then t else replaceSub l (expand [l] repl) (t.length + 1) t
  | .anch p s, t, repl =>
    match (Pat.anch p s).find t with
    | some m => expand m.groups repl
    | none => t

/-- `strings.Replace(s, old, new, n)` for non-empty `old`; `n < 0` (no limit) is `none` -/
def replaceN (old new : Bytes) : Nat → Option Nat → Bytes → Bytes
  | 0, _, s => s
  | _ + 1, _, [] => []
  | fuel + 1, lim, c :: rest =>
    if lim = some 0 then c :: rest
    else if hasPrefix old (c :: rest) then
      new ++ replaceN old new fuel (lim.map (· - 1)) ((c :: rest).drop old.length)
    else c :: replaceN old new fuel lim rest

/-- `strings.Replace(s, "", new, n)`: `new` goes in front of every byte and behind the last one
    (the first `n` of these places) -/
def replaceEmpty (new : Bytes) : Option Nat → Bytes → Bytes
  | lim, [] => if lim = some 0 then [] else new
  | lim, c :: rest =>
    if lim = some 0 then c :: rest else new ++ c :: replaceEmpty new (lim.map (· - 1)) rest

/-- `strings.Replace(s, old, new, n)` (`n < 0` is `none`) -/
def strReplace (old new : Bytes) (lim : Option Nat) (s : Bytes) : Bytes :=
  if old.isEmpty then replaceEmpty new lim s else replaceN old new (s.length + 1) lim s

end CaddyModel.C18
