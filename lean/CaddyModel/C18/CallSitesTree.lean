/-
C18 — glue audit, tree-wide: every place where configuration text meets the replacer, in ALL packages
(`Gen.replacerTreeCallSites`, regenerated: every call of a method named ReplaceAll / ReplaceKnown / ReplaceOrErr /
ReplaceFunc outside test files, `strings.` / `bytes.` excluded), with the STAGE at which the call runs:
  load       while a config is loaded (Provision and its helpers, the config loader, the Caddyfile import)
  request    per HTTP request          handshake  per TLS handshake / TLS client config
  timer      active health checks      admin      per admin API request      fuzz  the fuzz target
`replacer_tree_call_sites_match_source` makes the first four columns exact (the stage is annotation, no statement
reads it): a new expansion site anywhere in the tree, or an existing one moving to another operand / method /
function, breaks a C18 proof and asks for a review of the composition (does a value that was substituted at one
stage reach a scan at another?).
The phase-1 row is typed and call-following (tools/extract/c18phase1.go): a Replace* call in a helper of autohttps.go
that (*App).automaticHTTPSPhase1 reaches is listed under that entry point, and an argument that is by data flow the
value variable of a `range` over a MatchHost is written `elem MatchHost` — moving the loop into a helper or renaming
its variables leaves the table unchanged.
`fieldsExpandedAtTwoStages` lists the configured fields that are expanded at two stages; each expansion
starts from the CONFIGURED text (no stage stores its result into the field the other reads) — proved and sampled
for the host matcher (`HostGlue`, httphost) and for the request-time side of the reverse proxy's dial address
(`Dial`, httpdial), read off the source for the others (props.d glue table).
-/
import CaddyModel.Gen.ReplacerTree

namespace CaddyModel.C18

/-- (file, function, method, first argument, stage) -/
def replacerTreeTable : List (String × String × String × String × String) := [
  ("admin.go", "parseAdminListenAddr", "ReplaceOrErr", "addr", "load"),
  ("caddyconfig/caddyfile/parse.go", "doImport", "ReplaceKnown", "token.Text", "load"),
  ("caddyconfig/httploader.go", "LoadConfig", "ReplaceAll", "hl.Method", "load"),
  ("caddyconfig/httploader.go", "LoadConfig", "ReplaceAll", "hl.URL", "load"),
  ("caddyconfig/httploader.go", "LoadConfig", "ReplaceAll", "key", "load"),
  ("caddyconfig/httploader.go", "LoadConfig", "ReplaceKnown", "val", "load"),
  ("logging.go", "parseLevel", "ReplaceOrErr", "levelInput", "load"),
  ("modules/caddyhttp/app.go", "Provision", "ReplaceOrErr", "srv.Listen[i]", "load"),
  ("modules/caddyhttp/autohttps.go", "automaticHTTPSPhase1", "ReplaceOrErr", "elem MatchHost", "load"),
  ("modules/caddyhttp/caddyauth/basicauth.go", "Provision", "ReplaceAll", "acct.Password", "load"),
  ("modules/caddyhttp/caddyauth/basicauth.go", "Provision", "ReplaceAll", "acct.Username", "load"),
  ("modules/caddyhttp/fileserver/browse.go", "serveBrowse", "ReplaceAll", "fsrv.Root", "request"),
  ("modules/caddyhttp/fileserver/matcher.go", "selectFile", "ReplaceAll", "m.FileSystem", "request"),
  ("modules/caddyhttp/fileserver/matcher.go", "selectFile", "ReplaceAll", "m.Root", "request"),
  ("modules/caddyhttp/fileserver/matcher.go", "selectFile", "ReplaceFunc", "file", "request"),
  ("modules/caddyhttp/fileserver/staticfiles.go", "ServeHTTP", "ReplaceAll", "codeStr", "request"),
  ("modules/caddyhttp/fileserver/staticfiles.go", "ServeHTTP", "ReplaceAll", "fsrv.FileSystem", "request"),
  ("modules/caddyhttp/fileserver/staticfiles.go", "ServeHTTP", "ReplaceAll", "fsrv.Root", "request"),
  ("modules/caddyhttp/fileserver/staticfiles.go", "ServeHTTP", "ReplaceAll", "indexPage", "request"),
  ("modules/caddyhttp/fileserver/staticfiles.go", "transformHidePaths", "ReplaceAll", "fsrv.Hide[i]", "request"),
  ("modules/caddyhttp/headers/headers.go", "ApplyTo", "ReplaceKnown", "fieldName", "request"),
  ("modules/caddyhttp/headers/headers.go", "ApplyTo", "ReplaceKnown", "fieldName", "request"),
  ("modules/caddyhttp/headers/headers.go", "ApplyTo", "ReplaceKnown", "fieldName", "request"),
  ("modules/caddyhttp/headers/headers.go", "ApplyTo", "ReplaceKnown", "fieldName", "request"),
  ("modules/caddyhttp/headers/headers.go", "ApplyTo", "ReplaceKnown", "fieldName", "request"),
  ("modules/caddyhttp/headers/headers.go", "ApplyTo", "ReplaceKnown", "r.Replace", "request"),
  ("modules/caddyhttp/headers/headers.go", "ApplyTo", "ReplaceKnown", "r.Replace", "request"),
  ("modules/caddyhttp/headers/headers.go", "ApplyTo", "ReplaceKnown", "r.Search", "request"),
  ("modules/caddyhttp/headers/headers.go", "ApplyTo", "ReplaceKnown", "r.Search", "request"),
  ("modules/caddyhttp/headers/headers.go", "ApplyTo", "ReplaceKnown", "v", "request"),
  ("modules/caddyhttp/headers/headers.go", "ApplyTo", "ReplaceKnown", "vals[i]", "request"),
  ("modules/caddyhttp/intercept/intercept.go", "ServeHTTP", "ReplaceAll", "statusCodeStr", "request"),
  ("modules/caddyhttp/ip_matchers.go", "provisionCidrsZonesFromRanges", "ReplaceAll", "str", "load"),
  ("modules/caddyhttp/map/map.go", "ServeHTTP", "ReplaceAll", "h.Defaults[destIdx]", "request"),
  ("modules/caddyhttp/map/map.go", "ServeHTTP", "ReplaceAll", "h.Source", "request"),
  ("modules/caddyhttp/map/map.go", "ServeHTTP", "ReplaceAll", "outputStr", "request"),
  ("modules/caddyhttp/matchers.go", "MatchWithError", "ReplaceAll", "host", "request"),
  ("modules/caddyhttp/matchers.go", "MatchWithError", "ReplaceAll", "matchPattern", "request"),
  ("modules/caddyhttp/matchers.go", "MatchWithError", "ReplaceAll", "param", "request"),
  ("modules/caddyhttp/matchers.go", "MatchWithError", "ReplaceAll", "v", "request"),
  ("modules/caddyhttp/matchers.go", "matchHeaders", "ReplaceAll", "allowedFieldVal", "request"),
  ("modules/caddyhttp/push/handler.go", "ServeHTTP", "ReplaceAll", "resource.Target", "request"),
  ("modules/caddyhttp/requestbody/requestbody.go", "ServeHTTP", "ReplaceAll", "rb.Set", "request"),
  ("modules/caddyhttp/reverseproxy/copyresponse.go", "ServeHTTP", "ReplaceAll", "codeStr", "request"),
  ("modules/caddyhttp/reverseproxy/fastcgi/fastcgi.go", "buildEnv", "ReplaceAll", "t.Root", "request"),
  ("modules/caddyhttp/reverseproxy/fastcgi/fastcgi.go", "buildEnv", "ReplaceAll", "value", "request"),
  ("modules/caddyhttp/reverseproxy/healthchecks.go", "doActiveHealthCheck", "ReplaceAll", "h.HealthChecks.Active.Body", "timer"),
  ("modules/caddyhttp/reverseproxy/healthchecks.go", "doActiveHealthCheck", "ReplaceAll", "h.HealthChecks.Active.Headers.Get(key)", "timer"),
  ("modules/caddyhttp/reverseproxy/healthchecks.go", "doActiveHealthCheck", "ReplaceAll", "key", "timer"),
  ("modules/caddyhttp/reverseproxy/healthchecks.go", "doActiveHealthCheck", "ReplaceKnown", "val", "timer"),
  ("modules/caddyhttp/reverseproxy/healthchecks.go", "doActiveHealthCheckForAllHosts", "ReplaceOrErr", "upstream.Dial", "timer"),
  ("modules/caddyhttp/reverseproxy/hosts.go", "fillDialInfo", "ReplaceAll", "u.Dial", "request"),
  ("modules/caddyhttp/reverseproxy/httptransport.go", "replaceTLSServername", "ReplaceAll", "newtransport.Transport.TLSClientConfig.ServerName", "request"),
  ("modules/caddyhttp/reverseproxy/reverseproxy.go", "reverseProxy", "ReplaceAll", "statusCodeStr", "request"),
  ("modules/caddyhttp/reverseproxy/upstreams.go", "GetUpstreams", "ReplaceAll", "au.Name", "request"),
  ("modules/caddyhttp/reverseproxy/upstreams.go", "GetUpstreams", "ReplaceAll", "au.Port", "request"),
  ("modules/caddyhttp/reverseproxy/upstreams.go", "GetUpstreams", "ReplaceAll", "au.String()+ipVersion", "request"),
  ("modules/caddyhttp/reverseproxy/upstreams.go", "expandedAddr", "ReplaceAll", "su.Name", "request"),
  ("modules/caddyhttp/reverseproxy/upstreams.go", "expandedAddr", "ReplaceAll", "su.Proto", "request"),
  ("modules/caddyhttp/reverseproxy/upstreams.go", "expandedAddr", "ReplaceAll", "su.Service", "request"),
  ("modules/caddyhttp/rewrite/rewrite.go", "Rewrite", "ReplaceAll", "frag", "request"),
  ("modules/caddyhttp/rewrite/rewrite.go", "Rewrite", "ReplaceAll", "path", "request"),
  ("modules/caddyhttp/rewrite/rewrite.go", "Rewrite", "ReplaceAll", "rewr.Method", "request"),
  ("modules/caddyhttp/rewrite/rewrite.go", "Rewrite", "ReplaceAll", "rewr.StripPathPrefix", "request"),
  ("modules/caddyhttp/rewrite/rewrite.go", "Rewrite", "ReplaceAll", "rewr.StripPathSuffix", "request"),
  ("modules/caddyhttp/rewrite/rewrite.go", "buildQueryString", "ReplaceFunc", "comp", "request"),
  ("modules/caddyhttp/rewrite/rewrite.go", "do", "ReplaceAll", "addParam.Key", "request"),
  ("modules/caddyhttp/rewrite/rewrite.go", "do", "ReplaceAll", "addParam.Val", "request"),
  ("modules/caddyhttp/rewrite/rewrite.go", "do", "ReplaceAll", "deleteParam", "request"),
  ("modules/caddyhttp/rewrite/rewrite.go", "do", "ReplaceAll", "renameParam.Key", "request"),
  ("modules/caddyhttp/rewrite/rewrite.go", "do", "ReplaceAll", "renameParam.Val", "request"),
  ("modules/caddyhttp/rewrite/rewrite.go", "do", "ReplaceAll", "rep.Find", "request"),
  ("modules/caddyhttp/rewrite/rewrite.go", "do", "ReplaceAll", "rep.Replace", "request"),
  ("modules/caddyhttp/rewrite/rewrite.go", "do", "ReplaceAll", "rep.Replace", "request"),
  ("modules/caddyhttp/rewrite/rewrite.go", "do", "ReplaceAll", "replaceParam.Key", "request"),
  ("modules/caddyhttp/rewrite/rewrite.go", "do", "ReplaceAll", "setParam.Key", "request"),
  ("modules/caddyhttp/rewrite/rewrite.go", "do", "ReplaceAll", "setParam.Val", "request"),
  ("modules/caddyhttp/rewrite/rewrite.go", "do", "ReplaceKnown", "replaceParam.Replace", "request"),
  ("modules/caddyhttp/rewrite/rewrite.go", "do", "ReplaceKnown", "replaceParam.Search", "request"),
  ("modules/caddyhttp/staticerror.go", "ServeHTTP", "ReplaceAll", "codeStr", "request"),
  ("modules/caddyhttp/staticerror.go", "ServeHTTP", "ReplaceKnown", "e.Error", "request"),
  ("modules/caddyhttp/staticresp.go", "ServeHTTP", "ReplaceAll", "codeStr", "request"),
  ("modules/caddyhttp/staticresp.go", "ServeHTTP", "ReplaceAll", "field", "request"),
  ("modules/caddyhttp/staticresp.go", "ServeHTTP", "ReplaceAll", "vals[i]", "request"),
  ("modules/caddyhttp/staticresp.go", "ServeHTTP", "ReplaceKnown", "s.Body", "request"),
  ("modules/caddyhttp/templates/templates.go", "executeTemplate", "ReplaceAll", "t.FileRoot", "request"),
  ("modules/caddyhttp/tracing/tracer.go", "spanNameFormatter", "ReplaceAll", "operation", "request"),
  ("modules/caddyhttp/vars.go", "MatchWithError", "ReplaceAll", "v", "request"),
  ("modules/caddyhttp/vars.go", "ServeHTTP", "ReplaceAll", "k", "request"),
  ("modules/caddyhttp/vars.go", "ServeHTTP", "ReplaceAll", "valStr", "request"),
  ("modules/caddypki/adminapi.go", "handleCAInfo", "ReplaceAll", "ca.IntermediateCommonName", "admin"),
  ("modules/caddypki/adminapi.go", "handleCAInfo", "ReplaceAll", "ca.RootCommonName", "admin"),
  ("modules/caddypki/ca.go", "genIntermediate", "ReplaceAll", "ca.IntermediateCommonName", "load"),
  ("modules/caddypki/ca.go", "genRoot", "ReplaceAll", "ca.RootCommonName", "load"),
  ("modules/caddytls/acmeissuer.go", "Provision", "ReplaceOrErr", "iss.AccountKey", "load"),
  ("modules/caddytls/acmeissuer.go", "Provision", "ReplaceOrErr", "iss.Email", "load"),
  ("modules/caddytls/automation.go", "Provision", "ReplaceAll", "sub", "load"),
  ("modules/caddytls/automation.go", "Provision", "ReplaceOrErr", "ap.KeyType", "load"),
  ("modules/caddytls/capools.go", "makeTLSClientConfig", "ReplaceKnown", "cfg.ServerName", "handshake"),
  ("modules/caddytls/connpolicy.go", "TLSConfig", "ReplaceAll", "name", "load"),
  ("modules/caddytls/connpolicy.go", "buildStandardTLSConfig", "ReplaceOrErr", "p.InsecureSecretsLog", "load"),
  ("modules/caddytls/fileloader.go", "Provision", "ReplaceKnown", "pair.Certificate", "load"),
  ("modules/caddytls/fileloader.go", "Provision", "ReplaceKnown", "pair.Format", "load"),
  ("modules/caddytls/fileloader.go", "Provision", "ReplaceKnown", "pair.Key", "load"),
  ("modules/caddytls/fileloader.go", "Provision", "ReplaceKnown", "tag", "load"),
  ("modules/caddytls/folderloader.go", "Provision", "ReplaceKnown", "path", "load"),
  ("modules/caddytls/leaffileloader.go", "Provision", "ReplaceKnown", "path", "load"),
  ("modules/caddytls/leaffolderloader.go", "Provision", "ReplaceKnown", "path", "load"),
  ("modules/caddytls/leafpemloader.go", "Provision", "ReplaceKnown", "cert", "load"),
  ("modules/caddytls/leafstorageloader.go", "Provision", "ReplaceKnown", "path", "load"),
  ("modules/caddytls/matchers.go", "Match", "ReplaceAll", "name", "handshake"),
  ("modules/caddytls/matchers.go", "Provision", "ReplaceAll", "mre.Pattern", "load"),
  ("modules/caddytls/matchers.go", "Provision", "ReplaceAll", "str", "load"),
  ("modules/caddytls/matchers.go", "Provision", "ReplaceAll", "str", "load"),
  ("modules/caddytls/matchers.go", "Provision", "ReplaceAll", "str", "load"),
  ("modules/caddytls/ondemand.go", "CertificateAllowed", "ReplaceOrErr", "p.Endpoint", "handshake"),
  ("modules/caddytls/pemloader.go", "Provision", "ReplaceKnown", "pair.CertificatePEM", "load"),
  ("modules/caddytls/pemloader.go", "Provision", "ReplaceKnown", "pair.KeyPEM", "load"),
  ("modules/caddytls/pemloader.go", "Provision", "ReplaceKnown", "tag", "load"),
  ("modules/caddytls/storageloader.go", "Provision", "ReplaceKnown", "pair.Certificate", "load"),
  ("modules/caddytls/storageloader.go", "Provision", "ReplaceKnown", "pair.Format", "load"),
  ("modules/caddytls/storageloader.go", "Provision", "ReplaceKnown", "pair.Key", "load"),
  ("modules/caddytls/storageloader.go", "Provision", "ReplaceKnown", "tag", "load"),
  ("modules/caddytls/tls.go", "Provision", "ReplaceAll", "sub", "load"),
  ("modules/caddytls/tls.go", "Provision", "ReplaceOrErr", "t.Automation.OnDemand.Ask", "load"),
  ("modules/caddytls/zerosslissuer.go", "Provision", "ReplaceAll", "iss.APIKey", "load"),
  ("modules/internal/network/networkproxy.go", "ProxyFunc", "ReplaceAll", "p.URL", "request"),
  ("modules/logging/filewriter.go", "Provision", "ReplaceOrErr", "fw.Filename", "load"),
  ("modules/logging/netwriter.go", "Provision", "ReplaceOrErr", "nw.Address", "load"),
  ("replacer_fuzz.go", "FuzzReplacer", "ReplaceAll", "NewReplacer().ReplaceAll(string(data),\"\")", "fuzz"),
  ("replacer_fuzz.go", "FuzzReplacer", "ReplaceAll", "NewReplacer().ReplaceAll(string(data),\"\")", "fuzz"),
  ("replacer_fuzz.go", "FuzzReplacer", "ReplaceAll", "string(?)", "fuzz"),
  ("replacer_fuzz.go", "FuzzReplacer", "ReplaceAll", "string(data)", "fuzz"),
  ("replacer_fuzz.go", "FuzzReplacer", "ReplaceAll", "string(data)", "fuzz"),
  ("replacer_fuzz.go", "FuzzReplacer", "ReplaceAll", "string(data)", "fuzz"),
  ("replacer_fuzz.go", "FuzzReplacer", "ReplaceAll", "string(data)", "fuzz")
]

theorem replacer_tree_call_sites_match_source :
    Gen.replacerTreeCallSites = replacerTreeTable.map (fun r => (r.1, r.2.1, r.2.2.1, r.2.2.2.1)) := by
  rfl

/-- **who turns an upstream's `Dial` into an address, and where computed `Dial`s come from** (modules/caddyhttp/
    reverseproxy). `fillDialInfo` — the one function in which a dial string meets the replacer — is called once per
    proxy iteration and once by the active health checker; no `Upstream` literal takes its `Dial` from the result
    of a `fillDialInfo` (`dialInfo.String()`): those that compute one take it from Caddyfile / CLI address parsing,
    from DNS answers (dynamic upstreams) or from the configured health-check upstream.  A second `fillDialInfo`
    on the request path, or an upstream built from an expanded address (seeded/C18-placeholder-upstream-resolved-
    then-expanded-again does both), breaks this without any sampled case — the replacer call itself does not
    change, so `replacer_tree_call_sites_match_source` alone would not notice. -/
theorem dial_expansion_sites_match_source :
    Gen.fillDialInfoCallers = [("healthchecks.go", "doActiveHealthCheckForAllHosts"), ("reverseproxy.go", "proxyLoopIteration")] ∧
    Gen.upstreamDialLiterals.map (fun r => (r.1, r.2.1)) =
      [("caddyfile.go", "UnmarshalCaddyfile"), ("caddyfile.go", "UnmarshalCaddyfile"), ("caddyfile.go", "UnmarshalCaddyfile"),
       ("command.go", "cmdReverseProxy"), ("command.go", "cmdReverseProxy"), ("healthchecks.go", "doActiveHealthCheckForAllHosts"),
       ("upstreams.go", "GetUpstreams"), ("upstreams.go", "GetUpstreams"), ("upstreams.go", "allNew")] ∧
    Gen.upstreamDialLiterals.all (fun r => !(r.2.2 == "dialInfo.String()")) = true :=
  ⟨rfl, rfl, by decide +kernel⟩

/-! ### the FastCGI transport's CGI table (`Fcgi.lean`) -/

/-- every write into `env` of fastcgi.go:buildEnv in source order: (key text, value text, operand of the enclosing `range`) -/
def fcgiWriteTable : List (String × String × String) := [
  ("AUTH_TYPE", "\"\"", "-"),
  ("CONTENT_LENGTH", "r.Header.Get(\"Content-Length\")", "-"),
  ("CONTENT_TYPE", "r.Header.Get(\"Content-Type\")", "-"),
  ("GATEWAY_INTERFACE", "\"CGI/1.1\"", "-"),
  ("PATH_INFO", "pathInfo", "-"),
  ("QUERY_STRING", "r.URL.RawQuery", "-"),
  ("REMOTE_ADDR", "ip", "-"),
  ("REMOTE_HOST", "ip", "-"),
  ("REMOTE_PORT", "port", "-"),
  ("REMOTE_IDENT", "\"\"", "-"),
  ("REMOTE_USER", "authUser", "-"),
  ("REQUEST_METHOD", "r.Method", "-"),
  ("REQUEST_SCHEME", "requestScheme", "-"),
  ("SERVER_NAME", "reqHost", "-"),
  ("SERVER_PROTOCOL", "r.Proto", "-"),
  ("SERVER_SOFTWARE", "t.serverSoftware", "-"),
  ("DOCUMENT_ROOT", "root", "-"),
  ("DOCUMENT_URI", "docURI", "-"),
  ("HTTP_HOST", "r.Host", "-"),
  ("REQUEST_URI", "origReq.URL.RequestURI()", "-"),
  ("SCRIPT_FILENAME", "scriptFilename", "-"),
  ("SCRIPT_NAME", "scriptName", "-"),
  ("\"PATH_TRANSLATED\"", "caddyhttp.SanitizedPathJoin(root,pathInfo)", "-"),
  ("\"SERVER_PORT\"", "reqPort", "-"),
  ("\"SERVER_PORT\"", "\"80\"", "-"),
  ("\"SERVER_PORT\"", "\"443\"", "-"),
  ("\"HTTPS\"", "\"on\"", "-"),
  ("\"SSL_PROTOCOL\"", "v", "-"),
  ("\"SSL_CIPHER\"", "cs.Name", "caddytls.SupportedCipherSuites()"),
  ("key", "repl.ReplaceAll(value,\"\")", "t.EnvVars"),
  ("\"HTTP_\"+header", "strings.Join(val,\", \")", "r.Header")
]

/-- **regenerated tie: how `buildEnv` fills the CGI table.** The writes are exactly the listed ones, in this
    order — the literal and the conditional rows, then the loop over the configured `t.EnvVars`, then the loop over
    `r.Header` — and the function calls the replacer exactly twice: on `t.Root`, and on the loop variable of
    the loop that ranges over `t.EnvVars`. The seeded change seeded/C18-fastcgi-env-expanded-after-request-values keeps
    two calls with the same argument TEXT (`value`) in the same function, so `replacer_tree_call_sites_match_source`
    does not see it; the collection the expanding loop ranges over (`env` instead of `t.EnvVars`) and the value
    text of the configured row do change, and break this theorem without any sampled case. -/
theorem fastcgi_env_writes_match_source :
    Gen.fastcgiEnvWrites = fcgiWriteTable ∧
    Gen.fastcgiEnvReplaceCalls = [("ReplaceAll", "t.Root", "-"), ("ReplaceAll", "value", "t.EnvVars")] :=
  ⟨rfl, rfl⟩

/-- **the only row of the table that goes through the replacer is the configured one, and it is written before
    the header rows and after the literal.** In the table as the source builds it (`fcgiWriteTable`, every value
    text listed): exactly one write has the value `repl.ReplaceAll(value,"")` and it is the one write inside the
    loop over `t.EnvVars`; every write inside the loop over `r.Header` comes after it, and the rows the model copies from the request (`Fcgi.fcgiFixedRows`,
    `fcgiHeaderRows`) have the value texts the model reads them as. -/
theorem fastcgi_only_configured_rows_are_expanded :
    (fcgiWriteTable.filter (fun w => w.2.2 == "t.EnvVars" || w.2.1 == "repl.ReplaceAll(value,\"\")")) =
      [("key", "repl.ReplaceAll(value,\"\")", "t.EnvVars")] ∧
    (fcgiWriteTable.dropWhile (fun w => w.2.2 != "t.EnvVars")).map (·.2.2) = ["t.EnvVars", "r.Header"] ∧
    [("CONTENT_TYPE", "r.Header.Get(\"Content-Type\")"), ("PATH_INFO", "pathInfo"), ("QUERY_STRING", "r.URL.RawQuery"),
     ("REMOTE_USER", "authUser"), ("DOCUMENT_ROOT", "root"), ("DOCUMENT_URI", "docURI"),
     ("REQUEST_URI", "origReq.URL.RequestURI()"), ("SCRIPT_FILENAME", "scriptFilename"), ("SCRIPT_NAME", "scriptName"),
     ("\"PATH_TRANSLATED\"", "caddyhttp.SanitizedPathJoin(root,pathInfo)"),
     ("\"HTTP_\"+header", "strings.Join(val,\", \")")].all
      (fun p => fcgiWriteTable.any (fun w => w.1 == p.1 && w.2.1 == p.2)) = true := by
  decide +kernel

/-- configured fields with an expansion at two different stages: (field, first site, second site) -/
def fieldsExpandedAtTwoStages : List (String × String × String) := [
  ("http host matcher pattern", "modules/caddyhttp/autohttps.go:automaticHTTPSPhase1 (load, into a loop variable)",
    "modules/caddyhttp/matchers.go:MatchWithError host (request)"),
  ("tls sni matcher name", "modules/caddytls/connpolicy.go:TLSConfig name (load, into the ECH name list)",
    "modules/caddytls/matchers.go:Match name (handshake)"),
  ("reverse_proxy upstream dial address", "modules/caddyhttp/reverseproxy/healthchecks.go:doActiveHealthCheckForAllHosts upstream.Dial (timer)",
    "modules/caddyhttp/reverseproxy/hosts.go:fillDialInfo u.Dial (request)"),
  ("pki CA common names", "modules/caddypki/ca.go:genRoot / genIntermediate (load)",
    "modules/caddypki/adminapi.go:handleCAInfo (admin)"),
  ("file_server root", "modules/caddyhttp/fileserver/staticfiles.go:ServeHTTP fsrv.Root (request)",
    "modules/caddyhttp/fileserver/browse.go:serveBrowse fsrv.Root (request, same request)")]

/-- every listed pair is in the table: both sites exist in the source -/
theorem fields_expanded_at_two_stages_are_in_the_table :
    [("modules/caddyhttp/autohttps.go", "elem MatchHost"), ("modules/caddyhttp/matchers.go", "host"),
     ("modules/caddytls/connpolicy.go", "name"), ("modules/caddytls/matchers.go", "name"),
     ("modules/caddyhttp/reverseproxy/healthchecks.go", "upstream.Dial"), ("modules/caddyhttp/reverseproxy/hosts.go", "u.Dial"),
     ("modules/caddypki/ca.go", "ca.RootCommonName"), ("modules/caddypki/adminapi.go", "ca.RootCommonName"),
     ("modules/caddyhttp/fileserver/staticfiles.go", "fsrv.Root"), ("modules/caddyhttp/fileserver/browse.go", "fsrv.Root")].all
      (fun p => replacerTreeTable.any (fun r => r.1 == p.1 && r.2.2.2.1 == p.2)) = true := by
  decide +kernel

end CaddyModel.C18
