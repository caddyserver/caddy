/-
C18 — text outside placeholders is kept up to escaping backslashes (`Cut.source`): the concatenated `source` of the
segments (a literal is its own source, a substituted placeholder `key` has source `{key}`) is `EscDel` of the input.
-/
import CaddyModel.C18.Lemmas

namespace CaddyModel.C18

/-- `EscDel a b`: `b` is `a` with some escaping backslashes (a backslash directly followed by a
    brace) deleted, and nothing else changed -/
inductive EscDel : Bytes → Bytes → Prop
  | nil : EscDel [] []
  | keep (b : UInt8) {a a' : Bytes} : EscDel a a' → EscDel (b :: a) (b :: a')
  | drop (b : UInt8) {a a' : Bytes} : isBrace b = true → EscDel (b :: a) a' → EscDel (phEscape :: b :: a) a'

theorem EscDel.refl : ∀ (a : Bytes), EscDel a a
  | [] => .nil
  | b :: a => .keep b (EscDel.refl a)

theorem EscDel.prepend (p : Bytes) {a a' : Bytes} (h : EscDel a a') : EscDel (p ++ a) (p ++ a') := by
  induction p with
  | nil => exact h
  | cons b p ih => exact .keep b ih

def srcOf : Seg → Bytes
  | .lit s => s
  | .ph key => phOpen :: key ++ [phClose]
  | .halt _ => []

def source (segs : List Seg) : Bytes := (segs.map srcOf).flatten

theorem drop_eq_slice_append {inp : Bytes} {lo hi : Nat} {s : Bytes} (h : slice inp lo hi = some s) :
    inp.drop lo = s ++ inp.drop hi := by
  unfold slice at h
  split at h
  · rename_i hc
    cases h
    rw [show inp.drop hi = (inp.drop lo).drop (hi - lo) by rw [List.drop_drop]; congr 1; omega,
      List.take_append_drop]
  · cases h

theorem drop_cons_of_get {inp : Bytes} {i : Nat} {b : UInt8} (h : inp[i]? = some b) :
    inp.drop i = b :: inp.drop (i + 1) := by
  obtain ⟨hi, rfl⟩ := List.getElem?_eq_some_iff.mp h
  exact List.drop_eq_getElem_cons hi

theorem Cut.source {inp : Bytes} {known : Bytes → Bool} {ue eu : Bool} {lwc : Nat} {segs : List Seg}
    (h : Cut inp known ue eu lwc segs) (hn : ∀ r, Seg.halt r ∉ segs) : EscDel (inp.drop lwc) (source segs) := by
  induction h with
  | rest hs => rw [drop_eq_slice_append hs, List.drop_length]; exact .refl _
  | halt r => simp at hn
  | lit hs _ ih => rw [drop_eq_slice_append hs]; exact .prepend _ (ih fun r hr => hn r (List.mem_cons_of_mem _ hr))
  -- escaped brace: the literal ends in front of the backslash, which is dropped
  | esc hesc hs _ ih =>
    obtain ⟨hpos, hprev, b, hb, hbb⟩ := escAt_iff.mp hesc
    have ih' := ih fun r hr => hn r (List.mem_cons_of_mem _ hr)
    rw [drop_cons_of_get hb] at ih'
    rw [drop_eq_slice_append hs, drop_cons_of_get hprev, Nat.sub_add_cancel hpos, drop_cons_of_get hb]
    exact .prepend _ (.drop b hbb ih')
  | @ph _ _ key _ ho hc hs _ _ ih =>
    have ih' := ih fun r hr => hn r (List.mem_cons_of_mem _ hr)
    rw [drop_cons_of_get ho, drop_eq_slice_append hs, drop_cons_of_get hc]
    refine .keep _ ?_
    show EscDel _ (key ++ [phClose] ++ _)
    rw [List.append_assoc]
    exact .prepend _ (.keep _ ih')

end CaddyModel.C18
