/-
C18 — regenerated tie: WHICH strings the consumers hand to the replacer.
`Gen.replacerCallSites` (tools/extract, regenerated from the tree under test on every run) lists every
`Replacer.ReplaceAll / ReplaceKnown / ReplaceOrErr / ReplaceFunc` call of map.go, headers.go, rewrite.go,
vars.go and staticresp.go with the source text of its first argument.  For each file the multiset of
(method, argument) pairs must be the one the models were written against (`…_call_sites_match_source`,
compared up to order, so moving code around is harmless), and for the three parametric consumer models
the template lists of the "only configured operands are scanned" theorems are exactly the operands these
call sites name (`…_templates_are_the_call_site_operands`).  A new `Replace*` call, a call on another
operand or with another method breaks a proof obligation without any sampled case.
Limit: the tie sees the argument TEXT — a change that keeps the text but feeds other data through the
same variable (seeded/C18-map-regexp-output-reexpanded: `outputStr` reassigned before the one shared
`ReplaceAll(outputStr, "")`) is not visible here; the correspondence streams and oracles catch it.
-/
import CaddyModel.C18.Headers
import CaddyModel.C18.RwMods
import CaddyModel.Gen.Glue

namespace CaddyModel.C18

/-- the (method, first argument) pairs of the calls in one source file -/
def callSitesOf (file : String) : List (String × String) :=
  (Gen.replacerCallSites.filter (fun r => r.1 == file)).map (fun r => (r.2.2.1, r.2.2.2))

/-- one call site and the model operand(s) that reach it -/
structure CallRow (Cfg : Type) where
  method : String
  arg : String
  operand : Cfg → List Bytes

def CallRow.key {Cfg : Type} (r : CallRow Cfg) : String × String := (r.method, r.arg)

def mapCallTable : List (CallRow MapCfg) := [
  ⟨"ReplaceAll", "h.Source", fun c => [c.source]⟩,
  ⟨"ReplaceAll", "outputStr",   -- in the `input == m.Input` arm only (MapH.mapScan)
    fun c => (c.mappings.filter (fun m => !m.isRegexp)).flatMap (fun m => m.outputs.filterMap id)⟩,
  ⟨"ReplaceAll", "h.Defaults[destIdx]", fun c => c.defaults⟩]

theorem map_call_sites_match_source :
    (callSitesOf "map.go").isPerm (mapCallTable.map CallRow.key) = true := by decide +kernel

theorem map_templates_are_the_call_site_operands (cfg : MapCfg) (t : Bytes) :
    t ∈ mapTemplates cfg ↔ ∃ r ∈ mapCallTable, t ∈ r.operand cfg := by
  simp only [mapTemplates, mapCallTable, List.mem_cons, List.mem_append, List.not_mem_nil, or_false,
    exists_eq_or_imp, exists_eq_left]
  grind

def hdrAddField (o : HdrOps) : List Bytes := match o.add with | some (f, _) => [f] | none => []
def hdrAddVal (o : HdrOps) : List Bytes := match o.add with | some (_, v) => [v] | none => []
def hdrSetField (o : HdrOps) : List Bytes := match o.set with | some (f, _) => [f] | none => []
def hdrSetVals (o : HdrOps) : List Bytes := match o.set with | some (_, vs) => vs | none => []
def hdrRepField (o : HdrOps) : List Bytes := match o.replace with | some (f, _) => [f] | none => []
def hdrRepSearch (o : HdrOps) : List Bytes := match o.replace with | some (_, r) => [r.search] | none => []
def hdrRepReplace (o : HdrOps) : List Bytes := match o.replace with | some (_, r) => [r.replace] | none => []

def hdrCallTable : List (CallRow HdrOps) := [
  ⟨"ReplaceKnown", "fieldName", fun o => o.delete⟩,      -- first pass over `delete` (`*` clears)
  ⟨"ReplaceKnown", "fieldName", hdrAddField⟩,
  ⟨"ReplaceKnown", "v", hdrAddVal⟩,
  ⟨"ReplaceKnown", "fieldName", hdrSetField⟩,
  ⟨"ReplaceKnown", "vals[i]", hdrSetVals⟩,
  ⟨"ReplaceKnown", "fieldName", fun o => o.delete⟩,      -- second pass over `delete`
  ⟨"ReplaceKnown", "fieldName", hdrRepField⟩,
  ⟨"ReplaceKnown", "r.Search", hdrRepSearch⟩,            -- the `*` arm …
  ⟨"ReplaceKnown", "r.Replace", hdrRepReplace⟩,
  ⟨"ReplaceKnown", "r.Search", hdrRepSearch⟩,            -- … and the named-field arm
  ⟨"ReplaceKnown", "r.Replace", hdrRepReplace⟩]

theorem headers_call_sites_match_source :
    (callSitesOf "headers.go").isPerm (hdrCallTable.map CallRow.key) = true := by decide +kernel

theorem headers_templates_are_the_call_site_operands (ops : HdrOps) (t : Bytes) :
    t ∈ hdrTemplates ops ↔ ∃ r ∈ hdrCallTable, t ∈ r.operand ops := by
  obtain ⟨add, set, del, rep⟩ := ops
  rcases add with _ | ⟨af, av⟩ <;> rcases set with _ | ⟨sf, svs⟩ <;> rcases rep with _ | ⟨f, r⟩ <;>
    simp only [hdrTemplates, hdrCallTable, hdrAddField, hdrAddVal, hdrSetField, hdrSetVals, hdrRepField,
      hdrRepSearch, hdrRepReplace, List.mem_append, List.mem_cons, List.not_mem_nil, or_false, false_or,
      exists_eq_or_imp, exists_eq_left, List.nil_append, List.append_nil] <;>
    grind

/-- the modifiers (`RwMods.lean`) -/
def rwmCallTable : List (CallRow RwMods) := [
  ⟨"ReplaceAll", "rewr.StripPathPrefix", fun m => [m.stripPrefix]⟩,
  ⟨"ReplaceAll", "rewr.StripPathSuffix", fun m => [m.stripSuffix]⟩,
  ⟨"ReplaceAll", "rep.Find", fun m => [m.subFind]⟩,          -- substrReplacer.do
  ⟨"ReplaceAll", "rep.Replace", fun m => [m.subReplace]⟩,
  ⟨"ReplaceAll", "rep.Replace", fun m => [m.reReplace]⟩]      -- regexReplacer.do

/-- the `uri` setter (`Rewrite.lean`: `rwNewPath`, the fragment, `bqsComp`) -/
def rwUriCalls : List (String × String) :=
  [("ReplaceAll", "path"), ("ReplaceAll", "frag"), ("ReplaceFunc", "comp")]

/-- not modelled: the method setter and the `query` operations (operands are configured fields only) -/
def rwUnmodelledCalls : List (String × String) := [
  ("ReplaceAll", "rewr.Method"),
  ("ReplaceAll", "renameParam.Key"), ("ReplaceAll", "renameParam.Val"),
  ("ReplaceAll", "setParam.Key"), ("ReplaceAll", "setParam.Val"),
  ("ReplaceAll", "addParam.Key"), ("ReplaceAll", "addParam.Val"),
  ("ReplaceAll", "replaceParam.Key"), ("ReplaceKnown", "replaceParam.Search"), ("ReplaceKnown", "replaceParam.Replace"),
  ("ReplaceAll", "deleteParam")]

theorem rewrite_call_sites_match_source :
    (callSitesOf "rewrite.go").isPerm (rwmCallTable.map CallRow.key ++ rwUriCalls ++ rwUnmodelledCalls) = true := by
  decide +kernel

theorem rewrite_modifier_templates_are_the_call_site_operands (m : RwMods) (t : Bytes) :
    t ∈ rwmTemplates m ↔ ∃ r ∈ rwmCallTable, t ∈ r.operand m := by
  simp [rwmTemplates, rwmCallTable]

/-! ### vars.go, staticresp.go (`Http.lean`) -/

/-- `VarsMiddleware.ServeHTTP` expands the variable NAME (`k`; the streams use brace-free names, on which
    it is the identity) and a string VALUE (`valStr` = `varTmpl` of `Http.varsValue`); `VarsMatcher` expands
    the CONFIGURED value (`v` = `matchVal` of `Http.varsMatch`).  `MatchVarsRE` has no call at all: the
    actual value reaches the regular expression unexpanded (`vars_regexp_sees_value_verbatim` in Props.lean; the
    pre-fix `repl.ReplaceAll(varStr, "")` would be a fourth row). -/
def varsCalls : List (String × String) :=
  [("ReplaceAll", "k"), ("ReplaceAll", "valStr"), ("ReplaceAll", "v")]

theorem vars_call_sites_match_source : (callSitesOf "vars.go").isPerm varsCalls = true := by decide +kernel

/-- `StaticResponse.ServeHTTP`: header names and values with `ReplaceAll` (`hdrTmpl` of `Http.serve`), the
    body with `ReplaceKnown` (`bodyTmpl`), the status code text with `ReplaceAll` (not modelled) -/
def staticRespCalls : List (String × String) :=
  [("ReplaceAll", "field"), ("ReplaceAll", "vals[i]"), ("ReplaceKnown", "s.Body"), ("ReplaceAll", "codeStr")]

theorem static_response_call_sites_match_source :
    (callSitesOf "staticresp.go").isPerm staticRespCalls = true := by decide +kernel

/-! ### autohttps.go: provision-time look at the host matchers -/

/-- **`hostLive false` matches the source**: automatic HTTPS phase 1 reads the host patterns
    (`ReplaceOrErr` into the loop variable) and stores nothing through the matcher it walks — the live
    matcher keeps the configured patterns (`HostGlue.hostLive`).  The fact is typed and call-following
    (tools/extract/c18phase1.go): every store into an element of a MatchHost / *MatchHost value, or the whole slice
    behind one, in code reachable from phase 1 through static calls inside the package (MatchHost's own methods
    excepted), whatever the variables are called and wherever the loop lives.
    seeded/C18-autohttps-writes-expanded-host-back adds the store `(*hm)[hostMatcherIdx]` and breaks this without any
    sampled case (also when the loop has been moved into a helper method: harmless/C11-refactor). -/
theorem autohttps_phase1_does_not_store_into_host_matchers_matches_source :
    Gen.autoHTTPSHostMatcherStores = [] := by decide

/-- **where configuration fields meet the replacer around provisioning** (modules/caddyhttp: autohttps.go,
    matchers.go, caddyauth/basicauth.go, app.go), with the function the call sits in: phase 1 of automatic HTTPS
    expands the host pattern into its loop variable `d` (provision time, `HostGlue.hostProvisionName`), the host
    matcher expands `host` per request (`HostGlue.hostMatchOne`) — these two are the only pair on one field;
    basic-auth account names / passwords and listener addresses are expanded in `Provision` only, the other
    matchers per request only.  A new call (say, of an account name in `Authenticate`, or of a provisioned value
    per request) breaks this without any sampled case. -/
def provisionCallTable : List (String × String × String × String) := [
  ("autohttps.go", "automaticHTTPSPhase1", "ReplaceOrErr", "elem MatchHost"),
  ("matchers.go", "MatchWithError", "ReplaceAll", "host"),              -- MatchHost
  ("matchers.go", "MatchWithError", "ReplaceAll", "matchPattern"),      -- MatchPath
  ("matchers.go", "MatchWithError", "ReplaceAll", "param"),             -- MatchQuery
  ("matchers.go", "MatchWithError", "ReplaceAll", "v"),
  ("matchers.go", "matchHeaders", "ReplaceAll", "allowedFieldVal"),     -- MatchHeader
  ("basicauth.go", "Provision", "ReplaceAll", "acct.Username"),
  ("basicauth.go", "Provision", "ReplaceAll", "acct.Password"),
  ("app.go", "Provision", "ReplaceOrErr", "srv.Listen[i]")]

theorem provision_call_sites_match_source :
    Gen.provisionReplacerCallSites.isPerm provisionCallTable = true := by decide +kernel

/-- no other file is in the fact: the five tables account for every row -/
theorem call_site_files_are_the_modelled_ones :
    Gen.replacerCallSites.all (fun r => ["map.go", "headers.go", "rewrite.go", "vars.go", "staticresp.go"].contains r.1) = true := by
  decide +kernel

end CaddyModel.C18
