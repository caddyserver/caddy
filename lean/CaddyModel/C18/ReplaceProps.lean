/-
C18 — the theorems about `replace` itself: single pass, values verbatim and never scanned, text outside placeholders
kept up to escaping backslashes, unknown keys by mode, no panic, termination, linear cost.  Cache and cost come from
`loop_eq_loopNC` and CostLemmas; the rest is read off `single_pass` (`replace` = `render` of `segments`) and
`segments_cut` (the segments are a `Cut` of the input).
-/
import CaddyModel.C18.Preserve
import CaddyModel.C18.CostLemmas

namespace CaddyModel.C18

/-- the one-and-only segmentation of an input: computed from the input, the SET of known
    keys and two mode flags — never from a value -/
def segments (inp : Bytes) (known : Bytes → Bool) (unknownEmpty errUnknown : Bool) : List Seg :=
  segLoop inp known unknownEmpty errUnknown (inp.length + 1) 0 0 0

/-- **the remembered closing brace (`lastEnd`) changes nothing.** `replace` — which looks for a closing
    brace only when the one found for an earlier opener is not ahead of the cursor any more — returns, for
    every input, binding and mode, what the loop that searches at every opener returns. (The reason:
    `findClose_mono`.) -/
theorem close_cache_is_transparent (inp : Bytes) (env : Env) (m : Mode) :
    replace inp env m = replaceNC inp env m := by
  unfold replace replaceNC
  split
  · rfl
  · exact loop_eq_loopNC inp env m (inp.length + 1) 0 0 0 0 [] (CacheOK.init inp)

/-- **single pass.** The code-shaped loop equals "cut the input once, then render each
    piece": every value is appended verbatim to the output and the scanner, which does not
    even receive the values, continues in the *input* behind the placeholder. -/
theorem single_pass (inp : Bytes) (env : Env) (m : Mode) :
    replace inp env m =
      if !inp.contains phOpen && !inp.contains phClose then .ok inp
      else render env m (segments inp (dom env) m.unknownEmpty m.errUnknown) [] := by
  rw [close_cache_is_transparent, replaceNC, segments, loopNC_eq_render]

-- non-vacuity: "{{\}a}" in ReplaceKnown — the cached brace (index 5, behind an escaped one) is reused
-- by the second opener; both loops keep the text and drop the backslash
example : replace [123, 123, 92, 125, 97, 125] (fun _ => none) ⟨[], false, false, false, none⟩
      = .ok [123, 123, 125, 97, 125] ∧
    replaceNC [123, 123, 92, 125, 97, 125] (fun _ => none) ⟨[], false, false, false, none⟩
      = .ok [123, 123, 125, 97, 125] ∧
    closeAt [123, 123, 92, 125, 97, 125] 1 5 = .at 5 ∧ findClose [123, 123, 92, 125, 97, 125] 1 = .at 5 := by
  decide

/-- **values cannot create structure.** Two bindings that define the same keys cut the
    input identically, whatever their values contain (`{env.HOME}`, `{file.…}`, braces…). -/
theorem value_independent_structure (inp : Bytes) (env env' : Env) (ue eu : Bool)
    (h : ∀ k, (env k).isSome = (env' k).isSome) :
    segments inp (dom env) ue eu = segments inp (dom env') ue eu := by
  have : dom env = dom env' := funext h
  rw [this]

theorem segments_cut (inp : Bytes) (known : Bytes → Bool) (ue eu : Bool) :
    Cut inp known ue eu 0 (segments inp known ue eu) :=
  segLoop_cut inp known ue eu _ 0 0 0 (.init inp) (by omega)

theorem replace_ne_halt (inp : Bytes) (env : Env) (m : Mode) {r : Res} (hr : r = .panic ∨ r = .fuel) :
    replace inp env m ≠ r := fun h => by
  rw [single_pass] at h
  split at h
  · rcases hr with rfl | rfl <;> cases h
  · have := (segments_cut inp _ _ _).mem_halt (render_halt env m r hr _ _ h)
    rcases hr with rfl | rfl <;> simp at this

/-- Go's slice expressions in `replace` never go out of range. -/
theorem replace_never_panics (inp : Bytes) (env : Env) (m : Mode) : replace inp env m ≠ .panic :=
  replace_ne_halt inp env m (.inl rfl)

/-- **termination.** The model is a total function; its recursion budget
    (`len + 1`, one unit per loop iteration) is never exhausted. -/
theorem replace_never_runs_out_of_fuel (inp : Bytes) (env : Env) (m : Mode) : replace inp env m ≠ .fuel :=
  replace_ne_halt inp env m (.inr rfl)

/-- **lookups are input substrings.** Every key that is ever looked up *and substituted* is the
    text between an opening and a closing brace of the original input — in particular a value
    like `{env.HOME}` arriving in a header can never cause a lookup of `env.HOME`. -/
theorem placeholders_are_input_slices (inp : Bytes) (known : Bytes → Bool) (ue eu : Bool) (key : Bytes)
    (h : Seg.ph key ∈ segments inp known ue eu) :
    ∃ a b, inp[a]? = some phOpen ∧ inp[b]? = some phClose ∧ slice inp (a + 1) b = some key :=
  ((segments_cut inp known ue eu).mem_ph h).1

/-- **modes.** A placeholder is substituted only if its key is known, or the mode treats
    unknown keys as empty (`ReplaceAll`, `ReplaceFunc`) and does not reject them. -/
theorem substituted_only_if_known_or_emptied (inp : Bytes) (known : Bytes → Bool) (ue eu : Bool) (key : Bytes)
    (h : Seg.ph key ∈ segments inp known ue eu) : known key = true ∨ (ue = true ∧ eu = false) :=
  ((segments_cut inp known ue eu).mem_ph h).2

theorem unknown_never_substituted_when_kept (inp : Bytes) (known : Bytes → Bool) (eu : Bool) (key : Bytes)
    (h : Seg.ph key ∈ segments inp known false eu) : known key = true := by
  rcases substituted_only_if_known_or_emptied inp known false eu key h with h | ⟨h, _⟩
  · exact h
  · cases h

/-- only `b` is known -/
def exEnv0 : Env := fun k => if k = [98] then some [88] else none

/-- **text outside placeholders is preserved modulo escapes.** Whenever the scan runs to the end
    (no "too many unclosed" / rejected unknown key), the concatenated source of its segments — literals
    as they are, each substituted placeholder as `{key}` — is the input with some backslashes deleted,
    each of which stood directly in front of a brace. Nothing else is dropped, added or reordered;
    in particular unknown placeholders that are kept stay in the text exactly as written. -/
theorem outside_preserved_mod_escape (inp : Bytes) (known : Bytes → Bool) (ue eu : Bool)
    (h : ∀ r, Seg.halt r ∉ segments inp known ue eu) :
    EscDel inp (source (segments inp known ue eu)) :=
  (segments_cut inp known ue eu).source h

-- non-vacuity: "\{a}{b}" — the escaping backslash goes, `{b}` is substituted, `{a}` stays text
example : segments [92, 123, 97, 125, 123, 98, 125] (dom exEnv0) false false
    = [.lit [], .lit [123, 97, 125], .ph [98], .lit []] := by decide

/-- **cost.** In EVERY mode the scanner visits at most `104·len + 204` input bytes — for every input and
    every binding: loop iterations plus the bytes `strings.Index` walks over while looking for closing
    braces. (Successful searches walk over disjoint stretches of the input because the brace they find is
    remembered until the cursor has passed it; unsuccessful ones are cut off by the unclosed-placeholder
    guard.) -/
theorem cost_linear (inp : Bytes) (env : Env) (m : Mode) :
    cost inp env m ≤ 104 * inp.length + 204 := by
  unfold cost
  split
  · omega
  -- `bound len 0 0 0 = 2·len + len + 101·(len + 2) + 1 = 104·len + 203`
  · have := costLoop_le inp env m (inp.length + 1) 0 0 0 (by omega)
    unfold bound at this
    have e1 : (101 - 0) * (inp.length + 2) = 101 * inp.length + 202 := by omega
    rw [e1] at this
    omega

/-- **the cost twin is the loop's own count.** The instrumented loop `loopC` returns `loop`'s result and,
    next to it, the number of input bytes visited; that number is `costLoop` (on every run: `loop` never
    panics). So `cost_linear` bounds the work of the modelled loop itself. -/
theorem cost_twin_follows_loop (inp : Bytes) (env : Env) (m : Mode) (fuel i lwc uc ce : Nat) (sb : Bytes) :
    (loopC inp env m fuel i lwc uc ce sb).1 = loop inp env m fuel i lwc uc ce sb ∧
    (loop inp env m fuel i lwc uc ce sb ≠ .panic →
      (loopC inp env m fuel i lwc uc ce sb).2 = costLoop inp env m fuel i uc ce) :=
  ⟨loopC_fst inp env m fuel i lwc uc ce sb, loopC_snd inp env m fuel i lwc uc ce sb⟩

/-- `costLoopNC` is in the same way the count of `loopNC`, the loop before the close cache -/
theorem old_cost_twin_follows_old_loop (inp : Bytes) (env : Env) (m : Mode) (fuel i lwc uc : Nat) (sb : Bytes) :
    (loopCNC inp env m fuel i lwc uc sb).1 = loopNC inp env m fuel i lwc uc sb ∧
    (loopNC inp env m fuel i lwc uc sb ≠ .panic →
      (loopCNC inp env m fuel i lwc uc sb).2 = costLoopNC inp env m fuel i uc) :=
  ⟨loopCNC_fst inp env m fuel i lwc uc sb, loopCNC_snd inp env m fuel i lwc uc sb⟩

/-- **the statement is not vacuous: the code as it was before the close cache violates it** (finding F14,
    repaired): `ReplaceKnown` on 250 nested openers already exceeded the bound (31 876 visits; `≈ n²/2`,
    every opener walked to the one closing brace again). -/
theorem cost_linear_old_code_fails :
    ∃ (inp : Bytes) (env : Env) (m : Mode), ¬ costNC inp env m ≤ 104 * inp.length + 204 :=
  ⟨nest 250, fun _ => none, ⟨[], false, false, false, none⟩, by
    rw [costNC_nest 250 _ _ (fun _ => rfl) ⟨rfl, rfl⟩, nest_length]; have := nestVisits_closed 250; omega⟩

-- the same input in the same mode with the close cache: one search (251 bytes + 1), 250 further iterations = 502 visits
example : cost (nest 250) (fun _ => none) ⟨[], false, false, false, none⟩ = 502 ∧
    costNC (nest 250) (fun _ => none) ⟨[], false, false, false, none⟩ = 31876 :=
  ⟨cost_nest 250 _ _ (fun _ => rfl) ⟨rfl, rfl⟩ (by decide),
   (costNC_nest 250 _ _ (fun _ => rfl) ⟨rfl, rfl⟩).trans (by have := nestVisits_closed 250; omega)⟩

-- … and in `ReplaceAll` (252 visits)
example : cost (nest 250) (fun _ => none) ⟨[], true, false, false, none⟩ = 252 := by
  decide +kernel

/-- the entry points that drop the error (`ReplaceAll`, `ReplaceKnown`, with any `empty`) return an output, and the
    total wrappers of the consumer models (`match … with | .ok o => o | _ => []`) return that output: the
    replacer neither panics nor runs out of fuel -/
theorem outOrEmpty_replace (t : Bytes) (env : Env) (m : Mode) :
    outOrEmpty (replace t env m) = .ok (match outOrEmpty (replace t env m) with | .ok o => o | _ => []) := by
  have h1 := replace_never_panics t env m
  have h2 := replace_never_runs_out_of_fuel t env m
  cases h : replace t env m <;> simp_all [outOrEmpty]

/-- `a ↦ "{b}"`, `b ↦ "X"` -/
def exEnv : Env := fun k => if k = [97] then some [123, 98, 125] else if k = [98] then some [88] else none

-- "{a}-{b}"  ⟶  "{b}-X": the value of `a` is inserted verbatim and not expanded again
example : replace [123, 97, 125, 45, 123, 98, 125] exEnv ⟨[], true, false, false, none⟩
    = .ok [123, 98, 125, 45, 88] := by decide

example : segments [123, 97, 125, 45, 123, 98, 125] (dom exEnv) true false
    = [.lit [], .ph [97], .lit [45], .ph [98], .lit []] := by decide

-- "\{a}" keeps the brace and drops the backslash; "{u}" (unknown) is kept by ReplaceKnown
example : replaceKnown [92, 123, 97, 125, 123, 117, 125] [] exEnv = .ok [123, 97, 125, 123, 117, 125] := by decide

example : replaceOrErr [123, 117, 125] false true exEnv = .unknown [117] := by decide

end CaddyModel.C18
