/-
C18 — the lemmas under the theorems about `replace`, in reading order: `loopNC` is `render` of `segLoop`; which closing
brace `findClose` returns (`findClose_at_iff`), hence why remembering it is sound (`CacheOK`, `loop_eq_loopNC`); the
loop-head invariant `HeadInv`, `render_halt`, and the shapes a segment list can have (`Cut`, `segLoop_cut`).
-/
import CaddyModel.C18.Spec

namespace CaddyModel.C18

theorem loopNC_eq_render (inp : Bytes) (env : Env) (m : Mode) (fuel i lwc uc : Nat) (sb : Bytes) :
    loopNC inp env m fuel i lwc uc sb =
      render env m (segLoop inp (dom env) m.unknownEmpty m.errUnknown fuel i lwc uc) sb := by
  fun_induction loopNC inp env m fuel i lwc uc sb <;> rw [segLoop] <;>
    simp_all only [↓reduceIte, Bool.false_eq_true, and_self, true_and, render, dom, Option.not_isSome]

/-! ### which closing brace `findClose` returns

`findClose inp i` is the first closing brace at or behind `i` that the inner loop does not skip as escaped
(`Skipped`). The characterisation mentions `i` only as a lower bound, so every start between `i` and the brace
found gives the same result (`findClose_mono`): that is what makes remembering it (`lastEnd`) sound. -/

/-- the condition of the inner `for`: the closing brace at `e` is passed over -/
def Skipped (inp : Bytes) (e : Nat) : Prop :=
  e > 0 ∧ e + 1 < inp.length ∧ inp[e - 1]? = some phEscape

theorem indexFrom_get {inp : Bytes} {c : UInt8} {i e : Nat}
    (h : indexFrom inp c i = some e) : inp[e]? = some c := (indexFrom_iff.mp h).2.1

theorem indexFrom_first {inp : Bytes} {c : UInt8} {i e : Nat} (h : indexFrom inp c i = some e) :
    ∀ k, i ≤ k → k < e → inp[k]? ≠ some c := (indexFrom_iff.mp h).2.2

theorem indexFrom_exists {inp : Bytes} {c : UInt8} {i k : Nat} (hik : i ≤ k) (h : inp[k]? = some c) :
    ∃ e, indexFrom inp c i = some e ∧ e ≤ k := by
  cases hf : indexFrom inp c i with
  | none =>
    simp only [indexFrom, indexOf_eq_findIdx?, Option.map_eq_none_iff, List.findIdx?_eq_none_iff] at hf
    have := hf c (List.mem_of_getElem? (List.getElem?_drop.trans ((Nat.add_sub_cancel' hik).symm ▸ h)))
    simp at this
  | some e => exact ⟨e, rfl, Nat.le_of_not_lt fun hlt => indexFrom_first hf k hik hlt h⟩

theorem skipEscaped_sound (inp : Bytes) (fuel e e' i : Nat) (hf : inp.length ≤ fuel + e) (he : e < inp.length)
    (hg : inp[e]? = some phClose) (hall : ∀ k, i ≤ k → k < e → inp[k]? = some phClose → Skipped inp k)
    (h : skipEscaped inp fuel e = some e') :
    inp[e']? = some phClose ∧ ¬ Skipped inp e' ∧ ∀ k, i ≤ k → k < e' → inp[k]? = some phClose → Skipped inp k := by
  fun_induction skipEscaped inp fuel e
  case case1 => omega
  case case2 => cases h
  case case3 e hsk e1 hi ih =>
    have hb := indexFrom_bounds hi
    refine ih (by omega) hb.2 (indexFrom_get hi) (fun k hk1 hk2 hk => ?_) h
    by_cases hke : k = e
    · exact hke ▸ hsk
    · by_cases hk1' : k < e
      · exact hall k hk1 hk1' hk
      · exact absurd hk (indexFrom_first hi k (by omega) hk2)
  case case4 hsk => cases h; exact ⟨hg, hsk, hall⟩

theorem skipEscaped_complete (inp : Bytes) (fuel e0 e i : Nat) (hf : e - e0 < fuel) (hi0 : i ≤ e0) (hle : e0 ≤ e)
    (h0 : inp[e0]? = some phClose) (he : inp[e]? = some phClose) (hns : ¬ Skipped inp e)
    (hall : ∀ k, i ≤ k → k < e → inp[k]? = some phClose → Skipped inp k) :
    skipEscaped inp fuel e0 = some e := by
  fun_induction skipEscaped inp fuel e0
  case case1 => omega
  -- a skipped brace is not `e`, so `e` lies behind it, and the next brace is at or in front of `e`
  case case2 e0 hsk hi =>
    obtain ⟨e1, hi', _⟩ := indexFrom_exists (i := e0 + 1) (Nat.lt_of_le_of_ne hle fun h => hns (h ▸ hsk)) he
    rw [hi] at hi'; cases hi'
  case case3 e0 hsk e1 hi ih =>
    have hlt : e0 < e := Nat.lt_of_le_of_ne hle fun h => hns (h ▸ hsk)
    have hb := indexFrom_bounds hi
    exact ih (by omega) (by omega) (Nat.le_of_not_lt fun h => indexFrom_first hi e hlt h he) (indexFrom_get hi)
  -- a brace that is not skipped is `e`
  case case4 e0 hsk =>
    exact congrArg some (Nat.le_antisymm hle (Nat.le_of_not_lt fun h => hsk (hall e0 hi0 h h0)))

theorem findClose_at_iff (inp : Bytes) (i e : Nat) :
    findClose inp i = .at e ↔
      (i ≤ e ∧ inp[e]? = some phClose ∧ ¬ Skipped inp e ∧
        ∀ k, i ≤ k → k < e → inp[k]? = some phClose → Skipped inp k) := by
  constructor
  · intro h
    obtain ⟨e0, h0, h1⟩ := findClose_eq_at.mp h
    exact ⟨(findClose_bounds h).1, skipEscaped_sound inp inp.length e0 e i (by omega) (indexFrom_bounds h0).2
      (indexFrom_get h0) (fun k hk1 hk2 hk => absurd hk (indexFrom_first h0 k hk1 hk2)) h1⟩
  · rintro ⟨hle, hg, hns, hall⟩
    obtain ⟨e0, h0, hle0⟩ := indexFrom_exists hle hg
    have hlen := (List.getElem?_eq_some_iff.mp hg).1
    exact findClose_eq_at.mpr ⟨e0, h0, skipEscaped_complete inp inp.length e0 e i (by omega) (indexFrom_bounds h0).1
      hle0 (indexFrom_get h0) hg hns hall⟩

theorem findClose_get {inp : Bytes} {i e : Nat} (h : findClose inp i = .at e) : inp[e]? = some phClose :=
  ((findClose_at_iff inp i e).mp h).2.1

theorem findClose_mono {inp : Bytes} {i e j : Nat} (h : findClose inp i = .at e) (hij : i ≤ j) (hje : j < e) :
    findClose inp j = .at e := by
  obtain ⟨_, hg, hns, hall⟩ := (findClose_at_iff inp i e).mp h
  exact (findClose_at_iff inp j e).mpr ⟨by omega, hg, hns, fun k hk1 hk2 hk => hall k (by omega) hk2 hk⟩

theorem CacheOK.step {inp : Bytes} {i ce : Nat} (h : CacheOK inp i ce) : CacheOK inp (i + 1) ce :=
  fun j hj1 hj2 => h j (by omega) hj2

theorem CacheOK.fresh (inp : Bytes) (e : Nat) : CacheOK inp (e + 1) e :=
  fun j hj1 hj2 => by omega

theorem CacheOK.init (inp : Bytes) : CacheOK inp 0 0 := fun j _ hj => by omega

theorem closeAt_cases (inp : Bytes) (i ce : Nat) :
    (i < ce ∧ closeAt inp i ce = .at ce) ∨ (ce ≤ i ∧ closeAt inp i ce = findClose inp i) := by
  unfold closeAt
  split
  · exact .inl ⟨‹_›, rfl⟩
  · exact .inr ⟨by omega, rfl⟩

theorem closeAt_eq_findClose {inp : Bytes} {i ce : Nat} (h : CacheOK inp i ce) :
    closeAt inp i ce = findClose inp i := by
  rcases closeAt_cases inp i ce with ⟨hgt, hc⟩ | ⟨_, hc⟩
  · rw [hc, h i (Nat.le_refl _) hgt]
  · exact hc

theorem CacheOK.next {inp : Bytes} {i ce e : Nat} (h : CacheOK inp i ce) (hc : closeAt inp i ce = .at e) :
    CacheOK inp (i + 1) e := by
  rw [closeAt_eq_findClose h] at hc
  exact fun j hj1 hj2 => findClose_mono hc (by omega) hj2

theorem loop_eq_loopNC (inp : Bytes) (env : Env) (m : Mode) (fuel i lwc uc ce : Nat) (sb : Bytes)
    (hc : CacheOK inp i ce) :
    loop inp env m fuel i lwc uc ce sb = loopNC inp env m fuel i lwc uc sb := by
  fun_induction loop inp env m fuel i lwc uc ce sb
  case case1 => rfl
  -- every iteration hands a sound cache on: the old one (`step`), the brace just found (`next`), or one
  -- that the cursor has already passed (`fresh`)
  all_goals
    have hs := hc.step
    have hn := fun e => @CacheOK.next _ _ _ e hc
    rw [loopNC, ← closeAt_eq_findClose hc]
    simp_all only [↓reduceIte, Bool.false_eq_true, and_self, true_and, CacheOK.fresh, forall_const]

/-- loop-head invariant of `scan`; the last part is there for `HeadInv.esc` -/
def HeadInv (inp : Bytes) (i lwc : Nat) : Prop :=
  lwc ≤ i ∧ i ≤ inp.length ∧ (lwc = i → 0 < i → inp[i - 1]? ≠ some phEscape)

theorem escAt_iff {inp : Bytes} {i : Nat} :
    escAt inp i = true ↔ 0 < i ∧ inp[i - 1]? = some phEscape ∧ ∃ b, inp[i]? = some b ∧ isBrace b = true := by
  unfold escAt
  cases inp[i]? <;> simp [and_assoc]

theorem phOpen_ne_escape : phOpen ≠ phEscape := by decide
theorem phClose_ne_escape : phClose ≠ phEscape := by decide
theorem phOpen_ne_close : phOpen ≠ phClose := by decide

theorem slice_eq_some {inp : Bytes} {lo hi : Nat} (h1 : lo ≤ hi) (h2 : hi ≤ inp.length) :
    slice inp lo hi = some ((inp.drop lo).take (hi - lo)) := if_pos ⟨h1, h2⟩

theorem findClose_gt {inp : Bytes} {i e : Nat} (ho : openAt inp i = true) (hc : findClose inp i = .at e) : i < e :=
  Nat.lt_of_le_of_ne (findClose_bounds hc).1 fun h => by
    subst h
    rw [openAt, findClose_get hc] at ho
    cases ho

theorem HeadInv.init (inp : Bytes) : HeadInv inp 0 0 := ⟨Nat.le_refl 0, Nat.zero_le _, fun _ h => absurd h (Nat.lt_irrefl 0)⟩

theorem HeadInv.next {inp : Bytes} {i lwc : Nat} (h : HeadInv inp i lwc) (hi : i < inp.length) :
    HeadInv inp (i + 1) lwc := ⟨by have := h.1; omega, hi, fun h' => by have := h.1; omega⟩

theorem HeadInv.write {inp : Bytes} {i : Nat} (hi : i < inp.length) : HeadInv inp (i + 1) i :=
  ⟨by omega, hi, fun h => by omega⟩

theorem HeadInv.behind {inp : Bytes} {i e : Nat} (hc : findClose inp i = .at e) : HeadInv inp (e + 1) (e + 1) :=
  ⟨Nat.le_refl _, (findClose_bounds hc).2, fun _ _ => by rw [Nat.add_sub_cancel, findClose_get hc]; simpa using phClose_ne_escape⟩

/-- at an escaped brace the text in front of the backslash can be written -/
theorem HeadInv.esc {inp : Bytes} {i lwc : Nat} (h : HeadInv inp i lwc) (hesc : escAt inp i = true) :
    lwc ≤ i - 1 := by
  obtain ⟨h1, _, h3⟩ := h
  obtain ⟨hpos, hprev, _⟩ := escAt_iff.mp hesc
  have : lwc ≠ i := fun e => h3 e hpos hprev
  omega

theorem render_halt (env : Env) (m : Mode) (r : Res) (hr : r = .panic ∨ r = .fuel) (segs : List Seg) (acc : Bytes)
    (h : render env m segs acc = r) : Seg.halt r ∈ segs := by
  fun_induction render env m segs acc
  case case2 ih | case6 ih | case7 ih => exact List.mem_cons_of_mem _ (ih h)
  case case3 => exact h ▸ List.mem_cons_self
  all_goals rcases hr with rfl | rfl <;> cases h

/-- the shapes a segment list of `inp` can have; the index is where in the input the source of the segments starts
    (`Cut.source`): a literal is the input from there up to some index (in front of the backslash, at an escaped
    brace); a substituted placeholder is `{key}` in the input; the list ends with the rest of the input or with a
    halt that is neither a panic nor exhausted fuel. `segLoop_cut` is the one induction over the scanner; what the
    theorems say about its segments is read off these five rules. -/
inductive Cut (inp : Bytes) (known : Bytes → Bool) (ue eu : Bool) : Nat → List Seg → Prop
  | rest {lwc s} : slice inp lwc inp.length = some s → Cut inp known ue eu lwc [.lit s]
  | halt {lwc} (r : Res) : (r = .tooMany ∨ ∃ k, r = .unknown k) → Cut inp known ue eu lwc [.halt r]
  | esc {lwc i s segs} : escAt inp i = true → slice inp lwc (i - 1) = some s →
      Cut inp known ue eu i segs → Cut inp known ue eu lwc (.lit s :: segs)
  | lit {lwc i s segs} : slice inp lwc i = some s → Cut inp known ue eu i segs → Cut inp known ue eu lwc (.lit s :: segs)
  | ph {i e key segs} : inp[i]? = some phOpen → inp[e]? = some phClose → slice inp (i + 1) e = some key →
      (known key = true ∨ (ue = true ∧ eu = false)) → Cut inp known ue eu (e + 1) segs →
      Cut inp known ue eu i (.ph key :: segs)

theorem segLoop_cut (inp : Bytes) (known : Bytes → Bool) (ue eu : Bool) (fuel i lwc uc : Nat)
    (hinv : HeadInv inp i lwc) (hf : inp.length < fuel + i) :
    Cut inp known ue eu lwc (segLoop inp known ue eu fuel i lwc uc) := by
  fun_induction segLoop inp known ue eu fuel i lwc uc
  case case1 => have := hinv.2.1; omega
  -- a slice out of range: impossible
  case case2 hi hesc hs => rw [slice_eq_some (hinv.esc hesc) (by omega)] at hs; cases hs
  case case10 hi _ hopen _ e hc hx =>
    exact (hx _ _ (slice_eq_some hinv.1 hinv.2.1)
      (slice_eq_some (findClose_gt (by simpa using hopen) hc) (Nat.le_of_lt (findClose_bounds hc).2))).elim
  case case11 hi hs => rw [slice_eq_some (Nat.le_trans hinv.1 hinv.2.1) (Nat.le_refl _)] at hs; cases hs
  case case3 hi hesc s hs ih => exact .esc hesc hs (ih (.write hi) (by omega))
  case case4 hi _ _ ih | case6 hi _ _ _ _ ih => exact ih (hinv.next hi) (by omega)
  case case5 => exact .halt _ (.inl rfl)
  case case7 hpre _ => exact .lit hpre (.halt _ (.inr ⟨_, rfl⟩))
  -- unknown placeholder kept: the literal ends in front of the opener, the scan goes on behind the opener
  case case8 hi _ _ _ _ _ _ _ _ hpre _ _ ih => exact .lit hpre (ih (.write hi) (by omega))
  -- substituted placeholder: the literal, `{key}`, and on behind the closing brace
  case case9 hi _ hopen _ e hc pre key hkey hpre hk1 hk2 ih =>
    have hb := findClose_bounds hc
    refine .lit hpre (.ph (by simpa [openAt] using hopen) (findClose_get hc) hkey ?_ (ih (.behind hc) (by omega)))
    cases hk : known key <;> simp_all
  case case12 s hs => exact .rest hs

section
variable {inp : Bytes} {known : Bytes → Bool} {ue eu : Bool} {lwc : Nat} {segs : List Seg} (h : Cut inp known ue eu lwc segs)
include h

theorem Cut.mem_halt {r : Res} (hr : .halt r ∈ segs) : r = .tooMany ∨ ∃ k, r = .unknown k := by
  induction h with
  | halt r' h' => cases List.mem_singleton.mp hr; exact h'
  | rest => simp at hr
  | esc _ _ _ ih | lit _ _ ih | ph _ _ _ _ _ ih => exact ih (by simpa using hr)

theorem Cut.mem_ph {key : Bytes} (hk : .ph key ∈ segs) :
    (∃ a b, inp[a]? = some phOpen ∧ inp[b]? = some phClose ∧ slice inp (a + 1) b = some key) ∧
    (known key = true ∨ (ue = true ∧ eu = false)) := by
  induction h with
  | rest | halt => simp at hk
  | esc _ _ _ ih | lit _ _ ih => exact ih (by simpa using hk)
  | ph ho hc hs hkn _ ih =>
    rcases List.mem_cons.mp hk with hk | hk
    · cases hk; exact ⟨⟨_, _, ho, hc, hs⟩, hkn⟩
    · exact ih hk

end

end CaddyModel.C18
