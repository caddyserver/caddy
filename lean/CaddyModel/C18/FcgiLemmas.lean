/-
C18 — theorems about the FastCGI transport's CGI table (`Fcgi.lean`): which rows go through the replacer (the
configured `env` templates, once; `root`, once) and which are request text copied byte for byte.
-/
import CaddyModel.C18.Templates
import CaddyModel.C18.Fcgi

namespace CaddyModel.C18

theorem tget_append (k : Bytes) : ∀ a b : List (Bytes × Bytes),
    tget k (a ++ b) = match tget k b with | some x => some x | none => tget k a
  | [], b => by cases h : tget k b <;> simp [tget, h]
  | kv :: a, b => by
    have ih := tget_append k a b
    simp only [List.cons_append, tget, ih]
    cases h : tget k b <;> simp

theorem tget_not_mem (k : Bytes) : ∀ l : List (Bytes × Bytes), k ∉ l.map (·.1) → tget k l = none
  | [], _ => rfl
  | kv :: l, h => by
    rw [List.map_cons, List.mem_cons, not_or] at h
    simp [tget, tget_not_mem k l h.2, Ne.symm h.1]

theorem tget_of_mem {k v : Bytes} : ∀ {l : List (Bytes × Bytes)}, (l.map (·.1)).Nodup → (k, v) ∈ l → tget k l = some v
  | kv :: l, hnd, h => by
    rw [List.map_cons, List.nodup_cons] at hnd
    rcases List.mem_cons.mp h with rfl | h
    · simp [tget, tget_not_mem _ l hnd.1]
    · simp [tget, tget_of_mem hnd.2 h]

/-- **the table is: request rows, then ONE expansion per configured template, then header rows.** The code's table
    (for every pair of replacer entry points) is the concatenation of `fcgiRequestRows` and `fcgiHeaderRows` —
    functions that have no replacer argument at all: request text copied or sliced — around the one configured
    row, whose value is `ReplaceAll` of the CONFIGURED template; the document root is `filepath.Clean` of one
    `ReplaceAll(·, ".")` of the configured `root`. -/
theorem fcgi_table_is_request_rows_around_one_expansion (Rroot Renv : Bytes → Bytes) (c : FcgiCfg) (r : FcgiReq) :
    fcgiBuildR false Rroot Renv c r =
      fcgiRequestRows (C07.pathClean (Rroot c.rootT)) c r ++ [(c.envKey, Renv c.envT)] ++ fcgiHeaderRows r := by
  simp [fcgiBuildR, fcgiRoot]

/-- **request text is never scanned**: the table is the same when the replacer refuses every string but the two
    configured templates. -/
theorem fcgi_scans_only_configured_templates (Rroot Renv : Bytes → Bytes) (c : FcgiCfg) (r : FcgiReq) :
    fcgiBuildR false Rroot Renv c r =
      fcgiBuildR false (onlyTemplates [c.rootT] Rroot) (onlyTemplates [c.envT] Renv) c r := by
  rw [fcgi_table_is_request_rows_around_one_expansion, fcgi_table_is_request_rows_around_one_expansion,
    onlyTemplates_mem (ts := [c.rootT]) (t := c.rootT) (by simp),
    onlyTemplates_mem (ts := [c.envT]) (t := c.envT) (by simp)]

/-- a variable seen through the whole table: a header row wins over the configured row, and that over a request row -/
theorem tget_fcgiBuildR (k : Bytes) (Rroot Renv : Bytes → Bytes) (c : FcgiCfg) (r : FcgiReq) :
    tget k (fcgiBuildR false Rroot Renv c r) =
      match tget k (fcgiHeaderRows r) with
      | some x => some x
      | none => if c.envKey = k then some (Renv c.envT)
                else tget k (fcgiRequestRows (C07.pathClean (Rroot c.rootT)) c r) := by
  rw [fcgi_table_is_request_rows_around_one_expansion, tget_append, tget_append]
  by_cases h : c.envKey = k <;> simp only [tget, h, if_true, if_false]

theorem fcgiRows_keys (root : Bytes) (c : FcgiCfg) (r : FcgiReq) :
    ((fcgiRequestRows root c r).map (·.1) ++ (fcgiHeaderRows r).map (·.1)).Nodup := by
  unfold fcgiRequestRows fcgiFixedRows fcgiPathTranslatedRow fcgiHeaderRows
  repeat rw [str_ofList]
  -- with or without the PATH_TRANSLATED row: 12 resp. 13 literal keys
  cases (fcgiPathInfo c.split r.path).isEmpty <;>
    simp only [List.map_cons, List.map_nil, ↓reduceIte, Bool.false_eq_true, List.cons_append, List.nil_append,
      List.append_nil] <;> decide

section
variable (Rroot Renv : Bytes → Bytes) (c : FcgiCfg) (r : FcgiReq) {k v : Bytes}

theorem fcgi_header_row (h : (k, v) ∈ fcgiHeaderRows r) : tget k (fcgiBuildR false Rroot Renv c r) = some v := by
  -- the keys do not depend on the root: any will do
  rw [tget_fcgiBuildR, tget_of_mem (List.nodup_append.mp (fcgiRows_keys [] c r)).2.1 h]

theorem fcgi_request_row (h : (k, v) ∈ fcgiRequestRows (C07.pathClean (Rroot c.rootT)) c r) (hk : c.envKey ≠ k) :
    tget k (fcgiBuildR false Rroot Renv c r) = some v := by
  obtain ⟨h1, -, h3⟩ := List.nodup_append.mp (fcgiRows_keys (C07.pathClean (Rroot c.rootT)) c r)
  rw [tget_fcgiBuildR, tget_not_mem _ _ fun hh => h3 k (List.mem_map_of_mem (f := (·.1)) h) k hh rfl, if_neg hk,
    tget_of_mem h1 h]

end

/-- **header fields reach the backend byte for byte**, whatever is configured (group 3 is written last). -/
theorem fcgi_header_variables_are_verbatim (Rroot Renv : Bytes → Bytes) (c : FcgiCfg) (r : FcgiReq) :
    tget (str "HTTP_X_IN") (fcgiBuildR false Rroot Renv c r) = some r.xin ∧
    tget (str "HTTP_CONTENT_TYPE") (fcgiBuildR false Rroot Renv c r) = some r.xin ∧
    tget (str "HTTP_X_USER") (fcgiBuildR false Rroot Renv c r) = some r.user := by
  refine ⟨fcgi_header_row _ _ c r ?_, fcgi_header_row _ _ c r ?_, fcgi_header_row _ _ c r ?_⟩ <;>
    simp [fcgiHeaderRows]

/-- **request-derived CGI variables are the request text, byte for byte** (unless the configuration overrides that
    very variable): query string, user id, content type, request URI (the URL's own `RequestURI()`), and the
    slices of the path. No hypothesis on the replacer: it is not involved. -/
theorem fcgi_request_variables_are_verbatim (Rroot Renv : Bytes → Bytes) (c : FcgiCfg) (r : FcgiReq)
    (hq : c.envKey ≠ str "QUERY_STRING") (hu : c.envKey ≠ str "REMOTE_USER") (ht : c.envKey ≠ str "CONTENT_TYPE")
    (hr : c.envKey ≠ str "REQUEST_URI") (hd : c.envKey ≠ str "DOCUMENT_URI") (hp : c.envKey ≠ str "PATH_INFO")
    (hs : c.envKey ≠ str "SCRIPT_NAME") :
    tget (str "QUERY_STRING") (fcgiBuildR false Rroot Renv c r) = some r.rawQuery ∧
    tget (str "REMOTE_USER") (fcgiBuildR false Rroot Renv c r) = some r.user ∧
    tget (str "CONTENT_TYPE") (fcgiBuildR false Rroot Renv c r) = some r.xin ∧
    tget (str "REQUEST_URI") (fcgiBuildR false Rroot Renv c r) = some (requestURI ⟨r.path, r.rawQuery, r.secret⟩) ∧
    tget (str "DOCUMENT_URI") (fcgiBuildR false Rroot Renv c r) = some (fcgiDocURI c.split r.path) ∧
    tget (str "PATH_INFO") (fcgiBuildR false Rroot Renv c r) = some (fcgiPathInfo c.split r.path) ∧
    tget (str "SCRIPT_NAME") (fcgiBuildR false Rroot Renv c r) = some (withLeadingSlash (fcgiScriptName0 c.split r.path)) := by
  have hm : ∀ {k v}, (k, v) ∈ fcgiFixedRows (C07.pathClean (Rroot c.rootT)) c r → c.envKey ≠ k →
      tget k (fcgiBuildR false Rroot Renv c r) = some v :=
    fun h => fcgi_request_row Rroot Renv c r (List.mem_append_left _ h)
  refine ⟨hm ?_ hq, hm ?_ hu, hm ?_ ht, hm ?_ hr, hm ?_ hd, hm ?_ hp, hm ?_ hs⟩ <;> simp [fcgiFixedRows]

theorem fcgi_path_slices_are_the_path (split path : Bytes) :
    fcgiDocURI split path ++ fcgiPathInfo split path = path := by
  unfold fcgiDocURI fcgiPathInfo
  cases fcgiSplitPos split path <;> simp

/-- the configured row: its value is what the replacer made of the CONFIGURED template (unless a request header
    field of that CGI name overrides it — headers are written last) -/
theorem fcgi_env_row (Rroot Renv : Bytes → Bytes) (c : FcgiCfg) (r : FcgiReq) (h : c.envKey ∉ fcgiHeaderKeys) :
    tget c.envKey (fcgiBuildR false Rroot Renv c r) = some (Renv c.envT) := by
  -- `h` fits because the keys of the literal `fcgiHeaderRows r` reduce to `fcgiHeaderKeys`
  rw [tget_fcgiBuildR, tget_not_mem _ (fcgiHeaderRows r) h, if_pos rfl]

theorem fcgi_root_row (Rroot Renv : Bytes → Bytes) (c : FcgiCfg) (r : FcgiReq) (h : c.envKey ≠ str "DOCUMENT_ROOT") :
    tget (str "DOCUMENT_ROOT") (fcgiBuildR false Rroot Renv c r) = some (C07.pathClean (Rroot c.rootT)) :=
  fcgi_request_row Rroot Renv c r (List.mem_append_left _ (by simp [fcgiFixedRows])) h

/-- **FastCGI: each configured `env` variable is exactly ONE expansion of its template** (unless a request header
    field of that CGI name overrides it — headers are written last): `ReplaceAll(template, "")` under the
    request's provider chain; by `single_pass` one left-to-right cut of the CONFIGURED text, values inserted
    verbatim. -/
theorem fcgi_env_value_is_one_expansion (c : FcgiCfg) (r : FcgiReq) (h : c.envKey ∉ fcgiHeaderKeys) :
    ∃ e, replaceAll c.envT [] (fcgiEnv r) = .ok e ∧ tget c.envKey (fcgiBuild false c r) = some e :=
  ⟨_, expandAll_exact _ c.envT, fcgi_env_row _ _ c r h⟩

/-- **FastCGI: the document root is `filepath.Clean` of ONE `ReplaceAll(root, ".")`** of the configured root. -/
theorem fcgi_root_is_one_expansion (c : FcgiCfg) (r : FcgiReq) (h : c.envKey ≠ str "DOCUMENT_ROOT") :
    ∃ e, replaceAll c.rootT [46] (fcgiEnv r) = .ok e ∧
      tget (str "DOCUMENT_ROOT") (fcgiBuild false c r) = some (C07.pathClean e) :=
  ⟨_, outOrEmpty_replace c.rootT (fcgiEnv r) _, fcgi_root_row _ _ c r h⟩

def exFcgiCfg : FcgiCfg := ⟨str "APP_ENV", str "{http.request.header.X-In}", str "/srv/app", str ".php"⟩

/-- `GET /index.php/{env.VERIF_C18_SECRET}?x=\{a\}` with `X-In: {env.VERIF_C18_SECRET}` -/
def exFcgiReq : FcgiReq :=
  ⟨str "/index.php/{env.VERIF_C18_SECRET}", str "x=\\{a\\}", str "{env.VERIF_C18_SECRET}", str "{http.request.uri}", str "S3CR3T"⟩

/-- **substituted values are not re-expanded, request text is not expanded at all** — and the seeded change
    seeded/C18-fastcgi-env-expanded-after-request-values (`fcgiBuildR true`: templates stored unexpanded, one final
    `ReplaceAll` over every value of the finished table that contains `{`) does both: the code hands the backend
    `APP_ENV={env.VERIF_C18_SECRET}` (the header's text, inserted once), the same text as `HTTP_X_IN`, the raw
    query with its backslashes and the path info as sent; the final-pass variant hands it the server's secret in
    `HTTP_X_IN` and `PATH_INFO`, strips the backslashes from `QUERY_STRING`, expands the user id — and is NOT
    the same function of a replacer restricted to the configured templates. -/
theorem fcgi_late_pass_expands_request_text :
    tget (str "APP_ENV") (fcgiBuild false exFcgiCfg exFcgiReq) = some (str "{env.VERIF_C18_SECRET}") ∧
    tget (str "HTTP_X_IN") (fcgiBuild false exFcgiCfg exFcgiReq) = some (str "{env.VERIF_C18_SECRET}") ∧
    tget (str "QUERY_STRING") (fcgiBuild false exFcgiCfg exFcgiReq) = some (str "x=\\{a\\}") ∧
    tget (str "PATH_INFO") (fcgiBuild false exFcgiCfg exFcgiReq) = some (str "/{env.VERIF_C18_SECRET}") ∧
    tget (str "SCRIPT_NAME") (fcgiBuild false exFcgiCfg exFcgiReq) = some (str "/index.php") ∧
    tget (str "SCRIPT_FILENAME") (fcgiBuild false exFcgiCfg exFcgiReq) = some (str "/srv/app/index.php") ∧
    tget (str "HTTP_X_IN") (fcgiBuild true exFcgiCfg exFcgiReq) = some (str "S3CR3T") ∧
    tget (str "PATH_INFO") (fcgiBuild true exFcgiCfg exFcgiReq) = some (str "/S3CR3T") ∧
    tget (str "QUERY_STRING") (fcgiBuild true exFcgiCfg exFcgiReq) = some (str "x={a}") ∧
    tget (str "REMOTE_USER") (fcgiBuild true exFcgiCfg exFcgiReq) ≠ some exFcgiReq.user ∧
    fcgiBuildR true (expandAllDot (fcgiEnv exFcgiReq)) (expandAll (fcgiEnv exFcgiReq)) exFcgiCfg exFcgiReq ≠
      fcgiBuildR true (onlyTemplates [exFcgiCfg.rootT] (expandAllDot (fcgiEnv exFcgiReq)))
        (onlyTemplates [exFcgiCfg.envT] (expandAll (fcgiEnv exFcgiReq))) exFcgiCfg exFcgiReq := by
  unfold exFcgiCfg exFcgiReq; repeat rw [str_ofList]
  decide +kernel

-- non-vacuity: a configured variable that overrides a request variable, a header that overrides the configured
-- one, no split_path (the whole path is PATH_INFO), a root taken from a header and cleaned
set_option maxRecDepth 1000000 in
example :
    tget (str "QUERY_STRING") (fcgiBuild false ⟨str "QUERY_STRING", str "cfg-{http.request.uri.query}", str "/r", []⟩
      ⟨str "/a.php", str "{x}", [], [], []⟩) = some (str "cfg-{x}") ∧
    tget (str "HTTP_X_IN") (fcgiBuild false ⟨str "HTTP_X_IN", str "configured", str "/r", []⟩
      ⟨str "/a.php", [], str "{zz}", [], []⟩) = some (str "{zz}") ∧
    tget (str "PATH_INFO") (fcgiBuild false ⟨str "A", [], str "/r", []⟩ ⟨str "/a.php", [], [], [], []⟩) = some (str "/a.php") ∧
    tget (str "DOCUMENT_ROOT") (fcgiBuild false ⟨str "A", [], str "/srv/{http.request.header.X-In}/{zz.unk}", str ".php"⟩
      ⟨str "/a.php", [], str "../{env.X}", [], []⟩) = some (str "/{env.X}") ∧
    str "APP_ENV" ∉ fcgiHeaderKeys := by
  repeat rw [str_ofList]
  decide +kernel

end CaddyModel.C18
