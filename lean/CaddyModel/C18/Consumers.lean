/-
C18 — theorems about the consumers of the replacer, one part each: map handler, headers handler, rewrite modifiers,
host matcher, a chain of handlers, templates, the Caddyfile's `{$ENV}`, the reverse proxy's dial address.
Each consumer model is parametric in the replacer `R : template ↦ expansion`; "request text is never scanned" says
that it computes the same from a replacer that expands ONLY the configured templates (`Templates.onlyTemplates`);
what `R` does on a template is `single_pass`.  For map, headers, rewrite modifiers and the chain this is an instance
of a congruence (`…_congr`; the agreement of the two replacers stands behind the configuration it speaks of, the
state or key comes last); host matcher and dial are expressions in `R template`.  These five (not the chain) have a
violating variant as witness (for map, host matcher and dial a change under /verif/seeded); the templates and
Caddyfile parts are theorems on concrete inputs.  The `vars` matchers and the `uri` setter: Props.lean.
-/
import CaddyModel.C18.Templates
import CaddyModel.C18.Headers
import CaddyModel.C18.RwMods
import CaddyModel.C18.HostGlue
import CaddyModel.C18.Chain
import CaddyModel.C18.Tpl
import CaddyModel.C18.CfEnv
import CaddyModel.C18.Dial

namespace CaddyModel.C18

/-! ### map handler -/

theorem mapScan_congr {R R' : Bytes → Bytes} {ms : List MapMapping}
    (h : ∀ m ∈ ms, m.isRegexp = false → ∀ o, some o ∈ m.outputs → R' o = R o) (input : Bytes) (idx : Nat) :
    mapScan false R' input idx ms = mapScan false R input idx ms := by
  fun_induction mapScan false R input idx ms <;> rw [mapScan]
  -- the one call of the replacer: on the output of an exact mapping
  case case6 m _ out hout hre _ =>
    simp only [*, ↓reduceIte, Bool.false_eq_true,
      h m List.mem_cons_self (by simpa using hre) out (List.mem_of_getElem? hout)]
  case case3 ih | case4 ih | case7 ih =>
    simp only [*, ↓reduceIte, Bool.false_eq_true, ih fun m' hm' => h m' (List.mem_cons_of_mem _ hm')]
  all_goals simp only [*, ↓reduceIte, Bool.false_eq_true]

theorem mem_mapTemplates_output {cfg : MapCfg} {m : MapMapping} {o : Bytes}
    (hm : m ∈ cfg.mappings) (hre : m.isRegexp = false) (ho : some o ∈ m.outputs) : o ∈ mapTemplates cfg := by
  simp only [mapTemplates, List.mem_append, List.mem_flatMap, List.mem_filter, List.mem_filterMap]
  exact .inr ⟨m, ⟨hm, by simp [hre]⟩, some o, ho, rfl⟩

theorem mapLookup_congr {R R' : Bytes → Bytes} (cfg : MapCfg)
    (h : ∀ t ∈ mapTemplates cfg, R' t = R t) (key : Bytes) : mapLookup false R' cfg key = mapLookup false R cfg key := by
  have hscan := mapScan_congr (R := R) (R' := R') (ms := cfg.mappings)
    fun m hm hre o ho => h o (mem_mapTemplates_output hm hre ho)
  unfold mapLookup
  simp only [h cfg.source (by simp [mapTemplates]), hscan]
  split
  · rfl
  · split
    · rfl
    · rfl
    · split
      · rename_i d hd
        rw [h d (by simp [mapTemplates, List.mem_of_getElem? hd])]
      · rfl

/-- **map: only configured templates are scanned.** The lookup closure of the map handler computes the
    same value from a replacer that expands nothing but the handler's configured source, defaults and
    exact-mapping outputs.  In particular the text a regexp mapping captured from the request — which is
    spliced into a regexp mapping's output by `ExpandString` — is never handed to the replacer. -/
theorem map_scans_only_configured_templates (R : Bytes → Bytes) (cfg : MapCfg) (key : Bytes) :
    mapLookup false R cfg key = mapLookup false (onlyTemplates (mapTemplates cfg) R) cfg key :=
  (mapLookup_congr cfg (fun _ => onlyTemplates_mem) key).symm

/-- **map: a regexp mapping's value is its output with the groups filled in, and nothing else.** -/
theorem map_regexp_output_is_not_expanded (R : Bytes → Bytes) (input out : Bytes) (idx : Nat)
    (m : MapMapping) (ms : List MapMapping) (mt : Match)
    (hre : m.isRegexp = true) (hout : m.outputs[idx]? = some (some out)) (hfind : m.pat.find input = some mt) :
    mapScan false R input idx (m :: ms) = .found (expand mt.groups out) := by
  simp [mapScan, hre, hout, hfind]

/-- the seeded change "regexp outputs fall through to the shared ReplaceAll" (seeded/C18-map-regexp-output-
    reexpanded) violates both statements: `?q=x{env.VERIF_C18_SECRET}` against `^x(.*)$ → cap-${1}` -/
def exMapCfg : MapCfg :=
  ⟨str "{http.request.uri.query.q}", [str "m"], [⟨true, [], .anch (str "x") [], [some (str "cap-${1}")]⟩], []⟩

def exMapReq : HttpReq := ⟨[], str "x{env.VERIF_C18_SECRET}", [47], str "S3CR3T", []⟩

theorem map_reexpanding_regexp_outputs_scans_request_text :
    mapProbe false exMapCfg (str "{m}") exMapReq = str "cap-{env.VERIF_C18_SECRET}" ∧
    mapProbe true exMapCfg (str "{m}") exMapReq = str "cap-S3CR3T" ∧
    mapLookup true (expandAll (cEnv exMapReq)) exMapCfg (str "m") ≠
      mapLookup true (onlyTemplates (mapTemplates exMapCfg) (expandAll (cEnv exMapReq))) exMapCfg (str "m") := by
  unfold exMapCfg exMapReq; repeat rw [str_ofList]
  decide +kernel

theorem mapScan_no_panic (reexpand : Bool) (R : Bytes → Bytes) (input : Bytes) (idx : Nat) (ms : List MapMapping)
    (h : ∀ m ∈ ms, idx < m.outputs.length) : mapScan reexpand R input idx ms ≠ .panic := by
  fun_induction mapScan reexpand R input idx ms
  case case2 m _ hnone => exact absurd (h m List.mem_cons_self) (by simpa using hnone)
  case case3 ih | case4 ih | case7 ih => exact ih fun m' hm' => h m' (List.mem_cons_of_mem _ hm')
  all_goals simp

/-- **map: a validated handler never indexes `Outputs` out of range** (the one panic `ServeHTTP` could raise) -/
theorem map_validated_never_panics (reexpand : Bool) (R : Bytes → Bytes) (cfg : MapCfg) (key : Bytes)
    (hv : mapValidate cfg = true) : mapLookup reexpand R cfg key ≠ .panic := by
  fun_cases mapLookup reexpand R cfg key
  -- the scan panics: excluded, the index found is in range of `dests` and every `outputs` is as long
  case case3 idx hidx hp =>
    simp only [mapValidate, Bool.and_eq_true, List.all_eq_true, decide_eq_true_eq] at hv
    refine absurd hp (mapScan_no_panic _ _ _ _ _ fun m hm => ?_)
    rw [hv.1.2 m hm]
    exact (List.idxOf?_eq_some_iff.mp hidx).1
  all_goals simp

-- non-vacuity: the zoo's handler (exact mapping, regexp mapping, a default) validates
example : mapValidate ⟨str "{http.request.uri.query.q}", [str "m"],
    [⟨false, str "plain", .lit [120], [some (str "mapped")]⟩, ⟨true, [], .anch (str "x") [], [some (str "cap-${1}-end")]⟩],
    [str "{http.request.header.X-In}"]⟩ = true := by decide

/-! ### headers handler -/

theorem hdrClearPass_congr {R R' : Hdrs → Bytes → Bytes} : ∀ (ds : List Bytes),
    (∀ hs, ∀ d ∈ ds, R' hs d = R hs d) → ∀ hs, hdrClearPass R' ds hs = hdrClearPass R ds hs
  | [], _, _ => rfl
  | d :: ds, h, hs => by
    rw [hdrClearPass, hdrClearPass, h hs d List.mem_cons_self]
    exact hdrClearPass_congr ds (fun hs d' hd' => h hs d' (List.mem_cons_of_mem _ hd')) _

theorem hdrDeletePass_congr {R R' : Hdrs → Bytes → Bytes} : ∀ (ds : List Bytes),
    (∀ hs, ∀ d ∈ ds, R' hs d = R hs d) → ∀ hs, hdrDeletePass R' ds hs = hdrDeletePass R ds hs
  | [], _, _ => rfl
  | d :: ds, h, hs => by
    rw [hdrDeletePass, hdrDeletePass, h hs d List.mem_cons_self]
    exact hdrDeletePass_congr ds (fun hs d' hd' => h hs d' (List.mem_cons_of_mem _ hd')) _

section Headers
variable {R R' : Hdrs → Bytes → Bytes} {ops : HdrOps} (hR : ∀ hs, ∀ t ∈ hdrTemplates ops, R' hs t = R hs t)
include hR

theorem hdrAddPass_congr (hs : Hdrs) : hdrAddPass R' ops hs = hdrAddPass R ops hs := by
  unfold hdrAddPass
  split
  · rename_i f v e
    rw [hR hs f (by simp [hdrTemplates, e]), hR hs v (by simp [hdrTemplates, e])]
  · rfl

theorem hdrSetPass_congr (hs : Hdrs) : hdrSetPass R' ops hs = hdrSetPass R ops hs := by
  unfold hdrSetPass
  split
  · rename_i f vs e
    rw [hR hs f (by simp [hdrTemplates, e]),
      List.map_congr_left fun v hv => hR hs v (by simp [hdrTemplates, e, hv])]
  · rfl

theorem hdrReplacePass_congr (hs : Hdrs) : hdrReplacePass false R' ops hs = hdrReplacePass false R ops hs := by
  unfold hdrReplacePass
  split
  · rename_i f r e
    rw [hR hs f (by simp [hdrTemplates, e]), hR hs r.search (by simp [hdrTemplates, e]),
      hR hs r.replace (by simp [hdrTemplates, e])]
    rfl
  · rfl

theorem hdrApplyTo_congr (hs : Hdrs) : hdrApplyTo false R' ops hs = hdrApplyTo false R ops hs := by
  have hd : ∀ hs, ∀ d ∈ ops.delete, R' hs d = R hs d := fun hs d hd => hR hs d (by simp [hdrTemplates, hd])
  unfold hdrApplyTo
  rw [hdrClearPass_congr _ hd, hdrAddPass_congr hR, hdrSetPass_congr hR, hdrDeletePass_congr _ hd,
    hdrReplacePass_congr hR]

end Headers

/-- **headers: only configured operands are scanned.** `ApplyTo` computes the same header map from a
    replacer that expands nothing but the configured field names, values, search and replace operands
    — whatever the header map holds (request headers, upstream response headers) is read, compared,
    searched and rewritten as bytes, never expanded; so are the results of the substring / regexp
    replacements. Holds for the replacer as a function of the changing header map (request side). -/
theorem headers_scan_only_configured_operands (R : Hdrs → Bytes → Bytes) (ops : HdrOps) (hs : Hdrs) :
    hdrApplyTo false R ops hs =
      hdrApplyTo false (fun h => onlyTemplates (hdrTemplates ops) (R h)) ops hs :=
  (hdrApplyTo_congr (fun _ _ => onlyTemplates_mem) hs).symm

/-- the same for `ApplyToRequest`, which adds and removes the `Host` entry around `ApplyTo` -/
theorem headers_request_side_scans_only_configured_operands (R : Hdrs → Bytes → Bytes) (ops : HdrOps)
    (hs : Hdrs) (host : Bytes) :
    hdrApplyToRequest false R ops hs host =
      hdrApplyToRequest false (fun h => onlyTemplates (hdrTemplates ops) (R h)) ops hs host := by
  unfold hdrApplyToRequest
  rw [← headers_scan_only_configured_operands]

/-- a change that expands the RESULT of a header replacement violates the statement: the request header
    `X-In: {env.VERIF_C18_SECRET}` with `replace X-In a → b` -/
def exHdrOps : HdrOps := ⟨none, none, [], some (str "X-In", ⟨[97], false, .lit [], [98]⟩)⟩
def exHdrReq : HttpReq := ⟨str "{env.VERIF_C18_SECRET}", [], [47], str "S3CR3T", []⟩

theorem headers_rescanning_replaced_values_scans_request_text :
    hdrApplyTo false (fun hs => expandKnown (hdrEnv exHdrReq hs)) exHdrOps [(str "X-In", [str "{env.VERIF_C18_SECRET}"])]
      = [(str "X-In", [str "{env.VERIF_C18_SECRET}"])] ∧
    hdrApplyTo true (fun hs => expandKnown (hdrEnv exHdrReq hs)) exHdrOps [(str "X-In", [str "{env.VERIF_C18_SECRET}"])]
      = [(str "X-In", [str "S3CR3T"])] ∧
    hdrApplyTo true (fun hs => expandKnown (hdrEnv exHdrReq hs)) exHdrOps [(str "X-In", [str "{env.VERIF_C18_SECRET}"])] ≠
      hdrApplyTo true (fun hs => onlyTemplates (hdrTemplates exHdrOps) (expandKnown (hdrEnv exHdrReq hs))) exHdrOps
        [(str "X-In", [str "{env.VERIF_C18_SECRET}"])] := by
  unfold exHdrOps exHdrReq; repeat rw [str_ofList]
  decide +kernel

/-! ### rewrite modifiers -/

theorem rwmApply_congr {R R' : RwUrl → Bytes → Bytes} (m : RwMods)
    (h : ∀ u, ∀ t ∈ rwmTemplates m, R' u t = R u t) (u : RwUrl) :
    rwmApply false R' m u = rwmApply false R m u := by
  simp only [rwmTemplates, List.forall_mem_cons] at h
  have e : rwmPathRegexp R' m = rwmPathRegexp R m := by
    funext u; unfold rwmPathRegexp; rw [(h u).2.2.2.2.1]
  simp only [rwmApply, rwmStripPrefix, rwmStripSuffix, rwmSubstring, e, h, Bool.false_eq_true, ↓reduceIte]

/-- **rewrite modifiers: only the configured operands are scanned.** `strip_path_prefix`,
    `strip_path_suffix`, `uri_substring` and `path_regexp` compute the same URL from a replacer that
    expands nothing but their configured operands: the request's path (escaped or not) and query string
    are cleaned, compared, cut and substituted into as bytes and are never expanded, and neither are the
    results.  Holds for the replacer as a function of the URL the earlier modifiers produced. -/
theorem rewrite_modifiers_scan_only_configured_operands (R : RwUrl → Bytes → Bytes) (m : RwMods) (u : RwUrl) :
    rwmApply false R m u = rwmApply false (fun u => onlyTemplates (rwmTemplates m) (R u)) m u :=
  (rwmApply_congr m (fun _ _ => onlyTemplates_mem) u).symm

/-- a change that expands the rewritten query string once more violates the statement:
    `uri_substring a → b` on `?q={env.VERIF_C18_SECRET}` -/
def exRwMods : RwMods := ⟨[], [], [97], [98], 0, none, []⟩

theorem rewrite_rescanning_the_query_scans_request_text :
    rwmApply false (fun u => expandAll (rwmEnv (str "S3CR3T") u)) exRwMods ⟨str "/a", [], str "q={env.VERIF_C18_SECRET}"⟩
      = ⟨str "/b", [], str "q={env.VERIF_C18_SECRET}"⟩ ∧
    rwmApply true (fun u => expandAll (rwmEnv (str "S3CR3T") u)) exRwMods ⟨str "/a", [], str "q={env.VERIF_C18_SECRET}"⟩
      = ⟨str "/b", [], str "q=S3CR3T"⟩ ∧
    rwmApply true (fun u => expandAll (rwmEnv (str "S3CR3T") u)) exRwMods ⟨str "/a", [], str "q={env.VERIF_C18_SECRET}"⟩ ≠
      rwmApply true (fun u => onlyTemplates (rwmTemplates exRwMods) (expandAll (rwmEnv (str "S3CR3T") u))) exRwMods
        ⟨str "/a", [], str "q={env.VERIF_C18_SECRET}"⟩ := by
  unfold exRwMods; repeat rw [str_ofList]
  decide +kernel

-- non-vacuity: the modifiers do act on request text with braces — prefix `/A` is stripped (case-insensitive)
-- from `/a/{x}.txt`, whose escaped form is `/a/%7Bx%7D.txt`, and the rest is kept verbatim
set_option maxRecDepth 100000 in
example : rwmApply false (fun u => expandAll (rwmEnv [] u)) ⟨str "/A", str ".txt", [], [], 0, none, []⟩ ⟨str "/a/{x}.txt", [], []⟩
    = ⟨str "/{x}", str "/%7Bx%7D", []⟩ := by
  repeat rw [str_ofList]
  decide +kernel

/-! ### provision-time and request-time expansion of the same field: the host matcher under automatic HTTPS -/

/-- **the request-time matcher expands the CONFIGURED pattern.** After `automaticHTTPSPhase1` looked at the
    patterns (and provisioning did not fail), what each request is matched against is one expansion of the
    pattern as it was configured; the name phase 1 resolved it to plays no part. -/
theorem host_request_match_expands_the_configured_pattern (R : Bytes → Bytes) (c : HostCase) (p1 p2 : Bytes) :
    hostServeR false R c p1 p2 =
      match hostProvisionName c p1, hostProvisionName c p2 with
      | some _, some _ => some (hostMatchOne R p1 c.host, hostMatchOne R p2 c.host)
      | _, _ => none := by
  unfold hostServeR hostLive
  cases hostProvisionName c p1 <;> cases hostProvisionName c p2 <;> simp

theorem host_matcher_scans_only_configured_patterns (R : Bytes → Bytes) (c : HostCase) (p1 p2 : Bytes) :
    hostServeR false R c p1 p2 = hostServeR false (onlyTemplates [p1, p2] R) c p1 p2 := by
  rw [host_request_match_expands_the_configured_pattern, host_request_match_expands_the_configured_pattern]
  unfold hostMatchOne
  rw [onlyTemplates_mem (ts := [p1, p2]) (t := p1) (by simp), onlyTemplates_mem (ts := [p1, p2]) (t := p2) (by simp)]

/-- **host matcher under automatic HTTPS: provision-time look plus request-time match is ONE expansion.**
    Whenever the server provisions, the decision for a request is the comparison of its Host with the result
    of a single `ReplaceAll` of the configured pattern under the request's replacer (by `single_pass` one
    left-to-right cut of the CONFIGURED text) — values that `{env.…}` / `{file.…}` contributed are compared as
    bytes. -/
theorem host_match_is_one_expansion_of_the_configured_pattern (c : HostCase) (p1 p2 : Bytes) (m1 m2 : Bool)
    (h : hostServe false c p1 p2 = some (m1, m2)) :
    ∃ e1 e2, replaceAll p1 [] (hostReqEnv c) = .ok e1 ∧ replaceAll p2 [] (hostReqEnv c) = .ok e2 ∧
      m1 = hostMatchOne id e1 c.host ∧ m2 = hostMatchOne id e2 c.host := by
  unfold hostServe at h
  rw [host_request_match_expands_the_configured_pattern] at h
  refine ⟨_, _, expandAll_exact _ p1, expandAll_exact _ p2, ?_⟩
  cases h1 : hostProvisionName c p1 <;> cases h2 : hostProvisionName c p2 <;> simp [h1, h2] at h
  exact ⟨h.1.symm, h.2.symm⟩

/-- the seeded change seeded/C18-autohttps-writes-expanded-host-back — phase 1 writes the resolved name back
    into the live matcher — composes two single passes into a double one: with `SITE={http.request.header.X-Tenant}`
    the pattern `{env.VERIF_C18_SITE}` matches whatever Host the client names in `X-Tenant`, and the escaped
    pattern `\{http.request.header.X-Tenant\}` (the literal text) becomes a live placeholder. -/
def exHostCase : HostCase :=
  ⟨str "{http.request.header.X-Tenant}", [], [], str "attacker.example", str "attacker.example"⟩

theorem host_matcher_writeback_reexpands :
    hostServe false exHostCase (str "{env.VERIF_C18_SITE}") (str "\\{http.request.header.X-Tenant\\}") = some (false, false) ∧
    hostServe true exHostCase (str "{env.VERIF_C18_SITE}") (str "\\{http.request.header.X-Tenant\\}") = some (true, true) ∧
    hostServeR true (expandAll (hostReqEnv exHostCase)) exHostCase (str "{env.VERIF_C18_SITE}") (str "plain.example") ≠
      hostServeR true (onlyTemplates [str "{env.VERIF_C18_SITE}", str "plain.example"] (expandAll (hostReqEnv exHostCase)))
        exHostCase (str "{env.VERIF_C18_SITE}") (str "plain.example") := by
  unfold exHostCase; repeat rw [str_ofList]
  decide +kernel

/-- why it matters in general: single passes do not compose — expanding the OUTPUT of an expansion is not
    the expansion (any field that is expanded when it is provisioned and again when it is used must keep
    its configured text) -/
theorem expansion_of_an_expansion_is_not_the_expansion :
    ∃ (env : Env) (t : Bytes), expandAll env (expandKnown env t) ≠ expandAll env t :=
  ⟨hostReqEnv exHostCase, str "{env.VERIF_C18_SITE}", by
    unfold exHostCase; repeat rw [str_ofList]
    decide +kernel⟩

-- non-vacuity: an ordinary value matches (case-insensitively), and a request placeholder in the CONFIGURED
-- pattern is live, as documented
set_option maxRecDepth 100000 in
example : hostServe false ⟨str "site.example", [], [], str "SITE.example", str "SITE.example"⟩
    (str "{env.VERIF_C18_SITE}") (str "{http.request.header.X-Tenant}") = some (true, true) := by
  repeat rw [str_ofList]
  decide +kernel

/-! ### a chain of handlers: vars, map, headers, static_response -/

theorem mapEnvDR_congr {RA RA' : Env → Bytes → Bytes} (cfg : MapCfg) (base : Env)
    (h : ∀ e, ∀ t ∈ mapTemplates cfg, RA' e t = RA e t) : ∀ d, mapEnvDR RA' cfg base d = mapEnvDR RA cfg base d
  | 0 => rfl
  | d + 1 => by
    funext key
    rw [mapEnvDR, mapEnvDR, mapEnvDR_congr cfg base h d, withMap, withMap, mapLookup_congr cfg (h _) key]

/-- **a chain of consumers scans only configured templates.** `vars` → `map` → `headers` → `static_response`:
    the response (body and header) is the same when both replacer entry points expand nothing but the five
    configured templates — the variable's value, the map's input, captured groups and output, and the
    header value are handed from handler to handler as data. -/
theorem chain_scans_only_configured_templates (RA RK : Env → Bytes → Bytes) (c : ChainCfg) (r : HttpReq) :
    chainServeR RA RK c r =
      chainServeR (fun e => onlyTemplates (chainTemplates c) (RA e)) (fun e => onlyTemplates (chainTemplates c) (RK e)) c r := by
  have hm : ∀ t ∈ mapTemplates c.map, t ∈ chainTemplates c := by
    simp [mapTemplates, ChainCfg.map, chainTemplates]
  unfold chainServeR
  dsimp only
  rw [onlyTemplates_mem (t := c.varT) (by simp [chainTemplates]),
    mapEnvDR_congr c.map _ (fun e t ht => onlyTemplates_mem (hm t ht)) 3,
    onlyTemplates_mem (t := c.bodyT) (by simp [chainTemplates]),
    onlyTemplates_mem (t := c.hdrT) (by simp [chainTemplates])]

/-- `Chain.chainServe` is the parametric model at the real entry points; there its provider chain `mapEnvDR` is
    `MapH.mapEnvD`, the map model's own -/
theorem mapEnvDR_expandAll (cfg : MapCfg) (base : Env) : ∀ d, mapEnvDR expandAll cfg base d = mapEnvD false cfg base d
  | 0 => rfl
  | d + 1 => by unfold mapEnvDR mapEnvD; rw [mapEnvDR_expandAll cfg base d]

-- non-vacuity: the header `X-In: x{env.VERIF_C18_SECRET}` travels vars → map (captured by `^x(.*)$`) → header and
-- body, and arrives as text; the secret appears nowhere
set_option maxRecDepth 100000 in
example : chainServe ⟨str "{http.request.header.X-In}", str "{http.vars.v}", .anch [120] [], str "cap-${1}", str "none",
      str "{m}", str "v={http.vars.v} m={m}"⟩ ⟨str "x{env.VERIF_C18_SECRET}", [], [47], str "S3CR3T", []⟩
    = (str "v=x{env.VERIF_C18_SECRET} m=cap-{env.VERIF_C18_SECRET}", str "cap-{env.VERIF_C18_SECRET}") := by
  repeat rw [str_ofList]
  decide +kernel

/-! ### templates behind respond: which stage scans what -/

/-- **a value inserted by a template action is final.** On the modelled fragment, executing
    `{{ph "key"}}` followed by `after` yields the value of `key` (from `Replacer.GetString`, without the file
    provider) followed by the execution of `after`: the value is neither expanded by the replacer nor executed
    by the template engine, whatever it contains. -/
theorem template_action_value_is_final (env : Env) (fuel : Nat) (key after : Bytes)
    (hk : key.all isTplKeyByte = true) (hne : key ≠ []) :
    tplExec env (fuel + 1) (str "{{ph \"" ++ key ++ str "\"}}" ++ after) =
      (tplExec env fuel after).map (tplGet env key ++ ·) := by
  have hk' : ∀ a ∈ key, isTplKeyByte a = true := List.all_eq_true.mp hk
  have hshape : str "{{ph \"" ++ key ++ str "\"}}" ++ after = 123 :: 123 :: 112 :: 104 :: 32 :: 34 :: (key ++ 34 :: 125 :: 125 :: after) := by
    simp [str]
  rw [hshape, tplExec]
  -- the key runs up to the quote
  simp [hasPrefix, str, tplKey, List.takeWhile_append_of_pos hk', List.dropWhile_append_of_pos hk',
    show isTplKeyByte 34 = false by decide, hne]

theorem template_actions_cannot_read_files (env : Env) (name : Bytes) :
    tplGet env (str "file." ++ name) = [] := by
  have : stripPrefix (str "file.") (str "file." ++ name) = some name := by simp [str, stripPrefix]
  simp [tplGet, this]

/-- EXCLUSION, stated as a theorem so that nobody has to guess: with `templates` in front of a `respond` body
    that is built from request data, stage 2 does execute what stage 1 substituted (`?q={{ph "env.…"}}` yields the
    variable). That is the configured meaning of the handler chain, not placeholder re-expansion; the same
    request text arriving through a template ACTION stays text, and `{file.…}` works in stage 1 only. -/
theorem templates_execute_the_expanded_body_but_not_inserted_values :
    tplServe (str "{http.request.uri.query.q}") ⟨[], str "{{ph \"env.VERIF_C18_SECRET\"}}", [47], str "S3CR3T", []⟩
      = some (str "S3CR3T") ∧
    tplServe (str "{{ph \"http.request.uri.query.q\"}}") ⟨[], str "{{ph \"env.VERIF_C18_SECRET\"}}", [47], str "S3CR3T", []⟩
      = some (str "{{ph \"env.VERIF_C18_SECRET\"}}") ∧
    tplServe (str "{{ph \"http.request.uri.query.q\"}}") ⟨[], str "{env.VERIF_C18_SECRET}", [47], str "S3CR3T", []⟩
      = some (str "{env.VERIF_C18_SECRET}") ∧
    tplServe (str "{file.c18rwsecret.txt}|{{ph \"file.c18rwsecret.txt\"}}") ⟨[], [], [47], [], []⟩
      = some (str "F1LE-C0NTENT-7731|") := by
  repeat rw [str_ofList]
  decide +kernel

/-! ### Caddyfile `{$ENV}` in front of the replacer -/

/-- **the two stages.** What a request gets from `respond "B:<src>"` is ONE run-time expansion of the argument
    text that the adapt-time `{$…}` pass produced; that text is a function of the Caddyfile source and of the
    adapting process's environment only — no request field can reach stage 1. -/
theorem caddyfile_env_stage_then_one_expansion (bodySrc : Bytes) (cfVal : Option Bytes) (r : HttpReq) :
    cfServe bodySrc cfVal r =
      (cfArgText cfVal r.secret bodySrc).map (fun t => expandKnown (cfRunEnv cfVal r) (str "B:" ++ t)) := by
  unfold cfServe
  cases cfArgText cfVal r.secret bodySrc <;> rfl

theorem caddyfile_env_stage_ignores_the_request (bodySrc : Bytes) (cfVal : Option Bytes) (r r' : HttpReq)
    (h : r.secret = r'.secret) : cfArgText cfVal r.secret bodySrc = cfArgText cfVal r'.secret bodySrc := by
  rw [h]

/-- `{$X}` versus `{env.X}` with `X={http.request.header.X-In}` and the request header `X-In: {env.VERIF_C18_SECRET}`:
    the parse-time spelling makes the variable's value CONFIGURATION (a live placeholder — the documented meaning,
    an explicit exclusion of the property), the run-time spelling inserts it as data; in both the request's
    header value stays text. And each stage is single-pass: a value spliced in by `{$…}` is not searched for
    `{$…}` again. -/
theorem caddyfile_parse_time_env_is_configuration_run_time_env_is_data :
    cfServe (str "{$VERIF_C18_CF}") (some (str "{http.request.header.X-In}"))
        ⟨str "{env.VERIF_C18_SECRET}", [], [47], str "S3CR3T", []⟩ = some (str "B:{env.VERIF_C18_SECRET}") ∧
    cfServe (str "{env.VERIF_C18_CF}") (some (str "{http.request.header.X-In}"))
        ⟨str "{env.VERIF_C18_SECRET}", [], [47], str "S3CR3T", []⟩ = some (str "B:{http.request.header.X-In}") ∧
    cfServe (str "{$VERIF_C18_CF}") (some (str "{$VERIF_C18_SECRET}"))
        ⟨[], [], [47], str "S3CR3T", []⟩ = some (str "B:{$VERIF_C18_SECRET}") ∧
    cfServe (str "{$VERIF_C18_UNSET:{http.request.header.X-In}}|{$VERIF_C18_CF:d}") none
        ⟨str "{env.VERIF_C18_SECRET}", [], [47], str "S3CR3T", []⟩ = some (str "B:{env.VERIF_C18_SECRET}|d") := by
  repeat rw [str_ofList]
  decide +kernel

/-! ### the reverse proxy's dial address -/

/-- **the dialled address is ONE expansion of the configured dial template.** What `fillDialInfo` hands to the
    dialler is `caddy.ParseNetworkAddress` of a single `ReplaceAll` of the upstream's configured `dial` string;
    request text that the expansion substituted (`{http.request.header.…}`, `{http.vars.…}`) is parsed as an
    address — network, host, port — and never scanned for placeholders. -/
theorem dial_is_one_expansion_of_configured_template (R : Bytes → Bytes) (dialT : Bytes) :
    dialServeR false R dialT = C13.parseNetworkAddress (R dialT) := by
  simp [dialServeR, dialAddress]

theorem dial_scans_only_the_configured_template (R : Bytes → Bytes) (dialT : Bytes) :
    dialServeR false R dialT = dialServeR false (onlyTemplates [dialT] R) dialT := by
  rw [dial_is_one_expansion_of_configured_template, dial_is_one_expansion_of_configured_template,
    onlyTemplates_mem (ts := [dialT]) (t := dialT) (by simp)]

/-- **reverse proxy: what is dialled is the address parse of ONE `ReplaceAll` of the configured dial template**
    (behind `vars {v: …}`; by `single_pass` one left-to-right cut of the CONFIGURED text — a backend name taken from
    a request header or a variable reaches `caddy.ParseNetworkAddress` as bytes). -/
theorem dialled_address_is_the_parse_of_one_expansion (dialT varT : Bytes) (r : HttpReq) :
    ∃ e, replaceAll dialT [] (dialEnv varT r) = .ok e ∧ dialServe false dialT varT r = C13.parseNetworkAddress e :=
  ⟨_, expandAll_exact _ dialT, dial_is_one_expansion_of_configured_template _ dialT⟩

/-- the seeded change seeded/C18-placeholder-upstream-resolved-then-expanded-again (a pre-resolution step stores
    `Dial: dialInfo.String()`, and `fillDialInfo` expands that string again): with `dial {http.request.header.X-In}`
    and the request header `X-In: {env.VERIF_C18_SECRET}:5432` the code dials the literal host
    `{env.VERIF_C18_SECRET}` (which does not resolve), the two-pass variant dials the host the server's
    environment names; an escaped brace is laundered the same way. -/
def exDialReq : HttpReq := ⟨str "{env.VERIF_C18_SECRET}:5432", str "\\{env.VERIF_C18_SECRET}:80", [47], str "10.0.0.5", []⟩

theorem dial_reexpanded :
    dialServe false (str "{http.request.header.X-In}") [] exDialReq = .ok (str "tcp") (str "{env.VERIF_C18_SECRET}") 5432 ∧
    dialServe true (str "{http.request.header.X-In}") [] exDialReq = .ok (str "tcp") (str "10.0.0.5") 5432 ∧
    dialServe false (str "{http.request.uri.query.q}") [] exDialReq = .ok (str "tcp") (str "\\{env.VERIF_C18_SECRET}") 80 ∧
    dialServe true (str "{http.request.uri.query.q}") [] exDialReq = .ok (str "tcp") (str "{env.VERIF_C18_SECRET}") 80 ∧
    dialServeR true (expandAll (dialEnv [] exDialReq)) (str "{http.request.header.X-In}") ≠
      dialServeR true (onlyTemplates [str "{http.request.header.X-In}"] (expandAll (dialEnv [] exDialReq)))
        (str "{http.request.header.X-In}") := by
  unfold exDialReq; repeat rw [str_ofList]
  decide +kernel

-- non-vacuity: an ordinary backend named by the request, a variable in the host part, a rejected address
set_option maxRecDepth 100000 in
example : dialServe false (str "{http.vars.v}.internal:443") (str "{http.request.header.X-In}")
      ⟨str "db", [], [47], [], []⟩ = .ok (str "tcp") (str "db.internal") 443 ∧
    dialServe false (str "{http.request.header.X-In}") [] ⟨str "x:1-3", [], [47], [], []⟩ = .err := by
  repeat rw [str_ofList]
  decide +kernel

end CaddyModel.C18
