/-
C18 line-protocol driver.
  all   <inp> <empty> <env>        ReplaceAll
  known <inp> <empty> <env>        ReplaceKnown
  orerr <inp> <e><u>  <env>        ReplaceOrErr(errOnEmpty=e, errOnUnknown=u), e,u ∈ {0,1}
  func  <inp> <fid>   <env>        ReplaceFunc with harness function number fid
  http  <bodyTmpl> <hdrTmpl> <varTmpl> <X-In> <q> <path> <secret>   end-to-end: vars middleware + static_response
  http2 <bodyTmpl> <s|l> <varTmpl> <X-In1> <q1> <X-In2> <q2> <secret>   two requests through the SAME vars+respond handler instances
  httpm <key> <matchVal> <varV> <X-In> <q> <secret>   vars matcher result + vars_regexp capture group 1
  httprw <uriTmpl> <path> <rawQuery> <secret>   the URI part of the rewrite handler: Path, RawQuery, Fragment afterwards
  cost  <mode> <n> <mult>          timing case '{'^n+'}' at n and mult·n (answer is the constant `cost`); mode ∈ all|known|orerr|orkeep
  costf <mode> <n> <mult> <unit> <tail>   the same for unit^n+tail
  fcgi <envKey> <envTmpl> <rootTmpl> <split> <path> <rawQuery> <X-In> <user> <secret>   CGI variables the real FastCGI transport sends (Fcgi.lean)
env = `.` or `k:v;k:v;…` (hex fields).  Answers: `ok <hex>` | `err:<class>` | `panic`.
-/
import CaddyModel.C18.Model
import CaddyModel.C18.Http
import CaddyModel.C18.Rewrite
import CaddyModel.C18.ConsDriver

namespace CaddyModel.C18

def parseEnv (s : String) : Option (List (Bytes × Bytes)) :=
  if s == "." then some [] else
  (s.splitOn ";").mapM fun kv =>
    match kv.splitOn ":" with
    | [k, v] => do pure ((← Hex.decode k), (← Hex.decode v))
    | _ => none

def envOf (l : List (Bytes × Bytes)) : Env := fun k => (l.find? (·.1 == k)).map (·.2)

def upper (b : UInt8) : UInt8 := if 97 ≤ b ∧ b ≤ 122 then b - 32 else b

/-- the ReplacementFuncs the harness uses (same numbering in harness/internal/c18) -/
def harnessFunc : Nat → Option (Bytes → Bytes → Option Bytes)
  | 0 => some fun _ v => some v
  | 1 => some fun _ v => some (v.map upper)
  | 2 => some fun _ v => some ([phOpen] ++ v ++ [phClose])
  | 3 => some fun k v => if k.head? = some 101 then none else some v   -- key starts with 'e' → error
  | 4 => some fun k _ => some k
  | _ => none

def showRes : Res → String
  | .ok o => "ok " ++ Hex.encode o
  | .tooMany => "err:toomany"
  | .unknown _ => "err:unknown"
  | .emptyVal _ => "err:empty"
  | .funcErr => "err:func"
  | .panic => "panic"
  | .fuel => "model-out-of-fuel"

/-- modes of the timing cases (orerr = ReplaceOrErr(false, true), orkeep = ReplaceOrErr(false, false)) -/
def costModes : List String := ["all", "known", "orerr", "orkeep"]

def handle : List String → String
  | ["all", inp, empty, env] =>
    match Hex.decode inp, Hex.decode empty, parseEnv env with
    | some i, some e, some en => showRes (replaceAll i e (envOf en))
    | _, _, _ => "bad-op"
  | ["known", inp, empty, env] =>
    match Hex.decode inp, Hex.decode empty, parseEnv env with
    | some i, some e, some en => showRes (replaceKnown i e (envOf en))
    | _, _, _ => "bad-op"
  | ["orerr", inp, fl, env] =>
    match Hex.decode inp, parseEnv env, fl with
    | some i, some en, "00" => showRes (replaceOrErr i false false (envOf en))
    | some i, some en, "01" => showRes (replaceOrErr i false true (envOf en))
    | some i, some en, "10" => showRes (replaceOrErr i true false (envOf en))
    | some i, some en, "11" => showRes (replaceOrErr i true true (envOf en))
    | _, _, _ => "bad-op"
  | ["func", inp, fid, env] =>
    match Hex.decode inp, parseEnv env, fid.toNat? >>= harnessFunc with
    | some i, some en, some f => showRes (replaceFunc i f (envOf en))
    | _, _, _ => "bad-op"
  | ["http", body, hdr, var, x, q, path, secret] =>
    match Hex.decode body, Hex.decode hdr, Hex.decode var, Hex.decode x, Hex.decode q, Hex.decode path, Hex.decode secret with
    | some b, some h, some v, some x, some q, some p, some s =>
      match serve b h v ⟨x, q, p, s, []⟩ with
      | some (ob, oh) => "ok " ++ Hex.encode ob ++ " " ++ Hex.encode oh
      | none => "panic"
    | _, _, _, _, _, _, _ => "bad-op"
  | ["http2", body, kind, var, x1, q1, x2, q2, secret] =>
    match Hex.decode body, Hex.decode var, Hex.decode x1, Hex.decode q1, Hex.decode x2, Hex.decode q2, Hex.decode secret with
    | some b, some v, some x1, some q1, some x2, some q2, some s =>
      if kind != "s" && kind != "l" then "bad-op" else
      match serveBody b (kind == "l") v ⟨x1, q1, [47], s, []⟩, serveBody b (kind == "l") v ⟨x2, q2, [47], s, []⟩ with
      | some o1, some o2 => "ok " ++ Hex.encode o1 ++ " " ++ Hex.encode o2
      | _, _ => "panic"
    | _, _, _, _, _, _, _ => "bad-op"
  | ["httpm", key, mval, varv, x, q, secret] =>
    match Hex.decode key, Hex.decode mval, Hex.decode varv, Hex.decode x, Hex.decode q, Hex.decode secret with
    | some k, some mv, some vv, some x, some q, some s =>
      let r : HttpReq := ⟨x, q, [47], s, vv⟩
      match varsMatch k mv r, varsRegexpCaptured k r with
      | some b, some c => "ok " ++ (if b then "1" else "0") ++ " " ++ Hex.encode c
      | _, _ => "panic"
    | _, _, _, _, _, _ => "bad-op"
  | ["httprw", uri, path, rq, secret] =>
    match Hex.decode uri, Hex.decode path, Hex.decode rq, Hex.decode secret with
    | some u, some p, some q, some s =>
      match rewriteURI true u ⟨p, q, s⟩ with
      | some o => "ok " ++ Hex.encode o.path ++ " " ++ Hex.encode o.rawQuery ++ " " ++ Hex.encode o.frag
      | none => "panic"
    | _, _, _, _ => "bad-op"
  | ["cost", mode, _, _] => if costModes.contains mode then "cost" else "bad-op"
  | ["costf", mode, _, _, _, _] => if costModes.contains mode then "cost" else "bad-op"
  | "httpmap" :: rest => handleMap rest
  | "httphdr" :: rest => handleHdr rest
  | "httprwm" :: rest => handleRwm rest
  | "httphost" :: rest => handleHost rest
  | "httpchain" :: rest => handleChain rest
  | "httptpl" :: rest => handleTpl rest
  | "cfenv" :: rest => handleCfEnv rest
  | "httpdial" :: rest => handleDial rest
  | "fcgi" :: rest => handleFcgi rest
  | ["zoo", _, _, _] => "zoo"      -- oracle-only stream (real provisioned server); nothing to model
  | _ => "bad-op"

end CaddyModel.C18

namespace CaddyModel.C18
/-- counter-example lines replayed on the implementation on every run -/
def witnessLines : List String := []   -- none: the cost witness is repaired (corpus/C18/cost-regression.txt replays it)
end CaddyModel.C18
