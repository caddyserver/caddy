/-
C18 — the cost of the scan: the bytes one search walks over (`skipCost_le`, `closeCost_le`), the potential `bound`
under `costLoop` (`costLoop_le`), the instrumented loops `loopC` / `loopCNC` whose components are the loop and its
cost twin, and the closed forms of both costs on nested openers (`nest`).
-/
import CaddyModel.C18.Cost
import CaddyModel.C18.Lemmas

namespace CaddyModel.C18

theorem skipCost_le (inp : Bytes) (fuel e : Nat) :
    (∀ e', skipEscaped inp fuel e = some e' → skipCost inp fuel e ≤ e' - e) ∧
    (skipEscaped inp fuel e = none → skipCost inp fuel e ≤ inp.length - e) := by
  fun_induction skipEscaped inp fuel e <;> rw [skipCost]
  case case2 hc hi => rw [if_pos hc]; simp only [hi]; exact ⟨nofun, fun _ => by omega⟩
  case case3 hc e1 hi ih =>
    rw [if_pos hc]; simp only [hi]
    have := indexFrom_bounds hi
    exact ⟨fun e' h => by have := ih.1 e' h; have := skipEscaped_ge _ _ _ _ h; omega,
      fun h => by have := ih.2 h; omega⟩
  all_goals simp [*]

theorem closeCost_le (inp : Bytes) (i : Nat) :
    (∀ e, findClose inp i = .at e → closeCost inp i ≤ e - i + 1) ∧
    (findClose inp i = .unclosed → closeCost inp i ≤ inp.length - i + 1) := by
  fun_cases findClose inp i <;> rw [closeCost]
  case case1 h0 => simp only [h0]; exact ⟨nofun, fun _ => by omega⟩
  case case2 e0 h0 h1 =>
    simp only [h0]
    have := indexFrom_bounds h0
    exact ⟨nofun, fun _ => by have := (skipCost_le inp _ e0).2 h1; omega⟩
  case case3 e0 h0 e h1 =>
    simp only [h0]
    have := indexFrom_bounds h0
    have := (skipCost_le inp _ e0).1 e h1
    have := skipEscaped_ge _ _ _ _ h1
    exact ⟨fun _ h => by cases h; omega, nofun⟩

/-! ### the linear bound, in every mode

Potential argument. A search that finds a brace (no remembered brace ahead of `i`, result `e`) walks over `(i, e]` and leaves
`ce = e`; until the cursor has passed `e` every opener reuses `e` for free, so the next paid search starts
behind `e`: the walked stretches are disjoint, `len - max i ce` pays for them. A search that finds nothing
costs at most `len + 2` and raises `unclosedCount`, which stops the scan above 100. Two units per
iteration pay for the visit of the byte and the `+ 1` of a search. -/

/-- potential: two units per remaining byte, one per byte behind the remembered closing brace, and one
    "scan to the end" per remaining unit of the unclosed budget -/
def bound (len i uc ce : Nat) : Nat :=
  2 * (len - i) + (len - max i ce) + (101 - uc) * (len + 2) + 1

theorem search_cases (inp : Bytes) (i ce : Nat) :
    (i < ce ∧ closeAt inp i ce = .at ce ∧ searchCost inp i ce = 0) ∨
    (ce ≤ i ∧ closeAt inp i ce = findClose inp i ∧ searchCost inp i ce = closeCost inp i) := by
  rcases closeAt_cases inp i ce with ⟨h, hc⟩ | ⟨h, hc⟩
  · exact .inl ⟨h, hc, if_pos h⟩
  · exact .inr ⟨h, hc, if_neg (by omega)⟩

theorem searchCost_at {inp : Bytes} {i ce e : Nat} (h : closeAt inp i ce = .at e) :
    (i < ce ∧ e = ce ∧ searchCost inp i ce = 0) ∨
    (ce ≤ i ∧ i ≤ e ∧ e < inp.length ∧ searchCost inp i ce ≤ e - i + 1) := by
  rcases search_cases inp i ce with ⟨hgt, hc, hs⟩ | ⟨hle, hc, hs⟩ <;> rw [hc] at h
  · cases h; exact .inl ⟨hgt, rfl, hs⟩
  · have hb := findClose_bounds h
    exact .inr ⟨hle, hb.1, hb.2, hs ▸ (closeCost_le inp i).1 e h⟩

theorem searchCost_unclosed {inp : Bytes} {i ce : Nat} (h : closeAt inp i ce = .unclosed) :
    ce ≤ i ∧ searchCost inp i ce ≤ inp.length - i + 1 := by
  rcases search_cases inp i ce with ⟨_, hc, _⟩ | ⟨hle, hc, hs⟩ <;> rw [hc] at h
  · cases h
  · exact ⟨hle, hs ▸ (closeCost_le inp i).2 h⟩

theorem bound_anti {len i j : Nat} (uc ce : Nat) (h : i ≤ j) : bound len j uc ce ≤ bound len i uc ce := by
  unfold bound
  have h1 : len - j ≤ len - i := Nat.sub_le_sub_left h len
  have h2 : len - max j ce ≤ len - max i ce := Nat.sub_le_sub_left (by omega) len
  omega

theorem bound_step {len i uc ce c : Nat} (hi : i < len) (h : c ≤ bound len (i + 1) uc ce) :
    1 + c ≤ bound len i uc ce := by
  unfold bound at *
  have h1 : len - (i + 1) + 1 = len - i := by omega
  have h2 : len - max (i + 1) ce ≤ len - max i ce := Nat.sub_le_sub_left (by omega) len
  omega

theorem bound_unclosed {len i uc ce sc c : Nat} (hi : i < len) (huc : uc ≤ 100) (hce : ce ≤ i)
    (hsc : sc ≤ len - i + 1) (h : c ≤ bound len (i + 1) (uc + 1) ce) : 1 + sc + c ≤ bound len i uc ce := by
  have : (101 - uc) * (len + 2) = (101 - (uc + 1)) * (len + 2) + (len + 2) := by
    rw [show 101 - uc = 101 - (uc + 1) + 1 by omega, Nat.add_mul, Nat.one_mul]
  unfold bound at *
  rw [Nat.max_eq_left hce]; rw [Nat.max_eq_left (by omega)] at h
  omega

theorem bound_found {len i uc ce e sc c : Nat} (hi : i < len)
    (hs : (i < ce ∧ e = ce ∧ sc = 0) ∨ (ce ≤ i ∧ i ≤ e ∧ e < len ∧ sc ≤ e - i + 1))
    (h : c ≤ bound len (i + 1) uc e) : 1 + sc + c ≤ bound len i uc ce := by
  unfold bound at *
  rcases hs with ⟨h1, rfl, rfl⟩ | ⟨h1, h2, h3, h4⟩
  · rw [Nat.max_eq_right (Nat.le_of_lt h1)]; rw [Nat.max_eq_right h1] at h; omega
  · rw [Nat.max_eq_left h1]; omega

theorem costLoop_le (inp : Bytes) (env : Env) (m : Mode) (fuel i uc ce : Nat) (huc : uc ≤ 101) :
    costLoop inp env m fuel i uc ce ≤ bound inp.length i uc ce := by
  fun_induction costLoop inp env m fuel i uc ce
  case case1 | case11 | case12 => exact Nat.zero_le _
  case case2 hi _ ih | case3 hi _ _ ih => exact bound_step hi (ih huc)
  case case4 hi _ _ _ => exact bound_step hi (Nat.zero_le _)
  case case5 hi _ _ _ hc ih =>
    obtain ⟨hce, hsc⟩ := searchCost_unclosed hc
    exact bound_unclosed hi (by omega) hce hsc (ih (by omega))
  -- the scan stops at the placeholder
  case case6 hi _ _ _ _ hc _ _ _ | case8 hi _ _ _ _ hc _ _ _ _ _ | case9 hi _ _ _ _ hc _ _ _ _ _ _ _ =>
    exact bound_found hi (searchCost_at hc) (Nat.zero_le _)
  -- unknown key kept: on behind the opener
  case case7 hi _ _ _ _ hc _ _ _ _ ih => exact bound_found hi (searchCost_at hc) (ih huc)
  -- substituted: on behind the closing brace
  case case10 hi _ _ _ e hc _ _ _ _ _ _ _ ih =>
    have hs := searchCost_at hc
    exact bound_found hi hs (Nat.le_trans (ih huc) (bound_anti _ _ (by omega)))

/-! ### the cost twin follows the control flow of `loop`

`loopC` is `loop` instrumented to return the visit count next to its result: the first component
IS `loop` (`loopC_fst`) and the second IS `costLoop` (`loopC_snd`), so `cost` counts the visits of the
very loop the other theorems are about, not of a look-alike. -/

def loopC (inp : Bytes) (env : Env) (m : Mode) : (fuel i lwc uc ce : Nat) → (sb : Bytes) → Res × Nat
  | 0, _, _, _, _, _ => (.fuel, 0)
  | fuel + 1, i, lwc, uc, ce, sb =>
  if i < inp.length then
    if escAt inp i then
      match slice inp lwc (i - 1) with
      | none => (.panic, 1)
      | some s => ((loopC inp env m fuel (i + 1) i uc ce (sb ++ s)).1, 1 + (loopC inp env m fuel (i + 1) i uc ce (sb ++ s)).2)
    else if !openAt inp i then
      ((loopC inp env m fuel (i + 1) lwc uc ce sb).1, 1 + (loopC inp env m fuel (i + 1) lwc uc ce sb).2)
    else if uc > 100 then
      (.tooMany, 1)
    else
      match closeAt inp i ce with
      | .unclosed => ((loopC inp env m fuel (i + 1) lwc (uc + 1) ce sb).1, 1 + searchCost inp i ce + (loopC inp env m fuel (i + 1) lwc (uc + 1) ce sb).2)
      | .at e =>
        match slice inp lwc i, slice inp (i + 1) e with
        | some pre, some key =>
          if (env key).isNone ∧ m.errUnknown then (.unknown key, 1 + searchCost inp i ce)
          else if (env key).isNone ∧ !m.unknownEmpty then
            ((loopC inp env m fuel (i + 1) i uc e (sb ++ pre)).1, 1 + searchCost inp i ce + (loopC inp env m fuel (i + 1) i uc e (sb ++ pre)).2)
          else
            match m.valStr key (env key) with
            | none => (.funcErr, 1 + searchCost inp i ce)
            | some valStr =>
              if valStr.isEmpty then
                if m.errEmpty then (.emptyVal key, 1 + searchCost inp i ce)
                else ((loopC inp env m fuel (e + 1) (e + 1) uc e (sb ++ pre ++ m.empty)).1, 1 + searchCost inp i ce + (loopC inp env m fuel (e + 1) (e + 1) uc e (sb ++ pre ++ m.empty)).2)
              else ((loopC inp env m fuel (e + 1) (e + 1) uc e (sb ++ pre ++ valStr)).1, 1 + searchCost inp i ce + (loopC inp env m fuel (e + 1) (e + 1) uc e (sb ++ pre ++ valStr)).2)
        | _, _ => (.panic, 0)
  else
    match slice inp lwc inp.length with
    | none => (.panic, 0)
    | some s => (.ok (sb ++ s), 0)

theorem loopC_fst (inp : Bytes) (env : Env) (m : Mode) (fuel i lwc uc ce : Nat) (sb : Bytes) :
    (loopC inp env m fuel i lwc uc ce sb).1 = loop inp env m fuel i lwc uc ce sb := by
  fun_induction loopC inp env m fuel i lwc uc ce sb <;> rw [loop] <;>
    simp_all only [↓reduceIte, Bool.false_eq_true, and_self, true_and]

/-- `costLoop` does not carry the write cursor, so it cannot see the panic of a write slice and counts on: on a
    run that panics the two counts differ (`replace` has no such run: `replace_never_panics`) -/
theorem loopC_snd (inp : Bytes) (env : Env) (m : Mode) (fuel i lwc uc ce : Nat) (sb : Bytes)
    (h : loop inp env m fuel i lwc uc ce sb ≠ .panic) :
    (loopC inp env m fuel i lwc uc ce sb).2 = costLoop inp env m fuel i uc ce := by
  fun_induction loopC inp env m fuel i lwc uc ce sb <;> rw [loop] at h <;> rw [costLoop] <;>
    simp_all only [↓reduceIte, Bool.false_eq_true, and_self, true_and, false_and, ne_eq, not_true_eq_false,
      not_false_eq_true]

/-! The same tie for the loop before the close cache: `costLoopNC` is the visit count of `loopNC`. -/

def loopCNC (inp : Bytes) (env : Env) (m : Mode) : (fuel i lwc uc : Nat) → (sb : Bytes) → Res × Nat
  | 0, _, _, _, _ => (.fuel, 0)
  | fuel + 1, i, lwc, uc, sb =>
  if i < inp.length then
    if escAt inp i then
      match slice inp lwc (i - 1) with
      | none => (.panic, 1)
      | some s => ((loopCNC inp env m fuel (i + 1) i uc (sb ++ s)).1, 1 + (loopCNC inp env m fuel (i + 1) i uc (sb ++ s)).2)
    else if !openAt inp i then
      ((loopCNC inp env m fuel (i + 1) lwc uc sb).1, 1 + (loopCNC inp env m fuel (i + 1) lwc uc sb).2)
    else if uc > 100 then
      (.tooMany, 1)
    else
      match findClose inp i with
      | .unclosed => ((loopCNC inp env m fuel (i + 1) lwc (uc + 1) sb).1, 1 + closeCost inp i + (loopCNC inp env m fuel (i + 1) lwc (uc + 1) sb).2)
      | .at e =>
        match slice inp lwc i, slice inp (i + 1) e with
        | some pre, some key =>
          if (env key).isNone ∧ m.errUnknown then (.unknown key, 1 + closeCost inp i)
          else if (env key).isNone ∧ !m.unknownEmpty then
            ((loopCNC inp env m fuel (i + 1) i uc (sb ++ pre)).1, 1 + closeCost inp i + (loopCNC inp env m fuel (i + 1) i uc (sb ++ pre)).2)
          else
            match m.valStr key (env key) with
            | none => (.funcErr, 1 + closeCost inp i)
            | some valStr =>
              if valStr.isEmpty then
                if m.errEmpty then (.emptyVal key, 1 + closeCost inp i)
                else ((loopCNC inp env m fuel (e + 1) (e + 1) uc (sb ++ pre ++ m.empty)).1, 1 + closeCost inp i + (loopCNC inp env m fuel (e + 1) (e + 1) uc (sb ++ pre ++ m.empty)).2)
              else ((loopCNC inp env m fuel (e + 1) (e + 1) uc (sb ++ pre ++ valStr)).1, 1 + closeCost inp i + (loopCNC inp env m fuel (e + 1) (e + 1) uc (sb ++ pre ++ valStr)).2)
        | _, _ => (.panic, 0)
  else
    match slice inp lwc inp.length with
    | none => (.panic, 0)
    | some s => (.ok (sb ++ s), 0)

theorem loopCNC_fst (inp : Bytes) (env : Env) (m : Mode) (fuel i lwc uc : Nat) (sb : Bytes) :
    (loopCNC inp env m fuel i lwc uc sb).1 = loopNC inp env m fuel i lwc uc sb := by
  fun_induction loopCNC inp env m fuel i lwc uc sb <;> rw [loopNC] <;>
    simp_all only [↓reduceIte, Bool.false_eq_true, and_self, true_and]

theorem loopCNC_snd (inp : Bytes) (env : Env) (m : Mode) (fuel i lwc uc : Nat) (sb : Bytes)
    (h : loopNC inp env m fuel i lwc uc sb ≠ .panic) :
    (loopCNC inp env m fuel i lwc uc sb).2 = costLoopNC inp env m fuel i uc := by
  fun_induction loopCNC inp env m fuel i lwc uc sb <;> rw [loopNC] at h <;> rw [costLoopNC] <;>
    simp_all only [↓reduceIte, Bool.false_eq_true, and_self, true_and, false_and, ne_eq, not_true_eq_false,
      not_false_eq_true]

/-! ### nested openers: what the remembered closing brace saves

On `'{'^n ++ "}"` with every key unknown and kept, the loop without the close cache walks from every opener to the
one closing brace (`costNC_nest`, quadratic); the loop with it searches once (`cost_nest`). -/

def nest (n : Nat) : Bytes := List.replicate n phOpen ++ [phClose]

theorem nest_length (n : Nat) : (nest n).length = n + 1 := by simp [nest]

theorem nest_contains_close (n : Nat) : (nest n).contains phClose = true := by simp [nest]

theorem nest_get (n k : Nat) :
    (nest n)[k]? = if k < n then some phOpen else if k = n then some phClose else none := by
  simp only [nest, List.getElem?_append, List.getElem?_replicate, List.length_replicate, List.getElem?_singleton]
  split
  · rfl
  · simp only [show k - n = 0 ↔ k = n by omega]

theorem nest_no_escape (n k : Nat) : (nest n)[k]? ≠ some phEscape := by
  rw [nest_get]; split <;> (try split) <;> simp [phOpen_ne_escape, phClose_ne_escape]

theorem openAt_nest (n i : Nat) : openAt (nest n) i = decide (i < n) := by
  rw [openAt, nest_get]; split
  · simp [*]
  · split <;> simp [*, Ne.symm phOpen_ne_close]

theorem escAt_nest (n i : Nat) : escAt (nest n) i = false := by
  simp [escAt, nest_no_escape]

theorem skip_of_no_escape {inp : Bytes} (hne : ∀ k : Nat, inp[k]? ≠ some phEscape) (fuel e : Nat) :
    skipEscaped inp fuel e = some e ∧ skipCost inp fuel e = 0 := by
  cases fuel <;> simp [skipEscaped, skipCost, hne]

theorem indexFrom_nest {n i : Nat} (h : i ≤ n) : indexFrom (nest n) phClose i = some n :=
  indexFrom_iff.mpr ⟨h, by simp [nest_get], fun k _ hk => by simp [nest_get, hk, phOpen_ne_close]⟩

theorem findClose_nest {n i : Nat} (h : i ≤ n) : findClose (nest n) i = .at n := by
  simp [findClose, indexFrom_nest h, skip_of_no_escape (nest_no_escape n)]

theorem closeCost_nest {n i : Nat} (h : i ≤ n) : closeCost (nest n) i = n - i + 1 := by
  simp [closeCost, indexFrom_nest h, skip_of_no_escape (nest_no_escape n)]

theorem costLoopNC_ge {inp : Bytes} {i : Nat} (env : Env) (m : Mode) (h : inp.length ≤ i) (fuel uc : Nat) :
    costLoopNC inp env m fuel i uc = 0 := by
  cases fuel <;> rw [costLoopNC]; exact if_neg (by omega)

theorem costLoop_ge {inp : Bytes} {i : Nat} (env : Env) (m : Mode) (h : inp.length ≤ i) (fuel uc ce : Nat) :
    costLoop inp env m fuel i uc ce = 0 := by
  cases fuel <;> rw [costLoop]; exact if_neg (by omega)

/-- the opener with `j` openers behind it costs `j + 3` visits: itself, the `j + 1` bytes up to the closing brace,
    the brace -/
def nestVisits : Nat → Nat
  | 0 => 1
  | j + 1 => j + 3 + nestVisits j

theorem nestVisits_closed (n : Nat) : 2 * nestVisits n = n * n + 5 * n + 2 := by
  induction n with
  | zero => rfl
  | succ j ih =>
    have : (j + 1) * (j + 1) = j * j + 2 * j + 1 := by rw [Nat.add_mul, Nat.mul_add]; omega
    rw [nestVisits]; omega

section
variable (n : Nat) (env : Env) (m : Mode) (henv : ∀ k, env k = none)
  (hm : m.errUnknown = false ∧ m.unknownEmpty = false)
include henv hm

theorem costLoopNC_nest :
    ∀ (j fuel i : Nat), i + j = n → j + 2 ≤ fuel → costLoopNC (nest n) env m fuel i 0 = nestVisits j
  | 0, fuel + 1, i, hi, hf => by
    have hin : i = n := by omega
    subst hin
    rw [costLoopNC, costLoopNC_ge env m (by rw [nest_length]; omega)]
    simp [nest_length, escAt_nest, openAt_nest, nestVisits]
  | j + 1, fuel + 1, i, hi, hf => by
    rw [costLoopNC, costLoopNC_nest j fuel (i + 1) (by omega) (by omega)]
    simp [nest_length, escAt_nest, openAt_nest, findClose_nest (show i ≤ n by omega),
      closeCost_nest (show i ≤ n by omega), slice_eq_some (show i + 1 ≤ n by omega), henv, hm, nestVisits,
      show i < n + 1 by omega, show i < n by omega]
    omega

theorem costNC_nest : costNC (nest n) env m = nestVisits n := by
  rw [costNC, nest_contains_close, nest_length]
  simpa using costLoopNC_nest n env m henv hm n (n + 1 + 1) 0 (by omega) (by omega)

theorem costLoop_nest :
    ∀ (j fuel i : Nat), i + j = n → j + 2 ≤ fuel → costLoop (nest n) env m fuel i 0 n = j + 1
  | 0, fuel + 1, i, hi, hf => by
    have hin : i = n := by omega
    subst hin
    rw [costLoop, costLoop_ge env m (by rw [nest_length]; omega)]
    simp [nest_length, escAt_nest, openAt_nest]
  | j + 1, fuel + 1, i, hi, hf => by
    have ih := costLoop_nest j fuel (i + 1) (by omega) (by omega)
    rw [costLoop]
    simp [nest_length, escAt_nest, openAt_nest, closeAt, searchCost,
      slice_eq_some (show i + 1 ≤ n by omega), henv, hm, ih, show i < n + 1 by omega, show i < n by omega]
    omega

theorem cost_nest (hn : 0 < n) : cost (nest n) env m = 2 * n + 2 := by
  obtain ⟨k, rfl⟩ : ∃ k, n = k + 1 := ⟨n - 1, by omega⟩
  have h1 := costLoop_nest (k + 1) env m henv hm k (k + 1 + 1) 1 (by omega) (by omega)
  rw [cost, nest_contains_close, nest_length, costLoop]
  simp [nest_length, escAt_nest, openAt_nest, closeAt, searchCost, findClose_nest,
    closeCost_nest, slice_eq_some (show 1 ≤ k + 1 by omega), henv, hm, h1]
  omega

end

end CaddyModel.C18
