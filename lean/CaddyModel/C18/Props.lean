/-
C18 — theorems about the consumers modelled in `Http.lean` and `Rewrite.lean` (the `vars` matchers, the rewrite
handler's `uri` setter with `buildQueryString`), the rows of the provider chain, and the regenerated constant of the
unclosed-placeholder guard.  This module imports every proof module of the directory.
-/
import CaddyModel.C18.Consumers
import CaddyModel.C18.FcgiLemmas
import CaddyModel.C18.CallSites
import CaddyModel.C18.CallSitesTree
import CaddyModel.Gen.Consts

namespace CaddyModel.C18

/-- **matchers see request-derived values verbatim** (`vars`, `vars_regexp`): what reaches the
    comparison / the regular expression is the actual value, whatever placeholder syntax it contains. -/
theorem vars_regexp_sees_value_verbatim (key : Bytes) (r : HttpReq) :
    varsRegexpCaptured key r = some (varValue key r) := rfl

/-- the `vars` matcher expands only the CONFIGURED value -/
theorem vars_matcher_compares_verbatim (key mv : Bytes) (r : HttpReq) (b : Bool)
    (h : varsMatch key mv r = some b) :
    ∃ e, replaceAll mv [] (httpEnv r) = .ok e ∧ b = (varValue key r == e) := by
  rw [varsMatch, expandAll_exact] at h
  exact ⟨_, expandAll_exact _ mv, (Option.some.inj h).symm⟩

/-- the statement is not vacuous: the code as it was before the fix (one more `ReplaceAll` on the
    actual value) violates it — header `X-In: {env.VERIF_C18_SECRET}` reached the regexp as the secret. -/
theorem vars_regexp_old_code_rescans :
    ∃ (key : Bytes) (r : HttpReq), varsRegexpCapturedOld key r ≠ some (varValue key r) :=
  ⟨str "{http.request.header.X-In}", ⟨str "{env.VERIF_C18_SECRET}", [], [47], str "S3CR3T", []⟩, by
    repeat rw [str_ofList]
    decide +kernel⟩

/-- `strings.Cut` only cuts: the two halves and the separator are the text it was given -/
theorem cutAt_eq (c : UInt8) (s b a : Bytes) (h : cutAt c s = some (b, a)) : s = b ++ c :: a := by
  unfold cutAt at h
  cases hh : indexOf c s with
  | none => simp [hh] at h
  | some k =>
    simp [hh] at h
    obtain ⟨rfl, rfl⟩ := h
    rw [← drop_cons_of_get (indexOf_iff.mp hh).1, List.take_append_drop]

/-- **the rewrite handler expands its URI template once.** For a template whose query part is empty (the
    documented `{path}?` idiom and every relative of it), whatever the request's path and query contain:
    the path template is expanded ONE time (`np`, by `single_pass` a single left-to-right cut of the
    TEMPLATE), and the new `RawQuery` is literally the text of `np` behind its first `?` — it is not given
    to the replacer again. Text that came from the request cannot be evaluated. -/
theorem rewrite_injected_query_verbatim (uri : Bytes) (r : RwReq) (o : RwOut)
    (hQ : (splitURI uri).hasQ = true) (hq : (splitURI uri).query = [])
    (h : rewriteURI true uri r = some o) :
    ∃ np, rwNewPath (splitURI uri).path r = .ok np ∧
      o.rawQuery = (match cutAt 63 np with | some (_, a) => a | none => []) := by
  unfold rewriteURI at h
  cases hp : rwNewPath (splitURI uri).path r <;> simp [hp] at h
  rename_i np
  refine ⟨np, rfl, ?_⟩
  simp only [rwNewQuery, hq, hQ] at h
  cases hc : cutAt 63 np <;> simp [hc] at h <;> split at h <;> simp at h <;>
    (rename_i h1 _; cases h1; obtain ⟨-, rfl⟩ := h; rfl)

/-- the new path (still escaped) and the new query of `rewrite_injected_query_verbatim`, put together again, ARE
    that one expansion of the path template -/
theorem rewrite_path_and_query_are_one_expansion (uri : Bytes) (r : RwReq) (o : RwOut)
    (hQ : (splitURI uri).hasQ = true) (hq : (splitURI uri).query = [])
    (h : rewriteURI true uri r = some o) :
    ∃ np, rwNewPath (splitURI uri).path r = .ok np ∧
      ∀ b a, cutAt 63 np = some (b, a) → np = b ++ 63 :: o.rawQuery := by
  obtain ⟨np, h1, h2⟩ := rewrite_injected_query_verbatim uri r o hQ hq h
  refine ⟨np, h1, fun b a hc => ?_⟩
  rw [hc] at h2
  rw [h2]
  exact cutAt_eq 63 np b a hc

/-- the statement is not vacuous: the code as it was before the fix gave the injected query to
    `buildQueryString` — `{uri}?` on `GET /a?q={env.VERIF_C18_SECRET}` put the secret into the query -/
theorem rewrite_old_code_reexpands :
    rewriteURI false (str "{http.request.uri}?") ⟨str "/a", str "q={env.VERIF_C18_SECRET}", str "S3CR3T"⟩
      = some ⟨str "/a", str "q=S3CR3T", []⟩ ∧
    rewriteURI true (str "{http.request.uri}?") ⟨str "/a", str "q={env.VERIF_C18_SECRET}", str "S3CR3T"⟩
      = some ⟨str "/a", str "q={env.VERIF_C18_SECRET}", []⟩ := by
  repeat rw [str_ofList]
  decide +kernel

-- non-vacuity of the hypotheses: the `{file}?` idiom on a path whose last element carries an encoded `?`
set_option maxRecDepth 100000 in
example : (splitURI (str "/files/{http.request.uri.path.file}?")).hasQ = true ∧
    (splitURI (str "/files/{http.request.uri.path.file}?")).query = [] ∧
    rewriteURI true (str "/files/{http.request.uri.path.file}?") ⟨str "/x/a?q={env.VERIF_C18_SECRET}", [], str "S3CR3T"⟩
      = some ⟨str "/files/a", str "q={env.VERIF_C18_SECRET}", []⟩ := by
  repeat rw [str_ofList]
  decide +kernel

theorem hexDigits_alnum (b : UInt8) : isAlnum (hexDigit (b >>> 4)) = true ∧ isAlnum (hexDigit (b &&& 15)) = true := by
  have h : ∀ n : Fin 256, isAlnum (hexDigit ((UInt8.ofNat n.val) >>> 4)) = true ∧
      isAlnum (hexDigit ((UInt8.ofNat n.val) &&& 15)) = true := by
    decide +kernel
  simpa using h ⟨b.toNat, b.toNat_lt⟩

/-- **values substituted into a configured query are inert.** `buildQueryString` writes every substituted
    value through `url.QueryEscape`, whose output consists of letters, digits, `-_.~`, `%` and `+` only: no
    brace, `&`, `=`, `#` or `?` — a request value can neither add a parameter nor look like a placeholder. -/
theorem query_values_are_escaped (v : Bytes) :
    ∀ b ∈ queryEscape v, isAlnum b = true ∨ isMark b = true ∨ b = 37 ∨ b = 43 := by
  intro b hb
  unfold queryEscape at hb
  rw [List.mem_flatMap] at hb
  obtain ⟨x, -, hx⟩ := hb
  split at hx
  · simp at hx; exact Or.inr (Or.inr (Or.inr hx))
  · split at hx
    · rename_i h; simp at hx; subst hx
      rcases Bool.or_eq_true _ _ |>.mp h with h | h
      · exact Or.inl h
      · exact Or.inr (Or.inl h)
    · simp [pctEncode] at hx
      rcases hx with rfl | rfl | rfl
      · exact Or.inr (Or.inr (Or.inl rfl))
      · exact Or.inl (hexDigits_alnum x).1
      · exact Or.inl (hexDigits_alnum x).2

/-- **provider rows hand request text over untouched.** What the header / query-parameter / path /
    `http.vars.` rows of the modelled provider chain return is the request's bytes; the `file.` provider
    returns the file's bytes minus one trailing newline, and an unreadable file is known and empty. -/
theorem provider_rows_are_verbatim (r : HttpReq) :
    cEnv r (str "http.request.header.X-In") = some r.hdrXIn ∧
    cEnv r (str "http.request.uri.query.q") = some r.queryQ ∧
    cEnv r (str "http.request.uri.path") = some r.path ∧
    cEnv r (str "http.vars.v") = some r.varV ∧
    cEnv r (str "env.VERIF_C18_SECRET") = some r.secret ∧
    cEnv r (str "file.c18crlf.txt") = some (str "CRLF-F1LE") ∧
    cEnv r (str "file.no-such-file") = some [] ∧
    cEnv r (str "zz.unk") = none := by
  repeat rw [str_ofList]
  exact ⟨rfl, rfl, rfl, rfl, rfl, rfl, rfl, rfl⟩

/-- **regenerated tie.** The model's "give up after more than 100 unclosed placeholders" is the
    constant the extractor reads out of replacer.go on every run (`Gen/Consts.lean`). -/
theorem unclosed_limit_matches_source : Gen.replacerUnclosedLimit = some 100 := by decide

end CaddyModel.C18
