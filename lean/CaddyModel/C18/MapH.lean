/-
C18 — a consumer of the replacer: the `map` handler (modules/caddyhttp/map/map.go), transliterated.
`ServeHTTP` appends ONE lazy provider to the request's replacer; when a destination placeholder is
evaluated the closure expands the configured source, walks the mappings and answers

  * exact mapping   : `repl.ReplaceAll(output, "")`           — a configured template;
  * regexp mapping  : `re.ExpandString(nil, output, input, m)` — the output with the captured REQUEST
                      text filled in; this is returned as it is, it is NOT given to the replacer;
  * no mapping      : `repl.ReplaceAll(defaults[i], "")`, or `nil, true` without defaults.

The replacer the closure uses is the one it is installed in (so outputs may name other
destinations).  The model is parametric in that replacer, `R : template ↦ expansion`, which is what
the "only configured templates are scanned" theorem quantifies over; `mapEnvD` ties the knot by
depth (the generator keeps configurations acyclic: a cyclic one overflows the Go stack).
-/
import CaddyModel.C18.Regex

namespace CaddyModel.C18

/-! ### the request environment of the consumer streams: `Http.httpEnv` plus the `file.` provider -/

def rwFileName : Bytes := str "c18rwsecret.txt"
def crlfFileName : Bytes := str "c18crlf.txt"
def secretFileContent : Bytes := str "F1LE-C0NTENT-7731"

/-- the files of the streams' working directory -/
def fsContent (name : Bytes) : Option Bytes :=
  if name = rwFileName then some secretFileContent
  else if name = crlfFileName then some (str "CRLF-F1LE" ++ [13, 10])
  else none

def trimSuffixByte (b : UInt8) (s : Bytes) : Bytes := if s.getLast? = some b then s.dropLast else s

/-- `fileReplacementProvider.replace`: an unreadable file is KNOWN and empty; one trailing `\n` and
    then one trailing `\r` are cut off -/
def fileValue (name : Bytes) : Bytes :=
  match fsContent name with
  | some c => trimSuffixByte 13 (trimSuffixByte 10 c)
  | none => []

/-- provider order of the real chain: globals (`env.`), `file.`, static map (empty), HTTP -/
def cEnv (r : HttpReq) : Env := fun key =>
  match stripPrefix (str "file.") key with
  | some name => some (fileValue name)
  | none => httpEnv r key

/-- total `ReplaceAll(t, "")` / `ReplaceKnown(t, "")` (the error outcomes are unreachable:
    `ReplaceProps.replace_never_panics`, `replace_never_runs_out_of_fuel`) -/
def expandAll (env : Env) (t : Bytes) : Bytes :=
  match replaceAll t [] env with
  | .ok o => o
  | _ => []

def expandKnown (env : Env) (t : Bytes) : Bytes :=
  match replaceKnown t [] env with
  | .ok o => o
  | _ => []

/-! ### the handler -/

structure MapMapping where
  isRegexp : Bool                 -- `m.re != nil` (input_regexp configured)
  input : Bytes                   -- `m.Input`
  pat : Pat                       -- `m.re`
  outputs : List (Option Bytes)   -- `m.Outputs`; `none` = JSON null

structure MapCfg where
  source : Bytes
  dests : List Bytes              -- after Provision: without the braces
  mappings : List MapMapping
  defaults : List Bytes

def mapInputKey (m : MapMapping) : Bytes := if m.isRegexp then m.pat.text else m.input

def mapNoDup : List Bytes → Bool
  | [] => true
  | k :: ks => !ks.contains k && mapNoDup ks

/-- `Validate`: defaults and outputs correspond 1:1 to the destinations; no mapping input twice -/
def mapValidate (cfg : MapCfg) : Bool :=
  (cfg.defaults.isEmpty || cfg.defaults.length = cfg.dests.length) &&
  cfg.mappings.all (fun m => m.outputs.length = cfg.dests.length) &&
  mapNoDup (cfg.mappings.map mapInputKey)

inductive MapVal where
  | unknown              -- `nil, false`: not a destination of this handler
  | nil                  -- `nil, true`
  | val (v : Bytes)
  | panic                -- `m.Outputs[destIdx]` out of range (excluded by Validate)
deriving DecidableEq, Repr

inductive MapScan where
  | none
  | found (v : Bytes)
  | panic
deriving DecidableEq, Repr

/-- the `for _, m := range h.Mappings` loop. `reexpand = false` is the code; `true` is the seeded change
    "regexp outputs fall through to the shared ReplaceAll" (kept to show what the statement excludes). -/
def mapScan (reexpand : Bool) (R : Bytes → Bytes) (input : Bytes) (idx : Nat) : List MapMapping → MapScan
  | [] => .none
  | m :: ms =>
    match m.outputs[idx]? with
    | none => .panic
    | some none => mapScan reexpand R input idx ms
    | some (some out) =>
      if m.isRegexp then
        match m.pat.find input with
        | none => mapScan reexpand R input idx ms
        | some mt => .found (if reexpand then R (expand mt.groups out) else expand mt.groups out)
      else if input = m.input then .found (R out)
      else mapScan reexpand R input idx ms

/-- the closure given to `repl.Map` -/
def mapLookup (reexpand : Bool) (R : Bytes → Bytes) (cfg : MapCfg) (key : Bytes) : MapVal :=
  match cfg.dests.idxOf? key with
  | none => .unknown
  | some idx =>
    match mapScan reexpand R (R cfg.source) idx cfg.mappings with
    | .found v => .val v
    | .panic => .panic
    | .none => match cfg.defaults[idx]? with
      | some d => .val (R d)
      | none => .nil

/-- everything the handler may hand to the replacer -/
def mapTemplates (cfg : MapCfg) : List Bytes :=
  cfg.source :: cfg.defaults ++
    (cfg.mappings.filter (fun m => !m.isRegexp)).flatMap (fun m => m.outputs.filterMap id)

/-- the replacer's provider chain with the closure appended behind `base` -/
def withMap (reexpand : Bool) (R : Bytes → Bytes) (cfg : MapCfg) (base : Env) : Env := fun key =>
  match base key with
  | some v => some v
  | none =>
    match mapLookup reexpand R cfg key with
    | .val v => some v
    | .nil => some []
    | _ => none

/-- the replacer that contains the closure that uses the replacer …, unfolded `d` times -/
def mapEnvD (reexpand : Bool) (cfg : MapCfg) (base : Env) : Nat → Env
  | 0 => base
  | d + 1 => withMap reexpand (expandAll (mapEnvD reexpand cfg base d)) cfg base

/-- what the stream observes: `repl.ReplaceAll(probe, "")` behind the handler -/
def mapProbe (reexpand : Bool) (cfg : MapCfg) (probe : Bytes) (r : HttpReq) : Bytes :=
  expandAll (mapEnvD reexpand cfg (cEnv r) 3) probe

end CaddyModel.C18
