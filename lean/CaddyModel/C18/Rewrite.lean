/-
C18 — glue that CONSUMES the replacer: the URI part of `Rewrite.Rewrite`
(modules/caddyhttp/rewrite/rewrite.go) with `buildQueryString`, transliterated.  The URI
template is split into path / query / fragment, `{http.request.uri.path}` is pre-substituted
with the escaped path, every component is expanded, and a query string that "snuck into the
path component during replacements" is split off again.  That injected query is OUTPUT of an
expansion (request text); since the fix commit "rewrite: injected query is not expanded again"
it is stored as it is; before, it went through `buildQueryString` — a second scan
(`rewriteURI false`, kept to show what the statement excludes).

`net/url` is modelled as far as the handler uses it: `EscapedPath` with an empty `RawPath`
(= `escape(Path, encodePath)`), `RequestURI`, `QueryEscape`, `PathUnescape`.
-/
import CaddyModel.C18.Http

namespace CaddyModel.C18

/-! ### net/url -/

def isAlnum (b : UInt8) : Bool := (48 ≤ b && b ≤ 57) || (65 ≤ b && b ≤ 90) || (97 ≤ b && b ≤ 122)

/-- `-` `_` `.` `~` -/
def isMark (b : UInt8) : Bool := b = 45 || b = 95 || b = 46 || b = 126

/-- `$ & + , / : ; = @` (the reserved set of `shouldEscape` without `?`) -/
def isPathReserved (b : UInt8) : Bool :=
  b = 36 || b = 38 || b = 43 || b = 44 || b = 47 || b = 58 || b = 59 || b = 61 || b = 64

def hexDigit (n : UInt8) : UInt8 := if n < 10 then 48 + n else 55 + n

def pctEncode (b : UInt8) : Bytes := [37, hexDigit (b >>> 4), hexDigit (b &&& 15)]

/-- `escape(p, encodePath)`: everything but unreserved and `$&+,/:;=@` is %-encoded (so `?`, `{`, `}`,
    `%`, space, `#` all are) -/
def escapePath (p : Bytes) : Bytes :=
  p.flatMap fun b => if isAlnum b || isMark b || isPathReserved b then [b] else pctEncode b

/-- `url.QueryEscape` -/
def queryEscape (v : Bytes) : Bytes :=
  v.flatMap fun b => if b = 32 then [43] else if isAlnum b || isMark b then [b] else pctEncode b

def isHex (b : UInt8) : Bool := (48 ≤ b && b ≤ 57) || (65 ≤ b && b ≤ 70) || (97 ≤ b && b ≤ 102)

def unhex (b : UInt8) : UInt8 :=
  if 48 ≤ b && b ≤ 57 then b - 48 else if 97 ≤ b && b ≤ 102 then b - 87 else b - 55

inductive PctSt where
  | plain                -- outside an escape
  | pct                  -- just read `%`
  | pct1 (a : UInt8)     -- read `%` and one hex digit
deriving DecidableEq, Repr

/-- `url.PathUnescape` as a three-state scan (structural, so the kernel can run it); `none` = EscapeError:
    a `%` that is not followed by two hex digits -/
def pathUnescapeGo : PctSt → Bytes → Option Bytes
  | .plain, [] => some []
  | .pct, [] => none
  | .pct1 _, [] => none
  | .plain, c :: rest => if c = 37 then pathUnescapeGo .pct rest else (pathUnescapeGo .plain rest).map (c :: ·)
  | .pct, a :: rest => if isHex a then pathUnescapeGo (.pct1 a) rest else none
  | .pct1 a, b :: rest =>
    if isHex b then (pathUnescapeGo .plain rest).map (((unhex a) <<< 4 ||| unhex b) :: ·) else none

def pathUnescape (s : Bytes) : Option Bytes := pathUnescapeGo .plain s

/-! ### strings -/

def hasPrefix : Bytes → Bytes → Bool
  | [], _ => true
  | _ :: _, [] => false
  | p :: ps, k :: ks => p = k && hasPrefix ps ks

/-- `strings.ReplaceAll(s, old, new)` for non-empty `old` -/
def replaceSub (old new : Bytes) : Nat → Bytes → Bytes
  | 0, s => s
  | _ + 1, [] => []
  | fuel + 1, c :: rest =>
    if hasPrefix old (c :: rest) then new ++ replaceSub old new fuel ((c :: rest).drop old.length)
    else c :: replaceSub old new fuel rest

/-- `strings.Cut(s, string(c))` -/
def cutAt (c : UInt8) (s : Bytes) : Option (Bytes × Bytes) :=
  match indexOf c s with
  | some k => some (s.take k, s.drop (k + 1))
  | none => none

/-- where `path.Split(p)` cuts: the index behind the last slash (dir incl. that slash, file) -/
def lastSlash (p : Bytes) : Nat :=
  match indexOf 47 p.reverse with
  | some k => p.length - k
  | none => 0

/-! ### the request as the rewrite handler sees it -/

structure RwReq where
  path : Bytes        -- r.URL.Path (decoded); r.URL.RawPath is empty
  rawQuery : Bytes    -- r.URL.RawQuery
  secret : Bytes      -- value of $VERIF_C18_SECRET

/-- `u.RequestURI()` -/
def requestURI (r : RwReq) : Bytes :=
  (if (escapePath r.path).isEmpty then [47] else escapePath r.path) ++
  (if r.rawQuery.isEmpty then [] else 63 :: r.rawQuery)

/-- what `Replacer.Get` answers for the keys the rewrite stream can form -/
def rwEnv (r : RwReq) : Env := fun key =>
  match stripPrefix (str "env.") key with
  | some name => some (if name = str "VERIF_C18_SECRET" then r.secret else [])
  | none =>
  if key = str "http.request.uri" then some (requestURI r) else
  if key = str "http.request.uri.path" then some r.path else
  if key = str "http.request.uri.path.file" then some (r.path.drop (lastSlash r.path)) else
  if key = str "http.request.uri.path.dir" then some (r.path.take (lastSlash r.path)) else
  if key = str "http.request.uri.query" then some r.rawQuery else
  if key = str "http.request.uri.prefixed_query" then some (if r.rawQuery.isEmpty then [] else 63 :: r.rawQuery) else
  none

/-! ### buildQueryString -/

/-- the `ReplacementFunc` of `buildQueryString`.  It receives the VALUE (`any`): for an unknown key that is
    `nil`, which the `default:` arm prints with `%+v` as `<nil>`; `nilAsText` below feeds exactly that. -/
def bqsFunc (wroteVal : Bool) : Bytes → Bytes → Option Bytes := fun name v =>
  if name = str "http.request.uri.query" && wroteVal then some v else some (queryEscape v)

/-- `ReplaceFunc` treats unknown keys as empty (`val = nil`) and still calls the function: the same as
    looking them up as the text `<nil>` -/
def nilAsText (env : Env) : Env := fun k =>
  match env k with
  | some v => some v
  | none => some (str "<nil>")

/-- `comp, _ = repl.ReplaceFunc(comp, …)`: on an error `comp` is "" -/
def bqsComp (env : Env) (wroteVal : Bool) (comp : Bytes) : Res :=
  outOrEmpty (replaceFunc comp (bqsFunc wroteVal) (nilAsText env))

/-- `nextAmp >= 0 && (nextAmp < nextEq || nextEq < 0)` -/
def ampIsNext (qs : Bytes) : Bool :=
  match indexOf 38 qs, indexOf 61 qs with
  | some a, some e => a < e
  | some _, none => true
  | none, _ => false

/-- end of the component: the next `&` or `=`, whichever comes first, else the end of `qs` -/
def compEnd (qs : Bytes) : Nat :=
  match indexOf 38 qs, indexOf 61 qs with
  | some a, some e => if a < e then a else e
  | some a, none => a
  | none, some e => e
  | none, none => qs.length

/-- the separator written before a component -/
def bqsSep (wroteVal : Bool) (sb comp : Bytes) : Bytes :=
  if wroteVal then (if !sb.isEmpty && !comp.isEmpty then sb ++ [38] else sb) else sb ++ [61]

def bqsLoop (env : Env) : (fuel : Nat) → (qs : Bytes) → (wroteVal : Bool) → (sb : Bytes) → Res
  | 0, _, _, _ => .fuel
  | fuel + 1, qs, wroteVal, sb =>
    if qs.isEmpty then .ok sb
    else
      match bqsComp env wroteVal (qs.take (compEnd qs)) with
      | .ok comp =>
        bqsLoop env fuel (qs.drop (if compEnd qs < qs.length then compEnd qs + 1 else compEnd qs))
          (ampIsNext qs) (bqsSep wroteVal sb comp ++ comp)
      | other => other

def buildQueryString (qs : Bytes) (env : Env) : Res := bqsLoop env (qs.length + 1) qs true []

/-! ### the URI template's three parts -/

def notQF (b : UInt8) : Bool := b != 63 && b != 35
def notF (b : UInt8) : Bool := b != 35

structure UriParts where
  path : Bytes
  hasQ : Bool
  query : Bytes
  hasFrag : Bool
  frag : Bytes
deriving DecidableEq, Repr

/-- what the `loop:` over the template computes (`pathStart ≥ 0` iff the path part is non-empty) -/
def splitURI (uri : Bytes) : UriParts :=
  match uri.dropWhile notQF with
  | [] => ⟨uri.takeWhile notQF, false, [], false, []⟩
  | c :: r =>
    if c = 63 then
      match r.dropWhile notF with
      | [] => ⟨uri.takeWhile notQF, true, r.takeWhile notF, false, []⟩
      | _ :: fr => ⟨uri.takeWhile notQF, true, r.takeWhile notF, true, fr⟩
    else ⟨uri.takeWhile notQF, false, [], true, r⟩

def pathPlaceholder : Bytes := str "{http.request.uri.path}"

/-- `newPath = repl.ReplaceAll(strings.ReplaceAll(path, "{http.request.uri.path}", r.URL.EscapedPath()), "")` -/
def rwPathTemplate (tp : Bytes) (r : RwReq) : Bytes :=
  replaceSub pathPlaceholder (escapePath r.path) (tp.length + 1) tp

def rwNewPath (tp : Bytes) (r : RwReq) : Res :=
  if tp.isEmpty then .ok [] else replaceAll (rwPathTemplate tp r) [] (rwEnv r)

structure RwOut where
  path : Bytes
  rawQuery : Bytes
  frag : Bytes
deriving DecidableEq, Repr

/-- the new query: `fixed = true` is the code as it is now, `false` the code before the fix -/
def rwNewQuery (fixed : Bool) (tq : Bytes) (injected : Option Bytes) (r : RwReq) : Res :=
  if !tq.isEmpty then buildQueryString tq (rwEnv r)
  else match injected with
    | none => .ok []
    | some inj => if fixed then .ok inj else if inj.isEmpty then .ok [] else buildQueryString inj (rwEnv r)

def rwFinalPath (np : Bytes) : Bytes :=
  match pathUnescape np with
  | some p => p
  | none => np

/-- the URI part of `Rewrite.Rewrite`: the request's Path / RawQuery / Fragment afterwards -/
def rewriteURI (fixed : Bool) (uri : Bytes) (r : RwReq) : Option RwOut :=
  match rwNewPath (splitURI uri).path r with
  | .ok np0 =>
    match rwNewQuery fixed (splitURI uri).query ((cutAt 63 np0).map (·.2)) r,
          (if (splitURI uri).frag.isEmpty then Res.ok [] else replaceAll (splitURI uri).frag [] (rwEnv r)) with
    | .ok nq, .ok nf =>
      some ⟨if (splitURI uri).path.isEmpty then r.path
            else rwFinalPath (match cutAt 63 np0 with | some (b, _) => b | none => np0),
           if (splitURI uri).hasQ then nq else r.rawQuery,
           if (splitURI uri).hasFrag then nf else []⟩
    | _, _ => none
  | _ => none

end CaddyModel.C18
