/-
C18 — what every consumer proof shares: the replacer restricted to the configured templates (`onlyTemplates`, with
`onlyTemplates_mem`) and the consumer models' total wrappers identified with `replace` (`expandAll_exact`,
`expandKnown_exact`).
-/
import CaddyModel.C18.ReplaceProps
import CaddyModel.C18.MapH
-- `str_ofList`: the consumer proofs rewrite their `str` literals with it in front of `decide +kernel`; they do so
-- under `repeat`, which does not report a lemma that is not in scope
import CaddyModel.Util.StrLemmas

namespace CaddyModel.C18

def notATemplate : Bytes := str "<not-a-configured-template>"

def onlyTemplates (ts : List Bytes) (R : Bytes → Bytes) : Bytes → Bytes :=
  fun t => if t ∈ ts then R t else notATemplate

theorem onlyTemplates_mem {ts : List Bytes} {R : Bytes → Bytes} {t : Bytes} (h : t ∈ ts) :
    onlyTemplates ts R t = R t := by
  simp [onlyTemplates, h]

/-- the total wrappers the consumer models use ARE `ReplaceAll(·, "")` / `ReplaceKnown(·, "")`: their
    fallback value is never taken (the replacer neither panics nor runs out of fuel, and these two entry
    points drop errors) -/
theorem expandAll_exact (env : Env) (t : Bytes) : replaceAll t [] env = .ok (expandAll env t) :=
  outOrEmpty_replace t env _

theorem expandKnown_exact (env : Env) (t : Bytes) : replaceKnown t [] env = .ok (expandKnown env t) :=
  outOrEmpty_replace t env _

end CaddyModel.C18
