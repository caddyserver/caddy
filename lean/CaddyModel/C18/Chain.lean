/-
C18 — consumers in a row: `vars {v: …}` → `map` → `headers` (response `set`) → `static_response`.
What one handler substituted is the next one's DATA: `{http.vars.v}` and the map destination `{m}` carry
request text through four expansions.  The model composes the consumer models; it is parametric in the
two replacer entry points as functions of the provider chain (`RA` = `ReplaceAll(·, "")`,
`RK` = `ReplaceKnown(·, "")`), which is what `Consumers.chain_scans_only_configured_templates` quantifies over.
-/
import CaddyModel.C18.MapH

namespace CaddyModel.C18

structure ChainCfg where
  varT : Bytes       -- vars: v
  srcT : Bytes       -- map: source
  pat : Pat          -- map: the one regexp mapping …
  reOut : Bytes      -- … and its output (never expanded)
  defT : Bytes       -- map: default
  hdrT : Bytes       -- headers: response set X-Out
  bodyT : Bytes      -- static_response: body

def ChainCfg.map (c : ChainCfg) : MapCfg :=
  ⟨c.srcT, [str "m"], [⟨true, [], c.pat, [some c.reOut]⟩], [c.defT]⟩

def chainTemplates (c : ChainCfg) : List Bytes := [c.varT, c.srcT, c.defT, c.hdrT, c.bodyT]

/-- the provider chain with the map closure, unfolded `d` times, for an arbitrary `ReplaceAll` -/
def mapEnvDR (RA : Env → Bytes → Bytes) (cfg : MapCfg) (base : Env) : Nat → Env
  | 0 => base
  | d + 1 => withMap false (RA (mapEnvDR RA cfg base d)) cfg base

/-- (body, X-Out) -/
def chainServeR (RA RK : Env → Bytes → Bytes) (c : ChainCfg) (r : HttpReq) : Bytes × Bytes :=
  (RK (mapEnvDR RA c.map (cEnv { r with varV := RA (cEnv { r with varV := [] }) c.varT }) 3) c.bodyT,
   RK (mapEnvDR RA c.map (cEnv { r with varV := RA (cEnv { r with varV := [] }) c.varT }) 3) c.hdrT)

def chainServe (c : ChainCfg) (r : HttpReq) : Bytes × Bytes := chainServeR expandAll expandKnown c r

end CaddyModel.C18
