/-
C18 — model of `(*Replacer).replace` (replacer.go), transliterated statement by
statement: cursor `i`, `lastWriteCursor`, `unclosedCount`, `lastEnd` (the remembered
closing brace), the escaped-closer inner loop, the four public modes.  Byte strings are `List UInt8`; `Get` is the
parameter `env`; a `ReplacementFunc` is a parameter `f` acting on the stringified
value.  Go's slice expression `s[lo:hi]` panics when `lo > hi`; the model keeps
that as an explicit `panic` outcome (and `ReplaceProps.lean` proves it is unreachable).
Also here: the facts about the searches the proof modules start from (`indexOf_eq_findIdx?`, `indexOf_iff`, `indexFrom_iff`,
`indexFrom_bounds`, `skipEscaped_ge`, `findClose_eq_at`, `findClose_bounds`) and `no_braces_identity`.
-/
import CaddyModel.Util.Hex

namespace CaddyModel.C18

def phOpen : UInt8 := 123   -- '{'
def phClose : UInt8 := 125  -- '}'
def phEscape : UInt8 := 92  -- '\\'

/-- `strings.IndexByte(s, c)` -/
def indexOf (c : UInt8) : Bytes → Option Nat
  | [] => none
  | x :: xs => if x = c then some 0 else (indexOf c xs).map (· + 1)

/-- `strings.Index(inp[i:], c) + i`, `none` when the Go expression is `< i` -/
def indexFrom (inp : Bytes) (c : UInt8) (i : Nat) : Option Nat :=
  (indexOf c (inp.drop i)).map (· + i)

/-- Go slice expression `inp[lo:hi]`; `none` = run-time panic -/
def slice (inp : Bytes) (lo hi : Nat) : Option Bytes :=
  if lo ≤ hi ∧ hi ≤ inp.length then some ((inp.drop lo).take (hi - lo)) else none

abbrev Env := Bytes → Option Bytes

structure Mode where
  empty : Bytes
  unknownEmpty : Bool      -- treatUnknownAsEmpty
  errEmpty : Bool          -- errOnEmpty
  errUnknown : Bool        -- errOnUnknown
  f : Option (Bytes → Bytes → Option Bytes)   -- ReplacementFunc on (key, ToString val); none = returns error

inductive Res where
  | ok (out : Bytes)
  | tooMany                 -- "too many unclosed placeholders"
  | unknown (key : Bytes)   -- "unrecognized placeholder"
  | emptyVal (key : Bytes)  -- "evaluated placeholder … is empty"
  | funcErr                 -- the ReplacementFunc returned an error
  | panic                   -- slice bounds out of range
  | fuel                    -- model artefact: recursion budget exhausted (proved unreachable)
deriving DecidableEq, Repr

theorem indexOf_eq_findIdx? (c : UInt8) (l : Bytes) : indexOf c l = l.findIdx? (· == c) := by
  induction l with
  | nil => rfl
  | cons x xs ih => simp [indexOf, List.findIdx?_cons, ih]

theorem indexOf_iff {l : Bytes} {c : UInt8} {e : Nat} :
    indexOf c l = some e ↔ l[e]? = some c ∧ ∀ k, k < e → l[k]? ≠ some c := by
  simp only [indexOf_eq_findIdx?, List.findIdx?_eq_some_iff_getElem, beq_iff_eq, List.getElem?_eq_some_iff, ne_eq]
  constructor
  · rintro ⟨h, h1, h2⟩
    exact ⟨⟨h, h1⟩, fun k hk ⟨_, hc⟩ => h2 k hk hc⟩
  · rintro ⟨⟨h, h1⟩, h2⟩
    exact ⟨h, h1, fun j hj hc => h2 j hj ⟨by omega, hc⟩⟩

theorem indexFrom_iff {inp : Bytes} {c : UInt8} {i e : Nat} :
    indexFrom inp c i = some e ↔ i ≤ e ∧ inp[e]? = some c ∧ ∀ k, i ≤ k → k < e → inp[k]? ≠ some c := by
  simp only [indexFrom, Option.map_eq_some_iff, indexOf_iff, List.getElem?_drop]
  constructor
  · rintro ⟨k, ⟨h1, h2⟩, rfl⟩
    refine ⟨Nat.le_add_left i k, Nat.add_comm i k ▸ h1, fun j hj1 hj2 => ?_⟩
    exact Nat.add_sub_cancel' hj1 ▸ h2 (j - i) (by omega)
  · rintro ⟨h1, h2, h3⟩
    refine ⟨e - i, ⟨?_, fun j hj => h3 (i + j) (by omega) (by omega)⟩, Nat.sub_add_cancel h1⟩
    exact (Nat.add_sub_cancel' h1).symm ▸ h2

theorem indexFrom_bounds {inp : Bytes} {c : UInt8} {i e : Nat}
    (h : indexFrom inp c i = some e) : i ≤ e ∧ e < inp.length :=
  have h' := indexFrom_iff.mp h
  ⟨h'.1, (List.getElem?_eq_some_iff.mp h'.2.1).1⟩

/-- the inner loop "look for the first closing brace that is not escaped";
    `none` = `unclosedCount++; continue scan`.  `fuel` bounds the iterations (each one
    moves `e` forward, so `inp.length` suffices; see `skipEscaped_sound`, `skipEscaped_complete` in Lemmas.lean). -/
def skipEscaped (inp : Bytes) : Nat → Nat → Option Nat
  | 0, e => some e
  | fuel + 1, e =>
    if e > 0 ∧ e + 1 < inp.length ∧ inp[e - 1]? = some phEscape then
      match indexFrom inp phClose (e + 1) with
      | none => none
      | some e' => skipEscaped inp fuel e'
    else some e

/-- what one iteration of the `scan` loop decides at an unescaped `{` at `i` -/
inductive Close where
  | unclosed            -- no (acceptable) closing brace: unclosedCount++, continue
  | at (e : Nat)        -- placeholder is inp[i+1:e]
deriving DecidableEq, Repr

def findClose (inp : Bytes) (i : Nat) : Close :=
  match indexFrom inp phClose i with
  | none => .unclosed
  | some e => match skipEscaped inp inp.length e with
    | none => .unclosed
    | some e' => .at e'

theorem skipEscaped_ge (inp : Bytes) : ∀ (fuel e e' : Nat), skipEscaped inp fuel e = some e' →
    e ≤ e' ∧ (e < inp.length → e' < inp.length) := by
  intro fuel e
  fun_induction skipEscaped inp fuel e
  case case2 => nofun
  case case3 hi ih =>
    intro e' h
    have := indexFrom_bounds hi
    have := ih e' h
    omega
  all_goals rintro e' ⟨⟩; simp

theorem findClose_eq_at {inp : Bytes} {i e : Nat} : findClose inp i = .at e ↔
    ∃ e0, indexFrom inp phClose i = some e0 ∧ skipEscaped inp inp.length e0 = some e := by
  unfold findClose
  cases indexFrom inp phClose i with
  | none => simp
  | some e0 => cases h1 : skipEscaped inp inp.length e0 <;> simp [h1]

theorem findClose_bounds {inp : Bytes} {i e : Nat} (h : findClose inp i = .at e) :
    i ≤ e ∧ e < inp.length := by
  obtain ⟨e0, h0, h1⟩ := findClose_eq_at.mp h
  have := indexFrom_bounds h0
  have := skipEscaped_ge inp _ e0 e h1
  omega

/-- `if f != nil { val, err = f(key, val) }; valStr := ToString(val)` — `none` = f returned an error.
    An unknown key that is treated as empty has `val = nil`, and `ToString(nil) = ""`. -/
def Mode.valStr (m : Mode) (key : Bytes) (found : Option Bytes) : Option Bytes :=
  match m.f with
  | none => some (match found with | some v => v | none => [])
  | some f => f key (match found with | some v => v | none => [])

def isBrace (b : UInt8) : Bool := b = phOpen || b = phClose

/-- `i > 0 && input[i-1] == phEscape && (input[i] == phClose || input[i] == phOpen)` -/
def escAt (inp : Bytes) (i : Nat) : Bool :=
  decide (i > 0) && inp[i - 1]? == some phEscape && (match inp[i]? with | some b => isBrace b | none => false)

/-- `input[i] == phOpen` -/
def openAt (inp : Bytes) (i : Nat) : Bool := inp[i]? == some phOpen

/-- "find the end of the placeholder" for the opener at `i`: the closing brace found for the
    previous opener (`ce`, Go's `lastEnd`; `0` = none yet — a real one is `> i ≥ 0`) is reused
    while it lies behind `i`, otherwise it is searched for. -/
def closeAt (inp : Bytes) (i ce : Nat) : Close :=
  if ce > i then .at ce else findClose inp i

/-- the `scan` loop from index `i` on; `sb` is the string builder's content, `ce` is `lastEnd`.
    Structural recursion on `fuel` (every iteration advances `i`, so `inp.length + 1 - i`
    suffices: `replace_never_runs_out_of_fuel` in ReplaceProps.lean). -/
def loop (inp : Bytes) (env : Env) (m : Mode) : (fuel i lwc uc ce : Nat) → (sb : Bytes) → Res
  | 0, _, _, _, _, _ => .fuel
  | fuel + 1, i, lwc, uc, ce, sb =>
  if i < inp.length then
    -- check for escaped braces
    if escAt inp i then
      match slice inp lwc (i - 1) with
      | none => .panic
      | some s => loop inp env m fuel (i + 1) i uc ce (sb ++ s)
    else if !openAt inp i then
      loop inp env m fuel (i + 1) lwc uc ce sb
    else if uc > 100 then
      .tooMany
    else
      match closeAt inp i ce with
      | .unclosed => loop inp env m fuel (i + 1) lwc (uc + 1) ce sb
      | .at e =>
        -- lastEnd = end (a no-op when the cached brace was reused)
        match slice inp lwc i, slice inp (i + 1) e with
        | some pre, some key =>
          -- sb.WriteString(input[lastWriteCursor:i]); val, found := r.Get(key)
          if (env key).isNone ∧ m.errUnknown then .unknown key
          else if (env key).isNone ∧ !m.unknownEmpty then
            loop inp env m fuel (i + 1) i uc e (sb ++ pre)
          else
            match m.valStr key (env key) with
            | none => .funcErr
            | some valStr =>
              if valStr.isEmpty then
                if m.errEmpty then .emptyVal key
                else loop inp env m fuel (e + 1) (e + 1) uc e (sb ++ pre ++ m.empty)
              else loop inp env m fuel (e + 1) (e + 1) uc e (sb ++ pre ++ valStr)
        | _, _ => .panic
  else
    match slice inp lwc inp.length with
    | none => .panic
    | some s => .ok (sb ++ s)

/-- `(*Replacer).replace` -/
def replace (inp : Bytes) (env : Env) (m : Mode) : Res :=
  if !inp.contains phOpen && !inp.contains phClose then .ok inp
  else loop inp env m (inp.length + 1) 0 0 0 0 []

theorem no_braces_identity (inp : Bytes) (env : Env) (m : Mode)
    (h1 : inp.contains phOpen = false) (h2 : inp.contains phClose = false) :
    replace inp env m = .ok inp := by
  unfold replace; rw [h1, h2]; rfl

/-! The four public entry points (what the harness calls). -/

def outOrEmpty : Res → Res
  | .ok o => .ok o
  | .panic => .panic
  | .fuel => .fuel
  | _ => .ok []     -- `out, _ := r.replace(...)`: the error is dropped, out is ""

def replaceAll (inp empty : Bytes) (env : Env) : Res :=
  outOrEmpty (replace inp env ⟨empty, true, false, false, none⟩)

def replaceKnown (inp empty : Bytes) (env : Env) : Res :=
  outOrEmpty (replace inp env ⟨empty, false, false, false, none⟩)

def replaceOrErr (inp : Bytes) (errEmpty errUnknown : Bool) (env : Env) : Res :=
  replace inp env ⟨[], false, errEmpty, errUnknown, none⟩

def replaceFunc (inp : Bytes) (f : Bytes → Bytes → Option Bytes) (env : Env) : Res :=
  replace inp env ⟨[], true, false, false, some f⟩

end CaddyModel.C18
