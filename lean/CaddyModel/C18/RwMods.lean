/-
C18 — a consumer of the replacer: the MODIFIERS of the rewrite handler
(modules/caddyhttp/rewrite/rewrite.go, the part of `Rewrite.Rewrite` behind the `uri` setter):
`strip_path_prefix`, `strip_path_suffix`, one `uri_substring` entry, one `path_regexp` entry, with
`changePath`, `trimPathPrefix`, `caddyhttp.CleanPath` and `URL.EscapedPath` transliterated.
The configured operands are expanded (`ReplaceAll(·, "")`) when their modifier runs — the replacer
reads the URL as the earlier modifiers left it, so it is a function of the URL state — and are then
applied to the request's path / query with plain string functions.  The path and the query themselves
are never given to the replacer.  `path.Clean` is `C07.pathClean`.
-/
import CaddyModel.C18.Regex
import CaddyModel.C07.Model

namespace CaddyModel.C18

structure RwUrl where
  path : Bytes       -- URL.Path
  rawPath : Bytes    -- URL.RawPath
  rawQuery : Bytes   -- URL.RawQuery
deriving DecidableEq, Repr

/-- `validEncoded(s, encodePath)` -/
def validEncodedPath (s : Bytes) : Bool :=
  s.all fun b => isAlnum b || isMark b || isPathReserved b ||
    b = 33 || b = 39 || b = 40 || b = 41 || b = 42 || b = 91 || b = 93 || b = 37

/-- `u.EscapedPath()` -/
def escapedPathOf (u : RwUrl) : Bytes :=
  if !u.rawPath.isEmpty && validEncodedPath u.rawPath && pathUnescape u.rawPath = some u.path then u.rawPath
  else if u.path = [42] then [42]
  else escapePath u.path

/-- `cleanPath`: `path.Clean` that keeps a trailing slash -/
def cleanKeepSlash (p : Bytes) : Bytes :=
  if C07.pathClean p ≠ [47] && p.getLast? = some 47 then C07.pathClean p ++ [47] else C07.pathClean p

/-- the loop of `CleanPath(p, false)`: a `0xff` in front of every slash that follows a slash -/
def markSlashes : Bool → Bytes → Bytes
  | _, [] => []
  | prevSlash, c :: rest =>
    if c = 47 && prevSlash then 255 :: c :: markSlashes true rest else c :: markSlashes (c = 47) rest

/-- `caddyhttp.CleanPath(p, collapseSlashes)` -/
def cleanPathC (p : Bytes) (collapse : Bool) : Bytes :=
  if collapse then cleanKeepSlash p else (cleanKeepSlash (markSlashes false p)).filter (· ≠ 255)

/-- the loop of `trimPathPrefix`; `orig` is the whole escaped path, `plen` is `len(prefix)` -/
def trimGo (orig : Bytes) (plen : Nat) : Nat → Bytes → Bytes → Nat → Bytes
  | 0, _, _, _ => orig
  | fuel + 1, p, pre, iPath =>
    match p, pre with
    | c :: prest, pc :: prerest =>
      if c = 37 && pc ≠ 37 && decide (orig.length ≥ iPath + 3) then
        match pathUnescape (p.take 3) with
        | some [d] =>
          if asciiLower d = asciiLower pc then trimGo orig plen fuel (p.drop 3) prerest (iPath + 3) else orig
        | _ => orig
      else if asciiLower c = asciiLower pc then trimGo orig plen fuel prest prerest (iPath + 1)
      else orig
    | _, _ => if iPath ≥ plen then orig.drop iPath else orig   -- (sic: iPath, not iPrefix)

def trimPathPrefix (ep pre : Bytes) : Bytes := trimGo ep pre.length (ep.length + 1) ep pre 0

/-- `changePath` -/
def changePath (u : RwUrl) (newVal : Bytes → Bytes) : RwUrl :=
  match pathUnescape (newVal (escapedPathOf u)) with
  | some p =>
    if p.isEmpty then
      ⟨newVal u.path, if newVal (escapedPathOf u) = newVal u.path then [] else newVal (escapedPathOf u), u.rawQuery⟩
    else ⟨p, if newVal (escapedPathOf u) = p then [] else newVal (escapedPathOf u), u.rawQuery⟩
  | none =>
    ⟨newVal u.path, if newVal (escapedPathOf u) = newVal u.path then [] else newVal (escapedPathOf u), u.rawQuery⟩

structure RwMods where
  stripPrefix : Bytes            -- "" = not configured
  stripSuffix : Bytes
  subFind : Bytes                -- "" = no uri_substring entry
  subReplace : Bytes
  subLimit : Nat                 -- 0 = no limit
  rePat : Option Pat             -- the path_regexp entry
  reReplace : Bytes

def rwmTemplates (m : RwMods) : List Bytes :=
  [m.stripPrefix, m.stripSuffix, m.subFind, m.subReplace, m.reReplace]

def withSlash (p : Bytes) : Bytes := if p.head? = some 47 then p else 47 :: p

def rwmStripPrefix (R : RwUrl → Bytes → Bytes) (m : RwMods) (u : RwUrl) : RwUrl :=
  if m.stripPrefix.isEmpty then u
  else changePath u fun ep =>
    trimPathPrefix (cleanPathC ep (!containsSub [47, 47] (withSlash (R u m.stripPrefix)))) (withSlash (R u m.stripPrefix))

def rwmStripSuffix (R : RwUrl → Bytes → Bytes) (m : RwMods) (u : RwUrl) : RwUrl :=
  if m.stripSuffix.isEmpty then u
  else changePath u fun ep =>
    (trimPathPrefix (cleanPathC ep (!containsSub [47, 47] (R u m.stripSuffix))).reverse (R u m.stripSuffix).reverse).reverse

def limOf (n : Nat) : Option Nat := if n = 0 then none else some n

/-- `substrReplacer.do`. `rescan = false` is the code; `true` expands the rewritten query string once more
    (a change kept to show what the statement excludes). -/
def rwmSubstring (rescan : Bool) (R : RwUrl → Bytes → Bytes) (m : RwMods) (u : RwUrl) : RwUrl :=
  if m.subFind.isEmpty then u
  else
    { changePath u fun p =>
        strReplace (R u m.subFind) (R u m.subReplace) (limOf m.subLimit) (cleanPathC p (!containsSub [47, 47] m.subFind))
      with rawQuery :=
        if rescan then R u (strReplace (R u m.subFind) (R u m.subReplace) (limOf m.subLimit) u.rawQuery)
        else strReplace (R u m.subFind) (R u m.subReplace) (limOf m.subLimit) u.rawQuery }

def rwmPathRegexp (R : RwUrl → Bytes → Bytes) (m : RwMods) (u : RwUrl) : RwUrl :=
  match m.rePat with
  | some pat => changePath u fun p => pat.replaceAll p (R u m.reReplace)
  | none => u

/-- the modifiers in the order `Rewrite.Rewrite` runs them -/
def rwmApply (rescan : Bool) (R : RwUrl → Bytes → Bytes) (m : RwMods) (u : RwUrl) : RwUrl :=
  rwmPathRegexp R m (rwmSubstring rescan R m (rwmStripSuffix R m (rwmStripPrefix R m u)))

/-- what `Replacer.Get` answers, given the URL as it is now -/
def rwmEnv (secret : Bytes) (u : RwUrl) : Env := fun key =>
  match stripPrefix (str "env.") key with
  | some name => some (if name = str "VERIF_C18_SECRET" then secret else [])
  | none =>
  if key = str "http.request.uri" then
    some ((if (escapedPathOf u).isEmpty then [47] else escapedPathOf u) ++ (if u.rawQuery.isEmpty then [] else 63 :: u.rawQuery)) else
  if key = str "http.request.uri.path" then some u.path else
  if key = str "http.request.uri.query" then some u.rawQuery else
  none

end CaddyModel.C18
