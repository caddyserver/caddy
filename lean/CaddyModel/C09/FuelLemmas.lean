/-
C09 — the proxy loop of the schedule interpreter (`Sched.advance`) never runs out of fuel:
every iteration that goes round again has incremented `retries`, and `tryAgain` refuses once
`retries` reaches `load_balancing.retries`.
-/
import CaddyModel.C09.Lemmas
import CaddyModel.C09.Sched

namespace CaddyModel.C09

/-- `q'` is `q` further along the same loop iteration -/
def Req.Same (q q' : Req) : Prop :=
  q'.par = q.par ∧ q'.retries = q.retries ∧ q'.cfg = q.cfg ∧ q'.holder = q.holder

theorem Req.Same.trans {q q1 q2 : Req} (h1 : q.Same q1) (h2 : q1.Same q2) : q.Same q2 :=
  ⟨h2.1.trans h1.1, h2.2.1.trans h1.2.1, h2.2.2.1.trans h1.2.2.1, h2.2.2.2.trans h1.2.2.2⟩

/-- the iteration of `q` is over and `tryAgain` has answered: request `r` is some `q0.decided …` -/
def DecidedFrom (s : State) (r : Nat) (q : Req) : Prop :=
  ∃ q0 e c, s.reqs[r]? = some (Req.decided q0 e c) ∧ q.Same q0

theorem DecidedFrom.of_same {s : State} {r : Nat} {q q1 : Req} (hd : DecidedFrom s r q1) (h : q.Same q1) :
    DecidedFrom s r q :=
  let ⟨q0, e, c, hq, h0⟩ := hd; ⟨q0, e, c, hq, h.trans h0⟩

theorem noUpstream_ok {s : State} {r : Nat} {q : Req} (hq : s.reqs[r]? = some q) (hpc : q.pc = .start) :
    ∃ s1, step s (.noUpstream r) = some s1 ∧ s1.cfgs = s.cfgs ∧ DecidedFrom s1 r q :=
  ⟨_, (Step.noUpstream hq hpc).sound, rfl, q, _, _, get_set_self hq, rfl, rfl, rfl, rfl⟩

theorem dispatch_ok {s : State} {r : Nat} {q : Req} {h : HostId} (hq : s.reqs[r]? = some q) (hpc : q.pc = .start)
    (hok : dynOk s r q h = true) :
    ∃ s1 q1, step s (.dispatch r h) = some s1 ∧ s1.cfgs = s.cfgs ∧ s1.reqs[r]? = some q1 ∧ q1.pc = .sending h ∧
      q.Same q1 :=
  ⟨_, _, (Step.dispatch hq hpc hok).sound, rfl, get_set_self hq, rfl, rfl, rfl, rfl, rfl⟩

theorem endAttempt_fail_ok {s : State} {r : Nat} {q : Req} {h : HostId} (out : Outcome)
    (hq : s.reqs[r]? = some q) (hpc : q.pc = .sending h) (hk : out.countable = true) :
    ∃ s2, endAttempt s r out = some s2 ∧ s2.cfgs = s.cfgs ∧ DecidedFrom s2 r q := by
  let qa : Req := { q with pc := .exited h out, hist := q.hist ++ [(h, out)] }
  let sa : State := { s with reqs := s.reqs.set r qa, inflight := upd s.inflight h (s.inflight h - 1) }
  have h1 : step s (.finish r out) = some sa := (Step.finish hq hpc).sound
  have hqa : sa.reqs[r]? = some qa := get_set_self hq
  rcases Bool.eq_false_or_eq_true q.par.counting with hc | hc
  · -- countFailure counts: after, then the `go` statement on the entry just appended
    let qb : Req := { qa with pc := .failInc h, lastErr := out.errKind }
    let sb : State := { sa with reqs := sa.reqs.set r qb, fails := upd sa.fails h (sa.fails h + 1),
                                log := sa.log ++ [newFail qa h sa.now (some out)] }
    have h2 : step sa (.after r) = some sb := (Step.afterCount hqa rfl hk hc).sound
    have hqb : sb.reqs[r]? = some qb := get_set_self hqa
    have hsp : isSpawning sb r = true := by simp only [isSpawning, pcOf, hqb]; rfl
    have hlog : sb.log[sb.log.length - 1]? = some (newFail qa h sa.now (some out)) := by
      show (sa.log ++ [_])[(sa.log ++ [_]).length - 1]? = _
      simp
    let sc : State := { sb with reqs := sb.reqs.set r (qb.decided qb.lastErr (canceled sb qb.cfg)),
                                log := sb.log.set (sb.log.length - 1) { newFail qa h sa.now (some out) with st := .waiting } }
    have h3 : step sb (.spawn r (sb.log.length - 1)) = some sc :=
      (Step.spawnOut hqb hlog rfl (spawnOk_iff.mpr ⟨rfl, rfl, rfl⟩)).sound
    exact ⟨sc, by simp only [endAttempt, h1, h2, spawnLast, hsp, if_true, h3], rfl,
      qb, _, _, get_set_self hqb, rfl, rfl, rfl, rfl⟩
  · -- countFailure is a no-op: straight to tryAgain, nothing to spawn
    let sb : State := { sa with reqs := sa.reqs.set r (qa.decided out.errKind (canceled sa qa.cfg)) }
    have h2 : step sa (.after r) = some sb := (Step.afterSkip hqa rfl hk hc).sound
    have hqb : sb.reqs[r]? = some (qa.decided out.errKind (canceled sa qa.cfg)) := get_set_self hqa
    have hsp : isSpawning sb r = false := by
      simp only [isSpawning, pcOf, hqb]
      rcases decided_pc qa out.errKind (canceled sa qa.cfg) with hp | hp <;> simp [hp]
    exact ⟨sb, by simp only [endAttempt, h1, h2, spawnLast, hsp]; rfl, rfl, qa, _, _, hqb, rfl, rfl, rfl, rfl⟩

theorem isDone_false_start {s : State} {r : Nat} {q : Req} (hd : DecidedFrom s r q) (hnd : isDone s r = false) :
    ∃ q1, s.reqs[r]? = some q1 ∧ q1.pc = .start ∧ q1.par = q.par ∧ q1.cfg = q.cfg ∧
      q1.retries = q.retries + 1 ∧ q.retries < q.par.retries ∧ q1.holder = q.holder := by
  obtain ⟨q0, e, c, hq, hp, hr, hc, hh⟩ := hd
  have hne : (q0.decided e c).pc ≠ .done := by
    intro h; simp [isDone, pcOf, hq, h] at hnd
  obtain ⟨h1, h2, h3⟩ := decided_start hne
  exact ⟨_, hq, h1, by simp [hp], by simp [hc], by omega, by rw [← hr, ← hp]; exact h3, by simp [hh]⟩

theorem isSome_ite {α : Type} {c : Prop} [Decidable c] {a b : Option α} (ha : c → a.isSome = true)
    (hb : ¬ c → b.isSome = true) : (if c then a else b).isSome = true := by
  split
  · exact ha ‹_›
  · exact hb ‹_›

theorem advance_never_runs_out_of_fuel (fuel : Nat) (d : DState) (r : Nat) (q : Req)
    (hq : d.s.reqs[r]? = some q) (hpc : q.pc = .start) (hcfg : ∃ cs, d.s.cfgs[q.cfg]? = some cs)
    (hdyn : q.par.dynamic = false ∨ q.holder = none)
    (hf : q.par.retries - q.retries + 1 ≤ fuel) : (advance fuel d r).isSome = true := by
  induction fuel generalizing d q with
  | zero => omega
  | succ fuel ih =>
    obtain ⟨cs, hcs⟩ := hcfg
    -- an iteration has left the request decided: it has returned, or it goes round with one retry more behind it
    have again : ∀ s1, s1.cfgs = d.s.cfgs → DecidedFrom s1 r q →
        (if isDone s1 r then some (s1, "err") else advance fuel { d with s := s1 } r).isSome = true := by
      intro s1 hc1 hd1
      refine isSome_ite (fun _ => rfl) fun hnd => ?_
      obtain ⟨q1, hq1, hp1, hpar, hcf, hr1, hlt, hho⟩ := isDone_false_start hd1 (by simpa using hnd)
      exact ih { d with s := s1 } q1 hq1 hp1 ⟨cs, by simp only [hc1, hcf]; exact hcs⟩ (by rw [hpar, hho]; exact hdyn)
        (by rw [hpar, hr1]; omega)
    simp only [advance, hq, hcs]
    split
    next hsel =>
      obtain ⟨s1, h1, hc1, hd1⟩ := noUpstream_ok hq hpc
      simp only [h1]
      exact again s1 hc1 hd1
    next u hsel =>
      obtain ⟨s1, q1, h1, hc1, hq1, hp1, hsame⟩ :=
        dispatch_ok hq hpc (dynOk_static hdyn hcs (firstAvailableFrom_mem hsel))
      refine isSome_ite (fun _ => ?_) fun _ => ?_
      · simp only [(Step.dialInfoFails hq hpc).sound]; rfl
      · simp only [h1]
        refine isSome_ite (fun _ => ?_) fun _ => rfl
        obtain ⟨s2, h2, hc2, hd2⟩ := endAttempt_fail_ok .dialRefused hq1 hp1 rfl
        simp only [h2]
        exact again s2 (hc2.trans hc1) (hd2.of_same hsame)

end CaddyModel.C09
