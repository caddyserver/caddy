/-
C09 — sums over lists under `set`/append; the guards and small functions of the model read once; the inductive
invariant `Inv` of the counters.

Requests and counted failures are tokens in two lists, and every counter equation of `Inv` compares
a counter with a sum of weights (0/1, `failedAttemptsW` apart) over a list.  A step takes a few tokens out and puts a few in
(a rewritten element leaves and enters), so `Inv` survives if the weights of what moved balance:
`inv_move`, with conditions about the handful of tokens that moved and none about the lists.
-/
import CaddyModel.C09.Spec
import CaddyModel.C09.Steps

namespace CaddyModel.C09

theorem total_snoc {α : Type} (f : α → Nat) (l : List α) (x : α) : total f (l ++ [x]) = total f l + f x := by
  induction l with
  | nil => simp [total]
  | cons a as ih => simp only [List.cons_append, total, ih]; omega

theorem total_set {α : Type} (f : α → Nat) (l : List α) (i : Nat) (x y : α) (h : l[i]? = some y) :
    total f (l.set i x) + f y = total f l + f x := by
  induction l generalizing i with
  | nil => simp at h
  | cons a as ih =>
    cases i with
    | zero => simp at h; subst h; simp [total]; omega
    | succ j => simp at h; have := ih j h; simp [total]; omega

theorem total_congr {α : Type} (f g : α → Nat) (l : List α) (h : ∀ x ∈ l, f x = g x) : total f l = total g l := by
  induction l with
  | nil => rfl
  | cons a as ih =>
    simp only [total, h a (by simp)]
    rw [ih (fun x hx => h x (by simp [hx]))]

theorem total_zero {α : Type} (f : α → Nat) (l : List α) (h : ∀ x ∈ l, f x = 0) : total f l = 0 := by
  induction l with
  | nil => rfl
  | cons a as ih =>
    simp only [total, h a (by simp)]
    rw [ih (fun x hx => h x (by simp [hx]))]

theorem le_total_of_mem {α : Type} (f : α → Nat) (l : List α) (x : α) (h : x ∈ l) : f x ≤ total f l := by
  induction l with
  | nil => simp at h
  | cons a as ih =>
    simp only [total]
    rcases List.mem_cons.mp h with h | h
    · subst h; omega
    · have := ih h; omega

theorem forall_mem_set {α : Type} {l : List α} {i : Nat} {y : α} {P : α → Prop} (h : ∀ x ∈ l, P x) (hy : P y) :
    ∀ x ∈ l.set i y, P x := by
  intro x hx
  rcases List.mem_or_eq_of_mem_set hx with hm | hm
  · exact h x hm
  · exact hm ▸ hy

@[simp] theorem upd_same {α : Type} (f : Nat → α) (i : Nat) (v : α) : upd f i v i = v := by simp [upd]

theorem upd_other {α : Type} {f : Nat → α} {i j : Nat} {v : α} (h : j ≠ i) : upd f i v j = f j := by
  simp [upd, h]

@[simp] theorem b2n_true : b2n true = 1 := rfl
@[simp] theorem b2n_false : b2n false = 0 := rfl

theorem b2n_le_one (b : Bool) : b2n b ≤ 1 := by cases b <;> simp

theorem total_b2n_eq_filter_length {α : Type} (P : α → Bool) (l : List α) :
    total (fun x => b2n (P x)) l = (l.filter P).length := by
  induction l with
  | nil => rfl
  | cons a as ih =>
    simp only [total, List.filter_cons, ih]
    cases P a <;> simp <;> omega

theorem upd_succ (f : Nat → Int) (h o : Nat) : upd f h (f h + 1) o = f o + b2n (h == o) := by
  by_cases ho : o = h
  · subst ho; simp
  · simp [upd_other ho, beq_eq_false_iff_ne.mpr (Ne.symm ho)]

theorem upd_pred (f : Nat → Int) (h o : Nat) : upd f h (f h - 1) o = f o - b2n (h == o) := by
  by_cases ho : o = h
  · subst ho; simp
  · simp [upd_other ho, beq_eq_false_iff_ne.mpr (Ne.symm ho)]

@[simp] theorem fst_ne3 : (FSt.forgotten != FSt.forgotten) = false := by decide
@[simp] theorem fst_eq3 : (FSt.counted == FSt.counted) = true := by decide

-- `simp` does not evaluate `==` / `!=` between two different constructors of `FSt` by itself
@[simp] theorem fst_ne1 : (FSt.counted != FSt.forgotten) = true := by decide
@[simp] theorem fst_ne2 : (FSt.waiting != FSt.forgotten) = true := by decide
@[simp] theorem fst_eq1 : (FSt.waiting == FSt.counted) = false := by decide
@[simp] theorem fst_eq2 : (FSt.forgotten == FSt.counted) = false := by decide

theorem inWindow_eq_false {s : State} {e : Fail} :
    inWindow s e = false ↔ e.exp ≤ s.now ∨ canceled s e.cfg = true := by
  simp only [inWindow, Bool.and_eq_false_iff, decide_eq_false_iff_not, Nat.not_lt, Bool.not_eq_false']

theorem spawnOk_iff {q : Req} {h : HostId} {e : Fail} :
    spawnOk q h e = true ↔ e.st = .counted ∧ e.host = h ∧ e.cfg = q.cfg := by
  simp [spawnOk, and_assoc]

theorem forgetOk_iff {s : State} {e : Fail} :
    forgetOk s e = true ↔ e.st = .waiting ∧ (e.exp ≤ s.now ∨ canceled s e.cfg = true) := by
  simp [forgetOk]

theorem any_snd_eq {l : List (Key × HostId)} {h : HostId} : l.any (·.2 == h) = true ↔ ∃ k, (k, h) ∈ l := by
  simp only [List.any_eq_true, beq_iff_eq]
  exact ⟨fun ⟨x, hx, e⟩ => ⟨x.1, e ▸ hx⟩, fun ⟨k, hk⟩ => ⟨(k, h), hk, rfl⟩⟩

theorem dynOk_holder {s : State} {r : Nat} {q : Req} {h : HostId} {c : CfgId}
    (hd : q.par.dynamic = true) (hh : q.holder = some c) :
    dynOk s r q h = true ↔
      ∃ cs : CfgSt, s.cfgs[c]? = some cs ∧ cs.canceled = false ∧ cs.owner = some r ∧ ∃ k, (k, h) ∈ cs.ups := by
  simp only [dynOk, hd, if_true, hh]
  cases s.cfgs[c]? with
  | none => simp
  | some cs => simp only [Bool.and_eq_true, Bool.not_eq_true', beq_iff_eq, any_snd_eq, Option.some.injEq, exists_eq_left',
      and_assoc]

theorem dynOk_noHolder {s : State} {r : Nat} {q : Req} {h : HostId}
    (hd : q.par.dynamic = true) (hh : q.holder = none) :
    dynOk s r q h = true ↔ ∃ cs : CfgSt, s.cfgs[q.cfg]? = some cs ∧ ∃ k, (k, h) ∈ cs.ups := by
  simp only [dynOk, hd, if_true, hh]
  cases s.cfgs[q.cfg]? with
  | none => simp
  | some cs => simp only [any_snd_eq, Option.some.injEq, exists_eq_left']

theorem dynOk_static {s : State} {r : Nat} {q : Req} {cs : CfgSt} {u : Key × HostId}
    (hm : q.par.dynamic = false ∨ q.holder = none) (hcs : s.cfgs[q.cfg]? = some cs) (hu : u ∈ cs.ups) :
    dynOk s r q u.2 = true := by
  cases hd : q.par.dynamic with
  | false => simp [dynOk, hd]
  | true => exact (dynOk_noHolder hd (hm.resolve_left (by simp [hd]))).mpr ⟨cs, hcs, u.1, hu⟩

/-- selection never returns an upstream the active checker holds down (hosts.go Healthy() starts
    with the active status): what `first` returns is a position that is not marked down and is
    available by the passive rules -/
theorem selection_skips_actively_down {p : Params} {s : State} {dn : Nat → Bool} {i : Nat}
    {ups : List (Key × HostId)} {u : Key × HostId} (h : firstAvailableFrom p s dn i ups = some u) :
    ∃ j, ups[j]? = some u ∧ dn (i + j) = false ∧ available p (i + j) s u.2 = true := by
  fun_induction firstAvailableFrom p s dn i ups with
  | case1 => cases h
  | case2 i a as hc =>
    cases h
    simp only [Bool.and_eq_true, Bool.not_eq_true'] at hc
    exact ⟨0, rfl, hc.1, hc.2⟩
  | case3 i a as _ ih =>
    obtain ⟨j, h1, h2, h3⟩ := ih h
    rw [Nat.add_assoc, Nat.add_comm 1 j] at h2 h3
    exact ⟨j + 1, h1, h2, h3⟩

theorem firstAvailableFrom_mem {p : Params} {s : State} {dn : Nat → Bool} {i : Nat} {ups : List (Key × HostId)}
    {u : Key × HostId} (h : firstAvailableFrom p s dn i ups = some u) : u ∈ ups :=
  let ⟨_, hj, _⟩ := selection_skips_actively_down h; List.mem_of_getElem? hj

theorem ownerIdle_iff {s : State} {cs : CfgSt} {r : Nat} (how : cs.owner = some r) :
    ownerIdle s cs = true ↔ ∀ q, s.reqs[r]? = some q → q.pc.hostOf = none := by
  simp only [ownerIdle, how]
  cases s.reqs[r]? <;> simp

theorem decided_pc (q : Req) (e : ErrKind) (c : Bool) :
    (q.decided e c).pc = .start ∨ (q.decided e c).pc = .done := by
  unfold Req.decided; split <;> simp

@[simp] theorem decided_cfg (q : Req) (e : ErrKind) (c : Bool) : (q.decided e c).cfg = q.cfg := by
  unfold Req.decided; split <;> rfl

@[simp] theorem decided_par (q : Req) (e : ErrKind) (c : Bool) : (q.decided e c).par = q.par := by
  unfold Req.decided; split <;> rfl

@[simp] theorem decided_hist (q : Req) (e : ErrKind) (c : Bool) : (q.decided e c).hist = q.hist := by
  unfold Req.decided; split <;> rfl

@[simp] theorem decided_holder (q : Req) (e : ErrKind) (c : Bool) : (q.decided e c).holder = q.holder := by
  unfold Req.decided; split <;> rfl

@[simp] theorem decided_incs (q : Req) (e : ErrKind) (c : Bool) : (q.decided e c).incs = q.incs := by
  unfold Req.decided; split <;> rfl

@[simp] theorem decided_hostOf (q : Req) (e : ErrKind) (c : Bool) : (q.decided e c).pc.hostOf = none := by
  rcases decided_pc q e c with h | h <;> simp [h, Pc.hostOf]

@[simp] theorem decided_inFlightW (o : HostId) (q : Req) (e : ErrKind) (c : Bool) : inFlightW o (q.decided e c) = 0 := by
  rcases decided_pc q e c with h | h <;> simp [inFlightW, h, Pc.inFlightOn]

@[simp] theorem decided_spawnerW (o : HostId) (c' : CfgId) (q : Req) (e : ErrKind) (c : Bool) :
    spawnerW o c' (q.decided e c) = 0 := by
  rcases decided_pc q e c with h | h <;> simp [spawnerW, h, Pc.spawningOn]

@[simp] theorem decided_aboutToCountW (o : HostId) (q : Req) (e : ErrKind) (c : Bool) :
    aboutToCountW o (q.decided e c) = 0 := by
  rcases decided_pc q e c with h | h <;> simp [aboutToCountW, h, Pc.owesCountOn]

@[simp] theorem decided_failedAttemptsW (o : HostId) (q : Req) (e : ErrKind) (c : Bool) :
    failedAttemptsW o (q.decided e c) = failedAttemptsW o q := by
  simp [failedAttemptsW]

theorem tryAgain_lt {p : Params} {n : Nat} {e : ErrKind} {g c : Bool} (h : tryAgain p n e g c = true) : n < p.retries := by
  simp only [tryAgain, Bool.and_eq_true, decide_eq_true_eq] at h
  exact h.1.1.2

theorem decided_start {q : Req} {e : ErrKind} {c : Bool} (h : (q.decided e c).pc ≠ .done) :
    (q.decided e c).pc = .start ∧ (q.decided e c).retries = q.retries + 1 ∧ q.retries < q.par.retries := by
  unfold Req.decided at h ⊢
  split
  next ht => exact ⟨rfl, rfl, tryAgain_lt ht⟩
  next hf => simp [hf] at h

def Pc.inFlight : Pc → Bool
  | .sending _ => true
  | .strikeInc _ => true
  | _ => false

def Pc.notStart : Pc → Bool
  | .start => false
  | _ => true

/-- the ghost counts of one request agree with where it stands: every increment but the one of
    an attempt in flight has been matched, and the attempts made so far are within `retries + 1` -/
def Req.Wf (q : Req) : Prop :=
  q.incs = q.hist.length + b2n q.pc.inFlight ∧ q.retries ≤ q.par.retries ∧ q.incs ≤ q.retries + b2n q.pc.notStart

/-- `tryAgain` only says yes while `retries < load_balancing.retries`: the retry counter never
    exceeds the configured number, and the attempts made never exceed it by more than one -/
theorem decided_wf {q : Req} (e : ErrKind) (c : Bool) (hf : q.pc.inFlight = false) (h : q.Wf) : (q.decided e c).Wf := by
  obtain ⟨h1, h2, h3⟩ := h
  have h3' : q.incs ≤ q.retries + 1 := Nat.le_trans h3 (Nat.add_le_add_left (b2n_le_one _) _)
  rw [hf] at h1
  unfold Req.decided
  split
  next ht => exact ⟨h1, tryAgain_lt ht, h3'⟩
  next => exact ⟨h1, h2, h3'⟩

theorem canceled_set {s s' : State} {c x : CfgId} {cs cs' : CfgSt} (hc : s.cfgs[c]? = some cs)
    (h' : s'.cfgs = s.cfgs.set c cs') (hm : cs.canceled = true → cs'.canceled = true)
    (hx : canceled s x = true) : canceled s' x = true := by
  unfold canceled at hx ⊢
  rw [h']
  by_cases hxc : x = c
  · subst hxc
    rw [hc] at hx
    simp [get_set_self hc, hm hx]
  · rw [List.getElem?_set_ne (Ne.symm hxc)]; exact hx

theorem canceled_append {s s' : State} {x : CfgId} {cs' : CfgSt} (h' : s'.cfgs = s.cfgs ++ [cs'])
    (hx : canceled s x = true) : canceled s' x = true := by
  unfold canceled at hx ⊢
  split at hx
  next cs hc => rw [h', List.getElem?_append_left (lt_of_get hc), hc]; exact hx
  next => cases hx

-- `counted_eq` is what makes the free index of `spawn` harmless: any counted entry of the same Host and handler is as good
-- as the one this request appended.  `retry_ok`: one attempt per loop iteration — `retries` counts the iterations that went
-- round again, `notStart` adds the one that is running.
structure Inv (s : State) : Prop where
  inflight_eq : ∀ o, s.inflight o = (sendingCount s o : Int)
  fails_eq : ∀ o, s.fails o = (pendingForgetters s o : Int)
  counted_eq : ∀ o c, countedNotSpawned s o c = spawners s o c
  forgotten_due : ∀ e ∈ s.log, e.st = .forgotten → (e.exp ≤ s.now ∨ canceled s e.cfg = true)
  entry_ok : ∀ e ∈ s.log, e.t0 ≤ s.now ∧ 0 < e.dur
  req_ok : ∀ q ∈ s.reqs, q.incs = q.hist.length + b2n q.pc.inFlight
  retry_ok : ∀ q ∈ s.reqs, q.retries ≤ q.par.retries ∧ q.incs ≤ q.retries + b2n q.pc.notStart
  attempts_eq : ∀ o, countedAttempts s o + aboutToCount s o = failedAttempts s o
  src_countable : ∀ e ∈ s.log, ∀ out, e.src = some out → out.countable = true

theorem inv_init : Inv init := by
  refine ⟨?_, ?_, ?_, ?_, ?_, ?_, ?_, ?_, ?_⟩ <;> simp [init, sendingCount, pendingForgetters, countedNotSpawned,
    spawners, countedAttempts, aboutToCount, failedAttempts, total]

theorem Inv.wf {s : State} (hi : Inv s) {q : Req} (hq : q ∈ s.reqs) : q.Wf :=
  ⟨hi.req_ok q hq, hi.retry_ok q hq⟩

/-- steps that only touch configurations / the pool / the active status / the clock: `now` and `canceled` only grow -/
theorem inv_cfg_only {s s' : State} (hi : Inv s)
    (h1 : s.now ≤ s'.now) (h2 : s'.inflight = s.inflight) (h3 : s'.fails = s.fails) (h4 : s'.reqs = s.reqs)
    (h5 : s'.log = s.log) (hc : ∀ x, canceled s x = true → canceled s' x = true) : Inv s' := by
  refine ⟨?_, ?_, ?_, ?_, ?_, ?_, ?_, ?_, ?_⟩
  · intro o; simp only [sendingCount, h2, h4]; exact hi.inflight_eq o
  · intro o; simp only [pendingForgetters, h3, h5]; exact hi.fails_eq o
  · intro o c; simp only [countedNotSpawned, spawners, h4, h5]; exact hi.counted_eq o c
  · intro e he hf
    rw [h5] at he
    rcases hi.forgotten_due e he hf with h | h
    · left; exact Nat.le_trans h h1
    · right; exact hc _ h
  · intro e he; rw [h5] at he; exact ⟨Nat.le_trans (hi.entry_ok e he).1 h1, (hi.entry_ok e he).2⟩
  · intro q hq; rw [h4] at hq; exact hi.req_ok q hq
  · intro q hq; rw [h4] at hq; exact hi.retry_ok q hq
  · intro o; simp only [countedAttempts, aboutToCount, failedAttempts, h4, h5]; exact hi.attempts_eq o
  · intro e he; rw [h5] at he; exact hi.src_countable e he

def Fail.Ok (s : State) (e : Fail) : Prop :=
  (e.st = .forgotten → e.exp ≤ s.now ∨ canceled s e.cfg = true) ∧ (e.t0 ≤ s.now ∧ 0 < e.dur) ∧
    ∀ out, e.src = some out → out.countable = true

theorem Inv.entry {s : State} (hi : Inv s) {e : Fail} (he : e ∈ s.log) : e.Ok s :=
  ⟨hi.forgotten_due e he, hi.entry_ok e he, hi.src_countable e he⟩

/-- `hfl`, `hfa`, `hsp`, `hat` are the balances behind `inflight_eq`, `fails_eq`, `counted_eq`, `attempts_eq`; the per-token
    clauses come from `hrw` and `hlo` — the latter about the old `s`, since `now` and `cfgs` are not among the fields updated -/
theorem inv_move {s : State} {reqs' rOut rIn : List Req} {log' lOut lIn : List Fail} {infl fl : HostId → Int} (hi : Inv s)
    (hr : ∀ f : Req → Nat, total f reqs' + total f rOut = total f s.reqs + total f rIn) (hrw : ∀ x ∈ reqs', x.Wf)
    (hl : ∀ f : Fail → Nat, total f log' + total f lOut = total f s.log + total f lIn) (hlo : ∀ e ∈ log', e.Ok s)
    (hfl : ∀ o, infl o + total (inFlightW o) rOut = s.inflight o + total (inFlightW o) rIn)
    (hfa : ∀ o, fl o + total (pendingW o) lOut = s.fails o + total (pendingW o) lIn)
    (hsp : ∀ o c, total (countedW o c) lIn + total (spawnerW o c) rOut =
      total (countedW o c) lOut + total (spawnerW o c) rIn)
    (hat : ∀ o, total (countedAttemptW o) lIn + total (aboutToCountW o) rIn + total (failedAttemptsW o) rOut =
      total (countedAttemptW o) lOut + total (aboutToCountW o) rOut + total (failedAttemptsW o) rIn) :
    Inv { s with reqs := reqs', log := log', inflight := infl, fails := fl } := by
  refine ⟨?_, ?_, ?_, fun e he => (hlo e he).1, fun e he => (hlo e he).2.1, fun x hx => (hrw x hx).1,
    fun x hx => (hrw x hx).2, ?_, fun e he => (hlo e he).2.2⟩
  · intro o
    have e1 : s.inflight o = (total (inFlightW o) s.reqs : Nat) := hi.inflight_eq o
    have e2 := hr (inFlightW o)
    have e3 := hfl o
    show infl o = (total (inFlightW o) reqs' : Nat)
    omega
  · intro o
    have e1 : s.fails o = (total (pendingW o) s.log : Nat) := hi.fails_eq o
    have e2 := hl (pendingW o)
    have e3 := hfa o
    show fl o = (total (pendingW o) log' : Nat)
    omega
  · intro o c
    have e1 : total (countedW o c) s.log = total (spawnerW o c) s.reqs := hi.counted_eq o c
    have e2 := hl (countedW o c)
    have e3 := hr (spawnerW o c)
    have e4 := hsp o c
    show total (countedW o c) log' = total (spawnerW o c) reqs'
    omega
  · intro o
    have e1 : total (countedAttemptW o) s.log + total (aboutToCountW o) s.reqs = total (failedAttemptsW o) s.reqs :=
      hi.attempts_eq o
    have e2 := hl (countedAttemptW o)
    have e3 := hr (aboutToCountW o)
    have e4 := hr (failedAttemptsW o)
    have e5 := hat o
    show total (countedAttemptW o) log' + total (aboutToCountW o) reqs' = total (failedAttemptsW o) reqs'
    omega

theorem total_singleton {α : Type} (f : α → Nat) (x : α) : total f [x] = f x := Nat.add_zero _

theorem total_set_singleton {α : Type} {l : List α} {i : Nat} {y : α} (x : α) (h : l[i]? = some y) (f : α → Nat) :
    total f (l.set i x) + total f [y] = total f l + total f [x] := by
  rw [total_singleton, total_singleton]; exact total_set f l i x y h

theorem wf_set {s : State} {r : Nat} {q q' : Req} (hi : Inv s) (hq : s.reqs[r]? = some q) (hw : q.Wf → q'.Wf) :
    ∀ x ∈ s.reqs.set r q', x.Wf :=
  forall_mem_set (fun _ => hi.wf) (hw (hi.wf (List.mem_of_getElem? hq)))

theorem inv_set_req {s : State} {r : Nat} {q q' : Req} {infl : HostId → Int} (hi : Inv s) (hq : s.reqs[r]? = some q)
    (hfl : ∀ o, infl o + inFlightW o q = s.inflight o + inFlightW o q')
    (hsp : ∀ o c, spawnerW o c q' = spawnerW o c q) (hw : q.Wf → q'.Wf)
    (hat : ∀ o, aboutToCountW o q' + failedAttemptsW o q = aboutToCountW o q + failedAttemptsW o q') :
    Inv { s with reqs := s.reqs.set r q', inflight := infl } :=
  inv_move (lOut := []) (lIn := []) hi (total_set_singleton q' hq) (wf_set hi hq hw) (fun _ => rfl) (fun _ => hi.entry)
    (by simpa only [total_singleton] using hfl) (fun _ => rfl)
    (fun o c => by simp only [total, Nat.add_zero, Nat.zero_add, hsp o c])
    (fun o => by simpa only [total, Nat.add_zero, Nat.zero_add] using hat o)

/-- `countFailure` up to its `go` statement -/
theorem inv_count {s : State} {r : Nat} {q q' : Req} {h : HostId} {src : Option Outcome} (hi : Inv s)
    (hq : s.reqs[r]? = some q) (hc : q.par.counting = true) (hsrc : ∀ out, src = some out → out.countable = true)
    (hfl : ∀ o, inFlightW o q' = inFlightW o q)
    (hsp : ∀ o c, spawnerW o c q' = spawnerW o c q + countedW o c (newFail q h s.now src)) (hw : q.Wf → q'.Wf)
    (hat : ∀ o, countedAttemptW o (newFail q h s.now src) + aboutToCountW o q' + failedAttemptsW o q =
      aboutToCountW o q + failedAttemptsW o q') :
    Inv { s with reqs := s.reqs.set r q', fails := upd s.fails h (s.fails h + 1),
                 log := s.log ++ [newFail q h s.now src] } := by
  refine inv_move (lOut := []) (lIn := [newFail q h s.now src]) hi (total_set_singleton q' hq) (wf_set hi hq hw)
    (fun f => total_snoc f _ _) ?_ (fun o => by rw [total_singleton, total_singleton, hfl o]) ?_ ?_ ?_
  · refine List.forall_mem_append.mpr ⟨fun _ => hi.entry, List.forall_mem_singleton.mpr ?_⟩
    simp only [Params.counting, Bool.and_eq_true, bne_iff_ne] at hc
    exact ⟨(fun hf => nomatch hf), ⟨Nat.le_refl _, Nat.pos_of_ne_zero hc.2⟩, hsrc⟩
  · intro o; simp [upd_succ, total, pendingW, newFail]
  · intro o c; simp only [total, Nat.add_zero, hsp o c]; omega
  · intro o; simpa only [total, Nat.add_zero, Nat.zero_add] using hat o

theorem ok_set {s : State} {i : Nat} {e : Fail} {st : FSt} (hi : Inv s) (he : s.log[i]? = some e)
    (hf : st = .forgotten → e.exp ≤ s.now ∨ canceled s e.cfg = true) : ∀ x ∈ s.log.set i { e with st := st }, x.Ok s :=
  forall_mem_set (fun _ => hi.entry) ⟨hf, (hi.entry (List.mem_of_getElem? he)).2⟩

/-- the `go` statement of `countFailure` -/
theorem inv_spawned {s : State} {r i : Nat} {q q' : Req} {e : Fail} {h : HostId} (hi : Inv s)
    (hq : s.reqs[r]? = some q) (he : s.log[i]? = some e) (hok : spawnOk q h e = true)
    (hfl : ∀ o, inFlightW o q' = inFlightW o q)
    (hsp : ∀ o c, spawnerW o c q' + b2n (h == o && q.cfg == c) = spawnerW o c q) (hw : q.Wf → q'.Wf)
    (hat : ∀ o, aboutToCountW o q' + failedAttemptsW o q = aboutToCountW o q + failedAttemptsW o q') :
    Inv { s with reqs := s.reqs.set r q', log := s.log.set i { e with st := .waiting } } := by
  obtain ⟨hst, hhost, hcfg⟩ := spawnOk_iff.mp hok
  refine inv_move hi (total_set_singleton q' hq) (wf_set hi hq hw) (total_set_singleton { e with st := .waiting } he)
    (ok_set hi he (fun hf => by cases hf)) (fun o => by rw [total_singleton, total_singleton, hfl o]) ?_ ?_ ?_
  · intro o; simp [total_singleton, pendingW, hst]
  · intro o c
    have := hsp o c
    simp only [total_singleton, countedW, hst, hhost, hcfg] at this ⊢
    simp; omega
  · intro o; simpa only [total_singleton, countedAttemptW, Nat.add_assoc, Nat.add_left_cancel_iff] using hat o

/-- a new holder: a handler starts provisioning, or a loop iteration with dynamic upstreams begins -/
theorem inv_addCfg {s : State} (cs : CfgSt) (hi : Inv s) : Inv { s with cfgs := s.cfgs ++ [cs] } :=
  inv_cfg_only hi (Nat.le_refl _) rfl rfl rfl rfl fun _ => canceled_append rfl

theorem inv_tick {s : State} (hi : Inv s) : Inv { s with now := s.now + 1 } :=
  inv_cfg_only hi (Nat.le_succ _) rfl rfl rfl rfl fun _ => id

def Req.Idle (q : Req) : Prop :=
  q.pc.inFlight = false ∧ (∀ o, inFlightW o q = 0) ∧ (∀ o c, spawnerW o c q = 0) ∧ ∀ o, aboutToCountW o q = 0

theorem inv_decided {s : State} {r : Nat} {q : Req} (e : ErrKind) (c : Bool) (hi : Inv s) (hq : s.reqs[r]? = some q)
    (h : q.Idle) : Inv { s with reqs := s.reqs.set r (q.decided e c) } := by
  obtain ⟨hnf, hfl, hsp, hat⟩ := h
  refine inv_set_req hi hq ?_ ?_ (decided_wf e c hnf) ?_
  · intro o; rw [hfl o, decided_inFlightW]
  · intro o c; rw [hsp o c, decided_spawnerW]
  · intro o; rw [hat o, decided_aboutToCountW, decided_failedAttemptsW]

theorem inv_done {s : State} {r : Nat} {q : Req} (hi : Inv s) (hq : s.reqs[r]? = some q) (h : q.Idle) :
    Inv { s with reqs := s.reqs.set r { q with pc := .done } } := by
  obtain ⟨hnf, hfl, hsp, hat⟩ := h
  refine inv_set_req hi hq ?_ ?_ ?_ ?_
  · intro o; rw [hfl o]; rfl
  · intro o c; rw [hsp o c]; rfl
  · rintro ⟨a, b, c⟩
    have := b2n_le_one q.pc.notStart
    rw [hnf] at a
    exact ⟨a, b, by simp [Pc.notStart]; omega⟩
  · intro o; rw [hat o]; simp [aboutToCountW, failedAttemptsW, Pc.owesCountOn]

theorem idle_of_start {q : Req} (hpc : q.pc = .start) : q.Idle := by
  simp [Req.Idle, hpc, Pc.inFlight, inFlightW, spawnerW, aboutToCountW, Pc.inFlightOn, Pc.spawningOn, Pc.owesCountOn]

theorem idle_of_exited {q : Req} {h : HostId} {out : Outcome} (hpc : q.pc = .exited h out)
    (hn : q.par.counting = false ∨ out.countable = false) : q.Idle := by
  rcases hn with hn | hn <;>
    simp [Req.Idle, hpc, hn, Pc.inFlight, inFlightW, spawnerW, aboutToCountW, Pc.inFlightOn, Pc.spawningOn, Pc.owesCountOn]

theorem inv_set_holder {s : State} {r : Nat} {q : Req} (ho : Option CfgId) (hi : Inv s) (hq : s.reqs[r]? = some q) :
    Inv { s with reqs := s.reqs.set r { q with holder := ho } } :=
  inv_set_req hi hq (fun _ => rfl) (fun _ _ => rfl) id (fun _ => rfl)

theorem Inv.step {s s' : State} {a : Action} (hi : Inv s) (hs : Step s a s') : Inv s' := by
  cases hs with
  | newCfg => exact inv_addCfg _ hi
  | tick => exact inv_tick hi
  | deleteSkip => exact hi
  | storeShared hcs | storeFresh hcs | delete hcs =>
    exact inv_cfg_only hi (Nat.le_refl _) rfl rfl rfl rfl fun _ => canceled_set hcs rfl id
  | cancel hcs => exact inv_cfg_only hi (Nat.le_refl _) rfl rfl rfl rfl fun _ => canceled_set hcs rfl fun _ => rfl
  | activeUp | activePass | activeDown | activeFail => exact inv_cfg_only hi (Nat.le_refl _) rfl rfl rfl rfl fun _ => id
  | newIter hq => exact inv_set_holder _ (inv_addCfg _ hi) hq
  | fallback hq => exact inv_set_holder _ hi hq
  | noUpstream hq hpc => exact inv_decided _ _ hi hq (idle_of_start hpc)
  | dialInfoFails hq hpc => exact inv_done hi hq (idle_of_start hpc)
  | newReq =>
    refine inv_move (rOut := []) (rIn := [_]) (lOut := []) (lIn := []) hi (fun f => total_snoc f _ _)
      (List.forall_mem_append.mpr ⟨fun _ => hi.wf, List.forall_mem_singleton.mpr ⟨rfl, Nat.zero_le _, Nat.zero_le _⟩⟩)
      (fun _ => rfl) (fun _ => hi.entry) (fun _ => rfl) (fun _ => rfl) (fun _ _ => rfl) (fun _ => ?_)
    simp [total, aboutToCountW, failedAttemptsW, Pc.owesCountOn]
  | dispatch hq hpc =>
    refine inv_set_req hi hq ?_ ?_ ?_ ?_
    · intro o; simp [upd_succ, inFlightW, hpc, Pc.inFlightOn]
    · intro o c; simp [spawnerW, hpc, Pc.spawningOn]
    · simp [Req.Wf, hpc, Pc.inFlight, Pc.notStart]
    · intro o; simp [aboutToCountW, failedAttemptsW, hpc, Pc.owesCountOn]
  | @finish _ q h out hq hpc =>
    refine inv_set_req hi hq ?_ ?_ ?_ ?_
    · intro o; simp [upd_pred, inFlightW, hpc, Pc.inFlightOn]
    · intro o c; simp [spawnerW, hpc, Pc.spawningOn]
    · simp [Req.Wf, hpc, Pc.inFlight, Pc.notStart]
    · intro o
      simp only [aboutToCountW, failedAttemptsW, total_snoc, attemptW, hpc, Pc.owesCountOn]
      cases q.par.counting <;> cases (h == o && out.countable) <;> simp <;> omega
  | strike hq hpc hc =>
    refine inv_count hi hq hc (by simp) ?_ ?_ ?_ ?_
    · intro o; simp [inFlightW, hpc, Pc.inFlightOn]
    · intro o c; simp [spawnerW, countedW, newFail, hpc, Pc.spawningOn]
    · simp [Req.Wf, hpc, Pc.inFlight, Pc.notStart]
    · intro o; simp [countedAttemptW, newFail, aboutToCountW, failedAttemptsW, hpc, Pc.owesCountOn]
  | @afterCount _ q h out hq hpc hk hc =>
    refine inv_count hi hq hc (by simpa using hk) ?_ ?_ ?_ ?_
    · intro o; simp [inFlightW, hpc, Pc.inFlightOn]
    · intro o c; simp [spawnerW, countedW, newFail, hpc, Pc.spawningOn]
    · simp [Req.Wf, hpc, Pc.inFlight, Pc.notStart]
    · intro o
      simp only [countedAttemptW, newFail, aboutToCountW, failedAttemptsW, hpc, Pc.owesCountOn, hk, hc]
      cases (h == o) <;> simp
  | afterSkip hq hpc hk hc =>
    exact inv_decided _ _ hi hq (idle_of_exited hpc (.inl hc))
  | afterDone hq hpc hk =>
    exact inv_done hi hq (idle_of_exited hpc (.inr hk))
  | spawnIn hq he hpc hok =>
    refine inv_spawned hi hq he hok ?_ ?_ ?_ ?_
    · intro o; simp [inFlightW, hpc, Pc.inFlightOn]
    · intro o c; simp [spawnerW, hpc, Pc.spawningOn]
    · simp [Req.Wf, hpc, Pc.inFlight, Pc.notStart]
    · intro o; simp [aboutToCountW, failedAttemptsW, hpc, Pc.owesCountOn]
  | spawnOut hq he hpc hok =>
    refine inv_spawned hi hq he hok ?_ ?_ (decided_wf _ _ (by simp [hpc, Pc.inFlight])) ?_
    · intro o; rw [decided_inFlightW]; simp [inFlightW, hpc, Pc.inFlightOn]
    · intro o c; rw [decided_spawnerW]; simp [spawnerW, hpc, Pc.spawningOn]
    · intro o; rw [decided_aboutToCountW, decided_failedAttemptsW]; simp [aboutToCountW, hpc, Pc.owesCountOn]
  | forget he hok =>
    obtain ⟨hst, hdue⟩ := forgetOk_iff.mp hok
    refine inv_move (rOut := []) (rIn := []) hi (fun _ => rfl) (fun _ => hi.wf) (total_set_singleton _ he)
      (ok_set hi he fun _ => hdue) (fun _ => rfl) ?_ ?_ (fun _ => rfl)
    · intro o; simp [upd_pred, total_singleton, pendingW, hst]
    · intro o c; simp [total, countedW, hst]

theorem inv_step {s s' : State} (a : Action) (hi : Inv s) (hs : step s a = some s') : Inv s' := hi.step (.of_step hs)

theorem inv_reachable {s : State} (h : Reachable s) : Inv s := h.rule inv_init Inv.step

end CaddyModel.C09
