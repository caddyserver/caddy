/-
C09 — upstream in-flight and failure accounting stays exact under concurrency: the property theorems.

The accounting theorems quantify over `Reachable s`: every state of every interleaving of the atomic
steps of `step` (Model.lean), for any number of requests, Host objects, configurations and forgetters,
any outcome per attempt and any reload points — including loads that fail in Provision.  The theorems
about one step hold from an arbitrary state; the rest are about single model functions, the schedule
interpreter, or the source.  (The `hosts` pool clause was false for the Cleanup before fix d6561d4;
`Witness.lean` keeps that as `…_old_code_fails` theorems about the old definition.)

The closed runs are evaluated; `decide +kernel` on the long ones, because plain `decide` evaluates in the
elaborator first and that is the slow part.
-/
import CaddyModel.C09.PoolLemmas
import CaddyModel.C09.SchedLemmas
import CaddyModel.C09.IterLemmas
import CaddyModel.C09.FuelDynLemmas
import CaddyModel.C09.StreamLemmas
import CaddyModel.C09.Witness
import CaddyModel.C09.ActiveProps   -- not used below: this is how `lake build` and Audit.lean reach its theorems
import CaddyModel.Gen.ProxyCount

namespace CaddyModel.C09

/-- `Host.numRequests` equals the number of requests currently being sent to that
    Host (between `countRequest(1)` and the deferred `countRequest(-1)`), in every reachable state. -/
theorem inflight_eq {s : State} (h : Reachable s) (o : HostId) : s.inflight o = (sendingCount s o : Int) :=
  (inv_reachable h).inflight_eq o

example : ∃ s, Reachable s ∧ s.inflight 0 = 2 ∧ sendingCount s 0 = 2 ∧ s.reqs.length = 3 := witness exA (by decide)

theorem inflight_never_negative {s : State} (h : Reachable s) (o : HostId) : 0 ≤ s.inflight o := by
  rw [inflight_eq h o]; omega

example : ∃ s, Reachable s ∧ s.inflight 0 = 0 ∧ s.reqs.length = 3 := witness exB (by decide +kernel)

theorem inflight_zero_at_quiescence {s : State} (h : Reachable s) (hq : Quiescent s) (o : HostId) : s.inflight o = 0 := by
  rw [inflight_eq h o]
  have : sendingCount s o = 0 := by
    apply total_zero
    intro q hm
    simp [inFlightW, hq q hm, Pc.inFlightOn]
  omega

example : ∃ s, Reachable s ∧ Quiescent s ∧ s.reqs.length = 3 ∧ s.log.length = 2 := witness exB (by decide +kernel)

/-- from `sending`, *every* way `reverseProxy` can end — including a panic
    unwinding through it — is enabled, performs exactly one decrement on the same Host and leaves
    the in-flight place (the `defer`). -/
theorem dec_on_every_exit {s : State} {r : Nat} {q : Req} {o : HostId} (hq : s.reqs[r]? = some q)
    (hpc : q.pc = .sending o) (out : Outcome) :
    ∃ s', step s (.finish r out) = some s' ∧ s'.inflight o = s.inflight o - 1 ∧
      pcOf s' r = some (.exited o out) := by
  exact ⟨_, (Step.finish hq hpc).sound, upd_same _ _ _, by simp only [pcOf, get_set_self hq]; rfl⟩

example : ∃ s, Reachable s ∧ (s.reqs[1]?).map (·.pc) = some (Pc.sending 0) := witness exA (by decide)

/-- the only step that takes a request out of the in-flight place is its own `finish`
    (no exit path bypasses the decrement) -/
theorem leaves_in_flight_only_by_finish {s s' : State} {a : Action} {r : Nat} {q q' : Req} {o : HostId}
    (hs : step s a = some s') (hq : s.reqs[r]? = some q) (hq' : s'.reqs[r]? = some q')
    (hin : q.pc.inFlightOn o = true) (hout : q'.pc.inFlightOn o = false) : ∃ out, a = .finish r out := by
  -- every step but `finish` rewrites a request, if at all, into one that is in flight where it was
  have stays : ∀ {x : Req}, s'.reqs[r]? = some x → x.pc.inFlightOn o = true → False := by
    intro x h hx; rw [hq'] at h; cases h; rw [hx] at hout; cases hout
  have set : ∀ {r2 : Nat} {q2 x : Req}, s.reqs[r2]? = some q2 → s'.reqs = s.reqs.set r2 x →
      (q2.pc.inFlightOn o = true → x.pc.inFlightOn o = true) → False := by
    intro r2 q2 x h2 hr himp
    rw [hr] at stays
    by_cases h : r2 = r
    · subst h; rw [hq] at h2; cases h2
      exact stays (get_set_self hq) (himp hin)
    · exact stays ((List.getElem?_set_ne h).trans hq) hin
  cases Step.of_step hs with
  | newCfg | tick | storeShared | storeFresh | cancel | delete | deleteSkip | forget | activeUp | activePass |
      activeDown | activeFail => exact (stays hq hin).elim
  | newReq => exact (stays ((List.getElem?_append_left (lt_of_get hq)).trans hq) hin).elim
  | @finish r2 _ _ out =>
    by_cases hr : r2 = r
    · exact ⟨out, by rw [hr]⟩
    · exact (stays ((List.getElem?_set_ne hr).trans hq) hin).elim
  | _ => exact (set ‹_› rfl (by simp [‹Req.pc _ = _›, Pc.inFlightOn])).elim

example : ∃ s, Reachable s ∧ (s.reqs[2]?).map (fun q => q.pc.inFlightOn 0) = some true := witness exA (by decide)

/-- when the selected upstream's dial address cannot be
    filled in for this request (hosts.go fillDialInfo: a request placeholder expanding to a named
    port, a port range, a unix socket with malformed permission bits), the loop iteration returns at once (reverseproxy.go:541-544): the
    step is enabled at the top of the loop, ends the request, and leaves every in-flight count,
    every failure count, the failure log and the pool untouched — `countRequest(1)` belongs to
    `reverseProxy`, which is never entered (the regenerated fact
    `dec_is_deferred_right_after_inc_in_source` pins the increment to the statement right before the
    deferred decrement). -/
theorem unfillable_dial_info_touches_no_counter {s : State} {r : Nat} {q : Req} (hq : s.reqs[r]? = some q)
    (hpc : q.pc = .start) :
    ∃ s', step s (.dialInfoFails r) = some s' ∧ s'.inflight = s.inflight ∧ s'.fails = s.fails ∧
      s'.log = s.log ∧ s'.pool = s.pool ∧ pcOf s' r = some .done := by
  exact ⟨_, (Step.dialInfoFails hq hpc).sound, rfl, rfl, rfl, rfl, by simp only [pcOf, get_set_self hq]; rfl⟩

/-- a handler with max_requests 1 whose first upstream is undialable for request 0: the request
    returns, nothing is in flight, and the next request is sent there (the seeded change
    C09-request-counted-at-selection would leave the upstream full for ever) -/
example : ((runSteps dinit [.load [0] { pA with maxReq := 1 } [], .newReqBad true 0, .newReq true]).map fun d =>
    (d.s.inflight 0, sendingCount d.s 0, d.s.reqs.map (·.pc))) = some (1, 1, [Pc.done, Pc.sending 0]) := by decide +kernel

/-- across the step "dial info cannot be filled in" every Host's in-flight count stays exact and the
    number of requests being sent to it is unchanged: the request that returned was never counted and never sent -/
theorem inflight_exact_across_unfillable_dial_info {s s' : State} {r : Nat} (h : Reachable s)
    (hs : step s (.dialInfoFails r) = some s') (o : HostId) :
    s'.inflight o = (sendingCount s' o : Int) ∧ sendingCount s' o = sendingCount s o := by
  have e1 := inflight_eq h o
  have e2 := inflight_eq (.step _ h hs) o
  have hi : s'.inflight = s.inflight := by
    cases Step.of_step hs; rfl
  refine ⟨e2, ?_⟩
  rw [hi] at e2; omega

example : ((runSteps dinit [.load [0, 1] pA [], .newReq true, .newReqBad true 0, .newReqBad false 0]).map fun d =>
    (d.s.inflight 0, sendingCount d.s 0, d.s.reqs.map (·.pc))) = some (1, 1, [Pc.sending 0, Pc.done, Pc.done]) := by decide +kernel

/-- per request: every `countRequest(1)` it executed has been matched by exactly one
    `countRequest(-1)` as soon as it is not in flight, whatever the outcomes were -/
theorem incs_eq_decs {s : State} (h : Reachable s) {q : Req} (hq : q ∈ s.reqs) (hn : q.pc.inFlight = false) :
    q.incs = q.hist.length := by
  have := (inv_reachable h).req_ok q hq
  simp [hn] at this; exact this

example : ∃ s, Reachable s ∧ (s.reqs[0]?).map (fun q => (q.incs, q.hist.length, q.pc.inFlight)) = some (2, 2, false) :=
  witness exB (by decide +kernel)

/-- retry on another upstream: a request makes at most `retries + 1` attempts (so the proxy loop —
    and the fuel of the schedule interpreter — is bounded), each of them counted in and out once -/
theorem attempts_bounded {s : State} (h : Reachable s) {q : Req} (hq : q ∈ s.reqs) :
    q.retries ≤ q.par.retries ∧ q.incs ≤ q.par.retries + 1 := by
  have := (inv_reachable h).retry_ok q hq
  have hb := b2n_le_one q.pc.notStart
  omega

example : ∃ s, Reachable s ∧ (s.reqs[0]?).map (fun q => (q.incs, q.retries, q.par.retries)) = some (2, 1, 1) :=
  witness exB (by decide +kernel)

/-- `Host.fails` equals the number of counted failures whose
    `countFail(-1)` has not run yet (forgetter waiting, or about to be started). -/
theorem fails_eq_pending_forgetters {s : State} (h : Reachable s) (o : HostId) :
    s.fails o = (pendingForgetters s o : Int) :=
  (inv_reachable h).fails_eq o

example : ∃ s, Reachable s ∧ s.fails 0 = 2 ∧ pendingForgetters s 0 = 2 := witness exA (by decide)

theorem fails_never_negative {s : State} (h : Reachable s) (o : HostId) : 0 ≤ s.fails o := by
  rw [fails_eq_pending_forgetters h o]; omega

example : ∃ s, Reachable s ∧ s.fails 0 = 0 ∧ s.log.length = 2 := witness exC (by decide +kernel)

/-- every counted failure whose forgetter is not started yet belongs to a request standing right
    before the `go` statement: each failure gets exactly one forgetter -/
theorem each_failure_gets_one_forgetter {s : State} (h : Reachable s) (o : HostId) (c : CfgId) :
    countedNotSpawned s o c = spawners s o c :=
  (inv_reachable h).counted_eq o c

example : ∃ s, Reachable s ∧ countedNotSpawned s 0 0 = 1 ∧ spawners s 0 0 = 1 := witness exA (by decide)

theorem forgotten_only_when_due {s : State} (h : Reachable s) {e : Fail} (he : e ∈ s.log) (hf : e.st = .forgotten) :
    e.exp ≤ s.now ∨ canceled s e.cfg = true :=
  (inv_reachable h).forgotten_due e he hf

example : ∃ s, Reachable s ∧ (s.log[1]?).map (fun e => (e.st, e.exp, s.now)) = some (FSt.forgotten, 3, 3) :=
  witness exC (by decide +kernel)

/-- a failure is forgotten at most once: the forget step of a forgetter that already ran (or is not
    started yet) is not enabled -/
theorem forgotten_at_most_once {s : State} {i : Nat} {e : Fail} (he : s.log[i]? = some e) (hst : e.st ≠ .waiting) :
    step s (.forget i) = none := by
  cases hs : step s (.forget i) with
  | none => rfl
  | some s' =>
    cases Step.of_step hs with
    | forget he' hok => rw [he] at he'; cases he'; exact absurd (forgetOk_iff.mp hok).1 hst

example : ∃ s, Reachable s ∧ (s.log[0]?).map (·.st) = some FSt.forgotten := witness exC (by decide +kernel)

/-- …and at least once: as soon as the window has elapsed or the configuration is unloaded the
    forget step is enabled and decrements the same Host by exactly one -/
theorem forgotten_when_due {s : State} {i : Nat} {e : Fail} (he : s.log[i]? = some e) (hst : e.st = .waiting)
    (hdue : e.exp ≤ s.now ∨ canceled s e.cfg = true) :
    ∃ s', step s (.forget i) = some s' ∧ s'.fails e.host = s.fails e.host - 1 ∧
      (s'.log[i]?).map (·.st) = some FSt.forgotten := by
  exact ⟨_, (Step.forget he (forgetOk_iff.mpr ⟨hst, hdue⟩)).sound, upd_same _ _ _, by rw [get_set_self he]; rfl⟩

example : ∃ s, Reachable s ∧ (s.log[0]?).map (fun e => (e.st, decide (e.exp ≤ s.now))) = some (FSt.waiting, true) :=
  witness (exB ++ [.tick]) (by decide +kernel)

/-- when the scheduler has let every due forgetter run, `Host.fails` equals
    the number of failures counted on this Host at `tᵢ` with `tᵢ ≤ now < tᵢ + fail_duration` by
    configurations that are still loaded. -/
theorem fails_eq_window {s : State} (h : Reachable s) (ht : Timely s) (o : HostId) :
    s.fails o = (windowCount s o : Int) := by
  rw [fails_eq_pending_forgetters h o]
  have : pendingForgetters s o = windowCount s o := by
    apply total_congr
    intro e he
    simp only [pendingW, windowW]
    by_cases hf : e.st = .forgotten
    · simp [hf, inWindow_eq_false.mpr (forgotten_only_when_due h he hf)]
    · simp [bne_iff_ne.mpr hf, ht e he hf]
  omega

example : ∃ s, Reachable s ∧ Timely s ∧ s.fails 0 = 2 ∧ windowCount s 0 = 2 ∧ s.now = 1 := witness exB (by decide +kernel)

/-- every window entry was counted in the past and expires strictly later (`tᵢ ≤ now`, `D > 0`) -/
theorem window_entries_wellformed {s : State} (h : Reachable s) {e : Fail} (he : e ∈ s.log) :
    e.t0 ≤ s.now ∧ e.t0 < e.exp := by
  have := (inv_reachable h).entry_ok e he
  simp only [Fail.exp]; omega

example : ∃ s, Reachable s ∧ (s.log.map fun e => (e.t0, e.exp)) = [(0, 2), (1, 3)] := witness exB (by decide +kernel)

/-- the failure count is zero again once traffic has stopped and every window has elapsed
    (or every configuration that counted something was unloaded) -/
theorem fails_zero_after_quiescence_and_window {s : State} (h : Reachable s) (ht : Timely s) (o : HostId)
    (hw : ∀ e ∈ s.log, e.host = o → e.exp ≤ s.now ∨ canceled s e.cfg = true) : s.fails o = 0 := by
  rw [fails_eq_window h ht o]
  have : windowCount s o = 0 := by
    apply total_zero
    intro e he
    simp only [windowW]
    by_cases ho : e.host = o
    · simp [inWindow_eq_false.mpr (hw e he ho)]
    · simp [beq_eq_false_iff_ne.mpr ho]
  omega

example : ∃ s, Reachable s ∧ Timely s ∧ Quiescent s ∧ s.log.length = 2 ∧ s.now = 3 := witness exC (by decide +kernel)

/-- with passive health checks, an upstream is held unhealthy iff at least
    `max_fails` failures counted on its Host are inside their window (in loaded configurations). -/
theorem unhealthy_iff {s : State} (h : Reachable s) (ht : Timely s) (p : Params) (o : HostId) :
    healthy p s o = false ↔ p.passive = true ∧ p.maxFails ≤ windowCount s o := by
  have := fails_eq_window h ht o
  simp only [healthy]
  cases hp : p.passive <;> simp [this] <;> omega

example : ∃ s, Reachable s ∧ Timely s ∧ healthy pA s 0 = false ∧ windowCount s 0 = 2 := witness exB (by decide +kernel)
example : ∃ s, Reachable s ∧ Timely s ∧ healthy pA s 0 = true ∧ s.log.length = 2 := witness exC (by decide +kernel)

/-- on every Host, the failures counted for attempt
    outcomes are exactly the finished attempts that ended in a refused dial or an upstream error
    (handlers with counting enabled), minus those whose `countFailure` call is the very next step of
    their request: success, client cancellation, response-handler errors and panics are never counted,
    refused dials and upstream errors always are. -/
theorem counted_iff_not_success_not_canceled {s : State} (h : Reachable s) (o : HostId) :
    countedAttempts s o + aboutToCount s o = failedAttempts s o :=
  (inv_reachable h).attempts_eq o

example : ∃ s, Reachable s ∧ countedAttempts s 0 = 1 ∧ failedAttempts s 0 = 1 ∧
    (s.reqs.map fun q => q.hist.length) = [2, 1, 1] := witness exB (by decide +kernel)

theorem counted_only_failures {s : State} (h : Reachable s) {e : Fail} (he : e ∈ s.log) {out : Outcome}
    (hs : e.src = some out) : out = .dialRefused ∨ out = .upstreamErr := by
  have := (inv_reachable h).src_countable e he out hs
  cases out <;> simp_all [Outcome.countable]

example : ∃ s, Reachable s ∧ (s.log.map (·.src)) = [some Outcome.upstreamErr, none] := witness exB (by decide +kernel)

theorem after_counts_iff {s s' : State} {r : Nat} {q : Req} {o : HostId} {out : Outcome}
    (hq : s.reqs[r]? = some q) (hpc : q.pc = .exited o out) (hs : step s (.after r) = some s') :
    (s'.fails o = s.fails o + 1 ∧ s'.log.length = s.log.length + 1) ↔ (out.countable = true ∧ q.par.counting = true) := by
  cases Step.of_step hs with
  | afterCount hq' hpc' hk hc | afterSkip hq' hpc' hk hc | afterDone hq' hpc' hk =>
    rw [hq] at hq'; cases hq'; rw [hpc] at hpc'; cases hpc'
    simp [*]

example : ∃ s, Reachable s ∧ (s.reqs[0]?).map (·.pc) = some (Pc.exited 0 Outcome.upstreamErr) :=
  witness (exA.take 8) (by decide)

/-- `countFailure` counts a refused dial / upstream
    error whatever the Host's count is at that moment — in particular while the upstream is already
    at or above `max_fails`: the step is enabled, adds exactly one to `fails` and appends the entry
    (window starting now) that the forgetter will take away again.  (healthchecks.go:587-640 has no
    early exit that looks at the current count; the only guards are "passive checks configured" and
    "fail_duration ≠ 0" = `Params.counting`.) -/
theorem failure_counted_even_when_already_down {s : State} {r : Nat} {q : Req} {o : HostId} {out : Outcome}
    (hq : s.reqs[r]? = some q) (hpc : q.pc = .exited o out) (hk : out.countable = true)
    (hc : q.par.counting = true) :
    ∃ s', step s (.after r) = some s' ∧ s'.fails o = s.fails o + 1 ∧
      s'.log = s.log ++ [newFail q o s.now (some out)] := by
  exact ⟨_, (Step.afterCount hq hpc hk hc).sound, upd_same _ _ _, rfl⟩

/-- the same for a bad-status strike of a request still in flight -/
theorem strike_counted_even_when_already_down {s : State} {r : Nat} {q : Req} {o : HostId}
    (hq : s.reqs[r]? = some q) (hpc : q.pc = .sending o) (hc : q.par.counting = true) :
    ∃ s', step s (.strike r) = some s' ∧ s'.fails o = s.fails o + 1 ∧
      s'.log = s.log ++ [newFail q o s.now none] := by
  exact ⟨_, (Step.strike hq hpc hc).sound, upd_same _ _ _, rfl⟩

def pW : Params := { pA with failDur := 3, maxFails := 2, retries := 0 }

/-- three requests were handed to Host 0 while it was healthy; they fail at t = 0, 1 and 2 — the
    third one while the upstream is already down (fails = 2 = max_fails) -/
def exW : List Action :=
  [.newCfg pW, .store 0 7, .newReq 0 true, .newReq 0 true, .newReq 0 true, .dispatch 0 0, .dispatch 1 0, .dispatch 2 0,
   .finish 0 .upstreamErr, .after 0, .spawn 0 0, .tick,
   .finish 1 .upstreamErr, .after 1, .spawn 1 1, .tick,
   .finish 2 .upstreamErr]

example : ∃ s, Reachable s ∧ s.fails 0 = 2 ∧ healthy pW s 0 = false ∧
    (s.reqs[2]?).map (·.pc) = some (Pc.exited 0 Outcome.upstreamErr) := witness exW (by decide)

/-- …it is counted all the same (fails = 3), and when the first failure leaves the window at t = 3
    the upstream is still held unhealthy, because two failures (t = 1, 2) are still inside; only at
    t = 4 does it come back -/
example : ∃ s, Reachable s ∧ Timely s ∧ s.now = 3 ∧ s.fails 0 = 2 ∧ windowCount s 0 = 2 ∧ healthy pW s 0 = false :=
  witness (exW ++ [.after 2, .spawn 2 2, .tick, .forget 0]) (by decide +kernel)
example : ∃ s, Reachable s ∧ Timely s ∧ s.now = 4 ∧ s.fails 0 = 1 ∧ healthy pW s 0 = true :=
  witness (exW ++ [.after 2, .spawn 2 2, .tick, .forget 0, .tick, .forget 1]) (by decide +kernel)

/-- the window clause spelled out over the recorded failure
    times, for every reachable state in which the due forgetters have run (any number of failures at
    any times, also while the upstream was already down, any interleaving, any reloads): the upstream
    is held unhealthy iff passive checks are on and at least `max_fails` of the failures counted on
    its Host at times `tᵢ` by still-loaded configurations satisfy `tᵢ ≤ now < tᵢ + fail_duration`. -/
theorem unhealthy_iff_max_fails_in_window {s : State} (h : Reachable s) (ht : Timely s) (p : Params) (o : HostId) :
    healthy p s o = false ↔ p.passive = true ∧
      p.maxFails ≤ (s.log.filter fun e => e.host == o && !canceled s e.cfg &&
        decide (e.t0 ≤ s.now) && decide (s.now < e.t0 + e.dur)).length := by
  rw [unhealthy_iff h ht p o]
  have : windowCount s o = (s.log.filter fun e => e.host == o && !canceled s e.cfg &&
      decide (e.t0 ≤ s.now) && decide (s.now < e.t0 + e.dur)).length := by
    rw [← total_b2n_eq_filter_length]
    apply total_congr
    intro e he
    have ht0 := (window_entries_wellformed h he).1
    simp only [windowW, inWindow, Fail.exp]
    -- what is left are two `decide`s of one proposition with different `Decidable` instances
    cases e.host == o <;> cases canceled s e.cfg <;> simp [ht0] <;> (first | rfl | (congr 1; exact decide_eq_decide.mpr Iff.rfl))
  rw [this]

example : ∃ s, Reachable s ∧ Timely s ∧ (s.log.map fun e => (e.t0, e.dur)) = [(0, 3), (1, 3), (2, 3)] ∧ s.now = 3 :=
  witness (exW ++ [.after 2, .spawn 2 2, .tick, .forget 0]) (by decide +kernel)

/-- the error branches of hosts.go `countRequest` / `countFail`
    ("count below 0") and with them the early return of `countFailure` that skips the forgetter are
    dead in every reachable state: an increment never lands below 1, the deferred in-flight decrement
    of a request being sent and the forgetter's decrement never land below 0. -/
theorem counter_updates_never_err {s : State} (h : Reachable s) (o : HostId) :
    0 < s.fails o + 1 ∧ 0 < s.inflight o + 1 ∧
    (∀ q ∈ s.reqs, q.pc.inFlightOn o = true → 0 ≤ s.inflight o - 1) ∧
    (∀ e ∈ s.log, e.host = o → e.st ≠ .forgotten → 0 ≤ s.fails o - 1) := by
  have h1 := fails_never_negative h o
  have h2 := inflight_never_negative h o
  refine ⟨by omega, by omega, ?_, ?_⟩
  · intro q hq hin
    have := le_total_of_mem (inFlightW o) s.reqs q hq
    have hw : inFlightW o q = 1 := by simp [inFlightW, hin]
    have := inflight_eq h o
    simp only [sendingCount] at this; omega
  · intro e he ho hst
    have := le_total_of_mem (pendingW o) s.log e he
    have hw : pendingW o e = 1 := by simp [pendingW, ho, bne_iff_ne.mpr hst]
    have := fails_eq_pending_forgetters h o
    simp only [pendingForgetters] at this; omega

example : ∃ s, Reachable s ∧ s.fails 0 = 2 ∧ s.inflight 0 = 2 := witness exA (by decide)

def pAct : Params := { pA with maxFails := 3, failDur := 3, retries := 0, aOn := true, aPasses := 1, aFails := 1 }

/-- two passive failures are pending on Host 0 (max_fails 3, window 3), then its health endpoint
    fails and recovers: the active checker flips the upstream down and up again -/
def exAct : List Action :=
  [.newCfg pAct, .store 0 7, .activeCheck 0 0 true, .newReq 0 true, .newReq 0 true, .dispatch 0 0, .dispatch 1 0,
   .finish 0 .upstreamErr, .after 0, .spawn 0 0, .finish 1 .upstreamErr, .after 1, .spawn 1 1,
   .activeCheck 0 0 false, .activeCheck 0 0 true]

example : ∃ s, Reachable s ∧ s.fails 0 = 2 ∧ pendingForgetters s 0 = 2 ∧ isDown s 0 0 = false ∧ s.aPass 0 = 0 :=
  witness exAct (by decide)
/-- while it is down, selection skips it -/
example : ∃ s, Reachable s ∧ isDown s 0 0 = true ∧ s.fails 0 = 2 ∧ firstAvailableOf pAct s 0 [(7, 0)] = none :=
  witness (exAct.take 14) (by decide)
/-- after the window both failures are forgotten exactly once: the count is 0, not negative -/
example : ∃ s, Reachable s ∧ Timely s ∧ s.fails 0 = 0 ∧ s.now = 3 :=
  witness (exAct ++ [.tick, .tick, .tick, .forget 0, .forget 1]) (by decide +kernel)
/-- …and three fresh failures hold the upstream down again (max_fails = 3) -/
example : ∃ s, Reachable s ∧ Timely s ∧ s.fails 0 = 3 ∧ healthy pAct s 0 = false :=
  witness (exAct ++ [.tick, .tick, .tick, .forget 0, .forget 1, .newReq 0 true, .newReq 0 true, .newReq 0 true,
    .dispatch 2 0, .dispatch 3 0, .dispatch 4 0, .finish 2 .upstreamErr, .after 2, .spawn 2 2,
    .finish 3 .upstreamErr, .after 3, .spawn 3 3, .finish 4 .upstreamErr, .after 4, .spawn 4 4]) (by decide +kernel)

example : firstAvailableFrom pAct init (fun j => j == 0) 0 [(7, 0), (8, 1)] = some (8, 1) := by decide

/-- `StatusCodeMatches` (caddyhttp.go:230-240): an unhealthy_status entry matches the status the
    backend sent iff it is that status or, being below 100, its class (5 = 5xx) -/
theorem statusCodeMatches_iff (actual configured : Nat) :
    statusCodeMatches actual configured = true ↔
      actual = configured ∨ (configured < 100 ∧ actual / 100 = configured) := by
  simp only [statusCodeMatches, Bool.or_eq_true, Bool.and_eq_true, beq_iff_eq, decide_eq_true_eq]
  omega

example : statusCodeMatches 503 5 = true ∧ statusCodeMatches 503 503 = true ∧ statusCodeMatches 503 4 = false ∧
    statusCodeMatches 5003 50 = true ∧ statusCodeMatches 500 50 = false := by decide

/-- an answer is struck once per matching unhealthy_status entry (reverseproxy.go:922-928): the
    number of `countFailure` calls the schedule interpreter makes for a status -/
theorem strikeCount_eq_matching_entries (entries : List Nat) (actual : Nat) :
    strikeCount entries actual = (entries.filter (statusCodeMatches actual)).length := by
  induction entries with
  | nil => rfl
  | cons c rest ih =>
    simp only [strikeCount, List.filter_cons]
    cases statusCodeMatches actual c <;> simp [ih] <;> omega

example : strikeCount [500, 5] 500 = 2 ∧ strikeCount [4, 429, 503] 429 = 2 ∧ strikeCount [50] 500 = 0 ∧
    strikeCount [200, 2] 200 = 2 := by decide

/-- a round trip that took at least unhealthy_latency earns exactly one strike on top of the
    status strikes, and only when failures are counted at all (reverseproxy.go:930-934) -/
theorem slow_answer_strikes_once_more (p : Params) (code : Nat) :
    strikesFor p "sl" code = strikesFor p "ok" code + (if p.counting && p.latency then 1 else 0) := by
  simp only [strikesFor]
  cases p.counting <;> cases p.latency <;> simp <;> decide

example : strikesFor { pA with latency := true, badStatus := [200, 2] } "sl" 200 = 3 ∧
    strikesFor { pA with latency := true, failDur := 0 } "sl" 200 = 0 := by decide

/-- an upstream's own `max_requests` wins over the passive checker's unhealthy_request_count
    (provisionUpstream, reverseproxy.go:1218-1231); only upstreams without one inherit it -/
theorem own_max_requests_wins (p : Params) (i : Nat) :
    maxReqAt p i = if i = 0 ∧ p.firstMax ≠ 0 then p.firstMax else p.maxReq := by
  simp only [maxReqAt]
  by_cases h0 : i = 0 <;> by_cases hf : p.firstMax = 0 <;> simp [h0, hf]

example : maxReqAt { pA with maxReq := 3, firstMax := 1 } 0 = 1 ∧ maxReqAt { pA with maxReq := 3, firstMax := 1 } 1 = 3 := by decide

theorem pool_refs_eq_holders {s : State} (h : Reachable s) (k : Key) : refs s k = holders s k :=
  (poolInv_reachable h).refs_eq k

example : ∃ s, Reachable s ∧ refs s 7 = 1 ∧ holders s 7 = 1 ∧ refs s 8 = 0 ∧ s.inflight 0 = 1 :=
  witness exR (by decide)

/-- when nobody holds a key any more — every configuration that used it is unloaded, every loop
    iteration that provisioned it has returned — the pool has let the entry go: nothing leaks -/
theorem pool_entry_gone_when_nobody_holds {s : State} (h : Reachable s) (k : Key) (h0 : holders s k = 0) :
    s.pool k = none := by
  have hr := pool_refs_eq_holders h k
  cases hp : s.pool k with
  | none => rfl
  | some v =>
    have := (poolInv_reachable h).pos k v.1 v.2 hp
    simp [refs, hp] at hr; omega

example : ∃ s, Reachable s ∧ holders s 8 = 0 ∧ s.pool 8 = none ∧ holders s 7 = 1 := witness exR (by decide)

/-- what the admin endpoint `/reverse_proxy/upstreams` reports for a pooled address (admin.go ranges
    over the pool and reads `NumRequests()` / `Fails()` of the pooled Host) is exact: the number of
    requests being sent to that Host and the number of its failures not yet forgotten -/
theorem admin_view_exact {s : State} (h : Reachable s) {k : Key} {o : HostId} {n : Nat} (_hp : s.pool k = some (o, n)) :
    s.inflight o = (sendingCount s o : Int) ∧ s.fails o = (pendingForgetters s o : Int) :=
  ⟨inflight_eq h o, fails_eq_pending_forgetters h o⟩

example : ∃ s, Reachable s ∧ s.pool 7 = some (0, 1) ∧ s.inflight 0 = 1 ∧ sendingCount s 0 = 1 := witness exR (by decide)

/-- a step that leaves key `k` in use by some loaded handler
    keeps the very same Host object in the pool: `key ∈ old ∩ new → usage count ≥ 1 throughout,
    same Host` — for every interleaving, including the Cleanup of configurations whose Provision
    failed before their upstreams were set up (it releases nothing it did not store).
    For the Cleanup before fix d6561d4 the statement is false: `host_preserved_old_code_fails` (Witness.lean). -/
theorem host_preserved_across_reload {s s' : State} {a : Action} (h : Reachable s)
    (hs : step s a = some s') (k : Key) (hb : 0 < holders s k) (ha : 0 < holders s' k) :
    ∃ o, poolObj s k = some o ∧ poolObj s' k = some o ∧ 0 < refs s' k :=
  host_preserved_step (poolInv_reachable h) (.of_step hs) k hb ha

example : ∃ s, Reachable s ∧ holders s 7 = 2 ∧ poolObj s 7 = some 0 := witness (exR.take 7) (by decide)
/-- …also right before the Cleanup of a rejected configuration that lists the key (`wBad`, the input of
    `host_preserved_old_code_fails`) -/
example : ∃ s, Reachable s ∧ 0 < holders s 7 ∧ (step s (.delete 1 7)).map (fun s' => (holders s' 7, poolObj s' 7)) = some (1, some 0) :=
  witness wBad (by decide)

/-- every loaded handler that still holds a key points at the pool's Host object for it: a new
    configuration that keeps an upstream shares its counters with the old one -/
theorem holders_share_host {s : State} (h : Reachable s) {cs : CfgSt} (hc : cs ∈ s.cfgs) {k : Key} {o : HostId}
    (hu : (k, o) ∈ cs.ups) (hh : k ∈ cs.held) : poolObj s k = some o :=
  (poolInv_reachable h).same_obj cs hc k o hu hh

example : ∃ s, Reachable s ∧ (s.cfgs.map fun cs => (cs.ups, cs.held)) = [([(7, 0), (8, 1)], [8, 7]), ([(7, 0)], [7])] :=
  witness (exR.take 7) (by decide)

/-- any two holders of a key — loaded handlers, or loop
    iterations of handlers with dynamic upstreams (each iteration provisions its upstreams and is a
    holder until it returns) — count on the very same Host object: concurrent requests to one
    address see each other's in-flight count and failures, whichever configuration or iteration
    they belong to. -/
theorem holders_of_a_key_share_one_host {s : State} (h : Reachable s) {c1 c2 : CfgSt} (h1 : c1 ∈ s.cfgs)
    (h2 : c2 ∈ s.cfgs) {k : Key} {o1 o2 : HostId} (hu1 : (k, o1) ∈ c1.ups) (hh1 : k ∈ c1.held)
    (hu2 : (k, o2) ∈ c2.ups) (hh2 : k ∈ c2.held) : o1 = o2 := by
  have e1 := holders_share_host h h1 hu1 hh1
  have e2 := holders_share_host h h2 hu2 hh2
  rw [e1] at e2; exact Option.some.inj e2

def pDyn : Params := { pA with dynamic := true, maxFails := 5 }

/-- a handler with dynamic upstreams [0, 1]: two requests are inside backend 0 at once — two
    iterations hold key 0 (usage count 2), both count on Host object 0, whose in-flight count is 2 -/
example : ((runSteps dinit [.load [0, 1] pDyn [], .newReq true, .newReq true]).map fun d =>
    (refs d.s 0, d.s.inflight 0, sendingCount d.s 0)) = some (2, 2, 2) := by decide +kernel
example : ((runSteps dinit [.load [0, 1] pDyn [], .newReq true, .newReq true]).map fun d =>
    (d.s.cfgs.map (·.ups), d.s.nextHost)) = some ([[], [(0, 0), (1, 1)], [(0, 0), (1, 1)]], 2) := by decide +kernel

/-- …and when the last iteration referring to an address returns, the pool lets the Host go. This is
    the DOCUMENTED reset of passive state for dynamic upstreams, not a violation: healthchecks.go:52-67
    (doc of `HealthChecks.Passive`: "if there is a moment when no requests are actively referring to a
    particular upstream host, the passive health check state will be reset because it will be
    garbage-collected") and reverseproxy.go:95-103. The accounting itself stays exact on the orphaned
    Host (`fails_eq_pending_forgetters` holds for every Host object, pooled or not); what the property
    calls "an upstream within one configuration" lives for one loop iteration here.
    Below: the failure counted on object 0 stays with that orphan, the retry is provisioned fresh
    objects 2 and 3 -/
example : ((runSteps dinit [.load [0, 1] pDyn [], .newReq true, .answer 0 "rst"]).map fun d =>
    (poolObj d.s 0, d.s.fails 0, d.s.inflight 2, d.s.nextHost)) = some (some 2, 1, 1, 4) := by decide +kernel

/-- dynamic upstreams: as long as a request is dealing
    with a Host in its current loop iteration — being sent to it, or between the return of
    `reverseProxy` and the end of the iteration (countFailure, tryAgain) — the iteration still holds
    that upstream in the pool, and the Host is the pooled one: the in-flight count and the failures
    the selection of every other request consults for that address include this request.
    (`q.holder = some c`: the iteration got its upstreams from the source; an iteration in which the
    source failed has no holder and uses the handler's static upstreams, see `fallback`.)
    (The deferred `hosts.Delete` belongs to proxyLoopIteration, not to anything that returns
    earlier — the scope the seeded change C08-dynamic-upstream-host-deleted-early moved.) -/
theorem in_flight_iteration_holds_its_upstream {s : State} (h : Reachable s) {r : Nat} {q : Req} {o : HostId}
    {c : CfgId} (hq : s.reqs[r]? = some q) (hd : q.par.dynamic = true) (ho : q.pc.hostOf = some o)
    (hh : q.holder = some c) : ∃ k, poolObj s k = some o ∧ 0 < refs s k := by
  obtain ⟨cs, hcs, hnc, _, k, hu⟩ := iterInv_reachable h r q o c hq hd ho hh
  have hm : cs ∈ s.cfgs := List.mem_of_getElem? hcs
  have hp := poolInv_reachable h
  have hh := hp.ups_held cs hm hnc k o hu
  refine ⟨k, hp.same_obj cs hm k o hu hh, ?_⟩
  rw [hp.refs_eq k]; exact held_pos_of_mem hm hh

/-- request 0 of a handler with dynamic upstreams: its iteration (holder 1) provisioned key 7 and
    it is being sent there -/
example : ∃ s, Reachable s ∧ (s.reqs[0]?).map (fun q => (q.par.dynamic, q.pc.hostOf, q.holder)) = some (true, some 0, some 1) ∧
    poolObj s 7 = some 0 ∧ refs s 7 = 1 :=
  witness [.newCfg pDyn, .newReq 0 true, .newIter 0, .store 1 7, .dispatch 0 0] (by decide)

/-- the holder of a running iteration cannot end under its request: the step is not enabled -/
example : HoldsAfter [.newCfg pDyn, .newReq 0 true, .newIter 0, .store 1 7, .dispatch 0 0]
    (fun s => (step s (.cancel 1)).isNone = true ∧ (step s (.cancel 0)).isSome = true) := by decide

/-- the error path of the dynamic source (reverseproxy.go:503-507): an iteration in which
    `GetUpstreams` failed (no holder) can only be sent to one of the handler's own, static upstreams —
    which the handler holds in the pool like any static configuration (`holders_share_host`);
    nothing is provisioned and nothing will be released for that iteration -/
theorem fallback_uses_static_upstreams {s s' : State} {r : Nat} {q : Req} {h : HostId}
    (hq : s.reqs[r]? = some q) (hd : q.par.dynamic = true) (hh : q.holder = none)
    (hs : step s (.dispatch r h) = some s') : ∃ cs : CfgSt, s.cfgs[q.cfg]? = some cs ∧ ∃ k, (k, h) ∈ cs.ups := by
  cases Step.of_step hs with | dispatch hq' _ hok => ?_
  rw [hq] at hq'; cases hq'
  exact (dynOk_noHolder hd hh).mp hok

/-- handler 0 has a dynamic source and static upstream key 8; the source fails for request 0 -/
example : HoldsAfter [.newCfg pDyn, .store 0 8, .newReq 0 true, .fallback 0]
    (fun s => (step s (.dispatch 0 0)).isSome = true ∧ (step s (.dispatch 0 5)).isNone = true) := by decide

/-- the syntactic premise of `dec_on_every_exit`,
    regenerated from /repo by tools/extract on every run: in reverseproxy.go there is exactly one
    `countRequest(1)` and one `countRequest(-1)` call site, and the statement right after the
    increment is `defer …countRequest(-1)`, so the decrement runs on every exit incl. panics.
    (The harness case `static defer` checks the same on the source it was built from.) -/
theorem dec_is_deferred_right_after_inc_in_source :
    Gen.proxyIncFollowedByDeferredDec = true ∧ Gen.proxyIncSites = 1 ∧ Gen.proxyDecSites = 1 := by decide

example : Gen.proxyIncSites = Gen.proxyDecSites := by decide

/-- every state the schedule interpreter (the executable model the harness is compared with)
    produces is reachable in the transition system: the invariants above apply to it -/
theorem sched_reachable {d d' : DState} {st : SStep} {ev : String} (h : Reachable d.s)
    (hs : sstep d st = some (d', ev)) : Reachable (settle d'.s) :=
  settle_reachable (sstep_reachable h hs)

example : (sstep dinit (.load [0, 1] pA [])).isSome = true := by decide

/-- the proxy loop of the schedule interpreter over static upstreams (a handler without a dynamic
    source, or an iteration in which the source failed: no holder) never runs out of fuel: the wire syntax limits
    `retries` to 8 and the interpreter passes `fuel0 = 12` (see `advance_never_runs_out_of_fuel` in FuelLemmas.lean
    for the general bound `retries still allowed < fuel`) -/
theorem sched_never_runs_out_of_fuel (d : DState) (r : Nat) (q : Req) (hq : d.s.reqs[r]? = some q)
    (hpc : q.pc = .start) (hcfg : ∃ cs, d.s.cfgs[q.cfg]? = some cs)
    (hdyn : q.par.dynamic = false ∨ q.holder = none) (hr : q.par.retries ≤ 8) : (advance fuel0 d r).isSome = true :=
  advance_never_runs_out_of_fuel fuel0 d r q hq hpc hcfg hdyn (by simp only [fuel0]; omega)

example : ((sstep dinit (.load [0, 1] { pA with retries := 8 } [])).bind fun x =>
    (sstep { x.1 with down := [0, 1] } (.newReq true)).map fun y => (y.2, (y.1.s.reqs.map (·.retries)))) = some ("err", [8]) := by
  decide +kernel

/-- …and neither does the proxy loop of a handler with dynamic upstreams (new holder,
    provisioning, selection, dispatch, refused dial, release — all enabled; see
    `advanceDyn_never_runs_out_of_fuel` in FuelDynLemmas.lean) -/
theorem sched_dyn_never_runs_out_of_fuel (d : DState) (r : Nat) (q : Req) (hq : d.s.reqs[r]? = some q)
    (hpc : q.pc = .start) (hdyn : q.par.dynamic = true) (hr : q.par.retries ≤ 8) :
    (advanceDyn fuel0 d r).isSome = true :=
  advanceDyn_never_runs_out_of_fuel fuel0 d r q hq hpc hdyn (by simp only [fuel0]; omega)

example : ((sstep dinit (.load [0, 1] { pA with retries := 8, dynamic := true } [])).bind fun x =>
    (sstep { x.1 with down := [0, 1] } (.newReq true)).map fun y => (y.2, (y.1.s.reqs.map (·.retries)), y.1.s.cfgs.length)) =
    some ("err", [8], 10) := by decide +kernel

/-- when the response header arrives and the body is
    still to be copied (`sb`), or the backend switches protocols and the upgraded connection stays
    open (`wu`), the status / latency strikes are counted but the request stays in the in-flight
    place with every in-flight count unchanged; only its own `finish` — the end of the body, of the
    upgraded connection, or the client going away — takes it out (`leaves_in_flight_only_by_finish`).
    "Currently being sent to it" includes the whole response. -/
theorem response_header_keeps_request_in_flight {d d' : DState} {ev : String} {r : Nat}
    (hs : sstep d (.streamBegin r) = some (d', ev) ∨ sstep d (.wsBegin r) = some (d', ev)) :
    isParked d'.s r = true ∧ d'.s.inflight = d.s.inflight :=
  let ⟨hp, _, h1⟩ := sstep_header hs; strikesN_parked hp h1

example : ((runSteps dinit [.load [0] { pA with badStatus := [200] } [], .newReq true, .streamBegin 0]).map fun d =>
    (isParked d.s 0, d.s.inflight 0, d.s.fails 0, d.streaming)) = some (true, 1, 1, [0]) := by decide +kernel

/-- Cleanup of a handler whose stream_close_delay is not set (streaming.go cleanupConnections →
    closeConnections) ends the upgraded connections of that handler: every such request leaves the
    in-flight place through its own `finish` (nothing else can take it out), so the in-flight
    count of its Host drops by exactly the number of connections closed — requests that are merely
    parked in a backend stay counted.  Two upgraded connections and one plain request on Host 0: -/
example : ((runSteps dinit [.load [0] { pA with closeStreams := true } [], .newReqWs, .wsBegin 0, .newReqWs, .wsBegin 1,
    .newReq true, .load [0] pA []]).map fun d => (d.s.inflight 0, sendingCount d.s 0, d.wsStreaming, isParked d.s 2)) =
    some (1, 1, [], true) := by decide +kernel
/-- with stream_close_delay set they survive the reload and stay counted -/
example : ((runSteps dinit [.load [0] pA [], .newReqWs, .wsBegin 0, .newReqWs, .wsBegin 1,
    .newReq true, .load [0] pA []]).map fun d => (d.s.inflight 0, d.wsStreaming)) = some (3, [1, 0]) := by decide +kernel

/-- the closing of streams is a sequence of ordinary `finish` / `after` steps -/
theorem streams_closed_on_unload_reachable {d : DState} {c : CfgId} {s : State} (h : Reachable s) :
    Reachable (afterUnload d c s).s := closeStreamsFrom_reachable 0 _ h

/-- a reload that DROPS an upstream while a request is still being sent to it, followed by one that
    lists it again, is not "a reload that keeps the upstream": Cleanup releases the last reference,
    the pool lets the Host go (`pool_entry_gone_when_nobody_holds`), and the address starts over
    with a fresh Host — the old request is still counted, exactly, on the orphaned one (this is
    what the code does; `host_preserved_across_reload` needs a holder throughout) -/
example : ((runSteps dinit [.load [0] pA [], .newReq true, .load [1] pA [], .load [0] pA []]).map fun d =>
    (d.s.inflight 0, poolObj d.s 0, d.s.inflight 2, sendingCount d.s 0)) = some (1, some 2, 0, 1) := by decide +kernel

/-- a handler that expects status 404 of its health endpoint: the first round (at
    Provision, the endpoint answers 200) marks the upstream down, a round after the endpoint was
    scripted to answer 404 brings it back; the step `probe` is an ordinary schedule step
    (`sched_reachable` covers it) -/
example : ((runSteps dinit [.load [0] { pA with aOn := true, aExpect := 404 } []]).map fun d => isDown d.s 0 0) = some true := by decide
example : ((runSteps dinit [.load [0] { pA with aOn := true, aExpect := 404 } [],
    .probe 0 { status := 404, body := upLit, needsHdr := false }, .round]).map fun d => (isDown d.s 0 0, d.s.fails 0)) =
    some (false, 0) := by decide

theorem quiesce_state_reachable {d : DState} (h : Reachable d.s) : Reachable (quiesce d) := by
  simp only [quiesce]
  have ha := abortAllFrom_reachable (d := d) 0 d.s.reqs.length h
  split
  · split
    next s1 h1 => exact settle_reachable (unload_reachable ha h1)
    next => exact settle_reachable ha
  · exact settle_reachable ha

example : ((sstep dinit (.load [0, 1] pA [])).map fun x => (quiesce x.1).nextHost) = some 2 := by decide

end CaddyModel.C09
