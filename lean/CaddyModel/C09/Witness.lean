/-
C09 — the clause the tree violated before fix d6561d4, kept as non-vacuity theorems about the
OLD Cleanup (`stepDeleteOld` / `stepOld` / `runOld` of Model.lean), and what the fixed code does on the
same inputs; also the seeded variant in which an active status flip zeroes `Host.fails`
(`runZeroing`, on `wAct`), `witness_step` (a reachable state and one more step, from two runs), and `runSteps`,
which runs a schedule for the `example`s of Props.lean; unlike `Driver.runSched` it does not carry `aged` from
step to step.

STATEMENT (property text: "…also across config reloads that keep the upstream"; DESIGN §4 C09
`host_preserved_across_reload : key ∈ old ∩ new → hostsPool key ≥ 1 throughout`, same Host object):
proved at full strength for the code as it is, `host_preserved_across_reload` in Props.lean.

It was FALSE for the old code: `Handler.Cleanup` deleted every configured upstream from the `hosts`
pool, and `Context.LoadModule` (context.go:409-421) calls `Cleanup` on a module whose `Provision`
failed — also when it failed *before* `provisionUpstream` stored anything.  The rejected
configuration thereby took away a reference that belonged to the running one; the entry was dropped
from the pool while the running handler still used it, and the next reload that kept the upstream
got a *fresh* Host.  The fix makes Cleanup skip upstreams whose `Host` is nil.  The harness
line of this input is a regression case in corpus/C09/ that must pass.
-/
import CaddyModel.C09.Concrete
import CaddyModel.C09.Sched

namespace CaddyModel.C09

theorem run_snoc (s0 : State) (as : List Action) (a : Action) :
    run s0 (as ++ [a]) = (run s0 as).bind (fun s => step s a) := by
  fun_induction run s0 as with
  | case1 s => simp [run]; cases step s a <;> rfl
  | case2 s b bs s1 h1 ih => simp only [List.cons_append, run, h1, ih]
  | case3 s b bs h1 => simp only [List.cons_append, run, h1]; rfl

theorem witness_step (as : List Action) (a : Action) {P Q : State → Prop}
    (hp : HoldsAfter as P) (hq : HoldsAfter (as ++ [a]) Q) :
    ∃ s s', Reachable s ∧ step s a = some s' ∧ P s ∧ Q s' := by
  obtain ⟨s, hr, hps⟩ := hp
  obtain ⟨s', hr', hqs⟩ := hq
  rw [run_snoc, hr] at hr'
  exact ⟨s, s', reachable_of_run as Reachable.init hr, hr', hps, hqs⟩

def pActW : Params := { pA with maxFails := 3, failDur := 3, retries := 0, aOn := true, aPasses := 1, aFails := 1 }

/-- two passive failures pending on Host 0, then the active checker flips the upstream down -/
def wAct : List Action :=
  [.newCfg pActW, .store 0 7, .activeCheck 0 0 true, .newReq 0 true, .newReq 0 true, .dispatch 0 0, .dispatch 1 0,
   .finish 0 .upstreamErr, .after 0, .spawn 0 0, .finish 1 .upstreamErr, .after 1, .spawn 1 1,
   .activeCheck 0 0 false]

/-- configuration 0 (key 7) is loaded; configuration 1 lists key 7, fails in Provision before
    storing anything and is cancelled; the next step is its Cleanup -/
def wBad : List Action := [.newCfg pA, .store 0 7, .newCfg noParams, .cancel 1]

/-- the statement of `host_preserved_across_reload` (Props.lean) is false
    for the old Cleanup: after `wBad`, the unmatched delete of the rejected configuration leaves key 7
    in use by a loaded handler before and after, yet the pool loses its Host object. -/
theorem host_preserved_old_code_fails :
    ∃ (as : List Action) (a : Action) (k : Key),
      HoldsAfterOld as (fun s => 0 < holders s k ∧ poolObj s k = some 0) ∧
      HoldsAfterOld (as ++ [a]) (fun s => 0 < holders s k ∧ poolObj s k = none ∧ refs s k ≠ holders s k) :=
  ⟨wBad, .delete 1 7, 7, by decide, by decide⟩

/-- the next configuration that keeps the key then got a fresh Host object under the old code … -/
theorem reload_after_failed_provision_got_new_host_old_code_fails :
    HoldsAfterOld (wBad ++ [.delete 1 7, .newCfg pA, .store 2 7])
      (fun s => s.cfgs.map (·.ups) = [[(7, 0)], [], [(7, 1)]]) := by decide

/-- … while the fixed code, on the very same action sequence, hands it the Host in use -/
theorem reload_after_failed_provision_keeps_host :
    HoldsAfter (wBad ++ [.delete 1 7, .newCfg pA, .store 2 7])
      (fun s => s.cfgs.map (·.ups) = [[(7, 0)], [], [(7, 0)]] ∧ refs s 7 = 2) := by decide

/-- the seeded change
    C09-active-flip-zeroes-passive-fails (`resetHealth` also stores 0 into `Host.fails`), as
    `stepActiveZeroing` (Model.lean): with two passive failures pending, the active status flip leaves
    `fails = 0` while two forgetters are still to run (`fails ≠ pending forgetters`), and when
    they have run the count is −2.  The real `stepActive` keeps `fails = 2` and ends at 0
    (`active_checks_leave_passive_accounting_alone` in ActiveProps.lean and the examples on `exAct` in Props.lean). -/
theorem active_flip_zeroing_fails_breaks_accounting :
    ((runZeroing init wAct).map fun s => (s.fails 0, pendingForgetters s 0)) = some (0, 2) ∧
    ((runZeroing init (wAct ++ [.tick, .tick, .tick, .forget 0, .forget 1])).map fun s => s.fails 0) = some (-2) ∧
    ((run init wAct).map fun s => (s.fails 0, pendingForgetters s 0)) = some (2, 2) ∧
    ((run init (wAct ++ [.tick, .tick, .tick, .forget 0, .forget 1])).map fun s => s.fails 0) = some 0 := by decide +kernel

def wSched : List SStep := [.load [0] pA [], .badLoad [0], .load [0] pA []]

def runSteps (d : DState) : List SStep → Option DState
  | [] => some d
  | st :: rest =>
    match sstep d st with
    | some x => runSteps { x.1 with s := settle x.1.s } rest
    | none => none

/-- the same at the level of a harness schedule of the shape `sched 1 L:0:…;B:0;L:0:…` (corpus/C09/regression.txt
    has that line, with other handler parameters): the configuration loaded after the rejected one keeps key 0
    and gets the same Host object 0 -/
theorem sched_reload_after_failed_provision_keeps_host :
    (runSteps dinit wSched).map (fun d => (d.s.cfgs.map (·.ups), poolObj d.s 0, refs d.s 0, d.s.nextHost))
      = some ([[(0, 0)], [], [(0, 0)]], some 0, 1, 1) := by decide +kernel

/-- in-flight clause across such a reload: the request of the old configuration is visible to the
    new one (same Host object) -/
theorem inflight_shared_after_failed_provision :
    (runSteps dinit [.load [0] pA [], .newReq true, .badLoad [0], .load [0] pA []]).map
      (fun d => (d.s.inflight 0, d.s.nextHost, d.s.cfgs.map (·.ups))) = some (1, 1, [[(0, 0)], [], [(0, 0)]]) := by decide +kernel

end CaddyModel.C09
