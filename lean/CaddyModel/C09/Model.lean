/-
C09 — model of the code that exists: upstream in-flight / failure accounting of reverse_proxy.

A labelled transition system whose atomic steps are the atomic instructions / lock regions of
  modules/caddyhttp/reverseproxy/reverseproxy.go  (proxy loop 450-475, proxyLoopIteration 491-597,
                                                   reverseProxy 829-833 & 915-929, tryAgain 1124-1187,
                                                   Cleanup 392-401, provisionUpstream 1205-1231)
  modules/caddyhttp/reverseproxy/healthchecks.go  (countFailure 587-640)
  modules/caddyhttp/reverseproxy/hosts.go         (fillHost 126-133, countRequest/countFail 166-184,
                                                   Healthy/Full/Available 76-98, `hosts` pool 269)
  usagepool.go                                    (LoadOrStore, Delete)

Requests, forgetter goroutines and configurations are anonymous tokens kept in lists (Petri-net
style, DESIGN §4 C04 "Proof engineering"): a step rewrites one list element or appends one, and
every counter of the Go code is compared with a sum over those lists.  Core Lean only.
-/
namespace CaddyModel.C09

abbrev Key := Nat      -- an upstream dial address (the key of the `hosts` pool)
abbrev HostId := Nat   -- one allocated *Host object
abbrev CfgId := Nat    -- one provisioned reverse_proxy handler (= one configuration generation)

/-- how one attempt (one call of `reverseProxy`) ends -/
inductive Outcome
  | ok            -- round trip and response copy succeeded (returns nil)
  | dialRefused   -- RoundTrip returned a DialError
  | upstreamErr   -- RoundTrip returned any other error (reset, EOF, hang-up before the header, timeout)
  | clientAbort   -- RoundTrip returned context.Canceled
  | handlerErr    -- a handle_response route returned an error (roundtripSucceededError)
  | panic         -- a response handler panicked / the body copy failed (panic(http.ErrAbortHandler))
  deriving DecidableEq, Repr

/-- reverseproxy.go:574-589 — the results of `reverseProxy` that reach `h.countFailure(upstream)` -/
def Outcome.countable : Outcome → Bool
  | .dialRefused => true
  | .upstreamErr => true
  | _ => false

/-- what `proxyErr` holds when `tryAgain` looks at it -/
inductive ErrKind
  | none | dial | noUpstream | other
  deriving DecidableEq, Repr

def Outcome.errKind : Outcome → ErrKind
  | .dialRefused => .dial
  | _ => .other

/-- program counter of one request inside `Handler.ServeHTTP` -/
inductive Pc
  | start                              -- top of the proxy loop, before `Select`
  | sending (h : HostId)               -- after `countRequest(1)`; the deferred `countRequest(-1)` is pending
  | strikeInc (h : HostId)             -- still in flight; `countFail(1)` done for a bad status, `go` not yet executed
  | exited (h : HostId) (o : Outcome)  -- `reverseProxy` returned or unwound; `countRequest(-1)` done
  | failInc (h : HostId)               -- `countFail(1)` done after a failed attempt, `go` not yet executed
  | done
  deriving DecidableEq, Repr

/-- is the request between `countRequest(1)` and `countRequest(-1)` on host `o`? -/
def Pc.inFlightOn (o : HostId) : Pc → Bool
  | .sending h => h == o
  | .strikeInc h => h == o
  | _ => false

/-- is the request between `countFail(1)` and the `go` statement on host `o`? -/
def Pc.spawningOn (o : HostId) : Pc → Bool
  | .strikeInc h => h == o
  | .failInc h => h == o
  | _ => false

/-- the handler's parameters after `Provision` -/
structure Params where
  passive  : Bool   -- health_checks.passive present
  failDur  : Nat    -- fail_duration in ticks; 0 = failures are not counted
  maxFails : Nat    -- max_fails (Provision turns 0 into 1)
  retries  : Nat    -- load_balancing.retries (try_duration = 0, try_interval = 0)
  maxReq   : Nat    -- unhealthy_request_count → Upstream.MaxRequests of upstreams without their own (0 = unlimited)
  firstMax : Nat    -- `max_requests` of the first configured upstream (0 = not set)
  badStatus : List Nat  -- passive unhealthy_status entries (a value < 100 is a class: 5 = 5xx)
  latency  : Bool   -- passive unhealthy_latency configured (a round trip at least that long is a strike)
  closeStreams : Bool  -- stream_close_delay unset (the default): Cleanup closes upgraded connections at once
  aOn      : Bool   -- active health checks enabled (health_checks.active with a uri)
  aPasses  : Nat    -- active `passes` threshold (Provision turns < 1 into 1)
  aFails   : Nat    -- active `fails` threshold (Provision turns < 1 into 1)
  dynamic  : Bool   -- the upstreams come from a dynamic source (`dynamic_upstreams`): they are provisioned and
                    -- released by every loop iteration, which then is a pool holder of its own (see `CfgSt`)
  aExpect  : Nat := 0      -- active `expect_status` (0 = not set: any 2xx passes; < 100 = a class)
  aBody    : Bool := false -- active `expect_body` set (the correspondence uses the regular expression `^UP`)
  aMax     : Nat := 0      -- active `max_size`: how much of the answer's body is read (0 = all of it)
  aHdr     : Bool := false -- active `headers` carries the header the scripted health endpoint may insist on
  deriving DecidableEq, Repr

/-- healthchecks.go:590-596 — does `countFailure` do anything? -/
def Params.counting (p : Params) : Bool := p.passive && p.failDur != 0

structure Req where
  cfg     : CfgId
  par     : Params
  isGet   : Bool
  retries : Nat
  lastErr : ErrKind
  pc      : Pc
  incs    : Nat                       -- ghost: number of `countRequest(1)` executed
  hist    : List (HostId × Outcome)   -- ghost: every finished attempt
  holder  : Option CfgId := none      -- dynamic upstreams: the holder of the current loop iteration
  deriving Repr

inductive FSt
  | counted    -- `countFail(1)` executed, goroutine not yet started
  | waiting    -- goroutine blocked in `select { <-h.ctx.Done() | <-timer.C }`
  | forgotten  -- `countFail(-1)` executed
  deriving DecidableEq, Repr

/-- one counted failure = one forgetter goroutine's life -/
structure Fail where
  host : HostId
  cfg  : CfgId
  t0   : Nat
  dur  : Nat
  src  : Option Outcome   -- the attempt outcome that was counted; `none` = bad status strike
  st   : FSt
  deriving Repr

def Fail.exp (e : Fail) : Nat := e.t0 + e.dur

/-- one holder of `hosts` pool references with its own end of life: a provisioned handler
    (= configuration generation), or — for handlers with dynamic upstreams — one iteration of the
    proxy loop (reverseproxy.go:496-517: `provisionUpstream` on every dynamic upstream, the deferred
    `hosts.Delete` of each when the iteration returns; `canceled` = the iteration is over) -/
structure CfgSt where
  par      : Params
  ups      : List (Key × HostId)   -- provisioned upstreams, in order
  held     : List Key              -- keys stored in the `hosts` pool and not yet deleted
  canceled : Bool
  owner    : Option Nat := none   -- the request whose loop iteration this holder is (none = a provisioned handler)
  deriving Repr

structure State where
  now      : Nat
  inflight : HostId → Int          -- Host.numRequests
  fails    : HostId → Int          -- Host.fails
  reqs     : List Req
  log      : List Fail
  cfgs     : List CfgSt
  pool     : Key → Option (HostId × Nat)   -- `hosts`: value and usage count
  nextHost : HostId
  aPass    : HostId → Nat := fun _ => 0    -- Host.activePasses (shared through the pool like the other counters)
  aFail    : HostId → Nat := fun _ => 0    -- Host.activeFails
  adown    : List (CfgId × Nat) := []      -- Upstream.unhealthy: (handler, upstream position) marked down by the active checker

def init : State :=
  { now := 0, inflight := fun _ => 0, fails := fun _ => 0, reqs := [], log := [], cfgs := [],
    pool := fun _ => none, nextHost := 0 }

def upd {α : Type} (f : Nat → α) (i : Nat) (v : α) : Nat → α := fun j => if j = i then v else f j

def canceled (s : State) (c : CfgId) : Bool :=
  match s.cfgs[c]? with
  | some cs => cs.canceled
  | none => false

/-- reverseproxy.go:1124-1187 with try_duration = 0, a small positive try_interval and no
    retry_match; `canc` = the handler's context is already cancelled when the `select` between
    the interval timer and `ctx.Done()` is reached (then `ctx.Done()` is the only ready case) -/
def tryAgain (p : Params) (retries : Nat) (e : ErrKind) (isGet : Bool) (canc : Bool) : Bool :=
  p.retries != 0 && decide (retries < p.retries) && !(e == ErrKind.other && !isGet) && !canc

/-- the request after `tryAgain` answered: next loop iteration (`retries++`) or return -/
def Req.decided (q : Req) (e : ErrKind) (canc : Bool) : Req :=
  if tryAgain q.par q.retries e q.isGet canc then { q with lastErr := e, pc := .start, retries := q.retries + 1 }
  else { q with lastErr := e, pc := .done }

def Req.keepErr (q : Req) : ErrKind := if q.lastErr = .none then .noUpstream else q.lastErr

inductive Action
  | newCfg (p : Params)                 -- a handler starts provisioning
  | store (c : CfgId) (k : Key)         -- fillHost: hosts.LoadOrStore(k, new(Host))
  | cancel (c : CfgId)                  -- the configuration's context is cancelled
  | delete (c : CfgId) (k : Key)        -- Cleanup: one upstream of the loop (hosts.Delete(k) if it was stored)
  | newReq (c : CfgId) (get : Bool)     -- ServeHTTP of handler c is entered
  | dispatch (r : Nat) (h : HostId)     -- Select returned an upstream with Host h; countRequest(1)
  | noUpstream (r : Nat)                -- Select returned nil; tryAgain
  | strike (r : Nat)                    -- bad status / latency inside reverseProxy: countFail(1)
  | spawn (r : Nat) (i : Nat)           -- the `go` statement of countFailure (entry i)
  | finish (r : Nat) (out : Outcome)    -- reverseProxy returns or unwinds: deferred countRequest(-1)
  | after (r : Nat)                     -- proxyLoopIteration after reverseProxy returned
  | forget (i : Nat)                    -- forgetter i wakes up (timer or ctx.Done) and runs countFail(-1)
  | newIter (r : Nat)                   -- a loop iteration of a handler with dynamic upstreams begins (its own pool holder)
  | activeCheck (c : CfgId) (i : Nat) (pass : Bool)  -- one active health check of handler c on its i-th upstream completes
  | dialInfoFails (r : Nat)             -- the selected upstream's dial address cannot be filled in for this request
  | fallback (r : Nat)                  -- the dynamic source failed: this iteration uses the handler's static upstreams
  | tick
  deriving Repr

def newFail (q : Req) (h : HostId) (now : Nat) (src : Option Outcome) : Fail :=
  { host := h, cfg := q.cfg, t0 := now, dur := q.par.failDur, src := src, st := .counted }

/-- the Host the request is dealing with in the current loop iteration (none = between two
    iterations, or past the loop: where proxyLoopIteration's deferred deletes have run) -/
def Pc.hostOf : Pc → Option HostId
  | .sending h => some h
  | .strikeInc h => some h
  | .exited h _ => some h
  | .failInc h => some h
  | _ => none

/-- a request with dynamic upstreams can only be sent to an upstream its current iteration
    provisioned (reverseproxy.go:496-521: Select runs over `dUpstreams`) -/
def dynOk (s : State) (r : Nat) (q : Req) (h : HostId) : Bool :=
  if q.par.dynamic then
    match q.holder with
    | some c =>
      match s.cfgs[c]? with
      | some cs => !cs.canceled && cs.owner == some r && cs.ups.any (·.2 == h)
      | none => false
    | none =>
      -- the source failed in this iteration (reverseproxy.go:503-507): the handler's own, static
      -- upstreams are used instead
      match s.cfgs[q.cfg]? with
      | some cs => cs.ups.any (·.2 == h)
      | none => false
  else true

/-- an iteration's holder ends (the deferred deletes start) only when its request is back at
    the top of the loop or has left it; a handler's context can be cancelled at any time -/
def ownerIdle (s : State) (cs : CfgSt) : Bool :=
  match cs.owner with
  | some r =>
    match s.reqs[r]? with
    | some q => q.pc.hostOf == none
    | none => true
  | none => true

def stepDispatch (s : State) (r : Nat) (h : HostId) : Option State :=
  match s.reqs[r]? with
  | some q =>
    match q.pc with
    | .start =>
      if dynOk s r q h then
        some { s with reqs := s.reqs.set r { q with pc := .sending h, incs := q.incs + 1 },
                      inflight := upd s.inflight h (s.inflight h + 1) }
      else none
    | _ => none
  | none => none

/-- reverseproxy.go:494-509 — a loop iteration of a handler with dynamic upstreams begins: it is
    going to provision what the source returns and is a pool holder of its own until it returns -/
def stepNewIter (s : State) (r : Nat) : Option State :=
  match s.reqs[r]? with
  | some q =>
    match q.pc with
    | .start =>
      if q.par.dynamic then
        some { s with cfgs := s.cfgs ++ [{ par := q.par, ups := [], held := [], canceled := false, owner := some r }],
                      reqs := s.reqs.set r { q with holder := some s.cfgs.length } }
      else none
    | _ => none
  | none => none

/-- reverseproxy.go:503-507 — `GetUpstreams` returned an error: this iteration falls back to the
    static upstreams of the handler; nothing is provisioned, nothing will be released -/
def stepFallback (s : State) (r : Nat) : Option State :=
  match s.reqs[r]? with
  | some q =>
    match q.pc with
    | .start =>
      if q.par.dynamic then some { s with reqs := s.reqs.set r { q with holder := none } } else none
    | _ => none
  | none => none

/-- reverseproxy.go:538-544 — an upstream was selected but `fillDialInfo` fails (its dial address
    is a request placeholder that expands to something that is not one dialable socket): the
    iteration returns `true, err` at once.  No Host counter has been touched: `countRequest(1)` is
    the first statement of `reverseProxy`, which is never entered. -/
def stepDialInfoFails (s : State) (r : Nat) : Option State :=
  match s.reqs[r]? with
  | some q =>
    match q.pc with
    | .start => some { s with reqs := s.reqs.set r { q with pc := .done } }
    | _ => none
  | none => none

def stepNoUpstream (s : State) (r : Nat) : Option State :=
  match s.reqs[r]? with
  | some q =>
    match q.pc with
    | .start => some { s with reqs := s.reqs.set r (q.decided q.keepErr (canceled s q.cfg)) }
    | _ => none
  | none => none

def stepStrike (s : State) (r : Nat) : Option State :=
  match s.reqs[r]? with
  | some q =>
    match q.pc with
    | .sending h =>
      if q.par.counting then
        some { s with reqs := s.reqs.set r { q with pc := .strikeInc h },
                      fails := upd s.fails h (s.fails h + 1),
                      log := s.log ++ [newFail q h s.now none] }
      else none
    | _ => none
  | none => none

def spawnOk (q : Req) (h : HostId) (e : Fail) : Bool :=
  e.st == .counted && e.host == h && e.cfg == q.cfg

def stepSpawn (s : State) (r : Nat) (i : Nat) : Option State :=
  match s.reqs[r]?, s.log[i]? with
  | some q, some e =>
    match q.pc with
    | .strikeInc h =>
      if spawnOk q h e then
        some { s with reqs := s.reqs.set r { q with pc := .sending h }, log := s.log.set i { e with st := .waiting } }
      else none
    | .failInc h =>
      if spawnOk q h e then
        some { s with reqs := s.reqs.set r (q.decided q.lastErr (canceled s q.cfg)), log := s.log.set i { e with st := .waiting } }
      else none
    | _ => none
  | _, _ => none

def stepFinish (s : State) (r : Nat) (out : Outcome) : Option State :=
  match s.reqs[r]? with
  | some q =>
    match q.pc with
    | .sending h => some { s with reqs := s.reqs.set r { q with pc := .exited h out, hist := q.hist ++ [(h, out)] },
                                  inflight := upd s.inflight h (s.inflight h - 1) }
    | _ => none
  | none => none

def stepAfter (s : State) (r : Nat) : Option State :=
  match s.reqs[r]? with
  | some q =>
    match q.pc with
    | .exited h out =>
      if out.countable then
        if q.par.counting then
          some { s with reqs := s.reqs.set r { q with pc := .failInc h, lastErr := out.errKind },
                        fails := upd s.fails h (s.fails h + 1),
                        log := s.log ++ [newFail q h s.now (some out)] }
        else some { s with reqs := s.reqs.set r (q.decided out.errKind (canceled s q.cfg)) }
      else some { s with reqs := s.reqs.set r { q with pc := .done } }
    | _ => none
  | none => none

def forgetOk (s : State) (e : Fail) : Bool :=
  e.st == .waiting && (decide (e.exp ≤ s.now) || canceled s e.cfg)

def stepForget (s : State) (i : Nat) : Option State :=
  match s.log[i]? with
  | some e =>
    if forgetOk s e then
      some { s with log := s.log.set i { e with st := .forgotten },
                    fails := upd s.fails e.host (s.fails e.host - 1) }
    else none
  | none => none

def stepStore (s : State) (c : CfgId) (k : Key) : Option State :=
  match s.cfgs[c]? with
  | some cs =>
    if cs.canceled then none else
    match s.pool k with
    | some (o, n) =>
      some { s with pool := upd s.pool k (some (o, n + 1)),
                    cfgs := s.cfgs.set c { cs with ups := cs.ups ++ [(k, o)], held := k :: cs.held } }
    | none =>
      some { s with pool := upd s.pool k (some (s.nextHost, 1)),
                    nextHost := s.nextHost + 1,
                    cfgs := s.cfgs.set c { cs with ups := cs.ups ++ [(k, s.nextHost)], held := k :: cs.held } }
  | none => none

def stepCancel (s : State) (c : CfgId) : Option State :=
  match s.cfgs[c]? with
  | some cs =>
    if ownerIdle s cs then some { s with cfgs := s.cfgs.set c { cs with canceled := true } } else none
  | none => none

/-- usagepool.go Delete: decrement, remove at zero; a missing key is ignored -/
def poolDelete (pool : Key → Option (HostId × Nat)) (k : Key) : Key → Option (HostId × Nat) :=
  match pool k with
  | some (o, n) => if n ≤ 1 then upd pool k none else upd pool k (some (o, n - 1))
  | none => pool

/-- reverseproxy.go:392-407 — Cleanup walks the configured upstreams and releases those whose
    `Host` is set, i.e. the ones `provisionUpstream` stored (`k ∈ held`); for an upstream that was
    never stored (Provision failed earlier; context.go:409-421 still calls Cleanup) the loop body is
    `continue`: the step is a no-op.
    (The pool lookup is done once, here, so that the executable model stays linear; the result is
    `poolDelete s.pool k`, see `stepDelete_spec` in Steps.lean.) -/
def stepDelete (s : State) (c : CfgId) (k : Key) : Option State :=
  match s.cfgs[c]? with
  | some cs =>
    if cs.canceled then
      if cs.held.contains k then
        match s.pool k with
        | some (o, n) =>
          if n ≤ 1 then some { s with pool := upd s.pool k none, cfgs := s.cfgs.set c { cs with held := cs.held.erase k } }
          else some { s with pool := upd s.pool k (some (o, n - 1)), cfgs := s.cfgs.set c { cs with held := cs.held.erase k } }
        | none => some { s with cfgs := s.cfgs.set c { cs with held := cs.held.erase k } }
      else some s
    else none
  | none => none

/-- the Cleanup of the code before fix d6561d4 ("Cleanup releases only the upstream hosts that
    Provision acquired"): every configured upstream is deleted from the pool, stored or not.
    Kept only for the `…_old_code_fails` theorems in `Witness.lean`. -/
def stepDeleteOld (s : State) (c : CfgId) (k : Key) : Option State :=
  match s.cfgs[c]? with
  | some cs =>
    if cs.canceled then
      some { s with pool := poolDelete s.pool k, cfgs := s.cfgs.set c { cs with held := cs.held.erase k } }
    else none
  | none => none

def stepNewReq (s : State) (c : CfgId) (get : Bool) : Option State :=
  match s.cfgs[c]? with
  | some cs =>
    some { s with reqs := s.reqs ++ [{ cfg := c, par := cs.par, isGet := get, retries := 0, lastErr := .none,
                                        pc := .start, incs := 0, hist := [] }] }
  | none => none

def isDown (s : State) (c : CfgId) (i : Nat) : Bool := s.adown.contains (c, i)

/-- healthchecks.go doActiveHealthCheck → markHealthy / markUnhealthy, and hosts.go resetHealth:
    the check's result is counted on the Host (`activePasses` / `activeFails`, shared through the
    pool); when the count reaches the handler's threshold and the upstream's status actually
    changes (`setHealthy` reports a flip), both active counters are reset.  Nothing else is
    touched — in particular not `Host.fails`, which belongs to the passive checker and its
    forgetters. -/
def stepActive (s : State) (c : CfgId) (i : Nat) (pass : Bool) : Option State :=
  match s.cfgs[c]? with
  | some cs =>
    match cs.ups[i]? with
    | some u =>
      if pass then
        if decide (cs.par.aPasses ≤ s.aPass u.2 + 1) && isDown s c i then
          some { s with aPass := upd s.aPass u.2 0, aFail := upd s.aFail u.2 0,
                        adown := s.adown.filter (· != (c, i)) }
        else some { s with aPass := upd s.aPass u.2 (s.aPass u.2 + 1) }
      else
        if decide (cs.par.aFails ≤ s.aFail u.2 + 1) && !isDown s c i then
          some { s with aPass := upd s.aPass u.2 0, aFail := upd s.aFail u.2 0, adown := (c, i) :: s.adown }
        else some { s with aFail := upd s.aFail u.2 (s.aFail u.2 + 1) }
    | none => none
  | none => none

/-- the seeded change C09-active-flip-zeroes-passive-fails: `resetHealth` also stores 0 into
    `Host.fails`.  Kept only for the `…_breaks_…` theorem in `Witness.lean`. -/
def stepActiveZeroing (s : State) (c : CfgId) (i : Nat) (pass : Bool) : Option State :=
  match stepActive s c i pass, s.cfgs[c]? with
  | some s', some cs =>
    match cs.ups[i]? with
    | some u => if isDown s' c i != isDown s c i then some { s' with fails := upd s'.fails u.2 0 } else some s'
    | none => some s'
  | _, _ => none

def step (s : State) : Action → Option State
  | .newCfg p => some { s with cfgs := s.cfgs ++ [{ par := p, ups := [], held := [], canceled := false }] }
  | .store c k => stepStore s c k
  | .cancel c => stepCancel s c
  | .delete c k => stepDelete s c k
  | .newReq c get => stepNewReq s c get
  | .dispatch r h => stepDispatch s r h
  | .noUpstream r => stepNoUpstream s r
  | .strike r => stepStrike s r
  | .spawn r i => stepSpawn s r i
  | .finish r out => stepFinish s r out
  | .after r => stepAfter s r
  | .forget i => stepForget s i
  | .newIter r => stepNewIter s r
  | .fallback r => stepFallback s r
  | .dialInfoFails r => stepDialInfoFails s r
  | .activeCheck c i pass => stepActive s c i pass
  | .tick => some { s with now := s.now + 1 }

def run (s : State) : List Action → Option State
  | [] => some s
  | a :: as =>
    match step s a with
    | some s' => run s' as
    | none => none

/-- every state the system can be in, for any number of requests, hosts, configurations, and any
    interleaving of their atomic steps -/
inductive Reachable : State → Prop
  | init : Reachable init
  | step {s s' : State} (a : Action) : Reachable s → step s a = some s' → Reachable s'

/-- the transition system of the code before fix d6561d4 (only the Cleanup delete differs) -/
def stepOld (s : State) : Action → Option State
  | .delete c k => stepDeleteOld s c k
  | a => step s a

/-- the transition system with the seeded change C09-active-flip-zeroes-passive-fails -/
def stepZeroing (s : State) : Action → Option State
  | .activeCheck c i pass => stepActiveZeroing s c i pass
  | a => step s a

def runZeroing (s : State) : List Action → Option State
  | [] => some s
  | a :: as =>
    match stepZeroing s a with
    | some s' => runZeroing s' as
    | none => none

def runOld (s : State) : List Action → Option State
  | [] => some s
  | a :: as =>
    match stepOld s a with
    | some s' => runOld s' as
    | none => none

-- ---------------------------------------------------------------- observations

/-- hosts.go:83-92 without active checks / circuit breaker -/
def healthy (p : Params) (s : State) (o : HostId) : Bool :=
  !p.passive || decide (s.fails o < (p.maxFails : Int))

/-- reverseproxy.go:1218-1231 provisionUpstream — the limit `Full()` uses for the upstream at
    position `i`: its own `max_requests` if set, else the passive checker's
    unhealthy_request_count -/
def maxReqAt (p : Params) (i : Nat) : Nat :=
  if i == 0 && p.firstMax != 0 then p.firstMax else p.maxReq

/-- hosts.go:96-98 -/
def full (p : Params) (i : Nat) (s : State) (o : HostId) : Bool :=
  maxReqAt p i != 0 && decide ((maxReqAt p i : Int) ≤ s.inflight o)

def available (p : Params) (i : Nat) (s : State) (o : HostId) : Bool := healthy p s o && !full p i s o

/-- selectionpolicies.go FirstSelection.Select (`i` = position of the head of the list; `dn` =
    which positions the active checker has marked down: hosts.go:83-92 Healthy() starts with it) -/
def firstAvailableFrom (p : Params) (s : State) (dn : Nat → Bool) : Nat → List (Key × HostId) → Option (Key × HostId)
  | _, [] => none
  | i, u :: rest =>
    if !dn i && available p i s u.2 then some u else firstAvailableFrom p s dn (i + 1) rest

/-- selection among upstreams no active checker looks at (dynamic upstreams) -/
def firstAvailable (p : Params) (s : State) (ups : List (Key × HostId)) : Option (Key × HostId) :=
  firstAvailableFrom p s (fun _ => false) 0 ups

/-- selection among the static upstreams of handler `c` -/
def firstAvailableOf (p : Params) (s : State) (c : CfgId) (ups : List (Key × HostId)) : Option (Key × HostId) :=
  firstAvailableFrom p s (isDown s c) 0 ups

/-- caddyhttp.go:230-240 StatusCodeMatches -/
def statusCodeMatches (actual configured : Nat) : Bool :=
  actual == configured ||
    (decide (configured < 100) && decide (configured * 100 ≤ actual) && decide (actual < (configured + 1) * 100))

/-- reverseproxy.go:916-923 — one `countFailure` per unhealthy_status entry that matches -/
def strikeCount : List Nat → Nat → Nat
  | [], _ => 0
  | c :: rest, actual => (if statusCodeMatches actual c then 1 else 0) + strikeCount rest actual

end CaddyModel.C09
