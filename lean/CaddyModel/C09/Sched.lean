/-
C09 — the forced schedules the correspondence harness drives, as compositions of `Model.step`.

One harness step (load a configuration, start a request, let the backend answer, …) is a short,
deterministic sequence of atomic actions of the transition system in `Model.lean`: the request
that was moved runs until it is parked inside a backend again or has returned, and every forgetter
that is due has run before the snapshot is taken (`settle`).  `Props.sched_reachable` shows that every
state produced here is `Reachable`, so the invariants apply to exactly what the harness compares.
-/
import CaddyModel.C09.ActiveVerdict

namespace CaddyModel.C09

/-- state of a schedule: the system state plus what the environment (harness) controls -/
structure DState where
  s    : State
  cur  : Option CfgId        -- the loaded configuration new requests go to
  down : List Key            -- backends that refuse connections
  keys : List (List Key)     -- per holder (configuration generation or loop iteration): its upstream keys
  iters : List (Nat × Option CfgId) -- dynamic upstreams: request → the holder of its loop iteration (latest first;
                             -- none = the source failed, the iteration uses the static upstreams)
  fbs : List (CfgId × List Key) -- handlers with dynamic upstreams: their static (fallback) upstream keys
  srcFails : Bool            -- the dynamic source currently answers with an error
  hbad : List Key            -- backends whose health endpoint answers 503
  hprobe : List (Key × Probe) := [] -- backends whose health endpoint was scripted in full (status, body, header
                             -- it insists on); wins over `hbad`
  badDial : List (Nat × Key) -- request → the upstream key whose dial placeholder expands, for this request, to
                             -- something that is not one dialable socket
  streaming : List Nat       -- requests whose response body is being copied (headers arrived, body not finished)
  wsReqs : List Nat          -- requests that asked for a protocol upgrade (Connection: Upgrade)
  wsStreaming : List Nat     -- …whose upgraded connection was opened (entered together with `streaming`; taken out only when an unload closes it)
  aged : List Nat            -- requests that were already parked while a slow answer (`sl`) was being waited for:
                             -- their own round trip has taken longer than unhealthy_latency, whatever comes

def dinit : DState := { s := init, cur := none, down := [], keys := [], iters := [], fbs := [], srcFails := false, hbad := [], badDial := [], streaming := [], wsReqs := [], wsStreaming := [], aged := [] }

def stores (s : State) (c : CfgId) : List Key → Option State
  | [] => some s
  | k :: ks =>
    match step s (.store c k) with
    | some s' => stores s' c ks
    | none => none

def deletes (s : State) (c : CfgId) : List Key → Option State
  | [] => some s
  | k :: ks =>
    match step s (.delete c k) with
    | some s' => deletes s' c ks
    | none => none

/-- caddy context cancel: cancel(), then Cleanup of the handler -/
def unload (s : State) (c : CfgId) (ks : List Key) : Option State :=
  match step s (.cancel c) with
  | some s' => deletes s' c ks
  | none => none

/-- let forgetters i-1 … 0 run if they are due -/
def forgetAll (s : State) : Nat → State
  | 0 => s
  | i + 1 =>
    match step s (.forget i) with
    | some s' => forgetAll s' i
    | none => forgetAll s i

def settle (s : State) : State := forgetAll s s.log.length

def pcOf (s : State) (r : Nat) : Option Pc := (s.reqs[r]?).map (·.pc)

def isDone (s : State) (r : Nat) : Bool := pcOf s r == some Pc.done

def isSpawning (s : State) (r : Nat) : Bool :=
  match pcOf s r with
  | some (.failInc _) => true
  | some (.strikeInc _) => true
  | _ => false

/-- the `go` statement right after `countFail(1)`: the entry just appended -/
def spawnLast (s : State) (r : Nat) : Option State :=
  if isSpawning s r then step s (.spawn r (s.log.length - 1)) else some s

/-- reverseProxy returns with `out`, proxyLoopIteration runs to the end of the iteration -/
def endAttempt (s : State) (r : Nat) (out : Outcome) : Option State :=
  match step s (.finish r out) with
  | some s1 =>
    match step s1 (.after r) with
    | some s2 => spawnLast s2 r
    | none => none
  | none => none

/-- `n` matching unhealthy_status entries: countFailure n times while in flight -/
def strikesN (s : State) (r : Nat) : Nat → Option State
  | 0 => some s
  | n + 1 =>
    match step s (.strike r) with
    | some s1 =>
      match spawnLast s1 r with
      | some s2 => strikesN s2 r n
      | none => none
    | none => none

def keyDown (d : DState) (k : Key) : Bool := d.down.contains k

/-- can the dial info of upstream key `k` not be filled in for request `r`? (hosts.go fillDialInfo) -/
def dialBad (d : DState) (r : Nat) (k : Key) : Bool := d.badDial.contains (r, k)

/-- run request `r` from the top of the proxy loop until it is parked in a backend (`P<key>`) or
    has returned (`err`); `fuel` bounds the loop iterations (≤ retries + 1) -/
def advance : Nat → DState → Nat → Option (State × String)
  | 0, _, _ => none
  | fuel + 1, d, r =>
    match d.s.reqs[r]? with
    | none => none
    | some q =>
      match d.s.cfgs[q.cfg]? with
      | none => none
      | some cs =>
        match firstAvailableOf q.par d.s q.cfg cs.ups with
        | none =>
          match step d.s (.noUpstream r) with
          | none => none
          | some s1 => if isDone s1 r then some (s1, "err") else advance fuel { d with s := s1 } r
        | some u =>
          if dialBad d r u.1 then
            -- reverseproxy.go:541-544: `return true, fmt.Errorf("making dial info: …")` — no retry, no counter
            match step d.s (.dialInfoFails r) with
            | none => none
            | some s1 => some (s1, "err")
          else
          match step d.s (.dispatch r u.2) with
          | none => none
          | some s1 =>
            if keyDown d u.1 then
              match endAttempt s1 r .dialRefused with
              | none => none
              | some s2 => if isDone s2 r then some (s2, "err") else advance fuel { d with s := s2 } r
            else some (s1, "P" ++ toString u.1)

def fuel0 : Nat := 12

/-- reverseproxy.go:915-929 — the `countFailure` calls for an answer with status `code`: one per
    matching unhealthy_status entry, one more if the round trip took at least unhealthy_latency
    (the answer `sl` is that slow, and so is any answer to a request that was parked meanwhile: `aged`) -/
def strikesFor (p : Params) (what : String) (code : Nat) (aged : Bool := false) : Nat :=
  if p.counting then strikeCount p.badStatus code + (if (what == "sl" || aged) && p.latency then 1 else 0) else 0

/-- the steps of a schedule (see harness/internal/c09/c09.go for the wire syntax) -/
inductive SStep
  | load (ks : List Key) (p : Params) (fb : List Key)   -- fb: static upstreams of a handler with a dynamic source
  | srcFail (b : Bool)
  | health (k : Key) (ok : Bool)   -- the health endpoint of backend k starts passing / failing
  | probe (k : Key) (pr : Probe)   -- the health endpoint of backend k is scripted in full (status, body, header)
  | round                          -- one round of active health checks of the loaded configuration
  | newReqBad (get : Bool) (k : Key)   -- a request for which the dial placeholder of upstream k is undialable
  | newReqWs                -- a GET that asks for a protocol upgrade (websocket)
  | wsBegin (r : Nat)       -- the backend switches protocols (101): the connection stays open
  | streamBegin (r : Nat)   -- the backend sends a 200 header and the first part of the body, then pauses
  | streamEnd (r : Nat)     -- …and finishes the body
  | badLoad (ks : List Key)
  | unloadCur
  | newReq (get : Bool)
  | answer (r : Nat) (what : String)
  | abort (r : Nat)
  | bdown (k : Key)
  | bup (k : Key)
  | ticks (n : Nat)
  deriving Repr

def noParams : Params :=
  { passive := false, failDur := 0, maxFails := 1, retries := 0, maxReq := 0, firstMax := 0, badStatus := [], latency := false, closeStreams := false, aOn := false, aPasses := 1, aFails := 1, dynamic := false }

/-- the status code behind an answer token of the wire syntax (`none` = not a complete answer) -/
def answerStatus : String → Option Nat
  | "ok" => some 200
  | "sl" => some 200    -- 200, but only after longer than unhealthy_latency
  | "e5" => some 500
  | "c404" => some 404
  | "c429" => some 429
  | "c502" => some 502
  | "c503" => some 503
  | "hup" => some 200   -- 200 and a body that breaks off
  | "pan" => some 200   -- 200, then a response handler panics
  | "her" => some 200   -- 200, then a response handler fails
  | _ => none

def isParked (s : State) (r : Nat) : Bool :=
  match pcOf s r with
  | some (.sending _) => true
  | _ => false

/-- the `aged` set after a step: a slow answer ages everybody else who is parked; a request that
    was moved starts afresh (it returned, or a new round trip began) -/
def agedAfter (d : DState) : SStep → List Nat
  | .answer r what =>
    if what == "sl" then
      (d.aged.filter (· != r)) ++ (List.range d.s.reqs.length).filter (fun r' => r' != r && isParked d.s r')
    else d.aged.filter (· != r)
  | .abort r => d.aged.filter (· != r)
  | .streamBegin r => d.aged.filter (· != r)
  | .wsBegin r => d.aged.filter (· != r)
  | _ => d.aged

def tickN (s : State) : Nat → State
  | 0 => s
  | n + 1 =>
    match step s .tick with
    | some s' => tickN s' n
    | none => s

/-- the upstream keys configuration `c` was loaded with -/
def keysOf (d : DState) (c : CfgId) : List Key :=
  match d.keys[c]? with
  | some ks => ks
  | none => []

def curLive (d : DState) : Option CfgId :=
  match d.cur with
  | some c => if canceled d.s c then none else some c
  | none => none

/-- the upstreams handler `c` itself holds in the pool: none if they come from a dynamic source -/
def fbOf (d : DState) (c : CfgId) : List Key :=
  match d.fbs.find? (·.1 == c) with
  | some x => x.2
  | none => []

def ownKeys (d : DState) (s : State) (c : CfgId) : List Key :=
  match s.cfgs[c]? with
  | some cs => if cs.par.dynamic then fbOf d c else keysOf d c
  | none => []

/-- does request `r` run on a handler with dynamic upstreams? -/
def isDynReq (s : State) (r : Nat) : Bool :=
  match s.reqs[r]? with
  | some q => q.par.dynamic
  | none => false

def holderOf (d : DState) (r : Nat) : Option CfgId :=
  match d.iters.find? (·.1 == r) with
  | some x => x.2
  | none => none

/-- reverseproxy.go:510-517 — the loop iteration of request `r` returns: its deferred
    `hosts.Delete` of every dynamic upstream it provisioned (the iteration's holder is unloaded) -/
def endIteration (d : DState) (s : State) (r : Nat) : Option State :=
  match holderOf d r with
  | some h => unload s h (keysOf d h)
  | none => some s

/-- bookkeeping of a new loop iteration of `r` whose holder is `h` with upstream keys `ks` -/
def withIter (d : DState) (s : State) (r : Nat) (h : CfgId) (ks : List Key) : DState :=
  { d with s := s, keys := d.keys ++ [ks], iters := (r, some h) :: d.iters }

/-- the proxy loop of a handler with dynamic upstreams (reverseproxy.go:494-597): every iteration
    provisions the upstreams the source returns (a new pool holder: LoadOrStore each), selects among
    them, and releases them when it returns — also when it returns in order to go round again -/
def advanceDyn : Nat → DState → Nat → Option (DState × String)
  | 0, _, _ => none
  | fuel + 1, d, r =>
    match d.s.reqs[r]? with
    | none => none
    | some q =>
      match step d.s (.newIter r) with
      | none => none
      | some s0 =>
        match stores s0 d.s.cfgs.length (keysOf d q.cfg) with
        | none => none
        | some s1 =>
          match s1.cfgs[d.s.cfgs.length]? with
          | none => none
          | some hs =>
            match firstAvailable q.par s1 hs.ups with
            | none =>
              match step s1 (.noUpstream r) with
              | none => none
              | some s2 =>
                match unload s2 d.s.cfgs.length (keysOf d q.cfg) with
                | none => none
                | some s3 =>
                  if isDone s3 r then some (withIter d s3 r d.s.cfgs.length (keysOf d q.cfg), "err")
                  else advanceDyn fuel (withIter d s3 r d.s.cfgs.length (keysOf d q.cfg)) r
            | some u =>
              if dialBad d r u.1 then
                match step s1 (.dialInfoFails r) with
                | none => none
                | some s2 =>
                  match unload s2 d.s.cfgs.length (keysOf d q.cfg) with
                  | none => none
                  | some s3 => some (withIter d s3 r d.s.cfgs.length (keysOf d q.cfg), "err")
              else
              match step s1 (.dispatch r u.2) with
              | none => none
              | some s2 =>
                if keyDown d u.1 then
                  match endAttempt s2 r .dialRefused with
                  | none => none
                  | some s3 =>
                    match unload s3 d.s.cfgs.length (keysOf d q.cfg) with
                    | none => none
                    | some s4 =>
                      if isDone s4 r then some (withIter d s4 r d.s.cfgs.length (keysOf d q.cfg), "err")
                      else advanceDyn fuel (withIter d s4 r d.s.cfgs.length (keysOf d q.cfg)) r
                else some (withIter d s2 r d.s.cfgs.length (keysOf d q.cfg), "P" ++ toString u.1)

/-- reverseproxy.go:503-507 — the source failed: the static proxy loop runs over the handler's
    own upstreams (no holder for these iterations) -/
def advanceFb (d : DState) (r : Nat) : Option (DState × String) :=
  match step d.s (.fallback r) with
  | none => none
  | some s1 =>
    (advance fuel0 { d with s := s1 } r).map fun x => ({ d with s := x.1, iters := (r, none) :: d.iters }, x.2)

/-- the next loop iteration(s) of a request with dynamic upstreams: from the source, or — while
    the source fails — over the handler's static upstreams -/
def advanceAny (d : DState) (r : Nat) : Option (DState × String) :=
  if d.srcFails then advanceFb d r else advanceDyn fuel0 d r

/-- an attempt of a request with dynamic upstreams ended in state `s1`: the iteration returns
    (releasing its upstreams), then the request has returned (`res`) or goes round the loop again -/
def continueOrRetDyn (d : DState) (s1 : State) (r : Nat) (res : String) : Option (DState × String) :=
  match endIteration d s1 r with
  | none => none
  | some s2 =>
    if isDone s2 r then some ({ d with s := s2 }, res)
    else advanceAny { d with s := s2 } r

/-- after an attempt ended: the request returned (`res`) or goes round the loop again -/
def continueOrRet (d : DState) (s1 : State) (r : Nat) (res : String) : Option (DState × String) :=
  if isDone s1 r then some ({ d with s := s1 }, res)
  else (advance fuel0 { d with s := s1 } r).map fun x => ({ d with s := x.1 }, x.2)

/-- what the health endpoint of backend `k` answers now: as scripted in full, else 503 "DOWN" /
    200 "UP" -/
def probeOf (d : DState) (k : Key) : Probe :=
  match d.hprobe.find? (·.1 == k) with
  | some x => x.2
  | none => if d.hbad.contains k then probeDown else probeUp

/-- would an active health check of handler parameters `p` against backend `k` pass now?  (it must
    be reachable and its answer must satisfy the handler's expectations: `ActiveVerdict.verdict`) -/
def effUp (d : DState) (p : Params) (k : Key) : Bool := verdict p (!keyDown d k) (probeOf d k)

/-- healthchecks.go doActiveHealthCheckForAllHosts: one check per upstream of handler `c`
    (`i` = position of the head of `ups`), judged by the expectations `p` of that handler -/
def roundFrom (d : DState) (c : CfgId) (p : Params) : State → Nat → List (Key × HostId) → Option State
  | s, _, [] => some s
  | s, i, u :: rest =>
    match step s (.activeCheck c i (effUp d p u.1)) with
    | some s' => roundFrom d c p s' (i + 1) rest
    | none => none

def activeRound (d : DState) (s : State) (c : CfgId) : Option State :=
  match s.cfgs[c]? with
  | some cs => if cs.par.aOn then roundFrom d c cs.par s 0 cs.ups else some s
  | none => none

/-- does unloading handler `c` close the upgraded connection of request `r`?  (streaming.go
    cleanupConnections with stream_close_delay = 0, the default: Cleanup closes every registered
    connection of the handler at once) -/
def closesStream (d : DState) (c : CfgId) (s : State) (r : Nat) : Bool :=
  match s.reqs[r]? with
  | some q => q.cfg == c && q.par.closeStreams && d.wsStreaming.contains r && isParked s r
  | none => false

/-- …their requests end normally: the copiers stop, `reverseProxy` returns, the deferred
    `countRequest(-1)` runs (and a loop iteration with dynamic upstreams releases them) -/
def closeStreamsFrom (d : DState) (c : CfgId) : State → Nat → Nat → State
  | s, _, 0 => s
  | s, r, n + 1 =>
    if closesStream d c s r then
      match endAttempt s r .ok with
      | some s1 =>
        match endIteration d s1 r with
        | some s2 => closeStreamsFrom d c s2 (r + 1) n
        | none => closeStreamsFrom d c s1 (r + 1) n
      | none => closeStreamsFrom d c s (r + 1) n
    else closeStreamsFrom d c s (r + 1) n

/-- the schedule state after handler `c` was unloaded in state `s` -/
def afterUnload (d : DState) (c : CfgId) (s : State) : DState :=
  { d with s := closeStreamsFrom d c s 0 s.reqs.length,
           streaming := d.streaming.filter (fun r => !closesStream d c s r),
           wsStreaming := d.wsStreaming.filter (fun r => !closesStream d c s r) }

/-- the configuration a load replaces, if it is still loaded -/
def replaced (d : DState) : Option CfgId := curLive d

/-- Provision of a new configuration and unloading of the one it replaces -/
def loadCore (d : DState) (ks : List Key) (p : Params) (fb : List Key) : Option (DState × String) :=
  match step d.s (.newCfg p) with
  | none => none
  | some s1 =>
    match stores s1 d.s.cfgs.length (if p.dynamic then fb else ks) with
    | none => none
    | some s2 =>
      match d.cur with
      | none => some ({ d with s := s2, cur := some d.s.cfgs.length, keys := d.keys ++ [ks], fbs := (d.s.cfgs.length, fb) :: d.fbs }, "L")
      | some old =>
        if canceled s2 old then some ({ d with s := s2, cur := some d.s.cfgs.length, keys := d.keys ++ [ks], fbs := (d.s.cfgs.length, fb) :: d.fbs }, "L")
        else
          match unload s2 old (ownKeys d s2 old) with
          | none => none
          | some s3 => some ({ d with s := s3, cur := some d.s.cfgs.length, keys := d.keys ++ [ks], fbs := (d.s.cfgs.length, fb) :: d.fbs }, "L")

/-- one schedule step: new state and the event token; `none` = the step is not possible here
    (`bad-op`) -/
def sstep (d : DState) : SStep → Option (DState × String)
  | .srcFail b => if d.srcFails == b then none else some ({ d with srcFails := b }, "-")
  | .load ks p fb =>
    -- reverseproxy.go:364-374: Provision starts the active checker, which runs a first round at once
    match loadCore d ks p fb with
    | none => none
    | some x =>
      match activeRound d (match replaced d with | some old => afterUnload x.1 old x.1.s | none => x.1).s d.s.cfgs.length with
      | none => none
      | some s' => some ({ (match replaced d with | some old => afterUnload x.1 old x.1.s | none => x.1) with s := s' }, x.2)
  | .health k ok =>
    if d.hbad.contains k == !ok then none
    else some ({ d with hbad := if ok then d.hbad.filter (· != k) else k :: d.hbad,
                        hprobe := d.hprobe.filter (·.1 != k) }, "-")
  | .probe k pr => some ({ d with hprobe := (k, pr) :: d.hprobe.filter (·.1 != k), hbad := d.hbad.filter (· != k) }, "-")
  | .round =>
    match curLive d with
    | none => none
    | some c =>
      match d.s.cfgs[c]? with
      | none => none
      | some cs =>
        if cs.par.aOn then (activeRound d d.s c).map fun s' => ({ d with s := s' }, "K") else none
  | .badLoad ks =>
    match step d.s (.newCfg noParams) with
    | none => none
    | some s1 =>
      match unload s1 d.s.cfgs.length ks with
      | none => none
      | some s2 => some ({ d with s := s2, keys := d.keys ++ [ks] }, "B")
  | .unloadCur =>
    match curLive d with
    | none => none
    | some c =>
      match unload d.s c (ownKeys d d.s c) with
      | none => none
      | some s1 => some (afterUnload d c s1, "C")
  | .newReq get =>
    match curLive d with
    | none => none
    | some c =>
      match step d.s (.newReq c get) with
      | none => none
      | some s1 =>
        if isDynReq s1 d.s.reqs.length then advanceAny { d with s := s1 } d.s.reqs.length
        else (advance fuel0 { d with s := s1 } d.s.reqs.length).map fun x => ({ d with s := x.1 }, x.2)
  | .newReqBad get k =>
    match curLive d with
    | none => none
    | some c =>
      match step d.s (.newReq c get) with
      | none => none
      | some s1 =>
        if isDynReq s1 d.s.reqs.length then
          advanceAny { d with s := s1, badDial := (d.s.reqs.length, k) :: d.badDial } d.s.reqs.length
        else (advance fuel0 { d with s := s1, badDial := (d.s.reqs.length, k) :: d.badDial } d.s.reqs.length).map fun x =>
          ({ d with s := x.1, badDial := (d.s.reqs.length, k) :: d.badDial }, x.2)
  | .newReqWs =>
    match curLive d with
    | none => none
    | some c =>
      match step d.s (.newReq c true) with
      | none => none
      | some s1 =>
        if isDynReq s1 d.s.reqs.length then
          advanceAny { d with s := s1, wsReqs := d.s.reqs.length :: d.wsReqs } d.s.reqs.length
        else (advance fuel0 { d with s := s1 } d.s.reqs.length).map fun x =>
          ({ d with s := x.1, wsReqs := d.s.reqs.length :: d.wsReqs }, x.2)
  | .wsBegin r =>
    -- 101 Switching Protocols (reverseproxy.go:1019-1024, streaming.go handleUpgradeResponse): strikes
    -- for the status happen first; reverseProxy does not return — the request stays in flight —
    -- until the upgraded connection is closed
    if isParked d.s r && d.wsReqs.contains r && !d.streaming.contains r then
      match d.s.reqs[r]? with
      | none => none
      | some q =>
        match strikesN d.s r (strikesFor q.par "ok" 101 (d.aged.contains r)) with
        | none => none
        | some s1 => some ({ d with s := s1, streaming := r :: d.streaming, wsStreaming := r :: d.wsStreaming }, "S")
    else none
  | .streamBegin r =>
    -- RoundTrip returned the response: status (and latency) strikes happen now; the request stays
    -- in flight while the body is copied (reverseproxy.go:1066 copyResponse inside reverseProxy)
    if isParked d.s r && !d.streaming.contains r then
      match d.s.reqs[r]? with
      | none => none
      | some q =>
        match strikesN d.s r (strikesFor q.par "ok" 200 (d.aged.contains r)) with
        | none => none
        | some s1 => some ({ d with s := s1, streaming := r :: d.streaming }, "S")
    else none
  | .streamEnd r =>
    if d.streaming.contains r && isParked d.s r then
      match endAttempt d.s r .ok with
      | none => none
      | some s1 =>
        if isDynReq d.s r then continueOrRetDyn { d with streaming := d.streaming.filter (· != r) } s1 r "ok"
        else some ({ d with s := s1, streaming := d.streaming.filter (· != r) }, "ok")
    else none
  | .answer r what =>
    if d.streaming.contains r then none
    else if isParked d.s r && isDynReq d.s r then
      match d.s.reqs[r]? with
      | none => none
      | some q =>
        if what == "rst" then
          match endAttempt d.s r .upstreamErr with
          | none => none
          | some s1 => continueOrRetDyn d s1 r "err"
        else
          match answerStatus what with
          | none => none
          | some code =>
            match strikesN d.s r (strikesFor q.par what code (d.aged.contains r)) with
            | none => none
            | some s1 =>
              if what == "hup" || what == "pan" then
                match endAttempt s1 r .panic with
                | none => none
                | some s2 => continueOrRetDyn d s2 r "panic"
              else if what == "her" then
                match endAttempt s1 r .handlerErr with
                | none => none
                | some s2 => continueOrRetDyn d s2 r "err"
              else
                match endAttempt s1 r .ok with
                | none => none
                | some s2 => continueOrRetDyn d s2 r "ok"
    else if isParked d.s r then
      match d.s.reqs[r]? with
      | none => none
      | some q =>
        if what == "rst" then
          -- the connection is closed before any answer: RoundTrip fails
          match endAttempt d.s r .upstreamErr with
          | none => none
          | some s1 => continueOrRet d s1 r "err"
        else
          match answerStatus what with
          | none => none
          | some code =>
            -- RoundTrip returned a response: passive status strikes first (reverseproxy.go:915-929),
            -- then response handlers / the body copy
            match strikesN d.s r (strikesFor q.par what code (d.aged.contains r)) with
            | none => none
            | some s1 =>
              if what == "hup" || what == "pan" then (endAttempt s1 r .panic).map fun s2 => ({ d with s := s2 }, "panic")
              else if what == "her" then (endAttempt s1 r .handlerErr).map fun s2 => ({ d with s := s2 }, "err")
              else (endAttempt s1 r .ok).map fun s2 => ({ d with s := s2 }, "ok")
    else none
  | .abort r =>
    if d.wsStreaming.contains r && isParked d.s r then
      -- the client of an upgraded connection goes away: the backend connection is closed, the
      -- copiers end, the handler returns normally
      match endAttempt d.s r .clientAbort with
      | none => none
      | some s1 =>
        if isDynReq d.s r then continueOrRetDyn { d with streaming := d.streaming.filter (· != r) } s1 r "ok"
        else some ({ d with s := s1, streaming := d.streaming.filter (· != r) }, "ok")
    else if d.streaming.contains r && isParked d.s r then
      -- the client goes away while the body is copied: copyResponse fails, the handler panics
      -- with http.ErrAbortHandler (reverseproxy.go:1073-1084); nothing is counted
      match endAttempt d.s r .panic with
      | none => none
      | some s1 =>
        if isDynReq d.s r then continueOrRetDyn { d with streaming := d.streaming.filter (· != r) } s1 r "panic"
        else some ({ d with s := s1, streaming := d.streaming.filter (· != r) }, "panic")
    else if isParked d.s r && isDynReq d.s r then
      match endAttempt d.s r .clientAbort with
      | none => none
      | some s1 => continueOrRetDyn d s1 r "ok"
    else if isParked d.s r then (endAttempt d.s r .clientAbort).map fun s1 => ({ d with s := s1 }, "ok")
    else none
  | .bdown k => if keyDown d k then none else some ({ d with down := k :: d.down }, "-")
  | .bup k => if keyDown d k then some ({ d with down := d.down.erase k }, "-") else none
  | .ticks n => some ({ d with s := tickN d.s n }, "-")

/-- quiescence: clients of the parked requests among r, r+1, … (n of them) go away in request order, everything is unloaded -/
def abortAllFrom (d : DState) (s : State) : Nat → Nat → State
  | _, 0 => s
  | r, n + 1 =>
    if isParked s r then
      match endAttempt s r .clientAbort with
      | some s1 =>
        match endIteration d s1 r with
        | some s2 => abortAllFrom d (settle s2) (r + 1) n
        | none => abortAllFrom d (settle s1) (r + 1) n
      | none => abortAllFrom d s (r + 1) n
    else abortAllFrom d s (r + 1) n

def quiesce (d : DState) : State :=
  match curLive d with
  | some c =>
    match unload (abortAllFrom d d.s 0 d.s.reqs.length) c (ownKeys d d.s c) with
    | some s1 => settle s1
    | none => settle (abortAllFrom d d.s 0 d.s.reqs.length)
  | none => settle (abortAllFrom d d.s 0 d.s.reqs.length)

end CaddyModel.C09
