/-
C09 — the verdict of an active health check and what it can do to an upstream.

`ActiveVerdict.verdict` is healthchecks.go doActiveHealthCheck's decision between markHealthy and
markUnhealthy as a function of the handler's expectations (expect_status, expect_body, max_size,
headers) and of what the health endpoint answers.  The theorems say which inputs decide it, and
that — whatever the verdicts of a whole round of checks are — the passive accounting the property
is about is left alone, while an upstream changes its active status only on a verdict of the
matching kind.
-/
import CaddyModel.C09.Steps
import CaddyModel.C09.Sched
import CaddyModel.Gen.ActiveVerdict

namespace CaddyModel.C09

/-- a check passes iff the request got an answer, the status is the
    expected one (the code itself or its class) or, nothing being expected, a 2xx, and — with
    expect_body — what was read of the body matches. -/
theorem active_verdict_iff (p : Params) (reach : Bool) (pr : Probe) :
    verdict p reach pr = true ↔
      reach = true ∧
      (if p.aExpect = 0 then 200 ≤ seenStatus p.aHdr pr ∧ seenStatus p.aHdr pr < 300
        else statusCodeMatches (seenStatus p.aHdr pr) p.aExpect = true) ∧
      (p.aBody = true → upLit.isPrefixOf (readBody p.aMax pr.body) = true) := by
  simp only [verdict, statusOk, bodyOk, Bool.and_eq_true, Bool.or_eq_true, Bool.not_eq_true', bne_iff_ne, ne_eq]
  by_cases he : p.aExpect = 0
  · cases hb : p.aBody <;> simp [he, and_assoc]
  · cases hb : p.aBody <;> simp [he, and_assoc]

def pExp : Params :=
  { passive := true, failDur := 2, maxFails := 2, retries := 0, maxReq := 0, firstMax := 0, badStatus := [],
    latency := false, closeStreams := false, aOn := true, aPasses := 1, aFails := 1, dynamic := false,
    aExpect := 5, aBody := true, aMax := 2, aHdr := false }

/-- expect_status 5xx, expect_body, max_size 2: a 503 "UPDATE" passes, a 200 "UP" does not -/
example : verdict pExp true { status := 503, body := upLit ++ [68, 65, 84, 69], needsHdr := false } = true := by decide
example : verdict pExp true probeUp = false := by decide

/-- no expectation can make a check pass whose request
    failed (healthchecks.go:506-516: `httpClient.Do` error → markUnhealthy). -/
theorem unreachable_backend_fails_every_check (p : Params) (pr : Probe) : verdict p false pr = false := by
  simp [verdict]

example : verdict { pExp with aExpect := 0, aBody := false } false probeUp = false := by decide

/-- with expect_status set (and no expect_body) the verdict
    on an answer is `StatusCodeMatches` alone: a 2xx that is not the expected status fails, an
    expected 4xx/5xx passes. -/
theorem expect_status_replaces_2xx_rule (p : Params) (pr : Probe) (he : p.aExpect ≠ 0) (hb : p.aBody = false) :
    verdict p true pr = statusCodeMatches (seenStatus p.aHdr pr) p.aExpect := by
  simp [verdict, statusOk, bodyOk, he, hb]

example : verdict { pExp with aExpect := 404, aBody := false } true { probeDown with status := 404 } = true := by decide
example : verdict { pExp with aExpect := 404, aBody := false } true probeUp = false := by decide

/-- max_size limits what is READ, and expect_body is
    matched against that: with a limit shorter than anything the expression can match no answer
    ever passes (healthchecks.go:520-523, 555-578). -/
theorem max_size_below_literal_never_passes (p : Params) (reach : Bool) (pr : Probe)
    (hb : p.aBody = true) (h0 : p.aMax ≠ 0) (h1 : p.aMax < upLit.length) : verdict p reach pr = false := by
  have h : p.aMax = 1 := by simp [upLit] at h1; omega
  simp only [verdict, bodyOk, readBody, hb, h, upLit]
  rcases pr.body with _ | ⟨a, _ | ⟨b, t⟩⟩ <;> simp [List.isPrefixOf]

example : verdict { pExp with aExpect := 0, aMax := 1 } true probeUp = false := by decide
example : verdict { pExp with aExpect := 0, aMax := 2 } true probeUp = true := by decide

/-- the configured `headers` change a
    verdict only through what the endpoint does with them. -/
theorem health_header_matters_only_to_a_guarded_endpoint (p : Params) (reach b : Bool) (pr : Probe)
    (hn : pr.needsHdr = false) : verdict { p with aHdr := b } reach pr = verdict p reach pr := by
  simp [verdict, seenStatus, hn]

/-- a guarded endpoint: the check passes with the header and fails (403) without it — unless 4xx
    is what the handler expects -/
example : verdict { pExp with aExpect := 0, aBody := false, aHdr := true } true { probeUp with needsHdr := true } = true := by decide
example : verdict { pExp with aExpect := 0, aBody := false } true { probeUp with needsHdr := true } = false := by decide
example : verdict { pExp with aExpect := 4, aBody := false } true { probeUp with needsHdr := true } = true := by decide

/-- the shape of `verdict`, regenerated from /repo by
    tools/extract on every run: in healthchecks.go doActiveHealthCheck `markUnhealthy()` is called
    under exactly these five chains of conditions (request error; expect_status set and not
    matched; expect_status not set and status outside 2xx; expect_body set and the read failed /
    the expression did not match), each time followed by `return`; `markHealthy()` is called once,
    unconditionally, after them; and the body is read through `io.LimitReader` iff max_size > 0.
    `verdict` is the conjunction of the negations in this order.  A change of any of these
    conditions in the source breaks this theorem. -/
theorem active_verdict_sites_match_source :
    Gen.activeMarkUnhealthyGuards =
      [["err!=nil"],
       ["h.HealthChecks.Active.ExpectStatus>0", "!caddyhttp.StatusCodeMatches(resp.StatusCode,h.HealthChecks.Active.ExpectStatus)"],
       ["else:h.HealthChecks.Active.ExpectStatus>0", "resp.StatusCode<200||resp.StatusCode>=300"],
       ["h.HealthChecks.Active.bodyRegexp!=nil", "err!=nil"],
       ["h.HealthChecks.Active.bodyRegexp!=nil", "!h.HealthChecks.Active.bodyRegexp.Match(bodyBytes)"]] ∧
    Gen.activeMarkHealthyGuards = [[]] ∧ Gen.activeMarkUnhealthyThenReturn = true ∧
    Gen.activeBodyLimit = "h.HealthChecks.Active.MaxSize>0 => body=io.LimitReader(body,h.HealthChecks.Active.MaxSize)" :=
  ⟨rfl, rfl, rfl, rfl⟩

example : Gen.activeMarkUnhealthyGuards.length = 5 ∧ Gen.activeMarkHealthyGuards.length = 1 := by decide

/-- an upstream that was not held down by the active
    checker is held down after a check only if that check's verdict was `fail` and the Host's
    count of active failures reached the handler's `fails`. -/
theorem only_a_failing_verdict_marks_down {s s' : State} {c : CfgId} {i : Nat} {pass : Bool}
    (hs : step s (.activeCheck c i pass) = some s') (h0 : isDown s c i = false) (h1 : isDown s' c i = true) :
    pass = false ∧ ∃ cs u, s.cfgs[c]? = some cs ∧ cs.ups[i]? = some u ∧ cs.par.aFails ≤ s.aFail u.2 + 1 := by
  -- a passing check brings the upstream back or leaves it as it is; so does a failing one below the threshold
  cases Step.of_step hs with
  | activeUp _ _ _ ht => simp [h0] at ht
  | activePass | activeFail => exact Bool.noConfusion (h0.symm.trans h1)
  | activeDown hcs hu hp ht =>
    simp only [Bool.and_eq_true, decide_eq_true_eq] at ht
    exact ⟨hp, _, _, hcs, hu, ht.1⟩

theorem only_a_passing_verdict_marks_up {s s' : State} {c : CfgId} {i : Nat} {pass : Bool}
    (hs : step s (.activeCheck c i pass) = some s') (h0 : isDown s c i = true) (h1 : isDown s' c i = false) :
    pass = true := by
  cases Step.of_step hs with
  | activeUp _ _ hp | activePass _ _ hp => exact hp
  | activeDown _ _ _ ht => simp [h0] at ht
  | activeFail => exact Bool.noConfusion (h1.symm.trans h0)

/-- a completed active health check
    (healthchecks.go markHealthy / markUnhealthy, hosts.go countHealthPass / countHealthFail /
    setHealthy / resetHealth) changes the Host's *active* counters and the upstream's *active*
    status only: `Host.fails`, `Host.numRequests`, the pending forgetters, the requests, the
    configurations and the pool are untouched — also when the check flips the status and
    `resetHealth` runs. -/
theorem active_checks_leave_passive_accounting_alone {s s' : State} {c : CfgId} {i : Nat} {pass : Bool}
    (hs : step s (.activeCheck c i pass) = some s') :
    s'.fails = s.fails ∧ s'.inflight = s.inflight ∧ s'.log = s.log ∧ s'.reqs = s.reqs ∧ s'.cfgs = s.cfgs ∧
      s'.pool = s.pool := by
  cases Step.of_step hs <;> exact ⟨rfl, rfl, rfl, rfl, rfl, rfl⟩

/-- a whole round of active checks of a
    handler (doActiveHealthCheckForAllHosts), whatever it expects and whatever the endpoints
    answer, leaves in-flight counts, failure counts, forgetters, requests and the pool as they
    are: the passive verdict `Healthy()` reads is the same before and after. -/
theorem round_of_checks_leaves_passive_accounting_alone {d : DState} {c : CfgId} {s s' : State}
    (hs : activeRound d s c = some s') :
    s'.fails = s.fails ∧ s'.inflight = s.inflight ∧ s'.log = s.log ∧ s'.reqs = s.reqs ∧ s'.pool = s.pool ∧
      ∀ p o, healthy p s' o = healthy p s o := by
  have key : ∀ {p : Params} {ups : List (Key × HostId)} {i : Nat} {s s' : State}, roundFrom d c p s i ups = some s' →
      s'.fails = s.fails ∧ s'.inflight = s.inflight ∧ s'.log = s.log ∧ s'.reqs = s.reqs ∧ s'.pool = s.pool := by
    intro p ups i s s' h
    fun_induction roundFrom d c p s i ups with
    | case1 => cases h; exact ⟨rfl, rfl, rfl, rfl, rfl⟩
    | case2 s i u rest s1 h1 ih =>
      obtain ⟨e1, e2, e3, e4, -, e5⟩ := active_checks_leave_passive_accounting_alone h1
      rw [← e1, ← e2, ← e3, ← e4, ← e5]; exact ih h
    | case3 => cases h
  have ⟨m1, m2, m3, m4, m5⟩ : s'.fails = s.fails ∧ s'.inflight = s.inflight ∧ s'.log = s.log ∧ s'.reqs = s.reqs ∧ s'.pool = s.pool := by
    revert hs
    fun_cases activeRound d s c with
    | case1 => exact key
    | case2 => rintro ⟨⟩; exact ⟨rfl, rfl, rfl, rfl, rfl⟩
    | case3 => exact nofun
  exact ⟨m1, m2, m3, m4, m5, fun p o => by simp [healthy, m1]⟩

end CaddyModel.C09
