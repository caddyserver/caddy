/-
C09 — the schedule interpreter (`Sched.lean`) only ever composes `step` (Model.lean): every state it
produces is `Reachable` (one lemma per function); `sstep_header`: what `streamBegin` / `wsBegin` do.
-/
import CaddyModel.C09.Sched

namespace CaddyModel.C09

theorem ite_eq_some {α : Type} {c : Prop} [Decidable c] {a b : Option α} {y : α} (h : (if c then a else b) = some y) :
    a = some y ∨ b = some y := by
  split at h
  · exact Or.inl h
  · exact Or.inr h

theorem stores_reachable {s s' : State} {c : CfgId} {ks : List Key} (h : Reachable s)
    (hs : stores s c ks = some s') : Reachable s' := by
  fun_induction stores s c ks with
  | case1 => cases hs; exact h
  | case2 _ _ _ _ h1 ih => exact ih (.step _ h h1) hs
  | case3 => cases hs

theorem deletes_reachable {s s' : State} {c : CfgId} {ks : List Key} (h : Reachable s)
    (hs : deletes s c ks = some s') : Reachable s' := by
  fun_induction deletes s c ks with
  | case1 => cases hs; exact h
  | case2 _ _ _ _ h1 ih => exact ih (.step _ h h1) hs
  | case3 => cases hs

theorem unload_reachable {s s' : State} {c : CfgId} {ks : List Key} (h : Reachable s)
    (hs : unload s c ks = some s') : Reachable s' := by
  revert hs
  fun_cases unload s c ks with
  | case1 s1 h1 => exact deletes_reachable (.step _ h h1)
  | case2 => exact nofun

theorem forgetAll_reachable {s : State} (n : Nat) (h : Reachable s) : Reachable (forgetAll s n) := by
  fun_induction forgetAll s n with
  | case1 => exact h
  | case2 _ _ _ h1 ih => exact ih (.step _ h h1)
  | case3 _ _ _ ih => exact ih h

theorem settle_reachable {s : State} (h : Reachable s) : Reachable (settle s) := forgetAll_reachable _ h

theorem spawnLast_reachable {s s' : State} {r : Nat} (h : Reachable s) (hs : spawnLast s r = some s') : Reachable s' := by
  rcases ite_eq_some hs with hs | hs
  · exact .step _ h hs
  · cases hs; exact h

theorem endAttempt_reachable {s s' : State} {r : Nat} {out : Outcome} (h : Reachable s)
    (hs : endAttempt s r out = some s') : Reachable s' := by
  revert hs
  fun_cases endAttempt s r out with
  | case1 s1 h1 s2 h2 => exact spawnLast_reachable (.step _ (.step _ h h1) h2)
  | case2 => exact nofun
  | case3 => exact nofun

theorem strikesN_reachable {s s' : State} {r n : Nat} (h : Reachable s) (hs : strikesN s r n = some s') : Reachable s' := by
  fun_induction strikesN s r n with
  | case1 => cases hs; exact h
  | case2 _ _ _ h1 _ h2 ih => exact ih (spawnLast_reachable (.step _ h h1) h2) hs
  | case3 => cases hs
  | case4 => cases hs

theorem tickN_reachable {s : State} (n : Nat) (h : Reachable s) : Reachable (tickN s n) := by
  fun_induction tickN s n with
  | case1 => exact h
  | case2 _ _ _ h1 ih => exact ih (.step _ h h1)
  | case3 => exact h

theorem advance_reachable {fuel : Nat} {d : DState} {r : Nat} {x : State × String} (h : Reachable d.s)
    (hs : advance fuel d r = some x) : Reachable x.1 := by
  -- along `advance`: the paths that end in `some` are named; binders are fuel d r q hq cs hcs (u) hsel …
  fun_induction advance fuel d r with
  | case5 _ _ _ _ _ _ _ _ s1 h1 => cases hs; exact .step _ h h1
  | case6 _ _ _ _ _ _ _ _ s1 h1 _ ih => exact ih (.step _ h h1) hs
  | case8 _ _ _ _ _ _ _ _ _ _ s1 h1 => cases hs; exact .step _ h h1
  | case11 _ _ _ _ _ _ _ _ _ _ s1 h1 _ s2 h2 => cases hs; exact endAttempt_reachable (.step _ h h1) h2
  | case12 _ _ _ _ _ _ _ _ _ _ s1 h1 _ s2 h2 _ ih => exact ih (endAttempt_reachable (.step _ h h1) h2) hs
  | case13 _ _ _ _ _ _ _ _ _ _ s1 h1 => cases hs; exact .step _ h h1
  | _ => cases hs

theorem continueOrRet_reachable {d d' : DState} {s1 : State} {r : Nat} {res ev : String} (h1 : Reachable s1)
    (hs : continueOrRet d s1 r res = some (d', ev)) : Reachable d'.s := by
  rcases ite_eq_some hs with hs | hs
  · cases hs; exact h1
  · obtain ⟨x, ha, hx⟩ := Option.map_eq_some_iff.mp hs
    cases hx; exact advance_reachable (d := { d with s := s1 }) h1 ha

theorem endIteration_reachable {d : DState} {s s' : State} {r : Nat} (h : Reachable s)
    (hs : endIteration d s r = some s') : Reachable s' := by
  revert hs
  fun_cases endIteration d s r with
  | case1 c hc => exact unload_reachable h
  | case2 => rintro ⟨⟩; exact h

theorem advanceDyn_reachable {fuel : Nat} {d : DState} {r : Nat} {x : DState × String} (h : Reachable d.s)
    (hs : advanceDyn fuel d r = some x) : Reachable x.1.s := by
  -- along `advanceDyn`: every iteration is newIter (`h0`), stores (`h1`), then as in `advance`, then unload
  fun_induction advanceDyn fuel d r with
  | case8 _ _ _ _ _ s0 h0 s1 h1 _ _ _ s2 h2 s3 h3 =>
    cases hs; exact unload_reachable (.step _ (stores_reachable (.step _ h h0) h1) h2) h3
  | case9 _ _ _ _ _ s0 h0 s1 h1 _ _ _ s2 h2 s3 h3 _ ih =>
    exact ih (unload_reachable (.step _ (stores_reachable (.step _ h h0) h1) h2) h3) hs
  | case12 _ _ _ _ _ s0 h0 s1 h1 _ _ _ _ _ s2 h2 s3 h3 =>
    cases hs; exact unload_reachable (.step _ (stores_reachable (.step _ h h0) h1) h2) h3
  | case16 _ _ _ _ _ s0 h0 s1 h1 _ _ _ _ _ s2 h2 _ s3 h3 s4 h4 =>
    cases hs; exact unload_reachable (endAttempt_reachable (.step _ (stores_reachable (.step _ h h0) h1) h2) h3) h4
  | case17 _ _ _ _ _ s0 h0 s1 h1 _ _ _ _ _ s2 h2 _ s3 h3 s4 h4 _ ih =>
    exact ih (unload_reachable (endAttempt_reachable (.step _ (stores_reachable (.step _ h h0) h1) h2) h3) h4) hs
  | case18 _ _ _ _ _ s0 h0 s1 h1 _ _ _ _ _ s2 h2 =>
    cases hs; exact .step _ (stores_reachable (.step _ h h0) h1) h2
  | _ => cases hs

theorem advanceFb_reachable {d : DState} {r : Nat} {x : DState × String} (h : Reachable d.s)
    (hs : advanceFb d r = some x) : Reachable x.1.s := by
  revert hs
  fun_cases advanceFb d r with
  | case1 => exact nofun
  | case2 s1 h1 =>
    intro hs
    obtain ⟨y, ha, rfl⟩ := Option.map_eq_some_iff.mp hs
    exact advance_reachable (d := { d with s := s1 }) (.step _ h h1) ha

theorem advanceAny_reachable {d : DState} {r : Nat} {x : DState × String} (h : Reachable d.s)
    (hs : advanceAny d r = some x) : Reachable x.1.s := by
  rcases ite_eq_some hs with hs | hs
  · exact advanceFb_reachable h hs
  · exact advanceDyn_reachable h hs

theorem continueOrRetDyn_reachable {d d' : DState} {s1 : State} {r : Nat} {res ev : String} (h1 : Reachable s1)
    (hs : continueOrRetDyn d s1 r res = some (d', ev)) : Reachable d'.s := by
  revert hs
  fun_cases continueOrRetDyn d s1 r res with
  | case1 => exact nofun
  | case2 s2 h2 => rintro ⟨⟩; exact endIteration_reachable h1 h2
  | case3 s2 h2 => exact advanceAny_reachable (d := { d with s := s2 }) (endIteration_reachable h1 h2)

theorem roundFrom_reachable {d : DState} {c : CfgId} {p : Params} {s s' : State} {i : Nat} {ups : List (Key × HostId)}
    (h : Reachable s) (hs : roundFrom d c p s i ups = some s') : Reachable s' := by
  fun_induction roundFrom d c p s i ups with
  | case1 => cases hs; exact h
  | case2 _ _ _ _ _ h1 ih => exact ih (.step _ h h1) hs
  | case3 => cases hs

theorem activeRound_reachable {d : DState} {c : CfgId} {s s' : State} (h : Reachable s)
    (hs : activeRound d s c = some s') : Reachable s' := by
  revert hs
  fun_cases activeRound d s c with
  | case1 => exact roundFrom_reachable h
  | case2 => rintro ⟨⟩; exact h
  | case3 => exact nofun

theorem closeStreamsFrom_reachable {d : DState} {c : CfgId} {s : State} (r n : Nat) (h : Reachable s) :
    Reachable (closeStreamsFrom d c s r n) := by
  fun_induction closeStreamsFrom d c s r n with
  | case1 => exact h
  | case2 _ _ _ _ _ h1 _ h2 ih => exact ih (endIteration_reachable (endAttempt_reachable h h1) h2)
  | case3 _ _ _ _ _ h1 _ ih => exact ih (endAttempt_reachable h h1)
  | case4 _ _ _ _ _ ih => exact ih h
  | case5 _ _ _ _ ih => exact ih h

theorem loadCore_reachable {d : DState} {ks : List Key} {p : Params} {fb : List Key} {x : DState × String}
    (h : Reachable d.s) (hs : loadCore d ks p fb = some x) : Reachable x.1.s := by
  revert hs
  fun_cases loadCore d ks p fb with
  | case3 s1 h1 s2 h2 | case4 s1 h1 s2 h2 => rintro ⟨⟩; exact stores_reachable (.step _ h h1) h2
  | case6 s1 h1 s2 h2 _ _ _ s3 h3 => rintro ⟨⟩; exact unload_reachable (stores_reachable (.step _ h h1) h2) h3
  | _ => exact nofun

theorem sstep_header {d d' : DState} {r : Nat} {ev : String}
    (hs : sstep d (.streamBegin r) = some (d', ev) ∨ sstep d (.wsBegin r) = some (d', ev)) :
    isParked d.s r = true ∧ ∃ n, strikesN d.s r n = some d'.s := by
  rcases hs with hs | hs <;> rw [sstep] at hs
  all_goals
    obtain ⟨hc, hs⟩ := Option.ite_none_right_eq_some.mp hs
    simp only [Bool.and_eq_true] at hc
    split at hs; · cases hs
    split at hs; · cases hs
    cases hs
  · exact ⟨hc.1, _, ‹_›⟩
  · exact ⟨hc.1.1, _, ‹_›⟩

theorem sstep_reachable {d d' : DState} {st : SStep} {ev : String} (h : Reachable d.s)
    (hs : sstep d st = some (d', ev)) : Reachable d'.s := by
  -- one case per schedule step, its branches followed in the order of Sched.lean; where the state reached does not
  -- depend on the branch taken, `ite_eq_some` (an `if` with nested conditions is slow to `split`)
  cases st
  case streamBegin r => obtain ⟨_, n, h1⟩ := sstep_header (.inl hs); exact strikesN_reachable h h1
  case wsBegin r => obtain ⟨_, n, h1⟩ := sstep_header (.inr hs); exact strikesN_reachable h h1
  all_goals rw [sstep] at hs
  case srcFail | health | bdown | bup => split at hs <;> cases hs <;> exact h
  case probe => cases hs; exact h
  case ticks => cases hs; exact tickN_reachable _ h
  case load =>
    split at hs; · cases hs
    split at hs; · cases hs
    cases hs
    refine activeRound_reachable ?_ ‹_›
    have := loadCore_reachable h ‹_›
    split
    · exact closeStreamsFrom_reachable 0 _ this
    · exact this
  case round =>
    split at hs; · cases hs
    split at hs; · cases hs
    split at hs
    · obtain ⟨s', ha, hx⟩ := Option.map_eq_some_iff.mp hs
      cases hx; exact activeRound_reachable h ha
    · cases hs
  case badLoad =>
    split at hs; · cases hs
    split at hs; · cases hs
    cases hs; exact unload_reachable (.step _ h ‹_›) ‹_›
  case unloadCur =>
    split at hs; · cases hs
    split at hs; · cases hs
    cases hs; exact closeStreamsFrom_reachable 0 _ (unload_reachable h ‹_›)
  case newReq | newReqBad | newReqWs =>
    split at hs; · cases hs
    split at hs; · cases hs
    rcases ite_eq_some hs with hs | hs
    · exact advanceAny_reachable (.step _ h ‹_›) hs
    · obtain ⟨x, ha, hx⟩ := Option.map_eq_some_iff.mp hs
      cases hx; exact advance_reachable (.step _ h ‹_›) ha
  case streamEnd =>
    split at hs
    · split at hs; · cases hs
      rcases ite_eq_some hs with hs | hs
      · exact continueOrRetDyn_reachable (endAttempt_reachable h ‹_›) hs
      · cases hs; exact endAttempt_reachable h ‹_›
    · cases hs
  case abort =>
    obtain hs | hs | hs | hs | hs := (ite_eq_some hs).imp_right fun hs => (ite_eq_some hs).imp_right fun hs =>
      (ite_eq_some hs).imp_right ite_eq_some
    iterate 2
      · split at hs; · cases hs
        rcases ite_eq_some hs with hs | hs
        · exact continueOrRetDyn_reachable (endAttempt_reachable h ‹_›) hs
        · cases hs; exact endAttempt_reachable h ‹_›
    · split at hs; · cases hs
      exact continueOrRetDyn_reachable (endAttempt_reachable h ‹_›) hs
    · obtain ⟨s1, h1, hx⟩ := Option.map_eq_some_iff.mp hs
      cases hx; exact endAttempt_reachable h h1
    · cases hs
  case answer =>
    obtain hs | hs | hs | hs := (ite_eq_some hs).imp_right fun hs => (ite_eq_some hs).imp_right ite_eq_some
    · cases hs
    · split at hs; · cases hs
      rcases ite_eq_some hs with hs | hs
      · split at hs; · cases hs
        exact continueOrRetDyn_reachable (endAttempt_reachable h ‹_›) hs
      split at hs; · cases hs
      split at hs; · cases hs
      obtain hs | hs | hs := (ite_eq_some hs).imp_right ite_eq_some
      all_goals
        split at hs; · cases hs
        exact continueOrRetDyn_reachable (endAttempt_reachable (strikesN_reachable h ‹_›) ‹_›) hs
    · split at hs; · cases hs
      rcases ite_eq_some hs with hs | hs
      · split at hs; · cases hs
        exact continueOrRet_reachable (endAttempt_reachable h ‹_›) hs
      split at hs; · cases hs
      split at hs; · cases hs
      obtain hs | hs | hs := (ite_eq_some hs).imp_right ite_eq_some
      all_goals
        obtain ⟨s2, h2, hx⟩ := Option.map_eq_some_iff.mp hs
        cases hx; exact endAttempt_reachable (strikesN_reachable h ‹_›) h2
    · cases hs

theorem abortAllFrom_reachable {d : DState} {s : State} (r n : Nat) (h : Reachable s) : Reachable (abortAllFrom d s r n) := by
  fun_induction abortAllFrom d s r n with
  | case1 => exact h
  | case2 _ _ _ _ _ h1 _ h2 ih => exact ih (settle_reachable (endIteration_reachable (endAttempt_reachable h h1) h2))
  | case3 _ _ _ _ _ h1 _ ih => exact ih (settle_reachable (endAttempt_reachable h h1))
  | case4 _ _ _ _ _ ih => exact ih h
  | case5 _ _ _ _ ih => exact ih h

end CaddyModel.C09
