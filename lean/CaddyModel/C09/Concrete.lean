/-
C09 — concrete reachable states (built by running explicit action sequences through `run` in Model.lean)
used by the `example`s next to the theorems and by the proved counter-examples in `Witness.lean`.
-/
import CaddyModel.C09.Spec
import CaddyModel.C09.Steps

namespace CaddyModel.C09

def HoldsAfter (as : List Action) (P : State → Prop) : Prop := ∃ s, run init as = some s ∧ P s

-- `State` holds functions and has no `DecidableEq`: decided as a bounded `∃` over the `Option` the run returns
instance (as : List Action) (P : State → Prop) [DecidablePred P] : Decidable (HoldsAfter as P) :=
  inferInstanceAs (Decidable (∃ s, s ∈ run init as ∧ P s))

theorem witness (as : List Action) {P : State → Prop} (h : HoldsAfter as P) : ∃ s, Reachable s ∧ P s := by
  obtain ⟨s, hr, hp⟩ := h
  exact ⟨s, reachable_of_run as Reachable.init hr, hp⟩

/-- `P` holds in the state `as` leads to under the OLD code (Cleanup before fix d6561d4) -/
def HoldsAfterOld (as : List Action) (P : State → Prop) : Prop := ∃ s, runOld init as = some s ∧ P s

instance (as : List Action) (P : State → Prop) [DecidablePred P] : Decidable (HoldsAfterOld as P) :=
  inferInstanceAs (Decidable (∃ s, s ∈ runOld init as ∧ P s))

instance (s : State) : Decidable (Timely s) := by unfold Timely; infer_instance
instance (s : State) : Decidable (Quiescent s) := by unfold Quiescent; infer_instance

def pA : Params := { passive := true, failDur := 2, maxFails := 2, retries := 1, maxReq := 0, firstMax := 0, badStatus := [500], latency := false, closeStreams := false, aOn := false, aPasses := 1, aFails := 1, dynamic := false }

/-- one configuration, Host object 0 (key 7): request 0 failed there (counted at t=0, forgetter
    running), request 1 is being sent to it, request 2 got a bad status and stands between
    `countFail(1)` and `go`; one tick has passed -/
def exA : List Action :=
  [.newCfg pA, .store 0 7, .newReq 0 true, .newReq 0 false, .newReq 0 true, .dispatch 0 0, .dispatch 1 0,
   .finish 0 .upstreamErr, .after 0, .spawn 0 0, .dispatch 2 0, .tick, .strike 2]

/-- `exA` continued: the strike's forgetter is started, request 2 panics, request 1's client goes
    away, request 0 (retried) succeeds; everything has returned and nothing is overdue -/
def exB : List Action :=
  exA ++ [.spawn 2 1, .finish 2 .panic, .after 2, .finish 1 .clientAbort, .after 1, .dispatch 0 0, .finish 0 .ok, .after 0]

/-- `exB` continued until both windows have elapsed and both forgetters have run -/
def exC : List Action := exB ++ [.tick, .forget 0, .tick, .forget 1]

def pB : Params := { pA with retries := 0 }

/-- reload keeping key 7: the new handler stores before the old one is cancelled and cleaned up -/
def exR : List Action :=
  [.newCfg pA, .store 0 7, .store 0 8, .newReq 0 true, .dispatch 0 0, .newCfg pB, .store 1 7, .cancel 0, .delete 0 7, .delete 0 8]

end CaddyModel.C09
