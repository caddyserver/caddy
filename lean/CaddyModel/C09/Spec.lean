/-
C09 — the small abstract account the property talks about: what the counters of the Go code are
*supposed* to equal, as plain counts over the requests, forgetters and configurations that exist.
Each count is `total w list` for a named weight `w` of one list element (0/1, except the multiplicity `heldW`
and `failedAttemptsW`).
-/
import CaddyModel.C09.Model

namespace CaddyModel.C09

def b2n (b : Bool) : Nat := if b then 1 else 0

/-- sum of `f` over a list (the number of tokens in a place, when `f` is 0/1-valued) -/
def total {α : Type} (f : α → Nat) : List α → Nat
  | [] => 0
  | x :: xs => f x + total f xs

-- ---------------------------------------------------------------- weights of one element

/-- request `q` is currently being sent to host object `o` -/
def inFlightW (o : HostId) (q : Req) : Nat := b2n (q.pc.inFlightOn o)

/-- failure `e` was counted on `o` and has not been forgotten yet (its forgetter is still to run) -/
def pendingW (o : HostId) (e : Fail) : Nat := b2n (e.host == o && e.st != FSt.forgotten)

/-- failure `e` was counted on `o` by handler `c` and its forgetter goroutine is not started yet -/
def countedW (o : HostId) (c : CfgId) (e : Fail) : Nat := b2n (e.host == o && e.cfg == c && e.st == FSt.counted)

/-- request `q` of handler `c` stands between `countFail(1)` on `o` and the `go` statement -/
def spawnerW (o : HostId) (c : CfgId) (q : Req) : Nat := b2n (q.pc.spawningOn o && q.cfg == c)

/-- failure `e` is inside its window at the current time and its configuration is still loaded -/
def inWindow (s : State) (e : Fail) : Bool := decide (s.now < e.exp) && !canceled s e.cfg

def windowW (s : State) (o : HostId) (e : Fail) : Nat := b2n (e.host == o && inWindow s e)

/-- handler `cs` references key `k` in the `hosts` pool (with multiplicity) -/
def heldW (k : Key) (cs : CfgSt) : Nat := cs.held.count k

def attemptW (o : HostId) (a : HostId × Outcome) : Nat := b2n (a.1 == o && a.2.countable)

/-- finished attempts of `q` on `o` for which `countFailure` has to be called (handler counts) -/
def failedAttemptsW (o : HostId) (q : Req) : Nat := b2n q.par.counting * total (attemptW o) q.hist

/-- log entry `e` on `o` was counted for an attempt outcome (not for a bad status) -/
def countedAttemptW (o : HostId) (e : Fail) : Nat := b2n (e.host == o && e.src.isSome)

def Pc.owesCountOn (o : HostId) : Pc → Bool
  | .exited h out => h == o && out.countable
  | _ => false

/-- `q`'s failed attempt on `o` has ended but its `countFailure` call is still to come -/
def aboutToCountW (o : HostId) (q : Req) : Nat := b2n (q.par.counting && q.pc.owesCountOn o)

-- ---------------------------------------------------------------- the counts

/-- number of requests currently being sent to host object `o` -/
def sendingCount (s : State) (o : HostId) : Nat := total (inFlightW o) s.reqs

/-- number of counted failures on `o` that have not been forgotten yet (= forgetters still to run) -/
def pendingForgetters (s : State) (o : HostId) : Nat := total (pendingW o) s.log

def countedNotSpawned (s : State) (o : HostId) (c : CfgId) : Nat := total (countedW o c) s.log

def spawners (s : State) (o : HostId) (c : CfgId) : Nat := total (spawnerW o c) s.reqs

/-- #{failures counted on `o` at `tᵢ` with `tᵢ ≤ now < tᵢ + D`, configuration still loaded} -/
def windowCount (s : State) (o : HostId) : Nat := total (windowW s o) s.log

/-- the scheduler has let every forgetter that is due (and every pending `go`) run -/
def Timely (s : State) : Prop := ∀ e ∈ s.log, e.st ≠ FSt.forgotten → inWindow s e = true

/-- no request is inside the handler -/
def Quiescent (s : State) : Prop := ∀ q ∈ s.reqs, q.pc = Pc.done

/-- number of loaded handlers referencing key `k` in the `hosts` pool (with multiplicity) -/
def holders (s : State) (k : Key) : Nat := total (heldW k) s.cfgs

/-- the pool's usage count of `k` (0 = absent) -/
def refs (s : State) (k : Key) : Nat :=
  match s.pool k with
  | some (_, n) => n
  | none => 0

/-- the Host object the pool holds for `k` -/
def poolObj (s : State) (k : Key) : Option HostId := (s.pool k).map (·.1)

def failedAttempts (s : State) (o : HostId) : Nat := total (failedAttemptsW o) s.reqs

def countedAttempts (s : State) (o : HostId) : Nat := total (countedAttemptW o) s.log

def aboutToCount (s : State) (o : HostId) : Nat := total (aboutToCountW o) s.reqs

end CaddyModel.C09
