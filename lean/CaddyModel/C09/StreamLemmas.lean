/-
C09 — while a response is streamed (body copy, or an upgraded connection) the request stays in
the in-flight place: the strikes for the response header do not move it, and nothing but `finish`
can (`leaves_in_flight_only_by_finish`, Props.lean).
-/
import CaddyModel.C09.Steps
import CaddyModel.C09.Sched

namespace CaddyModel.C09

theorem isParked_iff {s : State} {r : Nat} : isParked s r = true ↔ ∃ q h, s.reqs[r]? = some q ∧ q.pc = .sending h := by
  have key : ∀ h, pcOf s r = some (.sending h) ↔ ∃ q, s.reqs[r]? = some q ∧ q.pc = .sending h :=
    fun h => Option.map_eq_some_iff
  fun_cases isParked s r
  case case1 h hp => exact ⟨fun _ => let ⟨q, hq, hpc⟩ := (key h).mp hp; ⟨q, h, hq, hpc⟩, fun _ => rfl⟩
  case case2 hn => exact ⟨nofun, fun ⟨q, h, hq, hpc⟩ => (hn h ((key h).mpr ⟨q, hq, hpc⟩)).elim⟩

theorem strike_spawn_parked {s s1 s2 : State} {r : Nat}
    (h1 : step s (.strike r) = some s1) (h2 : spawnLast s1 r = some s2) :
    isParked s2 r = true ∧ s2.inflight = s.inflight := by
  cases Step.of_step h1 with | @strike _ q h hq hpc _ => ?_
  have hq1 := get_set_self (x := { q with pc := Pc.strikeInc h }) hq
  simp only [spawnLast, isSpawning, pcOf, hq1, Option.map_some, if_true] at h2
  cases Step.of_step h2 with
  | spawnIn hq1' _ hpc1 => rw [hq1] at hq1'; cases hq1'; cases hpc1; exact ⟨isParked_iff.mpr ⟨_, h, get_set_self hq1, rfl⟩, rfl⟩
  | spawnOut hq1' _ hpc1 => rw [hq1] at hq1'; cases hq1'; cases hpc1

theorem strikesN_parked {s s' : State} {r n : Nat} (hp : isParked s r = true) (hs : strikesN s r n = some s') :
    isParked s' r = true ∧ s'.inflight = s.inflight := by
  fun_induction strikesN s r n with
  | case1 => cases hs; exact ⟨hp, rfl⟩
  | case2 _ _ _ h1 _ h2 ih =>
    obtain ⟨hp2, hi2⟩ := strike_spawn_parked h1 h2
    exact (ih hp2 hs).imp_right (·.trans hi2)
  | case3 => cases hs
  | case4 => cases hs

end CaddyModel.C09
