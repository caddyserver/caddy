/-
C09 line-protocol driver (wire syntax: harness/internal/c09/c09.go).

  sched <K> <step>;<step>;…     forced schedule → one snapshot token per step + `end[…]`
  stress <N> <seed>             un-forced concurrency; the answer is the balance the theorems promise
  static defer                  syntactic premise of dec_on_every_exit; constant answer
-/
import CaddyModel.C09.Sched

namespace CaddyModel.C09

/-- the value of a string of digits -/
def digitsVal : List Char → Nat → Option Nat
  | [], acc => some acc
  | c :: cs, acc => if '0' ≤ c ∧ c ≤ '9' then digitsVal cs (acc * 10 + (c.toNat - 48)) else none

/-- strict decimal: digits only, no leading zero, at most 4 digits -/
def num (s : String) : Option Nat :=
  match s.toList with
  | [] => none
  | c :: cs =>
    if (c :: cs).length > 4 then none
    else if c == '0' && !cs.isEmpty then none
    else digitsVal (c :: cs) 0

def parseKeys (s : String) (K : Nat) : Option (List Key) :=
  if s.isEmpty then none else
  match (s.splitOn ".").mapM num with
  | some ks => if ks.all (· < K) && ks.length ≤ 8 then some ks else none
  | none => none

/-- the unhealthy_status lists a load step can choose from (same table in c09.go) -/
def statusTable : Nat → List Nat
  | 1 => [500]
  | 2 => [500, 5]
  | 3 => [5]
  | 4 => [502, 404]
  | 5 => [4, 429, 503]
  | 6 => [50]
  | 7 => [200, 2]
  | _ => []

def mkParams (p d m r q st x : Nat) (dyn : Bool := false) (lat : Nat := 0) (act : Nat := 0) : Params :=
  { passive := p == 1,
    failDur := if p == 1 then d else 0,
    maxFails := if m == 0 then 1 else m,     -- reverseproxy.go:359-361
    retries := r,
    maxReq := if p == 1 then q else 0,       -- reverseproxy.go:1218-1223
    firstMax := x,                           -- an upstream's own max_requests wins (reverseproxy.go:1218-1223)
    badStatus := if p == 1 then statusTable st else [],
    latency := p == 1 && lat == 1,
    -- act = 0: no (modelled) active checks; 4..7: enabled with passes = 1 + (act-4)/2, fails = 1 + (act-4)%2
    closeStreams := act == 8,   -- mode 8: stream_close_delay is not set
    aOn := act ≥ 4 && act ≤ 7,
    aPasses := if act ≥ 4 && act ≤ 7 then 1 + (act - 4) / 2 else 1,
    aFails := if act ≥ 4 && act ≤ 7 then 1 + (act - 4) % 2 else 1,
    dynamic := dyn }

/-- the expect_status values a load step can choose from (0 = not set; < 100 = a class) -/
def expectTable : List Nat := [0, 2, 3, 4, 5, 200, 201, 301, 403, 404, 503]

/-- the statuses a scripted health endpoint can answer with -/
def probeStatusTable : List Nat := [200, 201, 301, 404, 503]

/-- the bodies a scripted health endpoint can answer with: "DOWN", "UP", "UPDATE" -/
def probeBody : Nat → List Nat
  | 1 => upLit
  | 2 => upLit ++ [68, 65, 84, 69]
  | _ => [68, 79, 87, 78]

def outcomeNames : List String := ["ok", "sl", "e5", "c404", "c429", "c502", "c503", "rst", "hup", "pan", "her"]

def parseStep (s : String) (K : Nat) : Option SStep :=
  match s.splitOn ":" with
  | ["L", ks, p, d, m, r, q, st] =>
    match parseKeys ks K, num p, num d, num m, num r, num q, num st with
    | some ks, some p, some d, some m, some r, some q, some st =>
      if p ≤ 1 && r ≤ 8 && st ≤ 7 && m ≤ 100 && q ≤ 100 then some (.load ks (mkParams p d m r q st 0) []) else none
    | _, _, _, _, _, _, _ => none
  | ["L", ks, p, d, m, r, q, st, x] =>
    match parseKeys ks K, num p, num d, num m, num r, num q, num st, num x with
    | some ks, some p, some d, some m, some r, some q, some st, some x =>
      if p ≤ 1 && r ≤ 8 && st ≤ 7 && m ≤ 100 && q ≤ 100 && 1 ≤ x && x ≤ 100 then
        some (.load ks (mkParams p d m r q st x) []) else none
    | _, _, _, _, _, _, _, _ => none
  | ["L", ks, p, d, m, r, q, st, x, l] =>
    -- tenth field: passive unhealthy_latency configured (then the ninth may be 0 = no own max_requests)
    match parseKeys ks K, num p, num d, num m, num r, num q, num st, num x, num l with
    | some ks, some p, some d, some m, some r, some q, some st, some x, some l =>
      -- l: 1 = unhealthy_latency, 2 = active health checks in the background (thresholds out of reach:
      -- they change nothing the model sees), 3 = both
      -- 4..7 = active health checks driven round by round (passes/fails thresholds 1 or 2); their
      -- upstreams must be distinct addresses (one Host per check)
      if p ≤ 1 && r ≤ 8 && st ≤ 7 && m ≤ 100 && q ≤ 100 && x ≤ 100 && 1 ≤ l && l ≤ 3 then
        some (.load ks (mkParams p d m r q st x false (if l == 2 then 0 else 1)) [])
      else if p ≤ 1 && r ≤ 8 && st ≤ 7 && m ≤ 100 && q ≤ 100 && x ≤ 100 && 4 ≤ l && l ≤ 7 && ks.eraseDups.length == ks.length then
        some (.load ks (mkParams p d m r q st x false 0 l) [])
      else if p ≤ 1 && r ≤ 8 && st ≤ 7 && m ≤ 100 && q ≤ 100 && x ≤ 100 && l == 8 then
        -- 8 = stream_close_delay unset: unloading the configuration closes its upgraded connections
        some (.load ks (mkParams p d m r q st x false 0 8) [])
      else none
    | _, _, _, _, _, _, _, _, _ => none
  | ["L", ks, p, d, m, r, q, st, x, l, es, eb, mx, hd] =>
    -- active health checks driven by the schedule (l = 4..7) with expectations: es = expect_status
    -- (0 = not set), eb = expect_body `^UP` set, mx = max_size (0 = not set), hd = the health
    -- request carries the header `X-Verif-Hc: yes`
    match parseKeys ks K, num p, num d, num m, num r, num q, num st, num x, num l with
    | some ks, some p, some d, some m, some r, some q, some st, some x, some l =>
      match num es, num eb, num mx, num hd with
      | some es, some eb, some mx, some hd =>
        if p ≤ 1 && r ≤ 8 && st ≤ 7 && m ≤ 100 && q ≤ 100 && x ≤ 100 && 4 ≤ l && l ≤ 7 && ks.eraseDups.length == ks.length
            && expectTable.contains es && eb ≤ 1 && mx ≤ 100 && hd ≤ 1 then
          some (.load ks { mkParams p d m r q st x false 0 l with aExpect := es, aBody := eb == 1, aMax := mx, aHdr := hd == 1 } [])
        else none
      | _, _, _, _ => none
    | _, _, _, _, _, _, _, _, _ => none
  | ["Y", ks, p, d, m, r, q, st] =>
    -- a configuration whose upstreams come from a dynamic source returning `ks`
    match parseKeys ks K, num p, num d, num m, num r, num q, num st with
    | some ks, some p, some d, some m, some r, some q, some st =>
      if p ≤ 1 && r ≤ 8 && st ≤ 7 && m ≤ 100 && q ≤ 100 then some (.load ks (mkParams p d m r q st 0 true) []) else none
    | _, _, _, _, _, _, _ => none
  | ["Y", ks, p, d, m, r, q, st, fb] =>
    -- …and static upstreams `fb` the handler falls back to while the source fails
    match parseKeys ks K, num p, num d, num m, num r, num q, num st, parseKeys fb K with
    | some ks, some p, some d, some m, some r, some q, some st, some fb =>
      if p ≤ 1 && r ≤ 8 && st ≤ 7 && m ≤ 100 && q ≤ 100 then some (.load ks (mkParams p d m r q st 0 true) fb) else none
    | _, _, _, _, _, _, _, _ => none
  | ["H", k, "1"] => (num k).bind fun k => if k < K then some (.health k true) else none
  | ["H", k, "0"] => (num k).bind fun k => if k < K then some (.health k false) else none
  | ["H", k, st, b, hd] =>
    -- the health endpoint of backend k scripted in full: status, body (0 "DOWN", 1 "UP", 2 "UPDATE"),
    -- hd = 1: it answers 403 to a health request without the header `X-Verif-Hc: yes`
    match num k, num st, num b, num hd with
    | some k, some st, some b, some hd =>
      if k < K && probeStatusTable.contains st && b ≤ 2 && hd ≤ 1 then
        some (.probe k { status := st, body := probeBody b, needsHdr := hd == 1 }) else none
    | _, _, _, _ => none
  | ["K"] => some .round
  | ["E", "1"] => some (.srcFail true)
  | ["E", "0"] => some (.srcFail false)
  | ["B", ks] => (parseKeys ks K).map .badLoad
  | ["C"] => some .unloadCur
  | ["N", "G"] => some (.newReq true)
  | ["N", "P"] => some (.newReq false)
  | ["N", "W"] => some .newReqWs
  | ["N", g, k, b] =>
    -- a request for which the dial placeholder of upstream key k expands to something undialable
    -- (b: 1 = named port, 2 = port range, 3 = not set); only in `schedph` schedules
    match num k, num b with
    | some k, some b =>
      if k < K && 1 ≤ b && b ≤ 3 && (g == "G" || g == "P") then some (.newReqBad (g == "G") k) else none
    | _, _ => none
  | ["O", r, "sb"] => (num r).map .streamBegin
  | ["O", r, "wu"] => (num r).map .wsBegin
  | ["O", r, "se"] => (num r).map .streamEnd
  | ["O", r, what] => if outcomeNames.contains what then (num r).map (.answer · what) else none
  | ["A", r] => (num r).map .abort
  | ["D", k] => match num k with
    | some k => if k < K then some (.bdown k) else none
    | none => none
  | ["U", k] => match num k with
    | some k => if k < K then some (.bup k) else none
    | none => none
  | ["T", n] => match num n with
    | some n => if 1 ≤ n && n ≤ 50 then some (.ticks n) else none
    | none => none
  | _ => none

/-- does the schedule load a configuration with unhealthy_latency?  (Such schedules must not let
    time pass: how long a request stays parked would decide whether its round trip was slow.) -/
def usesLatency : List SStep → Bool
  | [] => false
  | .load _ p _ :: rest => p.latency || usesLatency rest
  | _ :: rest => usesLatency rest

/-- does the schedule load a configuration whose active checks it drives itself? -/
def usesActive : List SStep → Bool
  | [] => false
  | .load _ p _ :: rest => p.aOn || usesActive rest
  | _ :: rest => usesActive rest

/-- the tenth field of the load steps of a schedule (0 where there is none) -/
def loadModes (steps : List String) : List Nat :=
  steps.map fun st =>
    match st.splitOn ":" with
    | ["L", _, _, _, _, _, _, _, _, l] => (num l).getD 0
    | ["L", _, _, _, _, _, _, _, _, l, _, _, _, _] => (num l).getD 0
    | _ => 0

/-- free-running background checks (modes 2, 3) would move the active counters of shared Hosts by
    an unknown amount: they cannot be mixed with checks the schedule drives (modes 4..7) -/
def mixesActiveModes (steps : List String) : Bool :=
  (loadModes steps).any (fun l => l == 2 || l == 3) && (loadModes steps).any (fun l => 4 ≤ l && l ≤ 7)

def usesBadDial : List SStep → Bool
  | [] => false
  | .newReqBad _ _ :: _ => true
  | _ :: rest => usesBadDial rest

def totalTicks : List SStep → Nat
  | [] => 0
  | .ticks n :: rest => n + totalTicks rest
  | _ :: rest => totalTicks rest

def showObjs (s : State) : String :=
  ",".intercalate ((List.range s.nextHost).map fun o => toString (s.inflight o) ++ "/" ++ toString (s.fails o))

def showUp (c : CfgId) (p : Params) (s : State) (iu : Nat × (Key × HostId)) : String :=
  toString iu.2.2 ++ (if isDown s c iu.1 || !healthy p s iu.2.2 then "u" else if full p iu.1 s iu.2.2 then "f" else "a") ++
    (if p.aOn then ":" ++ toString (s.aPass iu.2.2) ++ "/" ++ toString (s.aFail iu.2.2) else "")

def showCur (d : DState) : String :=
  match curLive d with
  | some c =>
    match d.s.cfgs[c]? with
    | some cs => ",".intercalate ((List.range cs.ups.length).zip cs.ups |>.map (showUp c cs.par d.s))
    | none => ""
  | none => ""

def showPool (s : State) (K : Nat) : String :=
  ",".intercalate ((List.range K).map fun k =>
    match s.pool k with
    | some (o, n) =>
      -- object and usage count, then what GET /reverse_proxy/upstreams reports for the address:
      -- admin.go ranges over the pool and reads NumRequests()/Fails() of the pooled Host
      toString o ++ "x" ++ toString n ++ ":" ++ toString (s.inflight o) ++ "/" ++ toString (s.fails o)
    | none => "-")

def snapshot (d : DState) (K : Nat) (ev : String) : String :=
  ev ++ "[" ++ showObjs d.s ++ "][" ++ showCur d ++ "][" ++ showPool d.s K ++ "]"

def runSched (K : Nat) : DState → List SStep → List String → Option (List String)
  | d, [], acc =>
    some (acc ++ [snapshot { d with s := quiesce d, cur := none } K "end"])
  | d, st :: rest, acc =>
    match sstep d st with
    | none => none
    | some (d1, ev) =>
      runSched K { d1 with s := settle d1.s, aged := agedAfter d st } rest (acc ++ [snapshot { d1 with s := settle d1.s } K ev])

def handleSched (k steps : String) (ph : Bool := false) : String :=
  match num k with
  | none => "bad-op"
  | some K =>
    if K < 1 || K > 6 then "bad-op" else
    if (steps.splitOn ";").length > 200 then "bad-op" else
    match (steps.splitOn ";").mapM (parseStep · K) with
    | none => "bad-op"
    | some sts =>
      if mixesActiveModes (steps.splitOn ";") then "bad-op" else
      -- `schedph`: every upstream's dial address is a request placeholder; active health checks
      -- cannot use such addresses (modes 2..7); undialable requests exist only there
      if usesBadDial sts && !ph then "bad-op" else
      if ph && (loadModes (steps.splitOn ";")).any (fun l => 2 ≤ l && l ≤ 7) then "bad-op" else
      if totalTicks sts > 99 then "bad-op" else
      if usesLatency sts && totalTicks sts > 0 then "bad-op" else
      match runSched K dinit sts [] with
      | none => "bad-op"
      | some toks => " ".intercalate toks

-- ---------------------------------------------------------------- stress cases

/-- fate of request `i` of a stress case (same table in harness/internal/c09/stress.go) -/
def stressOutcome (seed i : Nat) : String :=
  match ((seed * 131 + i * 7919 + 12345) % 65536 / 16) % 10 with
  | 0 => "ok" | 1 => "ok" | 2 => "ok"
  | 3 => "rst" | 4 => "rst"
  | 5 => "e5"
  | 6 => "hup"
  | 7 => "pan"
  | 8 => "her"
  | _ => "abort"

def stressParams : Params :=
  { passive := true, failDur := 100, maxFails := 100, retries := 0, maxReq := 0, firstMax := 0, badStatus := [500], latency := false, closeStreams := false, aOn := false, aPasses := 1, aFails := 1, dynamic := false }

/-- one request from entry to return, on Host object `i % 2`; returns the new state and how the
    handler returned -/
def stressEnd (s2 : State) (r : Nat) (seed i : Nat) : Option (State × String) :=
  match stressOutcome seed i with
  | "ok" => (endAttempt s2 r .ok).map (·, "ok")
  | "rst" => (endAttempt s2 r .upstreamErr).map (·, "err")
  | "e5" =>
    match strikesN s2 r 1 with
    | none => none
    | some s3 => (endAttempt s3 r .ok).map (·, "ok")
  | "hup" => (endAttempt s2 r .panic).map (·, "panic")
  | "pan" => (endAttempt s2 r .panic).map (·, "panic")
  | "her" => (endAttempt s2 r .handlerErr).map (·, "err")
  | _ => (endAttempt s2 r .clientAbort).map (·, "ok")

/-- one request from entry to return, on Host object `i % 2` (static upstreams), or on the
    `i % 2`-th upstream its loop iteration provisioned (dynamic source); returns the new state and
    how the handler returned -/
def stressReq (dyn : Bool) (s : State) (cur : CfgId) (seed i : Nat) : Option (State × String) := do
  let s1 ← step s (.newReq cur false)
  let r := s.reqs.length
  if dyn then
    let h := s1.cfgs.length
    let s2 ← step s1 (.newIter r)
    let s3 ← stores s2 h [0, 1]
    let hs ← s3.cfgs[h]?
    let u ← hs.ups[i % 2]?
    let s4 ← step s3 (.dispatch r u.2)
    let (s5, res) ← stressEnd s4 r seed i
    let s6 ← unload s5 h [0, 1]
    pure (s6, res)
  else
    let s2 ← step s1 (.dispatch r (i % 2))
    stressEnd s2 r seed i

def stressParamsD (dyn : Bool) : Params := { stressParams with dynamic := dyn }

def stressKeys (dyn : Bool) : List Key := if dyn then [] else [0, 1]

def stressLoop (dyn : Bool) (seed n : Nat) : Nat → Nat → State → CfgId → List String → Option (State × CfgId × List String)
  | 0, _, s, cur, acc => some (s, cur, acc)
  | fuel + 1, i, s, cur, acc =>
    if i == n / 2 && cur == 0 then
      -- the reload that keeps both upstreams
      match step s (.newCfg (stressParamsD dyn)) with
      | none => none
      | some s1 =>
        match stores s1 s.cfgs.length (stressKeys dyn) with
        | none => none
        | some s2 =>
          match unload s2 0 (stressKeys dyn) with
          | none => none
          | some s3 =>
            match stressReq dyn s3 s.cfgs.length seed i with
            | none => none
            | some (s4, res) => stressLoop dyn seed n fuel (i + 1) s4 s.cfgs.length (acc ++ [res])
    else
      match stressReq dyn s cur seed i with
      | none => none
      | some (s1, res) => stressLoop dyn seed n fuel (i + 1) s1 cur (acc ++ [res])

def sumOver (f : Nat → Int) (n : Nat) : Int := (List.range n).foldl (fun a o => a + f o) 0

def handleStress (dyn : Bool) (ns seeds : String) : String :=
  match num ns, num seeds with
  | some n, some seed =>
    if n < 1 || n > 64 then "bad-op" else
    match step init (.newCfg (stressParamsD dyn)) with
    | none => "bad-op"
    | some s0 =>
      match stores s0 0 (stressKeys dyn) with
      | none => "bad-op"
      | some s1 =>
        match stressLoop dyn seed n n 0 s1 0 [] with
        | none => "bad-op"
        | some (s2, cur, res) =>
          match unload s2 cur (stressKeys dyn) with
          | none => "bad-op"
          | some s3 =>
            "n=" ++ toString n ++
            " ok=" ++ toString (res.count "ok") ++ " err=" ++ toString (res.count "err") ++
            " panic=" ++ toString (res.count "panic") ++
            " inc=" ++ toString ((s2.reqs.map (·.incs)).foldl (· + ·) 0) ++
            " dec=" ++ toString ((s2.reqs.map (·.hist.length)).foldl (· + ·) 0) ++
            " fail=" ++ toString s2.log.length ++
            " forget=" ++ toString (((settle s3).log.filter (·.st == FSt.forgotten)).length) ++
            " end=" ++ toString (sumOver s2.inflight s2.nextHost) ++ "/" ++ toString (sumOver (settle s3).fails s3.nextHost) ++
            " pool=" ++ toString (((List.range 2).filter fun k => (s3.pool k).isSome).length)
  | _, _ => "bad-op"

def handle : List String → String
  | ["sched", k, steps] => handleSched k steps
  | ["schedph", k, steps] => handleSched k steps true   -- the same, every dial address is a request placeholder
  | ["schedcf", k, steps] => handleSched k steps   -- same schedule, configuration delivered as Caddyfile
  | ["stress", n, seed] => handleStress false n seed
  | ["stressdyn", n, seed] => handleStress true n seed   -- the same, upstreams from a dynamic source
  | ["static", "defer"] => "defer-ok"
  | _ => "bad-op"

/-- no clause is violated by the current tree: nothing to replay as a counter-example (the former
    witness line is a regression case in corpus/C09/) -/
def witnessLines : List String := []

end CaddyModel.C09
