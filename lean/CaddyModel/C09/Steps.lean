/-
C09 — the transition system `step` (Model.lean) in relational form (`Step`, `step_iff`): the layer
every proof about steps rests on.
-/
import CaddyModel.C09.Model

namespace CaddyModel.C09

theorem lt_of_get {α : Type} {l : List α} {i : Nat} {x : α} (h : l[i]? = some x) : i < l.length :=
  (List.getElem?_eq_some_iff.mp h).1

theorem get_set_self {α : Type} {l : List α} {i : Nat} {x y : α} (h : l[i]? = some y) : (l.set i x)[i]? = some x :=
  List.getElem?_set_self (lt_of_get h)

/-- The transition system in relational form: one rule per way a step can be taken, in the order of
    `Action`, the successor written out as in the model and the hypotheses always in the order
    look-up, program counter, guard, a guard that fails written `… = false`.  Where a step function
    chooses its successor by a condition the choice is made here, once, in named rules: `store` (the pool has the key / has not), `delete`
    (the handler stored the key / did not: nothing happens), `spawn` (inside `reverseProxy` / after
    a failed attempt), `after` (counted / countable but the handler does not count / not countable),
    `activeCheck` (pass or fail, each flipping the status or not). -/
inductive Step : State → Action → State → Prop
  | newCfg {s p} :
      Step s (.newCfg p) { s with cfgs := s.cfgs ++ [{ par := p, ups := [], held := [], canceled := false }] }
  | storeShared {s c k cs o n} (hcs : s.cfgs[c]? = some cs) (hnc : cs.canceled = false) (hp : s.pool k = some (o, n)) :
      Step s (.store c k)
        { s with pool := upd s.pool k (some (o, n + 1)),
                 cfgs := s.cfgs.set c { cs with ups := cs.ups ++ [(k, o)], held := k :: cs.held } }
  | storeFresh {s c k cs} (hcs : s.cfgs[c]? = some cs) (hnc : cs.canceled = false) (hp : s.pool k = none) :
      Step s (.store c k)
        { s with pool := upd s.pool k (some (s.nextHost, 1)), nextHost := s.nextHost + 1,
                 cfgs := s.cfgs.set c { cs with ups := cs.ups ++ [(k, s.nextHost)], held := k :: cs.held } }
  | cancel {s c cs} (hcs : s.cfgs[c]? = some cs) (hi : ownerIdle s cs = true) :
      Step s (.cancel c) { s with cfgs := s.cfgs.set c { cs with canceled := true } }
  | delete {s c k cs} (hcs : s.cfgs[c]? = some cs) (hc : cs.canceled = true) (hh : cs.held.contains k = true) :
      Step s (.delete c k)
        { s with pool := poolDelete s.pool k, cfgs := s.cfgs.set c { cs with held := cs.held.erase k } }
  | deleteSkip {s c k cs} (hcs : s.cfgs[c]? = some cs) (hc : cs.canceled = true) (hh : cs.held.contains k = false) :
      Step s (.delete c k) s
  | newReq {s c get cs} (hcs : s.cfgs[c]? = some cs) :
      Step s (.newReq c get)
        { s with reqs := s.reqs ++ [{ cfg := c, par := cs.par, isGet := get, retries := 0, lastErr := .none,
                                       pc := .start, incs := 0, hist := [] }] }
  | dispatch {s r h q} (hq : s.reqs[r]? = some q) (hpc : q.pc = .start) (hok : dynOk s r q h = true) :
      Step s (.dispatch r h)
        { s with reqs := s.reqs.set r { q with pc := .sending h, incs := q.incs + 1 },
                 inflight := upd s.inflight h (s.inflight h + 1) }
  | noUpstream {s r q} (hq : s.reqs[r]? = some q) (hpc : q.pc = .start) :
      Step s (.noUpstream r) { s with reqs := s.reqs.set r (q.decided q.keepErr (canceled s q.cfg)) }
  | strike {s r q h} (hq : s.reqs[r]? = some q) (hpc : q.pc = .sending h) (hc : q.par.counting = true) :
      Step s (.strike r)
        { s with reqs := s.reqs.set r { q with pc := .strikeInc h },
                 fails := upd s.fails h (s.fails h + 1),
                 log := s.log ++ [newFail q h s.now none] }
  | spawnIn {s r i q e h} (hq : s.reqs[r]? = some q) (he : s.log[i]? = some e) (hpc : q.pc = .strikeInc h)
      (hok : spawnOk q h e = true) :
      Step s (.spawn r i)
        { s with reqs := s.reqs.set r { q with pc := .sending h }, log := s.log.set i { e with st := .waiting } }
  | spawnOut {s r i q e h} (hq : s.reqs[r]? = some q) (he : s.log[i]? = some e) (hpc : q.pc = .failInc h)
      (hok : spawnOk q h e = true) :
      Step s (.spawn r i)
        { s with reqs := s.reqs.set r (q.decided q.lastErr (canceled s q.cfg)),
                 log := s.log.set i { e with st := .waiting } }
  | finish {s r q h out} (hq : s.reqs[r]? = some q) (hpc : q.pc = .sending h) :
      Step s (.finish r out)
        { s with reqs := s.reqs.set r { q with pc := .exited h out, hist := q.hist ++ [(h, out)] },
                 inflight := upd s.inflight h (s.inflight h - 1) }
  | afterCount {s r q h out} (hq : s.reqs[r]? = some q) (hpc : q.pc = .exited h out) (hk : out.countable = true)
      (hc : q.par.counting = true) :
      Step s (.after r)
        { s with reqs := s.reqs.set r { q with pc := .failInc h, lastErr := out.errKind },
                 fails := upd s.fails h (s.fails h + 1),
                 log := s.log ++ [newFail q h s.now (some out)] }
  | afterSkip {s r q h out} (hq : s.reqs[r]? = some q) (hpc : q.pc = .exited h out) (hk : out.countable = true)
      (hc : q.par.counting = false) :
      Step s (.after r) { s with reqs := s.reqs.set r (q.decided out.errKind (canceled s q.cfg)) }
  | afterDone {s r q h out} (hq : s.reqs[r]? = some q) (hpc : q.pc = .exited h out) (hk : out.countable = false) :
      Step s (.after r) { s with reqs := s.reqs.set r { q with pc := .done } }
  | forget {s i e} (he : s.log[i]? = some e) (hok : forgetOk s e = true) :
      Step s (.forget i)
        { s with log := s.log.set i { e with st := .forgotten }, fails := upd s.fails e.host (s.fails e.host - 1) }
  | newIter {s r q} (hq : s.reqs[r]? = some q) (hpc : q.pc = .start) (hd : q.par.dynamic = true) :
      Step s (.newIter r)
        { s with cfgs := s.cfgs ++ [{ par := q.par, ups := [], held := [], canceled := false, owner := some r }],
                 reqs := s.reqs.set r { q with holder := some s.cfgs.length } }
  | activeUp {s c i pass cs u} (hcs : s.cfgs[c]? = some cs) (hu : cs.ups[i]? = some u) (hp : pass = true)
      (ht : (decide (cs.par.aPasses ≤ s.aPass u.2 + 1) && isDown s c i) = true) :
      Step s (.activeCheck c i pass)
        { s with aPass := upd s.aPass u.2 0, aFail := upd s.aFail u.2 0, adown := s.adown.filter (· != (c, i)) }
  | activePass {s c i pass cs u} (hcs : s.cfgs[c]? = some cs) (hu : cs.ups[i]? = some u) (hp : pass = true)
      (ht : (decide (cs.par.aPasses ≤ s.aPass u.2 + 1) && isDown s c i) = false) :
      Step s (.activeCheck c i pass) { s with aPass := upd s.aPass u.2 (s.aPass u.2 + 1) }
  | activeDown {s c i pass cs u} (hcs : s.cfgs[c]? = some cs) (hu : cs.ups[i]? = some u) (hp : pass = false)
      (ht : (decide (cs.par.aFails ≤ s.aFail u.2 + 1) && !isDown s c i) = true) :
      Step s (.activeCheck c i pass)
        { s with aPass := upd s.aPass u.2 0, aFail := upd s.aFail u.2 0, adown := (c, i) :: s.adown }
  | activeFail {s c i pass cs u} (hcs : s.cfgs[c]? = some cs) (hu : cs.ups[i]? = some u) (hp : pass = false)
      (ht : (decide (cs.par.aFails ≤ s.aFail u.2 + 1) && !isDown s c i) = false) :
      Step s (.activeCheck c i pass) { s with aFail := upd s.aFail u.2 (s.aFail u.2 + 1) }
  | dialInfoFails {s r q} (hq : s.reqs[r]? = some q) (hpc : q.pc = .start) :
      Step s (.dialInfoFails r) { s with reqs := s.reqs.set r { q with pc := .done } }
  | fallback {s r q} (hq : s.reqs[r]? = some q) (hpc : q.pc = .start) (hd : q.par.dynamic = true) :
      Step s (.fallback r) { s with reqs := s.reqs.set r { q with holder := none } }
  | tick {s} : Step s .tick { s with now := s.now + 1 }

theorem Step.of_step {s s' : State} {a : Action} (hs : step s a = some s') : Step s a s' := by
  cases a <;> simp only [step] at hs <;> revert hs
  case newCfg p => rintro ⟨⟩; exact .newCfg
  case store c k =>
    fun_cases stepStore s c k <;> rintro ⟨⟩
    · exact .storeShared ‹_› (Bool.eq_false_iff.mpr ‹_›) ‹_›
    · exact .storeFresh ‹_› (Bool.eq_false_iff.mpr ‹_›) ‹_›
  case cancel c => fun_cases stepCancel s c <;> rintro ⟨⟩; exact .cancel ‹_› ‹_›
  case delete c k =>
    fun_cases stepDelete s c k <;> rintro ⟨⟩
    case case4 => exact .deleteSkip ‹_› ‹_› (Bool.eq_false_iff.mpr ‹_›)
    -- the three ways the model spells `poolDelete`
    all_goals
      have := Step.delete (k := k) ‹_› ‹_› ‹_›
      simpa only [poolDelete, *, if_true, if_false] using this
  case newReq c get => fun_cases stepNewReq s c get <;> rintro ⟨⟩; exact .newReq ‹_›
  case dispatch r h => fun_cases stepDispatch s r h <;> rintro ⟨⟩; exact .dispatch ‹_› ‹_› ‹_›
  case noUpstream r => fun_cases stepNoUpstream s r <;> rintro ⟨⟩; exact .noUpstream ‹_› ‹_›
  case strike r => fun_cases stepStrike s r <;> rintro ⟨⟩; exact .strike ‹_› ‹_› ‹_›
  case spawn r i =>
    fun_cases stepSpawn s r i <;> rintro ⟨⟩
    · exact .spawnIn ‹_› ‹_› ‹_› ‹_›
    · exact .spawnOut ‹_› ‹_› ‹_› ‹_›
  case finish r out => fun_cases stepFinish s r out <;> rintro ⟨⟩; exact .finish ‹_› ‹_›
  case after r =>
    fun_cases stepAfter s r <;> rintro ⟨⟩
    · exact .afterCount ‹_› ‹_› ‹_› ‹_›
    · exact .afterSkip ‹_› ‹_› ‹_› (Bool.eq_false_iff.mpr ‹_›)
    · exact .afterDone ‹_› ‹_› (Bool.eq_false_iff.mpr ‹_›)
  case forget i => fun_cases stepForget s i <;> rintro ⟨⟩; exact .forget ‹_› ‹_›
  case newIter r => fun_cases stepNewIter s r <;> rintro ⟨⟩; exact .newIter ‹_› ‹_› ‹_›
  case activeCheck c i pass =>
    fun_cases stepActive s c i pass <;> rintro ⟨⟩
    · exact .activeUp ‹_› ‹_› ‹_› ‹_›
    · exact .activePass ‹_› ‹_› ‹_› (Bool.eq_false_iff.mpr ‹_›)
    · exact .activeDown ‹_› ‹_› (Bool.eq_false_iff.mpr ‹_›) ‹_›
    · exact .activeFail ‹_› ‹_› (Bool.eq_false_iff.mpr ‹_›) (Bool.eq_false_iff.mpr ‹_›)
  case dialInfoFails r => fun_cases stepDialInfoFails s r <;> rintro ⟨⟩; exact .dialInfoFails ‹_› ‹_›
  case fallback r => fun_cases stepFallback s r <;> rintro ⟨⟩; exact .fallback ‹_› ‹_› ‹_›
  case tick => rintro ⟨⟩; exact .tick

theorem Step.sound {s s' : State} {a : Action} (h : Step s a s') : step s a = some s' := by
  cases h
  case delete hcs hc hh =>
    simp only [step, stepDelete, hcs, hc, hh, if_true, poolDelete]
    split
    · split <;> rfl
    · rfl
  case deleteSkip hcs hc hh => simp only [step, stepDelete, hcs, hc, hh, if_true, Bool.false_eq_true, if_false]
  all_goals simp only [step, stepStore, stepCancel, stepNewReq, stepDispatch, stepNewIter, stepFallback,
    stepDialInfoFails, stepNoUpstream, stepStrike, stepSpawn, stepFinish, stepAfter, stepForget, stepActive, *,
    if_true, if_false, Bool.false_eq_true]

theorem step_iff {s s' : State} {a : Action} : step s a = some s' ↔ Step s a s' := ⟨Step.of_step, Step.sound⟩

theorem stepDelete_spec {s : State} {c : CfgId} {k : Key} {cs : CfgSt} (hcs : s.cfgs[c]? = some cs)
    (hc : cs.canceled = true) (hh : cs.held.contains k = true) :
    stepDelete s c k =
      some { s with pool := poolDelete s.pool k, cfgs := s.cfgs.set c { cs with held := cs.held.erase k } } :=
  (Step.delete hcs hc hh).sound

theorem Reachable.rule {P : State → Prop} (h0 : P C09.init) (hs : ∀ {s a s'}, P s → Step s a s' → P s') {s : State}
    (h : Reachable s) : P s := by
  induction h with
  | init => exact h0
  | step a _ h1 ih => exact hs ih (.of_step h1)

theorem reachable_of_run {s s' : State} (as : List Action) (h : Reachable s) (hr : run s as = some s') : Reachable s' := by
  fun_induction run s as with
  | case1 => cases hr; exact h
  | case2 _ a _ _ h1 ih => exact ih (.step a h h1) hr
  | case3 => cases hr

end CaddyModel.C09
