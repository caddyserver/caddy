/-
C09 — dynamic upstreams: a request that is dealing with a Host in its current loop iteration
(being sent to it, or between the return of `reverseProxy` and the end of the iteration) still has
that iteration's holder alive, owned by itself, with the Host among what it provisioned.
-/
import CaddyModel.C09.Lemmas

namespace CaddyModel.C09

def IterInv (s : State) : Prop :=
  ∀ (r : Nat) (q : Req) (o : HostId) (c : CfgId), s.reqs[r]? = some q → q.par.dynamic = true →
    q.pc.hostOf = some o → q.holder = some c →
    ∃ cs : CfgSt, s.cfgs[c]? = some cs ∧ cs.canceled = false ∧ cs.owner = some r ∧ ∃ k, (k, o) ∈ cs.ups

theorem iter_set {s s' : State} {r0 : Nat} {q0 q0' : Req} (hi : IterInv s) (hq0 : s.reqs[r0]? = some q0)
    (hr : s'.reqs = s.reqs.set r0 q0') (hc : s'.cfgs = s.cfgs)
    (hown : ∀ o c, q0'.par.dynamic = true → q0'.pc.hostOf = some o → q0'.holder = some c →
      ∃ cs : CfgSt, s.cfgs[c]? = some cs ∧ cs.canceled = false ∧ cs.owner = some r0 ∧
        ∃ k, (k, o) ∈ cs.ups) : IterInv s' := by
  intro r q o c hq hd ho hh
  rw [hr] at hq
  rw [hc]
  by_cases h : r0 = r
  · subst h
    rw [get_set_self hq0] at hq; simp at hq; subst hq
    exact hown o c hd ho hh
  · rw [List.getElem?_set_ne h] at hq
    exact hi r q o c hq hd ho hh

theorem iter_set_same {s s' : State} {r0 : Nat} {q0 q0' : Req} (hi : IterInv s) (hq0 : s.reqs[r0]? = some q0)
    (hr : s'.reqs = s.reqs.set r0 q0') (hc : s'.cfgs = s.cfgs) (e1 : q0'.par = q0.par)
    (e3 : ∀ o, q0'.pc.hostOf = some o → q0.pc.hostOf = some o ∧ q0'.holder = q0.holder) : IterInv s' := by
  refine iter_set hi hq0 hr hc ?_
  intro o c hd ho hh
  rw [e1] at hd; rw [(e3 o ho).2] at hh
  exact hi r0 q0 o c hq0 hd (e3 o ho).1 hh

theorem iter_cfgs {s s' : State} (hi : IterInv s) (hr : s'.reqs = s.reqs)
    (hk : ∀ (c : CfgId) (cs : CfgSt) (r : Nat) (q : Req) (o : HostId), s.cfgs[c]? = some cs → cs.canceled = false →
      cs.owner = some r → s.reqs[r]? = some q → q.pc.hostOf = some o →
      ∃ cs' : CfgSt, s'.cfgs[c]? = some cs' ∧ cs'.canceled = false ∧ cs'.owner = some r ∧ ∀ x ∈ cs.ups, x ∈ cs'.ups) :
    IterInv s' := by
  intro r q o c hq hd ho hh
  rw [hr] at hq
  obtain ⟨cs, h2, h3, h4, k, h5⟩ := hi r q o c hq hd ho hh
  obtain ⟨cs', g1, g2, g3, g4⟩ := hk c cs r q o h2 h3 h4 hq ho
  exact ⟨cs', g1, g2, g3, k, g4 _ h5⟩

theorem iter_set_cfg {s s' : State} {c0 : CfgId} {cs0 cs0' : CfgSt} (hi : IterInv s) (hcs0 : s.cfgs[c0]? = some cs0)
    (hr : s'.reqs = s.reqs) (hc : s'.cfgs = s.cfgs.set c0 cs0')
    (hkeep : ∀ r q o, cs0.canceled = false → cs0.owner = some r → s.reqs[r]? = some q → q.pc.hostOf = some o →
      cs0'.canceled = false ∧ cs0'.owner = some r ∧ ∀ x ∈ cs0.ups, x ∈ cs0'.ups) : IterInv s' := by
  refine iter_cfgs hi hr ?_
  intro c cs r q o hcs h1 h2 hq ho
  rw [hc]
  by_cases hcc : c0 = c
  · subst hcc
    rw [hcs0] at hcs; cases hcs
    obtain ⟨g1, g2, g3⟩ := hkeep r q o h1 h2 hq ho
    exact ⟨_, get_set_self hcs0, g1, g2, g3⟩
  · exact ⟨cs, by rw [List.getElem?_set_ne hcc, hcs], h1, h2, fun x hx => hx⟩

theorem iter_addCfg {s : State} (cs0 : CfgSt) (hi : IterInv s) : IterInv { s with cfgs := s.cfgs ++ [cs0] } :=
  iter_cfgs hi rfl fun c cs r _ _ hc h1 h2 _ _ =>
    ⟨cs, by simp [List.getElem?_append_left (lt_of_get hc), hc], h1, h2, fun x hx => hx⟩

theorem iterInv_init : IterInv init := by
  intro r q o c hq; simp [init] at hq

theorem iterInv_step {s s' : State} {a : Action} (hi : IterInv s) (hs : Step s a s') : IterInv s' := by
  cases hs with
  | tick | forget | deleteSkip | activeUp | activePass | activeDown | activeFail => exact hi
  | newCfg => exact iter_addCfg _ hi
  | storeShared hcs | storeFresh hcs =>
    exact iter_set_cfg hi hcs rfl rfl fun _ _ _ h1 h2 _ _ => ⟨h1, h2, fun x hx => List.mem_append_left _ hx⟩
  | cancel hcs hidle =>
    refine iter_set_cfg hi hcs rfl rfl fun r q o _ h2 hq ho => ?_
    rw [(ownerIdle_iff h2).mp hidle q hq] at ho; cases ho
  | delete hcs hc => exact iter_set_cfg hi hcs rfl rfl fun _ _ _ h1 => by rw [hc] at h1; cases h1
  | newReq =>
    intro r q o c hq hd ho hh
    rw [List.getElem?_append] at hq
    split at hq
    · exact hi r q o c hq hd ho hh
    · cases List.mem_singleton.mp (List.mem_of_getElem? hq); cases ho
  | dispatch hq0 _ hok =>
    refine iter_set hi hq0 rfl rfl fun o c hd ho hh => ?_
    cases ho
    exact (dynOk_holder hd hh).mp hok
  | @newIter _ q0 hq0 hpc =>
    -- the request is at the top of the loop: it deals with no Host yet
    exact iter_set (iter_addCfg _ hi) hq0 rfl rfl fun o c _ ho => by rw [show Req.pc _ = q0.pc from rfl, hpc] at ho; cases ho
  -- the other steps rewrite one request, which keeps the Host it is dealing with and its holder, or deals with none
  | _ => exact iter_set_same hi ‹_› rfl rfl (by simp) (by simp only [decided_hostOf, *] <;> simp [Pc.hostOf])

theorem iterInv_reachable {s : State} (h : Reachable s) : IterInv s := h.rule iterInv_init iterInv_step

end CaddyModel.C09
