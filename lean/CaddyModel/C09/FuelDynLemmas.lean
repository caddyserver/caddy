/-
C09 — the proxy loop of a handler with dynamic upstreams (`Sched.advanceDyn`) never runs out of
fuel either: every step of an iteration (new holder, provisioning, selection, dispatch, a refused
dial, the release at the end) is enabled, and an iteration that goes round again has incremented
`retries`.
-/
import CaddyModel.C09.FuelLemmas

namespace CaddyModel.C09

def HolderOK (s : State) (h : CfgId) (r : Nat) : Prop :=
  ∃ cs : CfgSt, s.cfgs[h]? = some cs ∧ cs.canceled = false ∧ cs.owner = some r

theorem HolderOK.of_cfgs {s s' : State} {h : CfgId} {r : Nat} (H : HolderOK s h r) (hc : s'.cfgs = s.cfgs) :
    HolderOK s' h r := by
  rw [HolderOK, hc]; exact H

theorem store_ok {s : State} {h : CfgId} {r : Nat} (k : Key) (H : HolderOK s h r) :
    ∃ s1, step s (.store h k) = some s1 ∧ s1.reqs = s.reqs ∧ HolderOK s1 h r := by
  obtain ⟨cs, hcs, hnc, how⟩ := H
  cases hp : s.pool k with
  | some v => exact ⟨_, (Step.storeShared hcs hnc hp).sound, rfl, _, get_set_self hcs, hnc, how⟩
  | none => exact ⟨_, (Step.storeFresh hcs hnc hp).sound, rfl, _, get_set_self hcs, hnc, how⟩

theorem stores_ok {s : State} {h : CfgId} {r : Nat} (ks : List Key) (H : HolderOK s h r) :
    ∃ s1, stores s h ks = some s1 ∧ s1.reqs = s.reqs ∧ HolderOK s1 h r := by
  induction ks generalizing s with
  | nil => exact ⟨s, rfl, rfl, H⟩
  | cons k ks ih =>
    obtain ⟨s', h1, h2, h3⟩ := store_ok k H
    obtain ⟨s1, g1, g2, g3⟩ := ih h3
    exact ⟨s1, by simp only [stores, h1, g1], by rw [g2, h2], g3⟩

theorem delete_ok {s : State} {h : CfgId} (k : Key) (H : ∃ cs : CfgSt, s.cfgs[h]? = some cs ∧ cs.canceled = true) :
    ∃ s', step s (.delete h k) = some s' ∧ s'.reqs = s.reqs ∧ ∃ cs : CfgSt, s'.cfgs[h]? = some cs ∧ cs.canceled = true := by
  obtain ⟨cs, hcs, hc⟩ := H
  cases hh : cs.held.contains k with
  | true => exact ⟨_, (Step.delete hcs hc hh).sound, rfl, _, get_set_self hcs, hc⟩
  | false => exact ⟨_, (Step.deleteSkip hcs hc hh).sound, rfl, cs, hcs, hc⟩

theorem deletes_ok {s : State} {h : CfgId} (ks : List Key) (H : ∃ cs : CfgSt, s.cfgs[h]? = some cs ∧ cs.canceled = true) :
    ∃ s', deletes s h ks = some s' ∧ s'.reqs = s.reqs := by
  induction ks generalizing s with
  | nil => exact ⟨s, rfl, rfl⟩
  | cons k ks ih =>
    obtain ⟨s1, h1, h2, h3⟩ := delete_ok k H
    obtain ⟨s', g1, g2⟩ := ih h3
    exact ⟨s', by simp only [deletes, h1, g1], by rw [g2, h2]⟩

/-- the iteration returns: its holder can be ended because the request is between iterations -/
theorem unload_ok {s : State} {h : CfgId} {r : Nat} (ks : List Key) (H : HolderOK s h r)
    (hidle : ∀ q, s.reqs[r]? = some q → q.pc.hostOf = none) :
    ∃ s', unload s h ks = some s' ∧ s'.reqs = s.reqs := by
  obtain ⟨cs, hcs, hnc, how⟩ := H
  obtain ⟨s', h1, h2⟩ := deletes_ok (s := { s with cfgs := s.cfgs.set h { cs with canceled := true } }) ks
    ⟨_, get_set_self hcs, rfl⟩
  exact ⟨s', by simp only [unload, (Step.cancel hcs ((ownerIdle_iff how).mpr hidle)).sound, h1], h2⟩

theorem newIter_ok {s : State} {r : Nat} {q : Req} (hq : s.reqs[r]? = some q) (hpc : q.pc = .start)
    (hdyn : q.par.dynamic = true) :
    ∃ s0 q', step s (.newIter r) = some s0 ∧ s0.reqs[r]? = some q' ∧ q'.pc = .start ∧ q'.par = q.par ∧
      q'.retries = q.retries ∧ q'.cfg = q.cfg ∧ q'.holder = some s.cfgs.length ∧ HolderOK s0 s.cfgs.length r :=
  ⟨_, _, (Step.newIter hq hpc hdyn).sound, get_set_self hq, hpc, rfl, rfl, rfl, rfl,
    _, List.getElem?_concat_length, rfl, rfl⟩

theorem decidedFrom_idle {s : State} {r : Nat} {q : Req} (hd : DecidedFrom s r q) :
    ∀ q', s.reqs[r]? = some q' → q'.pc.hostOf = none := by
  obtain ⟨q0, e, c, hq, _⟩ := hd
  intro q' hq'
  rw [hq] at hq'; simp at hq'; subst hq'; simp

theorem decidedFrom_reqs {s s' : State} {r : Nat} {q : Req} (hd : DecidedFrom s r q) (h : s'.reqs = s.reqs) :
    DecidedFrom s' r q := by
  obtain ⟨q0, e, c, hq, h1, h2, h3, h4⟩ := hd
  exact ⟨q0, e, c, by rw [h]; exact hq, h1, h2, h3, h4⟩

theorem advanceDyn_never_runs_out_of_fuel (fuel : Nat) (d : DState) (r : Nat) (q : Req)
    (hq : d.s.reqs[r]? = some q) (hpc : q.pc = .start) (hdyn : q.par.dynamic = true)
    (hf : q.par.retries - q.retries + 1 ≤ fuel) : (advanceDyn fuel d r).isSome = true := by
  induction fuel generalizing d q with
  | zero => omega
  | succ fuel ih =>
    obtain ⟨s0, q', h0, hq0, hpc', hpar', hrt', _, hhold, H0⟩ := newIter_ok hq hpc hdyn
    obtain ⟨s1, hst, hr1, H1⟩ := stores_ok (keysOf d q.cfg) H0
    have ⟨cs1, hcs1, hnc1, how1⟩ := H1
    have hq1 : s1.reqs[r]? = some q' := by rw [hr1]; exact hq0
    have hdyn' : q'.par.dynamic = true := by rw [hpar']; exact hdyn
    -- the iteration is over and released: the request has returned, or it goes round with one retry more behind it
    have again : ∀ s3, DecidedFrom s3 r q' →
        (if isDone s3 r then some (withIter d s3 r d.s.cfgs.length (keysOf d q.cfg), "err")
          else advanceDyn fuel (withIter d s3 r d.s.cfgs.length (keysOf d q.cfg)) r).isSome = true := by
      intro s3 hd3
      refine isSome_ite (fun _ => rfl) fun hnd => ?_
      obtain ⟨q1, hq1', hp1, hpar, _, hrt, hlt, _⟩ := isDone_false_start hd3 (by simpa using hnd)
      exact ih (withIter d s3 r d.s.cfgs.length (keysOf d q.cfg)) q1 hq1' hp1 (by rw [hpar]; exact hdyn')
        (by rw [hpar, hrt, hpar', hrt']; rw [hpar', hrt'] at hlt; omega)
    simp only [advanceDyn, hq, h0, hst, hcs1]
    split
    next hsel =>
      obtain ⟨s2, h2, hc2, hd2⟩ := noUpstream_ok hq1 hpc'
      obtain ⟨s3, h3, hr3⟩ := unload_ok (keysOf d q.cfg) (H1.of_cfgs hc2) (decidedFrom_idle hd2)
      simp only [h2, h3]
      exact again s3 (decidedFrom_reqs hd2 hr3)
    next u hsel =>
      have hu : u ∈ cs1.ups := firstAvailableFrom_mem hsel
      have hok : dynOk s1 r q' u.2 = true := (dynOk_holder hdyn' hhold).mpr ⟨cs1, hcs1, hnc1, how1, u.1, hu⟩
      obtain ⟨s2, q2, h2, hc2, hq2, hp2, hsame⟩ := dispatch_ok hq1 hpc' hok
      refine isSome_ite (fun _ => ?_) fun _ => ?_
      · obtain ⟨s4, h4, _⟩ := unload_ok (s := { s1 with reqs := s1.reqs.set r { q' with pc := .done } })
          (keysOf d q.cfg) (H1.of_cfgs rfl) (by intro x hx; rw [get_set_self (l := s1.reqs) hq1] at hx; cases hx; rfl)
        simp only [(Step.dialInfoFails hq1 hpc').sound, h4]; rfl
      · simp only [h2]
        refine isSome_ite (fun _ => ?_) fun _ => rfl
        obtain ⟨s3, h3, hc3, hd3⟩ := endAttempt_fail_ok .dialRefused hq2 hp2 rfl
        obtain ⟨s4, h4, hr4⟩ := unload_ok (keysOf d q.cfg) (H1.of_cfgs (hc3.trans hc2)) (decidedFrom_idle hd3)
        simp only [h3, h4]
        exact again s4 (decidedFrom_reqs (hd3.of_same hsame) hr4)

end CaddyModel.C09
