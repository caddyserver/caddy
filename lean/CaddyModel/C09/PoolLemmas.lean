/-
C09 — the `hosts` usage pool across configuration loads: the invariant `PoolInv` (usage count = number of
holders of the key, and positive for every entry; every holder points at the pool's Host object; a holder that is
not cancelled holds every key it provisioned) for all interleavings of LoadOrStore / cancel / Delete steps,
and `host_preserved_step`.  (Cleanup releases only what the handler stored — fix
d6561d4; the old Cleanup broke this invariant, see `Witness.lean`.)
-/
import CaddyModel.C09.Lemmas

namespace CaddyModel.C09

structure PoolInv (s : State) : Prop where
  refs_eq : ∀ k, refs s k = holders s k
  /-- LoadOrStore starts at 1, Delete removes at 0 -/
  pos : ∀ k o n, s.pool k = some (o, n) → 0 < n
  same_obj : ∀ cs ∈ s.cfgs, ∀ k o, (k, o) ∈ cs.ups → k ∈ cs.held → poolObj s k = some o
  ups_held : ∀ cs ∈ s.cfgs, cs.canceled = false → ∀ k o, (k, o) ∈ cs.ups → k ∈ cs.held

theorem poolInv_init : PoolInv init := by
  refine ⟨?_, ?_, ?_, ?_⟩ <;> simp [init, refs, holders, total]

theorem held_pos_of_mem {s : State} {cs : CfgSt} {k : Key} (hm : cs ∈ s.cfgs) (hk : k ∈ cs.held) : 0 < holders s k :=
  Nat.lt_of_lt_of_le (List.count_pos_iff.mpr hk) (le_total_of_mem (heldW k) s.cfgs cs hm)

theorem pool_of_held {s : State} (hi : PoolInv s) {k : Key} (hpos : 0 < holders s k) :
    ∃ o n, s.pool k = some (o, n) ∧ 0 < n := by
  have hr := hi.refs_eq k
  cases hp : s.pool k with
  | none => simp [refs, hp] at hr; omega
  | some v => exact ⟨v.1, v.2, rfl, hi.pos k v.1 v.2 hp⟩

theorem poolInv_addCfg {s : State} {cs0 : CfgSt} (hi : PoolInv s) (hu : cs0.ups = []) (hh : cs0.held = []) :
    PoolInv { s with cfgs := s.cfgs ++ [cs0] } := by
  have old : ∀ cs ∈ s.cfgs ++ [cs0], ∀ k o, (k, o) ∈ cs.ups → cs ∈ s.cfgs :=
    List.forall_mem_append.mpr ⟨fun _ hm _ _ _ => hm, List.forall_mem_singleton.mpr fun k o hu' => by rw [hu] at hu'; cases hu'⟩
  refine ⟨?_, hi.pos, ?_, ?_⟩
  · intro k
    have := hi.refs_eq k
    simp only [refs, holders, total_snoc, heldW, hh] at this ⊢
    simpa using this
  · intro cs hcs k o hu' hh'; exact hi.same_obj cs (old cs hcs k o hu') k o hu' hh'
  · intro cs hcs hc k o hu'; exact hi.ups_held cs (old cs hcs k o hu') hc k o hu'

theorem refs_eq_set {s s' : State} {c : CfgId} {cs cs' : CfgSt} (hi : PoolInv s) (hcs : s.cfgs[c]? = some cs)
    (hc : s'.cfgs = s.cfgs.set c cs') {k : Key} (h : refs s' k + cs.held.count k = refs s k + cs'.held.count k) :
    refs s' k = holders s' k := by
  have h1 := hi.refs_eq k
  have h2 := total_set (heldW k) s.cfgs c cs' cs hcs
  simp only [holders, heldW, hc] at h1 h2 ⊢
  omega

theorem poolInv_cancel {s : State} {c : CfgId} {cs : CfgSt} (hi : PoolInv s) (hcs : s.cfgs[c]? = some cs) :
    PoolInv { s with cfgs := s.cfgs.set c { cs with canceled := true } } := by
  refine ⟨?_, hi.pos, ?_, ?_⟩
  · exact fun k => refs_eq_set hi hcs rfl (by rfl)
  · exact forall_mem_set hi.same_obj (hi.same_obj cs (List.mem_of_getElem? hcs))
  · exact forall_mem_set hi.ups_held nofun

/-- LoadOrStore, found or not: `o` is the object every present holder of `k` points at -/
theorem poolInv_stored {s : State} {c : CfgId} {cs : CfgSt} {k : Key} {o : HostId} {n nh : Nat} (hi : PoolInv s)
    (hcs : s.cfgs[c]? = some cs) (hnc : cs.canceled = false) (hn : n = refs s k + 1)
    (ho : ∀ cs' ∈ s.cfgs, ∀ o', (k, o') ∈ cs'.ups → k ∈ cs'.held → o' = o) :
    PoolInv { s with pool := upd s.pool k (some (o, n)), nextHost := nh,
                     cfgs := s.cfgs.set c { cs with ups := cs.ups ++ [(k, o)], held := k :: cs.held } } := by
  have hm := List.mem_of_getElem? hcs
  refine ⟨?_, ?_, ?_, ?_⟩
  · intro k'
    refine refs_eq_set hi hcs rfl ?_
    simp only [refs, List.count_cons] at hn ⊢
    by_cases hk : k' = k
    · subst hk; simp; omega
    · simp [upd_other hk, beq_eq_false_iff_ne.mpr (Ne.symm hk)]
  · intro k' o' n' (hp' : upd s.pool k (some (o, n)) k' = some (o', n'))
    by_cases hk : k' = k
    · subst hk; rw [upd_same] at hp'; cases hp'; omega
    · rw [upd_other hk] at hp'; exact hi.pos k' o' n' hp'
  · have old : ∀ cs0 ∈ s.cfgs, ∀ k2 o2, (k2, o2) ∈ cs0.ups → k2 ∈ cs0.held →
        poolObj { s with pool := upd s.pool k (some (o, n)) } k2 = some o2 := by
      intro cs0 hm0 k2 o2 hu0 hh0
      by_cases hk : k2 = k
      · subst hk; rw [ho cs0 hm0 o2 hu0 hh0]; simp [poolObj]
      · simpa only [poolObj, upd_other hk] using hi.same_obj cs0 hm0 k2 o2 hu0 hh0
    refine forall_mem_set old fun k2 o2 hu _ => ?_
    rcases List.mem_append.mp hu with hu | hu
    · exact old cs hm k2 o2 hu (hi.ups_held cs hm hnc k2 o2 hu)
    · cases List.mem_singleton.mp hu; simp [poolObj]
  · refine forall_mem_set hi.ups_held fun _ k2 o2 hu => ?_
    rcases List.mem_append.mp hu with hu | hu
    · exact List.mem_cons_of_mem _ (hi.ups_held cs hm hnc k2 o2 hu)
    · simp at hu; simp [hu.1]

theorem poolDelete_other {pool : Key → Option (HostId × Nat)} {k k' : Key} (h : k' ≠ k) :
    poolDelete pool k k' = pool k' := by
  unfold poolDelete
  cases pool k with
  | none => rfl
  | some v => simp only []; split <;> exact upd_other h

theorem poolDelete_self {pool : Key → Option (HostId × Nat)} {k : Key} {o : HostId} {n : Nat}
    (hp : pool k = some (o, n)) : poolDelete pool k k = if n ≤ 1 then none else some (o, n - 1) := by
  unfold poolDelete; rw [hp]; by_cases hn : n ≤ 1 <;> simp [hn]

theorem poolDelete_some {pool : Key → Option (HostId × Nat)} {k k' : Key} {o' : HostId} {n' : Nat}
    (h : poolDelete pool k k' = some (o', n')) : ∃ n, pool k' = some (o', n) ∧ (0 < n → 0 < n') := by
  by_cases hk : k' = k
  · subst hk
    cases hp : pool k' with
    | none => simp [poolDelete, hp] at h
    | some v =>
      rw [poolDelete_self hp] at h
      split at h <;> cases h
      exact ⟨v.2, rfl, fun _ => by omega⟩
  · exact ⟨n', (poolDelete_other hk).symm.trans h, id⟩

theorem poolObj_poolDelete {s s' : State} {k k2 : Key} (hp : s'.pool = poolDelete s.pool k) (hpos : 0 < refs s' k2) :
    poolObj s' k2 = poolObj s k2 := by
  simp only [refs, poolObj, hp] at hpos ⊢
  cases h : poolDelete s.pool k k2 with
  | none => simp [h] at hpos
  | some v => obtain ⟨n, h0, _⟩ := poolDelete_some h; rw [h0]; rfl

theorem poolInv_delete {s : State} {c : CfgId} {k : Key} {cs : CfgSt} (hi : PoolInv s) (hcs : s.cfgs[c]? = some cs)
    (hcanc : cs.canceled = true) (hcont : cs.held.contains k = true) :
    PoolInv { s with pool := poolDelete s.pool k, cfgs := s.cfgs.set c { cs with held := cs.held.erase k } } := by
  have hm := List.mem_of_getElem? hcs
  have hheld : k ∈ cs.held := by simpa using hcont
  obtain ⟨o, n, hp, hn⟩ := pool_of_held hi (held_pos_of_mem hm hheld)
  -- the new usage counts first: the clause about the objects needs them again
  refine (fun hrefs => ⟨hrefs, ?_, ?_, ?_⟩) ?_
  · intro k'
    refine refs_eq_set hi hcs rfl ?_
    simp only [refs]
    by_cases hk : k' = k
    · subst hk
      have hc : 0 < cs.held.count k' := List.count_pos_iff.mpr hheld
      rw [poolDelete_self hp]
      simp only [hp, List.count_erase_self]
      by_cases hn1 : n ≤ 1 <;> simp [hn1] <;> omega
    · simp only [poolDelete_other hk, List.count_erase_of_ne hk]
  · intro k' o' n' (hp' : poolDelete s.pool k k' = some (o', n'))
    obtain ⟨n0, hp0, hpos⟩ := poolDelete_some hp'
    exact hpos (hi.pos k' o' n0 hp0)
  · intro cs' hcs' k2 o2 hu hh
    rw [poolObj_poolDelete rfl (by rw [hrefs k2]; exact held_pos_of_mem hcs' hh)]
    refine forall_mem_set hi.same_obj ?_ cs' hcs' k2 o2 hu hh
    exact fun k2 o2 hu hh => hi.same_obj cs hm k2 o2 hu (List.mem_of_mem_erase hh)
  · exact forall_mem_set hi.ups_held fun hc => by rw [hcanc] at hc; cases hc

macro "keep_pool" h:ident : tactic =>
  `(tactic| ((repeat' (split at $h:ident)) <;> (simp at $h:ident) <;>
      (first | (subst $h:ident) | (obtain ⟨_, $h:ident⟩ := $h:ident; subst $h:ident)) <;> (exact ⟨rfl, rfl⟩)))

theorem poolInv_of_same {s s' : State} (hi : PoolInv s) (hc : s'.cfgs = s.cfgs) (hp : s'.pool = s.pool) : PoolInv s' := by
  refine ⟨?_, by rw [hp]; exact hi.pos, ?_, ?_⟩
  · intro k; simp only [refs, holders, hc, hp]; exact hi.refs_eq k
  · intro cs hcs k o hu hh
    rw [hc] at hcs
    simp only [poolObj, hp]; exact hi.same_obj cs hcs k o hu hh
  · intro cs hcs; rw [hc] at hcs; exact hi.ups_held cs hcs

theorem poolInv_step {s s' : State} {a : Action} (hi : PoolInv s) (hs : Step s a s') : PoolInv s' := by
  cases hs with
  | newCfg => exact poolInv_addCfg hi rfl rfl
  | newIter => exact poolInv_of_same (poolInv_addCfg hi rfl rfl) rfl rfl
  | storeShared hcs hnc hp =>
    -- loaded: the object every holder of the key already points at
    refine poolInv_stored hi hcs hnc (by simp [refs, hp]) fun cs' hm o' hu hh => ?_
    have := hi.same_obj cs' hm _ o' hu hh
    simp [poolObj, hp] at this; exact this.symm
  | storeFresh hcs hnc hp =>
    -- stored: nobody holds the key
    refine poolInv_stored hi hcs hnc (by simp [refs, hp]) fun cs' hm o' hu hh => ?_
    obtain ⟨_, _, hp', _⟩ := pool_of_held hi (held_pos_of_mem hm hh)
    rw [hp] at hp'; cases hp'
  | cancel hcs => exact poolInv_cancel hi hcs
  | delete hcs hc hh => exact poolInv_delete hi hcs hc hh
  | _ => exact poolInv_of_same hi rfl rfl

theorem poolInv_reachable {s : State} (h : Reachable s) : PoolInv s := h.rule poolInv_init poolInv_step

theorem host_preserved_step {s s' : State} {a : Action} (hi : PoolInv s)
    (hs : Step s a s') (k : Key) (hb : 0 < holders s k) (ha : 0 < holders s' k) :
    ∃ o, poolObj s k = some o ∧ poolObj s' k = some o ∧ 0 < refs s' k := by
  have hr' := (poolInv_step hi hs).refs_eq k
  obtain ⟨o, n, hp, hn⟩ := pool_of_held hi hb
  refine ⟨o, by simp [poolObj, hp], ?_, by omega⟩
  -- only LoadOrStore and Delete touch the pool
  cases hs with
  | @storeShared _ k2 _ _ _ _ _ hp2 =>
    by_cases hk : k = k2
    · subst hk; rw [hp] at hp2; cases hp2; simp [poolObj]
    · simp [poolObj, upd_other hk, hp]
  | @storeFresh _ k2 _ _ _ hp2 =>
    have hk : k ≠ k2 := fun hk => by rw [← hk, hp] at hp2; cases hp2
    simp [poolObj, upd_other hk, hp]
  | delete => rw [poolObj_poolDelete rfl (by omega)]; simp [poolObj, hp]
  | _ => simp [poolObj, hp]

end CaddyModel.C09
