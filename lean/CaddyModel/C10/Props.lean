/-
C10 — property theorems.

Statement: the client address Caddy attributes to a request, and the X-Forwarded-For, -Proto
and -Host values it sends upstream, are derived from the actual connection unless the immediate
peer is a configured trusted proxy; nothing an untrusted peer puts in forwarding headers
influences them.  With a trusted peer the client address is the left-most valid address of the
configured headers or, in strict mode, the right-most address that is not itself trusted, and
prior forwarding values are kept and appended to.

The theorems about requests are for ALL `Net` (any ParseAddr / Prefix.Contains / Addr.String), all configurations,
all remote addresses and all header lists; the source facts, the Caddyfile-glue theorems and the two `toyNet` facts
about the error / response routes mention no `Net` variable.
-/
import CaddyModel.C10.Lemmas
import CaddyModel.C10.Witness
import CaddyModel.C10.Paths

namespace CaddyModel.C10

section
variable {Addr Prefix : Type}

/-! ## untrusted peer -/

/-- **refinement.** For a peer that is not a configured trusted proxy the whole outcome (client
    address, trusted flag, the three X-Forwarded-* fields) is `untrustedOut`: a function of the
    connection, the configuration and — only when an earlier handler pre-set a field to nil — of
    whether the `Connection` header names that field.  It does not receive the headers. -/
theorem untrusted_serve_eq (N : Net Addr Prefix) (cfg : Cfg Prefix) (c : Conn) (w : List (Bytes × Bytes))
    (hu : peerTrusted N cfg c = false) :
    serve N cfg c w =
      untrustedOut N cfg c (connectionDrops w kXFF) (connectionDrops w kXFP) (connectionDrops w kXFH) := by
  have hs := (Bool.or_eq_false_iff.mp hu).1
  have e : serve N cfg c w = ⟨strOr N [] (peerAddr N c), false, (serve N cfg c w).fwd⟩ := by
    unfold serve; simp only [determine_eq, hs]; rfl
  rw [e]
  unfold untrustedOut peerAddr
  cases hr : remoteHost c with
  | none =>
    simp [serve, prepareRequest, addForwardedHeaders, hr, fwdOf, hGet_hDel, forwardingKeys_distinct, strOr]
  | some host =>
    cases hp : N.parseAddr host with
    | none => simp [serve, prepareRequest, addForwardedHeaders, hr, hp, strOr]
    | some ip => simp only [fwd_serve N cfg c w host ip hr hp, hu, hp, specField_untrusted, strOr]

/-- the two header lists agree on whether `Connection` names each pre-set-to-nil field -/
def omitDropsAgree (cfg : Cfg Prefix) (w w' : List (Bytes × Bytes)) : Bool :=
  (!cfg.omitXFF || connectionDrops w kXFF == connectionDrops w' kXFF) &&
  (!cfg.omitXFP || connectionDrops w kXFP == connectionDrops w' kXFP) &&
  (!cfg.omitXFH || connectionDrops w kXFH == connectionDrops w' kXFH)

/-- **non-interference, partial.** With pre-set-to-nil fields the outcome is the same for any
    two header lists outside the explicit, decidable exclusion `omitDropsAgree = false`. -/
theorem untrusted_noninterference_partial (N : Net Addr Prefix) (cfg : Cfg Prefix) (c : Conn)
    (w w' : List (Bytes × Bytes)) (hu : peerTrusted N cfg c = false)
    (hx : omitDropsAgree cfg w w' = true) :
    serve N cfg c w = serve N cfg c w' := by
  rw [untrusted_serve_eq N cfg c w hu, untrusted_serve_eq N cfg c w' hu]
  simp only [omitDropsAgree, Bool.and_eq_true, Bool.or_eq_true, Bool.not_eq_true', beq_iff_eq] at hx
  exact untrustedOut_congr N cfg c _ _ _ _ _ _ hx.1.1 hx.1.2 hx.2

/-- **non-interference.** (The usual case: no field was pre-set to nil, so the exclusion of the partial
    statement above is empty.)  Whatever an untrusted peer puts into its request headers — forwarding
    headers, `Connection`, anything, in any number and shape — the client address, the trusted flag and
    the X-Forwarded-For, -Proto and -Host fields sent upstream are the same. -/
theorem untrusted_noninterference (N : Net Addr Prefix) (cfg : Cfg Prefix) (c : Conn)
    (w w' : List (Bytes × Bytes)) (hu : peerTrusted N cfg c = false)
    (h1 : cfg.omitXFF = false) (h2 : cfg.omitXFP = false) (h3 : cfg.omitXFH = false) :
    serve N cfg c w = serve N cfg c w' :=
  untrusted_noninterference_partial N cfg c w w' hu (by simp [omitDropsAgree, h1, h2, h3])

/- Stronger than C10 (ALL headers, `Connection` included, and a third-party handler's nil convention):
     ∀ N cfg c w w', peerTrusted N cfg c = false → serve N cfg c w = serve N cfg c w'
   does not hold in the model: `untrusted_noninterference_full_fails` (Witness.lean).  The clause of
   C10 itself — forwarding headers have no influence — is `untrusted_forwarding_headers_irrelevant`
   below and holds without exception. -/

/-- **forwarding headers are irrelevant**, for every configuration
    including pre-set-to-nil fields: two requests of an untrusted peer that carry the same
    `Connection` fields — and differ arbitrarily in X-Forwarded-*, Forwarded, X-Real-IP and every
    other field — have the same outcome. -/
theorem untrusted_forwarding_headers_irrelevant (N : Net Addr Prefix) (cfg : Cfg Prefix) (c : Conn)
    (w w' : List (Bytes × Bytes)) (hu : peerTrusted N cfg c = false)
    (hc : wireValues w kConnection = wireValues w' kConnection) :
    serve N cfg c w = serve N cfg c w' := by
  rw [untrusted_serve_eq N cfg c w hu, untrusted_serve_eq N cfg c w' hu]
  unfold connectionDrops
  rw [connectionTokens_fromWire, connectionTokens_fromWire, hc]

/-- **untrusted values.** The values are the connection's: client address = the socket address
    (canonical form), X-Forwarded-For = the socket host (zone cut), X-Forwarded-Proto from TLS,
    X-Forwarded-Host = the request's Host; one value each. -/
theorem untrusted_values (N : Net Addr Prefix) (cfg : Cfg Prefix) (c : Conn) (w : List (Bytes × Bytes))
    (host : Bytes) (ip : Addr)
    (hu : peerTrusted N cfg c = false) (hr : remoteHost c = some host) (hp : N.parseAddr host = some ip)
    (h1 : cfg.omitXFF = false) (h2 : cfg.omitXFP = false) (h3 : cfg.omitXFH = false) :
    serve N cfg c w =
      ⟨N.toString ip, false,
       some ⟨some (some [host]), some (some [if c.tls then sHttps else sHttp]), some (some [c.host])⟩⟩ := by
  rw [untrusted_serve_eq N cfg c w hu]
  unfold untrustedOut protoOf
  simp [hr, hp, h1, h2, h3]

/-- a field that is sent for an untrusted peer never carries anything but the connection's value,
    pre-set-to-nil fields included -/
theorem untrusted_sent_values_are_connection_values (N : Net Addr Prefix) (cfg : Cfg Prefix) (c : Conn)
    (w : List (Bytes × Bytes)) (f : Fwd) (hu : peerTrusted N cfg c = false)
    (hf : (serve N cfg c w).fwd = some f) :
    (∀ vs, f.xff = some (some vs) → ∃ host, remoteHost c = some host ∧ vs = [host]) ∧
    (∀ vs, f.xfp = some (some vs) → vs = [protoOf c]) ∧
    (∀ vs, f.xfh = some (some vs) → vs = [c.host]) := by
  rw [untrusted_serve_eq N cfg c w hu] at hf
  unfold untrustedOut at hf
  split at hf
  · cases hf; simp
  · split at hf
    · cases hf
    · cases hf
      refine ⟨fun vs h => ⟨_, ‹_›, ?_⟩, fun vs h => ?_, fun vs h => ?_⟩ <;>
        (dsimp only at h; split at h <;> cases h <;> rfl)

theorem trusted_flag_iff (N : Net Addr Prefix) (cfg : Cfg Prefix) (c : Conn) (w : List (Bytes × Bytes)) :
    (serve N cfg c w).trusted = serverTrusts N cfg c :=
  congrArg Prod.fst (determine_eq N cfg c _)

/-- the client address of a peer that is not server-trusted never depends on headers (whether or
    not reverse_proxy has trusted ranges of its own) -/
theorem untrusted_client_ip (N : Net Addr Prefix) (cfg : Cfg Prefix) (c : Conn) (w : List (Bytes × Bytes))
    (hs : serverTrusts N cfg c = false) :
    (serve N cfg c w).clientIP = strOr N [] (peerAddr N c) := by
  rw [clientIP_serve, hs]; rfl

/-! ## malformed remote address -/

/-- `r.RemoteAddr` is not `host:port`: no client address, not trusted, and the three
    X-Forwarded-* fields are REMOVED from the upstream request whatever the peer sent -/
theorem unparsable_remote_strips_headers (N : Net Addr Prefix) (cfg : Cfg Prefix) (c : Conn)
    (w : List (Bytes × Bytes)) (hr : splitHostPort c.remoteAddr = none) :
    serve N cfg c w = ⟨[], false, some ⟨none, none, none⟩⟩ := by
  have hr' : remoteHost c = none := by unfold remoteHost; rw [hr]
  rw [untrusted_serve_eq N cfg c w (peerTrusted_of_no_peer N cfg c (by simp [peerAddr, hr']))]
  simp [untrustedOut, hr']

/-- `host:port` whose host is not an IP address: no client address, and reverse_proxy refuses the
    request (nothing is sent upstream) -/
theorem non_ip_remote_refused (N : Net Addr Prefix) (cfg : Cfg Prefix) (c : Conn)
    (w : List (Bytes × Bytes)) (host : Bytes) (hr : remoteHost c = some host) (hp : N.parseAddr host = none) :
    serve N cfg c w = ⟨[], false, none⟩ := by
  rw [untrusted_serve_eq N cfg c w (peerTrusted_of_no_peer N cfg c (by simp [peerAddr, hr, hp]))]
  simp [untrustedOut, hr, hp]

/-! ## trusted peer: which address becomes the client address -/

/-- **left-most valid.** Server-trusted peer, non-strict mode: the client address is the left-most
    element that parses as an address among all comma-separated elements of all values of the
    configured headers (configured order, then wire order); the peer itself if there is none. -/
theorem trusted_leftmost_valid (N : Net Addr Prefix) (cfg : Cfg Prefix) (c : Conn) (w : List (Bytes × Bytes))
    (ht : serverTrusts N cfg c = true) (hs : cfg.strict = 0) :
    ∃ ip, peerAddr N c = some ip ∧
      (serve N cfg c w).clientIP =
        strOr N (N.toString ip)
          (leftmostValid N ((configuredValues w (effectiveHeaders cfg)).flatMap (splitOn comma))) := by
  obtain ⟨ip, _, hip, _, _⟩ := serverTrusts_eq_true ht
  exact ⟨ip, hip, by rw [clientIP_serve_trusted ht hip, headerChoice_nonstrict hs]⟩

/-- **right-most untrusted.** Server-trusted peer, strict mode: the client address is, in the first
    configured header that has one, the right-most element that parses as an address outside the
    trusted ranges; the peer itself if no header has one. -/
theorem strict_rightmost_untrusted (N : Net Addr Prefix) (cfg : Cfg Prefix) (c : Conn) (w : List (Bytes × Bytes))
    (ht : serverTrusts N cfg c = true) (hs : cfg.strict > 0) :
    ∃ ip ranges, peerAddr N c = some ip ∧ cfg.srvTrusted = some ranges ∧
      (serve N cfg c w).clientIP =
        strOr N (N.toString ip)
          ((effectiveHeaders cfg).findSome?
            (fun name => rightmostUntrusted N ranges (elements (wireValues w (canonKey name))))) := by
  obtain ⟨ip, ranges, hip, hr, _⟩ := serverTrusts_eq_true ht
  exact ⟨ip, ranges, hip, hr, by rw [clientIP_serve_trusted ht hip, headerChoice_strict hs hr]⟩

theorem leftmost_is_leftmost (N : Net Addr Prefix) (parts : List Bytes) (a : Addr) :
    leftmostValid N parts = some a ↔
      ∃ i p, parts[i]? = some p ∧ partAddr N p = some a ∧
        ∀ (j : Nat) (q : Bytes), j < i → parts[j]? = some q → partAddr N q = none := by
  rw [leftmostValid_eq_findSome?]
  exact findSome?_eq_some_iff_index _ _ _

theorem rightmost_is_rightmost (N : Net Addr Prefix) (ranges : List Prefix) (parts : List Bytes) (a : Addr) :
    rightmostUntrusted N ranges parts = some a ↔
      ∃ i p, parts[i]? = some p ∧ untrustedAddr N ranges p = some a ∧
        ∀ (j : Nat) (q : Bytes), i < j → parts[j]? = some q → untrustedAddr N ranges q = none := by
  rw [rightmostUntrusted_eq_findSome?]
  exact findSome?_reverse_eq_some_iff_index _ _ _

/-- in strict mode a trusted address is never chosen from a header: the client address is the
    peer's or an address outside the trusted ranges -/
theorem strict_never_picks_trusted (N : Net Addr Prefix) (ranges : List Prefix) (parts : List Bytes) (a : Addr)
    (h : rightmostUntrusted N ranges parts = some a) : isTrusted N ranges a = false := by
  obtain ⟨_, _, _, hp, _⟩ := (rightmost_is_rightmost N ranges parts a).mp h
  exact (untrustedAddr_eq_some hp).2

/-- **containment.** Whatever the configuration and the headers, the client address is the peer's own
    address (or empty when the socket address is unusable) or the textual form of an address that
    parses from one comma-separated element of one configured header — never anything else. -/
theorem client_ip_is_peer_or_header_element (N : Net Addr Prefix) (cfg : Cfg Prefix) (c : Conn)
    (w : List (Bytes × Bytes)) :
    (serve N cfg c w).clientIP = strOr N [] (peerAddr N c) ∨
    ∃ name p a, name ∈ effectiveHeaders cfg ∧ p ∈ elements (wireValues w (canonKey name)) ∧
      partAddr N p = some a ∧ (serve N cfg c w).clientIP = N.toString a := by
  rw [clientIP_serve]
  refine (strOr_eq N _ _).imp id fun ⟨a, hl, ha⟩ => ?_
  split at hl
  case isFalse => cases hl
  rename_i ht
  obtain ⟨_, ranges, _, hr, _⟩ := serverTrusts_eq_true ht
  rcases Nat.eq_zero_or_pos cfg.strict with hs | hs
  · rw [headerChoice_nonstrict hs] at hl
    obtain ⟨p, hmem, hpa⟩ := List.exists_of_findSome?_eq_some (leftmostValid_eq_findSome? N _ ▸ hl)
    obtain ⟨v, hv, hpv⟩ := List.mem_flatMap.mp hmem
    obtain ⟨name, hname, hvn⟩ := List.mem_flatMap.mp hv
    refine ⟨name, p, a, hname, ?_, hpa, ha⟩
    rw [elements_are_per_value _ (List.ne_nil_of_mem hvn)]
    exact List.mem_flatMap.mpr ⟨v, hvn, hpv⟩
  · rw [headerChoice_strict hs hr] at hl
    obtain ⟨name, hname, hn⟩ := List.exists_of_findSome?_eq_some hl
    obtain ⟨_, p, hp, hpa, _⟩ := (rightmost_is_rightmost N _ _ a).mp hn
    exact ⟨name, p, a, hname, List.mem_of_getElem? hp, (untrustedAddr_eq_some hpa).1, ha⟩

/-! ## trusted peer: prior forwarding values are kept and appended to -/

/-- **general form.** A peer trusted at server OR handler level: every forwarding field sent upstream
    is `specField true …` of what was there when `addForwardedHeaders` ran (`fieldBefore`). -/
theorem trusted_fields (N : Net Addr Prefix) (cfg : Cfg Prefix) (c : Conn) (w : List (Bytes × Bytes))
    (ht : peerTrusted N cfg c = true) :
    ∃ host, remoteHost c = some host ∧
      (serve N cfg c w).fwd = some
        ⟨specField true keepXFF host (fieldBefore cfg.omitXFF (connectionDrops w kXFF) (wireValues w kXFF)),
         specField true keepLast (protoOf c) (fieldBefore cfg.omitXFP (connectionDrops w kXFP) (wireValues w kXFP)),
         specField true keepLast c.host (fieldBefore cfg.omitXFH (connectionDrops w kXFH) (wireValues w kXFH))⟩ := by
  cases hp : peerAddr N c with
  | none => rw [peerTrusted_of_no_peer N cfg c hp] at ht; cases ht
  | some ip =>
    obtain ⟨host, hr, hp⟩ := peerAddr_eq_some.mp hp
    exact ⟨host, hr, ht ▸ fwd_serve N cfg c w host ip hr hp⟩

/-- **prior kept and appended.** Trusted peer, nothing pre-set to nil, `Connection` does not name the
    forwarding fields: X-Forwarded-For is all prior values joined by ", " with the peer's address
    appended; X-Forwarded-Proto and -Host keep their last prior value if it is not empty. -/
theorem trusted_prior_kept_and_appended (N : Net Addr Prefix) (cfg : Cfg Prefix) (c : Conn)
    (w : List (Bytes × Bytes)) (ht : peerTrusted N cfg c = true)
    (h1 : cfg.omitXFF = false) (h2 : cfg.omitXFP = false) (h3 : cfg.omitXFH = false)
    (d1 : connectionDrops w kXFF = false) (d2 : connectionDrops w kXFP = false)
    (d3 : connectionDrops w kXFH = false) :
    ∃ host, remoteHost c = some host ∧
      (serve N cfg c w).fwd = some
        ⟨some (some [keepXFF (wireValues w kXFF) host]),
         some (some [keepLast (wireValues w kXFP) (protoOf c)]),
         some (some [keepLast (wireValues w kXFH) c.host])⟩ := by
  obtain ⟨host, hr, hf⟩ := trusted_fields N cfg c w ht
  refine ⟨host, hr, ?_⟩
  rw [hf, h1, h2, h3, d1, d2, d3,
    specField_trusted_plain keepXFF host _ (by simp [keepXFF, joinWith]),
    specField_trusted_plain keepLast (protoOf c) _ rfl,
    specField_trusted_plain keepLast c.host _ rfl]

/-- appended-to, spelled out: with at least one non-empty prior X-Forwarded-For value the field sent
    upstream is `prior₁, prior₂, …, peer` -/
theorem xff_appended (prior : List Bytes) (host : Bytes) (h : (joinWith commaSpace prior).isEmpty = false) :
    keepXFF prior host = joinWith commaSpace prior ++ commaSpace ++ host := by
  simp [keepXFF, h]

/-! ## what consumes the attributed address -/

/-- **the `client_ip` matcher sees the attributed address.** Whatever address `a` was attributed
    (the var holds `a.String()`), the matcher matches iff a configured range without zone filter
    contains `a` — it does not look at anything else of the request. -/
theorem client_ip_matcher_sees_attributed_address (N : Net Addr Prefix) (hN : PrintsParseBack N)
    (ranges : List (MRange Prefix)) (a : Addr) :
    matchAddress N ranges (N.toString a) =
      ranges.any (fun r => N.contains r.pfx a && decide (r.zone = [])) := by
  unfold matchAddress
  rw [parseIPZone_printed N hN a]
  simp only [matcher_loop_is_any, zoneOK, eq_comm (a := ([] : Bytes)), Bool.or_self]

/-- **the `remote_ip` matcher sees the peer.** For a `host:port` socket address it parses exactly the
    address `determineTrustedProxy` parses (`peerAddr`), and matches iff a configured range contains
    it and accepts the socket address's zone; headers are not an input. -/
theorem remote_ip_matcher_sees_the_peer (N : Net Addr Prefix) (ranges : List (MRange Prefix)) (c : Conn)
    (hp : Bytes × Bytes) (hr : splitHostPort c.remoteAddr = some hp) :
    matchAddress N ranges c.remoteAddr =
      match peerAddr N c with
      | some a => ranges.any (fun r => N.contains r.pfx a && zoneOK r (ipAndZone hp.1).2)
      | none => false := by
  unfold matchAddress parseIPZone hostOrAll peerAddr remoteHost
  simp only [hr, ipAndZone_fst]
  cases N.parseAddr (cutZone hp.1) with
  | none => rfl
  | some a => simp [matcher_loop_is_any]

/-- the var holds "" or what `Addr.String` printed for some address -/
theorem client_ip_is_empty_or_printed (N : Net Addr Prefix) (cfg : Cfg Prefix) (c : Conn)
    (w : List (Bytes × Bytes)) :
    (serve N cfg c w).clientIP = [] ∨ ∃ a, (serve N cfg c w).clientIP = N.toString a := by
  rcases client_ip_is_peer_or_header_element N cfg c w with h | ⟨_, _, a, _, _, _, h⟩
  · rw [h]
    exact (strOr_eq N [] _).imp id fun ⟨a, _, ha⟩ => ⟨a, ha⟩
  · exact Or.inr ⟨a, h⟩

/-- **every consumer reads the attributed address.** The `{http.vars.client_ip}` placeholder, templates'
    `{{.ClientIP}}` and the access log's `client_ip` field are the var; the PROXY-protocol address sent to the upstream is the
    var's address (invalid exactly when the var is empty). -/
theorem consumers_read_the_attributed_address (N : Net Addr Prefix) (hN : PrintsParseBack N)
    (cfg : Cfg Prefix) (ranges : List (MRange Prefix)) (c : Conn) (w : List (Bytes × Bytes)) :
    (serveConsumers N cfg ranges c w).placeholder = (serve N cfg c w).clientIP ∧
    (serveConsumers N cfg ranges c w).template = (serve N cfg c w).clientIP ∧
    (serveConsumers N cfg ranges c w).logField = (serve N cfg c w).clientIP ∧
    (serveConsumers N cfg ranges c w).proxyProto =
      (if (serve N cfg c w).clientIP = [] then none else some (serve N cfg c w).clientIP) := by
  unfold serveConsumers consumers hostOrAll
  rcases client_ip_is_empty_or_printed N cfg c w with h | ⟨a, h⟩
  · rw [h, hN.emptyInvalid]
    exact ⟨rfl, rfl, rfl, rfl⟩
  · have he : N.toString a ≠ [] := fun he => by
      have := hN.back a
      rw [he, hN.emptyInvalid] at this
      cases this
    simp [h, hN.noPort a, hN.back a, he]

/-- **consumers of an untrusted peer's request ignore its headers**: placeholder, log field, both
    matchers and the PROXY-protocol address are the same for any two header lists. -/
theorem untrusted_consumers_noninterference (N : Net Addr Prefix) (cfg : Cfg Prefix)
    (ranges : List (MRange Prefix)) (c : Conn) (w w' : List (Bytes × Bytes))
    (hs : serverTrusts N cfg c = false) :
    serveConsumers N cfg ranges c w = serveConsumers N cfg ranges c w' := by
  unfold serveConsumers
  rw [untrusted_client_ip N cfg c w hs, untrusted_client_ip N cfg c w' hs]

/-- **0-RTT data never matches.** While the TLS handshake is not complete the peer's address cannot be
    verified: both matchers refuse to match, whatever the ranges, the address and the headers. -/
theorem early_data_never_matches (N : Net Addr Prefix) (cfg : Cfg Prefix) (ranges : List (MRange Prefix))
    (c : Conn) (w : List (Bytes × Bytes)) (he : c.earlyData = true) :
    (serveConsumers N cfg ranges c w).clientMatch = false ∧
    (serveConsumers N cfg ranges c w).remoteMatch = false := by
  simp [serveConsumers, consumers, he]

/-- **the sticky cookie's `Secure` attribute of an untrusted peer comes from the connection.**
    Under the `cookie` selection policy a peer that is not a server-level trusted proxy gets
    `Secure` iff its own connection is TLS — whatever X-Forwarded-Proto (or anything else) it sent. -/
theorem untrusted_cookie_secure_from_connection (N : Net Addr Prefix) (cfg : Cfg Prefix) (c : Conn)
    (w : List (Bytes × Bytes)) (hs : serverTrusts N cfg c = false) (b : Bool)
    (h : cookieSecure N cfg c w = some b) : b = c.tls := by
  unfold cookieSecure at h
  simp only [determine_eq, hs] at h
  obtain ⟨hdr, _, rfl⟩ := Option.map_eq_some_iff.mp h
  simp [cookieSecureOf]

/-- for a trusted proxy the attribute may also come from the X-Forwarded-Proto that is SENT upstream
    (its last value being `https`) — never from anything else -/
theorem cookie_secure_spec (N : Net Addr Prefix) (cfg : Cfg Prefix) (c : Conn) (w : List (Bytes × Bytes))
    (b : Bool) (h : cookieSecure N cfg c w = some b) (hb : b = true) :
    c.tls = true ∨ (serverTrusts N cfg c = true ∧
      ∃ f vs, (serve N cfg c w).fwd = some f ∧ f.xfp = some (some vs) ∧ vs.getLast? = some sHttps) := by
  unfold cookieSecure at h
  obtain ⟨hdr, hp, rfl⟩ := Option.map_eq_some_iff.mp h
  cases ht : c.tls with
  | true => exact Or.inl rfl
  | false =>
    simp only [cookieSecureOf, ht, Bool.false_or, Bool.and_eq_true, decide_eq_true_eq] at hb
    obtain ⟨⟨h1, -⟩, h3⟩ := hb
    -- `https` was read from the prepared header, whose X-Forwarded-Proto is the one sent
    obtain ⟨vs, hg, hl⟩ := hGet_of_lastHeaderValue h3 (by decide)
    exact Or.inr ⟨(trusted_flag_iff N cfg c w).symm.trans h1, fwdOf hdr, vs, by simp [serve, hp], hg, hl⟩

/-! ## the `Connection` header cannot make the proxy's own fields disappear -/

/-- **a client cannot smuggle `Connection: X-Forwarded-For` to have caddy's own header dropped.**
    The fields named by `Connection` (and the hop-by-hop list) are removed BEFORE `addForwardedHeaders`
    writes: for every peer with a usable address — trusted or not —, every header list (whatever its
    `Connection` fields name), if no earlier handler pre-set a field to nil then X-Forwarded-For,
    -Proto and -Host are all sent upstream, each with exactly one value. -/
theorem forwarding_fields_always_sent (N : Net Addr Prefix) (cfg : Cfg Prefix) (c : Conn)
    (w : List (Bytes × Bytes)) (ip : Addr) (hp : peerAddr N c = some ip)
    (h1 : cfg.omitXFF = false) (h2 : cfg.omitXFP = false) (h3 : cfg.omitXFH = false) :
    ∃ f, (serve N cfg c w).fwd = some f ∧ Sent f.xff ∧ Sent f.xfp ∧ Sent f.xfh := by
  obtain ⟨host, hr, hp⟩ := peerAddr_eq_some.mp hp
  rw [fwd_serve N cfg c w host ip hr hp, h1, h2, h3]
  exact ⟨_, rfl, specField_sent _ _ _ _ _, specField_sent _ _ _ _ _, specField_sent _ _ _ _ _⟩

/-! ## retried attempts -/

/-- **every attempt sends the same forwarding fields.** However many upstream round trips fail and are
    retried, with or without request header operations (`header_up`) configured, every request handed
    to the transport carries exactly the X-Forwarded-For, -Proto and -Host that `prepareRequest`
    computed once (`serve`), with the operator's own operations applied once. -/
theorem every_attempt_sends_the_same_forwarded_headers (N : Net Addr Prefix) (cfg : Cfg Prefix) (c : Conn)
    (w : List (Bytes × Bytes)) (ops : Ops) (fails : Nat) :
    serveAttempts N cfg c w ops fails =
      (serve N cfg c w).fwd.map (fun f => List.replicate (fails + 1) (opsFwd ops f)) := by
  unfold serveAttempts serve
  simp only [Option.map_map]
  congr 1
  funext h
  exact proxyLoop_eq ops h fails h (fun _ => rfl)

/-- in particular no two attempts differ, and a retried attempt of an untrusted peer's request is as
    header-blind as the first one -/
theorem retried_attempts_untrusted (N : Net Addr Prefix) (cfg : Cfg Prefix) (c : Conn)
    (w w' : List (Bytes × Bytes)) (ops : Ops) (fails : Nat) (hu : peerTrusted N cfg c = false)
    (hc : wireValues w kConnection = wireValues w' kConnection) :
    serveAttempts N cfg c w ops fails = serveAttempts N cfg c w' ops fails := by
  rw [every_attempt_sends_the_same_forwarded_headers, every_attempt_sends_the_same_forwarded_headers,
    untrusted_forwarding_headers_irrelevant N cfg c w w' hu hc]

theorem forwarding_fields_sent_on_every_attempt (N : Net Addr Prefix) (cfg : Cfg Prefix) (c : Conn)
    (w : List (Bytes × Bytes)) (ip : Addr) (ops : Ops) (fails : Nat) (hp : peerAddr N c = some ip)
    (h1 : cfg.omitXFF = false) (h2 : cfg.omitXFP = false) (h3 : cfg.omitXFH = false) :
    ∃ l, serveAttempts N cfg c w ops fails = some l ∧ l.length = fails + 1 ∧
      ∀ a, a ∈ l → Sent a.xff ∧ Sent a.xfp ∧ (ops ≠ .delXFH → Sent a.xfh) := by
  obtain ⟨f, hf, s1, s2, s3⟩ := forwarding_fields_always_sent N cfg c w ip hp h1 h2 h3
  rw [every_attempt_sends_the_same_forwarded_headers, hf]
  refine ⟨_, rfl, by simp, ?_⟩
  intro a ha
  obtain rfl := List.eq_of_mem_replicate ha
  cases ops
  · exact ⟨s1, s2, fun _ => s3⟩
  · exact ⟨dropNil_sent s1, dropNil_sent s2, fun _ => dropNil_sent s3⟩
  · exact ⟨dropNil_sent s1, dropNil_sent s2, fun h => absurd rfl h⟩

/-! ## requests on one connection: history independence -/

/-- **the attribution of a request does not depend on the other requests of its connection.** On a
    keep-alive or HTTP/2 connection, request number k is attributed exactly what it would be attributed
    alone: a function of the peer, the configuration and ITS OWN headers. -/
theorem request_attribution_is_history_independent (N : Net Addr Prefix) (cfg : Cfg Prefix) (c : Conn)
    (pre post : List (List (Bytes × Bytes))) (w : List (Bytes × Bytes)) :
    (serveConnection N cfg c (pre ++ w :: post))[pre.length]? = some (serve N cfg c w) := by
  simp [serveConnection]

theorem same_request_same_attribution_on_any_connection (N : Net Addr Prefix) (cfg : Cfg Prefix) (c : Conn)
    (pre post pre' post' : List (List (Bytes × Bytes))) (w : List (Bytes × Bytes)) :
    (serveConnection N cfg c (pre ++ w :: post))[pre.length]? =
      (serveConnection N cfg c (pre' ++ w :: post'))[pre'.length]? := by
  rw [request_attribution_is_history_independent, request_attribution_is_history_independent]

theorem every_request_gets_its_own_client (N : Net Addr Prefix) (cfg : Cfg Prefix) (c : Conn)
    (reqs : List (List (Bytes × Bytes))) (ht : serverTrusts N cfg c = true) (hs : cfg.strict = 0) :
    ∃ ip, peerAddr N c = some ip ∧
      (serveConnection N cfg c reqs).map (·.clientIP) =
        reqs.map (fun w => strOr N (N.toString ip)
          (leftmostValid N ((configuredValues w (effectiveHeaders cfg)).flatMap (splitOn comma)))) := by
  obtain ⟨ip, _, hip, _, _⟩ := serverTrusts_eq_true ht
  exact ⟨ip, hip, by simp [serveConnection, clientIP_serve_trusted ht hip, headerChoice_nonstrict hs]⟩

/-! ## templates' httpInclude: the virtual sub-request -/

/-- **the included sub-request is attributed like the outer request.** The virtual request carries the outer
    request's remote address and headers, so `PrepareRequest` attributes it exactly what it attributed the
    outer request — for an untrusted outer peer therefore nothing its headers say (all `untrusted_*` theorems
    apply to the sub-request).  (The code before the repair violated this:
    `include_honoured_untrusted_headers_in_old_code`, Witness.lean.) -/
theorem include_attributed_like_the_outer_request (N : Net Addr Prefix) (cfg : Cfg Prefix) (c : Conn)
    (w : List (Bytes × Bytes)) (hr : c.remoteAddr ≠ []) :
    serveInclude N cfg c w = serve N cfg c w := by
  simp [serveInclude, hr]

/-- in particular, for an outer peer that is not a trusted proxy it does not depend on the headers -/
theorem include_attribution_untrusted (N : Net Addr Prefix) (cfg : Cfg Prefix) (c : Conn)
    (w w' : List (Bytes × Bytes)) (hr : c.remoteAddr ≠ []) (hs : serverTrusts N cfg c = false) :
    (serveInclude N cfg c w).clientIP = (serveInclude N cfg c w').clientIP := by
  rw [include_attributed_like_the_outer_request N cfg c w hr, include_attributed_like_the_outer_request N cfg c w' hr,
    untrusted_client_ip N cfg c w hs, untrusted_client_ip N cfg c w' hs]

/-! ## the FastCGI transport (php_fastcgi): what the application is told about the client -/

/-- REMOTE_ADDR / REMOTE_PORT are cut out of the socket address — no header is an input -/
theorem fastcgi_remote_addr_from_connection (N : Net Addr Prefix) (cfg : Cfg Prefix) (c : Conn)
    (w : List (Bytes × Bytes)) (ops : Ops) (e : FcgiEnv) (h : serveFcgi N cfg c w ops = some e) :
    e.remoteAddr = (fcgiRemote c.remoteAddr).1 ∧ e.remotePort = (fcgiRemote c.remoteAddr).2 := by
  unfold serveFcgi at h
  obtain ⟨hdr, _, rfl⟩ := Option.map_eq_some_iff.mp h
  exact ⟨rfl, rfl⟩

/-- no other HYPHEN-spelled field of the request has the CGI name `name` than `key` itself (decidable; holds
    for every header map net/http builds, whose keys are canonical) -/
def cgiNameUnique (h : Header) (name key : Bytes) : Bool :=
  (h.filter (fun e => envName e.1 = name && hyphenSpelled e.1)).map (fun e => e.1) == [key]

theorem envCandidates_of_unique (h : Header) (name key : Bytes) (vs : List Bytes)
    (hg : hGet h key = some (some vs)) (hk : envName key = name) (hs : hyphenSpelled key = true)
    (hu : cgiNameUnique h name key = true) :
    envCandidates h name = [joinWith commaSpace vs] := by
  unfold cgiNameUnique at hu
  unfold envCandidates
  have hm : (key, some vs) ∈ h.filter (fun e => envName e.1 = name && hyphenSpelled e.1) :=
    List.mem_filter.mpr ⟨hGet_mem h key (some vs) hg, by simp [hk, hs]⟩
  generalize h.filter (fun e => envName e.1 = name && hyphenSpelled e.1) = l at hu hm
  -- one key in `l`, so one entry, and `(key, some vs)` is in `l`
  match l, eq_of_beq hu, hm with
  | [e], _, hm => rw [← List.mem_singleton.mp hm]; rfl

/-- **the application sees the proxy's value.** Whatever fields spelled with underscores or spaces the
    client sent (`X_Forwarded_For: …`), the CGI variable of X-Forwarded-For can only take the value
    reverse_proxy set under that field.  (The code before the repair violated this:
    `fastcgi_underscore_twin_won_in_old_code`, Witness.lean.) -/
theorem fastcgi_forwarded_variable_is_the_field (h : Header) (vs : List Bytes)
    (hg : hGet h kXFF = some (some vs)) (hu : cgiNameUnique h envXFF kXFF = true) :
    envCandidates h envXFF = [joinWith commaSpace vs] :=
  envCandidates_of_unique h envXFF kXFF vs hg rfl (by decide) hu

/-- a field spelled with '_' or ' ' never reaches the application, whatever its CGI name -/
theorem fastcgi_ambiguous_fields_dropped (h : Header) (name v : Bytes) (hv : v ∈ envCandidates h name) :
    ∃ e, e ∈ h ∧ envName e.1 = name ∧ hyphenSpelled e.1 = true ∧ v = envValueOf e := by
  unfold envCandidates at hv
  obtain ⟨e, he, rfl⟩ := List.mem_map.mp hv
  obtain ⟨hm, hp⟩ := List.mem_filter.mp he
  simp only [Bool.and_eq_true, decide_eq_true_eq] at hp
  exact ⟨e, hm, hp.1, hp.2, rfl⟩

/-! ## facts regenerated from the source on every run (tools/extract → Gen/Forwarding.lean) -/

/-- `prepareRequest` strips the headers named by `Connection` and the hop-by-hop list BEFORE it calls
    `addForwardedHeaders` — read off the AST; the model's `prepareRequest` has this order. -/
theorem prepare_order_matches_source :
    Gen.prepareRequestOrder = ["removeConnectionHeaders", "hopHeadersLoop", "addForwardedHeaders"] := by decide +kernel

/-- the literal keys `addForwardedHeaders` deletes (unusable remote address) and sets are exactly the
    three forwarding fields of the model, in the model's order -/
theorem forwarded_keys_match_source :
    Gen.forwardedDelKeys = [kXFF, kXFP, kXFH] ∧ Gen.forwardedSetKeys = [kXFF, kXFP, kXFH] := by decide

theorem default_client_ip_header_matches_source (cfg : Cfg Unit) (h : cfg.clientIPHeaders = none) :
    effectiveHeaders cfg = [kXFF] := by
  unfold effectiveHeaders
  rw [h]
  decide

/-! ## Caddyfile glue: the configuration is what the operator wrote -/

/-- **no silent widening of trust (server).** Every range the adapter hands to the server's static
    source was written on the LAST `trusted_proxies static` line, or is one of the source's
    `private_ranges` and that line says `private_ranges`. -/
theorem adapted_server_ranges_are_written (s : List (List Bytes)) (n : Nat) (arg : Bool)
    (c rp : List (List Bytes)) (a : Adapted) (rs : List Bytes) (r : Bytes)
    (h : adaptOptions s n arg c rp = some a) (hs : a.srvRanges = some rs) (hr : r ∈ rs) :
    ∃ l, lastLine s = some l ∧ l ∈ s ∧ (r ∈ l ∨ (tokPrivateRanges ∈ l ∧ r ∈ Gen.privateRanges)) := by
  obtain ⟨_, _, rfl⟩ := adaptOptions_eq_some h
  obtain ⟨l, hl, rfl⟩ := Option.map_eq_some_iff.mp hs
  exact ⟨l, hl, List.mem_of_getLast? (lastLine_eq_getLast? s ▸ hl), expandRanges_mem l r hr⟩

/-- **… (handler).** Every range of reverse_proxy's `trusted_proxies` was written on one of its
    lines, or is a `private_ranges` member and that line says `private_ranges`. -/
theorem adapted_handler_ranges_are_written (s : List (List Bytes)) (n : Nat) (arg : Bool)
    (c rp : List (List Bytes)) (a : Adapted) (r : Bytes)
    (h : adaptOptions s n arg c rp = some a) (hr : r ∈ a.rpRanges) :
    ∃ l, l ∈ rp ∧ (r ∈ l ∨ (tokPrivateRanges ∈ l ∧ r ∈ Gen.privateRanges)) := by
  obtain ⟨_, _, rfl⟩ := adaptOptions_eq_some h
  simp only [List.mem_flatten, List.mem_map] at hr
  obtain ⟨_, ⟨l, hl, rfl⟩, hr⟩ := hr
  exact ⟨l, hl, expandRanges_mem l r hr⟩

/-- **`client_ip_headers` keeps the written order.** The adapter succeeds on the header lines iff no
    name is written twice, and then the configured list is the written names in file order (nil —
    hence the Provision default — iff none was written). -/
theorem adapted_client_ip_headers_keep_written_order (s : List (List Bytes)) (n : Nat)
    (c rp : List (List Bytes)) :
    (c.flatten.Nodup →
      ∃ a, adaptOptions s n false c rp = some a ∧
        a.clientIPHeaders = (if c.flatten.isEmpty then none else some c.flatten)) ∧
    (¬ c.flatten.Nodup → adaptOptions s n false c rp = none) := by
  have hl : clientIPHeaderLines [] c = _ :=
    (clientIPHeaderLines_flatten [] c).trans (addClientIPHeaders_eq [] c.flatten List.nodup_nil)
  simp only [List.nil_append] at hl
  constructor <;> intro hn <;> simp [adaptOptions, hl, hn]

/-- strict mode is on iff `trusted_proxies_strict` was written (any number of times) -/
theorem adapted_strict_iff_written (s : List (List Bytes)) (n : Nat) (arg : Bool)
    (c rp : List (List Bytes)) (a : Adapted) (h : adaptOptions s n arg c rp = some a) :
    a.strict = true ↔ n > 0 := by
  obtain ⟨_, _, rfl⟩ := adaptOptions_eq_some h
  simp

/-- **options written for one listener stay on it.** A `servers <address> { … }` block gives its
    trusted_proxies / strict / client_ip_headers to a server iff that server listens on the address; every
    other server keeps none of them (no trust, default headers).  A block without address applies as is. -/
theorem targeted_options_stay_on_their_listener (addr : Bytes) (listen : List Bytes) (a : Adapted) :
    (listen.contains addr = false →
      (optionsFor (some addr) listen a).srvRanges = none ∧ (optionsFor (some addr) listen a).strict = false ∧
      (optionsFor (some addr) listen a).clientIPHeaders = none) ∧
    (listen.contains addr = true → optionsFor (some addr) listen a = a) ∧ optionsFor none listen a = a := by
  refine ⟨fun h => ?_, fun h => ?_, rfl⟩
  · simp only [optionsFor, h]; exact ⟨rfl, rfl, rfl⟩
  · simp only [optionsFor, h]; rfl

/-- the `private_ranges` shortcut stands for exactly the documented private and loopback ranges
    (regenerated from internal/ranges.go) -/
theorem private_ranges_matches_documented :
    Gen.privateRanges =
      [b!"192.168.0.0/16", b!"172.16.0.0/12", b!"10.0.0.0/8", b!"127.0.0.1/8", b!"fd00::/8", b!"::1"] := by decide +kernel

/-- the `{client_ip}` shorthand of the Caddyfile stands for the var `determineTrustedProxy` fills —
    looked up in the shorthand table regenerated from httpcaddyfile/shorthands.go -/
theorem client_ip_shorthand_matches_source :
    Gen.placeholderShorthands.lookup "{client_ip}" = some "{http.vars.client_ip}" ∧
    clientIPShorthandOf = phClientIP := by decide +kernel

/-! ## the PROXY protocol listener wrapper: who may say what the remote address is -/

/-- **a PROXY header is believed only with permission.** If the accepted connection's remote address is
    anything but the socket's own, then the socket is a unix/fd socket, or the peer's address (zone
    aside) is in no `deny` range and is in an `allow` range or the operator chose fallback USE / REQUIRE. -/
theorem proxy_claim_needs_permission (N : Net Addr Prefix) (cfg : PPCfg Prefix) (network peer : Bytes)
    (claim : Option Bytes) (a : Accepted)
    (h : wrapAccept N cfg network peer claim = some a) (hne : a.remote ≠ peer) :
    unixOrFd network = true ∨
    ∃ ip, ppPeerAddr N peer = some ip ∧ cfg.deny.any (fun r => N.contains r ip) = false ∧
      (cfg.allow.any (fun r => N.contains r ip) = true ∨ cfg.fallback = .use ∨ cfg.fallback = .require) := by
  cases hu : unixOrFd network with
  | true => exact Or.inl rfl
  | false =>
    right
    unfold wrapAccept at h
    rw [connPolicy_tcp N cfg network peer hu] at h
    cases hip : ppPeerAddr N peer with
    | none => rw [hip] at h; cases h
    | some ip =>
      rw [hip] at h
      cases h
      -- the claim was believed, so the range test said USE or REQUIRE: not denied, and allowed or by fallback
      have hp := (underPolicy_remote _ peer claim).resolve_left hne
      unfold rangePolicy at hp
      refine ⟨ip, rfl, ?_⟩
      cases hd : cfg.deny.any (fun r => N.contains r ip) with
      | true => simp [hd] at hp
      | false =>
        cases hal : cfg.allow.any (fun r => N.contains r ip) with
        | true => exact ⟨rfl, Or.inl rfl⟩
        | false => exact ⟨rfl, Or.inr (by simpa [hd, hal] using hp)⟩

/-- **the default is safe.** With `fallback_policy` left at its default (IGNORE), a TCP peer outside every
    `allow` range keeps its own address whatever PROXY header it sends; the header is swallowed. -/
theorem default_policy_ignores_claims (N : Net Addr Prefix) (cfg : PPCfg Prefix) (network peer : Bytes)
    (claim : Option Bytes) (a : Accepted) (hf : cfg.fallback = .ignore) (hu : unixOrFd network = false)
    (hal : ∀ ip, ppPeerAddr N peer = some ip → cfg.allow.any (fun r => N.contains r ip) = false)
    (h : wrapAccept N cfg network peer claim = some a) : a.remote = peer := by
  by_cases hne : a.remote = peer
  · exact hne
  · rcases proxy_claim_needs_permission N cfg network peer claim a h hne with h1 | ⟨ip, hip, _, h2 | h2 | h2⟩
    · rw [hu] at h1; cases h1
    · rw [hal ip hip] at h2; cases h2
    · rw [hf] at h2; cases h2
    · rw [hf] at h2; cases h2

theorem ite_some_eq {α : Type} {c : Prop} [Decidable c] {a b : α} {r : Option α}
    (h : (if c then some a else r) = some b) : (c ∧ a = b) ∨ r = some b := by
  split at h
  · exact Or.inl ⟨‹c›, Option.some.inj h⟩
  · exact Or.inr h

/-- the policy names: the five documented ones in any letter case, nothing else -/
theorem fallback_names (name : Bytes) (p : PPolicy) (h : parsePolicy name = some p) :
    asciiUpper name = (match p with
      | .ignore => [73, 71, 78, 79, 82, 69] | .use => [85, 83, 69] | .reject => [82, 69, 74, 69, 67, 84]
      | .require => [82, 69, 81, 85, 73, 82, 69] | .skip => [83, 75, 73, 80]) := by
  unfold parsePolicy at h
  -- down the `if` chain of `parsePolicy`, one name per step
  repeat (rcases ite_some_eq h with ⟨hc, rfl⟩ | h; · exact hc)
  cases h

/-- **deny wins — for every peer, link-local ones with their zone included.** A TCP peer whose address
    (zone aside) lies in a `deny` range never gets its PROXY header believed, and a connection that sends
    one fails its first read.  (The code before the repair violated this for zoned peers:
    `denied_peer_believed_by_old_code`, Witness.lean.) -/
theorem denied_peer_never_believed (N : Net Addr Prefix) (cfg : PPCfg Prefix) (network peer : Bytes)
    (ip : Addr) (claim : Option Bytes) (a : Accepted)
    (hu : unixOrFd network = false) (hp : ppPeerAddr N peer = some ip)
    (hd : cfg.deny.any (fun r => N.contains r ip) = true)
    (h : wrapAccept N cfg network peer claim = some a) :
    a.remote = peer ∧ (claim.isSome → a.readOK = false) := by
  unfold wrapAccept at h
  simp only [connPolicy_tcp N cfg network peer hu, hp, rangePolicy, hd, if_true, Option.some.injEq] at h
  subst h
  cases claim <;> simp [underPolicy]

/-! ## provision-time reading of range expressions -/

/-- **an invalid range is an error, never a silently different trust set.** Provisioning accepts a list
    of range expressions iff EVERY expression is accepted by the parser its syntax selects (a slash
    selects `ParsePrefix`, otherwise `ParseAddr`). -/
theorem provision_accepts_iff_all_valid (l : List (Bytes × RangeVerdict)) :
    provisionAccepts l = true ↔ ∀ e v, (e, v) ∈ l → rangeAccepted e v = true := by
  rw [provisionAccepts_eq_all, List.all_eq_true]
  exact Prod.forall

theorem slash_selects_the_parser (e : Bytes) (v : RangeVerdict) :
    (e.contains slash = true → rangeAccepted e v = v.prefixOK) ∧
    (e.contains slash = false → rangeAccepted e v = v.addrOK) := by
  unfold rangeAccepted
  constructor <;> intro h <;> rw [h] <;> rfl

/-- `strings.TrimSpace`'s fuel (the input length) is never exhausted: nothing is left to trim -/
theorem trimSpace_never_runs_out_of_fuel (s : Bytes) :
    spaceHead (trimLeftFuel s.length s) = 0 ∧
    spaceLast (trimLastFuel s.length (trimLeftFuel s.length s).reverse) = 0 := by
  refine ⟨trimLeftFuel_done _ _ (Nat.le_refl _), trimLastFuel_done _ _ ?_⟩
  simpa using trimLeftFuel_length s.length s

end

/-! ## non-vacuity: the hypotheses are met by concrete, non-trivial requests (kernel-evaluated) -/

/-- trusted_proxies 10.0.0.0/8, client_ip_headers [X-Forwarded-For, x-real-ip], non-strict -/
def exCfg : Cfg Bytes :=
  { srvTrusted := some [b!"10."], clientIPHeaders := some [b!"X-Forwarded-For", b!"x-real-ip"], strict := 0,
    handlerTrusted := [], omitXFF := false, omitXFP := false, omitXFH := false }
def exStrict : Cfg Bytes := { exCfg with strict := 1 }
/-- no server-level source, reverse_proxy trusts 10.0.0.0/8 itself -/
def exHandler : Cfg Bytes := { exCfg with srvTrusted := none, handlerTrusted := [b!"10."] }

def exUntrusted : Conn := ⟨b!"[fe80::1%eth0]:51234", true, b!"example.com", false⟩
def exTrusted : Conn := ⟨b!"10.0.0.1:443", false, b!"example.com", false⟩

/-- multi-valued, port-bearing, malformed, mixed-case forwarding headers -/
def exHeaders : List (Bytes × Bytes) :=
  [(b!"x-forwarded-for", b!"junk, 9.9.9.9:1234 ,10.0.0.2"),
   (b!"X-Real-IP", b!"8.8.8.8"),
   (b!"X-Forwarded-For", b!" [::1]:80,1.2.3.4%eth0"),
   (b!"X-Forwarded-Proto", b!"https"), (b!"X-Forwarded-Proto", b!"wss"),
   (b!"X-Forwarded-Host", b!"evil.test")]

-- untrusted_serve_eq / untrusted_noninterference / untrusted_values: a zoned IPv6 peer over TLS
theorem exUntrusted_untrusted : peerTrusted toyNet exCfg exUntrusted = false := by decide +kernel
theorem exUntrusted_peer :
    remoteHost exUntrusted = some b!"fe80::1" ∧ toyNet.parseAddr b!"fe80::1" = some b!"fe80::1" := by decide +kernel
theorem serve_exUntrusted : serve toyNet exCfg exUntrusted exHeaders =
    ⟨b!"fe80::1", false, some ⟨some (some [b!"fe80::1"]), some (some [b!"https"]), some (some [b!"example.com"])⟩⟩ :=
  untrusted_values toyNet exCfg exUntrusted exHeaders _ _ exUntrusted_untrusted exUntrusted_peer.1 exUntrusted_peer.2
    rfl rfl rfl
example : peerTrusted toyNet exCfg exUntrusted = false := exUntrusted_untrusted
example : serve toyNet exCfg exUntrusted exHeaders =
    ⟨b!"fe80::1", false, some ⟨some (some [b!"fe80::1"]), some (some [b!"https"]), some (some [b!"example.com"])⟩⟩ :=
  serve_exUntrusted
example : serve toyNet exCfg exUntrusted exHeaders = serve toyNet exCfg exUntrusted [] :=
  untrusted_noninterference toyNet exCfg exUntrusted _ _ exUntrusted_untrusted rfl rfl rfl
example : remoteHost exUntrusted = some b!"fe80::1" ∧ toyNet.parseAddr b!"fe80::1" = some b!"fe80::1" := exUntrusted_peer
-- untrusted_noninterference_partial: its exclusion is decidable and met with a pre-set-to-nil field
example : omitDropsAgree witCfg exHeaders [] = true ∧ peerTrusted toyNet witCfg witConn = false := by decide +kernel
example : omitDropsAgree witCfg [] [(b!"Connection", b!"X-Forwarded-For")] = false := by decide +kernel
example : wireValues exHeaders kConnection = wireValues ([] : List (Bytes × Bytes)) kConnection := by decide +kernel
-- untrusted_client_ip: server-untrusted but handler-trusted peer
example : serverTrusts toyNet exHandler exTrusted = false ∧ peerTrusted toyNet exHandler exTrusted = true := by decide
-- unparsable_remote_strips_headers / non_ip_remote_refused
example : splitHostPort b!"/run/caddy.sock" = none := by decide
example : serve toyNet exCfg ⟨b!"/run/caddy.sock", false, b!"h", false⟩ exHeaders = ⟨[], false, some ⟨none, none, none⟩⟩ :=
  unparsable_remote_strips_headers toyNet exCfg _ exHeaders (by decide)
example : remoteHost ⟨b!"example.com:80", false, b!"h", false⟩ = some b!"example.com" ∧ toyNet.parseAddr b!"example.com" = none := by
  decide +kernel
-- trusted_leftmost_valid: "junk" is skipped, "9.9.9.9:1234 " (port, trailing blank) is the left-most valid element
example : serverTrusts toyNet exCfg exTrusted = true ∧ exCfg.strict = 0 := by decide
theorem serve_exTrusted : serve toyNet exCfg exTrusted exHeaders =
    ⟨b!"9.9.9.9", true,
     some ⟨some (some [b!"junk, 9.9.9.9:1234 ,10.0.0.2,  [::1]:80,1.2.3.4%eth0, 10.0.0.1"]),
           some (some [b!"wss"]), some (some [b!"evil.test"])⟩⟩ := by decide +kernel
example : (serve toyNet exCfg exTrusted exHeaders).clientIP = b!"9.9.9.9" := by rw [serve_exTrusted]
example : (configuredValues exHeaders (effectiveHeaders exCfg)).flatMap (splitOn comma) =
    [b!"junk", b!" 9.9.9.9:1234 ", b!"10.0.0.2", b!" [::1]:80", b!"1.2.3.4%eth0", b!"8.8.8.8"] := by decide +kernel
-- strict_rightmost_untrusted: right-most is "1.2.3.4%eth0" (zone cut); " [::1]:80" (leading blank) does not parse
example : serverTrusts toyNet exStrict exTrusted = true ∧ exStrict.strict > 0 := by decide
example : (serve toyNet exStrict exTrusted exHeaders).clientIP = b!"1.2.3.4" := by decide +kernel
example : rightmostUntrusted toyNet [b!"10."] [b!"9.9.9.9", b!"10.0.0.2", b!"junk"] = some b!"9.9.9.9" := by decide +kernel
example : leftmostValid toyNet [b!"junk", b!" 9.9.9.9:1234 ", b!"10.0.0.2"] = some b!"9.9.9.9" := by decide +kernel
-- trusted_fields / trusted_prior_kept_and_appended / xff_appended
example : peerTrusted toyNet exCfg exTrusted = true ∧ connectionDrops exHeaders kXFF = false := by decide +kernel
example : (serve toyNet exCfg exTrusted exHeaders).fwd =
    some ⟨some (some [b!"junk, 9.9.9.9:1234 ,10.0.0.2,  [::1]:80,1.2.3.4%eth0, 10.0.0.1"]),
          some (some [b!"wss"]), some (some [b!"evil.test"])⟩ := by rw [serve_exTrusted]
example : (joinWith commaSpace [b!"a", b!""]).isEmpty = false := by decide
-- client_ip_is_peer_or_header_element: here the second disjunct, with the element " 9.9.9.9:1234 "
example : b!" 9.9.9.9:1234 " ∈ elements (wireValues exHeaders (canonKey b!"X-Forwarded-For")) ∧
    partAddr toyNet b!" 9.9.9.9:1234 " = some b!"9.9.9.9" := by decide +kernel
-- every_attempt_sends_the_same_forwarded_headers / retried_attempts_untrusted: two failed round trips,
-- a header_up op, spoofed forwarding headers from an untrusted peer
example : serveAttempts toyNet exCfg exUntrusted exHeaders .setOther 2 =
    some (List.replicate 3 ⟨some (some [b!"fe80::1"]), some (some [b!"https"]), some (some [b!"example.com"])⟩) := by
  rw [every_attempt_sends_the_same_forwarded_headers, serve_exUntrusted]; rfl
example : serveAttempts toyNet exCfg exTrusted exHeaders .delXFH 1 =
    some (List.replicate 2 ⟨some (some [b!"junk, 9.9.9.9:1234 ,10.0.0.2,  [::1]:80,1.2.3.4%eth0, 10.0.0.1"]),
                            some (some [b!"wss"]), none⟩) := by
  rw [every_attempt_sends_the_same_forwarded_headers, serve_exTrusted]; rfl
-- a field pre-set to nil is not sent on any attempt, with or without header_up (nil, resp. not carried over)
example : serveAttempts toyNet witCfg witConn [] .none 1 =
    some (List.replicate 2 ⟨some none, some (some [b!"http"]), some (some [b!"a"])⟩) ∧
  serveAttempts toyNet witCfg witConn [] .setOther 1 =
    some (List.replicate 2 ⟨none, some (some [b!"http"]), some (some [b!"a"])⟩) := by
  simp only [every_attempt_sends_the_same_forwarded_headers, fwd_wit_plain]; exact ⟨rfl, rfl⟩
-- consumers: toyNet prints what it parsed: the four facts PrintsParseBack asks for hold at its seven addresses (some
-- are evaluated below), not at every byte string, `Addr` being `Bytes`; a zoned range only matches the zoned socket
-- address, never the (zone-less) attributed address
def exRanges : List (MRange Bytes) := [⟨b!"10.", []⟩, ⟨b!"fe80", b!"eth0"⟩]
example : serveConsumers toyNet exCfg exRanges exUntrusted exHeaders =
    ⟨b!"fe80::1", b!"fe80::1", b!"fe80::1", false, true, some b!"fe80::1"⟩ := by
  rw [serveConsumers, serve_exUntrusted]; decide +kernel
example : serveConsumers toyNet exCfg exRanges exTrusted exHeaders =
    ⟨b!"9.9.9.9", b!"9.9.9.9", b!"9.9.9.9", false, true, some b!"9.9.9.9"⟩ := by
  rw [serveConsumers, serve_exTrusted]; decide +kernel
example : splitHostPort (toyNet.toString b!"fe80::1") = none ∧ cutZone (toyNet.toString b!"10.0.0.1") = b!"10.0.0.1" ∧
    toyNet.parseAddr (toyNet.toString b!"::1") = some b!"::1" ∧ toyNet.parseAddr [] = none := by decide +kernel
example : matchCidrZones toyNet b!"fe80::1" b!"eth0" exRanges = true ∧
    matchCidrZones toyNet b!"fe80::1" b!"eth1" exRanges = false := by decide
-- default_client_ip_header_matches_source: the witness configuration leaves client_ip_headers unset
example : witCfg.clientIPHeaders = none ∧ effectiveHeaders witCfg = [b!"X-Forwarded-For"] := by decide
-- Caddyfile glue: two `trusted_proxies static` lines (the last wins, `private_ranges` expands), strict
-- written twice, two header lines, two handler lines; a repeated header name makes the adapter fail
example : adaptOptions [[b!"8.8.8.8"], [b!"private_ranges", b!"203.0.113.0/24"]] 2 false
      [[b!"X-Real-IP"], [b!"X-Forwarded-For", b!"Forwarded"]] [[b!"::1"], [b!"private_ranges"]] =
    some ⟨some (Gen.privateRanges ++ [b!"203.0.113.0/24"]), true,
          some [b!"X-Real-IP", b!"X-Forwarded-For", b!"Forwarded"], b!"::1" :: Gen.privateRanges,
          b!"{http.vars.client_ip}"⟩ := by
  rw [adaptOptions, client_ip_shorthand_matches_source.2]; decide +kernel
example : adaptOptions [] 0 false [[b!"X-Real-IP"], [b!"X-Real-IP"]] [] = none ∧
    ¬ ([[b!"X-Real-IP"], [b!"X-Real-IP"]] : List (List Bytes)).flatten.Nodup := by decide +kernel
example : adaptOptions [] 0 false [] [] = some ⟨none, false, none, [], phClientIP⟩ := by
  rw [adaptOptions, client_ip_shorthand_matches_source.2]; decide
-- early_data_never_matches / forwarding_fields_always_sent: a 0-RTT request from 10.0.0.1 naming all three
-- fields in Connection — nothing matches, all three fields are sent on both attempts
def exEarly : Conn := ⟨b!"10.0.0.1:443", true, b!"example.com", true⟩
def exSmuggle : List (Bytes × Bytes) :=
  [(b!"Connection", b!"X-Forwarded-For, x-forwarded-proto"), (b!"connection", b!"X-Forwarded-Host"),
   (b!"X-Forwarded-For", b!"6.6.6.6")]
example : (serveConsumers toyNet exCfg exRanges exEarly exSmuggle).clientMatch = false ∧
    matchAddress toyNet exRanges exEarly.remoteAddr = true := by decide
example : peerAddr toyNet exEarly = some b!"10.0.0.1" ∧
    serveAttempts toyNet exCfg exEarly exSmuggle .none 1 =
      some (List.replicate 2 ⟨some (some [b!"10.0.0.1"]), some (some [b!"https"]), some (some [b!"example.com"])⟩) := by
  decide +kernel
-- cookie policy: the untrusted peer's "X-Forwarded-Proto: https" does not make the cookie Secure on a plain
-- connection; the trusted proxy's does
example : cookieSecure toyNet exCfg ⟨b!"8.8.8.8:1", false, b!"h", false⟩ exHeaders = some false ∧
    cookieSecure toyNet exCfg exTrusted [(b!"X-Forwarded-Proto", b!"https")] = some true ∧
    cookieSecure toyNet exCfg exTrusted exHeaders = some false := by decide +kernel
-- provision-time: "10.0.0.0/33" has a slash and ParsePrefix rejects it; "fe80::1%eth0" is one (zoned) address
example : provisionAccepts [(b!"10.0.0.0/8", ⟨true, false⟩), (b!"fe80::1%eth0", ⟨false, true⟩)] = true ∧
    provisionAccepts [(b!"10.0.0.0/8", ⟨true, false⟩), (b!"10.0.0.0/33", ⟨false, false⟩)] = false ∧
    rangeAccepted b!"10.0.0.1" ⟨false, true⟩ = true := by decide +kernel
-- PROXY protocol wrapper: an allowed peer's claim is believed, an outsider's is swallowed (default IGNORE),
-- a denied peer's connection fails; policy names are case-insensitive
def exPP : PPCfg Bytes := ⟨[b!"10."], [b!"8.8"], .ignore⟩
example : wrapAccept toyNetZ exPP b!"tcp" b!"10.0.0.1:443" (some b!"6.6.6.6:7777") = some ⟨b!"6.6.6.6:7777", true⟩ ∧
    wrapAccept toyNetZ exPP b!"tcp" b!"[fe80::1]:1" (some b!"6.6.6.6:7777") = some ⟨b!"[fe80::1]:1", true⟩ ∧
    wrapAccept toyNetZ exPP b!"tcp" b!"8.8.8.8:53" (some b!"6.6.6.6:7777") = some ⟨b!"8.8.8.8:53", false⟩ ∧
    wrapAccept toyNetZ exPP b!"tcp" b!"garbage" none = none ∧
    wrapAccept toyNetZ exPP b!"unix" b!"@" (some b!"6.6.6.6:7777") = some ⟨b!"6.6.6.6:7777", true⟩ := by decide +kernel
example : ppPeerAddr toyNetZ b!"[fe80::1%eth0]:1" = some b!"fe80::1" ∧ unixOrFd b!"tcp" = false ∧
    witPP.deny.any (fun r => toyNetZ.contains r b!"fe80::1") = true := by decide +kernel
example : parsePolicy b!"Require" = some .require ∧ parsePolicy b!"bogus" = none ∧ ppFallback none = some .ignore := by decide
-- FastCGI: REMOTE_ADDR of a bracketed, zoned IPv6 socket address; an underscore twin does not change what
-- the variable can take
example : fcgiRemote b!"[fe80::1%eth0]:51234" = (b!"fe80::1%eth0", b!"51234") ∧ fcgiRemote b!"/run/x.sock" = (b!"/run/x.sock", []) ∧
    envName b!"X_forwarded-For" = envXFF := by decide +kernel
example : (serveFcgi toyNet exCfg exUntrusted exHeaders .none).map (fun e => (e.xff, e.xfp, e.xfh)) =
    some ([b!"fe80::1"], [b!"https"], [b!"example.com"]) := by decide +kernel
example : (serveFcgi toyNet exCfg exUntrusted ((b!"X_Forwarded_Proto", b!"http") :: exHeaders) .none).map (fun e => e.xfp) =
    some [b!"https"] := by decide +kernel
-- targeted_options_stay_on_their_listener: a block for :8443 does not reach the server listening on :80
example : (optionsFor (some b!":8443") [b!":80"] ⟨some [b!"10.0.0.0/8"], true, some [b!"X-Real-IP"], [], phClientIP⟩).srvRanges = none ∧
    optionsFor (some b!":8443") [b!":8443"] ⟨some [b!"10.0.0.0/8"], true, none, [], phClientIP⟩ =
      ⟨some [b!"10.0.0.0/8"], true, none, [], phClientIP⟩ := by decide +kernel
-- include_attribution_untrusted: 8.8.8.8 is not trusted although loopback is
example : serverTrusts toyNetL witInc ⟨b!"8.8.8.8:1", false, b!"a", false⟩ = false := by decide
-- requests on one connection: three requests from the trusted 10.0.0.1 — each gets its own client, the last
-- (no header) the peer itself
example : (serveConnection toyNet exCfg exTrusted [[(b!"X-Forwarded-For", b!"9.9.9.9")], [(b!"X-Real-IP", b!"8.8.8.8")], []]).map (·.clientIP) =
    [b!"9.9.9.9", b!"8.8.8.8", b!"10.0.0.1"] := by decide +kernel
example : elements [b!"a,b", b!"", b!"c"] = [b!"a", b!"b", b!"", b!"c"] := by decide
-- trimSpace_never_runs_out_of_fuel: NBSP, EM SPACE and ASCII blanks around an address
example : trimSpace [194, 160, 9, 49, 46, 50, 226, 128, 131, 32] = [49, 46, 50] := by decide +kernel

/-! ## paths that run more handlers on the same request: handle_errors routes, handle_response routes
(Paths.lean; server.go `Server.ServeHTTP` after the primary chain failed, reverseproxy.go `reverseProxy`) -/

/-- **source facts.** `Server.ServeHTTP` puts `RemoteAddr` back from the original request before the error routes
    run, does not put the header map back, and calls `PrepareRequest` once (REGENERATED from server.go) -/
theorem error_path_restore_matches_source :
    restoresRemoteAddr = true ∧ restoresHeader = false ∧ Gen.serveHTTPPrepareCalls = 1 := by decide +kernel

/-- **source fact.** every handle_response route is served the request the handler was given (`origReq`), not the
    prepared clone that already carries X-Forwarded-* (REGENERATED from reverseproxy.go) -/
theorem response_routes_served_original_matches_source : responseRoutesGetOriginal = true := by decide

section
variable {Addr Prefix : Type}

/-- the restore undoes exactly a handler's write to `r.RemoteAddr`: the error routes run on the request the primary
    route's handlers would have left without it -/
theorem errorRouteReq_eq (N : Net Addr Prefix) (cfg : Cfg Prefix) (c : Conn) (spoil : Option Bytes)
    (w : List (Bytes × Bytes)) : errorRouteReq N cfg c spoil w = stageOne cfg none (prepared N cfg c w) := by
  have h := error_path_restore_matches_source
  unfold errorRouteReq restoreOriginal stageOne prepared
  cases spoil <;> simp [h.1, h.2.1]

/-- the request the error routes run on has the CONNECTION's facts again, whatever a handler of the primary route
    wrote into `r.RemoteAddr` -/
theorem error_route_conn_is_the_connection (N : Net Addr Prefix) (cfg : Cfg Prefix) (c : Conn)
    (spoil : Option Bytes) (w : List (Bytes × Bytes)) :
    (errorRouteReq N cfg c spoil w).conn = c := by
  rw [errorRouteReq_eq]; rfl

/-- **error routes.** A probe and a reverse_proxy inside handle_errors routes see exactly what they would see in
    the primary route: same client address, same trusted flag, same X-Forwarded-* — for every request, every
    configuration and whatever a handler of the primary route wrote into `r.RemoteAddr` before the error. -/
theorem error_route_attributed_like_the_primary_route (N : Net Addr Prefix) (cfg : Cfg Prefix) (c : Conn)
    (spoil : Option Bytes) (w : List (Bytes × Bytes)) :
    serveErrorRoute N cfg c spoil w = serve N cfg c w := by
  -- `serve` is `routeOut` of the request as the primary route's handlers leave it
  rw [serveErrorRoute, errorRouteReq_eq]; rfl

/-- … hence non-interference holds inside error routes: nothing an untrusted peer sends changes what they see -/
theorem error_route_untrusted_noninterference (N : Net Addr Prefix) (cfg : Cfg Prefix) (c : Conn)
    (spoil spoil' : Option Bytes) (w w' : List (Bytes × Bytes)) (hu : peerTrusted N cfg c = false)
    (h1 : cfg.omitXFF = false) (h2 : cfg.omitXFP = false) (h3 : cfg.omitXFH = false) :
    serveErrorRoute N cfg c spoil w = serveErrorRoute N cfg c spoil' w' := by
  rw [error_route_attributed_like_the_primary_route, error_route_attributed_like_the_primary_route]
  exact untrusted_noninterference N cfg c w w' hu h1 h2 h3

/-- `{http.request.remote.host}` inside an error route is the connection's host (empty for 0-RTT data): no header
    and no handler's write to `r.RemoteAddr` reaches it -/
theorem error_route_remote_host_from_the_connection (N : Net Addr Prefix) (cfg : Cfg Prefix) (c : Conn)
    (spoil : Option Bytes) (w : List (Bytes × Bytes)) :
    remoteHostPlaceholder (errorRouteReq N cfg c spoil w).conn =
      if c.earlyData then [] else hostOrAll c.remoteAddr := by
  rw [error_route_conn_is_the_connection]; rfl

/-- **response routes, the vars.** handle_response routes read the vars table `PrepareRequest` filled: the client
    address and the trusted flag are the primary route's, whatever happened to the request in between -/
theorem response_route_vars_from_the_primary_route (N : Net Addr Prefix) (cfg : Cfg Prefix) (c : Conn)
    (spoil : Option Bytes) (w : List (Bytes × Bytes)) (o : Out)
    (h : serveResponseRoute N cfg c spoil w = some o) :
    o.clientIP = (serve N cfg c w).clientIP ∧ o.trusted = (serve N cfg c w).trusted := by
  have hr := response_routes_served_original_matches_source
  unfold serveResponseRoute responseRouteReq at h
  split at h
  · simp at h
  · simp only [hr, if_true, Option.map_some, Option.some.injEq] at h
    subst h
    exact ⟨rfl, rfl⟩

/-- **response routes, the forwarding fields.** When no handler touched `r.RemoteAddr`, a reverse_proxy inside a
    handle_response route sends exactly what it would send in the primary route (the outer handler's own
    X-Forwarded-* are not appended to a second time); the route does not run iff the outer handler refused. -/
theorem response_route_attributed_like_the_primary_route (N : Net Addr Prefix) (cfg : Cfg Prefix) (c : Conn)
    (w : List (Bytes × Bytes)) :
    serveResponseRoute N cfg c none w =
      if (serve N cfg c w).fwd.isSome then some (serve N cfg c w) else none := by
  have hr := response_routes_served_original_matches_source
  unfold serveResponseRoute responseRouteReq
  simp only [stageOne, prepared, serve, hr, if_true]
  split
  · rename_i hp; simp [hp]
  · rename_i clone hp; simp [routeOut, hp]

end

/-- **wrappers.** Whatever forward_auth / php_fastcgi pre-fill in the reverse_proxy handler they build, it is none
    of the three forwarding fields (REGENERATED lists): the auth backend / the PHP application get the same
    X-Forwarded-For, -Proto, -Host as any upstream -/
theorem wrapper_prefill_leaves_forwarding_fields_alone (wr : Wrapper) :
    ¬ kXFF ∈ (wrapperPrefill wr).map canonKey ∧ ¬ kXFP ∈ (wrapperPrefill wr).map canonKey ∧
    ¬ kXFH ∈ (wrapperPrefill wr).map canonKey := by
  cases wr <;> decide +kernel

/-- **source fact.** what the wrappers pre-fill (REGENERATED from forwardauth/caddyfile.go and fastcgi/caddyfile.go
    `parsePHPFastCGI`, whose `reverseproxy.Handler{…}` literal sets no key but the transport) -/
theorem wrapper_prefill_matches_source :
    Gen.forwardAuthPrefill = [b!"X-Forwarded-Method", b!"X-Forwarded-Uri"] ∧ Gen.phpFastcgiPrefill = [] ∧
    Gen.phpFastcgiHandlerKeys = ["TransportRaw"] := by decide +kernel

/-- model fact: WITHOUT the restore, a reverse_proxy inside an error route forwards the address a handler wrote
    (here 9.9.9.9 instead of the peer 1.2.3.4) — what `r.RemoteAddr = origReq.RemoteAddr` is there for -/
theorem error_route_without_restore_forwards_the_written_address :
    (routeOut toyNet exCfg (stageOne exCfg (some b!"9.9.9.9:1") (prepared toyNet exCfg witConn []))).fwd ≠
      (serve toyNet exCfg witConn []).fwd := by decide +kernel

/-- model fact: a response route served the PREPARED clone would append the trusted peer's address a second time -/
theorem response_route_on_the_clone_appends_twice :
    (prepareRequest toyNet exCfg exTrusted true (fromWire [(b!"X-Forwarded-For", b!"9.9.9.9")])).bind
        (fun clone => (prepareRequest toyNet exCfg exTrusted true clone).map (fun h => (fwdOf h).xff)) =
      some (some (some [b!"9.9.9.9, 10.0.0.1, 10.0.0.1"])) ∧
    (serve toyNet exCfg exTrusted [(b!"X-Forwarded-For", b!"9.9.9.9")]).fwd.map (·.xff) =
      some (some (some [b!"9.9.9.9, 10.0.0.1"])) := by decide +kernel

-- error_route_*: the zoned IPv6 peer; a handler wrote a trusted address into r.RemoteAddr, X-Forwarded-Proto pre-set to nil
example : serveErrorRoute toyNet { exCfg with omitXFP := true } exUntrusted (some b!"10.0.0.1:1") exHeaders =
    ⟨b!"fe80::1", false, some ⟨some (some [b!"fe80::1"]), some none, some (some [b!"example.com"])⟩⟩ := by
  rw [error_route_attributed_like_the_primary_route, untrusted_serve_eq _ _ _ _ (by decide +kernel)]
  decide +kernel
example : (errorRouteReq toyNet exCfg exUntrusted (some b!"10.0.0.1:1") exHeaders).conn = exUntrusted ∧
    remoteHostPlaceholder exUntrusted = b!"fe80::1%eth0" ∧ remoteHostPlaceholder exEarly = [] := by decide +kernel
-- response routes: a trusted peer's prior values are appended to once; a written garbage address makes the outer handler refuse
example : serveResponseRoute toyNet exCfg exTrusted none [(b!"X-Forwarded-For", b!"9.9.9.9")] =
    some ⟨b!"9.9.9.9", true, some ⟨some (some [b!"9.9.9.9, 10.0.0.1"]), some (some [b!"http"]), some (some [b!"example.com"])⟩⟩ ∧
    serveResponseRoute toyNet exCfg exTrusted (some b!"garbage:1") [] = none ∧
    (serveResponseRoute toyNet exCfg exTrusted (some b!"8.8.8.8:1") []).map (·.clientIP) = some b!"10.0.0.1" := by decide +kernel
example : (wrapperPrefill .forwardAuth).length = 2 ∧ wrapperPrefill .phpFastcgi = [] := by decide

end CaddyModel.C10
