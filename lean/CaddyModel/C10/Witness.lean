/-
C10 — a model fact about a corner that is STRONGER than the property (not a finding): the reading
"an untrusted peer's request headers — ALL of them, `Connection` included — cannot influence what
is sent upstream" fails in one corner: when an earlier handler stored nil under a forwarding field
("omit"), the peer's `Connection: X-Forwarded-For` deletes that nil entry before
`addForwardedHeaders` looks at it, so the field is sent after all.  The value sent is still the
connection's and no forwarding header is involved, so C10 itself holds there
(`untrusted_forwarding_headers_irrelevant`, `untrusted_sent_values_are_connection_values`);
the harness counts the corner as a histogram tag only.

The file also holds the `b!` byte-literal macro and the toy nets of the kernel-evaluated examples, three
facts about what the code did before a repair, and one about a per-connection cache of the attribution.
-/
import CaddyModel.C10.Spec

namespace CaddyModel.C10

open Lean in
/-- `b!"text"` = the bytes of an ASCII/UTF-8 literal as a numeral list (so that `decide` can evaluate) -/
macro:max "b!" s:str : term => do
  let elems ← s.getString.toUTF8.toList.toArray.mapM fun (b : UInt8) => pure (Syntax.mkNumLit (toString b.toNat))
  `(([$elems,*] : Bytes))

/-- a toy `net/netip` for kernel-evaluated examples: the addresses are the strings of a fixed list
    (`Addr.String` is the identity) and a "prefix" is a byte prefix (`b!"10."` ≈ 10.0.0.0/8).
    The theorems never look inside `Net`; this instance only shows their hypotheses are inhabited. -/
def toyNet : Net Bytes Bytes where
  parseAddr := fun s =>
    if [b!"1.2.3.4", b!"9.9.9.9", b!"10.0.0.1", b!"10.0.0.2", b!"8.8.8.8", b!"::1", b!"fe80::1"].contains s
    then some s else none
  contains := fun p a => p.isPrefixOf a
  toString := fun a => a

/-- trusted_proxies 10.0.0.0/8, default client_ip_headers, X-Forwarded-For pre-set to nil -/
def witCfg : Cfg Bytes :=
  { srvTrusted := some [b!"10."], clientIPHeaders := none, strict := 0, handlerTrusted := [],
    omitXFF := true, omitXFP := false, omitXFH := false }

/-- plain-HTTP request for host "a" from 1.2.3.4 (not trusted) -/
def witConn : Conn := ⟨b!"1.2.3.4:80", false, b!"a", false⟩

theorem fwd_wit_plain : (serve toyNet witCfg witConn []).fwd =
    some ⟨some none, some (some [b!"http"]), some (some [b!"a"])⟩ := by decide +kernel

theorem fwd_wit_named : (serve toyNet witCfg witConn [(b!"Connection", b!"X-Forwarded-For")]).fwd =
    some ⟨some (some [b!"1.2.3.4"]), some (some [b!"http"]), some (some [b!"a"])⟩ := by decide +kernel

/-- FULL statement (fails): for an untrusted peer the outcome is the same for ANY two header lists. -/
theorem untrusted_noninterference_full_fails :
    ∃ (cfg : Cfg Bytes) (c : Conn) (w w' : List (Bytes × Bytes)),
      peerTrusted toyNet cfg c = false ∧ serve toyNet cfg c w ≠ serve toyNet cfg c w' :=
  ⟨witCfg, witConn, [], [(b!"Connection", b!"X-Forwarded-For")], by decide +kernel, fun h => by
    have := congrArg Out.fwd h
    rw [fwd_wit_plain, fwd_wit_named] at this
    cases this⟩

example : (serve toyNet witCfg witConn []).fwd =
    some ⟨some none, some (some [b!"http"]), some (some [b!"a"])⟩ := fwd_wit_plain
example : (serve toyNet witCfg witConn [(b!"Connection", b!"X-Forwarded-For")]).fwd =
    some ⟨some (some [b!"1.2.3.4"]), some (some [b!"http"]), some (some [b!"a"])⟩ := fwd_wit_named

/-! ### PROXY protocol wrapper: what the code did before the zone was dropped

listenerwrapper.go used to test the peer's address WITH its zone (`fe80::1%eth0` — the form every
link-local connection has) against `allow` / `deny`, and `netip.Prefix.Contains` is false for every
zoned address: with `fallback_policy USE` and `deny fe80::/10` the PROXY header of `[fe80::1%eth0]:1`
was believed while that of `[fe80::1]:1` was rejected.  Repaired (`ip = ip.WithZone("")`); the old
behaviour is kept here as a model fact, its protocol line in corpus/C10/fixed-findings.txt. -/

/-- a toy netip with zones: `fe80::1` and `fe80::1%eth0` both parse (to different values) and, as in
    net/netip, no prefix contains a zoned address -/
def toyNetZ : Net Bytes Bytes where
  parseAddr := fun s => if [b!"fe80::1", b!"fe80::1%eth0", b!"10.0.0.1", b!"8.8.8.8"].contains s then some s else none
  contains := fun p a => p.isPrefixOf a && !a.contains percent
  toString := fun a => a

/-- `deny fe80::/10`, `fallback_policy USE` -/
def witPP : PPCfg Bytes := ⟨[], [b!"fe80"], .use⟩

/-- the policy closure as it was: the zoned address itself goes into the containment tests -/
def connPolicyOld (N : Net Bytes Bytes) (cfg : PPCfg Bytes) (network peer : Bytes) : PolicyResult :=
  if unixOrFd network then .policy .use
  else
    match splitHostPort peer with
    | none => .refuse
    | some hp =>
      match N.parseAddr hp.1 with
      | none => .refuse
      | some ip => .policy (rangePolicy N cfg ip)

/-- the old code believed the PROXY header of a denied link-local peer; the code as it is does not -/
theorem denied_peer_believed_by_old_code :
    connPolicyOld toyNetZ witPP b!"tcp" b!"[fe80::1%eth0]:1" = .policy .use ∧
    connPolicy toyNetZ witPP b!"tcp" b!"[fe80::1%eth0]:1" = .policy .reject ∧
    wrapAccept toyNetZ witPP b!"tcp" b!"[fe80::1%eth0]:1" (some b!"6.6.6.6:7777") = some ⟨b!"[fe80::1%eth0]:1", false⟩ := by
  decide +kernel

/-! ### FastCGI: what the environment loop did before ambiguous field names were dropped

fastcgi.go `buildEnv` used to write every request field as `HTTP_<NAME>` ('-' and ' ' replaced by '_') in
Go map order: `X_Forwarded_For` (a valid field name) and the proxy's own `X-Forwarded-For` both became
`HTTP_X_FORWARDED_FOR` and the iteration order decided which one the PHP application saw.  Repaired (fields
spelled with '_' or ' ' are no longer passed on); the old behaviour is kept as a model fact, its
protocol line in corpus/C10/fixed-findings.txt. -/

/-- the loop as it was: every field with that CGI name is a candidate -/
def envCandidatesOld (h : Header) (name : Bytes) : List Bytes :=
  (h.filter (fun e => envName e.1 = name)).map envValueOf

/-- with the old loop the untrusted client's `X_Forwarded_For: 6.6.6.6` was a possible value of
    HTTP_X_FORWARDED_FOR next to the connection's 1.2.3.4; now only the latter is -/
theorem fastcgi_underscore_twin_won_in_old_code :
    (prepareRequest toyNet { witCfg with omitXFF := false } witConn false
        (fromWire [(b!"X_Forwarded_For", b!"6.6.6.6")])).map (fun h => (envCandidatesOld h envXFF, envCandidates h envXFF)) =
      some ([b!"1.2.3.4", b!"6.6.6.6"], [b!"1.2.3.4"]) := by decide +kernel

/-! ### templates' httpInclude: what the virtual sub-request was attributed before it got the outer peer's address

`funcHTTPInclude` used to send its virtual request with `RemoteAddr = "127.0.0.1:10000"` and a clone of the
outer request's header: when loopback was a trusted proxy (`private_ranges`) the sub-request was attributed
the address an untrusted outer peer had written into X-Forwarded-For.  Repaired (the virtual request carries
the outer request's remote address); the old behaviour is kept as a model fact, its protocol line in
corpus/C10/fixed-findings.txt. -/

def toyNetL : Net Bytes Bytes where
  parseAddr := fun s => if [b!"127.0.0.1", b!"8.8.8.8", b!"6.6.6.6"].contains s then some s else none
  contains := fun p a => p.isPrefixOf a
  toString := fun a => a

/-- `trusted_proxies 127.0.0.1` -/
def witInc : Cfg Bytes :=
  { srvTrusted := some [b!"127."], clientIPHeaders := none, strict := 0, handlerTrusted := [],
    omitXFF := false, omitXFP := false, omitXFH := false }

/-- the virtual request as it was: always from the dummy loopback address -/
def serveIncludeOld (cfg : Cfg Bytes) (c : Conn) (wire : List (Bytes × Bytes)) : Out :=
  serve toyNetL cfg { c with remoteAddr := virtualRemote } wire

/-- the old code attributed the untrusted 8.8.8.8's sub-request the 6.6.6.6 it claimed; now it is 8.8.8.8 -/
theorem include_honoured_untrusted_headers_in_old_code :
    (serveIncludeOld witInc ⟨b!"8.8.8.8:1", false, b!"a", false⟩ [(b!"X-Forwarded-For", b!"6.6.6.6")]).clientIP = b!"6.6.6.6" ∧
    (serveInclude toyNetL witInc ⟨b!"8.8.8.8:1", false, b!"a", false⟩ [(b!"X-Forwarded-For", b!"6.6.6.6")]).clientIP = b!"8.8.8.8" := by
  decide +kernel

/-- trusted_proxies 10.0.0.0/8, default client_ip_headers -/
def exCfgW : Cfg Bytes :=
  { srvTrusted := some [b!"10."], clientIPHeaders := none, strict := 0, handlerTrusted := [],
    omitXFF := false, omitXFP := false, omitXFH := false }
def exTrustedW : Conn := ⟨b!"10.0.0.1:443", false, b!"example.com", false⟩

/-! ### why the attribution must be per request: a per-connection cache breaks it

`determineTrustedProxy` returns two things: whether the PEER is a trusted proxy (a fact of the connection)
and the client address (a fact of the REQUEST's headers).  Remembering its result on the connection — run it
for the first request, reuse it for the following ones — keeps the first but breaks the second. -/

/-- the requests of a connection with the first request's `(trusted, clientIP)` remembered on the connection -/
def serveConnectionCached (N : Net Bytes Bytes) (cfg : Cfg Bytes) (c : Conn) : List (List (Bytes × Bytes)) → List Out
  | [] => []
  | w :: rest =>
    serve N cfg c w :: rest.map (fun w' =>
      { serve N cfg c w' with clientIP := (serve N cfg c w).clientIP, trusted := (serve N cfg c w).trusted })

/-- with such a cache the second request on a trusted proxy's connection is attributed the FIRST request's
    client, whatever its own X-Forwarded-For says; per request it is attributed its own -/
theorem per_connection_cache_breaks_history_independence :
    (serveConnectionCached toyNet exCfgW exTrustedW [[(b!"X-Forwarded-For", b!"9.9.9.9")], [(b!"X-Forwarded-For", b!"8.8.8.8")], []]).map (·.clientIP) =
      [b!"9.9.9.9", b!"9.9.9.9", b!"9.9.9.9"] ∧
    (serveConnection toyNet exCfgW exTrustedW [[(b!"X-Forwarded-For", b!"9.9.9.9")], [(b!"X-Forwarded-For", b!"8.8.8.8")], []]).map (·.clientIP) =
      [b!"9.9.9.9", b!"8.8.8.8", b!"10.0.0.1"] := by decide +kernel

end CaddyModel.C10
