/-
C10 — laws of the Go glue of Glue.lean, on Glue.lean and Util/GoStrings.lean only (nothing of the model): what a key of
an `http.Header` holds after `hDel`, `hPut`, a fold of `hDelField` and a key filter (`hAdd` and `fromWire` are read in
Lemmas.lean, in terms of Spec.lean's `wireValues`), `splitOn` / `joinWith` as `Go.split` / `Go.join`, `net.SplitHostPort`
on the shapes a peer address takes, the fuel of `strings.TrimSpace`, and a first `findSome?` success read by position.
-/
import CaddyModel.C10.Glue
import CaddyModel.Util.GoStrings

namespace CaddyModel.C10

/-! ### http.Header -/

theorem hGet_filter_key (q : Bytes → Bool) (h : Header) (k : Bytes) :
    hGet (h.filter (fun e => q e.1)) k = if q k then hGet h k else none := by
  induction h with
  | nil => simp [hGet]
  | cons e rest ih =>
    by_cases hk : e.1 = k
    · subst hk
      cases hq : q e.1 <;> simp [List.filter, hq, ih, hGet]
    · cases hq : q e.1 <;> simp [List.filter, hq, ih, hGet, hk]

theorem hGet_hDel (h : Header) (k k' : Bytes) :
    hGet (hDel h k) k' = if k' = k then none else hGet h k' := by
  have := hGet_filter_key (fun x => decide (x ≠ k)) h k'
  simpa [hDel] using this

theorem hGet_hPut (h : Header) (k k' : Bytes) (v : Option (List Bytes)) :
    hGet (hPut h k v) k' = if k' = k then some v else hGet h k' := by
  unfold hPut
  simp only [hGet, hGet_hDel]
  by_cases hk : k = k'
  · simp [hk]
  · simp [hk, Ne.symm hk]

theorem hGet_ite_hPut (b : Bool) (h : Header) (k k' : Bytes) (v : Option (List Bytes)) :
    hGet (if b then hPut h k v else h) k' = if b ∧ k' = k then some v else hGet h k' := by
  cases b <;> simp [hGet_hPut]

theorem hGet_foldl_hDelField (ts : List Bytes) (h : Header) (k : Bytes) :
    hGet (ts.foldl hDelField h) k = if ts.any (fun t => canonKey t == k) then none else hGet h k := by
  induction ts generalizing h with
  | nil => simp
  | cons t rest ih =>
    rw [List.foldl_cons, ih, hDelField, hGet_hDel, List.any_cons]
    cases rest.any fun t => canonKey t == k
    · simp only [Bool.or_false, beq_iff_eq, Bool.false_eq_true, if_false, eq_comm (a := k)]
    · simp only [Bool.or_true, if_true]

theorem hGet_mem (h : Header) (k : Bytes) (v : Option (List Bytes)) (hg : hGet h k = some v) : (k, v) ∈ h := by
  fun_induction hGet h k with
  | case1 => cases hg
  | case2 rest v' => cases hg; exact List.mem_cons_self ..
  | case3 k' v' rest _ ih => exact List.mem_cons_of_mem _ (ih hg)

/-! ### strings.Split / Join / Cut -/

/-- the accumulator of `splitAux` is the front of the first piece: `splitOn` is `Go.split` of `Util/GoStrings.lean` -/
theorem splitAux_eq (c : UInt8) : ∀ (s acc : Bytes), c ∉ acc → splitAux c s acc = Go.split c (acc.reverse ++ s)
  | [], acc, h => by rw [splitAux, List.append_nil, Go.split_of_not_mem (by simpa using h)]
  | b :: rest, acc, h => by
    rw [splitAux]
    split
    · rename_i hb
      rw [hb, Go.split_append_sep, Go.split_of_not_mem (by simpa using h), splitAux_eq c rest [] List.not_mem_nil]; rfl
    · rename_i hb
      rw [splitAux_eq c rest (b :: acc) (by simp [h, Ne.symm hb]), List.reverse_cons, List.append_assoc]; rfl

theorem splitOn_eq (c : UInt8) : splitOn c = Go.split c := funext fun s => splitAux_eq c s [] List.not_mem_nil

theorem joinWith_eq (c : UInt8) : joinWith [c] = Go.join c :=
  Go.join_unique rfl (fun _ => rfl) fun a b t => by simp [joinWith]

theorem splitOn_join_cons (v w : Bytes) (vs : List Bytes) :
    splitOn comma (joinWith [comma] (v :: w :: vs)) =
      splitOn comma v ++ splitOn comma (joinWith [comma] (w :: vs)) := by
  rw [splitOn_eq, joinWith_eq, Go.join, Go.split_append_sep]

/-- the first piece of `strings.Split(s, "%")` is `cutZone s`, and the only one if there is no '%': what `ipAndZone` reads -/
theorem splitOn_percent (s : Bytes) :
    ∃ tail, splitOn percent s = cutZone s :: tail ∧ (cutZone s = s → tail = []) := by
  rw [splitOn_eq]
  induction s with
  | nil => exact ⟨[], rfl, fun _ => rfl⟩
  | cons b rest ih =>
    by_cases hb : b = percent
    · exact ⟨Go.split percent rest, by simp [Go.split, cutZone, hb], by simp [cutZone, hb]⟩
    · obtain ⟨tail, ht, h0⟩ := ih
      exact ⟨tail, by simp [Go.split, cutZone, hb, ht], by simpa [cutZone, hb] using h0⟩

/-! ### strings.IndexByte / LastIndexByte, net.SplitHostPort -/

theorem indexByte_append_cons (c : UInt8) : ∀ (a b : Bytes), c ∉ a → indexByte c (a ++ c :: b) = some a.length
  | [], b, _ => by simp [indexByte]
  | x :: a, b, h => by
    obtain ⟨hx, ha⟩ := List.ne_and_not_mem_of_not_mem_cons h
    simp [indexByte, hx.symm, indexByte_append_cons c a b ha]

theorem lastIndexByte_none (c : UInt8) : ∀ (s : Bytes), c ∉ s → lastIndexByte c s = none
  | [], _ => rfl
  | x :: s, h => by
    obtain ⟨hx, hs⟩ := List.ne_and_not_mem_of_not_mem_cons h
    simp [lastIndexByte, lastIndexByte_none c s hs, hx.symm]

theorem lastIndexByte_append_cons (c : UInt8) : ∀ (a b : Bytes), c ∉ b → lastIndexByte c (a ++ c :: b) = some a.length
  | [], b, h => by simp [lastIndexByte, lastIndexByte_none c b h]
  | x :: a, b, h => by simp [lastIndexByte, lastIndexByte_append_cons c a b h]

/-- a TCP peer whose address has no colon (IPv4): `ip:port` -/
theorem splitHostPort_plain_peer (ip port : Bytes)
    (hi : (58 : UInt8) ∉ ip ∧ (91 : UInt8) ∉ ip ∧ (93 : UInt8) ∉ ip)
    (hp : (58 : UInt8) ∉ port ∧ (91 : UInt8) ∉ port ∧ (93 : UInt8) ∉ port) :
    splitHostPort (ip ++ 58 :: port) = some (ip, port) := by
  have hhead : (ip ++ (58 : UInt8) :: port).head? ≠ some lbr := by
    cases ip <;> simp_all [lbr, eq_comm]
  unfold splitHostPort
  simp only [colon, lastIndexByte_append_cons 58 ip port hp.1, hhead, if_false]
  simp [List.take_left', hi.1, hi.2.1, hi.2.2, hp.2.1, hp.2.2, lbr, rbr]

/-- a TCP peer whose address contains colons (IPv6, with or without a zone): `[ip]:port` -/
theorem splitHostPort_bracketed_peer (ip port : Bytes)
    (hi : (91 : UInt8) ∉ ip ∧ (93 : UInt8) ∉ ip)
    (hp : (58 : UInt8) ∉ port ∧ (91 : UInt8) ∉ port ∧ (93 : UInt8) ∉ port) :
    splitHostPort (91 :: (ip ++ 93 :: 58 :: port)) = some (ip, port) := by
  unfold splitHostPort
  have hl : lastIndexByte 58 (91 :: (ip ++ 93 :: 58 :: port)) = some (ip.length + 2) := by
    have := lastIndexByte_append_cons 58 (91 :: (ip ++ [93])) port hp.1
    simpa using this
  have hr : indexByte 93 (91 :: (ip ++ 93 :: 58 :: port)) = some (ip.length + 1) := by
    have := indexByte_append_cons 93 (91 :: ip) (58 :: port) (by simp [hi.2])
    simpa using this
  simp only [colon, rbr] at *
  rw [hl, hr]
  simp [lbr, hi.1, hp.2.1, hp.2.2, List.take_left']

/-- an address without a colon (the peer of a unix socket: `@` or empty) -/
theorem splitHostPort_no_colon (s : Bytes) (h : colon ∉ s) : splitHostPort s = none := by
  unfold splitHostPort; rw [lastIndexByte_none colon s h]

/-! ### strings.TrimSpace -/

/-- a loop that drops `m s > 0` bytes per unit of fuel until `m` is 0 is done when the fuel is the length:
    the shape of both halves of `strings.TrimSpace` -/
theorem fuel_suffices (m : Bytes → Nat) (t : Nat → Bytes → Bytes) (hm : m [] = 0) (h0 : ∀ s, t 0 s = s)
    (hs : ∀ fuel s, t (fuel + 1) s = if m s = 0 then s else t fuel (s.drop (m s))) :
    ∀ (fuel : Nat) (s : Bytes), s.length ≤ fuel → m (t fuel s) = 0
  | 0, s, h => by rw [h0, List.length_eq_zero_iff.mp (Nat.le_zero.mp h), hm]
  | fuel + 1, s, h => by
    rw [hs]
    split
    · assumption
    · rename_i hne
      apply fuel_suffices m t hm h0 hs fuel
      rw [List.length_drop]
      exact Nat.sub_le_iff_le_add.mpr (Nat.le_trans h (Nat.add_le_add_left (Nat.pos_of_ne_zero hne) fuel))

theorem trimLeftFuel_done : ∀ (fuel : Nat) (s : Bytes), s.length ≤ fuel → spaceHead (trimLeftFuel fuel s) = 0 :=
  fuel_suffices spaceHead trimLeftFuel rfl (fun _ => rfl) (fun _ _ => rfl)

theorem trimLastFuel_done : ∀ (fuel : Nat) (s : Bytes), s.length ≤ fuel → spaceLast (trimLastFuel fuel s) = 0 :=
  fuel_suffices spaceLast trimLastFuel rfl (fun _ => rfl) (fun _ _ => rfl)

theorem trimLeftFuel_length : ∀ (fuel : Nat) (s : Bytes), (trimLeftFuel fuel s).length ≤ s.length
  | 0, s => Nat.le_refl _
  | fuel + 1, s => by
    unfold trimLeftFuel
    split
    · exact Nat.le_refl _
    · exact Nat.le_trans (trimLeftFuel_length fuel _) (by simp)

/-! ### lists -/

/-- the first success of `f` on a list, by position: core states it as a split `l₁ ++ p :: l₂` of the list -/
theorem findSome?_eq_some_iff_index {α β : Type} (f : α → Option β) (l : List α) (b : β) :
    l.findSome? f = some b ↔
      ∃ i p, l[i]? = some p ∧ f p = some b ∧ ∀ (j : Nat) (q : α), j < i → l[j]? = some q → f q = none := by
  rw [List.findSome?_eq_some_iff]
  constructor
  · rintro ⟨l₁, p, l₂, rfl, hp, hn⟩
    refine ⟨l₁.length, p, by simp, hp, fun j q hj hq => hn q ?_⟩
    rw [List.getElem?_append_left hj] at hq
    exact List.mem_of_getElem? hq
  · rintro ⟨i, p, hi, hp, hn⟩
    obtain ⟨hlt, rfl⟩ := List.getElem?_eq_some_iff.mp hi
    refine ⟨l.take i, l[i], l.drop (i + 1), by rw [List.getElem_cons_drop, List.take_append_drop], hp, fun x hx => ?_⟩
    obtain ⟨j, hj, rfl⟩ := List.mem_take_iff_getElem.mp hx
    exact hn j _ (by omega) (List.getElem?_eq_getElem _)

theorem getElem?_reverse_some {α : Type} {l : List α} {i : Nat} {p : α} (h : l.reverse[i]? = some p) :
    ∃ i', i + i' + 1 = l.length ∧ l[i']? = some p := by
  have hi : i < l.length := by simpa using (List.getElem?_eq_some_iff.mp h).1
  obtain ⟨k, hk⟩ := Nat.exists_eq_add_of_lt hi
  exact ⟨k, hk.symm, by rw [← List.getElem?_reverse' hk.symm]; exact h⟩

theorem findSome?_reverse_eq_some_iff_index {α β : Type} (f : α → Option β) (l : List α) (b : β) :
    l.reverse.findSome? f = some b ↔
      ∃ i p, l[i]? = some p ∧ f p = some b ∧ ∀ (j : Nat) (q : α), i < j → l[j]? = some q → f q = none := by
  rw [findSome?_eq_some_iff_index]
  constructor
  · rintro ⟨i, p, hp, hfp, hall⟩
    obtain ⟨i', hi, hp'⟩ := getElem?_reverse_some hp
    refine ⟨i', p, hp', hfp, fun j q hj hq => ?_⟩
    rw [← List.reverse_reverse l] at hq
    obtain ⟨j', hj', hq'⟩ := getElem?_reverse_some hq
    rw [List.length_reverse] at hj'
    exact hall j' q (by omega) hq'
  · rintro ⟨i, p, hp, hfp, hall⟩
    rw [← List.reverse_reverse l] at hp
    obtain ⟨i', hi, hp'⟩ := getElem?_reverse_some hp
    rw [List.length_reverse] at hi
    refine ⟨i', p, hp', hfp, fun j q hj hq => ?_⟩
    obtain ⟨j', hj', hq'⟩ := getElem?_reverse_some hq
    exact hall j' q (by omega) hq'

end CaddyModel.C10
