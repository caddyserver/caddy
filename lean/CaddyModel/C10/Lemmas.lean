/-
C10 — the functions of Model.lean rewritten in the terms of Spec.lean, under the headings below.  Forwarding fields: what
a key holds after each phase of `prepareRequest`, with the case tables of `specField`.  Client address: the two scans as
`findSome?` (the strict one over `untrustedAddr`, defined here), then `determineTrustedProxy` as one equation in
`headerChoice`, defined here (`determine_eq`, `clientIP_serve`, for a server-trusted peer `clientIP_serve_trusted` with
`headerChoice_nonstrict` / `headerChoice_strict`).  `fwd_serve` comes after them: it needs the verdict of `determine_eq`.
-/
import CaddyModel.C10.Spec
import CaddyModel.C10.GlueLemmas

namespace CaddyModel.C10

/-! ### the header map net/http builds from the wire -/

theorem hValues_of_plain (h : Header) (f : Bytes) (vs : List Bytes)
    (hv : hGet h (canonKey f) = fieldBefore false false vs) : hValues h f = vs := by
  unfold hValues
  rw [hv]
  cases vs <;> rfl

theorem wireValues_concat (w : List (Bytes × Bytes)) (f : Bytes × Bytes) (k : Bytes) :
    wireValues (w ++ [f]) k = wireValues w k ++ if canonKey f.1 = k then [f.2] else [] := by
  unfold wireValues
  rw [List.filter_append, List.map_append]
  by_cases hk : canonKey f.1 = k <;> simp [hk]

theorem hGet_fromWire (w : List (Bytes × Bytes)) (k : Bytes) :
    hGet (fromWire w) k = fieldBefore false false (wireValues w k) := by
  -- `fromWire` is a `foldl`: induction from the right
  rw [← List.reverse_reverse w]
  induction w.reverse generalizing k with
  | nil => rfl
  | cons f r ih =>
    rw [List.reverse_cons, wireValues_concat, fromWire, List.foldl_append]
    show hGet (hAdd (fromWire r.reverse) f.1 f.2) k = _
    rw [hAdd, hGet_hPut, hValues_of_plain _ _ _ (ih _)]
    by_cases hk : k = canonKey f.1
    · subst hk; simp [fieldBefore]
    · simp [hk, Ne.symm hk, ih]

theorem hValues_fromWire (w : List (Bytes × Bytes)) (f : Bytes) :
    hValues (fromWire w) f = wireValues w (canonKey f) :=
  hValues_of_plain _ _ _ (hGet_fromWire w _)

theorem forwardingKeys_distinct :
    kXFF ≠ kXFP ∧ kXFF ≠ kXFH ∧ kXFP ≠ kXFH ∧ kConnection ≠ kXFF ∧ kConnection ≠ kXFP ∧ kConnection ≠ kXFH := by
  decide

theorem canonKey_kConnection : canonKey kConnection = kConnection := by decide

theorem collectValues_fromWire (w : List (Bytes × Bytes)) (headers : List Bytes) :
    collectValues (fromWire w) headers = configuredValues w headers := by
  unfold configuredValues
  induction headers with
  | nil => rfl
  | cons f rest ih => simp [collectValues, ih, hValues_fromWire]

theorem connectionTokens_fromWire (w : List (Bytes × Bytes)) :
    connectionTokens (fromWire w) =
      (wireValues w kConnection).flatMap
        (fun f => ((splitOn comma f).map trimOWS).filter (fun sf => sf ≠ [])) := by
  unfold connectionTokens
  rw [hValues_fromWire, canonKey_kConnection]

/-! ### forwarding fields: what a key holds when `addForwardedHeaders` reads it, and what it writes -/

/-- no forwarding field is in the source's hop-by-hop list (else `prepareRequest` would strip what a
    trusted proxy sent before it can be kept) and `Connection` itself is -/
theorem hop_headers_spare_forwarding_fields :
    kXFF ∉ hopHeaders.map canonKey ∧ kXFP ∉ hopHeaders.map canonKey ∧ kXFH ∉ hopHeaders.map canonKey ∧
    kConnection ∈ hopHeaders := by
  decide +kernel

section
variable {Addr Prefix : Type}

theorem hGet_applyOmit (cfg : Cfg Prefix) (h : Header) (k : Bytes) :
    hGet (applyOmit cfg h) k =
      if (cfg.omitXFH ∧ k = kXFH) ∨ (cfg.omitXFP ∧ k = kXFP) ∨ (cfg.omitXFF ∧ k = kXFF) then some none
      else hGet h k := by
  simp only [applyOmit, hGet_ite_hPut]
  by_cases h1 : cfg.omitXFH = true ∧ k = kXFH <;> by_cases h2 : cfg.omitXFP = true ∧ k = kXFP <;> simp [h1, h2]

theorem connectionTokens_applyOmit (cfg : Cfg Prefix) (h : Header) :
    connectionTokens (applyOmit cfg h) = connectionTokens h := by
  unfold connectionTokens hValues
  rw [canonKey_kConnection, hGet_applyOmit]
  simp [forwardingKeys_distinct]

/-- `ho` is what `applyOmit` does at `k`: taken as a hypothesis so that one lemma serves the three keys and their flags -/
theorem hGet_prepared (cfg : Cfg Prefix) (w : List (Bytes × Bytes)) (k : Bytes) (flag : Bool)
    (hk : k ∉ hopHeaders.map canonKey)
    (ho : ∀ h, hGet (applyOmit cfg h) k = if flag then some none else hGet h k) :
    hGet (removeHopHeaders (removeConnectionHeaders (applyOmit cfg (fromWire w)))) k =
      fieldBefore flag (connectionDrops w k) (wireValues w k) := by
  have hk' : hopHeaders.any (fun t => canonKey t == k) = false :=
    List.any_eq_false.mpr fun t ht e => hk (List.mem_map.mpr ⟨t, ht, eq_of_beq e⟩)
  unfold removeHopHeaders removeConnectionHeaders
  rw [hGet_foldl_hDelField, hk', hGet_foldl_hDelField, connectionTokens_applyOmit, ho, hGet_fromWire]
  unfold connectionDrops fieldBefore
  cases (connectionTokens (fromWire w)).any (fun t => canonKey t == k) <;> cases flag <;> simp

theorem hGet_setUnlessOmitted_ne (h : Header) (k k' : Bytes) (p : Prior) (v : Bytes) (hne : k' ≠ k) :
    hGet (setUnlessOmitted h k p v) k' = hGet h k' := by
  unfold setUnlessOmitted
  split
  · rfl
  · rw [hGet_hPut]; simp [hne]

theorem setXFF_spec (trusted : Bool) (fresh : Bytes) (h : Header) (k : Bytes) :
    hGet (setUnlessOmitted h k (allHeaderValues h k) (xffValue trusted (allHeaderValues h k) fresh)) k =
      specField trusted keepXFF fresh (hGet h k) := by
  unfold setUnlessOmitted allHeaderValues
  -- the key is absent, holds nil, holds no value, or holds values
  rcases hh : hGet h k with _ | _ | _ | _ <;> cases trusted <;>
    simp [specField, hGet_hPut, xffValue, keepPrior, keepXFF, joinWith, hh]

theorem lastOf_eq_getLast? (v : Bytes) (vs : List Bytes) : (v :: vs).getLast? = some (lastOf v vs) := by
  induction vs generalizing v with
  | nil => rfl
  | cons w ws ih => rw [List.getLast?_cons_cons, ih]; rfl

theorem hGet_of_lastHeaderValue {h : Header} {k v : Bytes}
    (hv : (lastHeaderValue h k).value = v) (hne : v ≠ []) :
    ∃ vs, hGet h k = some (some vs) ∧ vs.getLast? = some v := by
  unfold lastHeaderValue at hv
  subst hv
  rcases hh : hGet h k with _ | _ | _ | ⟨v, vs⟩ <;> simp [hh] at hne ⊢
  exact lastOf_eq_getLast? v vs

theorem setLast_spec (trusted : Bool) (fresh : Bytes) (h : Header) (k : Bytes) :
    hGet (setUnlessOmitted h k (lastHeaderValue h k) (overridable trusted (lastHeaderValue h k) fresh)) k =
      specField trusted keepLast fresh (hGet h k) := by
  unfold setUnlessOmitted lastHeaderValue
  rcases hh : hGet h k with _ | _ | _ | _ <;> cases trusted <;>
    simp [specField, hGet_hPut, overridable, keepPrior, keepLast, lastOf_eq_getLast?, hh]

theorem fwdOf_setForwarded (trusted : Bool) (clientIP : Bytes) (c : Conn) (h : Header) :
    fwdOf (setForwarded trusted clientIP c h) =
      ⟨specField trusted keepXFF clientIP (hGet h kXFF),
       specField trusted keepLast (protoOf c) (hGet h kXFP),
       specField trusted keepLast c.host (hGet h kXFH)⟩ := by
  obtain ⟨fp, fh, ph, -⟩ := forwardingKeys_distinct
  unfold fwdOf setForwarded
  simp only      -- `setForwarded` is written as nested β-redexes
  congr 1
  · rw [hGet_setUnlessOmitted_ne _ _ _ _ _ fh, hGet_setUnlessOmitted_ne _ _ _ _ _ fp, setXFF_spec]
  · rw [hGet_setUnlessOmitted_ne _ _ _ _ _ ph, setLast_spec, hGet_setUnlessOmitted_ne _ _ _ _ _ fp.symm]
  · rw [setLast_spec, hGet_setUnlessOmitted_ne _ _ _ _ _ ph.symm, hGet_setUnlessOmitted_ne _ _ _ _ _ fh.symm]

theorem specField_untrusted (keep : List Bytes → Bytes → Bytes) (fresh : Bytes) (flag d : Bool) (vals : List Bytes) :
    specField false keep fresh (fieldBefore flag d vals) =
      if flag && !d then some none else some (some [fresh]) := by
  unfold fieldBefore
  cases flag <;> cases d <;> cases vals <;> simp [specField]

theorem specField_untrusted_value {keep : List Bytes → Bytes → Bytes} {fresh : Bytes}
    {x : Option (Option (List Bytes))} {vs : List Bytes}
    (h : specField false keep fresh x = some (some vs)) : vs = [fresh] := by
  cases x with
  | none => cases h; rfl
  | some o => cases o <;> cases h; rfl

theorem specField_trusted_plain (keep : List Bytes → Bytes → Bytes) (fresh : Bytes) (vals : List Bytes)
    (hk : keep [] fresh = fresh) :
    specField true keep fresh (fieldBefore false false vals) = some (some [keep vals fresh]) := by
  unfold fieldBefore
  cases vals <;> simp [specField, hk]

theorem specField_sent (trusted : Bool) (keep : List Bytes → Bytes → Bytes) (fresh : Bytes) (d : Bool)
    (vals : List Bytes) : Sent (specField trusted keep fresh (fieldBefore false d vals)) := by
  unfold fieldBefore Sent
  cases d <;> cases vals <;> simp [specField]

theorem dropNil_sent {x : Option (Option (List Bytes))} (h : Sent x) : Sent (dropNil x) := by
  obtain ⟨v, rfl⟩ := h
  exact ⟨v, rfl⟩

/-! ### client address: the two scans, then `determineTrustedProxy` -/

theorem elements_are_per_value (vs : List Bytes) (h : vs ≠ []) :
    elements vs = vs.flatMap (splitOn comma) := by
  match vs, h with
  | [v], _ => simp [elements, joinWith]
  | v :: w :: vs, _ =>
    have ih := elements_are_per_value (w :: vs) (by simp)
    unfold elements at ih ⊢
    rw [splitOn_join_cons, ih]
    simp

theorem leftmostValid_eq_findSome? (N : Net Addr Prefix) (parts : List Bytes) :
    leftmostValid N parts = parts.findSome? (partAddr N) := List.head?_filterMap

theorem leftmostValid_none_iff (N : Net Addr Prefix) (parts : List Bytes) :
    leftmostValid N parts = none ↔ ∀ p, p ∈ parts → partAddr N p = none := by
  rw [leftmostValid_eq_findSome?, List.findSome?_eq_none_iff]

/-- the address of an element if it parses and lies outside the trusted ranges: what the strict scan looks for -/
def untrustedAddr (N : Net Addr Prefix) (ranges : List Prefix) (p : Bytes) : Option Addr :=
  match partAddr N p with
  | some a => if isTrusted N ranges a then none else some a
  | none => none

theorem untrustedAddr_eq_some {N : Net Addr Prefix} {ranges : List Prefix} {p : Bytes} {a : Addr}
    (h : untrustedAddr N ranges p = some a) : partAddr N p = some a ∧ isTrusted N ranges a = false := by
  revert h
  fun_cases untrustedAddr N ranges p
  case case2 b hb ht => rintro ⟨⟩; exact ⟨hb, by simpa using ht⟩
  all_goals exact fun h => nomatch h

theorem rightmostUntrusted_eq_findSome? (N : Net Addr Prefix) (ranges : List Prefix) (parts : List Bytes) :
    rightmostUntrusted N ranges parts = parts.reverse.findSome? (untrustedAddr N ranges) := by
  unfold rightmostUntrusted
  rw [List.filter_filterMap, List.getLast?_filterMap]
  congr
  funext p
  unfold untrustedAddr
  cases partAddr N p with
  | none => rfl
  | some a => cases h : isTrusted N ranges a <;> simp [Option.filter, h]

theorem firstValid_eq (N : Net Addr Prefix) (parts : List Bytes) :
    firstValid N parts = leftmostValid N parts := by
  rw [leftmostValid_eq_findSome?]
  fun_induction firstValid N parts <;> simp_all

theorem strictScan_eq_findSome? (N : Net Addr Prefix) (ranges : List Prefix) (l : List Bytes) :
    strictScan N ranges l = l.findSome? (untrustedAddr N ranges) := by
  fun_induction strictScan N ranges l <;> simp_all [untrustedAddr]

theorem strictUntrusted_eq (N : Net Addr Prefix) (h : Header) (ranges : List Prefix) (cip : Bytes)
    (headers : List Bytes) :
    strictUntrustedClientIp N h ranges cip headers = strOr N cip (strictChoice N ranges h headers) := by
  unfold strictChoice
  induction headers with
  | nil => rfl
  | cons name rest ih =>
    unfold strictUntrustedClientIp
    rw [strictScan_eq_findSome?, ← rightmostUntrusted_eq_findSome?, List.findSome?_cons]
    unfold elements
    cases rightmostUntrusted N ranges (splitOn comma (joinWith [comma] (hValues h name))) with
    | some a => rfl
    | none => exact ih

theorem trustedReal_eq (N : Net Addr Prefix) (h : Header) (headers : List Bytes) (cip : Bytes) :
    trustedRealClientIP N h headers cip =
      strOr N cip (leftmostValid N ((collectValues h headers).flatMap (splitOn comma))) := by
  unfold trustedRealClientIP
  rw [firstValid_eq]
  cases hv : collectValues h headers with
  | nil => rfl
  | cons v vs =>
    rw [show splitOn comma (joinWith [comma] (v :: vs)) = _ from elements_are_per_value (v :: vs) (by simp)]
    cases leftmostValid N ((v :: vs).flatMap (splitOn comma)) <;> rfl

theorem strOr_eq (N : Net Addr Prefix) (fallback : Bytes) (o : Option Addr) :
    strOr N fallback o = fallback ∨ ∃ a, o = some a ∧ strOr N fallback o = N.toString a := by
  cases o
  · exact Or.inl rfl
  · exact Or.inr ⟨_, rfl, rfl⟩

theorem peerAddr_eq_some {N : Net Addr Prefix} {c : Conn} {ip : Addr} :
    peerAddr N c = some ip ↔ ∃ host, remoteHost c = some host ∧ N.parseAddr host = some ip := by
  unfold peerAddr
  cases remoteHost c <;> simp

theorem peerTrusted_of_no_peer (N : Net Addr Prefix) (cfg : Cfg Prefix) (c : Conn) (h : peerAddr N c = none) :
    peerTrusted N cfg c = false := by
  simp [peerTrusted, serverTrusts, handlerTrusts, h]

/-- the address a server-trusted peer's headers name, if any: with it `determineTrustedProxy` is one equation,
    whatever the verdict on the peer and the mode (`determine_eq`).  It is read only under `serverTrusts = true`,
    where `srvTrusted` is `some _`: the `getD []` never sees `none`. -/
def headerChoice (N : Net Addr Prefix) (cfg : Cfg Prefix) (h : Header) : Option Addr :=
  if cfg.strict > 0 then strictChoice N (cfg.srvTrusted.getD []) h (effectiveHeaders cfg)
  else leftmostValid N ((collectValues h (effectiveHeaders cfg)).flatMap (splitOn comma))

theorem headerChoice_nonstrict {cfg : Cfg Prefix} (hs : cfg.strict = 0) (N : Net Addr Prefix) (w : List (Bytes × Bytes)) :
    headerChoice N cfg (fromWire w) =
      leftmostValid N ((configuredValues w (effectiveHeaders cfg)).flatMap (splitOn comma)) := by
  simp [headerChoice, hs, collectValues_fromWire]

theorem headerChoice_strict {cfg : Cfg Prefix} {ranges : List Prefix} (hs : cfg.strict > 0)
    (hr : cfg.srvTrusted = some ranges) (N : Net Addr Prefix) (w : List (Bytes × Bytes)) :
    headerChoice N cfg (fromWire w) =
      (effectiveHeaders cfg).findSome?
        (fun name => rightmostUntrusted N ranges (elements (wireValues w (canonKey name)))) := by
  simp [headerChoice, hs, hr, strictChoice, hValues_fromWire]

/-- inner `strOr`: the peer's printed address, or "" without one; outer: the header's choice, falling back on it -/
theorem determine_eq (N : Net Addr Prefix) (cfg : Cfg Prefix) (c : Conn) (h : Header) :
    determineTrustedProxy N cfg c h =
      (serverTrusts N cfg c,
       strOr N (strOr N [] (peerAddr N c)) (if serverTrusts N cfg c then headerChoice N cfg h else none)) := by
  unfold serverTrusts peerAddr headerChoice
  fun_cases determineTrustedProxy N cfg c h <;> simp_all [strOr, strictUntrusted_eq, trustedReal_eq]

theorem serverTrusts_eq_true {N : Net Addr Prefix} {cfg : Cfg Prefix} {c : Conn} (ht : serverTrusts N cfg c = true) :
    ∃ ip ranges, peerAddr N c = some ip ∧ cfg.srvTrusted = some ranges ∧ isTrusted N ranges ip = true := by
  unfold serverTrusts at ht
  split at ht
  · exact ⟨_, _, ‹_›, ‹_›, ht⟩
  · cases ht

theorem clientIP_serve (N : Net Addr Prefix) (cfg : Cfg Prefix) (c : Conn) (w : List (Bytes × Bytes)) :
    (serve N cfg c w).clientIP =
      strOr N (strOr N [] (peerAddr N c))
        (if serverTrusts N cfg c then headerChoice N cfg (fromWire w) else none) :=
  congrArg Prod.snd (determine_eq N cfg c _)

theorem clientIP_serve_trusted {N : Net Addr Prefix} {cfg : Cfg Prefix} {c : Conn} {ip : Addr}
    (ht : serverTrusts N cfg c = true) (hip : peerAddr N c = some ip) (w : List (Bytes × Bytes)) :
    (serve N cfg c w).clientIP = strOr N (N.toString ip) (headerChoice N cfg (fromWire w)) := by
  simp [clientIP_serve, ht, hip, strOr]

/-! ### the fields `serve` sends -/

theorem fwd_serve (N : Net Addr Prefix) (cfg : Cfg Prefix) (c : Conn) (w : List (Bytes × Bytes))
    (host : Bytes) (ip : Addr) (hr : remoteHost c = some host) (hp : N.parseAddr host = some ip) :
    (serve N cfg c w).fwd = some
      ⟨specField (peerTrusted N cfg c) keepXFF host
         (fieldBefore cfg.omitXFF (connectionDrops w kXFF) (wireValues w kXFF)),
       specField (peerTrusted N cfg c) keepLast (protoOf c)
         (fieldBefore cfg.omitXFP (connectionDrops w kXFP) (wireValues w kXFP)),
       specField (peerTrusted N cfg c) keepLast c.host
         (fieldBefore cfg.omitXFH (connectionDrops w kXFH) (wireValues w kXFH))⟩ := by
  have ht : ((determineTrustedProxy N cfg c (fromWire w)).1 || isTrusted N cfg.handlerTrusted ip) =
      peerTrusted N cfg c := by
    simp only [peerTrusted, handlerTrusts, peerAddr, hr, hp, determine_eq]
  obtain ⟨fp, fh, ph, -⟩ := forwardingKeys_distinct
  simp only [serve, prepareRequest, addForwardedHeaders, hr, hp, Option.map_some, fwdOf_setForwarded, ht]
  rw [hGet_prepared cfg w kXFF cfg.omitXFF hop_headers_spare_forwarding_fields.1 (fun h => by simp [hGet_applyOmit, fp, fh]),
    hGet_prepared cfg w kXFP cfg.omitXFP hop_headers_spare_forwarding_fields.2.1 (fun h => by simp [hGet_applyOmit, fp.symm, ph]),
    hGet_prepared cfg w kXFH cfg.omitXFH hop_headers_spare_forwarding_fields.2.2.1
      (fun h => by simp [hGet_applyOmit, fh.symm, ph.symm])]

theorem untrustedOut_congr (N : Net Addr Prefix) (cfg : Cfg Prefix) (c : Conn) (dF dP dH dF' dP' dH' : Bool)
    (hF : cfg.omitXFF = false ∨ dF = dF') (hP : cfg.omitXFP = false ∨ dP = dP') (hH : cfg.omitXFH = false ∨ dH = dH') :
    untrustedOut N cfg c dF dP dH = untrustedOut N cfg c dF' dP' dH' := by
  have e : ∀ (o d d' : Bool), o = false ∨ d = d' → (o && !d) = (o && !d') := by
    rintro o d d' (rfl | rfl) <;> rfl
  unfold untrustedOut
  rw [e _ _ _ hF, e _ _ _ hP, e _ _ _ hH]

/-! ### consumers -/

theorem matcher_loop_is_any (N : Net Addr Prefix) (a : Addr) (z : Bytes) (ranges : List (MRange Prefix)) :
    matchCidrZones N a z ranges = ranges.any (fun r => N.contains r.pfx a && zoneOK r z) := by
  induction ranges with
  | nil => rfl
  | cons r rest ih =>
    unfold matchCidrZones
    simp only [List.any_cons, zoneOK, ih]
    cases N.contains r.pfx a && (decide (r.zone = []) || decide (z = r.zone)) <;> simp

theorem ipAndZone_fst (s : Bytes) : (ipAndZone s).1 = cutZone s := by
  obtain ⟨tail, ht, _⟩ := splitOn_percent s
  unfold ipAndZone
  rw [ht]
  cases tail <;> simp

theorem ipAndZone_noZone (s : Bytes) (h : cutZone s = s) : ipAndZone s = (s, []) := by
  obtain ⟨tail, ht, h0⟩ := splitOn_percent s
  unfold ipAndZone
  rw [ht, h0 h, h]

theorem parseIPZone_printed (N : Net Addr Prefix) (hN : PrintsParseBack N) (a : Addr) :
    parseIPZone N (N.toString a) = some (a, []) := by
  unfold parseIPZone hostOrAll
  rw [hN.noPort a]
  simp only [ipAndZone_noZone _ (hN.noZone a), hN.back a]

/-! ### retry loop -/

theorem kVerifUp_ne : kXFF ≠ kVerifUp ∧ kXFP ≠ kVerifUp ∧ kXFH ≠ kVerifUp := by decide

theorem hGet_copyHeader (h : Header) (k : Bytes) : hGet (copyHeader h) k = dropNil (hGet h k) := by
  unfold copyHeader
  rw [hGet_filter_key (carried h) h k]
  unfold carried
  cases hh : hGet h k with
  | none => rfl
  | some o =>
    cases o with
    | none => rfl
    | some vs => cases vs <;> rfl

theorem fwdOf_copyHeader (h : Header) :
    fwdOf (copyHeader h) = ⟨dropNil (fwdOf h).xff, dropNil (fwdOf h).xfp, dropNil (fwdOf h).xfh⟩ := by
  simp [fwdOf, hGet_copyHeader]

theorem fwdOf_applyOps (ops : Ops) (h : Header) : fwdOf (applyOps ops h) = (match ops with
    | .none => fwdOf h
    | .setOther => fwdOf h
    | .delXFH => { fwdOf h with xfh := none }) := by
  cases ops
  · rfl
  · simp [applyOps, fwdOf, hGet_hPut, kVerifUp_ne]
  · simp [applyOps, fwdOf, hGet_hDel, forwardingKeys_distinct]

/-- `hc`: without ops a pass hands over `cur` itself, which must then still be the map `prepareRequest` left -/
theorem fwdOf_attemptHeader (ops : Ops) (h cur : Header) (hc : ops = .none → cur = h) :
    fwdOf (attemptHeader ops h cur) = opsFwd ops (fwdOf h) := by
  cases ops
  · simp [attemptHeader, hc rfl, opsFwd]
  · simp [attemptHeader, fwdOf_applyOps, fwdOf_copyHeader, opsFwd]
  · simp [attemptHeader, fwdOf_applyOps, fwdOf_copyHeader, opsFwd]

theorem proxyLoop_eq (ops : Ops) (h : Header) : ∀ (fails : Nat) (cur : Header), (ops = .none → cur = h) →
    proxyLoop ops h fails cur = List.replicate (fails + 1) (opsFwd ops (fwdOf h))
  | 0, cur, hc => by simp [proxyLoop, fwdOf_attemptHeader ops h cur hc]
  | fails + 1, cur, hc => by
    have hc' : ops = .none → attemptHeader ops h cur = h := by
      intro ho; subst ho; simp [attemptHeader, hc rfl]
    rw [proxyLoop, fwdOf_attemptHeader ops h cur hc, proxyLoop_eq ops h fails _ hc']
    simp [List.replicate_succ]

/-! ### PROXY protocol wrapper -/

theorem connPolicy_tcp (N : Net Addr Prefix) (cfg : PPCfg Prefix) (network peer : Bytes)
    (hu : unixOrFd network = false) :
    connPolicy N cfg network peer =
      match ppPeerAddr N peer with
      | some ip => .policy (rangePolicy N cfg ip)
      | none => .refuse := by
  unfold ppPeerAddr
  fun_cases connPolicy N cfg network peer <;> simp_all

theorem underPolicy_remote (p : PPolicy) (peer : Bytes) (claim : Option Bytes) :
    (underPolicy p peer claim).remote = peer ∨ p = .use ∨ p = .require := by
  fun_cases underPolicy p peer claim <;> simp

end

/-! ### provisioning and Caddyfile glue -/

theorem provisionAccepts_eq_all (l : List (Bytes × RangeVerdict)) :
    provisionAccepts l = l.all (fun ev => rangeAccepted ev.1 ev.2) := by
  fun_induction provisionAccepts l <;> simp_all

theorem expandRanges_eq_flatMap (args : List Bytes) :
    expandRanges args = args.flatMap fun a => if a = tokPrivateRanges then Gen.privateRanges else [a] := by
  fun_induction expandRanges args <;> simp_all

theorem expandRanges_mem (args : List Bytes) (r : Bytes) (h : r ∈ expandRanges args) :
    r ∈ args ∨ (tokPrivateRanges ∈ args ∧ r ∈ Gen.privateRanges) := by
  rw [expandRanges_eq_flatMap] at h
  obtain ⟨a, ha, hr⟩ := List.mem_flatMap.mp h
  split at hr
  · exact Or.inr ⟨‹a = tokPrivateRanges› ▸ ha, hr⟩
  · exact Or.inl (List.mem_singleton.mp hr ▸ ha)

theorem addClientIPHeaders_eq : ∀ (acc l : List Bytes), acc.Nodup →
    addClientIPHeaders acc l = if (acc ++ l).Nodup then some (acc ++ l) else none
  | acc, [], hn => by simp [addClientIPHeaders, hn]
  | acc, h :: rest, hn => by
    unfold addClientIPHeaders
    by_cases hm : h ∈ acc
    · have : ¬ (acc ++ h :: rest).Nodup := fun hnd =>
        (List.nodup_cons.mp (List.perm_middle.nodup_iff.mp hnd)).1 (List.mem_append_left _ hm)
      simp [this, hm]
    · have hn' : (acc ++ [h]).Nodup :=
        List.perm_middle.nodup_iff.mpr (List.nodup_cons.mpr ⟨by simpa using hm, by simpa using hn⟩)
      simp [hm, addClientIPHeaders_eq (acc ++ [h]) rest hn', List.append_assoc]

theorem addClientIPHeaders_append : ∀ (acc l m : List Bytes),
    addClientIPHeaders acc (l ++ m) = (addClientIPHeaders acc l).bind (fun a => addClientIPHeaders a m)
  | acc, [], m => rfl
  | acc, h :: rest, m => by
    rw [List.cons_append, addClientIPHeaders, addClientIPHeaders]
    split
    · rfl
    · exact addClientIPHeaders_append _ rest m

theorem clientIPHeaderLines_flatten : ∀ (acc : List Bytes) (ls : List (List Bytes)),
    clientIPHeaderLines acc ls = addClientIPHeaders acc ls.flatten
  | acc, [] => rfl
  | acc, l :: ls => by
    rw [clientIPHeaderLines, List.flatten_cons, addClientIPHeaders_append]
    cases addClientIPHeaders acc l with
    | none => rfl
    | some a => exact clientIPHeaderLines_flatten a ls

theorem adaptOptions_eq_some {s : List (List Bytes)} {n : Nat} {arg : Bool} {c rp : List (List Bytes)} {a : Adapted}
    (h : adaptOptions s n arg c rp = some a) :
    ∃ hs, clientIPHeaderLines [] c = some hs ∧
      a = { srvRanges := (lastLine s).map expandRanges, strict := decide (n > 0),
            clientIPHeaders := if hs.isEmpty then none else some hs,
            rpRanges := (rp.map expandRanges).flatten, clientIPShorthand := clientIPShorthandOf } := by
  revert h
  fun_cases adaptOptions s n arg c rp
  case case3 hs hl => rintro ⟨⟩; exact ⟨hs, hl, rfl⟩
  all_goals exact fun h => nomatch h

theorem lastLine_eq_getLast? (ls : List (List Bytes)) : lastLine ls = ls.getLast? := by
  fun_induction lastLine ls <;> simp_all

end CaddyModel.C10
