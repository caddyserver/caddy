/-
C10 — model of the code that decides which client address caddy attributes to a request and
which X-Forwarded-* fields reverse_proxy sends upstream:

  modules/caddyhttp/server.go     determineTrustedProxy, isTrustedClientIP,
                                  trustedRealClientIP, strictUntrustedClientIp
  modules/caddyhttp/app.go        default `client_ip_headers` = ["X-Forwarded-For"]
  reverseproxy/reverseproxy.go    prepareRequest (removeConnectionHeaders, hop-by-hop
                                  removal, then addForwardedHeaders), allHeaderValues,
                                  lastHeaderValue

The Go glue (SplitHostPort, zone cut, join-then-split on ',', TrimSpace, left-most /
right-most scans, header canonicalisation, `omit` on a nil header value) is inside the model;
`net/netip` is a PARAMETER (`Net`): `ParseAddr`, `Prefix.Contains`, `Addr.String`.
Nothing in this file looks inside them, so every theorem holds for every such triple.
-/
import CaddyModel.C10.Glue
import CaddyModel.Gen.Forwarding
import CaddyModel.Gen.Glue

namespace CaddyModel.C10

/-- `net/netip` as the code uses it -/
structure Net (Addr Prefix : Type) where
  parseAddr : Bytes → Option Addr        -- netip.ParseAddr (none = error)
  contains : Prefix → Addr → Bool        -- Prefix.Contains
  toString : Addr → Bytes                -- Addr.String

/-- server and handler configuration after provisioning -/
structure Cfg (Prefix : Type) where
  srvTrusted : Option (List Prefix)      -- s.trustedProxies.GetIPRanges(r); none = no source configured
  clientIPHeaders : Option (List Bytes)  -- client_ip_headers; none = not configured
  strict : Nat                           -- trusted_proxies_strict
  handlerTrusted : List Prefix           -- reverse_proxy's own trusted_proxies
  omitXFF : Bool                         -- an earlier handler stored nil under X-Forwarded-For
  omitXFP : Bool                         --   … X-Forwarded-Proto
  omitXFH : Bool                         --   … X-Forwarded-Host

/-- what the connection itself says about the request -/
structure Conn where
  remoteAddr : Bytes                     -- r.RemoteAddr
  tls : Bool                             -- r.TLS != nil once Server.ServeHTTP ran (it recovers the state from the
                                         --   connection in the context when a listener wrapper left r.TLS nil)
  host : Bytes                           -- r.Host
  earlyData : Bool                       -- r.TLS != nil && !r.TLS.HandshakeComplete (request arrived as TLS 0-RTT data)
deriving DecidableEq, Repr

def kXFF : Bytes := [88, 45, 70, 111, 114, 119, 97, 114, 100, 101, 100, 45, 70, 111, 114]
def kXFP : Bytes := [88, 45, 70, 111, 114, 119, 97, 114, 100, 101, 100, 45, 80, 114, 111, 116, 111]
def kXFH : Bytes := [88, 45, 70, 111, 114, 119, 97, 114, 100, 101, 100, 45, 72, 111, 115, 116]
def kConnection : Bytes := [67, 111, 110, 110, 101, 99, 116, 105, 111, 110]
def sHttp : Bytes := [104, 116, 116, 112]
def sHttps : Bytes := [104, 116, 116, 112, 115]
def commaSpace : Bytes := [44, 32]

/-- reverseproxy.go `hopHeaders` — REGENERATED from the source on every run (tools/extract →
    Gen/Forwarding.lean): Alt-Svc, Connection, Proxy-Connection, Keep-Alive, Proxy-Authenticate,
    Proxy-Authorization, Te, Trailer, Transfer-Encoding, Upgrade on the pinned tree.  The lemma
    `hop_headers_spare_forwarding_fields` (no forwarding field is hop-by-hop) is re-proved against
    whatever the source lists. -/
def hopHeaders : List Bytes := Gen.hopHeaders

section
variable {Addr Prefix : Type}

/-! ### server.go -/

/-- `isTrustedClientIP` -/
def isTrusted (N : Net Addr Prefix) (ranges : List Prefix) (a : Addr) : Bool :=
  ranges.any (fun p => N.contains p a)

/-- one element of a client-IP header, as both scans treat it:
    `host, _, err := net.SplitHostPort(part); if err != nil { host = part }`,
    `host, _, _ = strings.Cut(strings.TrimSpace(host), "%")` -/
def partHost (part : Bytes) : Bytes :=
  cutZone (trimSpace (match splitHostPort part with
                      | some hp => hp.1
                      | none => part))

/-- `netip.ParseAddr(host)` of an element -/
def partAddr (N : Net Addr Prefix) (part : Bytes) : Option Addr := N.parseAddr (partHost part)

/-- `for _, field := range headers { values = append(values, r.Header.Values(field)...) }` -/
def collectValues (h : Header) : List Bytes → List Bytes
  | [] => []
  | field :: rest => hValues h field ++ collectValues h rest

/-- the loop "get first valid left-most IP address" -/
def firstValid (N : Net Addr Prefix) : List Bytes → Option Addr
  | [] => none
  | part :: rest =>
    match partAddr N part with
    | some a => some a
    | none => firstValid N rest

/-- `trustedRealClientIP` -/
def trustedRealClientIP (N : Net Addr Prefix) (h : Header) (headers : List Bytes) (clientIP : Bytes) : Bytes :=
  if (collectValues h headers).isEmpty then clientIP
  else
    match firstValid N (splitOn comma (joinWith [comma] (collectValues h headers))) with
    | some a => N.toString a
    | none => clientIP

/-- the loop `for i := len(parts) - 1; i >= 0; i--` of `strictUntrustedClientIp`, written over
    the parts in the order it visits them (last first) -/
def strictScan (N : Net Addr Prefix) (trusted : List Prefix) : List Bytes → Option Addr
  | [] => none
  | part :: earlier =>
    match partAddr N part with
    | some a => if !isTrusted N trusted a then some a else strictScan N trusted earlier
    | none => strictScan N trusted earlier

/-- `strictUntrustedClientIp` -/
def strictUntrustedClientIp (N : Net Addr Prefix) (h : Header) (trusted : List Prefix) (clientIP : Bytes) :
    List Bytes → Bytes
  | [] => clientIP
  | name :: rest =>
    match strictScan N trusted (splitOn comma (joinWith [comma] (hValues h name))).reverse with
    | some a => N.toString a
    | none => strictUntrustedClientIp N h trusted clientIP rest

/-- app.go: `if srv.ClientIPHeaders == nil { srv.ClientIPHeaders = []string{"X-Forwarded-For"} }` -/
def effectiveHeaders (cfg : Cfg Prefix) : List Bytes :=
  match cfg.clientIPHeaders with
  | some l => l
  | none => Gen.defaultClientIPHeaders     -- regenerated from app.go (X-Forwarded-For on the pinned tree)

/-- the remote IP both functions derive from `r.RemoteAddr`:
    `SplitHostPort`, cut the zone; `none` = SplitHostPort failed -/
def remoteHost (c : Conn) : Option Bytes :=
  match splitHostPort c.remoteAddr with
  | some hp => some (cutZone hp.1)
  | none => none

/-- `determineTrustedProxy` (with a non-nil server): `(trusted, clientIP)` -/
def determineTrustedProxy (N : Net Addr Prefix) (cfg : Cfg Prefix) (c : Conn) (h : Header) : Bool × Bytes :=
  match remoteHost c with
  | none => (false, [])
  | some host =>
    match N.parseAddr host with
    | none => (false, [])
    | some ip =>
      match cfg.srvTrusted with
      | none => (false, N.toString ip)
      | some ranges =>
        if isTrusted N ranges ip then
          if cfg.strict > 0 then
            (true, strictUntrustedClientIp N h ranges (N.toString ip) (effectiveHeaders cfg))
          else
            (true, trustedRealClientIP N h (effectiveHeaders cfg) (N.toString ip))
        else (false, N.toString ip)

/-! ### reverseproxy.go -/

/-- the field names `removeConnectionHeaders` deletes: every non-empty, trimmed, comma-separated
    token of every `Connection` value -/
def connectionTokens (h : Header) : List Bytes :=
  (hValues h kConnection).flatMap (fun f => ((splitOn comma f).map trimOWS).filter (fun sf => sf ≠ []))

/-- `removeConnectionHeaders` -/
def removeConnectionHeaders (h : Header) : Header := (connectionTokens h).foldl hDelField h

/-- `for _, h := range hopHeaders { req.Header.Del(h) }`.  (The `Te: trailers` exception and the
    re-added `Connection`/`Upgrade` pair for protocol upgrades only concern those three fields,
    which are not observed here.) -/
def removeHopHeaders (h : Header) : Header := hopHeaders.foldl hDelField h

/-- result of `allHeaderValues` / `lastHeaderValue` -/
structure Prior where
  value : Bytes
  ok : Bool
  omitted : Bool
deriving DecidableEq, Repr

/-- `allHeaderValues(h, key)` (key already canonical) -/
def allHeaderValues (h : Header) (key : Bytes) : Prior :=
  match hGet h key with
  | some none => ⟨[], true, true⟩
  | none => ⟨[], false, false⟩
  | some (some []) => ⟨[], false, false⟩
  | some (some (v :: vs)) => ⟨joinWith commaSpace (v :: vs), true, false⟩

/-- `values[len(values)-1]` -/
def lastOf : Bytes → List Bytes → Bytes
  | v, [] => v
  | _, w :: ws => lastOf w ws

/-- `lastHeaderValue(h, key)` -/
def lastHeaderValue (h : Header) (key : Bytes) : Prior :=
  match hGet h key with
  | some none => ⟨[], true, true⟩
  | none => ⟨[], false, false⟩
  | some (some []) => ⟨[], false, false⟩
  | some (some (v :: vs)) => ⟨lastOf v vs, true, false⟩

/-- `trusted && ok && prior != ""` -/
def keepPrior (trusted : Bool) (p : Prior) : Bool := trusted && p.ok && !p.value.isEmpty

/-- `if !omit { req.Header.Set(key, value) }` -/
def setUnlessOmitted (h : Header) (key : Bytes) (p : Prior) (value : Bytes) : Header :=
  if p.omitted then h else hPut h key (some [value])

def xffValue (trusted : Bool) (p : Prior) (clientIP : Bytes) : Bytes :=
  if keepPrior trusted p then p.value ++ commaSpace ++ clientIP else clientIP

def overridable (trusted : Bool) (p : Prior) (fresh : Bytes) : Bytes :=
  if keepPrior trusted p then p.value else fresh

def protoOf (c : Conn) : Bytes := if c.tls then sHttps else sHttp

/-- the part of `addForwardedHeaders` after the remote address has been parsed -/
def setForwarded (trusted : Bool) (clientIP : Bytes) (c : Conn) (h : Header) : Header :=
  (fun h1 : Header =>
    (fun h2 : Header =>
      setUnlessOmitted h2 kXFH (lastHeaderValue h2 kXFH) (overridable trusted (lastHeaderValue h2 kXFH) c.host))
    (setUnlessOmitted h1 kXFP (lastHeaderValue h1 kXFP) (overridable trusted (lastHeaderValue h1 kXFP) (protoOf c))))
  (setUnlessOmitted h kXFF (allHeaderValues h kXFF) (xffValue trusted (allHeaderValues h kXFF) clientIP))

/-- `addForwardedHeaders`; `none` = it returned an error (the request is answered with 500) -/
def addForwardedHeaders (N : Net Addr Prefix) (cfg : Cfg Prefix) (c : Conn) (trustedVar : Bool) (h : Header) :
    Option Header :=
  match remoteHost c with
  | none => some (hDel (hDel (hDel h kXFF) kXFP) kXFH)
  | some host =>
    match N.parseAddr host with
    | none => none
    | some ip => some (setForwarded (trustedVar || isTrusted N cfg.handlerTrusted ip) host c h)

/-- the header-relevant part of `prepareRequest` -/
def prepareRequest (N : Net Addr Prefix) (cfg : Cfg Prefix) (c : Conn) (trustedVar : Bool) (h : Header) :
    Option Header :=
  addForwardedHeaders N cfg c trustedVar (removeHopHeaders (removeConnectionHeaders h))

/-! ### the request as the harness drives it -/

/-- what an earlier handler may have done: `r.Header[key] = nil` -/
def applyOmit (cfg : Cfg Prefix) (h : Header) : Header :=
  (fun h1 : Header =>
    (fun h2 : Header => if cfg.omitXFH then hPut h2 kXFH none else h2)
    (if cfg.omitXFP then hPut h1 kXFP none else h1))
  (if cfg.omitXFF then hPut h kXFF none else h)

/-- the three forwarding fields of the request sent upstream -/
structure Fwd where
  xff : Option (Option (List Bytes))     -- none = absent, some none = nil (omitted), some (some vs)
  xfp : Option (Option (List Bytes))
  xfh : Option (Option (List Bytes))
deriving DecidableEq, Repr

def fwdOf (h : Header) : Fwd := ⟨hGet h kXFF, hGet h kXFP, hGet h kXFH⟩

/-- everything the property talks about -/
structure Out where
  clientIP : Bytes             -- the `client_ip` var
  trusted : Bool               -- the `trusted_proxy` var
  fwd : Option Fwd             -- none = reverse_proxy refused the request
deriving DecidableEq, Repr

/-- one request: PrepareRequest (server.go), then the route's handlers -/
def serve (N : Net Addr Prefix) (cfg : Cfg Prefix) (c : Conn) (wire : List (Bytes × Bytes)) : Out :=
  { clientIP := (determineTrustedProxy N cfg c (fromWire wire)).2
    trusted := (determineTrustedProxy N cfg c (fromWire wire)).1
    fwd := (prepareRequest N cfg c (determineTrustedProxy N cfg c (fromWire wire)).1
              (applyOmit cfg (fromWire wire))).map fwdOf }

/-! ### what consumes the attributed address
`client_ip` / `remote_ip` matchers (ip_matchers.go), the `{http.vars.client_ip}` placeholder
(replacer.go), the access log's `request.client_ip` field (marshalers.go) and the PROXY-protocol
address reverse_proxy derives for the upstream (reverseproxy.go `prepareRequest`). -/

/-- one configured range of a matcher after `provisionCidrsZonesFromRanges`: prefix and zone filter -/
structure MRange (Prefix : Type) where
  pfx : Prefix
  zone : Bytes          -- "" = no zone filter

/-- `ipStr, _, err := net.SplitHostPort(address); if err != nil { ipStr = address }` -/
def hostOrAll (address : Bytes) : Bytes :=
  match splitHostPort address with
  | some hp => hp.1
  | none => address

/-- `if strings.Contains(ipStr, "%") { split := strings.Split(ipStr, "%"); ipStr = split[0]; zoneID = split[1] }` -/
def ipAndZone (ipStr : Bytes) : Bytes × Bytes :=
  match splitOn percent ipStr with
  | a :: b :: _ => (a, b)
  | a :: _ => (a, [])          -- no '%': `Split` returns the string itself
  | [] => (ipStr, [])          -- (`Split` never returns an empty slice)

/-- `parseIPZoneFromString`; `none` = `netip.ParseAddr` failed -/
def parseIPZone (N : Net Addr Prefix) (address : Bytes) : Option (Addr × Bytes) :=
  match N.parseAddr (ipAndZone (hostOrAll address)).1 with
  | some a => some (a, (ipAndZone (hostOrAll address)).2)
  | none => none

/-- `matchIPByCidrZones` (its first result; the second only selects a debug log line) -/
def matchCidrZones (N : Net Addr Prefix) (a : Addr) (zoneID : Bytes) : List (MRange Prefix) → Bool
  | [] => false
  | r :: rest =>
    if N.contains r.pfx a && (decide (r.zone = []) || decide (zoneID = r.zone)) then true
    else matchCidrZones N a zoneID rest

/-- `MatchClientIP.MatchWithError` / `MatchRemoteIP.MatchWithError` on their respective address, after
    their guard `if r.TLS != nil && !r.TLS.HandshakeComplete { return false, Error(425, …) }`
    ("remote IP cannot be verified" for 0-RTT data; the guard is in `consumers`) -/
def matchAddress (N : Net Addr Prefix) (ranges : List (MRange Prefix)) (address : Bytes) : Bool :=
  match parseIPZone N address with
  | some az => matchCidrZones N az.1 az.2 ranges
  | none => false

/-- everything downstream of the `client_ip` var -/
structure Consumers where
  placeholder : Bytes            -- `{http.vars.client_ip}`
  template : Bytes               -- templates' `{{.ClientIP}}` (tplcontext.go): the var, a port split off if it has one
  logField : Bytes               -- access log `request.client_ip`
  clientMatch : Bool             -- `client_ip` matcher
  remoteMatch : Bool             -- `remote_ip` matcher (reads `r.RemoteAddr`, not the var)
  proxyProto : Option Bytes      -- PROXY-protocol source address (port 0); none = invalid
deriving DecidableEq, Repr

/-- the consumers, given the var's value.  (`netip.ParseAddrPort` never accepts what `Addr.String`
    prints, so `prepareRequest` always takes its `ParseAddr` branch — checked by the stream.) -/
def consumers (N : Net Addr Prefix) (ranges : List (MRange Prefix)) (c : Conn) (clientIP : Bytes) : Consumers :=
  { placeholder := clientIP
    template := hostOrAll clientIP
    logField := clientIP
    clientMatch := if c.earlyData then false else matchAddress N ranges clientIP
    remoteMatch := if c.earlyData then false else matchAddress N ranges c.remoteAddr
    proxyProto := (N.parseAddr clientIP).map N.toString }

/-- one request: what the consumers see -/
def serveConsumers (N : Net Addr Prefix) (cfg : Cfg Prefix) (ranges : List (MRange Prefix)) (c : Conn)
    (wire : List (Bytes × Bytes)) : Consumers :=
  consumers N ranges c (serve N cfg c wire).clientIP

/-- selectionpolicies.go `CookieHashSelection.Select`, the `Secure` attribute of the sticky cookie:
    `isProxyHttps := false; if trusted { xfp, xfpOk, _ := lastHeaderValue(req.Header, "X-Forwarded-Proto"); isProxyHttps = xfpOk && xfp == "https" }`,
    `if req.TLS != nil || isProxyHttps { cookie.Secure = true }` — `req` is the PREPARED request -/
def cookieSecureOf (c : Conn) (trustedVar : Bool) (prepared : Header) : Bool :=
  c.tls || (trustedVar && (lastHeaderValue prepared kXFP).ok && decide ((lastHeaderValue prepared kXFP).value = sHttps))

/-- one request under the `cookie` selection policy: is the sticky cookie `Secure`?
    (`none` = `prepareRequest` failed, no upstream is selected) -/
def cookieSecure (N : Net Addr Prefix) (cfg : Cfg Prefix) (c : Conn) (wire : List (Bytes × Bytes)) : Option Bool :=
  (prepareRequest N cfg c (determineTrustedProxy N cfg c (fromWire wire)).1
      (applyOmit cfg (fromWire wire))).map
    (cookieSecureOf c (determineTrustedProxy N cfg c (fromWire wire)).1)

/-! ### the proxy retry loop (reverseproxy.go `ServeHTTP` / `proxyLoopIteration`) -/

/-- the request header operations (`headers.request`, Caddyfile `header_up`) the harness configures -/
inductive Ops where
  | none       -- `h.Headers == nil`
  | setOther   -- set `X-Verif-Up` from the placeholder `{http.reverse_proxy.upstream.hostport}`
  | delXFH     -- delete `X-Forwarded-Host`
deriving DecidableEq, Repr

def kVerifUp : Bytes := [88, 45, 86, 101, 114, 105, 102, 45, 85, 112]
/-- the harness's only upstream, `127.0.0.1:9` -/
def upstreamHostport : Bytes := [49, 50, 55, 46, 48, 46, 48, 46, 49, 58, 57]

/-- `h.Headers.Request.ApplyToRequest(r)` for those operations -/
def applyOps (ops : Ops) (h : Header) : Header :=
  match ops with
  | .none => h
  | .setOther => hPut h kVerifUp (some [upstreamHostport])
  | .delXFH => hDel h kXFH

/-- does `copyHeader` carry the field over?  It re-`Add`s value by value, so a key holding nil (or
    no values) is not carried -/
def carried (h : Header) (key : Bytes) : Bool :=
  match hGet h key with
  | some (some (_ :: _)) => true
  | _ => false

/-- `r.Header = make(http.Header); copyHeader(r.Header, reqHeader)` (the keys of `reqHeader` are
    already canonical) -/
def copyHeader (h : Header) : Header := h.filter (fun e => carried h e.1)

/-- one pass of `proxyLoopIteration` up to the round trip.  `reqHeader` is what `ServeHTTP` saved
    right after `prepareRequest` (`reqHeader := clonedReq.Header`), `cur` is the cloned request's
    header map as the previous pass left it:
    `if h.Headers != nil && h.Headers.Request != nil { r.Header = copy(reqHeader); ApplyToRequest(r) }`.
    The result is `r.Header` as it is handed to the transport. -/
def attemptHeader (ops : Ops) (reqHeader cur : Header) : Header :=
  match ops with
  | .none => cur
  | .setOther => applyOps .setOther (copyHeader reqHeader)
  | .delXFH => applyOps .delXFH (copyHeader reqHeader)

/-- the `for` loop of `ServeHTTP`: `fails` passes whose round trip fails and is retried, then one
    that succeeds; the forwarding fields of every request handed to the transport, in order -/
def proxyLoop (ops : Ops) (reqHeader : Header) : Nat → Header → List Fwd
  | 0, cur => [fwdOf (attemptHeader ops reqHeader cur)]
  | fails + 1, cur =>
    fwdOf (attemptHeader ops reqHeader cur) :: proxyLoop ops reqHeader fails (attemptHeader ops reqHeader cur)

/-! ### requests on one connection (app.go `ConnContext`, `Server.ServeHTTP` per request)

A connection carries a sequence of requests (HTTP/1.1 keep-alive, HTTP/2 streams).  The connection's context
holds the `net.Conn` only; `PrepareRequest` runs for every request and builds a fresh vars table. -/

/-- what each request of a connection is attributed: `PrepareRequest` per request, nothing carried over -/
def serveConnection (N : Net Addr Prefix) (cfg : Cfg Prefix) (c : Conn) (reqs : List (List (Bytes × Bytes))) :
    List Out :=
  reqs.map (serve N cfg c)

/-! ### templates' `httpInclude` (templates/tplcontext.go `funcHTTPInclude`): the virtual sub-request -/

/-- the dummy address `"127.0.0.1:10000"` a virtual request gets when the outer request has none -/
def virtualRemote : Bytes := [49, 50, 55, 46, 48, 46, 48, 46, 49, 58, 49, 48, 48, 48, 48]

/-- the virtual request goes through `server.ServeHTTP` → `PrepareRequest` like any other, with
    `virtReq.Header = c.Req.Header.Clone()` (plus Accept-Encoding and the recursion counter, which no modelled
    function reads) and the OUTER request's remote address — `virtReq.RemoteAddr = c.Req.RemoteAddr`, the
    dummy loopback address only if that is empty -/
def serveInclude (N : Net Addr Prefix) (cfg : Cfg Prefix) (c : Conn) (wire : List (Bytes × Bytes)) : Out :=
  serve N cfg { c with remoteAddr := if c.remoteAddr.isEmpty then virtualRemote else c.remoteAddr } wire

/-! ### the FastCGI transport (reverseproxy/fastcgi/fastcgi.go `buildEnv`, what php_fastcgi configures):
what the application is told about the client -/

/-- `strings.Replace(s, string(c), "", 1)` -/
def removeFirst (c : UInt8) : Bytes → Bytes
  | [] => []
  | b :: rest => if b = c then rest else b :: removeFirst c rest

/-- "Separate remote IP and port; more lenient than net.SplitHostPort" + "Remove [] from IPv6 addresses":
    `(REMOTE_ADDR, REMOTE_PORT)` -/
def fcgiRemote (remote : Bytes) : Bytes × Bytes :=
  match lastIndexByte colon remote with
  | some i => (removeFirst rbr (removeFirst lbr (remote.take i)), remote.drop (i + 1))
  | none => (removeFirst rbr (removeFirst lbr remote), [])

/-- `headerNameReplacer.Replace(strings.ToUpper(field))`: ' ' and '-' become '_' -/
def envName (field : Bytes) : Bytes := (asciiUpper field).map (fun c => if c = 32 || c = 45 then 95 else c)

def envXFF : Bytes := envName kXFF
def envXFP : Bytes := envName kXFP
def envXFH : Bytes := envName kXFH

/-- a field name without '_' and ' ' (the spelling whose CGI name is not ambiguous) -/
def hyphenSpelled (field : Bytes) : Bool := !(field.contains 95 || field.contains 32)

/-- the value a field contributes: `strings.Join(val, ", ")` -/
def envValueOf (e : Bytes × Option (List Bytes)) : Bytes :=
  joinWith commaSpace (match e.2 with | some vs => vs | none => [])

/-- the loop at the end of `buildEnv`: every field spelled with hyphens only whose CGI name is `name` writes
    the variable (`if strings.ContainsAny(field, "_ ") { continue }`: a field spelled with '_' or ' ' is not
    passed on, its CGI name would be ambiguous) — the values the variable CAN take (`[]` = not set) -/
def envCandidates (h : Header) (name : Bytes) : List Bytes :=
  (h.filter (fun e => envName e.1 = name && hyphenSpelled e.1)).map envValueOf

/-- what the FastCGI application can be told -/
structure FcgiEnv where
  remoteAddr : Bytes
  remotePort : Bytes
  xff : List Bytes         -- possible values of HTTP_X_FORWARDED_FOR
  xfp : List Bytes
  xfh : List Bytes
deriving DecidableEq, Repr

def fcgiEnvOf (c : Conn) (h : Header) : FcgiEnv :=
  ⟨(fcgiRemote c.remoteAddr).1, (fcgiRemote c.remoteAddr).2,
   envCandidates h envXFF, envCandidates h envXFP, envCandidates h envXFH⟩

/-- one request through reverse_proxy with the fastcgi transport; `none` = `prepareRequest` failed -/
def serveFcgi (N : Net Addr Prefix) (cfg : Cfg Prefix) (c : Conn) (wire : List (Bytes × Bytes)) (ops : Ops) :
    Option FcgiEnv :=
  (prepareRequest N cfg c (determineTrustedProxy N cfg c (fromWire wire)).1
      (applyOmit cfg (fromWire wire))).map (fun h => fcgiEnvOf c (attemptHeader ops h h))

/-- one request whose first `fails` upstream round trips fail: what every attempt sends;
    `none` = `prepareRequest` returned an error (500, no attempt) -/
def serveAttempts (N : Net Addr Prefix) (cfg : Cfg Prefix) (c : Conn) (wire : List (Bytes × Bytes))
    (ops : Ops) (fails : Nat) : Option (List Fwd) :=
  (prepareRequest N cfg c (determineTrustedProxy N cfg c (fromWire wire)).1
      (applyOmit cfg (fromWire wire))).map (fun h => proxyLoop ops h fails h)

end

/-! ### provision-time reading of range expressions
ip_range.go `CIDRExpressionToPrefix` (static source), reverseproxy.go `Provision` (handler
`trusted_proxies`), ip_matchers.go `provisionCidrsZonesFromRanges`: "having a slash means it should be
a CIDR expression, otherwise it's likely a single IP address" (then `PrefixFrom(addr, addr.BitLen())`). -/

def slash : UInt8 := 47

/-- net/netip's verdict on one range expression (supplied per case) -/
structure RangeVerdict where
  prefixOK : Bool      -- netip.ParsePrefix accepts it
  addrOK : Bool        -- netip.ParseAddr accepts it
deriving DecidableEq, Repr

/-- does provisioning accept the expression?  The slash decides which parser is asked. -/
def rangeAccepted (expr : Bytes) (v : RangeVerdict) : Bool :=
  if expr.contains slash then v.prefixOK else v.addrOK

/-- `for _, str := range ranges { …; if err != nil { return err } }`: provisioning succeeds iff every
    expression is accepted -/
def provisionAccepts : List (Bytes × RangeVerdict) → Bool
  | [] => true
  | (e, v) :: rest => if rangeAccepted e v then provisionAccepts rest else false

/-! ### the PROXY protocol listener wrapper (modules/caddyhttp/proxyprotocol)
It runs before any HTTP code and decides what `RemoteAddr` IS: listenerwrapper.go `Provision`
(the `ConnPolicyFunc` closure), policy.go (`fallback_policy` names), and what go-proxyproto's
`Listener.Accept` / `Conn.readHeader` do with the chosen policy. -/

/-- policy.go `Policy` (caddy's numbering: IGNORE is the zero value, hence the default) -/
inductive PPolicy where
  | ignore | use | reject | require | skip
deriving DecidableEq, Repr

/-- policy.go `parsePolicy` (`UnmarshalText`): `policyMapRev[strings.ToUpper(name)]`; `none` = "invalid policy" -/
def parsePolicy (name : Bytes) : Option PPolicy :=
  if asciiUpper name = [73, 71, 78, 79, 82, 69] then some .ignore                  -- IGNORE
  else if asciiUpper name = [85, 83, 69] then some .use                            -- USE
  else if asciiUpper name = [82, 69, 74, 69, 67, 84] then some .reject             -- REJECT
  else if asciiUpper name = [82, 69, 81, 85, 73, 82, 69] then some .require        -- REQUIRE
  else if asciiUpper name = [83, 75, 73, 80] then some .skip                       -- SKIP
  else none

/-- `caddy.IsUnixNetwork(network) || caddy.IsFdNetwork(network)`: `strings.HasPrefix(netw, "unix")` / `"fd"` -/
def unixOrFd (network : Bytes) : Bool :=
  ([117, 110, 105, 120] : Bytes).isPrefixOf network || ([102, 100] : Bytes).isPrefixOf network

/-- the provisioned wrapper -/
structure PPCfg (Prefix : Type) where
  allow : List Prefix
  deny : List Prefix
  fallback : PPolicy

/-- what the `ConnPolicyFunc` returns: a policy, or an error (the connection is not accepted) -/
inductive PolicyResult where
  | policy (p : PPolicy)
  | refuse
deriving DecidableEq, Repr

section
variable {Addr Prefix : Type}

/-- the containment tests of the policy closure, on the (zone-less) peer address -/
def rangePolicy (N : Net Addr Prefix) (cfg : PPCfg Prefix) (ip : Addr) : PPolicy :=
  if cfg.deny.any (fun r => N.contains r ip) then .reject
  else if cfg.allow.any (fun r => N.contains r ip) then .use
  else cfg.fallback

/-- listenerwrapper.go, the closure assigned to `pp.policy`.  The host is parsed as it stands (a zoned
    link-local address is accepted) and the zone is then dropped — `ip = ip.WithZone("")`, modelled as
    parsing the host again without its zone — so that the ranges apply to link-local peers too. -/
def connPolicy (N : Net Addr Prefix) (cfg : PPCfg Prefix) (network peer : Bytes) : PolicyResult :=
  if unixOrFd network then .policy .use                     -- "trust unix sockets"
  else
    match splitHostPort peer with
    | none => .refuse
    | some hp =>
      match N.parseAddr hp.1 with
      | none => .refuse
      | some _ =>
        match N.parseAddr (cutZone hp.1) with
        | none => .refuse          -- (not reachable with net/netip: what parses with a zone parses without)
        | some ip => .policy (rangePolicy N cfg ip)

/-- an accepted connection as the HTTP server sees it -/
structure Accepted where
  remote : Bytes         -- `conn.RemoteAddr().String()`
  readOK : Bool          -- the first `Read` succeeds
deriving DecidableEq, Repr

/-- go-proxyproto `Listener.Accept` + `Conn.readHeader` + `Conn.RemoteAddr` under a policy.
    `claim` = the source address a PROXY header sent by the peer claims (`none` = no header). -/
def underPolicy (p : PPolicy) (peer : Bytes) (claim : Option Bytes) : Accepted :=
  match p, claim with
  | .skip, _ => ⟨peer, true⟩                    -- not wrapped at all: the header (if any) is payload
  | .reject, some _ => ⟨peer, false⟩            -- ErrSuperfluousProxyHeader
  | .require, none => ⟨peer, false⟩             -- ErrNoProxyProtocol
  | .use, some src => ⟨src, true⟩
  | .require, some src => ⟨src, true⟩
  | _, _ => ⟨peer, true⟩                        -- IGNORE with a header; USE / REJECT / IGNORE without

/-- one connection through the wrapper; `none` = not accepted -/
def wrapAccept (N : Net Addr Prefix) (cfg : PPCfg Prefix) (network peer : Bytes) (claim : Option Bytes) :
    Option Accepted :=
  match connPolicy N cfg network peer with
  | .refuse => none
  | .policy p => some (underPolicy p peer claim)

end

/-- `Provision`: every `allow` / `deny` expression goes through `netip.ParsePrefix` (CIDRs only: a bare
    address is an error here), the JSON `fallback_policy` through `parsePolicy`; absent = IGNORE -/
def ppFallback : Option Bytes → Option PPolicy
  | none => some .ignore
  | some name => parsePolicy name

/-! ### Caddyfile glue: how the options above are read
httpcaddyfile/serveroptions.go (`trusted_proxies static …`, `trusted_proxies_strict`,
`client_ip_headers …` of the global `servers` block), ip_range.go `StaticIPRange.UnmarshalCaddyfile`,
reverseproxy/caddyfile.go (`trusted_proxies …` of the handler), shorthands.go (`{client_ip}`). -/

def tokPrivateRanges : Bytes := [112, 114, 105, 118, 97, 116, 101, 95, 114, 97, 110, 103, 101, 115]
/-- `{http.vars.client_ip}` -/
def phClientIP : Bytes :=
  [123, 104, 116, 116, 112, 46, 118, 97, 114, 115, 46, 99, 108, 105, 101, 110, 116, 95, 105, 112, 125]

/-- the ASCII bytes of a generated string fact -/
def asciiBytes (s : String) : Bytes := s.toList.map (fun c => c.toNat.toUInt8)

/-- what the adapter replaces the `{client_ip}` shorthand by: looked up in the shorthand table
    REGENERATED from httpcaddyfile/shorthands.go `placeholderShorthands()` (Gen/Glue.lean); a shorthand
    that is not in the table stays as written -/
def clientIPShorthandOf : Bytes :=
  match Gen.placeholderShorthands.lookup "{client_ip}" with
  | some v => asciiBytes v
  | none => asciiBytes "{client_ip}"

/-- `for d.NextArg() { if d.Val() == "private_ranges" { ranges = append(ranges, internal.PrivateRangesCIDR()...); continue }; ranges = append(ranges, d.Val()) }`
    (the same loop in ip_range.go and reverseproxy/caddyfile.go); the list is regenerated from internal/ranges.go -/
def expandRanges : List Bytes → List Bytes
  | [] => []
  | a :: rest => if a = tokPrivateRanges then Gen.privateRanges ++ expandRanges rest else a :: expandRanges rest

/-- one `client_ip_headers` line: append, "specified more than once" is an error (`none`) -/
def addClientIPHeaders : List Bytes → List Bytes → Option (List Bytes)
  | acc, [] => some acc
  | acc, h :: rest => if acc.contains h then none else addClientIPHeaders (acc ++ [h]) rest

/-- all `client_ip_headers` lines, in file order -/
def clientIPHeaderLines : List Bytes → List (List Bytes) → Option (List Bytes)
  | acc, [] => some acc
  | acc, l :: ls =>
    match addClientIPHeaders acc l with
    | none => none
    | some acc' => clientIPHeaderLines acc' ls

/-- `serverOpts.TrustedProxiesRaw = jsonSource` on every `trusted_proxies static` line: the last wins -/
def lastLine : List (List Bytes) → Option (List Bytes)
  | [] => none
  | [l] => some l
  | _ :: l :: ls => lastLine (l :: ls)

/-- what the adapter hands to the server and to the handler -/
structure Adapted where
  srvRanges : Option (List Bytes)        -- none = no trusted_proxies source
  strict : Bool
  clientIPHeaders : Option (List Bytes)  -- none = nil (the Provision default applies)
  rpRanges : List Bytes
  clientIPShorthand : Bytes              -- what `{client_ip}` is replaced by
deriving DecidableEq, Repr

/-- the adapter on the four groups of lines; `strictLines` = number of `trusted_proxies_strict`
    lines, `strictArg` = one of them carries an argument (ArgErr).  `none` = the adapter fails. -/
def adaptOptions (srvLines : List (List Bytes)) (strictLines : Nat) (strictArg : Bool)
    (cihLines rpLines : List (List Bytes)) : Option Adapted :=
  if strictArg then none else
  match clientIPHeaderLines [] cihLines with
  | none => none
  | some hs =>
    some { srvRanges := (lastLine srvLines).map expandRanges
           strict := decide (strictLines > 0)
           clientIPHeaders := if hs.isEmpty then none else some hs
           rpRanges := (rpLines.map expandRanges).flatten
           clientIPShorthand := clientIPShorthandOf }

/-- serveroptions.go `applyServerOptions`: a `servers [<listener address>] { … }` block applies to a server
    iff it names no address or one the server listens on
    (`s.ListenerAddress == "" || slices.Contains(server.Listen, s.ListenerAddress)`); a server no block
    applies to keeps the zero values -/
def optionsFor (target : Option Bytes) (listen : List Bytes) (a : Adapted) : Adapted :=
  match target with
  | none => a
  | some addr =>
    if listen.contains addr then a
    else { a with srvRanges := none, strict := false, clientIPHeaders := none }

end CaddyModel.C10
