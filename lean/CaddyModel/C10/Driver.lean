/-
C10 line-protocol driver (see harness/internal/c10/c10.go for the field list):

  req <srvT> <cih> <strict> <hT> <omit> <remote> <tls> <host> <hdrs> <tbl> <fails> <hops> <mode> <lb> <rt>

  erq <via 1|2|3> <spoil -|hex> <the 15 fields of req>     the same request observed inside handle_errors routes (1|2) /
                                                           handle_response routes (3), see Paths.lean and harness paths.go;
                                                           answer of req ++ ` rh=<hex>` | `noprobe status=500`
  cf <srvTP> <strict> <cih> <rpTP> <target> [<dir r|a|p>]  dir: reverse_proxy | forward_auth | php_fastcgi, answer ++ ` pre=…`
  inc, seq, pp                                             described at `handleReq`, `handleSeq`, `handlePP`

`tbl` carries net/netip's answers for this case (every '%'-free substring of the remote
address / a header value that `ParseAddr` accepts, its `String()`, and `Prefix.Contains`
for each configured range); it instantiates the model's `Net` parameter.
`fails` (0-2) upstream round trips fail and are retried; `hops` = reverse_proxy request header ops
(0 none, 1 set an unrelated field, 2 delete X-Forwarded-Host).
Answers: `ip=<hex> tp=<0|1> ph=<hex> tm=<hex> lg=<hex> cm=<0|1> rm=<0|1> pp=<hex>/0|invalid ck=<0|1|-> xff=<H> xfp=<H> xfh=<H>[ | xff=… xfp=… xfh=…]*` (one triple per attempt; under the fastcgi transport `fcgi ra=… rp=… xff=… xfp=… xfh=…` instead) | `… err` | `bad-op`.
-/
import CaddyModel.C10.Model
import CaddyModel.C10.Paths

namespace CaddyModel.C10

/-- one row of the netip table -/
structure Entry where
  sub : Bytes
  canon : Bytes
  sbits : List Bool
  hbits : List Bool
  fbits : List Bool

/-- a configured range: which list it is in and its position -/
structure PIdx where
  kind : Nat      -- 0 server trusted_proxies, 1 reverse_proxy trusted_proxies, 2 the harness's fixed matcher ranges
  idx : Nat

def tableNet (tbl : List Entry) : Net Entry PIdx where
  parseAddr := fun b => tbl.find? (fun e => e.sub == b)
  contains := fun p a => (if p.kind = 0 then a.sbits else if p.kind = 1 then a.hbits else a.fbits)[p.idx]? == some true
  toString := fun a => a.canon

def cidrChar (c : Char) : Bool :=
  ('0' ≤ c && c ≤ '9') || ('a' ≤ c && c ≤ 'z') || ('A' ≤ c && c ≤ 'Z') || c == ':' || c == '.' || c == '/' ||
  c == '%' || c == '_' || c == '-'

/-- the range expressions of a field, as bytes (ASCII) -/
def rangeExprs (s : String) : List Bytes :=
  if s == "." || s == "nil" then [] else (s.splitOn ",").map asciiBytes

/-- `rt`: one `PA` pair per range expression -/
def parseVerdicts (n : Nat) (s : String) : Option (List RangeVerdict) :=
  if s == "." then (if n = 0 then some [] else none) else
  let ps := s.splitOn ","
  if ps.length ≠ n then none else
  ps.mapM fun p =>
    match p.toList with
    | [a, b] =>
      if (a == '0' || a == '1') && (b == '0' || b == '1') then some ⟨a == '1', b == '1'⟩ else none
    | _ => none

/-- a range list: only its length matters to the model; `none` = malformed -/
def parseRanges (s : String) : Option Nat :=
  if s == "." then some 0 else if s == "nil" then none else
  let ps := s.splitOn ","
  if ps.all (fun p => !p.isEmpty && p.toList.all cidrChar) then some ps.length else none

def parseHexList (s : String) : Option (List Bytes) :=
  if s == "." then some [] else (s.splitOn ",").mapM Hex.decode

def parseBits (n : Nat) (s : String) : Option (List Bool) :=
  if s == "-" then (if n = 0 then some [] else none) else
  if s.length ≠ n then none else
  s.toList.mapM fun c => if c == '0' then some false else if c == '1' then some true else none

/-- zones of the harness's fixed matcher ranges `10.0.0.0/8 2001:db8::/32 ::1 fe80::/10%eth0`
    (same constants in harness/internal/c10/c10.go) -/
def fixedZones : List Bytes := [[], [], [], [101, 116, 104, 48]]

def parseTable (ns nh : Nat) (s : String) : Option (List Entry) :=
  if s == "." then some [] else
  (s.splitOn ";").mapM fun row =>
    match row.splitOn ":" with
    | [a, b, c, d, e] => do
      let sub ← Hex.decode a
      let canon ← Hex.decode b
      let sb ← parseBits ns c
      let hb ← parseBits nh d
      let fb ← parseBits fixedZones.length e
      pure ⟨sub, canon, sb, hb, fb⟩
    | _ => none

def parseHdrs (s : String) : Option (List (Bytes × Bytes)) :=
  if s == "." then some [] else
  (s.splitOn ";").mapM fun nv =>
    match nv.splitOn ":" with
    | [n, v] => do pure ((← Hex.decode n), (← Hex.decode v))
    | _ => none

def parseBool (s : String) : Option Bool :=
  if s == "0" then some false else if s == "1" then some true else none

def showVal : Option (Option (List Bytes)) → String
  | none => "absent"
  | some none => "nil"
  | some (some []) => "empty"
  | some (some vs) => ",".intercalate (vs.map Hex.encode)

def showFwd (f : Fwd) : String :=
  "xff=" ++ showVal f.xff ++ " xfp=" ++ showVal f.xfp ++ " xfh=" ++ showVal f.xfh

def showOut (o : Out) (k : Consumers) (ck : String) (attempts : Option (List Fwd)) (fcgi : Option (Option String)) : String :=
  "ip=" ++ Hex.encode o.clientIP ++ " tp=" ++ (if o.trusted then "1" else "0") ++
  " ph=" ++ Hex.encode k.placeholder ++ " tm=" ++ Hex.encode k.template ++ " lg=" ++ Hex.encode k.logField ++
  " cm=" ++ (if k.clientMatch then "1" else "0") ++ " rm=" ++ (if k.remoteMatch then "1" else "0") ++
  " pp=" ++ (match k.proxyProto with | some a => Hex.encode a ++ "/0" | none => "invalid") ++ " ck=" ++ ck ++
  (match fcgi with
   | some (some e) => " " ++ e
   | some none => " err"
   | none =>
     match attempts with
     | none => " err"
     | some l => " " ++ " | ".intercalate (l.map showFwd))

/-- the set of values a CGI variable was/can be seen to take: `absent` or sorted, `|`-separated hex -/
def showSet (l : List Bytes) : String :=
  if l.isEmpty then "absent" else
  "|".intercalate (((l.map Hex.encode).eraseDups).mergeSort (fun a b => a < b || a == b))

def showFcgi (e : FcgiEnv) : String :=
  "fcgi ra=" ++ Hex.encode e.remoteAddr ++ " rp=" ++ Hex.encode e.remotePort ++
  " xff=" ++ showSet e.xff ++ " xfp=" ++ showSet e.xfp ++ " xfh=" ++ showSet e.xfh

def parseSmall (s : String) : Option Nat :=
  if s == "0" then some 0 else if s == "1" then some 1 else if s == "2" then some 2 else none

def parseOps (s : String) : Option Ops :=
  if s == "0" then some .none else if s == "1" then some .setOther else if s == "2" then some .delXFH else none

def idxList (kind : Nat) (n : Nat) : List PIdx := (List.range n).map (fun i => ⟨kind, i⟩)

/-! `cf <srvTP> <strict> <cih> <rpTP> <target>` — the Caddyfile adapter's reading of the options (see
harness/internal/c10/cf.go).  Answer `srv=… strict=… cih=… rp=… up=…` | `err`. -/

def tokenChar (c : UInt8) : Bool :=
  (48 ≤ c && c ≤ 57) || (97 ≤ c && c ≤ 122) || (65 ≤ c && c ≤ 90) || c == 95 || c == 46 || c == 58 || c == 47 || c == 45

def parseLines (s : String) : Option (List (List Bytes)) :=
  if s == "." then some [] else
  (s.splitOn "|").mapM fun l =>
    if l == "_" then some [] else
    (l.splitOn ",").mapM fun h =>
      match Hex.decode h with
      | some t => if !t.isEmpty && t.all tokenChar then some t else none
      | none => none

def showList (nilWord : String) : Option (List Bytes) → String
  | none => nilWord
  | some [] => "."
  | some l => ",".intercalate (l.map Hex.encode)

def handleCF5 (srvTP strict cih rpTP target : String) (wrapper : Option Wrapper) : String :=
    if target != "g" && target != "t" then "bad-op" else
    let st : Option (Nat × Bool) :=
      if strict == "0" then some (0, false) else if strict == "1" then some (1, false)
      else if strict == "2" then some (2, false) else if strict == "x" then some (1, true) else none
    match parseLines srvTP, st, parseLines cih, parseLines rpTP with
    | some s, some (n, arg), some c, some r =>
      match adaptOptions s n arg c r with
      | none => "err"
      | some a0 =>
        -- g: global block, the one server (:80);  t: block for :8443 — that server gets the options, :80 none
        let tgt : Option Bytes := if target == "t" then some [58, 56, 52, 52, 51] else none
        let a := optionsFor tgt [[58, 56, 52, 52, 51]] a0
        let other := optionsFor tgt [[58, 56, 48]] a0
        (fun body => if target == "t" then
            body ++ " other=" ++ (if other.srvRanges.isSome then "1" else "0") ++ (if other.strict then "1" else "0") ++
              (if other.clientIPHeaders.isSome then "1" else "0")
          else body) <|
        "srv=" ++ showList "nil" a.srvRanges ++ " strict=" ++ (if a.strict then "1" else "0") ++
        " cih=" ++ showList "nil" a.clientIPHeaders ++ " rp=" ++ showList "nil" (some a.rpRanges) ++
        " up=" ++ Hex.encode a.clientIPShorthand ++
        -- the wrappers (forward_auth, php_fastcgi) build the reverse_proxy handler themselves: what they pre-filled
        (match wrapper with
         | none => ""
         | some wr => " pre=" ++ (if (wrapperPrefill wr).isEmpty then "." else
             ",".intercalate (((wrapperPrefill wr).map Hex.encode).mergeSort (fun a b => a < b || a == b))))
    | _, _, _, _ => "bad-op"

def handleCF : List String → String
  | [srvTP, strict, cih, rpTP, target] => handleCF5 srvTP strict cih rpTP target none
  | [srvTP, strict, cih, rpTP, target, dir] =>
    if dir == "r" then handleCF5 srvTP strict cih rpTP target (some .reverseProxy)
    else if dir == "a" then handleCF5 srvTP strict cih rpTP target (some .forwardAuth)
    else if dir == "p" then handleCF5 srvTP strict cih rpTP target (some .phpFastcgi)
    else "bad-op"
  | _ => "bad-op"

/-! `pp <allow> <deny> <fallback> <network> <peer> <claim> <tbl> <via>` — the PROXY protocol listener wrapper (see
harness/internal/c10/pp.go).  The table is the `req` table of the peer string (sbits = allow, hbits = deny),
plus a row for the zoned host when netip accepts it.
Answer `provision-error` | `refused` | `addr=<hex> rd=<ok|err>`. -/

def handlePP : List String → String
  | [allowF, denyF, fb, network, peer, claim, tbl, via] =>
    -- via: j = configured from JSON, c = from a Caddyfile block; the same wrapper either way
    if via != "j" && via != "c" then "bad-op" else
    let fbB : Option (Option Bytes) := if fb == "-" then some none else
      match Hex.decode fb with | some b => (if b.isEmpty then none else some (some b)) | none => none
    let claimB : Option (Option Bytes) := if claim == "-" then some none else (Hex.decode claim).map some
    match parseRanges allowF, parseRanges denyF, fbB, Hex.decode network, Hex.decode peer, claimB with
    | some na, some nd, some fbv, some netw, some peerB, some cl =>
      -- Provision: a range expression without a slash is never a CIDR; an unknown policy name is an error
      if (rangeExprs allowF ++ rangeExprs denyF).any (fun e => !e.contains slash) then "provision-error" else
      match ppFallback fbv with
      | none => "provision-error"
      | some pol =>
        match parseTable na nd tbl with
        | none => "bad-op"
        | some table =>
          match wrapAccept (tableNet table) ⟨idxList 0 na, idxList 1 nd, pol⟩ netw peerB cl with
          | none => "refused"
          | some a => "addr=" ++ Hex.encode a.remote ++ " rd=" ++ (if a.readOK then "ok" else "err")
    | _, _, _, _, _, _ => "bad-op"
  | _ => "bad-op"

/-- `req …` and `inc …` (same fields; `inc` asks for /outer whose template includes /inner through
    templates' httpInclude: the answer is what the virtual sub-request is attributed) -/
def handleReq (inc : Bool) (via : Nat) (spoil : Option Bytes) : List String → String
  | [srvT, cih, strict, hT, omitF, remote, tls, host, hdrs, tbl, failsF, hopsF, modeF, lbF, rtF] =>
    -- `dyn:` = the same ranges answered by a request-scoped IPRangeSource (not among the probe's matcher ranges)
    let dyn := srvT.startsWith "dyn:"
    if inc && dyn then "bad-op" else
    let srvT := if dyn then (srvT.drop 4).toString else srvT
    let srv : Option (Option Nat) := if srvT == "nil" then (if dyn then none else some none) else (parseRanges srvT).map some
    let ci : Option (Option (List Bytes)) := if cih == "nil" then some none else (parseHexList cih).map some
    let st : Option Nat := parseSmall strict
    let om : Option (Bool × Bool × Bool) :=
      match omitF.toList.map (fun c => parseBool c.toString) with
      | [some a, some b, some c] => some (a, b, c)
      | _ => none
    -- tls: 0 plain | 1 r.TLS set | 3 r.TLS set, handshake incomplete | 2 r.TLS recovered by Server.ServeHTTP from the connection in the context
    let early := tls == "3"      -- 3 = TLS, handshake not complete (0-RTT)
    let tlsB : Option Bool := if tls == "2" || tls == "3" then some true else parseBool tls
    match srv, ci, st, parseRanges hT, om, Hex.decode remote, tlsB, Hex.decode host, parseHdrs hdrs with
    | some srv, some ci, some st, some nh, some (o1, o2, o3), some remote, some tls, some host, some wire =>
      let ns := match srv with | some n => n | none => 0
      let exprs := rangeExprs srvT ++ rangeExprs hT
      match parseVerdicts exprs.length rtF with
      | none => "bad-op"
      | some verdicts =>
      -- provisioning (static source, reverse_proxy, matchers) rejects the configuration if an expression is invalid
      -- (the request-scoped source is fed parsed prefixes: an invalid expression there is a malformed case)
      if dyn && !provisionAccepts ((rangeExprs srvT).zip verdicts) then "bad-op" else
      if !provisionAccepts (exprs.zip verdicts) then (if via ≠ 0 then "bad-op" else "provision-error") else
      -- mode: 0 GET over HTTP/1.1 | 1 websocket over HTTP/2; ServeHTTP's rewriting of the prepared request
      -- (method, Upgrade/Connection, :protocol, Sec-WebSocket-Key) does not touch a modelled field
      match parseTable ns nh tbl, parseSmall failsF, parseOps hopsF, (if modeF == "0" || modeF == "1" then (if lbF == "3" then some 3 else parseSmall lbF) else none) with
      | some table, some fails, some ops, some lb =>
        let cfg : Cfg PIdx :=
          { srvTrusted := srv.map (idxList 0), clientIPHeaders := ci, strict := st,
            handlerTrusted := idxList 1 nh, omitXFF := o1, omitXFP := o2, omitXFH := o3 }
        -- the probe's matchers: server ranges, handler ranges, then the fixed ranges
        let mranges : List (MRange PIdx) :=
          (((idxList 0 (if dyn then 0 else ns)).zip (rangeExprs srvT) ++ (idxList 1 nh).zip (rangeExprs hT)).map
            (fun pe => ⟨pe.1, (ipAndZone pe.2).2⟩)) ++
          (fixedZones.zipIdx.map (fun zi => ⟨⟨2, zi.2⟩, zi.1⟩))
        if via ≠ 0 then
          -- `erq`: the same request observed inside a handle_errors route (via 1|2) / a handle_response route (via 3)
          if fails ≠ 0 || ops ≠ Ops.none || lb ≠ 0 || modeF ≠ "0" then "bad-op" else
          (fun (r : Option Req) =>
            match r with
            | none => "noprobe status=500"
            | some r =>
              showOut (routeOut (tableNet table) cfg r) (consumers (tableNet table) mranges r.conn r.clientIP) "-"
                ((routeOut (tableNet table) cfg r).fwd.map (fun f => [f])) none ++
              " rh=" ++ Hex.encode (remoteHostPlaceholder r.conn))
            (if via = 3 then responseRouteReq (tableNet table) cfg ⟨remote, tls, host, early⟩ spoil wire
             else some (errorRouteReq (tableNet table) cfg ⟨remote, tls, host, early⟩ spoil wire))
        else if inc then
          (fun (o : Out) => "inner=" ++ Hex.encode (o.clientIP ++ [124] ++ asciiBytes (if o.trusted then "true" else "false")) ++ " status=200")
            (serveInclude (tableNet table) cfg ⟨remote, tls, host, early⟩ wire)
        else
        showOut (serve (tableNet table) cfg ⟨remote, tls, host, early⟩ wire)
          (serveConsumers (tableNet table) cfg mranges ⟨remote, tls, host, early⟩ wire)
          -- lb: 0 default policy | 1 client_ip_hash (oracle only) | 2 cookie: Secure attribute of the sticky cookie
          (if lb = 2 then
             (match cookieSecure (tableNet table) cfg ⟨remote, tls, host, early⟩ wire with
              | some true => "1" | some false => "0" | none => "-")
           else "-")
          (serveAttempts (tableNet table) cfg ⟨remote, tls, host, early⟩ wire ops fails)
          -- lb = 3: the fastcgi transport; the answer ends with what the application can be told
          (if lb = 3 then some ((serveFcgi (tableNet table) cfg ⟨remote, tls, host, early⟩ wire ops).map showFcgi) else none)
      | _, _, _, _ => "bad-op"
    | _, _, _, _, _, _, _, _, _ => "bad-op"
  | _ => "bad-op"

/-! `seq <server> <proto> <reqs> <tbl>` — 1-4 requests over one real connection to one of twelve running servers
(harness/internal/c10/seq.go): index = 4*t + 2*h + s with trusted_proxies none | 127.0.0.0/8 | 10.0.0.0/8,
client_ip_headers default | [X-Real-IP, X-Forwarded-For], strict 0 | 1.  The peer is 127.0.0.1. -/

def seqCIH : List Bytes :=
  [[88, 45, 82, 101, 97, 108, 45, 73, 80], kXFF]   -- X-Real-IP, X-Forwarded-For

def handleSeq : List String → String
  | [server, proto, reqsF, tbl] =>
    if proto != "1" && proto != "2" then "bad-op" else
    match server.toNat?, (reqsF.splitOn "|").mapM parseHdrs with
    | some idx, some reqs =>
      if idx > 11 || server.length > 2 || reqs.length > 4 then "bad-op" else
      let t := idx / 4
      match parseTable (if t = 0 then 0 else 1) 1 tbl with
      | none => "bad-op"
      | some table =>
        let cfg : Cfg PIdx :=
          { srvTrusted := if t = 0 then none else some [⟨0, 0⟩],
            clientIPHeaders := if (idx / 2) % 2 = 0 then none else some seqCIH,
            strict := idx % 2, handlerTrusted := [], omitXFF := false, omitXFP := false, omitXFH := false }
        let c : Conn := ⟨[49, 50, 55, 46, 48, 46, 48, 46, 49, 58, 49], false, [], false⟩     -- 127.0.0.1:1
        let mr : List (MRange PIdx) := [⟨⟨1, 0⟩, []⟩]                                        -- client_ip 6.6.6.0/24
        " | ".intercalate ((serveConnection (tableNet table) cfg c reqs).map fun o =>
          Hex.encode o.clientIP ++ "/" ++ (if o.trusted then "1" else "0") ++ "/" ++
            (if matchAddress (tableNet table) mr o.clientIP then "1" else "0"))
    | _, _ => "bad-op"
  | _ => "bad-op"

def handle : List String → String
  | "seq" :: rest => handleSeq rest
  | "cf" :: rest => handleCF rest
  | "pp" :: rest => handlePP rest
  | "req" :: rest => handleReq false 0 none rest
  | "inc" :: rest => handleReq true 0 none rest
  | "erq" :: via :: spoil :: rest =>
    -- `erq <via 1|2|3> <spoil: - | hex> <the fields of req>` (harness/internal/c10/paths.go)
    match (if via == "1" then some 1 else if via == "2" then some 2 else if via == "3" then some 3 else none),
          (if spoil == "-" then some none else
            match Hex.decode spoil with
            | some [] => none
            | some b => some (some b)
            | none => none) with
    | some v, some sp => handleReq false v sp rest
    | _, _ => "bad-op"
  | _ => "bad-op"

/-- counter-example lines replayed on the implementation on every run (see Witness.lean) -/
def witnessLines : List String := []   -- the tree violates no clause of C10 (Witness.lean holds model facts about old behaviour)

end CaddyModel.C10
