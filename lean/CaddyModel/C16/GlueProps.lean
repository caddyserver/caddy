/-
C16 — theorems about the parser glue of `ParseGlue.lean` and `Args.lean` (totality clause of the
property, carried for these steps at full strength):

* `replaceEnvVars_total`: for every input and every environment the `{$…}` pass terminates
  within its fuel and never evaluates a slice expression out of range;
  `replaceEnvVars_plain`: text without `{$` is returned unchanged;
  `replaceEnvVars_deterministic`: the result is a function of the bytes and the environment.
* `parseVariadic_in_bounds`: whenever `parseVariadic` reports a range, `0 ≤ start ≤ end ≤ argCount`;
  `expandVariadic_never_panics`: so the `args[start:end]` of `doImport` is always in range.
* `args_index_never_panics`: a negative `{args[N]}` / `{args.N}` index is out of bounds, not a slice
  access (repaired by /repo commit 9ba7071); `args_index_old_code_fails` keeps the counter-example of the code before.
-/
import CaddyModel.C16.ParseGlue
-- `str_ofList` turns `str "…"` into the list of bytes before a test vector is evaluated: the kernel then does not
-- decode the String literal, the dear part of such an evaluation; without this import `repeat rw [str_ofList]` fails silently
import CaddyModel.Util.StrLemmas

namespace CaddyModel.C16

theorem isPrefixB_length : ∀ (p s : Bytes), isPrefixB p s = true → p.length ≤ s.length := by
  intro p s
  fun_induction isPrefixB p s with
  | case1 => exact fun _ => Nat.zero_le _
  | case2 => exact fun h => nomatch h
  | case3 p ps s ss ih => exact fun h => Nat.succ_le_succ (ih (Bool.and_eq_true_iff.1 h).2)

theorem indexOfB_bound (pat : Bytes) :
    ∀ (s : Bytes) (i : Nat), indexOfB pat s = some i → i + pat.length ≤ s.length := by
  intro s
  fun_induction indexOfB pat s with
  | case1 => exact fun _ h => nomatch h
  | case2 x xs hp => rintro _ ⟨⟩; exact Nat.zero_add _ ▸ isPrefixB_length pat _ hp
  | case3 x xs hp ih =>
    intro i h
    obtain ⟨j, hj, rfl⟩ := Option.map_eq_some_iff.1 h
    have := ih j hj
    simp only [List.length_cons]; omega

/-- the bytes behind `offset` get fewer with every round, and both searches answer inside the input -/
theorem envLoop_terminates (env : Bytes → Option Bytes) :
    ∀ (f : Nat) (input : Bytes) (offset : Nat), offset ≤ input.length → input.length - offset < f →
      ∃ out, envLoop env f input offset = .done out := by
  intro f input offset
  fun_induction envLoop env f input offset
  case case1 => omega
  case case2 => omega
  case case3 => exact fun _ _ => ⟨_, rfl⟩
  case case4 _ _ hb h =>
    have := indexOfB_bound spanOpen _ _ hb
    simp only [spanOpen, List.length_cons, List.length_nil, List.length_drop] at this
    omega
  case case5 => exact fun _ _ => ⟨_, rfl⟩
  case case6 _ _ _ _ _ he h =>
    have := indexOfB_bound spanClose _ _ he
    simp only [spanClose, List.length_cons, List.length_nil, List.length_drop] at this
    omega
  case case7 ih => exact fun _ _ => ih (by omega) (by omega)
  case case8 f input offset _ b _ _ e _ h _ ih =>
    intro _ h4
    simp only [List.length_append, List.length_take, List.length_drop] at ih
    -- after a splice the scan continues behind the spliced value, with exactly the bytes behind the span left
    rw [Nat.min_eq_left (by omega), Nat.add_sub_cancel_left] at ih
    exact ih (Nat.le_add_right _ _) (by omega)

theorem replaceEnvVars_total (env : Bytes → Option Bytes) (input : Bytes) :
    ∃ out, replaceEnvVars env input = .done out :=
  envLoop_terminates env _ input 0 (by omega) (by omega)

theorem replaceEnvVars_plain (env : Bytes → Option Bytes) (input : Bytes)
    (h : indexOfB spanOpen input = none) : replaceEnvVars env input = .done input := by
  simp [replaceEnvVars, envLoop, h]

theorem replaceEnvVars_deterministic (env env' : Bytes → Option Bytes) (a b : Bytes)
    (he : env = env') (h : a = b) : replaceEnvVars env a = replaceEnvVars env' b := by rw [he, h]

example : replaceEnvVars (fun k => if k = str "A" then some (str "{$A}v") else none) (str "x{$A}y{$U:d}{$}{$U}z")
    = .done (str "x{$A}vyd{$}z") := by
  repeat rw [str_ofList]
  decide +kernel
example : indexOfB spanOpen (str "plain { $ } text") = none := by rw [str_ofList]; decide

theorem parseVariadic_in_bounds (text : Bytes) (n : Nat) (s e : Int)
    (h : parseVariadic text n = some (s, e)) : 0 ≤ s ∧ s ≤ e ∧ e ≤ (n : Int) := by
  revert h
  fun_cases parseVariadic text n
  case case7 hb =>
    -- the one branch that reports a range has just tested it
    rintro ⟨⟩
    simp only [Bool.or_eq_true, decide_eq_true_eq, not_or, Int.not_lt] at hb
    omega
  all_goals exact fun h => nomatch h

theorem expandVariadic_never_panics (text : Bytes) (args : List Bytes) :
    expandVariadic text args ≠ .panic := by
  fun_cases expandVariadic text args
  case case1 => exact fun h => nomatch h
  case case2 s e h =>
    have hb := parseVariadic_in_bounds text args.length s e h
    rw [sliceRange, if_neg (by simp only [Bool.or_eq_true, decide_eq_true_eq]; omega)]
    exact fun h => nomatch h

example : expandVariadic (str "{args[1:]}") [str "a", str "b", str "c"] = .args [str "b", str "c"] := by
  repeat rw [str_ofList]
  decide +kernel
example : expandVariadic (str "{args[:]}") [] = .args [] := by rw [str_ofList]; decide
example : parseVariadic (str "{args[2:1]}") 3 = none ∧ parseVariadic (str "{args[-1:]}") 3 = none
    ∧ parseVariadic (str "{args[0:4]}") 3 = none ∧ parseVariadic (str "{args[1]}") 3 = none := by
  repeat rw [str_ofList]
  decide +kernel

theorem sliceAt_in_range (args : List Bytes) (v : Int) (h0 : 0 ≤ v) (h1 : v < (args.length : Int)) :
    ∃ a, args[v.toNat]? = some a ∧ sliceAt args v = .val a := by
  have hlt : v.toNat < args.length := by omega
  refine ⟨args[v.toNat], List.getElem?_eq_getElem hlt, ?_⟩
  have hn : ¬ v < 0 := by omega
  simp [sliceAt, hn, List.getElem?_eq_getElem hlt]

theorem args_index_never_panics (bracket : Bool) (idx : Bytes) (args : List Bytes) :
    lookup bracket idx args ≠ .panic := by
  fun_cases lookup bracket idx args
  case case5 v _ h =>
    simp only [Bool.or_eq_true, decide_eq_true_eq, not_or, Int.not_lt, ge_iff_le, Int.not_le] at h
    obtain ⟨a, _, e⟩ := sliceAt_in_range args v h.1 h.2
    exact e ▸ fun h => nomatch h
  all_goals exact fun h => nomatch h

theorem negative_index_is_out_of_bounds (bracket : Bool) (idx : Bytes) (args : List Bytes) (v : Int)
    (h : atoi idx = some v) (hv : v < 0) : lookup bracket idx args = .kept := by
  fun_cases lookup bracket idx args
  case case5 v' hv' hn =>
    obtain rfl : v = v' := Option.some.inj (h.symm.trans hv')
    exact absurd (by simp [hv]) hn
  all_goals rfl

theorem in_range_index_substitutes (bracket : Bool) (idx : Bytes) (args : List Bytes) (v : Int)
    (hne : idx.isEmpty = false) (hcolon : (bracket && idx.contains 58) = false)
    (h : atoi idx = some v) (h0 : 0 ≤ v) (h1 : v < (args.length : Int)) :
    ∃ a, args[v.toNat]? = some a ∧ lookup bracket idx args = .val a := by
  obtain ⟨a, e1, e2⟩ := sliceAt_in_range args v h0 h1
  refine ⟨a, e1, ?_⟩
  unfold lookup
  simp only [hne, hcolon, h, Bool.false_eq_true, if_false]
  rw [if_neg (by simp only [Bool.or_eq_true, decide_eq_true_eq]; omega)]
  exact e2

example : lookup true (str "1") [str "a", str "b"] = .val (str "b") := by decide
example : lookup true (str "-1") [str "a"] = .kept ∧ lookup false (str "-1") [str "a"] = .kept := by decide
example : atoi (str "-1") = some (-1) ∧ atoi (str "+2") = some 2 ∧ atoi (str "1x") = none
    ∧ atoi (str "99999999999999999999") = none := by
  repeat rw [str_ofList]
  decide +kernel

/-- non-vacuity: before /repo commit 9ba7071 both forms reached `args[-1]` -/
theorem args_index_old_code_fails :
    ∃ (idx : Bytes) (args : List Bytes),
      lookupOld true idx args = .panic ∧ lookupOld false idx args = .panic :=
  ⟨str "-1", [str "a"], by decide⟩

end CaddyModel.C16
