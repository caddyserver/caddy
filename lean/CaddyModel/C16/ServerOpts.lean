/-
C16 — the `servers` global option applied to the servers of a Caddyfile
(httpcaddyfile: `evaluateGlobalOptionsBlock`'s sort + duplicate-address check, and
`applyServerOptions` in serveroptions.go), for servers `srv<i>` that listen on given addresses.

* the option blocks are sorted by the length of their listener address, longest first
  (`sort.Slice`; for the ≤ 12 blocks a file realistically has that is an insertion sort, hence
  stable), two blocks with the same address are rejected;
* a server takes the FIRST block whose address is empty or among its listen addresses;
* two blocks with the same name are rejected; every server's final name is computed from the
  names as they were (since 42cbd3d) and a name two servers would share is rejected.
  Before, the renames were applied one at a time in Go map order (`renameOld`, with the
  iteration order as an explicit argument).
-/
import CaddyModel.C16.Model

namespace CaddyModel.C16

/-- one `servers [<addr>] { name …; timeouts { idle … } }` block -/
structure SrvOpt where
  addr : String
  name : Option String
  idle : Option Nat
  deriving DecidableEq, Repr

/-- a server before the options are applied: default name, listen addresses -/
structure Srv where
  name : String
  listen : List String
  idle : Option Nat := none
  deriving DecidableEq, Repr

/-- `sort.Slice(serverOpts, len(i.addr) > len(j.addr))` (insertion sort region) -/
def sortOpts (opts : List SrvOpt) : List SrvOpt :=
  insertionSort (fun a b => decide (a.addr.length > b.addr.length)) opts

/-- the first block that applies to a server -/
def optFor (sorted : List SrvOpt) (s : Srv) : Option SrvOpt :=
  sorted.find? fun o => o.addr == "" || s.listen.contains o.addr

def hasDup : List String → Bool
  | [] => false
  | x :: xs => xs.contains x || hasDup xs

def optNames (opts : List SrvOpt) : List String := opts.filterMap (·.name)

/-- the server with its options set and its final name -/
def applyOne (sorted : List SrvOpt) (s : Srv) : Srv :=
  match optFor sorted s with
  | none => s
  | some o => ⟨o.name.getD s.name, s.listen, o.idle⟩

/-- `none`: the Caddyfile is rejected -/
def applyServerOptions (opts : List SrvOpt) (servers : List Srv) : Option (List Srv) :=
  if hasDup (opts.map (·.addr)) then none                       -- duplicate listener addresses
  else if hasDup (optNames opts) then none                      -- duplicate server name
  else if hasDup ((servers.map (applyOne (sortOpts opts))).map (·.name)) then none   -- one name, two servers
  else some (servers.map (applyOne (sortOpts opts)))

/-! ### the rename loop before 42cbd3d -/

def removeName (m : List (String × Srv)) (k : String) : List (String × Srv) := m.filter (·.1 != k)

/-- `servers[new] = servers[old]; delete(servers, old)` for the renames in the given order -/
def renameOld : List (String × String) → List (String × Srv) → List (String × Srv)
  | [], m => m
  | (old, new) :: rest, m =>
    match m.find? (·.1 == old) with
    | none => renameOld rest (removeName (removeName m new) old)   -- servers[new] = nil entry; not reached in the witnesses
    | some (_, s) => renameOld rest ((new, s) :: removeName (removeName m new) old)

end CaddyModel.C16
