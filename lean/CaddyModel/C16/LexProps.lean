/-
C16 — the first stage of `Adapter.Adapt` is the Caddyfile lexer; its model lives with C17
(`CaddyModel/C17/Lexer.lean`, one structural recursion over the input runes, validated
byte-for-byte against `caddyfile.Tokenize` by C17's correspondence stream and, on C16's own
corpus mutations, by the `lex:` part of the `adapt` answers).  Totality and determinism of
that stage hold by construction: the model is a total function.  `lex` and `lexSummary`, which
the driver runs, are defined here.
-/
import CaddyModel.C17.Lexer
import CaddyModel.Util.StrLemmas   -- `str_ofList`, see GlueProps.lean

namespace CaddyModel.C16

open CaddyModel.C17 (tokenize decodeUtf8 Token LexErr)

/-- `caddyfile.Tokenize` on the bytes of a file -/
def lex (inp : Bytes) : Except LexErr (List Token) := tokenize (decodeUtf8 inp)

theorem lex_total (inp : Bytes) : (∃ ts, lex inp = .ok ts) ∨ (∃ e, lex inp = .error e) := by
  cases h : lex inp with
  | ok ts => exact Or.inl ⟨ts, rfl⟩
  | error e => exact Or.inr ⟨e, rfl⟩

theorem lex_deterministic (a b : Bytes) (h : a = b) : lex a = lex b := by rw [h]

/-- canonical summary used in the line protocol -/
def lexSummary (inp : Bytes) : String :=
  match lex inp with
  | .ok ts => "lex:ok:" ++ toString ts.length
  | .error _ => "lex:err"

example : lexSummary (str ":80 {\n\trespond \"a b\" 200\n}\n") = "lex:ok:6" := by rw [str_ofList]; decide +kernel
example : lexSummary (str "a \"unterminated") = "lex:ok:2" := by rw [str_ofList]; decide +kernel
example : lexSummary (str "a <<EOF\nx") = "lex:err" := by rw [str_ofList]; decide +kernel

end CaddyModel.C16
