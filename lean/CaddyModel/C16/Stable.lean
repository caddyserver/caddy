/-
C16 — `sort.SliceStable` above its insertion-sort block size: `stable_func`, `symMerge_func`
and `rotate_func` of Go's `sort/zsortfunc.go` (go1.24), statement by statement, on a list.

Slices `data[x:y]` are `slice d x y`; the three binary-search loops share one shape
(`bsearch`); the element moves (`Swap` runs, `rotate_func`) never consult the comparator and
are written as the block exchanges they implement.  Indices are always in range; `lessAt`
answers `false` outside the list only to be total (nothing is proved from that answer:
the only statements about `symMerge` are closed instances checked by `decide`, and the
correspondence stream compares it with the real `sort.SliceStable` up to 50 elements).
The fuels (`n` for `symMerge`, `mergeRow`, `mergePasses`; `b + 1` for `bsearch`) bound loops whose range
shrinks at every round; that they suffice is not proved either, only tested by the same stream.
-/
import CaddyModel.C16.Model

namespace CaddyModel.C16

section Stable
variable {α : Type}

def slice (d : List α) (x y : Nat) : List α := (d.drop x).take (y - x)

/-- `data.Less(i, j)` -/
def lessAt (lt : α → α → Bool) (d : List α) (i j : Nat) : Bool :=
  match d[i]?, d[j]? with
  | some x, some y => lt x y
  | _, _ => false

/-- `for i < j { h := int(uint(i+j) >> 1); if right(h) { i = h + 1 } else { j = h } }`; returns `i` -/
def bsearch (right : Nat → Bool) : Nat → Nat → Nat → Nat
  | 0, i, _ => i
  | f + 1, i, j =>
    if i < j then
      if right ((i + j) / 2) then bsearch right f ((i + j) / 2 + 1) j
      else bsearch right f i ((i + j) / 2)
    else i

/-- `rotate_func(data, a, m, b)`: exchange the blocks `data[a:m]` and `data[m:b]` -/
def rotate (d : List α) (a m b : Nat) : List α :=
  d.take a ++ slice d m b ++ slice d a m ++ d.drop b

/-- `symMerge_func(data, a, m, b)` -/
def symMerge (lt : α → α → Bool) : Nat → List α → Nat → Nat → Nat → List α
  | 0, d, _, _, _ => d
  | f + 1, d, a, m, b =>
    if m - a == 1 then
      -- insert data[a] into data[m:b]: lowest i with !less(data[i], data[a])
      let i := bsearch (fun h => lessAt lt d h a) (b + 1) m b
      d.take a ++ slice d (a + 1) i ++ slice d a (a + 1) ++ d.drop i
    else if b - m == 1 then
      -- insert data[m] into data[a:m]: lowest i with less(data[m], data[i])
      let i := bsearch (fun h => !lessAt lt d m h) (b + 1) a m
      d.take i ++ slice d m (m + 1) ++ slice d i m ++ d.drop (m + 1)
    else
      let mid := (a + b) / 2
      let n := mid + m
      let start0 := if m > mid then n - b else a
      let r0 := if m > mid then mid else m
      let p := n - 1
      let start := bsearch (fun c => !lessAt lt d (p - c) c) (b + 1) start0 r0
      let stop := n - start
      let d1 := if start < m && m < stop then rotate d start m stop else d
      let d2 := if a < start && start < mid then symMerge lt f d1 a start mid else d1
      if mid < stop && stop < b then symMerge lt f d2 mid stop b else d2

/-- the inner `for b <= n { symMerge(a, a+blockSize, b) … }` loop and the trailing partial pair -/
def mergeRow (lt : α → α → Bool) (bs n : Nat) : Nat → List α → Nat → List α
  | 0, d, _ => d
  | f + 1, d, a =>
    if a + 2 * bs ≤ n then mergeRow lt bs n f (symMerge lt n d a (a + bs) (a + 2 * bs)) (a + 2 * bs)
    else if a + bs < n then symMerge lt n d a (a + bs) n
    else d

/-- `for blockSize < n { …; blockSize *= 2 }` -/
def mergePasses (lt : α → α → Bool) (n : Nat) : Nat → List α → Nat → List α
  | 0, d, _ => d
  | f + 1, d, bs => if bs < n then mergePasses lt n f (mergeRow lt bs n n d 0) (2 * bs) else d

/-- the first loop of `stable_func`: insertion sort on consecutive blocks of `blockSize` -/
def sortBlocks (lt : α → α → Bool) : Nat → List α → List α
  | 0, l => l
  | f + 1, l =>
    if l.length ≤ blockSize then insertionSort lt l
    else insertionSort lt (l.take blockSize) ++ sortBlocks lt f (l.drop blockSize)

/-- `sort.SliceStable(data, less)` -/
def stableSort (lt : α → α → Bool) (l : List α) : List α :=
  if l.length ≤ blockSize then insertionSort lt l
  else mergePasses lt l.length l.length (sortBlocks lt l.length l) blockSize

end Stable

/-- `sortRoutes` (generic in the element type so that the driver can carry indices along) -/
def sortRoutes {α : Type} (lt : α → α → Bool) (l : List α) : List α := stableSort lt l

end CaddyModel.C16
