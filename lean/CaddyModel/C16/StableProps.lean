/-
C16 — `sort.SliceStable` (`Stable.lean`) up to `blockSize` values is one insertion sort, so the cross-kind theorem of
`Lemmas.lean` holds of it there for every `CrossKind` instance; above, `Witness.lean` refutes it.
-/
import CaddyModel.C16.Stable
import CaddyModel.C16.Lemmas

namespace CaddyModel.C16

variable {α : Type}

theorem stableSort_small (lt : α → α → Bool) (l : List α) (h : l.length ≤ blockSize) :
    stableSort lt l = insertionSort lt l := if_pos h

theorem stableSort_cross_kind_invariant (kind : α → Nat) (R lt : α → α → Bool) (hk : CrossKind kind R lt)
    (l l' : List α) (hl : l.length ≤ blockSize) (hl' : l'.length ≤ blockSize)
    (h : ∀ c, l.filter (fun z => kind z == c) = l'.filter (fun z => kind z == c)) :
    stableSort lt l = stableSort lt l' := by
  rw [stableSort_small lt l hl, stableSort_small lt l' hl', insertionSort_cross_kind_invariant' kind R lt hk l l' h]

end CaddyModel.C16
