/-
C16 — "collect from a Go map, then sort": the pattern by which the per-directive unmarshalers turn
a `map[string]…` of Caddyfile arguments into an ordered part of the JSON.  A Go map is ranged over
in an arbitrary order, i.e. the collected slice is an arbitrary PERMUTATION of the entries; the
output is deterministic iff the sort that follows does not depend on that permutation.

`sortByKey` is the sort (insertion-sort region of `sort.Strings` / `sort.Slice`; the theorem is
about any sort that returns the sorted permutation).  `forward_auth`'s `copy_headers`
(modules/caddyhttp/reverseproxy/forwardauth/caddyfile.go) is the instance transliterated here:
the map is keyed by the header name AS WRITTEN, the keys are sorted as strings, and only then
canonicalised (`copyHeaderRoutes`); sorting by the canonical name instead (`copyHeaderRoutesCanon`)
is the variant whose key is not injective on the map's keys.
-/
import CaddyModel.C16.Model

namespace CaddyModel.C16

/-- sort the collected entries by a key -/
def sortByKey {α κ : Type} (lt : κ → κ → Bool) (key : α → κ) (l : List α) : List α :=
  insertionSort (fun a b => lt (key a) (key b)) l

/-! ### forward_auth copy_headers -/

def isTokenChar (c : Char) : Bool :=
  c.isAlphanum || "!#$%&'*+-.^_`|~".toList.contains c

/-- `http.CanonicalHeaderKey` on ASCII: unchanged if a byte is not a token character; otherwise
upper-case the first letter and every letter after `-`, lower-case the rest -/
def canonLoop : Bool → List Char → List Char
  | _, [] => []
  | upper, c :: cs => (if upper then c.toUpper else c.toLower) :: canonLoop (c == '-') cs

def canonicalHeaderKey (s : String) : String :=
  if s.toList.all isTokenChar then String.ofList (canonLoop true s.toList) else s

/-- `headersToCopy[from] = to` for the arguments in order (`a>b`, or `a` = `a>a`): a later
argument with the same spelling replaces the earlier one; the result lists the map's entries in
first-insertion order (one of the orders Go may range in) -/
def setEntry (m : List (String × String)) (k v : String) : List (String × String) :=
  match m with
  | [] => [(k, v)]
  | (k', v') :: rest => if k' == k then (k, v) :: rest else (k', v') :: setEntry rest k v

def headersToCopy (args : List (String × String)) : List (String × String) :=
  args.foldl (fun m kv => setEntry m kv.1 kv.2) []

/-- the copy routes, given the order `iter` in which the map happened to be ranged over:
(header set on the request, header of the auth response it is taken from) -/
def copyHeaderRoutes (iter : List (String × String)) : List (String × String) :=
  (sortByKey (fun (a b : String) => decide (a < b)) (·.1) iter).map fun e =>
    (canonicalHeaderKey e.2, canonicalHeaderKey e.1)

/-- the variant that canonicalises first and sorts by the canonical source name -/
def copyHeaderRoutesCanon (iter : List (String × String)) : List (String × String) :=
  (sortByKey (fun (a b : String) => decide (a < b)) (·.2)
    (iter.map fun e => (canonicalHeaderKey e.2, canonicalHeaderKey e.1)))

end CaddyModel.C16
