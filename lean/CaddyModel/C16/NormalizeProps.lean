/-
C16 — theorems about `Normalize.lean`: lower-casing outside placeholders keeps the length,
is plain ASCII lower-casing when there is no `{` and no backslash, and is idempotent (the step of
`Normalize` that could make a key normalised twice differ from one normalised once; `normalize` as
a whole has no theorem);
`handle_path` strips a prefix of its own path matcher.
-/
import CaddyModel.C16.Normalize
import CaddyModel.Util.StrLemmas   -- `str_ofList`, see GlueProps.lean

namespace CaddyModel.C16

theorem lowerEP_length : ∀ (e p : Bool) (s : Bytes), (lowerEP e p s).length = s.length := by
  intro e p s
  fun_induction lowerEP e p s <;> simp_all only [List.length_cons, List.length_nil, Bool.not_eq_true]

theorem lowerB_cases (c : UInt8) :
    lowerB c = c ∨ (65 ≤ c.toNat ∧ c.toNat ≤ 90 ∧ (lowerB c).toNat = c.toNat + 32) := by
  unfold lowerB
  split
  · rename_i h
    simp only [Bool.and_eq_true, decide_eq_true_eq, UInt8.le_iff_toNat_le, UInt8.toNat_ofNat,
      Nat.reducePow, Nat.reduceMod] at h
    refine Or.inr ⟨h.1, h.2, ?_⟩
    rw [UInt8.toNat_add]; simp; omega
  · exact Or.inl rfl

theorem lowerB_idem (c : UInt8) : lowerB (lowerB c) = lowerB c := by
  rcases lowerB_cases c with h | ⟨h1, h2, h3⟩
  · rw [h, h]
  · rcases lowerB_cases (lowerB c) with h | ⟨h4, h5, _⟩
    · exact h
    · omega

/-- lower-casing does not touch the three bytes the flags depend on: none of them is a letter -/
theorem lowerB_special (c : UInt8) :
    (lowerB c == 92) = (c == 92) ∧ (lowerB c == 123) = (c == 123) ∧ (lowerB c == 125) = (c == 125) := by
  rcases lowerB_cases c with h | ⟨h1, h2, h3⟩
  · rw [h]; exact ⟨rfl, rfl, rfl⟩
  · have (k : UInt8) (hk : 122 < k.toNat ∨ (90 < k.toNat ∧ k.toNat < 97)) : (lowerB c == k) = (c == k) := by
      rw [beq_eq_false_iff_ne.2 (fun e => by rw [e] at h3; omega),
        beq_eq_false_iff_ne.2 (fun e => by rw [e] at h1 h2; omega)]
    exact ⟨this 92 (by decide), this 123 (by decide), this 125 (by decide)⟩

theorem lowerEP_cons (e p : Bool) (ch : UInt8) (rest : Bytes) :
    lowerEP e p (ch :: rest) =
      if (ch == 92 && !e) = true then ch :: lowerEP true p rest
      else if (ch == 123 && !e) = true then ch :: lowerEP false true rest
      else if (ch == 125 && p && !e) = true then lowerB ch :: lowerEP false false rest
      else if p = true then ch :: lowerEP false p rest
      else lowerB ch :: lowerEP false p rest := by
  simp only [lowerEP]

/-- normalising twice is normalising once (for every flag state): a byte that is written
lower-cased takes the same branch again, because lower-casing keeps the three bytes the tests look at -/
theorem lowerEP_idem : ∀ (e p : Bool) (s : Bytes), lowerEP e p (lowerEP e p s) = lowerEP e p s := by
  intro e p s
  fun_induction lowerEP e p s with
  | case1 => rfl
  | case2 e p ch rest h ih => rw [lowerEP_cons, if_pos h, ih]
  | case3 e p ch rest h1 h2 ih => rw [lowerEP_cons, if_neg h1, if_pos h2, ih]
  | case4 e p ch rest h1 h2 h3 ih =>
    obtain ⟨s1, s2, s3⟩ := lowerB_special ch
    rw [lowerEP_cons, s1, s2, s3, if_neg h1, if_neg h2, if_pos h3, lowerB_idem, ih]
  | case5 e ch rest h1 h2 h3 ih => rw [lowerEP_cons, if_neg h1, if_neg h2, if_neg h3, if_pos rfl, ih]
  | case6 e p ch rest h1 h2 h3 hp ih =>
    obtain ⟨s1, s2, s3⟩ := lowerB_special ch
    rw [lowerEP_cons, s1, s2, s3, if_neg h1, if_neg h2, if_neg h3, if_neg hp, lowerB_idem, ih]

theorem lowerExceptPlaceholders_idem (s : Bytes) :
    lowerExceptPlaceholders (lowerExceptPlaceholders s) = lowerExceptPlaceholders s := lowerEP_idem false false s

theorem lowerEP_plain : ∀ (s : Bytes), s.contains 92 = false → s.contains 123 = false →
    lowerEP false false s = s.map lowerB
  | [], _, _ => rfl
  | ch :: rest, h1, h2 => by
    rw [List.contains_cons, Bool.or_eq_false_iff] at h1 h2
    have a1 : (ch == 92) = false := by rw [Bool.beq_comm]; exact h1.1
    have a2 : (ch == 123) = false := by rw [Bool.beq_comm]; exact h2.1
    rw [lowerEP_cons, a1, a2, lowerEP_plain rest h1.2 h2.2]
    simp

example : lowerExceptPlaceholders (str "A.{$Env_X}.Test\\{B}") = str "a.{$Env_X}.test\\{b}" := by
  repeat rw [str_ofList]
  decide +kernel

theorem stripPathOf_prefix (path : Bytes) : ∃ t, path = stripPathOf path ++ t := by
  unfold stripPathOf
  split
  · exact ⟨path.drop (path.length - 2), (List.take_append_drop _ _).symm⟩
  · split
    · exact ⟨path.drop (path.length - 1), (List.take_append_drop _ _).symm⟩
    · exact ⟨[], by simp⟩

/-- an accepted `handle_path` matches its own path token and strips a prefix of it -/
theorem handlePathRoute_shape (path m s : Bytes) (h : handlePathRoute path = some (m, s)) :
    m = path ∧ path.head? = some 47 ∧ ∃ t, path = s ++ t := by
  obtain ⟨hh, e⟩ := Option.ite_none_right_eq_some.1 h
  obtain ⟨rfl, rfl⟩ := Prod.mk.inj (Option.some.inj e)
  exact ⟨rfl, by simpa using hh, stripPathOf_prefix path⟩

example : handlePathRoute (str "/api/*") = some (str "/api/*", str "/api")
    ∧ handlePathRoute (str "/api*") = some (str "/api*", str "/api")
    ∧ handlePathRoute (str "/api") = some (str "/api", str "/api")
    ∧ handlePathRoute (str "/*") = some (str "/*", [])
    ∧ handlePathRoute (str "api/*") = none := by
  repeat rw [str_ofList]
  decide +kernel

end CaddyModel.C16
