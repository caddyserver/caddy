/-
C16 — lemmas, on `Model.lean` alone, for any element type.

1. Go's insertion sort (`insR`, `isortR`, `insertionSort`) under any comparator: it permutes (`insertionSort_perm'`),
   sorts by every transitive relation the comparator's answers respect (`insR_pairwise`, `insertionSort_pairwise`),
   commutes with a map that respects the comparator (`insertionSort_map`).  Also used by C05, C15, `MapSortProps`.
2. Cross-kind order-insensitivity.  `lt` is only assumed to be decided by the kind when kinds differ and to be an
   ARBITRARY relation `R` inside a kind (`CrossKind`) — the real comparator is not a strict weak order there.  The
   reversed sorted prefix is kind-descending (`KindDesc`); inserting `x` leaves every other kind's subsequence
   untouched and acts on its own kind's subsequence exactly like insertion with `R` alone (`insR_step`); a
   kind-descending list is determined by its per-kind subsequences (`kindDesc_ext`).
3. `dirPos` is injective on listed names, so filtering by position is filtering by name (`filter_kind_of_filter_dir`);
   a permutation of values with distinct kinds keeps the per-kind subsequences (`filter_kind_eq_of_perm`).

`Props.lean` instantiates at `less`: the two primed lemmas under their unprimed names, `insertionSort_kind_ascending` as
`insertionSort_follows_directive_order`, `insertionSort_filter_kind` as `insertionSort_kind_subsequence`.
-/
import CaddyModel.C16.Model

namespace CaddyModel.C16

variable {α : Type}

/-! ### 1. insertion sort under any comparator -/

theorem insR_perm (lt : α → α → Bool) (x : α) (l : List α) : (insR lt x l).Perm (x :: l) := by
  induction l with
  | nil => simp [insR]
  | cons y ys ih =>
    simp only [insR]
    split
    · exact (List.Perm.cons y ih).trans (List.Perm.swap x y ys)
    · exact List.Perm.refl _

theorem mem_insR (lt : α → α → Bool) (x z : α) (l : List α) :
    z ∈ insR lt x l ↔ z = x ∨ z ∈ l :=
  (insR_perm lt x l).mem_iff.trans List.mem_cons

theorem foldl_insR_perm (lt : α → α → Bool) (l acc : List α) :
    (l.foldl (fun a x => insR lt x a) acc).Perm (l ++ acc) := by
  induction l generalizing acc with
  | nil => simp
  | cons x xs ih =>
    simp only [List.foldl_cons]
    refine (ih (insR lt x acc)).trans ?_
    refine (List.Perm.append_left xs (insR_perm lt x acc)).trans ?_
    simp

theorem insertionSort_perm' (lt : α → α → Bool) (l : List α) : (insertionSort lt l).Perm l := by
  unfold insertionSort isortR
  exact (List.reverse_perm _).trans (by simpa using foldl_insR_perm lt l [])

/-- `S` relates the REVERSED prefix head to tail: an element that `x` walks past (`lt x y`) stays in front of `x` -/
theorem insR_pairwise (S : α → α → Prop) (lt : α → α → Bool) (x : α)
    (trans : ∀ a b c, S a b → S b c → S a c) :
    ∀ acc : List α, (∀ y ∈ acc, (lt x y = true → S y x) ∧ (lt x y = false → S x y)) →
      acc.Pairwise S → (insR lt x acc).Pairwise S
  | [], _, _ => List.pairwise_singleton S x
  | y :: ys, hx, hp => by
    obtain ⟨hy, hys⟩ := List.pairwise_cons.1 hp
    simp only [insR]
    cases hlt : lt x y with
    | true =>
      refine List.pairwise_cons.2 ⟨fun z hz => ?_, insR_pairwise S lt x trans ys
        (fun z hz => hx z (List.mem_cons_of_mem _ hz)) hys⟩
      rcases (mem_insR lt x z ys).1 hz with h | h
      · exact h ▸ (hx y List.mem_cons_self).1 hlt
      · exact hy z h
    | false =>
      have hxy := (hx y List.mem_cons_self).2 hlt
      refine List.pairwise_cons.2 ⟨fun z hz => ?_, hp⟩
      rcases List.mem_cons.1 hz with h | h
      · exact h ▸ hxy
      · exact trans _ _ _ hxy (hy z h)

/-- the comparator's answers are only asked about an earlier `y` and a later `x` of the input -/
theorem insertionSort_pairwise (S : α → α → Prop) (lt : α → α → Bool)
    (trans : ∀ a b c, S a b → S b c → S a c) (l : List α)
    (hl : l.Pairwise (fun y x => (lt x y = true → S x y) ∧ (lt x y = false → S y x))) :
    (insertionSort lt l).Pairwise S := by
  unfold insertionSort isortR
  rw [List.pairwise_reverse]
  -- the reversed prefix stays sorted, every element of it being earlier in the input than what is still to come
  suffices ∀ acc : List α, acc.Pairwise (fun a b => S b a) →
      (∀ y ∈ acc, ∀ x ∈ l, (lt x y = true → S x y) ∧ (lt x y = false → S y x)) →
      (l.foldl (fun a x => insR lt x a) acc).Pairwise (fun a b => S b a) from
    this [] .nil fun _ h => absurd h List.not_mem_nil
  induction l with
  | nil => exact fun _ ha _ => ha
  | cons x xs ih =>
    obtain ⟨hx, hxs⟩ := List.pairwise_cons.1 hl
    intro acc ha hc
    exact ih hxs _ (insR_pairwise (fun a b => S b a) lt x (fun _ _ _ h1 h2 => trans _ _ _ h2 h1) acc
      (fun y hy => hc y hy x List.mem_cons_self) ha) fun y hy x' hx' => ((mem_insR lt x y acc).1 hy).elim
        (fun e => e ▸ hx x' hx') fun h => hc y h x' (List.mem_cons_of_mem _ hx')

theorem insR_map {β : Type} (lt : α → α → Bool) (lt' : β → β → Bool) (f : α → β)
    (h : ∀ a b, lt' (f a) (f b) = lt a b) (x : α) :
    ∀ l : List α, insR lt' (f x) (l.map f) = (insR lt x l).map f
  | [] => rfl
  | y :: ys => by
    simp only [List.map_cons, insR, h]
    split
    · simp [insR_map lt lt' f h x ys]
    · simp

theorem insertionSort_map {β : Type} (lt : α → α → Bool) (lt' : β → β → Bool) (f : α → β)
    (h : ∀ a b, lt' (f a) (f b) = lt a b) (l : List α) :
    insertionSort lt' (l.map f) = (insertionSort lt l).map f := by
  unfold insertionSort isortR
  rw [List.map_reverse, List.foldl_map]
  exact congrArg List.reverse (List.foldl_hom (List.map f) (init := []) fun acc x => insR_map lt lt' f h x acc)

/-! ### 2. the cross-kind argument -/

/-- head-to-tail kinds are non-increasing (this is the *reversed* sorted prefix) -/
def KindDesc (kind : α → Nat) : List α → Prop
  | [] => True
  | y :: ys => (∀ z ∈ ys, kind z ≤ kind y) ∧ KindDesc kind ys

theorem kindDesc_iff_pairwise (kind : α → Nat) (l : List α) :
    KindDesc kind l ↔ l.Pairwise (fun y z => kind z ≤ kind y) := by
  induction l with
  | nil => simp [KindDesc]
  | cons y ys ih => simp [KindDesc, List.pairwise_cons, ih]

-- `R` is the comparator inside a kind, under a name of its own so that the statements below show that no
-- property of it is used; both instances (`less_cross_kind`, `lessKey_cross_kind`) take `R := lt`
structure CrossKind (kind : α → Nat) (R lt : α → α → Bool) : Prop where
  diff : ∀ x y, kind x ≠ kind y → lt x y = decide (kind x < kind y)
  same : ∀ x y, kind x = kind y → lt x y = R x y

theorem filter_eq_nil_of_lt (kind : α → Nat) (c : Nat) (l : List α)
    (h : ∀ z ∈ l, kind z < c) : l.filter (fun z => kind z == c) = [] :=
  List.filter_eq_nil_iff.2 fun z hz e => Nat.ne_of_lt (h z hz) (eq_of_beq e)

theorem CrossKind.le_of_lt {kind : α → Nat} {R lt : α → α → Bool} (hk : CrossKind kind R lt) (x y : α) :
    (lt x y = true → kind x ≤ kind y) ∧ (lt x y = false → kind y ≤ kind x) := by
  by_cases e : kind x = kind y
  · exact ⟨fun _ => Nat.le_of_eq e, fun _ => Nat.le_of_eq e.symm⟩
  · rw [hk.diff x y e]
    exact ⟨fun h => Nat.le_of_lt (of_decide_eq_true h), fun h => Nat.le_of_not_lt (of_decide_eq_false h)⟩

theorem insR_step (kind : α → Nat) (R lt : α → α → Bool) (hk : CrossKind kind R lt)
    (x : α) (acc : List α) (hd : KindDesc kind acc) :
    KindDesc kind (insR lt x acc) ∧
    ∀ c, (insR lt x acc).filter (fun z => kind z == c) =
      if kind x = c then insR R x (acc.filter (fun z => kind z == c))
      else acc.filter (fun z => kind z == c) := by
  refine ⟨(kindDesc_iff_pairwise _ _).2 (insR_pairwise (fun y z => kind z ≤ kind y) lt x
    (fun _ _ _ h1 h2 => Nat.le_trans h2 h1) acc (fun y _ => hk.le_of_lt x y)
    ((kindDesc_iff_pairwise _ _).1 hd)), fun c => ?_⟩
  induction acc with
  | nil => by_cases hc : kind x = c <;> simp [insR, List.filter, hc]
  | cons y ys ih =>
    obtain ⟨hy, hys⟩ := hd
    have ihf := ih hys
    have hR : kind y = kind x → R x y = lt x y := fun e => (hk.same x y e.symm).symm
    cases hlt : lt x y with
    | true =>
      simp only [insR, hlt, if_true, List.filter_cons, beq_iff_eq, ihf]
      by_cases hc : kind x = c
      · by_cases hyc : kind y = c
        · simp [hc, hyc, insR, hR (hyc.trans hc.symm), hlt]
        · simp [hc, hyc]
      · simp [hc]
    | false =>
      -- `x` stops in front of `y`: `kind y ≤ kind x`, so nothing behind it has a larger kind
      have hyx := (hk.le_of_lt x y).2 hlt
      simp only [insR, hlt, List.filter_cons, beq_iff_eq]
      by_cases hc : kind x = c
      · by_cases hyc : kind y = c
        · simp [hc, hyc, insR, hR (hyc.trans hc.symm), hlt]
        · have hnil : ys.filter (fun z => kind z == c) = [] :=
            filter_eq_nil_of_lt kind c ys fun z hz => by have := hy z hz; omega
          simp [hc, hyc, hnil, insR]
      · simp [hc, List.filter_cons]

theorem fold_inv (kind : α → Nat) (R lt : α → α → Bool) (hk : CrossKind kind R lt)
    (l acc : List α) (hd : KindDesc kind acc) :
    KindDesc kind (l.foldl (fun a x => insR lt x a) acc) ∧
    ∀ c, (l.foldl (fun a x => insR lt x a) acc).filter (fun z => kind z == c) =
      (l.filter (fun z => kind z == c)).foldl (fun a x => insR R x a)
        (acc.filter (fun z => kind z == c)) := by
  induction l generalizing acc with
  | nil => exact ⟨hd, fun c => rfl⟩
  | cons x xs ih =>
    obtain ⟨h1, h2⟩ := insR_step kind R lt hk x acc hd
    obtain ⟨i1, i2⟩ := ih (insR lt x acc) h1
    refine ⟨i1, fun c => ?_⟩
    rw [List.foldl_cons, i2 c, h2 c, List.filter_cons]
    by_cases hc : kind x = c <;> simp [hc]

theorem kindDesc_ext (kind : α → Nat) : ∀ (a b : List α), KindDesc kind a → KindDesc kind b →
    (∀ c, a.filter (fun z => kind z == c) = b.filter (fun z => kind z == c)) → a = b
  | [], [], _, _, _ => rfl
  | [], y :: ys, _, _, h => by
    have := h (kind y); simp [List.filter] at this
  | x :: xs, [], _, _, h => by
    have := h (kind x); simp [List.filter] at this
  | x :: xs, y :: ys, ⟨hx, hxs⟩, ⟨hy, hys⟩, h => by
    -- a head stands in the other list's subsequence of its kind, so its kind is at most the other head's
    have le : ∀ (x : α) (xs : List α) (y : α) (ys : List α), (∀ z ∈ ys, kind z ≤ kind y) →
        (x :: xs).filter (fun z => kind z == kind x) = (y :: ys).filter (fun z => kind z == kind x) →
        kind x ≤ kind y := by
      intro x xs y ys hy h1
      have hm : x ∈ (y :: ys).filter (fun z => kind z == kind x) :=
        h1 ▸ List.mem_filter.2 ⟨List.mem_cons_self, beq_self_eq_true _⟩
      rcases List.mem_cons.1 (List.mem_filter.1 hm).1 with e | e
      · exact Nat.le_of_eq (congrArg kind e)
      · exact hy x e
    have hkxy : kind x = kind y :=
      Nat.le_antisymm (le x xs y ys hy (h (kind x))) (le y ys x xs hx (h (kind y)).symm)
    have h0 := h (kind x)
    simp only [List.filter_cons, hkxy, beq_self_eq_true, if_true] at h0
    obtain ⟨rfl, -⟩ := List.cons.inj h0
    congr 1
    apply kindDesc_ext kind xs ys hxs hys
    intro c
    have hc := h c
    simp only [List.filter_cons] at hc
    split at hc
    · exact (List.cons.inj hc).2
    · exact hc

/-- the result depends only on the per-kind subsequences, for ANY within-kind relation R -/
theorem isort_cross_kind_invariant (kind : α → Nat) (R lt : α → α → Bool) (hk : CrossKind kind R lt)
    (l l' : List α)
    (h : ∀ c, l.filter (fun z => kind z == c) = l'.filter (fun z => kind z == c)) :
    isortR lt l = isortR lt l' := by
  unfold isortR
  obtain ⟨d1, f1⟩ := fold_inv kind R lt hk l [] trivial
  obtain ⟨d2, f2⟩ := fold_inv kind R lt hk l' [] trivial
  apply kindDesc_ext kind _ _ d1 d2
  intro c
  rw [f1 c, f2 c, h c]

theorem insertionSort_cross_kind_invariant' (kind : α → Nat) (R lt : α → α → Bool) (hk : CrossKind kind R lt)
    (l l' : List α)
    (h : ∀ c, l.filter (fun z => kind z == c) = l'.filter (fun z => kind z == c)) :
    insertionSort lt l = insertionSort lt l' :=
  congrArg List.reverse (isort_cross_kind_invariant kind R lt hk l l' h)

theorem insertionSort_kind_ascending (kind : α → Nat) (R lt : α → α → Bool) (hk : CrossKind kind R lt)
    (l : List α) : (insertionSort lt l).Pairwise (fun a b => kind a ≤ kind b) :=
  insertionSort_pairwise (fun a b => kind a ≤ kind b) lt (fun _ _ _ => Nat.le_trans) l
    (List.pairwise_of_forall (l := l) fun y x => hk.le_of_lt x y)

theorem insertionSort_filter_kind (kind : α → Nat) (R lt : α → α → Bool) (hk : CrossKind kind R lt)
    (l : List α) (c : Nat) :
    (insertionSort lt l).filter (fun x => kind x == c) = insertionSort R (l.filter (fun x => kind x == c)) := by
  unfold insertionSort isortR
  rw [List.filter_reverse, (fold_inv kind R lt hk l [] trivial).2 c, List.filter_nil]

/-! ### 3. `dirPos` and the per-kind subsequences -/

theorem dirPosFrom_not_mem (d : String) :
    ∀ (l : List String) (i acc : Nat), d ∉ l → dirPosFrom d i acc l = acc := by
  intro l i acc
  fun_induction dirPosFrom d i acc l with
  | case1 => exact fun _ => rfl
  | case2 i acc x xs ih =>
    intro h
    have hx : (x == d) = false := beq_eq_false_iff_ne.2 fun e => h (e ▸ List.mem_cons_self)
    rw [ih fun e => h (List.mem_cons_of_mem _ e), hx]; rfl

theorem dirPosFrom_mem (d : String) : ∀ (l : List String) (i acc : Nat), d ∈ l →
    ∃ k, l[k]? = some d ∧ dirPosFrom d i acc l = i + k := by
  intro l i acc
  fun_induction dirPosFrom d i acc l with
  | case1 => exact fun h => nomatch h
  | case2 i acc x xs ih =>
    intro h
    by_cases hxs : d ∈ xs
    · obtain ⟨k, hk, he⟩ := ih hxs
      exact ⟨k + 1, hk, by omega⟩
    · have hx : x = d := ((List.mem_cons.1 h).resolve_right hxs).symm
      exact ⟨0, by rw [hx]; rfl, by rw [dirPosFrom_not_mem d xs _ _ hxs, hx]; simp⟩

theorem dirPos_getElem (order : List String) (d : String) (h : d ∈ order) :
    order[dirPos order d]? = some d := by
  obtain ⟨k, hk, he⟩ := dirPosFrom_mem d order 0 0 h
  simp [dirPos, he, hk]

theorem dirPos_injective (order : List String) (d₁ d₂ : String) (h₁ : d₁ ∈ order) (h₂ : d₂ ∈ order)
    (h : dirPos order d₁ = dirPos order d₂) : d₁ = d₂ := by
  have e₁ := dirPos_getElem order d₁ h₁
  have e₂ := dirPos_getElem order d₂ h₂
  rw [h, e₂] at e₁
  exact (Option.some.inj e₁).symm

theorem filter_kind_eq_of_absent (kind : α → Nat) (c : Nat) (l l' : List α)
    (h : ∀ y ∈ l ++ l', kind y ≠ c) :
    l.filter (fun a => kind a == c) = l'.filter (fun a => kind a == c) := by
  rw [List.filter_eq_nil_iff.2 fun y hy e => h y (List.mem_append_left _ hy) (eq_of_beq e),
    List.filter_eq_nil_iff.2 fun y hy e => h y (List.mem_append_right _ hy) (eq_of_beq e)]

theorem filter_kind_of_filter_dir (order : List String) (dir : α → String) (kind : α → Nat) (l l' : List α)
    (hk : ∀ a ∈ l ++ l', kind a = dirPos order (dir a) ∧ dir a ∈ order)
    (h : ∀ d, l.filter (fun a => dir a == d) = l'.filter (fun a => dir a == d)) (c : Nat) :
    l.filter (fun a => kind a == c) = l'.filter (fun a => kind a == c) := by
  by_cases hex : ∃ x ∈ l ++ l', kind x = c
  · obtain ⟨x, hx, hc⟩ := hex
    have key : ∀ m : List α, (∀ y ∈ m, y ∈ l ++ l') →
        m.filter (fun a => kind a == c) = m.filter (fun a => dir a == dir x) := by
      intro m hm
      refine List.filter_congr fun y hy => ?_
      rw [Bool.eq_iff_iff, beq_iff_eq, beq_iff_eq, (hk y (hm y hy)).1, ← hc, (hk x hx).1]
      exact ⟨dirPos_injective order _ _ (hk y (hm y hy)).2 (hk x hx).2, congrArg _⟩
    rw [key l fun _ => List.mem_append_left _, key l' fun _ => List.mem_append_right _, h]
  · exact filter_kind_eq_of_absent kind c l l' fun y hy e => hex ⟨y, hy, e⟩

/-- two values of one filter have the same kind, so "distinct kinds" orders them vacuously -/
theorem filter_kind_eq_of_perm (kind : α → Nat) (l l' : List α) (hp : l.Perm l')
    (hd : (l.map kind).Nodup) (c : Nat) :
    l.filter (fun x => kind x == c) = l'.filter (fun x => kind x == c) :=
  (hp.filter _).eq_of_pairwise (le := fun a b => kind a ≠ kind b)
    (fun _ _ ha hb h _ =>
      absurd ((eq_of_beq (List.mem_filter.1 ha).2).trans (eq_of_beq (List.mem_filter.1 hb).2).symm) h)
    ((List.pairwise_map.1 hd).filter _) ((List.pairwise_map.1 ((hp.map kind).nodup_iff.1 hd)).filter _)

end CaddyModel.C16
