/-
PROPOSAL — NOT THE CODE AS IT IS.  This file models / proves facts about a CANDIDATE repair of
`sortRoutes` (/verif/.run/fixes/C16-sortroutes.patch: precomputed per-route keys compared as a
strict total order) that was reviewed and NOT applied, because it changes the route order of
existing configs with 20 or fewer routes.  It is not imported by the driver, Props or Audit and
is not part of what `./check C16` builds; it is kept as a worked-out option should upstream
want a comparator that is a strict weak order.  The tree's `sortRoutes` is `Model.lean` +
`Stable.lean`; its over-20-routes defect stays a known finding (`Witness.lean`).
-/
/-
C16 — `sortRoutes` of the candidate: every route gets a
sort key once (`keyOf`, computed in written order with two per-directive counters) and
`sort.SliceStable` compares keys (`lessKey`), meant as a strict total order on the keyed
routes of a block (what is proved of it: ProposalKeyedProps.lean); the comparator of the tree
(`less`, `sameDirLess` in `Model.lean`) is not even a strict weak order.

  dirPos  position of the directive in the order in effect (Go map semantics, `dirPos`)
  slot    2·s for a route with a single path, 2·s+1 for a route with a matcher but no single
          path (s = how many such "separator" routes of the same directive were written
          before it), `lastSlot` for a route without matcher / a value that is not a Route
  score   2·len(path), minus 3 if the path ends in `*`
  seq     how many routes of the same directive were written before it
-/
import CaddyModel.C16.Stable

namespace CaddyModel.C16

structure SortKey where
  dirPos : Nat
  slot : Nat
  score : Int
  seq : Nat
  deriving DecidableEq, Repr

/-- `int(^uint(0) >> 1)` -/
def lastSlot : Nat := 9223372036854775807

/-- a Go `map[string]int` read with zero default -/
def counter (m : List (String × Nat)) (d : String) : Nat :=
  match m with
  | [] => 0
  | (k, v) :: rest => if k == d then v else counter rest d

/-- `m[d]++` -/
def bump (m : List (String × Nat)) (d : String) : List (String × Nat) :=
  match m with
  | [] => [(d, 1)]
  | (k, v) :: rest => if k == d then (k, v + 1) :: rest else (k, v) :: bump rest d

/-- has a matcher and is a Route -/
def hasMatcher (x : RouteVal) : Bool := x.isRoute && decide (x.nsets > 0)

/-- `len(pm) == 1 && len(pm[0]) > 0` -/
def singlePath (x : RouteVal) : Bool := hasMatcher x && decide (pathLen x > 0)

/-- `strings.HasSuffix(p, "*")` -/
def endsInStar (p : Bytes) : Bool := p.getLast? == some 42

def scoreOf (x : RouteVal) : Int :=
  if endsInStar (firstPath x) then 2 * (pathLen x : Int) - 3 else 2 * (pathLen x : Int)

/-- the key of one route given the counters before it -/
def keyOf (order : List String) (written separators : List (String × Nat)) (x : RouteVal) : SortKey :=
  if singlePath x then ⟨dirPos order x.dir, 2 * counter separators x.dir, scoreOf x, counter written x.dir⟩
  else if hasMatcher x then ⟨dirPos order x.dir, 2 * counter separators x.dir + 1, 0, counter written x.dir⟩
  else ⟨dirPos order x.dir, lastSlot, 0, counter written x.dir⟩

/-- is a separator: has a matcher but no single path -/
def isSeparator (x : RouteVal) : Bool := hasMatcher x && !singlePath x

/-- the loop that builds `keyed` -/
def keyedFrom (order : List String) : List (String × Nat) → List (String × Nat) → List RouteVal → List (RouteVal × SortKey)
  | _, _, [] => []
  | written, separators, x :: xs =>
    (x, keyOf order written separators x) ::
      keyedFrom order (bump written x.dir) (if isSeparator x then bump separators x.dir else separators) xs

def keyed (order : List String) (l : List RouteVal) : List (RouteVal × SortKey) := keyedFrom order [] [] l

/-- the part of the comparison below the directive test -/
def lessWithin (a b : SortKey) : Bool :=
  if a.slot != b.slot then decide (a.slot < b.slot)
  else if a.score != b.score then decide (a.score > b.score)
  else decide (a.seq < b.seq)

/-- the candidate's `less` closure handed to `sort.SliceStable` -/
def lessKey (a b : RouteVal × SortKey) : Bool :=
  if a.2.dirPos != b.2.dirPos then decide (a.2.dirPos < b.2.dirPos)
  else if a.1.dir == "vars" then lessWithin b.2 a.2
  else lessWithin a.2 b.2

/-- the candidate's `sortRoutes` -/
def sortRoutesKeyed (order : List String) (l : List RouteVal) : List RouteVal :=
  (stableSort lessKey (keyed order l)).map (·.1)

end CaddyModel.C16
