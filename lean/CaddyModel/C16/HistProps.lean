/-
C16 — determinism across the life of a process ("the same text always adapts to byte-identical
JSON"): the `order` global option acts on the file that carries it and on no other (repaired by
/repo commit 1ea4f8f); `order_option_old_code_fails` keeps the counter-example of the code before.
-/
import CaddyModel.Gen.DirectiveOrder
import CaddyModel.C16.History

namespace CaddyModel.C16

/-- `History.adapt` models the deferred restore of `Setup` by returning `global`, so this holds by `rfl` and the
history theorems below are consequences of that way of writing the model; what the code did without the restore
is `adaptOld` (`order_option_old_code_fails`), and the `hist` stream compares both with the code -/
theorem adapt_restores_order (registered global : List String) (f : CFile) :
    (adapt registered global f).2 = global := rfl

theorem orderAfter_of_restores (step : List String → CFile → Adapted × List String)
    (hr : ∀ g f, (step g f).2 = g) (g : List String) : ∀ hist : List CFile, orderAfter step g hist = g
  | [] => rfl
  | f :: fs => by rw [orderAfter, hr, orderAfter_of_restores step hr g fs]

theorem runAll_of_restores (step : List String → CFile → Adapted × List String)
    (hr : ∀ g f, (step g f).2 = g) (g : List String) :
    ∀ hist : List CFile, runAll step g hist = hist.map (fun f => (step g f).1)
  | [] => rfl
  | f :: fs => by rw [runAll, hr, runAll_of_restores step hr g fs]; rfl

/-- whatever the process adapted before (any number of files with any `order`
options, accepted or rejected), a file adapts to what it adapts to in a fresh process -/
theorem adapt_history_independent (registered global : List String) (hist : List CFile) (f : CFile) :
    (adapt registered (orderAfter (adapt registered) global hist) f).1 = (adapt registered global f).1 := by
  rw [orderAfter_of_restores _ (adapt_restores_order registered)]

/-- the same, on the stream of results of a process -/
theorem runAll_adapt (registered global : List String) :
    ∀ hist : List CFile, runAll (adapt registered) global hist = hist.map (fun f => (adapt registered global f).1) :=
  runAll_of_restores _ (adapt_restores_order registered) global

/-- the option still does its job inside its own file -/
example : (adapt Gen.defaultDirectiveOrder Gen.defaultDirectiveOrder
    ⟨[.first "respond"], [⟨"header", true, 0, []⟩, ⟨"respond", true, 0, []⟩]⟩).1
    = .ok [⟨"respond", true, 0, []⟩, ⟨"header", true, 0, []⟩] := by decide +kernel

/-- non-vacuity of the clause: the code before /repo commit 1ea4f8f violated it — after a file with
`order respond first`, a file with `header` + `respond` (no option of its own) came out with
respond first -/
theorem order_option_old_code_fails :
    ∃ (hist : List CFile) (f : CFile),
      (adaptOld Gen.defaultDirectiveOrder (orderAfter (adaptOld Gen.defaultDirectiveOrder) Gen.defaultDirectiveOrder hist) f).1
        ≠ (adaptOld Gen.defaultDirectiveOrder Gen.defaultDirectiveOrder f).1 :=
  ⟨[⟨[.first "respond"], []⟩], ⟨[], [⟨"header", true, 0, []⟩, ⟨"respond", true, 0, []⟩]⟩, by decide +kernel⟩

end CaddyModel.C16
