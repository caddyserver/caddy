/-
C16 — theorems about site addresses (`Addr.lean`).

* `parseAddress_port_in_range`: an accepted address has no port or a decimal port 0…65535;
* `parseAddress_path_shape`: its path is empty or starts with `/`;
* `listenerPort_cases`, `listenerPort_convention`, `listenerPort_scheme`: an accepted site key
  listens on its explicit port, else the HTTP port for `http://`, else the HTTPS port; never on
  the HTTPS port with `http://` nor on the HTTP port with `https://`; only for the schemes
  http, https and none.
-/
import CaddyModel.C16.Addr
import CaddyModel.Util.StrLemmas   -- `str_ofList`, see GlueProps.lean

namespace CaddyModel.C16

theorem parseAddress_some (s : Bytes) (a : Address) (h : parseAddress s = some a) :
    portOK a.port = true ∧ a.path = addrPath (addrRest (C13.trimSpace (s.take 4096))) := by
  obtain ⟨hp, e⟩ := Option.ite_none_right_eq_some.1 h
  rw [← Option.some.inj e]
  dsimp only   -- the fields of the record literal; left to `exact`, the comparison unfolds `hostAndPort`
  exact ⟨hp, rfl⟩

theorem parseAddress_port_in_range (s : Bytes) (a : Address) (h : parseAddress s = some a) :
    a.port = [] ∨ ∃ v, atoi a.port = some v ∧ 0 ≤ v ∧ v ≤ 65535 := by
  have hp := (parseAddress_some s a h).1
  unfold portOK at hp
  rcases Bool.or_eq_true_iff.1 hp with he | hv
  · exact Or.inl (List.isEmpty_iff.1 he)
  · split at hv
    · rename_i v hv'
      exact Or.inr ⟨v, hv', by simpa using hv⟩
    · exact nomatch hv

theorem parseAddress_path_shape (s : Bytes) (a : Address) (h : parseAddress s = some a) :
    a.path = [] ∨ a.path.head? = some 47 := by
  rw [(parseAddress_some s a h).2]
  unfold addrPath
  split
  · exact Or.inr rfl
  · exact Or.inl rfl

theorem listenerPort_some (hp hsp scheme port lp : Bytes) (h : listenerPort hp hsp scheme port = some lp) :
    lp = lnPortOf hp hsp scheme port ∧
    (scheme == sHttps || scheme == sHttp || scheme.isEmpty) = true ∧
    (scheme == sHttp && lp == hsp) = false ∧ (scheme == sHttps && lp == hp) = false := by
  revert h
  fun_cases listenerPort hp hsp scheme port
  case case4 h0 h1 h2 =>
    rintro ⟨⟩
    rw [Bool.not_eq_true', Bool.not_eq_false] at h0
    exact ⟨rfl, h0, Bool.eq_false_iff.2 h1, Bool.eq_false_iff.2 h2⟩
  all_goals exact fun h => nomatch h

theorem listenerPort_cases (hp hsp scheme port lp : Bytes) (h : listenerPort hp hsp scheme port = some lp) :
    (port ≠ [] ∧ lp = port) ∨ (port = [] ∧ scheme = sHttp ∧ lp = hp) ∨ (port = [] ∧ scheme ≠ sHttp ∧ lp = hsp) := by
  obtain ⟨e, _, _, _⟩ := listenerPort_some hp hsp scheme port lp h
  subst e
  unfold lnPortOf
  by_cases hpe : port = []
  · subst hpe
    by_cases hs : scheme = sHttp
    · simp [hs]
    · simp [hs]
  · have : port.isEmpty = false := by simpa using hpe
    simp [this, hpe]

theorem listenerPort_convention (hp hsp scheme port lp : Bytes) (h : listenerPort hp hsp scheme port = some lp) :
    ¬ (scheme = sHttp ∧ lp = hsp) ∧ ¬ (scheme = sHttps ∧ lp = hp) := by
  obtain ⟨_, _, h1, h2⟩ := listenerPort_some hp hsp scheme port lp h
  constructor
  · rintro ⟨rfl, rfl⟩; simp at h1
  · rintro ⟨rfl, rfl⟩; simp at h2

theorem listenerPort_scheme (hp hsp scheme port lp : Bytes) (h : listenerPort hp hsp scheme port = some lp) :
    scheme = sHttps ∨ scheme = sHttp ∨ scheme = [] := by
  obtain ⟨_, h0, _, _⟩ := listenerPort_some hp hsp scheme port lp h
  simpa only [Bool.or_eq_true, beq_iff_eq, List.isEmpty_iff, or_assoc] using h0

example : parseAddress (str " https://A.Test:8443/x ") = some ⟨str "https", str "A.Test", str "8443", str "/x"⟩ := by
  repeat rw [str_ofList]
  decide +kernel
example : parseAddress (str "a.test:65536") = none ∧ parseAddress (str "[::1]:80") = some ⟨[], str "::1", str "80", []⟩ := by
  repeat rw [str_ofList]
  decide +kernel
example : listenerPort (str "80") (str "443") sHttp [] = some (str "80")
    ∧ listenerPort (str "80") (str "443") sHttp (str "443") = none
    ∧ listenerPort (str "80") (str "443") (str "ws") [] = none
    ∧ listenerPort (str "80") (str "443") [] [] = some (str "443") := by
  repeat rw [str_ofList]
  decide

end CaddyModel.C16
