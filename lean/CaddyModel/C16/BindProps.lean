/-
C16 — theorems about the bind → servers glue (`BindGlue.lean`, and `BindKeys.lean` for blocks with several keys).

Validity clause, the part the adapter itself is responsible for: the two arrays `listen` and
`listen_protocols` of every emitted server are parallel (`server_arrays_parallel`; the http app
refuses a config where they are not — "listener protocols count does not match address
count").  Every protocol named by any `bind` of an address is served on it (`bind_protocols_served`,
repaired by /repo commit 4efd026; `bind_protocols_served_old_code_fails`).  Two clauses one would expect and
the code as it is does NOT satisfy are stated in full and refuted by a concrete witness
(`decide`), each replayed on the implementation: a listener address belongs to one server;
every server has a listener.  Their protocol lines, `bindWitnessLines`, which the driver replays,
are defined here.
-/
import CaddyModel.C16.BindGlue
import CaddyModel.C16.BindKeys

namespace CaddyModel.C16

/-- the tidy-up never changes the number of entries: it blanks entries or drops the whole array -/
theorem tidyProtocols_parallel (lps : List (List String)) :
    tidyProtocols lps = none ∨ ∃ l, tidyProtocols lps = some l ∧ l.length = lps.length := by
  unfold tidyProtocols
  split
  · exact Or.inl rfl
  · exact Or.inr ⟨_, rfl, by simp⟩

/-- `serverOf` takes both arrays from the same list of listeners -/
theorem serverOf_arrays_parallel (ps : List Pairing) :
    ∀ s ∈ ps.map serverOf,
      s.listenProtocols = none ∨ ∃ l, s.listenProtocols = some l ∧ l.length = s.listen.length := by
  intro s hs
  obtain ⟨p, _, rfl⟩ := List.mem_map.1 hs
  rcases tidyProtocols_parallel (p.listeners.map (·.2)) with h | ⟨l, h1, h2⟩
  · exact Or.inl h
  · exact Or.inr ⟨l, h1, by simpa [serverOf] using h2⟩

/-- every server the adapter emits for any list of sites has `listen_protocols`
either omitted or exactly as long as `listen` -/
theorem server_arrays_parallel (port : String) (sites : List BSite) :
    ∀ s ∈ serversOf port sites,
      s.listenProtocols = none ∨ ∃ l, s.listenProtocols = some l ∧ l.length = s.listen.length :=
  serverOf_arrays_parallel _

theorem blankDefault_none_iff (ps : List String) : blankDefault ps = none ↔ ps.all (· == "") = true := by
  unfold blankDefault
  split <;> simp [*]

example : serversOf "8080" [⟨"h0.test", [⟨["127.0.0.1"], ["h1"]⟩, ⟨["127.0.0.2"], []⟩]⟩]
    = [⟨["127.0.0.1:8080", "127.0.0.2:8080"], some [some ["h1"], none], [0]⟩] := by decide +kernel
example : tidyProtocols [["h1"], [""]] = some [some ["h1"], none] ∧ tidyProtocols [[""], [""]] = none := by decide

/-- FULL: a listener address is served by ONE server.  Refuted: two sites binding 127.0.0.1 with
`protocols h1` and `protocols h1 h2` become srv0 (h1, both sites) and srv1 (h2, second site) on
the same address — and srv1 has h2 without h1, which the http app refuses. -/
theorem one_address_one_server_full_fails :
    ∃ (sites : List BSite) (a b : BServer) (addr : String),
      serversOf "8080" sites = [a, b] ∧ addr ∈ a.listen ∧ addr ∈ b.listen ∧
      b.listenProtocols = some [some ["h2"]] :=
  ⟨[⟨"h0.test", [⟨["127.0.0.1"], ["h1"]⟩]⟩, ⟨"h1.test", [⟨["127.0.0.1"], ["h1", "h2"]⟩]⟩],
    ⟨["127.0.0.1:8080"], some [some ["h1"]], [0, 1]⟩, ⟨["127.0.0.1:8080"], some [some ["h2"]], [1]⟩, "127.0.0.1:8080",
    by decide +kernel⟩

theorem mem_insSorted (x y : String) : ∀ l : List String, y ∈ insSorted x l ↔ y = x ∨ y ∈ l := by
  intro l
  fun_induction insSorted x l with
  | case1 => simp
  | case2 z zs h => simp
  | case3 z zs h1 h2 => simp [eq_of_beq h2]
  | case4 z zs h1 h2 ih => simp only [List.mem_cons, ih]; exact or_left_comm

theorem mem_sortKeys_foldl (y : String) : ∀ (l acc : List String),
    y ∈ l.foldl (fun acc x => insSorted x acc) acc ↔ y ∈ l ∨ y ∈ acc
  | [], acc => by simp
  | x :: xs, acc => by
    simp only [List.foldl_cons, mem_sortKeys_foldl y xs, mem_insSorted, List.mem_cons]
    exact or_left_comm.trans or_assoc.symm

theorem mem_sortKeys (y : String) (l : List String) : y ∈ sortKeys l ↔ y ∈ l := by
  simp [sortKeys, mem_sortKeys_foldl]

theorem lookupS_cons {β : Type} (k' : String) (v' : β) (m : List (String × β)) (k : String) :
    lookupS ((k', v') :: m) k = if k' == k then some v' else lookupS m k := by
  simp only [lookupS, List.find?_cons]
  split <;> simp [*]

theorem lookupS_setS_same {β : Type} (k : String) (v : β) :
    ∀ m : List (String × β), lookupS (setS m k v) k = some v := by
  intro m
  fun_induction setS m k v with
  | case1 => simp [lookupS_cons]
  | case2 => simp [lookupS_cons]
  | case3 k' v' rest h ih => rw [lookupS_cons, if_neg h, ih]

theorem lookupS_setS_other {β : Type} (k k2 : String) (v : β) (hk : k2 ≠ k) :
    ∀ m : List (String × β), lookupS (setS m k v) k2 = lookupS m k2 := by
  intro m
  have hk' : (k == k2) = false := beq_eq_false_iff_ne.2 (Ne.symm hk)
  fun_induction setS m k v with
  | case1 => simp [hk', lookupS]
  | case2 k' v' rest h => rw [lookupS_cons, lookupS_cons, hk', eq_of_beq h, hk']; rfl
  | case3 k' v' rest h ih => rw [lookupS_cons, lookupS_cons, ih]

/-- protocol `p` is served on listener address `a` -/
def Served (m : List (String × List String)) (a p : String) : Prop :=
  ∃ ps, lookupS m a = some ps ∧ p ∈ ps

theorem served_step (acc : List (String × List String)) (k : String) (prots : List String) (a p : String) :
    (Served acc a p → Served (setS acc k (sortKeys (((lookupS acc k).getD []) ++ prots))) a p) ∧
    (a = k → p ∈ prots → Served (setS acc k (sortKeys (((lookupS acc k).getD []) ++ prots))) a p) := by
  constructor
  · rintro ⟨ps, hl, hp⟩
    by_cases e : a = k
    · subst e
      exact ⟨_, lookupS_setS_same _ _ _, by simp [mem_sortKeys, hl, hp]⟩
    · exact ⟨ps, by rw [lookupS_setS_other _ _ _ e]; exact hl, hp⟩
  · intro e hp
    subst e
    exact ⟨_, lookupS_setS_same _ _ _, by simp [mem_sortKeys, hp]⟩

theorem foldl_reaches {σ β : Type} (Q : σ → Prop) (f : σ → β → σ) (keep : ∀ s b, Q s → Q (f s b)) :
    ∀ (l : List β) (s : σ), (Q s → Q (l.foldl f s)) ∧ (∀ b ∈ l, (∀ s, Q (f s b)) → Q (l.foldl f s))
  | [], _ => ⟨id, fun _ hb => absurd hb List.not_mem_nil⟩
  | x :: xs, s => by
    obtain ⟨i1, i2⟩ := foldl_reaches Q f keep xs (f s x)
    refine ⟨fun h => i1 (keep s x h), fun b hb hq => ?_⟩
    rcases List.mem_cons.1 hb with e | e
    · exact i1 (e ▸ hq s)
    · exact i2 b e hq

theorem addBind_served (port : String) (b : BindVal) (a p : String) (m : List (String × List String)) :
    (Served m a p → Served (addBind port m b) a p) ∧
    ((∃ h ∈ b.addrs, a = lnAddr port h) → p ∈ b.prots → Served (addBind port m b) a p) := by
  -- `addBind` is a fold over the addresses of `b`, each step as in `served_step`
  obtain ⟨f1, f2⟩ := foldl_reaches (Served · a p) _
    (fun acc h => (served_step acc (lnAddr port h) b.prots a p).1) b.addrs m
  exact ⟨f1, fun ⟨h, hm, e⟩ hp => f2 h hm fun acc => (served_step acc (lnAddr port h) b.prots a p).2 e hp⟩

theorem served_binds_fold (port : String) (p : String) (binds : List BindVal) (b : BindVal) (h : String)
    (hb : b ∈ binds) (hh : h ∈ b.addrs) (hp : p ∈ b.prots)
    (acc : List (String × List String)) : Served (binds.foldl (addBind port) acc) (lnAddr port h) p :=
  (foldl_reaches (Served · (lnAddr port h) p) (addBind port) (fun m b => (addBind_served port b _ p m).1) binds acc).2 b hb
    fun m => (addBind_served port b _ p m).2 ⟨h, hh, rfl⟩ hp

/-- (false of the code before /repo commit 4efd026,
`bind_protocols_served_old_code_fails`) every protocol named by ANY `bind` of a listener address is
served on that address, however many `bind` values name it and in whatever order -/
theorem bind_protocols_served (port : String) (binds : List BindVal) (b : BindVal) (h p : String)
    (hb : b ∈ binds) (hh : h ∈ b.addrs) (hp : p ∈ b.prots) :
    Served (listenersFor port binds) (lnAddr port h) p := by
  rw [listenersFor, if_neg (by simpa using List.ne_nil_of_mem hb)]
  exact served_binds_fold port p binds b h hb hh hp []

example : listenersFor "8080" [⟨["127.0.0.1"], ["h1"]⟩, ⟨["127.0.0.1"], ["h2"]⟩] = [("127.0.0.1:8080", ["h1", "h2"])] := by decide +kernel

/-- NON-VACUITY (the code before /repo commit 4efd026): a second `bind` of the same address started its
protocol set afresh (`listeners[addr.String()]` tested the site address, never a key of the
map), so `protocols h1` was lost and `h2` served without it -/
theorem bind_protocols_served_old_code_fails :
    ∃ (binds : List BindVal) (b : BindVal) (p : String),
      b ∈ binds ∧ p ∈ b.prots ∧ b.addrs = ["127.0.0.1"] ∧
      lookupS (listenersForOld "8080" binds) "127.0.0.1:8080" = some ["h2"] ∧ p = "h1" :=
  ⟨[⟨["127.0.0.1"], ["h1"]⟩, ⟨["127.0.0.1"], ["h2"]⟩], ⟨["127.0.0.1"], ["h1"]⟩, "h1", by decide +kernel⟩

/-- FULL: every server has a listener.  Refuted: `bind 127.0.0.1 { protocols h1 h2 }` yields the
server and an empty "ghost" server (the shipped golden bind_fd_fdgram_h123 contains one). -/
theorem every_server_listens_full_fails :
    ∃ (sites : List BSite) (s : BServer), s ∈ serversOf "8080" sites ∧ s.listen = [] ∧ s.blocks = [] :=
  ⟨[⟨"h0.test", [⟨["127.0.0.1"], ["h1", "h2"]⟩]⟩], ⟨[], none, []⟩, by decide +kernel⟩

/-- PARTIAL: without any `protocols` block (every listener serves the default protocols) the
sites of one port come out as servers whose `listen_protocols` is omitted -/
theorem no_protocols_no_array (lps : List (List String)) (h : ∀ ps ∈ lps, ps = [""]) :
    tidyProtocols lps = none := by
  unfold tidyProtocols
  have : (lps.map blankDefault).all (· == none) = true := by
    rw [List.all_eq_true]
    intro x hx
    obtain ⟨ps, hps, rfl⟩ := List.mem_map.1 hx
    rw [h ps hps]
    decide
  rw [if_pos this]

theorem own_binds_override_default (port : String) (dflt : Option (List BindVal)) (binds : List BindVal)
    (h : binds.isEmpty = false) : listenersForD port dflt binds = listenersFor port binds := by
  simp [listenersForD, listenersFor, h]

theorem default_bind_protocols_served (port : String) (ds : List BindVal) (b : BindVal) (h p : String)
    (hb : b ∈ ds) (hh : h ∈ b.addrs) (hp : p ∈ b.prots) :
    Served (listenersForD port (some ds) []) (lnAddr port h) p := by
  simp only [listenersForD, List.isEmpty_nil, if_true]
  exact served_binds_fold port p ds b h hb hh hp []

theorem server_arrays_parallel_D (port : String) (dflt : Option (List BindVal)) (sites : List BSite) :
    ∀ s ∈ serversOfD port dflt sites,
      s.listenProtocols = none ∨ ∃ l, s.listenProtocols = some l ∧ l.length = s.listen.length :=
  serverOf_arrays_parallel _

example : serversOfD "8080" (some [⟨["127.0.0.1"], ["h1"]⟩, ⟨[""], []⟩]) [⟨"h0.test", []⟩, ⟨"h1.test", [⟨["127.0.0.2"], []⟩]⟩]
    = [⟨["127.0.0.1:8080", ":8080"], some [some ["h1"], none], [0]⟩, ⟨["127.0.0.2:8080"], none, [1]⟩] := by decide +kernel

theorem server_arrays_parallel_K (dflt : Option (List BindVal)) (sites : List KSite) :
    ∀ s ∈ serversOfK dflt sites,
      s.listenProtocols = none ∨ ∃ l, s.listenProtocols = some l ∧ l.length = s.listen.length :=
  serverOf_arrays_parallel _

/-- keys on different ports of one block go to different servers, keys on one port stay together -/
example : (serversOfK none [⟨[("a", "8080"), ("b", "8081"), ("c", "8080")], []⟩]).map
    (fun s => (s.listen, s.blocks.flatMap keysOfCode))
    = [([":8080"], [(0, 0), (0, 2)]), ([":8081"], [(0, 1)])] := by decide +kernel

/-- protocol lines of the two counter-examples (replayed on the implementation on every run;
model and implementation agree on them, which is the point) -/
def bindWitnessLines : List String := [
  "bind 127.0.0.1/h1;127.0.0.1/h1+h2",
  "bind 127.0.0.1/h1+h2"
]

end CaddyModel.C16
