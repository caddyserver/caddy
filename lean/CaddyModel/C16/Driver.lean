/-
C16 line-protocol driver.

  order                          the directive order table          → `order a,b,c,…`
  sort <order> <items>           sortRoutes on described values     → `ok i,j,…` | `ok .`
  site <variant> <items>         a generated site block through the whole adapter; the model's
                                 answer is that of `sort = <items>` (variant = spelling choices)
  adapt|madapt <text>            adapter-wide clauses (totality, determinism, validity): evaluated by
                                 the implementation-side oracle only; the model answers for the
                                 first stage, the lexer                     → `lex:ok:<#tokens>` | `lex:err`
  hist <file>/<file>/…           a PROCESS adapting several generated files in turn (nothing reset in
                                 between); file = <ops>~<variant>~<items>, ops = `.` | op,op,…
                                 op = f:dir | l:dir | b:dir:other | a:dir:other  (`order dir first|last|before|after other`)
                                                                            → `ok i,j,…|rej|…` one answer per file
  argidx <b|d> <idx> <n>         `{args[idx]}` (b) / `{args.idx}` (d) inside a snippet imported with the
                                 n arguments a0 … a(n-1)                    → `val <hex>` | `kept` | `panic`
  ws <text>                      `caddyhttp.WeakString(text).MarshalJSON()` through json.Marshal (the encoder of every
                                 status code the adapter emits)                → `ok <hex>` | `err` (never, says the model)
  env <input> <table>            `replaceEnvVars` (the `{$NAME:default}` pass before lexing) under the environment
                                 <table> = `.` | name:value;…  (hex; the process environment is exactly that)
                                                                            → `ok <hex>` | `panic` | `fuel`
  var <text> <n>                 `parseVariadic` on a token with that text and n import arguments
                                                                            → `no` | `yes <start> <end>`
  kbind <sites>                  site blocks with several keys: site = ports~binds, ports = p+p+… (p ∈ 0,1 → 8080, 8081;
                                 key j of site i is http://h<i>k<j>.test:<port>), binds as in `bind` (`.` = none)
                                                                            → `L=… P=… K=i.j,…|…` one per server
  dbind <dflt> <sites>           like `bind`, with `default_bind` global options <dflt> = bind,bind,… (a bind address `0`
                                 stands for "no address": `default_bind { protocols … }`)
  bind <sites>                   site blocks `http://h<i>.test:8080 { bind … }` through the whole adapter: the
                                 servers' listen / listen_protocols / sites.  <sites> = site;site;…  site = `.` (no
                                 bind) | bind,bind,…  bind = addr+addr/prot+prot (`-` = no protocols block)
                                                                            → `L=a,b P=<none|h1+h2,-> B=0,1|…` one per server
  sopts <sites> <opts>           sites on port 8080+2i, listening on `:port` (1) or, through `bind 127.0.0.1 127.0.0.2`, on two addresses (2) and `servers` option blocks
                                 <opts> = `.` | a/n/d;…   a = `*` (no address) | i.k (port k of site i)   n = `-` | name
                                 d = `-` | idle seconds; through the whole adapter       → `name=:p+:q:idle|…` (by name) | `rej`
  addr <text>                    `ParseAddress` on ASCII bytes              → `ok <scheme> <host> <port> <path>` (hex) | `err`
  norm <text>                    `ParseAddress(text).Normalize()` on ASCII bytes → `ok <scheme> <host> <port> <path>` | `err` | `v6`
                                 (`v6`: the host contains `:`; netip's re-spelling of IPv6 literals is outside the model)
  hp <path>                      `handle_path <path> { respond x }` through the whole adapter → `ok <matcher> <strip>` | `rej`
  lnp <scheme> <port>            the site key [<scheme>://]a.test[:<port>] through the whole adapter: the port of
                                 the listener address                       → `ok <port>` | `rej`
  nr <routes> <site>             named routes `&(name) { … }` and a site invoking them: no directive lost, every invoked
                                 route emitted — oracle only                                  → `oracle-only`
  rename <n> <opts>              n sites on ports 8080+i and `servers :<port> { name … }` options (i:name,…): repeated
                                 adaptation and "no server lost", oracle only                 → `oracle-only`
  fauth <args>                   `forward_auth … { copy_headers <args> }` through the whole adapter (args = from[>to];…):
                                 the copy routes in order                   → `To<From,To<From,…`
  imp <defs>                     import expansion under the cycle check through caddyfile.Parse: defs = def;def;…  def 0 =
                                 `b=<items>` (site block body), def k = `s=<items>` (snippet s<k>) | `f=<items>` (file f<k>.conf),
                                 items = `-` | m<N> (directive line) , i<K> (import of def K)   → `ok <markers>` | `cycle` | `missing` | `no-node` | `fuel`
  dadapt <text>                  a text with case-variant duplicate names, adapted 64 times (oracle only) → `oracle-only`
  nmeq <textA> <textB>           like eqv, for sites whose named matchers are used at top level, in nested blocks and
                                 inside handle_errors (plus "a named matcher means the same at every use")
  perm <text> <seed>             \
  eqv <textA> <textB>             | oracle only, no model answer            → `oracle-only`
  leak <textP> <textT>           /

  <order> = `=` (the default table) | `.` (empty) | name,name,…        name = [a-z_0-9]+
  <items> = `.` | item;item;…    item = name:<r|n>:<nsets 0-9>:<paths>
  <paths> = `.` (no path matcher) | hex,hex,…  (`-` = empty string)
-/
import CaddyModel.Gen.DirectiveOrder
import CaddyModel.C16.Model
import CaddyModel.C16.Import
import CaddyModel.C16.Stable
import CaddyModel.C16.LexProps
import CaddyModel.C16.History
import CaddyModel.C16.Args
import CaddyModel.C16.ParseGlue
import CaddyModel.C16.BindGlue
import CaddyModel.C16.BindKeys
import CaddyModel.C16.ServerOpts
import CaddyModel.C16.Addr
import CaddyModel.C16.Normalize
import CaddyModel.C16.MapSort
import CaddyModel.C16.WeakString

namespace CaddyModel.C16

def nameChar (c : Char) : Bool := ('a' ≤ c && c ≤ 'z') || c == '_' || ('0' ≤ c && c ≤ '9')

def nameOK (s : String) : Bool := !s.isEmpty && s.toList.all nameChar

/-- canonical lower-case hex only (the harness rejects anything else) -/
def hexField (s : String) : Option Bytes :=
  match Hex.decode s with
  | some b => if Hex.encode b == s then some b else none
  | none => none

def canonNat (s : String) : Option Nat :=
  match s.toNat? with
  | some n => if toString n == s then some n else none
  | none => none

def parseOrder (s : String) : Option (List String) :=
  if s == "=" then some Gen.defaultDirectiveOrder
  else if s == "." then some []
  else
    let names := s.splitOn ","
    if names.all nameOK then some names else none

def parsePaths (s : String) : Option (List Bytes) :=
  if s == "." then some [] else (s.splitOn ",").mapM hexField

def parseItem (s : String) : Option RouteVal :=
  match s.splitOn ":" with
  | [d, rn, ns, ps] =>
    if !nameOK d then none else
    match (if rn == "r" then some true else if rn == "n" then some false else none), canonNat ns, parsePaths ps with
    | some r, some n, some p => if n ≤ 9 then some ⟨normalizeDirectiveName d, r, n, p⟩ else none
    | _, _, _ => none
  | _ => none

def parseItems (s : String) : Option (List RouteVal) :=
  if s == "." then some [] else (s.splitOn ";").mapM parseItem

def showIdx (l : List Nat) : String :=
  if l.isEmpty then "." else ",".intercalate (l.map toString)

def answerSort (order : List String) (items : List RouteVal) : String :=
  "ok " ++ showIdx ((sortRoutes (fun (a b : Nat × RouteVal) => less order a.2 b.2)
      ((List.range items.length).zip items)).map (·.1))

/-! `site`: the shapes a Caddyfile line can realise (mirrors `shapeOK` of the harness) -/

def siteDirs : List String :=
  ["map", "vars", "fs", "root", "log_append", "log_name", "header", "redir", "method", "rewrite", "uri",
   "request_header", "templates", "handle", "handle_path", "route", "error", "respond",
   "reverse_proxy", "php_fastcgi", "file_server", "tracing", "push"]

def sitePathChar (c : UInt8) : Bool :=
  (97 ≤ c && c ≤ 122) || (48 ≤ c && c ≤ 57) || c == 47 || c == 42 || c == 46 || c == 95 || c == 45

def sitePathOK (p : Bytes) : Bool := p.head? == some 47 && p.all sitePathChar

/-- `rawDir` is the name as written (before `handle_path ↦ handle`), `hasPaths` = a path matcher is present -/
def siteShapeOK (rawDir : String) (hasPaths : Bool) (x : RouteVal) : Bool :=
  siteDirs.contains rawDir && x.paths.all sitePathOK &&
  (if !x.isRoute then rawDir == "php_fastcgi" && x.nsets == 0 && !hasPaths
   else if rawDir == "php_fastcgi" && x.nsets == 0 then false
   else if rawDir == "handle_path" then x.nsets == 1 && x.paths.length == 1
   else if x.nsets == 0 then !hasPaths
   else if x.nsets == 1 then (!hasPaths || x.paths.length == 1 || x.paths.length == 2)
   else false)

def siteItemOK (s : String) : Bool :=
  match s.splitOn ":", parseItem s with
  | [d, _, _, ps], some x => siteShapeOK d (ps != ".") x
  | _, _ => false

/-! `hist` -/

def parseOp (s : String) : Option OrderOp :=
  match s.splitOn ":" with
  | ["f", d] => if Gen.defaultDirectiveOrder.contains d then some (.first d) else none
  | ["l", d] => if Gen.defaultDirectiveOrder.contains d then some (.last d) else none
  | ["b", d, o] => if Gen.defaultDirectiveOrder.contains d && nameOK o then some (.before d o) else none
  | ["a", d, o] => if Gen.defaultDirectiveOrder.contains d && nameOK o then some (.after d o) else none
  | _ => none

def parseOps (s : String) : Option (List OrderOp) :=
  if s == "." then some [] else (s.splitOn ",").mapM parseOp

def parseHistFile (s : String) : Option CFile :=
  match s.splitOn "~" with
  | [ops, variant, items] =>
    match parseOps ops, canonNat variant, parseItems items with
    | some o, some _, some its =>
      if items == "." || (items.splitOn ";").all siteItemOK then some ⟨o, its⟩ else none
    | _, _, _ => none
  | _ => none

/-- one file of a history: the model's `adapt` decides acceptance and the order left behind;
the indices come from the same sort carried out on (index, value) pairs -/
def answerHistFile (g : List String) (f : CFile) : String :=
  match (adapt Gen.defaultDirectiveOrder g f).1 with
  | .rejected => "rej"
  | .ok sorted =>
    if (sortRoutes (fun (a b : Nat × RouteVal) => less (applyOps Gen.defaultDirectiveOrder g f.ops).1 a.2 b.2)
        ((List.range f.routes.length).zip f.routes)).map (·.2) == sorted then
      answerSort (applyOps Gen.defaultDirectiveOrder g f.ops).1 f.routes
    else "model-inconsistent"

def answerHist : List String → List CFile → List String
  | _, [] => []
  | g, f :: fs => answerHistFile g f :: answerHist (adapt Gen.defaultDirectiveOrder g f).2 fs

/-! `argidx` -/

def idxChar (c : UInt8) : Bool :=
  (48 ≤ c && c ≤ 57) || c == 43 || c == 45 || (97 ≤ c && c ≤ 122) || c == 95 || c == 46 || c == 58

def argList (n : Nat) : List Bytes := (List.range n).map fun i => [97, (48 + i).toUInt8]

def showArgRes : ArgRes → String
  | .val a => "val " ++ Hex.encode a
  | .kept => "kept"
  | .panic => "panic"

/-! `env`, `var` -/

def envNameOK (k : Bytes) : Bool := !k.isEmpty && !k.contains 61 && !k.contains 0

def parseEnvTable (s : String) : Option (List (Bytes × Bytes)) :=
  if s == "." then some [] else
  (s.splitOn ";").mapM fun kv =>
    match kv.splitOn ":" with
    | [k, v] =>
      match hexField k, hexField v with
      | some kb, some vb => if envNameOK kb && !vb.contains 0 then some (kb, vb) else none
      | _, _ => none
    | _ => none

/-- `os.LookupEnv` in a process whose environment is exactly the table (a later `Setenv` of the
same name overwrites an earlier one) -/
def envOfTable (l : List (Bytes × Bytes)) : Bytes → Option Bytes :=
  fun k => (l.reverse.find? (·.1 == k)).map (·.2)

def showEnvRes : EnvRes → String
  | .done o => "ok " ++ Hex.encode o
  | .panic => "panic"
  | .fuel => "fuel"

/-! `bind` -/

def bindAddrOK (a : String) : Bool := !a.isEmpty && a.toList.all fun c => ('0' ≤ c && c ≤ '9') || c == '.'
def bindProtOK (p : String) : Bool := p == "h1" || p == "h2" || p == "h3"

def parseBind (s : String) : Option BindVal :=
  match s.splitOn "/" with
  | [as, ps] =>
    if (as.splitOn "+").all bindAddrOK && (ps == "-" || (ps.splitOn "+").all bindProtOK) then
      some ⟨as.splitOn "+", if ps == "-" then [] else ps.splitOn "+"⟩
    else none
  | _ => none

def parseBSites (s : String) : Option (List BSite) :=
  ((s.splitOn ";").zip (List.range (s.splitOn ";").length)).mapM fun (t, i) =>
    if t == "." then some ⟨"h" ++ toString i ++ ".test", []⟩
    else ((t.splitOn ",").mapM parseBind).map fun bs => ⟨"h" ++ toString i ++ ".test", bs⟩

def showLP : Option (List (Option (List String))) → String
  | none => "none"
  | some l => ",".intercalate (l.map fun | none => "-" | some ps => "+".intercalate ps)

def showBServer (b : BServer) : String :=
  "L=" ++ ",".intercalate b.listen ++ " P=" ++ showLP b.listenProtocols ++ " B=" ++ ",".intercalate (b.blocks.map toString)

/-! `sopts` -/

/-- the listen addresses of the sites, in file order -/
def parseSitesListen (s : String) : Option (List (List String)) :=
  ((s.splitOn ",").zip (List.range (s.splitOn ",").length)).mapM fun (t, i) =>
    if t == "1" then some [":" ++ toString (8080 + 2 * i)]
    else if t == "2" then some ["127.0.0.1:" ++ toString (8080 + 2 * i), "127.0.0.2:" ++ toString (8080 + 2 * i)]
    else none

/-- default names: pairings are numbered in the order `consolidateAddrMappings` meets them while it
walks the sorted listener addresses (`BindGlue.consolidate`), i.e. by smallest address -/
def defaultName (all : List (List String)) (l : List String) : String :=
  "srv" ++ toString ((all.filter fun o => decide (o.headD "" < l.headD "")).length)

def parseSitesPorts (s : String) : Option (List Srv) :=
  (parseSitesListen s).map fun ls => ls.map fun l => ⟨defaultName ls l, l, none⟩

def parseSrvOpt (servers : List Srv) (s : String) : Option SrvOpt :=
  match s.splitOn "/" with
  | [a, n, d] =>
    let addr : Option String :=
      if a == "*" then some "" else
      match a.splitOn "." with
      | [i, k] =>
        match canonNat i, canonNat k with
        | some i', some k' => (servers[i']?).bind fun sv => sv.listen[k']?
        | _, _ => none
      | _ => none
    let name : Option (Option String) :=
      if n == "-" then some none
      else if nameOK n && !n.contains '_' && a != "*" then some (some n) else none
    let idle : Option (Option Nat) :=
      if d == "-" then some none
      else match canonNat d with
        | some v => if 1 ≤ v && v ≤ 99 then some (some v) else none
        | none => none
    match addr, name, idle with
    | some a', some n', some d' => some ⟨a', n', d'⟩
    | _, _, _ => none
  | _ => none

def showSrv (s : Srv) : String :=
  s.name ++ "=" ++ "+".intercalate s.listen ++ ":" ++ (match s.idle with | none => "-" | some v => toString v)

/-! `addr`, `lnp` -/

def asciiOnly (b : Bytes) : Bool := b.all (· < 128)

def lowerA (b : Bytes) : Bytes := b.map fun c => if 65 ≤ c && c ≤ 90 then c + 32 else c

def siteKeyText (scheme port : Bytes) : Bytes :=
  (if scheme.isEmpty then [] else scheme ++ schemeSep) ++ str "a.test" ++ (if port.isEmpty then [] else 58 :: port)

def parseImpItem (s : String) : Option Import.Item :=
  match s.toList with
  | 'm' :: ds => (canonNat (String.ofList ds)).bind fun n => if n ≤ 99 then some (.marker n) else none
  | 'i' :: ds => (canonNat (String.ofList ds)).bind fun n => if 1 ≤ n && n ≤ 99 then some (.imp n) else none
  | _ => none

def parseImpDef (k : Nat) (s : String) : Option Import.Def :=
  match s.toList with
  | c :: '=' :: rest =>
    if rest.isEmpty then none else
    if (k == 0) != (c == 'b') || (k > 0 && c != 's' && c != 'f') then none else
    let body := String.ofList rest
    if body == "-" then some ⟨c == 's', []⟩ else
    match (body.splitOn ",").mapM parseImpItem with
    | some its => if its.length ≤ 6 then some ⟨c == 's', its⟩ else none
    | none => none
  | _ => none

def answerImp (field : String) : String :=
  let parts := field.splitOn ";"
  if parts.length > 8 then "bad-op" else
  match (parts.zipIdx).mapM (fun (p : String × Nat) => parseImpDef p.2 p.1) with
  | none => "bad-op"
  | some defs =>
    match Import.run defs with
    | .ok ms => "ok " ++ (if ms.isEmpty then "-" else ",".intercalate (ms.map toString))
    | .cycle => "cycle"
    | .missing => "missing"
    | .noNode => "no-node"
    | .fuel => "fuel"

def handle : List String → String
  | ["imp", defs] => answerImp defs
  | ["addr", t] =>
    match hexField t with
    | some b =>
      if !asciiOnly b then "bad-op" else
      match parseAddress b with
      | some a => "ok " ++ Hex.encode a.scheme ++ " " ++ Hex.encode a.host ++ " " ++ Hex.encode a.port ++ " " ++ Hex.encode a.path
      | none => "err"
    | none => "bad-op"
  | ["norm", t] =>
    match hexField t with
    | some b =>
      if !asciiOnly b then "bad-op" else
      match parseAddress b with
      | some a =>
        if (C13.trimSpace a.host).contains 58 then "v6" else
        "ok " ++ Hex.encode (normalize a).scheme ++ " " ++ Hex.encode (normalize a).host ++ " " ++
          Hex.encode (normalize a).port ++ " " ++ Hex.encode (normalize a).path
      | none => "err"
    | none => "bad-op"
  | ["hp", t] =>
    match hexField t with
    | some b =>
      if !b.isEmpty && b.all sitePathChar then
        match handlePathRoute b with
        | some (m, st) => "ok " ++ Hex.encode m ++ " " ++ Hex.encode st
        | none => "rej"
      else "bad-op"
    | none => "bad-op"
  | ["lnp", sc, po] =>
    match hexField sc, hexField po with
    | some s, some p =>
      if s.all (fun c => (65 ≤ c && c ≤ 90) || (97 ≤ c && c ≤ 122)) && p.all (fun c => 48 ≤ c && c ≤ 57) && p.length ≤ 5 then
        match parseAddress (siteKeyText s p) with
        | some a =>
          (match listenerPort (str "80") (str "443") (lowerA a.scheme) a.port with
           | some lp => "ok " ++ bytesToString lp
           | none => "rej")
        | none => "rej"
      else "bad-op"
    | _, _ => "bad-op"
  | ["sopts", sites, opts] =>
    match parseSitesPorts sites with
    | some servers =>
      if servers.length > 6 then "bad-op" else
      match (if opts == "." then some [] else (opts.splitOn ";").mapM (parseSrvOpt servers)) with
      | some os =>
        if os.length > 8 then "bad-op" else
        match applyServerOptions os servers with
        | none => "rej"
        | some res => "|".intercalate ((insertionSort (fun (a b : Srv) => decide (a.name < b.name)) res).map showSrv)
      | none => "bad-op"
    | none => "bad-op"
  | ["kbind", sites] =>
    let parseSite := fun (t : String) =>
      match t.splitOn "~" with
      | [ps, bs] =>
        let ports := (ps.splitOn "+").mapM fun p => if p == "0" then some "8080" else if p == "1" then some "8081" else none
        let binds := if bs == "." then some [] else (bs.splitOn ",").mapM parseBind
        match ports, binds with
        | some pl, some bl =>
          if pl.length ≤ 4 then some (KSite.mk (((List.range pl.length).zip pl).map fun (jp : Nat × String) => ("k" ++ toString jp.1, jp.2)) bl) else none
        | _, _ => none
      | _ => none
    match (sites.splitOn ";").mapM parseSite with
    | some ss =>
      if ss.length ≤ 6 then
        "|".intercalate ((serversOfK none ss).map fun (b : BServer) =>
          "L=" ++ ",".intercalate b.listen ++ " P=" ++ showLP b.listenProtocols ++ " K=" ++
            ",".intercalate ((b.blocks.flatMap keysOfCode).map fun (ij : Nat × Nat) => toString ij.1 ++ "." ++ toString ij.2))
      else "bad-op"
    | none => "bad-op"
  | ["dbind", dflt, sites] =>
    match (dflt.splitOn ",").mapM parseBind, parseBSites sites with
    | some ds, some ss =>
      if ss.length ≤ 10 && ds.length ≤ 4 then
        "|".intercalate ((serversOfD "8080"
          (some (ds.map fun b => ⟨b.addrs.map (fun a => if a == "0" then "" else a), b.prots⟩)) ss).map showBServer)
      else "bad-op"
    | _, _ => "bad-op"
  | ["bind", sites] =>
    match parseBSites sites with
    | some ss => if ss.length ≤ 10 then "|".intercalate ((serversOf "8080" ss).map showBServer) else "bad-op"
    | none => "bad-op"
  | ["ws", t] =>
    match hexField t with
    | some b => "ok " ++ Hex.encode (weakMarshal b)
    | none => "bad-op"
  | ["env", inp, table] =>
    match hexField inp, parseEnvTable table with
    | some i, some t => showEnvRes (replaceEnvVars (envOfTable t) i)
    | _, _ => "bad-op"
  | ["var", text, n] =>
    match hexField text, canonNat n with
    | some t, some k =>
      if k ≤ 9 then
        match parseVariadic t k with
        | none => "no"
        | some (a, b) => "yes " ++ toString a ++ " " ++ toString b
      else "bad-op"
    | _, _ => "bad-op"
  | ["hist", files] =>
    match (files.splitOn "/").mapM parseHistFile with
    | some fs => "|".intercalate (answerHist Gen.defaultDirectiveOrder fs)
    | none => "bad-op"
  | ["argidx", form, idx, n] =>
    match (if form == "b" then some true else if form == "d" then some false else none), hexField idx, canonNat n with
    | some br, some i, some k => if k ≤ 6 && i.all idxChar then showArgRes (lookup br i (argList k)) else "bad-op"
    | _, _, _ => "bad-op"
  | ["order"] => "order " ++ ",".intercalate Gen.defaultDirectiveOrder
  | ["sort", ord, items] =>
    match parseOrder ord, parseItems items with
    | some o, some its => answerSort o its
    | _, _ => "bad-op"
  | ["site", variant, items] =>
    match canonNat variant, parseItems items with
    | some _, some its =>
      if items == "." || (items.splitOn ";").all siteItemOK then answerSort Gen.defaultDirectiveOrder its
      else "bad-op"
    | _, _ => "bad-op"
  | ["adapt", t] => match hexField t with | some b => lexSummary b | none => "bad-op"
  | ["madapt", t] => match hexField t with | some b => lexSummary b | none => "bad-op"
  | ["nr", routes, site] =>
    let itemOK := fun (it : String) => it == "h" || it == "r" || it == "v" ||
      (match it.splitOn ":" with | ["i", n] => n.length == 1 && n.toList.all (fun c => 'a' ≤ c && c ≤ 'z') | _ => false)
    let routeOK := fun (r : String) =>
      match r.splitOn "=" with
      | [n, its] => n.length == 1 && n.toList.all (fun c => 'a' ≤ c && c ≤ 'z') && !its.isEmpty &&
          (its.splitOn ",").all itemOK && (its.splitOn ",").length ≤ 5
      | _ => false
    if (routes == "." || ((routes.splitOn ";").all routeOK && (routes.splitOn ";").length ≤ 5)) &&
        !site.isEmpty && (site.splitOn ",").all itemOK && (site.splitOn ",").length ≤ 5 then "oracle-only" else "bad-op"
  | ["rename", n, opts] =>
    match canonNat n with
    | some k =>
      if 1 ≤ k && k ≤ 6 && (opts == "." || (opts.splitOn ",").all fun o =>
          match o.splitOn ":" with
          | [i, nm] => (match canonNat i with | some j => decide (j < k) | none => false) && !nm.isEmpty &&
              nm.toList.all (fun c => ('a' ≤ c && c ≤ 'z') || ('0' ≤ c && c ≤ '9'))
          | _ => false) then "oracle-only" else "bad-op"
    | none => "bad-op"
  | ["perm", t, seed] => if (hexField t).isSome && (canonNat seed).isSome then "oracle-only" else "bad-op"
  | ["fauth", args] =>
    let nameOK' := fun (n : String) => !n.isEmpty && n.toList.all fun c => c.isAlphanum || c == '-' || c == '.' || c == '_'
    let parseArg := fun (a : String) =>
      match a.splitOn ">" with
      | [f] => if nameOK' f then some (f, f) else none
      | [f, t] => if nameOK' f && nameOK' t then some (f, t) else none
      | _ => none
    match (args.splitOn ";").mapM parseArg with
    | some as =>
      if as.length ≤ 8 then
        ",".intercalate ((copyHeaderRoutes (headersToCopy as)).map fun (r : String × String) => r.1 ++ "<" ++ r.2)
      else "bad-op"
    | none => "bad-op"
  | ["dadapt", t] => if (hexField t).isSome then "oracle-only" else "bad-op"
  | ["nmeq", a, b] => if (hexField a).isSome && (hexField b).isSome then "oracle-only" else "bad-op"
  | ["eqv", a, b] => if (hexField a).isSome && (hexField b).isSome then "oracle-only" else "bad-op"
  | ["leak", a, b] => if (hexField a).isSome && (hexField b).isSome then "oracle-only" else "bad-op"
  | _ => "bad-op"

end CaddyModel.C16
