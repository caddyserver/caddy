/-
C16 — determinism of "collect from a map, then sort" (`MapSort.lean`).

* `sortByKey_perm_invariant`: if the sort key is INJECTIVE on the collected entries and compared
  by a strict total order, every permutation of the entries (every map iteration order) sorts to
  the same list — full strength: any entry type, any key type, any number of entries; it is the
  instance at `sortByKey` of `sorted_perm_invariant`, which says the same of every function that
  returns a strictly ascending permutation;
* `sortByKey_noninjective_fails`: with a key that two entries share, two iteration orders give
  two different outputs;
* `copyHeaderRoutes_iteration_independent`: forward_auth's copy routes do not depend on the
  order in which `headersToCopy` is ranged over (its keys, the spellings as written, are distinct);
  `copyHeaderRoutesCanon_depends_on_iteration`: sorting by the canonical name does.
-/
import CaddyModel.C16.MapSort
import CaddyModel.C16.Lemmas

namespace CaddyModel.C16

structure StrictTotal {κ : Type} (lt : κ → κ → Bool) : Prop where
  irrefl : ∀ a, lt a a = false
  trans : ∀ a b c, lt a b = true → lt b c = true → lt a c = true
  total : ∀ a b, lt a b = true ∨ a = b ∨ lt b a = true

section
variable {α κ : Type} (lt : κ → κ → Bool) (key : α → κ)

theorem sortByKey_ascending (st : StrictTotal lt) (l : List α) (hn : (l.map key).Nodup) :
    (sortByKey lt key l).Pairwise (fun a b => lt (key a) (key b) = true) := by
  refine insertionSort_pairwise (fun a b => lt (key a) (key b) = true) _ (fun _ _ _ => st.trans _ _ _) l
    ((List.pairwise_map.1 hn).imp fun {y x} hne => ⟨id, fun h => ?_⟩)
  -- not smaller and, the keys being distinct, not equal: larger
  rcases st.total (key x) (key y) with h' | h' | h'
  · exact absurd h' (by simp [h])
  · exact absurd h'.symm hne
  · exact h'

/-- Whatever the algorithm (insertion sort, or Go's pdqsort above 12 elements): a `sort` that returns a
strictly ascending permutation of entries with distinct keys returns the same list for every order of
its input — both results are strictly ascending permutations of the same entries, and a strict order
leaves only one such arrangement -/
theorem sorted_perm_invariant (st : StrictTotal lt) (sort : List α → List α)
    (hperm : ∀ l, (sort l).Perm l)
    (hasc : ∀ l, (l.map key).Nodup → (sort l).Pairwise (fun a b => lt (key a) (key b) = true))
    (l l' : List α) (hp : l.Perm l') (hn : (l.map key).Nodup) : sort l = sort l' := by
  refine List.Perm.eq_of_pairwise (le := fun a b => lt (key a) (key b) = true) ?_
    (hasc l hn) (hasc l' (((hp.map key).nodup_iff).1 hn)) ((hperm l).trans (hp.trans (hperm l').symm))
  intro a b _ _ h1 h2
  exact absurd (st.trans _ _ _ h1 h2) (by simp [st.irrefl])

theorem sortByKey_perm_invariant (st : StrictTotal lt) (l l' : List α)
    (hp : l.Perm l') (hn : (l.map key).Nodup) : sortByKey lt key l = sortByKey lt key l' :=
  sorted_perm_invariant lt key st _ (insertionSort_perm' _) (sortByKey_ascending lt key st) l l' hp hn

end

theorem stringLt_strictTotal : StrictTotal (fun (a b : String) => decide (a < b)) where
  irrefl := fun a => by simp [String.lt_irrefl]
  trans := fun a b c h1 h2 => by
    have h1' : a < b := by simpa using h1
    have h2' : b < c := by simpa using h2
    simpa using String.lt_trans h1' h2'
  total := fun a b => (Std.lt_trichotomy a b).imp decide_eq_true (Or.imp_right decide_eq_true)

/-- NON-VACUITY of the injectivity hypothesis: two entries that share the sort key come out in
the order they were collected in -/
theorem sortByKey_noninjective_fails :
    ∃ (l l' : List (String × Nat)), l.Perm l' ∧
      sortByKey (fun (a b : String) => decide (a < b)) (·.1) l ≠ sortByKey (fun (a b : String) => decide (a < b)) (·.1) l' :=
  ⟨[("k", 1), ("k", 2)], [("k", 2), ("k", 1)], List.Perm.swap _ _ _, by decide⟩

theorem copyHeaderRoutes_iteration_independent (iter iter' : List (String × String))
    (hp : iter.Perm iter') (hn : (iter.map (·.1)).Nodup) :
    copyHeaderRoutes iter = copyHeaderRoutes iter' := by
  unfold copyHeaderRoutes
  rw [sortByKey_perm_invariant _ _ stringLt_strictTotal iter iter' hp hn]

theorem setEntry_keys_nodup : ∀ (m : List (String × String)) (k v : String),
    (m.map (·.1)).Nodup → ((setEntry m k v).map (·.1)).Nodup ∧
      ∀ x, x ∈ (setEntry m k v).map (·.1) ↔ x = k ∨ x ∈ m.map (·.1)
  | [], k, v, _ => by simp [setEntry]
  | (k', v') :: rest, k, v, h => by
    rw [List.map_cons, List.nodup_cons] at h
    obtain ⟨i1, i2⟩ := setEntry_keys_nodup rest k v h.2
    by_cases e : k' = k
    · subst e
      simp only [setEntry, beq_self_eq_true, if_true, List.map_cons, List.nodup_cons, List.mem_cons]
      exact ⟨h, fun x => ⟨Or.inr, fun hx => hx.elim Or.inl id⟩⟩
    · have hb : (k' == k) = false := beq_eq_false_iff_ne.2 e
      simp only [setEntry, hb, Bool.false_eq_true, if_false, List.map_cons, List.nodup_cons, List.mem_cons, i2]
      exact ⟨⟨fun hx => hx.elim e h.1, i1⟩, fun x => or_left_comm⟩

/-- the entries of `headersToCopy` have pairwise distinct keys (it is a map) -/
theorem headersToCopy_keys_nodup (args : List (String × String)) :
    ((headersToCopy args).map (·.1)).Nodup :=
  List.foldlRecOn (motive := fun m => (m.map (·.1)).Nodup) args _ List.nodup_nil
    fun m h kv _ => (setEntry_keys_nodup m kv.1 kv.2 h).1

/-- the clause for this directive: the same `copy_headers` arguments give the same routes under
every iteration order of the map -/
theorem copy_headers_deterministic (args : List (String × String)) (iter : List (String × String))
    (hp : (headersToCopy args).Perm iter) :
    copyHeaderRoutes iter = copyHeaderRoutes (headersToCopy args) :=
  (copyHeaderRoutes_iteration_independent _ _ hp (headersToCopy_keys_nodup args)).symm

example : copyHeaderRoutes [("remote-user", "X-Webauth-User"), ("Remote-User", "Remote-User")]
    = [("Remote-User", "Remote-User"), ("X-Webauth-User", "Remote-User")] := by decide +kernel
example : canonicalHeaderKey "x-wEBauth-user" = "X-Webauth-User" ∧ canonicalHeaderKey "a b" = "a b" := by decide +kernel

/-- NON-VACUITY: sorting by the canonical source name depends on the iteration order as soon as
two spellings of one header are copied -/
theorem copyHeaderRoutesCanon_depends_on_iteration :
    ∃ (iter iter' : List (String × String)), iter.Perm iter' ∧ (iter.map (·.1)).Nodup ∧
      copyHeaderRoutesCanon iter ≠ copyHeaderRoutesCanon iter' :=
  ⟨[("Remote-User", "Remote-User"), ("remote-user", "X-Webauth-User")],
   [("remote-user", "X-Webauth-User"), ("Remote-User", "Remote-User")],
   List.Perm.swap _ _ _, by decide +kernel, by decide +kernel⟩

end CaddyModel.C16
