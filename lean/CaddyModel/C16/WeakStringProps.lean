/-
C16 — theorems about the status-code encoder (WeakString.lean): whatever token text a Caddyfile parser stored,
what `WeakString.MarshalJSON` writes is a JSON value; the "integer is its own encoding" shortcut is not.
-/
import CaddyModel.C16.WeakString
import CaddyModel.Util.StrLemmas   -- `str_ofList`, see GlueProps.lean

namespace CaddyModel.C16

/-- a sequence of complete units of a JSON string body: plain bytes and whole escapes -/
def Units (l : Bytes) : Prop := ∀ r, strBody (l ++ r) = strBody r

theorem units_plain (b : UInt8) (l : Bytes)
    (h : (b == 34) = false ∧ (b == 92) = false ∧ decide (32 ≤ b) = true) (hl : Units l) : Units (b :: l) := by
  intro r
  conv => lhs; rw [List.cons_append]; unfold strBody
  simp [h.1, h.2.1, h.2.2, hl r]

theorem units_uEscape (h1 h2 h3 h4 : UInt8) (h : (isHex h1 && isHex h2 && isHex h3 && isHex h4) = true) :
    Units [92, 117, h1, h2, h3, h4] := by
  intro r
  show (isHex h1 && isHex h2 && isHex h3 && isHex h4 && strBody r) = strBody r
  rw [h, Bool.true_and]

theorem units_simpleEsc (e : UInt8) (hu : (e == 117) = false) (h : simpleEsc e = true) : Units [92, e] := by
  intro r
  conv => lhs; rw [List.cons_append]; unfold strBody
  simp [hu, h]

theorem hexd_nibble_isHex (b : UInt8) :
    isHex (hexd (b >>> 4)) = true ∧ isHex (hexd (b &&& 15)) = true := by
  rcases b with ⟨bv⟩; revert bv; decide +kernel

theorem escAscii_units (b : UInt8) : Units (escAscii b) := by
  fun_cases escAscii b
  case case1 h =>
    rcases Bool.or_eq_true_iff.1 h with e | e <;> rw [eq_of_beq e] <;> exact units_simpleEsc _ (by decide) (by decide)
  case case7 => exact units_uEscape _ _ _ _ (by simp [hexd_nibble_isHex b]; decide)
  case case8 h _ _ _ _ _ h' =>
    simp only [Bool.or_eq_true, not_or, Bool.not_eq_true, decide_eq_false_iff_not] at h h'
    exact units_plain b [] ⟨h.1, h.2, decide_eq_true (UInt8.not_lt.1 h'.1.1.1)⟩ fun _ => rfl
  all_goals exact units_simpleEsc _ (by decide) (by decide)

theorem plain_of_ge (b : UInt8) (h : 128 ≤ b) :
    (b == 34) = false ∧ (b == 92) = false ∧ decide (32 ≤ b) = true :=
  ⟨beq_eq_false_iff_ne.2 fun e => absurd (e ▸ h) (by decide),
   beq_eq_false_iff_ne.2 fun e => absurd (e ▸ h) (by decide),
   decide_eq_true (UInt8.le_trans (by decide) h)⟩

theorem units_high : ∀ l : Bytes, (∀ x ∈ l, 128 ≤ x) → Units l
  | [], _ => fun _ => rfl
  | b :: l, h => units_plain b l (plain_of_ge b (h b (List.mem_cons_self ..)))
      (units_high l fun x hx => h x (List.mem_cons_of_mem _ hx))

theorem cont_ge (b : UInt8) (h : cont b = true) : 128 ≤ b :=
  of_decide_eq_true (Bool.and_eq_true_iff.1 h).1

/-- the cases: an ASCII escape, a well-formed rune copied (all its bytes are ≥ 0x80), the escape of U+2028 / U+2029,
or the replacement character -/
theorem step_units (b : UInt8) (rest : Bytes) : Units (step b rest).1 := by
  fun_cases step b rest
  case case1 => exact escAscii_units b
  case case2 hb _ b1 _ hc =>
    exact units_high _ (by simp [UInt8.not_lt.1 hb, cont_ge b1 hc])
  case case5 b1 b2 _ _ _ =>
    exact units_uEscape _ _ _ _ (by simp [hexd_nibble_isHex b2]; decide)
  case case6 hb _ _ b1 b2 _ hc _ =>
    simp only [Bool.and_eq_true] at hc
    exact units_high _ (by simp [UInt8.not_lt.1 hb, cont_ge b1 hc.1.1, cont_ge b2 hc.2])
  case case9 hb _ _ _ b1 b2 b3 _ hc =>
    simp only [Bool.and_eq_true] at hc
    exact units_high _ (by simp [UInt8.not_lt.1 hb, cont_ge b1 hc.1.1.1, cont_ge b2 hc.1.2, cont_ge b3 hc.2])
  all_goals exact units_uEscape _ _ _ _ (by decide)

theorem quoteGo_strBody (bs : Bytes) (k : Nat) : strBody (quoteGo k bs) = true := by
  fun_induction quoteGo k bs with
  | case1 => decide
  | case2 k _ rest ih => exact ih
  | case3 b rest ih => rw [step_units b rest]; exact ih

theorem jsonQuote_is_string (s : Bytes) : isJsonString (jsonQuote s) = true := by
  simp [jsonQuote, isJsonString, quoteGo_strBody]

theorem dropDigits_all : ∀ (ds : Bytes), ds.all isDigit = true → dropDigits ds = [] := by
  intro ds
  induction ds with
  | nil => intro _; rfl
  | cons d t ih =>
    intro h
    simp only [List.all_cons, Bool.and_eq_true] at h
    simp [dropDigits, h.1, ih h.2]

theorem nonzero_digit (d : UInt8) (hd : isDigit d = true) (h0 : (d == 48) = false) :
    (d == 45) = false ∧ (decide (49 ≤ d) && decide (d ≤ 57)) = true := by
  simp only [isDigit, Bool.and_eq_true, decide_eq_true_eq, beq_eq_false_iff_ne, ne_eq,
    UInt8.le_iff_toNat_le, ← UInt8.toNat_inj, UInt8.toNat_ofNat, Nat.reducePow, Nat.reduceMod] at *
  omega

theorem digits_number (neg : Bool) (d : UInt8) (t : Bytes) (hd : isDigit d = true) (h0 : (d == 48) = false)
    (ht : t.all isDigit = true) : isJsonNumber (if neg then 45 :: d :: t else d :: t) = true := by
  obtain ⟨h45, hr⟩ := nonzero_digit d hd h0
  have hf : fracExp [] = true := rfl
  cases neg <;> simp [isJsonNumber, h45, h0, hr, dropDigits_all t ht, hf]

theorem stripZeros_spec : ∀ (ds : Bytes), ds ≠ [] → ds.all isDigit = true →
    ∃ d t, stripZeros ds = d :: t ∧ isDigit d = true ∧ t.all isDigit = true ∧ (t = [] ∨ (d == 48) = false) := by
  intro ds
  fun_induction stripZeros ds with
  | case1 => exact fun h => absurd rfl h
  | case2 d => exact fun _ h => ⟨d, [], rfl, by simpa using h, rfl, Or.inl rfl⟩
  | case3 d e ds hz ih =>
    intro _ h
    exact ih (List.cons_ne_nil _ _) (by simp only [List.all_cons, Bool.and_eq_true] at h ⊢; exact h.2)
  | case4 d e ds hz =>
    intro _ h
    simp only [List.all_cons, Bool.and_eq_true] at h
    exact ⟨d, e :: ds, rfl, h.1, by simpa using h.2, Or.inr (by simpa using hz)⟩

theorem intText_is_number (neg : Bool) (ds : Bytes) (hne : ds ≠ []) (hall : ds.all isDigit = true) :
    isJsonNumber (intText neg ds) = true := by
  obtain ⟨d, t, hz, hd, ht, hor⟩ := stripZeros_spec ds hne hall
  unfold intText
  simp only [hz]
  by_cases h48 : (d :: t == [48]) = true
  · simp only [h48, if_true]; decide
  · simp only [h48]
    have h0 : (d == 48) = false := by
      cases hor with
      | inl h => subst h; simpa using h48
      | inr h => exact h
    exact digits_number neg d t hd h0 ht

theorem signDigits_other (s : Bytes) (h1 : s = [] → False) (h2 : ∀ ds, s = 45 :: ds → False)
    (h3 : ∀ ds, s = 43 :: ds → False) : signDigits s = (false, s) := by
  unfold signDigits
  split
  · exact absurd rfl h1
  · exact absurd rfl (h2 _)
  · exact absurd rfl (h3 _)
  · rfl

/-- what `strconv.Atoi` accepts is an optional sign and a non-empty string of decimal digits -/
theorem atoi_some_digits (s : Bytes) (v : Int) (h : atoi s = some v) :
    (signDigits s).2 ≠ [] ∧ (signDigits s).2.all isDigit = true := by
  -- the accepting branches are the ones behind the test "not empty, all digits" (or, unsigned, "all digits")
  have key : ∀ ds : Bytes, (!ds.isEmpty && ds.all isDigit) = true → ds ≠ [] ∧ ds.all isDigit = true :=
    fun ds hc => by simpa using hc
  revert h
  fun_cases atoi s
  case case2 hc _ => exact fun _ => key _ hc
  case case5 hc _ => exact fun _ => key _ hc
  case case8 h1 h2 h3 hc _ => exact fun _ => signDigits_other s h1 h2 h3 ▸ ⟨fun e => h1 e, hc⟩
  all_goals exact fun h => nomatch h

/-- WHATEVER token text a Caddyfile parser stored as a status code, `WeakString.MarshalJSON` writes a JSON value:
a boolean, a JSON number (never `0200`, `+404`, `-007`: the value is re-encoded) or a JSON string.  So the handler
that carries it marshals, and the adapter cannot lose it on the way to the output. -/
theorem weakMarshal_is_json (s : Bytes) : isJsonValue (weakMarshal s) = true := by
  fun_cases weakMarshal s
  case case1 => decide
  case case2 => decide
  case case3 v ha =>
    have := atoi_some_digits s v ha
    simp [isJsonValue, intText_is_number _ _ this.1 this.2]
  case case4 => simp [isJsonValue, jsonQuote_is_string]

/-- the shortcut "an integer is its own JSON encoding" writes text that is not JSON for tokens Atoi accepts -/
theorem weakMarshal_verbatim_fails :
    isJsonValue (weakMarshalVerbatim (str "0200")) = false ∧
    isJsonValue (weakMarshalVerbatim (str "+404")) = false ∧
    isJsonValue (weakMarshalVerbatim (str "-007")) = false := by
  repeat rw [str_ofList]
  decide +kernel

/-- … which the encoder re-spells as the value -/
theorem weakMarshal_respells :
    weakMarshal (str "0200") = str "200" ∧ weakMarshal (str "+404") = str "404" ∧
    weakMarshal (str "-007") = str "-7" ∧ weakMarshal (str "-0") = str "0" := by
  repeat rw [str_ofList]
  decide +kernel

example : weakMarshal (str "1e3") = [34, 49, 101, 51, 34] := by
  repeat rw [str_ofList]
  decide +kernel
example : weakMarshal (str "a<b") = str "\"a\\u003cb\"" := by
  repeat rw [str_ofList]
  decide +kernel
example : weakMarshal (str "99999999999999999999") = 34 :: (str "99999999999999999999" ++ [34]) := by
  repeat rw [str_ofList]
  decide +kernel

-- non-vacuity: all three kinds of value occur, and the recognisers reject what is not JSON
example : isJsonNumber (weakMarshal (str "007")) = true ∧ isJsonString (weakMarshal (str "x y")) = true ∧
    weakMarshal (str "true") = str "true" := by
  repeat rw [str_ofList]
  decide +kernel
example : isJsonValue (str "0200") = false := by decide +kernel
example : isJsonValue (str "+1") = false := by decide +kernel
example : isJsonValue [34, 97] = false := by decide +kernel
example : isJsonValue [34, 97, 92, 120, 34] = false := by decide +kernel
example : isJsonValue (str "1.") = false := by decide +kernel
example : isJsonValue (str "-") = false := by decide +kernel
example : isJsonValue (str "1e3") = true := by decide +kernel
example : isJsonValue (str "-0.5E+7") = true := by decide +kernel
example : isJsonValue [34, 92, 117, 48, 48, 101, 57, 34] = true := by decide +kernel
example : (step 226 [128, 168, 65]).1 = [92, 117, 50, 48, 50, 56] := by decide
example : (step 226 [128, 168, 65]).2 = 2 := by decide
example : (step 237 [160, 128]).1 = ufffd := by decide

end CaddyModel.C16
