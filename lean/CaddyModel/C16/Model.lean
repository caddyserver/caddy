/-
C16 — model of `sortRoutes` (caddyconfig/httpcaddyfile/directives.go:436-520), the one place
where the Caddyfile adapter decides the order of HTTP handler directives, as the code is:

* `dirPositions` is a Go map filled by ranging over `directiveOrder`: a directive listed twice
  gets its LAST index, a directive that is not listed reads the zero value 0 (`dirPos`);
* the comparator (`less`) consults only those positions when the two directive names differ;
  for equal names it is the path-length heuristic (`sameDirLess`), which is NOT a strict weak
  order (see `Witness.lean`), reversed for `vars`, and constantly false when a value is not a
  `caddyhttp.Route`;
* `handle_path` is renamed to `handle` before sorting (`normalizeDirectiveName`, httptype.go);
* `sort.SliceStable` is `stable_func` of Go's `sort` package: insertion sort on blocks of 20
  (`insR`/`isortR`: the inner loop moves the new element left while `less new prev`), followed,
  when there are more than 20 elements, by SymMerge passes (`symMerge`, `mergePasses`).

Strings that are only compared for equality (directive names) are `String`; path matchers are
byte strings (`len`, `strings.TrimSuffix` work on bytes).  Core Lean only, structural recursion.
-/
import CaddyModel.Util.Hex

namespace CaddyModel.C16

/-- one `ConfigValue` of class "route" as `sortRoutes` sees it -/
structure RouteVal where
  /-- `ConfigValue.directive` (already normalized) -/
  dir : String
  /-- `Value.(caddyhttp.Route)` succeeds -/
  isRoute : Bool
  /-- `len(Route.MatcherSetsRaw)` -/
  nsets : Nat
  /-- the `path` matcher of the first matcher set (`[]`: none) -/
  paths : List Bytes
  deriving DecidableEq, Repr

/-- `normalizeDirectiveName` (httptype.go:1388) -/
def normalizeDirectiveName (d : String) : String :=
  if d == "handle_path" then "handle" else d

/-- `for i, dir := range directiveOrder { dirPositions[dir] = i }` then `dirPositions[d]` -/
def dirPosFrom (d : String) : Nat → Nat → List String → Nat
  | _, acc, [] => acc
  | i, acc, x :: xs => dirPosFrom d (i + 1) (if x == d then i else acc) xs

def dirPos (order : List String) (d : String) : Nat := dirPosFrom d 0 0 order

/-- the decoded path matcher: only looked at when there is exactly one matcher set -/
def pm (x : RouteVal) : List Bytes := if x.nsets == 1 then x.paths else []

/-- `iPathLen`: length of the path if the matcher has exactly one path, else 0 -/
def pathLen (x : RouteVal) : Nat :=
  match pm x with
  | [p] => p.length
  | _ => 0

/-- `iPM[0]` (only read when `pathLen > 0`) -/
def firstPath (x : RouteVal) : Bytes :=
  match pm x with
  | [p] => p
  | _ => []

/-- `strings.TrimSuffix(p, "*")` -/
def trimStar (p : Bytes) : Bytes := if p.getLast? == some 42 then p.dropLast else p

/-- the closure `sortByPath` -/
def sortByPath (i j : RouteVal) : Bool :=
  if decide (pathLen i > 0) && decide (pathLen j > 0) then
    if trimStar (firstPath i) == trimStar (firstPath j) then decide (pathLen i < pathLen j)
    else decide (pathLen i > pathLen j)
  else decide (i.nsets > 0) && j.nsets == 0

/-- the comparator for two values of the SAME directive -/
def sameDirLess (i j : RouteVal) : Bool :=
  if !i.isRoute then false
  else if !j.isRoute then false
  else if i.dir == "vars" then !sortByPath i j
  else sortByPath i j

/-- the `less` closure handed to `sort.SliceStable` -/
def less (order : List String) (i j : RouteVal) : Bool :=
  if i.dir != j.dir then decide (dirPos order i.dir < dirPos order j.dir)
  else sameDirLess i j

/-! ### `sort.SliceStable` -/

section Isort
variable {α : Type}

/-- one run of the inner loop of `insertionSort_func` on the REVERSED sorted prefix:
`for j := i; j > a && less(data[j], data[j-1]); j-- { swap }` -/
def insR (lt : α → α → Bool) (x : α) : List α → List α
  | [] => [x]
  | y :: ys => if lt x y then y :: insR lt x ys else x :: y :: ys

/-- `insertionSort_func(data, 0, n)`; the result is held reversed -/
def isortR (lt : α → α → Bool) (l : List α) : List α :=
  l.foldl (fun acc x => insR lt x acc) []

/-- insertion sort, in order -/
def insertionSort (lt : α → α → Bool) (l : List α) : List α := (isortR lt l).reverse

end Isort

/-- Go's block size below which `stable_func` is a single insertion sort -/
def blockSize : Nat := 20

/-- `sortRoutes` for at most `blockSize` values (above it see `Stable.lean`) -/
def sortRoutesSmall (order : List String) (l : List RouteVal) : List RouteVal :=
  insertionSort (less order) l

/-- the guard of `buildSubroute`: every directive must be in the order in effect -/
def allOrdered (order : List String) (l : List RouteVal) : Bool :=
  l.all fun x => order.contains x.dir

end CaddyModel.C16
