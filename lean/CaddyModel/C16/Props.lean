/-
C16 — property theorems: the route sorter at `less`, and the regenerated facts about the source.

Carried by a theorem (for ALL orders in effect and all lists, no size bound other than the one
stated): the route sorter of the Caddyfile adapter

  * only consults the directive order across different directives (`less_cross_kind`),
  * emits directives in the order of the table (`sort_follows_directive_order`),
  * sorts every directive's values independently of all other directives
    (`sort_kind_subsequence`), hence
  * is insensitive to any reordering that never swaps two values of the same directive
    (`sort_cross_kind_invariant`, in directive names: `sort_reorder_directives_invariant`;
    for pairwise distinct directives every permutation: `sort_perm_invariant_of_distinct`),
    whatever `less` answers inside one directive — no property of it is used, and it is not a
    strict weak order there (`sameDirLess_not_strict_weak_order`, Witness.lean); the statement
    with the comparator as a variable is `stableSort_cross_kind_invariant` (StableProps.lean),
  * treats `handle` and `handle_path` as one kind (`handle_and_handle_path_one_kind`),
  * over a duplicate-free default table (`directiveOrder_nodup`).

The sorter is `sort.SliceStable`: one insertion sort up to 20 values.  Above 20 it merges
blocks, and the full statement is FALSE for the code as it is — `Witness.lean` proves the
negation on the model of `stable_func` with a concrete 21-value block; every `sort_*` theorem
below therefore carries the explicit decidable exclusion `length ≤ blockSize` (the
`insertionSort_*` theorems hold for every length).

The other clauses the directory carries stand in the modules imported here, each on one or two model files
(`HistProps`, `GlueProps`, `BindProps`, `ServerOptsProps`, `AddrProps`, `NormalizeProps`,
`MapSortProps`, `WeakStringProps`, `ImportProps`, `LexProps`).  Four of them were false of the code
before its repairs in /repo and keep the counter-example of the code before:
`order_option_old_code_fails`, `args_index_old_code_fails`, `bind_protocols_served_old_code_fails`,
`rename_old_code_fails`.

NOT carried by a theorem (implementation-side oracle only; level `partial`): totality of the
parser and the per-directive unmarshalers beyond the modelled steps (`{$ENV}` pass, import
arguments, import cycle check), determinism of the output beyond the modelled sorts and the
map ranges tied to the source, loadability of the output beyond the status-code encoder.
-/
import CaddyModel.C16.Spec
import CaddyModel.Gen.DirectiveOrder
import CaddyModel.Gen.Glue
import CaddyModel.Gen.MapRanges
import CaddyModel.Gen.AdapterSources
import CaddyModel.Gen.WeakStringMarshal
import CaddyModel.C16.StableProps
import CaddyModel.C16.Witness
import CaddyModel.C16.LexProps
import CaddyModel.C16.HistProps
import CaddyModel.C16.GlueProps
import CaddyModel.C16.BindProps
import CaddyModel.C16.ServerOptsProps
import CaddyModel.C16.AddrProps
import CaddyModel.C16.NormalizeProps
import CaddyModel.C16.MapSortProps
import CaddyModel.C16.WeakStringProps
import CaddyModel.C16.ImportProps

namespace CaddyModel.C16

/-! ### the directive order table (regenerated from the source on every run) -/

theorem directiveOrder_nodup : Gen.defaultDirectiveOrder.Nodup := by decide +kernel

example : "handle" ∈ Gen.defaultDirectiveOrder ∧ "handle_path" ∈ Gen.defaultDirectiveOrder := by decide +kernel

/-- `handle_path` is sorted as `handle`: after `normalizeDirectiveName` the comparator never
consults the order between the two, although the table lists them at different positions -/
theorem handle_and_handle_path_one_kind :
    normalizeDirectiveName "handle_path" = normalizeDirectiveName "handle" ∧
    (∀ (order : List String) (a b : RouteVal),
      a.dir = normalizeDirectiveName "handle_path" → b.dir = normalizeDirectiveName "handle" →
      less order a b = sameDirLess a b ∧ less order b a = sameDirLess b a) ∧
    dirPos Gen.defaultDirectiveOrder "handle_path" ≠ dirPos Gen.defaultDirectiveOrder "handle" := by
  have h0 : normalizeDirectiveName "handle_path" = normalizeDirectiveName "handle" := by decide
  refine ⟨h0, ?_, by decide +kernel⟩
  intro order a b ha hb
  have h : a.dir = b.dir := by rw [ha, hb, h0]
  simp [less, h]

example : less Gen.defaultDirectiveOrder ⟨normalizeDirectiveName "handle_path", true, 1, [str "/api/*"]⟩
    ⟨normalizeDirectiveName "handle", true, 1, [str "/a"]⟩ = true := by decide +kernel

/-- across different kinds the comparator is the order of the table and nothing else; inside
a kind it is whatever it is (`less` itself — no property of it is used anywhere below) -/
theorem less_cross_kind (order : List String) :
    CrossKind (kindOf order) (less order) (less order) where
  diff := by
    intro x y h
    have hd : x.dir ≠ y.dir := fun e => h (by simp [kindOf, e])
    unfold less kindOf
    simp only [bne_iff_ne, ne_eq, hd, not_false_eq_true, if_true]
  same := fun _ _ _ => rfl

example : kindOf Gen.defaultDirectiveOrder ⟨"respond", true, 0, []⟩ ≠ kindOf Gen.defaultDirectiveOrder ⟨"header", true, 1, [str "/a"]⟩ := by decide +kernel

/-! ### what insertion sort does with that comparator (every length; up to 20 values it is `sortRoutes`) -/

theorem insertionSort_perm (order : List String) (l : List RouteVal) :
    (insertionSort (less order) l).Perm l := insertionSort_perm' _ l

theorem insertionSort_follows_directive_order (order : List String) (l : List RouteVal) :
    KindAscending order (insertionSort (less order) l) :=
  insertionSort_kind_ascending (kindOf order) (less order) (less order) (less_cross_kind order) l

/-- every kind is sorted on its own: the values of one kind come out exactly as if the other
kinds were not there -/
theorem insertionSort_kind_subsequence (order : List String) (l : List RouteVal) (c : Nat) :
    (insertionSort (less order) l).filter (fun x => kindOf order x == c)
      = insertionSort (less order) (l.filter (fun x => kindOf order x == c)) :=
  insertionSort_filter_kind (kindOf order) (less order) (less order) (less_cross_kind order) l c

/-- cross-kind order-insensitivity of the insertion sort, for every list length -/
theorem insertionSort_cross_kind_invariant (order : List String) (l l' : List RouteVal)
    (h : SameKindSubsequences order l l') :
    insertionSort (less order) l = insertionSort (less order) l' :=
  insertionSort_cross_kind_invariant' (kindOf order) _ _ (less_cross_kind order) l l' h

/-- FULL STATEMENT (false for the code as it is, see `sort_cross_kind_invariant_full_fails` in Witness.lean):
`∀ order l l', SameKindSubsequences order l l' → sortRoutes (less order) l = sortRoutes (less order) l'`.
PARTIAL: up to `blockSize` = 20 values, where `sort.SliceStable` is one insertion sort. -/
theorem sort_cross_kind_invariant_partial (order : List String) (l l' : List RouteVal)
    (hl : l.length ≤ blockSize) (hl' : l'.length ≤ blockSize)
    (h : SameKindSubsequences order l l') :
    sortRoutes (less order) l = sortRoutes (less order) l' :=
  stableSort_cross_kind_invariant (kindOf order) _ _ (less_cross_kind order) l l' hl hl' h

/-- the statement of `sort_cross_kind_invariant_partial` again -/
theorem sort_cross_kind_invariant (order : List String) (l l' : List RouteVal)
    (hl : l.length ≤ blockSize) (hl' : l'.length ≤ blockSize)
    (h : SameKindSubsequences order l l') :
    sortRoutes (less order) l = sortRoutes (less order) l' :=
  sort_cross_kind_invariant_partial order l l' hl hl' h

example : SameKindSubsequences Gen.defaultDirectiveOrder
    [⟨"respond", true, 1, [str "/a"]⟩, ⟨"header", true, 0, []⟩, ⟨"respond", true, 1, [str "/abc"]⟩]
    [⟨"header", true, 0, []⟩, ⟨"respond", true, 1, [str "/a"]⟩, ⟨"respond", true, 1, [str "/abc"]⟩] :=
  sameKindSubsequences_of_check _ _ _ (by decide +kernel)

theorem sort_follows_directive_order (order : List String) (l : List RouteVal) (hl : l.length ≤ blockSize) :
    KindAscending order (sortRoutes (less order) l) := by
  rw [sortRoutes, stableSort_small _ l hl]; exact insertionSort_follows_directive_order order l

theorem sort_kind_subsequence (order : List String) (l : List RouteVal) (hl : l.length ≤ blockSize) (c : Nat) :
    (sortRoutes (less order) l).filter (fun x => kindOf order x == c)
      = insertionSort (less order) (l.filter (fun x => kindOf order x == c)) := by
  rw [sortRoutes, stableSort_small _ l hl]; exact insertionSort_kind_subsequence order l c

theorem sort_perm (order : List String) (l : List RouteVal) (hl : l.length ≤ blockSize) :
    (sortRoutes (less order) l).Perm l := by
  rw [sortRoutes, stableSort_small _ l hl]; exact insertionSort_perm order l

example : sortRoutes (less Gen.defaultDirectiveOrder)
    [⟨"respond", true, 1, [str "/a"]⟩, ⟨"header", true, 0, []⟩, ⟨"respond", true, 1, [str "/abc"]⟩]
    = [⟨"header", true, 0, []⟩, ⟨"respond", true, 1, [str "/abc"]⟩, ⟨"respond", true, 1, [str "/a"]⟩] := by decide +kernel

/-! ### in directive names: what a user reorders -/

/-- for values that passed `buildSubroute`'s guard (every directive is in the order in
effect), "same kind" is "same directive name" -/
theorem sameKind_of_sameDirective (order : List String) (l l' : List RouteVal)
    (ho : AllOrdered order l) (ho' : AllOrdered order l') (h : SameDirectiveSubsequences l l') :
    SameKindSubsequences order l l' :=
  filter_kind_of_filter_dir order RouteVal.dir (kindOf order) l l'
    (fun a ha => ⟨rfl, (List.mem_append.1 ha).elim (ho a) (ho' a)⟩) h

/-- the property's clause: reordering directives of different kinds inside a block (never
swapping two of the same directive, handle/handle_path counted as one) does not change the
sorted result — for every order in effect and every same-directive comparator behaviour;
partial: blocks of at most 20 routes -/
theorem sort_reorder_directives_invariant (order : List String) (l l' : List RouteVal)
    (hl : l.length ≤ blockSize) (hl' : l'.length ≤ blockSize)
    (ho : AllOrdered order l) (ho' : AllOrdered order l')
    (h : SameDirectiveSubsequences l l') :
    sortRoutes (less order) l = sortRoutes (less order) l' :=
  sort_cross_kind_invariant_partial order l l' hl hl' (sameKind_of_sameDirective order l l' ho ho' h)

example : AllOrdered Gen.defaultDirectiveOrder [⟨"respond", true, 1, [str "/a"]⟩, ⟨"header", true, 0, []⟩] := by
  intro x hx; simp at hx; rcases hx with rfl | rfl <;> decide +kernel

/-- the property's quantifier "all permutations of distinct-directive lines": when no two
values have the same kind, EVERY permutation of the block sorts to the same result -/
theorem sort_perm_invariant_of_distinct (order : List String) (l l' : List RouteVal)
    (hl : l.length ≤ blockSize) (hp : l.Perm l') (hd : (l.map (kindOf order)).Nodup) :
    sortRoutes (less order) l = sortRoutes (less order) l' :=
  sort_cross_kind_invariant_partial order l l' hl (hp.length_eq ▸ hl)
    (filter_kind_eq_of_perm (kindOf order) l l' hp hd)

example : ([⟨"respond", true, 0, []⟩, ⟨"header", true, 0, []⟩, ⟨"root", true, 0, []⟩].map
    (kindOf Gen.defaultDirectiveOrder)).Nodup := by decide +kernel

/-! ### the registered directives -/

/-- every directive of the default order table is a registered directive (a string literal
passed to `RegisterDirective` / `RegisterHandlerDirective` somewhere in the module): the `hist`
correspondence cases and `History.applyOp` take the table as the universe of names the `order`
option accepts, and a directive that is ordered but not registered could never be written -/
theorem directiveOrder_registered_matches_source :
    Gen.defaultDirectiveOrder.all (fun d => Gen.registeredDirectives.contains d) = true := by decide +kernel

/-- the `order` global option the model of `History.lean` is about is registered as such -/
theorem order_option_is_registered_matches_source :
    Gen.registeredGlobalOptions.contains "order" = true ∧ Gen.registeredDirectives.contains "handle_path" = true := by decide +kernel

/-! ### regenerated fact: map ranges in the Caddyfile unmarshalers -/

/-- the map ranges that collect into a slice WITHOUT a sort of that slice later in the same block,
each with the reason it is (or is not) harmless -/
def unsortedMapRangeExceptions : List (String × String) := [
  -- "The resulting slice is not sorted": both callers sort (httptype.go `slices.Sort(hosts)`, tlsapp.go `sort.Strings(hostsNotHTTP)`)
  ("caddyconfig/httpcaddyfile/directives.go:hostsFromKeys", "hostMap"),
  ("caddyconfig/httpcaddyfile/directives.go:hostsFromKeysNotHTTP", "hostMap")]
-- (buildTLSApp's range over httpsHostsSharedWithHostlessKey is not an entry: it fills `al`, which is sorted, and
--  internalAP.SubjectsRaw, sorted by /repo commit 5feb9e1 — before that commit the same Caddyfile adapted to different bytes)

/-- every map range in caddyconfig/httpcaddyfile/*.go and modules/**/caddyfile.go that appends to a
slice either (a) appends the map KEY itself and is followed — in the block of the loop or an enclosing one — by a plain sort of that slice
(`sort.Strings` / `slices.Sort`: the sort key is the map key, injective — `sorted_perm_invariant`
applies, whatever algorithm the library runs at that size), or (b) is one of the listed exceptions.  A range that sorts by anything else
(`sort.Slice` with a comparator, an appended derived value) makes this theorem fail. -/
theorem map_ranges_sorted_by_key_matches_source :
    Gen.caddyfileMapRanges.all (fun r =>
      r.2.2.1 == "noappend" ||
      (r.2.2.1 == "appendkey" && (r.2.2.2 == "sort.Strings" || r.2.2.2 == "slices.Sort")) ||
      unsortedMapRangeExceptions.contains (r.1, r.2.1)) = true := by decide +kernel

/-- the `copy_headers` collection of forward_auth is among them, in the shape `MapSort.lean` models -/
theorem copy_headers_range_matches_source :
    Gen.caddyfileMapRanges.contains
      ("modules/caddyhttp/reverseproxy/forwardauth/caddyfile.go:parseCaddyfile", "headersToCopy", "appendkey", "sort.Strings") = true := by
  decide +kernel

/-! ### Glue audit: every other source of nondeterminism around the sorter

`Gen.adapterSortCalls` lists every sort call of caddyconfig/** and modules/**/caddyfile.go with the sort function, the
slice sorted and WHAT ITS COMPARATOR READS besides its own parameters and locals (captured variables and package-level
variables, followed through every same-package function the comparator calls: the fact is the same whether the
comparator is a closure, a named function or any extract-function / inline rewrite of either); `Gen.adapterOutsideInputs` lists every read of the environment, the clock, randomness, a
directory listing, every maps.Keys / maps.Values and every `go` statement there.  Both are regenerated from /repo on
every run; the theorems below pin them, so a new comparator sort, a comparator that starts reading
anything besides the slice it sorts (a counter, a map, a package variable), a stable sort made unstable, a goroutine or a
clock read in the adapter makes the build fail until it is classified here.  (What a comparator COMPUTES is not pinned
by text: sortRoutes' comparator is `less` (Model.lean) under the `sort` / `site` correspondence; the others are under the oracle streams.) -/

/-- the comparator sorts, each with: what the comparator reads (for all six: the slice being sorted — through the
captured variable that holds it — and, for sortRoutes, the directive-position table built just above from directiveOrder;
no other captured or package-level state), where the ORDER OF ITS INPUT comes from, and why ties
cannot make the result vary.  All six take their input in the order of the text (or in an order fixed by an earlier
plain sort); none takes it from a map.  Five are `sort.SliceStable` (ties keep the input order); the one unstable
`sort.Slice` (serverOpts) runs a deterministic algorithm on a deterministic input. -/
def comparatorSortClassification : List (String × String × String × String) := [
  ("caddyconfig/httpcaddyfile/directives.go:sortRoutes", "routes",
   "reads: dirPositions,routes",
   "input: the directives of one block in written order; stable; the comparator is Model.less (not a strict weak order: known finding over-20-routes; Stable.lean runs the library's algorithm)"),
  ("caddyconfig/httpcaddyfile/httptype.go:evaluateGlobalOptionsBlock", "serverOpts",
   "reads: serverOpts",
   "input: the `servers` options in written order; UNSTABLE sort, key = address length (not injective): ties are placed by a deterministic algorithm from a deterministic input; ServerOpts.lean, op sopts, rename oracle (24 adaptations)"),
  ("caddyconfig/httpcaddyfile/httptype.go:serversFromPairings", "p.serverBlocks",
   "reads: p",
   "input: the site blocks of one pairing in written order (consolidateAddrMappings keeps it); stable; oracle streams perm / site / dadapt"),
  ("caddyconfig/httpcaddyfile/httptype.go:serversFromPairings", "errorSubrouteVals",
   "reads: errorSubrouteVals",
   "input: the handle_errors blocks of one site in written order; stable; corpus f19-empty-handle-errors, adapt streams"),
  ("caddyconfig/httpcaddyfile/httptype.go:consolidateConnPolicies", "cps",
   "reads: cps",
   "input: policies appended site block by site block (order fixed above); stable; two classes only; dadapt merge shapes"),
  ("caddyconfig/httpcaddyfile/tlsapp.go:consolidateAutomationPolicies", "aps",
   "reads: aps",
   "input: policies appended pairing by pairing (addresses sorted) and site block by site block; stable; dadapt merge shapes")]

/-- every sort call of the adapter is either a plain sort of strings (`sort.Strings` / `slices.Sort`: the key is the
element itself, total and injective — `sorted_perm_invariant` applies whatever order the input had) or one of the six
classified comparator sorts, whose comparator reads exactly the variables written there -/
theorem adapter_sort_calls_matches_source :
    Gen.adapterSortCalls.all (fun r =>
      ((r.2.1 == "sort.Strings" || r.2.1 == "slices.Sort") && r.2.2.2 == "") ||
      comparatorSortClassification.any (fun c => c.1 == r.1 && c.2.1 == r.2.2.1 && c.2.2.1 == r.2.2.2)) = true
    ∧ comparatorSortClassification.all (fun c =>
        Gen.adapterSortCalls.any (fun r => c.1 == r.1 && c.2.1 == r.2.2.1 && c.2.2.1 == r.2.2.2)) = true := by
  decide +kernel

/-- what the order-insensitivity theorems take from the source, whatever the comparator is spelled as: sortRoutes calls
`sort.SliceStable` (the algorithm of Stable.lean; stability is what sort_cross_kind_invariant uses), exactly once, on
`routes`, and its comparator — wherever its code lives — reads nothing but that slice and the directive-position table -/
theorem sortRoutes_call_matches_source :
    Gen.adapterSortCalls.filter (fun r => r.1 == "caddyconfig/httpcaddyfile/directives.go:sortRoutes") =
      [("caddyconfig/httpcaddyfile/directives.go:sortRoutes", "sort.SliceStable", "routes", "reads: dirPositions,routes")] := by
  decide +kernel

theorem adapter_unstable_sorts_matches_source :
    (Gen.adapterSortCalls.filter (fun r => r.2.1 == "sort.Slice")).map (fun r => (r.1, r.2.2.1)) =
      [("caddyconfig/httpcaddyfile/httptype.go:evaluateGlobalOptionsBlock", "serverOpts")] := by decide +kernel

/-- the adapter and the unmarshalers start no goroutine, read no clock, no randomness, no host name, call neither
maps.Keys nor maps.Values; they read the environment in exactly one place (`{$VAR}` substitution: ParseGlue.lean, op
env — the environment is an INPUT of the adaptation) and list a directory in exactly one place (`import` with a glob:
filepath.Glob returns its matches sorted — the listing is an input too; stream `adapt` with the fixtures in inc/) -/
theorem adapter_outside_inputs_matches_source :
    Gen.adapterOutsideInputs =
      [("caddyconfig/caddyfile/parse.go:replaceEnvVars", "os.LookupEnv"),
       ("caddyconfig/caddyfile/parse.go:doImport", "filepath.Glob")] := by decide +kernel

/-- the plain sorts of the adapter, one by one: each makes a slice collected from a map (or from several site blocks)
independent of the iteration order — removing one of them makes this theorem fail (and the 8- / 64-fold
adaptation oracle finds the text) -/
theorem adapter_plain_sorts_matches_source :
    (Gen.adapterSortCalls.filter (fun r => r.2.2.2 == "")).map (fun r => (r.1, r.2.2.1)) =
      [("caddyconfig/httpcaddyfile/addresses.go:mapAddressToProtocolToServerBlocks", "addrs"),
       ("caddyconfig/httpcaddyfile/addresses.go:mapAddressToProtocolToServerBlocks", "prots"),
       ("caddyconfig/httpcaddyfile/addresses.go:consolidateAddrMappings", "addrs"),
       ("caddyconfig/httpcaddyfile/addresses.go:consolidateAddrMappings", "prots"),
       ("caddyconfig/httpcaddyfile/addresses.go:consolidateAddrMappings", "addresses"),
       ("caddyconfig/httpcaddyfile/addresses.go:consolidateAddrMappings", "prots"),
       ("caddyconfig/httpcaddyfile/directives.go:Caddyfiles", "filesSlice"),
       ("caddyconfig/httpcaddyfile/httptype.go:Setup", "defaultLog.Exclude"),
       ("caddyconfig/httpcaddyfile/httptype.go:serversFromPairings", "hosts"),
       ("caddyconfig/httpcaddyfile/httptype.go:serversFromPairings", "srv.Logs.SkipHosts"),
       ("caddyconfig/httpcaddyfile/httptype.go:buildSubroute", "keys"),
       ("caddyconfig/httpcaddyfile/tlsapp.go:buildTLSApp", "hostsNotHTTP"),
       ("caddyconfig/httpcaddyfile/tlsapp.go:buildTLSApp", "al"),
       ("caddyconfig/httpcaddyfile/tlsapp.go:buildTLSApp", "internalAP.SubjectsRaw"),
       ("modules/caddyhttp/reverseproxy/forwardauth/caddyfile.go:parseCaddyfile", "sortedHeadersToCopy")] := by
  decide +kernel

example : comparatorSortClassification.length = 6 ∧ Gen.adapterSortCalls.length = 21 := by decide

/-- second line of defence for the status-code encoder (WeakString.lean; the op `ws` and the numeric-spelling stream
are what produce the failing input): `WeakString.MarshalJSON` returns the two boolean literals and otherwise ONLY what
json.Marshal wrote — of the int (`weakMarshal`'s `intText`), of the string (`jsonQuote`) — never the token text -/
theorem weakstring_marshal_returns_matches_source :
    Gen.weakStringMarshalReturns =
      ["[]byte(\"true\")", "[]byte(\"false\")", "json.Marshal(num)", "json.Marshal(string(ws))"] := by decide +kernel

end CaddyModel.C16
