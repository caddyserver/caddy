/-
PROPOSAL — NOT THE CODE AS IT IS.  This file models / proves facts about a CANDIDATE repair of
`sortRoutes` (/verif/.run/fixes/C16-sortroutes.patch: precomputed per-route keys compared as a
strict total order) that was reviewed and NOT applied, because it changes the route order of
existing configs with 20 or fewer routes.  It is not imported by the driver, Props or Audit and
is not part of what `./check C16` builds; it is kept as a worked-out option should upstream
want a comparator that is a strict weak order.  The tree's `sortRoutes` is `Model.lean` +
`Stable.lean`; its over-20-routes defect stays a known finding (`Witness.lean`).
-/
/-
C16 — theorems about the key-based `sortRoutes` of the candidate repair (`ProposalKeyed.lean`).

* `lessWithin_*`: the comparison below the directive test is a strict total order on keys
  (`lessWithin_iff`: by slot, then by descending score, then by seq); `lessKey_irrefl`,
  `lessKey_asymm`, `lessKey_total`: the comparison the candidate hands to `sort.SliceStable` is
  irreflexive, asymmetric and total up to equal keys on two keyed routes whose `vars` reversal is
  decided alike (`VarsConsistent`).  Transitivity of `lessKey`, and the conclusion one wants from a
  strict total order (every correct sorting algorithm returns the same arrangement; the shape is
  `sorted_perm_invariant`, MapSortProps.lean), are not stated.
* `keyed_filter_dir`: the key of a route depends only on the routes of its own directive.
* `sortKeyed_reorder_invariant`: reordering directives of different kinds does not change the
  sorted result for blocks of at most `blockSize` routes, where `sort.SliceStable` is one insertion
  sort (`insertionSortKeyed_reorder_invariant`: the insertion sort itself, any length).  Nothing is
  proved above `blockSize`.
-/
import CaddyModel.Gen.DirectiveOrder
import CaddyModel.C16.ProposalKeyed
import CaddyModel.C16.Spec
import CaddyModel.C16.StableProps

namespace CaddyModel.C16

theorem lessWithin_iff (a b : SortKey) :
    lessWithin a b = true ↔
      a.slot < b.slot ∨ (a.slot = b.slot ∧ (a.score > b.score ∨ (a.score = b.score ∧ a.seq < b.seq))) := by
  unfold lessWithin
  by_cases h1 : a.slot = b.slot
  · by_cases h2 : a.score = b.score
    · simp [h1, h2]
    · simp [h1, h2]
  · simp [h1]

theorem lessWithin_irrefl (a : SortKey) : lessWithin a a = false := by simp [lessWithin]

theorem lessWithin_trans (a b c : SortKey) (h1 : lessWithin a b = true) (h2 : lessWithin b c = true) :
    lessWithin a c = true := by
  have h1' := (lessWithin_iff a b).1 h1
  have h2' := (lessWithin_iff b c).1 h2
  apply (lessWithin_iff a c).2
  omega

theorem lessWithin_asymm (a b : SortKey) (h : lessWithin a b = true) : lessWithin b a = false :=
  Bool.eq_false_iff.2 fun hb => Bool.false_ne_true ((lessWithin_irrefl a).symm.trans (lessWithin_trans a b a h hb))

theorem lessWithin_total (a b : SortKey) :
    lessWithin a b = true ∨ lessWithin b a = true ∨ (a.slot = b.slot ∧ a.score = b.score ∧ a.seq = b.seq) := by
  rw [lessWithin_iff, lessWithin_iff]
  omega

/-- the `vars` reversal is decided consistently for two routes at the same position (true for
routes that passed `buildSubroute`'s guard: same position = same directive) -/
def VarsConsistent (a b : RouteVal × SortKey) : Prop :=
  a.2.dirPos = b.2.dirPos → (a.1.dir == "vars") = (b.1.dir == "vars")

theorem lessKey_irrefl (a : RouteVal × SortKey) : lessKey a a = false := by
  simp [lessKey, lessWithin_irrefl]

theorem lessKey_of_ne (a b : RouteVal × SortKey) (h : a.2.dirPos ≠ b.2.dirPos) :
    lessKey a b = decide (a.2.dirPos < b.2.dirPos) := by
  simp [lessKey, h]

theorem lessKey_of_eq (a b : RouteVal × SortKey) (h : a.2.dirPos = b.2.dirPos) :
    lessKey a b = if a.1.dir == "vars" then lessWithin b.2 a.2 else lessWithin a.2 b.2 := by
  simp [lessKey, h]

theorem lessKey_asymm (a b : RouteVal × SortKey) (hv : VarsConsistent a b)
    (h : lessKey a b = true) : lessKey b a = false := by
  by_cases e : a.2.dirPos = b.2.dirPos
  · rw [lessKey_of_eq a b e] at h
    rw [lessKey_of_eq b a e.symm, ← hv e]
    by_cases v : (a.1.dir == "vars") = true
    · rw [if_pos v] at h ⊢; exact lessWithin_asymm _ _ h
    · rw [if_neg v] at h ⊢; exact lessWithin_asymm _ _ h
  · rw [lessKey_of_ne a b e, decide_eq_true_eq] at h
    rw [lessKey_of_ne b a (Ne.symm e), decide_eq_false_iff_not]
    omega

theorem lessKey_total (a b : RouteVal × SortKey) (hv : VarsConsistent a b) :
    lessKey a b = true ∨ lessKey b a = true ∨
      (a.2.dirPos = b.2.dirPos ∧ a.2.slot = b.2.slot ∧ a.2.score = b.2.score ∧ a.2.seq = b.2.seq) := by
  by_cases e : a.2.dirPos = b.2.dirPos
  · rw [lessKey_of_eq a b e, lessKey_of_eq b a e.symm, ← hv e]
    rcases lessWithin_total a.2 b.2 with h | h | h
    · split
      · exact Or.inr (Or.inl h)
      · exact Or.inl h
    · split
      · exact Or.inl h
      · exact Or.inr (Or.inl h)
    · exact Or.inr (Or.inr ⟨e, h⟩)
  · rw [lessKey_of_ne a b e, lessKey_of_ne b a (Ne.symm e), decide_eq_true_eq, decide_eq_true_eq]
    omega

theorem counter_bump (m : List (String × Nat)) (k d : String) :
    counter (bump m k) d = if k == d then counter m d + 1 else counter m d := by
  induction m with
  | nil => by_cases h : k = d <;> simp [bump, counter, h]
  | cons kv rest ih =>
    obtain ⟨k', v⟩ := kv
    by_cases h1 : k' = k
    · subst h1
      by_cases h2 : k' = d <;> simp [bump, counter, h2]
    · by_cases h2 : k' = d
      · subst h2
        have : ¬ k = k' := fun e => h1 e.symm
        simp [bump, counter, h1, this]
      · simp [bump, counter, h1, h2, ih]

/-- the loop of `keyedFrom` run on the routes of ONE directive, with plain counters -/
def keyedOneFrom (order : List String) : Nat → Nat → List RouteVal → List (RouteVal × SortKey)
  | _, _, [] => []
  | w, s, x :: xs =>
    (x, keyOf order [(x.dir, w)] [(x.dir, s)] x) ::
      keyedOneFrom order (w + 1) (if isSeparator x then s + 1 else s) xs

theorem keyOf_counters (order : List String) (written separators : List (String × Nat)) (x : RouteVal) :
    keyOf order written separators x =
      keyOf order [(x.dir, counter written x.dir)] [(x.dir, counter separators x.dir)] x := by
  simp [keyOf, counter]

theorem keyedFrom_filter_dir (order : List String) (d : String) :
    ∀ (l : List RouteVal) (written separators : List (String × Nat)),
      (keyedFrom order written separators l).filter (fun a => a.1.dir == d)
        = keyedOneFrom order (counter written d) (counter separators d) (l.filter (fun x => x.dir == d))
  | [], _, _ => rfl
  | x :: xs, written, separators => by
    have ih := keyedFrom_filter_dir order d xs (bump written x.dir)
      (if isSeparator x then bump separators x.dir else separators)
    by_cases h : x.dir = d
    · subst h
      simp only [keyedFrom, List.filter, beq_self_eq_true, keyedOneFrom]
      rw [ih, keyOf_counters]
      by_cases hs : isSeparator x = true <;> simp [hs, counter_bump]
    · have hb : (x.dir == d) = false := by simpa using h
      simp only [keyedFrom, List.filter, hb]
      rw [ih]
      by_cases hs : isSeparator x = true <;> simp [hs, counter_bump, hb]

theorem keyed_filter_dir (order : List String) (d : String) (l : List RouteVal) :
    (keyed order l).filter (fun a => a.1.dir == d) = keyedOneFrom order 0 0 (l.filter (fun x => x.dir == d)) := by
  simpa [keyed, counter] using keyedFrom_filter_dir order d l [] []

theorem keyedFrom_dirPos (order : List String) :
    ∀ (l : List RouteVal) (w s : List (String × Nat)) (a : RouteVal × SortKey),
      a ∈ keyedFrom order w s l → a.2.dirPos = dirPos order a.1.dir ∧ a.1 ∈ l := by
  intro l w s a
  fun_induction keyedFrom order w s l with
  | case1 => exact fun h => nomatch h
  | case2 w s x xs ih =>
    intro h
    rcases List.mem_cons.1 h with rfl | h
    · refine ⟨?_, List.mem_cons_self⟩
      unfold keyOf; split <;> (try split) <;> rfl
    · exact ⟨(ih h).1, List.mem_cons_of_mem _ (ih h).2⟩

theorem keyedFrom_length (order : List String) :
    ∀ (l : List RouteVal) (w s : List (String × Nat)), (keyedFrom order w s l).length = l.length := by
  intro l w s
  fun_induction keyedFrom order w s l <;> simp [*]

theorem lessKey_cross_kind : CrossKind (fun a : RouteVal × SortKey => a.2.dirPos) lessKey lessKey where
  diff := lessKey_of_ne
  same := fun _ _ _ => rfl

theorem keyed_filter_kind (order : List String) (l l' : List RouteVal)
    (ho : AllOrdered order l) (ho' : AllOrdered order l') (h : SameDirectiveSubsequences l l') (c : Nat) :
    (keyed order l).filter (fun a => a.2.dirPos == c) = (keyed order l').filter (fun a => a.2.dirPos == c) := by
  have info : ∀ (m : List RouteVal), AllOrdered order m → ∀ a ∈ keyed order m,
      a.2.dirPos = dirPos order a.1.dir ∧ a.1.dir ∈ order := fun m hm a ha =>
    ⟨(keyedFrom_dirPos order m [] [] a ha).1, hm _ (keyedFrom_dirPos order m [] [] a ha).2⟩
  exact filter_kind_of_filter_dir order (fun a : RouteVal × SortKey => a.1.dir) _ _ _
    (fun a ha => (List.mem_append.1 ha).elim (info l ho a) (info l' ho' a))
    (fun d => by rw [keyed_filter_dir, keyed_filter_dir, h d]) c

/-- the property's clause for the candidate sorter: reordering directives of different kinds
(never swapping two routes of the same directive) does not change the keyed insertion sort,
for any number of routes -/
theorem insertionSortKeyed_reorder_invariant (order : List String) (l l' : List RouteVal)
    (ho : AllOrdered order l) (ho' : AllOrdered order l') (h : SameDirectiveSubsequences l l') :
    insertionSort lessKey (keyed order l) = insertionSort lessKey (keyed order l') :=
  insertionSort_cross_kind_invariant' _ _ _ lessKey_cross_kind _ _ (keyed_filter_kind order l l' ho ho' h)

/-- the same for `sortRoutes` where `sort.SliceStable` is one insertion sort -/
theorem sortKeyed_reorder_invariant (order : List String) (l l' : List RouteVal)
    (hl : l.length ≤ blockSize) (hl' : l'.length ≤ blockSize)
    (ho : AllOrdered order l) (ho' : AllOrdered order l') (h : SameDirectiveSubsequences l l') :
    sortRoutesKeyed order l = sortRoutesKeyed order l' :=
  congrArg (List.map (fun a : RouteVal × SortKey => a.1)) (stableSort_cross_kind_invariant _ _ _ lessKey_cross_kind _ _
    (by rwa [keyed, keyedFrom_length]) (by rwa [keyed, keyedFrom_length]) (keyed_filter_kind order l l' ho ho' h))

example : lessKey (⟨"respond", true, 1, [str "/abc"]⟩, ⟨32, 0, 8, 1⟩) (⟨"respond", true, 1, [str "/a*"]⟩, ⟨32, 0, 3, 0⟩) = true := by decide
example : (keyed Gen.defaultDirectiveOrder
    [⟨"respond", true, 1, [str "/a"]⟩, ⟨"respond", true, 1, []⟩, ⟨"header", true, 0, []⟩, ⟨"respond", true, 1, [str "/abc"]⟩]).map (·.2)
    = [⟨32, 0, 4, 0⟩, ⟨32, 1, 0, 1⟩, ⟨9, lastSlot, 0, 0⟩, ⟨32, 2, 8, 2⟩] := by decide +kernel
example : sortRoutesKeyed Gen.defaultDirectiveOrder
    [⟨"respond", true, 1, [str "/a*"]⟩, ⟨"header", true, 0, []⟩, ⟨"respond", true, 1, [str "/a"]⟩]
    = [⟨"header", true, 0, []⟩, ⟨"respond", true, 1, [str "/a"]⟩, ⟨"respond", true, 1, [str "/a*"]⟩] := by decide +kernel
example : VarsConsistent (⟨"vars", true, 0, []⟩, ⟨2, lastSlot, 0, 0⟩) (⟨"vars", true, 1, [str "/a"]⟩, ⟨2, 0, 4, 1⟩) := fun _ => rfl

end CaddyModel.C16
