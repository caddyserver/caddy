/-
C16 — the JSON encoder behind every status code the Caddyfile adapter emits:
`caddyhttp.WeakString.MarshalJSON` (modules/caddyhttp/caddyhttp.go).

The Caddyfile parsers of `respond`, `error`, `file_server status`, `redir`, `replace_status`,
`copy_response`, … keep the status TOKEN as written (some test it with strconv.Atoi, some do not test it at
all) and leave the encoding to WeakString:

    "true" / "false"            → the JSON booleans
    strconv.Atoi(s) succeeds    → json.Marshal(the int)       — NOT the text: Atoi accepts `0200`, `+404`, `-007`
    otherwise                   → json.Marshal(the string)

If the encoder writes something that is not JSON, json.Marshal of the handler fails, caddyconfig.JSONModuleObject
turns the failure into a warning and returns nil, and the adapter "succeeds" with `"handle":[null]` — output that
no server loads.  So the clause "the JSON of an accepted Caddyfile loads" needs, across this glue:
for EVERY token text the encoder's output is a JSON value (`weakMarshal_is_json`).

`jsonQuote` is encoding/json's appendString with escapeHTML (go1.23): ", \ and the control characters escaped,
<, >, & as \u00XX, invalid UTF-8 as \ufffd, U+2028 / U+2029 as \u2028 / \u2029, everything else copied.
-/
import CaddyModel.C16.Args

namespace CaddyModel.C16

/-! ### the integer branch: decimal text of the value -/

/-- drop leading zeros, keeping the last digit -/
def stripZeros : Bytes → Bytes
  | [] => []
  | [d] => [d]
  | d :: e :: ds => if d == 48 then stripZeros (e :: ds) else d :: e :: ds

/-- `strconv.FormatInt(v, 10)` for the value written as sign + digits `ds` (all decimal digits, not empty) -/
def intText (neg : Bool) (ds : Bytes) : Bytes :=
  let z := stripZeros ds
  if z == [48] then [48] else if neg then 45 :: z else z

/-- the digits of a token `strconv.Atoi` accepts, and its sign -/
def signDigits : Bytes → Bool × Bytes
  | [] => (false, [])
  | 45 :: ds => (true, ds)
  | 43 :: ds => (false, ds)
  | ds => (false, ds)

/-! ### the string branch: encoding/json appendString, escapeHTML = true -/

def hexd (n : UInt8) : UInt8 := if n < 10 then 48 + n else 87 + n

/-- one byte below 0x80 -/
def escAscii (b : UInt8) : Bytes :=
  if b == 34 || b == 92 then [92, b]
  else if b == 8 then [92, 98]
  else if b == 12 then [92, 102]
  else if b == 10 then [92, 110]
  else if b == 13 then [92, 114]
  else if b == 9 then [92, 116]
  else if b < 32 || b == 60 || b == 62 || b == 38 then [92, 117, 48, 48, hexd (b >>> 4), hexd (b &&& 15)]
  else [b]

def cont (b : UInt8) : Bool := 128 ≤ b && b ≤ 191

/-- the range utf8.DecodeRune accepts for the SECOND byte after the first byte `b0` -/
def second (b0 b1 : UInt8) : Bool :=
  if b0 == 224 then 160 ≤ b1 && b1 ≤ 191
  else if b0 == 237 then 128 ≤ b1 && b1 ≤ 159
  else if b0 == 240 then 144 ≤ b1 && b1 ≤ 191
  else if b0 == 244 then 128 ≤ b1 && b1 ≤ 143
  else cont b1

def ufffd : Bytes := [92, 117, 102, 102, 102, 100]

/-- one step of appendString at a byte `b` followed by `rest`: what is written, and how many FURTHER bytes of
`rest` the step consumed (the continuation bytes of a well-formed rune) -/
def step (b : UInt8) (rest : Bytes) : Bytes × Nat :=
  if b < 128 then (escAscii b, 0)
  else if 194 ≤ b && b ≤ 223 then
    match rest with
    | b1 :: _ => if cont b1 then ([b, b1], 1) else (ufffd, 0)
    | [] => (ufffd, 0)
  else if 224 ≤ b && b ≤ 239 then
    match rest with
    | b1 :: b2 :: _ =>
      if cont b1 && second b b1 && cont b2 then
        (if b == 226 && b1 == 128 && (b2 == 168 || b2 == 169) then
          ([92, 117, 50, 48, 50, hexd (b2 &&& 15)], 2)
        else ([b, b1, b2], 2))
      else (ufffd, 0)
    | _ => (ufffd, 0)
  else if 240 ≤ b && b ≤ 244 then
    match rest with
    | b1 :: b2 :: b3 :: _ =>
      if cont b1 && second b b1 && cont b2 && cont b3 then ([b, b1, b2, b3], 3) else (ufffd, 0)
    | _ => (ufffd, 0)
  else (ufffd, 0)

/-- the body and the closing quote; the first argument = bytes of the input still to skip (the continuation
bytes of the rune the previous step consumed) -/
def quoteGo : Nat → Bytes → Bytes
  | _, [] => [34]
  | k + 1, _ :: rest => quoteGo k rest
  | 0, b :: rest => (step b rest).1 ++ quoteGo (step b rest).2 rest

def jsonQuote (s : Bytes) : Bytes := 34 :: quoteGo 0 s

/-! ### WeakString.MarshalJSON -/

def weakMarshal (s : Bytes) : Bytes :=
  if s == str "true" then str "true"
  else if s == str "false" then str "false"
  else match atoi s with
    | some _ => intText (signDigits s).1 (signDigits s).2
    | none => jsonQuote s

/-- the slip: "an integer is its own JSON encoding" -/
def weakMarshalVerbatim (s : Bytes) : Bytes :=
  if s == str "true" then str "true"
  else if s == str "false" then str "false"
  else match atoi s with
    | some _ => s
    | none => jsonQuote s

/-! ### what a JSON value is (RFC 8259 number and string, bytes) -/

def dropDigits : Bytes → Bytes
  | [] => []
  | d :: ds => if isDigit d then dropDigits ds else d :: ds

/-- `[ "." digits ] [ (e|E) [+|-] digits ]` up to the end -/
def fracExp (r : Bytes) : Bool :=
  let afterFrac : Option Bytes :=
    match r with
    | 46 :: d :: r' => if isDigit d then some (dropDigits r') else none
    | [46] => none
    | r => some r
  match afterFrac with
  | none => false
  | some [] => true
  | some (e :: r2) =>
    if e == 101 || e == 69 then
      let r3 := match r2 with
        | 43 :: x => x
        | 45 :: x => x
        | x => x
      match r3 with
      | d :: r4 => isDigit d && (dropDigits r4).isEmpty
      | [] => false
    else false

/-- `[-] (0 | [1-9] digits) frac exp` -/
def isJsonNumber (s : Bytes) : Bool :=
  let s1 := match s with
    | [] => []
    | c :: r => if c == 45 then r else c :: r
  match s1 with
  | [] => false
  | d :: r =>
    if d == 48 then fracExp r
    else if 49 ≤ d && d ≤ 57 then fracExp (dropDigits r)
    else false

def isHex (b : UInt8) : Bool := (48 ≤ b && b ≤ 57) || (97 ≤ b && b ≤ 102) || (65 ≤ b && b ≤ 70)

def simpleEsc (e : UInt8) : Bool :=
  e == 34 || e == 92 || e == 47 || e == 98 || e == 102 || e == 110 || e == 114 || e == 116

/-- after the opening quote: unescaped bytes ≥ 0x20 other than `"` and `\`, the escapes of RFC 8259, and the closing
quote as the LAST byte -/
def strBody : Bytes → Bool
  | [] => false
  | b :: rest =>
    if b == 34 then rest.isEmpty
    else if b == 92 then
      match rest with
      | [] => false
      | e :: rest' =>
        if e == 117 then
          match rest' with
          | h1 :: h2 :: h3 :: h4 :: r => isHex h1 && isHex h2 && isHex h3 && isHex h4 && strBody r
          | _ => false
        else simpleEsc e && strBody rest'
    else 32 ≤ b && strBody rest

def isJsonString : Bytes → Bool
  | 34 :: rest => strBody rest
  | _ => false

def isJsonValue (s : Bytes) : Bool :=
  s == str "true" || s == str "false" || isJsonNumber s || isJsonString s

end CaddyModel.C16
