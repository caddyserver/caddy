/-
C16 — theorems on import expansion under the cycle check (model: Import.lean).

What the totality clause needs from importgraph.go: an `import` whose target already leads back to
the importing node is REFUSED (the check is complete for reachability — a depth-first search that
stops early, forgets a successor list or tests the wrong direction breaks `import_that_returns_is_refused`
or the correspondence), the search itself terminates (visit_never_runs_out_of_fuel), and edges are
never forgotten while a parse goes on (addEdge_keeps_edges), so that the chain of nested imports a
token came through is a path of the graph.
-/
import CaddyModel.C16.Import

namespace CaddyModel.C16.Import

/-- b is reachable from a through at least one edge -/
inductive Reach (g : Graph) : Nat → Nat → Prop
  | edge {a b : Nat} : b ∈ succs g a → Reach g a b
  | step {a c b : Nat} : c ∈ succs g a → Reach g c b → Reach g a b

/-- what `visit` returns contains what was collected, what was on the stack, and every successor
of every node it collected itself -/
theorem visit_inv (g : Graph) : ∀ (fuel : Nat) (stack coll R : List Nat),
    visit g fuel stack coll = some R →
    (∀ x, x ∈ coll → x ∈ R) ∧ (∀ x, x ∈ stack → x ∈ R) ∧
    (∀ x, x ∈ R → x ∉ coll → ∀ y, y ∈ succs g x → y ∈ R) := by
  intro fuel stack coll R
  fun_induction visit g fuel stack coll with
  | case1 _ coll =>
    rintro ⟨⟩
    exact ⟨fun _ h => h, fun _ h => absurd h List.not_mem_nil, fun x hx hn => absurd hx hn⟩
  | case2 => exact fun h => nomatch h
  | case3 fuel s rest coll hc ih =>
    intro h
    obtain ⟨h1, h2, h3⟩ := ih h
    exact ⟨h1, fun x hx => (List.mem_cons.1 hx).elim (fun e => e ▸ h1 s (List.contains_iff_mem.1 hc)) (h2 x), h3⟩
  | case4 fuel s rest coll hc ih =>
    intro h
    obtain ⟨h1, h2, h3⟩ := ih h
    refine ⟨fun x hx => h1 x (List.mem_cons_of_mem _ hx), fun x hx => ?_, fun x hx hn y hy => ?_⟩
    · exact (List.mem_cons.1 hx).elim (fun e => e ▸ h1 s (List.mem_cons_self ..))
        fun e => h2 x (List.mem_append_right _ e)
    · by_cases e : x = s
      · exact h2 y (List.mem_append_left _ (e ▸ hy))
      · exact h3 x hx (fun hm => (List.mem_cons.1 hm).elim e hn) y hy

theorem closed_contains_reach {g : Graph} {R : List Nat}
    (hcl : ∀ x, x ∈ R → ∀ y, y ∈ succs g x → y ∈ R) :
    ∀ {a b : Nat}, Reach g a b → (∀ y, y ∈ succs g a → y ∈ R) → b ∈ R := by
  intro a b h
  induction h with
  | edge h => exact fun hs => hs _ h
  | step hc _ ih => exact fun hs => ih (hcl _ (hs _ hc))

theorem willCycle_complete (g : Graph) (a b : Nat) (r : Bool)
    (hr : Reach g a b) (h : willCycle g a b = some r) : r = true := by
  obtain ⟨R, hv, rfl⟩ := Option.map_eq_some_iff.1 h
  -- the collected set holds the successors of `a` and is closed under successors
  obtain ⟨_, h2, h3⟩ := visit_inv g _ _ _ _ hv
  exact List.contains_iff_mem.2 (closed_contains_reach (fun x hx => h3 x hx List.not_mem_nil) hr h2)

/-- edges whose source has not been collected yet -/
def openEdges (es : List (Nat × Nat)) (coll : List Nat) : Nat :=
  (es.filter (fun e => !coll.contains e.1)).length

theorem openEdges_mark (g : Graph) (coll : List Nat) (s : Nat) (hs : coll.contains s = false) :
    (succs g s).length + openEdges g.edges (s :: coll) = openEdges g.edges coll := by
  -- the open edges are those out of `s` (open, as `s` is not collected yet) and those that stay open
  have hs' : s ∉ coll := by simpa using hs
  unfold openEdges succs
  rw [List.length_map,
    List.length_eq_countP_add_countP (fun e => e.1 == s) (l := g.edges.filter fun e => !coll.contains e.1),
    List.countP_filter, List.countP_filter, List.countP_eq_length_filter, List.countP_eq_length_filter]
  congr 2 <;> refine List.filter_congr fun e _ => ?_
  · by_cases h : e.1 = s <;> simp [h, hs']
  · by_cases h : e.1 = s <;> simp [h]

theorem visit_fuel_enough (g : Graph) : ∀ (fuel : Nat) (stack coll : List Nat),
    stack.length + openEdges g.edges coll ≤ fuel → (visit g fuel stack coll).isSome = true := by
  intro fuel stack coll
  fun_induction visit g fuel stack coll with
  | case1 => exact fun _ => rfl
  | case2 => exact fun h => absurd h (by simp)
  | case3 fuel s rest coll hc ih => exact fun h => ih (by simp at h; omega)
  | case4 fuel s rest coll hc ih =>
    -- collecting `s` closes its edges, which pays for pushing its successors
    intro h
    apply ih
    have hm := openEdges_mark g coll s (by simpa using hc)
    simp at h ⊢
    omega

theorem visit_never_runs_out_of_fuel (g : Graph) (a b : Nat) : (willCycle g a b).isSome = true := by
  rw [willCycle, Option.isSome_map]
  apply visit_fuel_enough
  have h1 : (succs g a).length ≤ g.edges.length := by
    simp [succs]; exact List.length_filter_le _ _
  have h2 : openEdges g.edges [] ≤ g.edges.length := List.length_filter_le _ _
  unfold visitFuel; omega

/-- if the target already leads back to the importing node
(through at least one edge), addEdge does not succeed — doImport returns the cycle error instead
of splicing the tokens in. -/
theorem import_that_returns_is_refused (g g' : Graph) (frm to : Nat) (hr : Reach g to frm) :
    addEdge g frm to ≠ .ok g' := by
  fun_cases addEdge g frm to
  case case4 hw _ => exact nomatch willCycle_complete g to frm false hr hw
  case case5 hw _ => exact nomatch willCycle_complete g to frm false hr hw
  all_goals exact fun h => nomatch h

theorem addEdge_never_runs_out_of_fuel (g : Graph) (frm to : Nat) : addEdge g frm to ≠ .fuel := by
  fun_cases addEdge g frm to
  case case2 hw => have := visit_never_runs_out_of_fuel g to frm; rw [hw] at this; exact nomatch this
  all_goals exact fun h => nomatch h

/-- a successful addEdge forgets no edge and leaves frm → to in the graph: the import chain a
token came through stays a path of the graph for the rest of the parse -/
theorem addEdge_keeps_edges (g g' : Graph) (frm to : Nat) (h : addEdge g frm to = .ok g') :
    (∀ e, e ∈ g.edges → e ∈ g'.edges) ∧ to ∈ succs g' frm := by
  revert h
  fun_cases addEdge g frm to
  case case4 hc =>
    rintro ⟨⟩
    exact ⟨fun _ he => he, by simpa [areConnected] using hc⟩
  case case5 =>
    rintro ⟨⟩
    exact ⟨fun e he => by simp [he], by simp [succs]⟩
  all_goals exact fun h => nomatch h

/-- the second nested self-import is refused: once a → a is in the graph, a further `import a`
met inside a is the cycle error (the FIRST one is expanded: see self_import_expanded_once) -/
theorem self_import_refused_second_time (g g' : Graph) (a : Nat) (h : a ∈ succs g a) :
    addEdge g a a ≠ .ok g' :=
  import_that_returns_is_refused g g' a a (.edge h)

def isChain (g : Graph) : List Nat → Bool
  | a :: b :: rest => (succs g a).contains b && isChain g (b :: rest)
  | _ => true

theorem chain_reach (g : Graph) : ∀ (c : List Nat) (a last : Nat),
    isChain g (a :: (c ++ [last])) = true → Reach g a last := by
  intro c
  induction c with
  | nil =>
    intro a last h
    simp [isChain] at h
    exact .edge h
  | cons b c ih =>
    intro a last h
    simp only [List.cons_append, isChain, Bool.and_eq_true] at h
    exact .step (by simpa using h.1) (ih b last h.2)

/-- if the chain of imports x → … → last that leads to
the importing node is in the graph (it is: addEdge_keeps_edges), `import x` met in `last` is
refused.  With finitely many files and snippets this bounds the nesting depth of an expansion (a
node can follow itself once — self_import_expanded_once — and can never come back later), so
the expansion of every import line is a finite tree. -/
theorem import_of_chain_member_is_refused (g g' : Graph) (x last : Nat) (c : List Nat)
    (h : isChain g (x :: (c ++ [last])) = true) : addEdge g last x ≠ .ok g' :=
  import_that_returns_is_refused g g' last x (chain_reach g c x last h)

example : isChain ⟨[0, 1, 2, 3], [(0, 1), (1, 2), (2, 3)]⟩ (1 :: ([2] ++ [3])) = true := by decide
example : addEdge ⟨[0, 1, 2, 3], [(0, 1), (1, 2), (2, 3)]⟩ 3 1 = .cycle := by decide

-- a two-cycle: s1 imports f2, f2 imports s1 — refused when f2's import of s1 is met
example : run [⟨false, [.imp 1]⟩, ⟨true, [.marker 1, .imp 2]⟩, ⟨false, [.marker 2, .imp 1]⟩] = .cycle := by decide
-- QUIRK KEPT: a snippet that imports itself is expanded ONCE more before the check sees the
-- loop (willCycle(a, a) looks for a among the nodes reachable from a's successors, and a has none yet)
theorem self_import_expanded_once :
    addEdge ⟨[1], []⟩ 1 1 = .ok ⟨[1], [(1, 1)]⟩ ∧ addEdge ⟨[1], [(1, 1)]⟩ 1 1 = .cycle := by decide
-- a diamond is no cycle: both paths are expanded
example : run [⟨false, [.imp 1, .imp 2]⟩, ⟨false, [.marker 1, .imp 3]⟩, ⟨false, [.marker 2, .imp 3]⟩, ⟨true, [.marker 3]⟩]
    = .ok [1, 3, 2, 3] := by decide
example : Reach ⟨[0, 1, 2], [(0, 1), (1, 2)]⟩ 0 2 := .step (c := 1) (by decide) (.edge (by decide))
example : addEdge ⟨[0, 1, 2], [(0, 1), (1, 2)]⟩ 2 0 = .cycle := by decide
example : willCycle ⟨[0, 1, 2], [(0, 1), (1, 2), (2, 0)]⟩ 0 0 = some true := by decide
example : (addEdge ⟨[0, 1], []⟩ 0 1 = .ok ⟨[0, 1], [(0, 1)]⟩) := by decide
example : visit ⟨[], [(0, 1), (1, 0), (1, 2)]⟩ 7 [1] [] = some [2, 0, 1] := by decide
example : openEdges [(0, 1), (1, 0), (1, 2)] [1] = 1 := by decide

end CaddyModel.C16.Import
