/-
C16 — theorems about the `servers` option glue (`ServerOpts.lean`): determinism and validity
clauses of the property for this step, at full strength (the code is that of /repo commit
42cbd3d; `rename_old_code_fails` is about the loop before it).

* `applyServerOptions_no_server_lost`: an accepted file keeps every server, with its listen
  addresses, in place;
* `applyServerOptions_names_distinct`: the final names are pairwise distinct (the JSON object
  `servers` has one key per server);
* `option_applied_matches`: the block applied to a server has no address or one of the server's;
* the result is a function of the options and the servers — no iteration order is an argument
  of `applyServerOptions`; `rename_old_code_fails` is the counter-example of the loop before:
  the swap of two default names gives different servers under different orders and loses one
  either way.
-/
import CaddyModel.C16.ServerOpts

namespace CaddyModel.C16

theorem hasDup_false_nodup : ∀ l : List String, hasDup l = false → l.Nodup
  | [], _ => List.nodup_nil
  | x :: xs, h => by
    simp only [hasDup, Bool.or_eq_false_iff] at h
    refine List.nodup_cons.2 ⟨?_, hasDup_false_nodup xs h.2⟩
    simpa using h.1

-- of the three tests only the last is given back: no theorem below needs that the options' addresses and names are duplicate-free
theorem applyServerOptions_some (opts : List SrvOpt) (servers res : List Srv)
    (h : applyServerOptions opts servers = some res) :
    res = servers.map (applyOne (sortOpts opts)) ∧ hasDup (res.map (·.name)) = false := by
  revert h
  fun_cases applyServerOptions opts servers
  case case4 hd =>
    rintro ⟨⟩
    exact ⟨rfl, Bool.eq_false_iff.2 hd⟩
  all_goals exact fun h => nomatch h

theorem applyServerOptions_no_server_lost (opts : List SrvOpt) (servers res : List Srv)
    (h : applyServerOptions opts servers = some res) :
    res.length = servers.length ∧ res.map (·.listen) = servers.map (·.listen) := by
  rw [(applyServerOptions_some opts servers res h).1, List.length_map, List.map_map]
  refine ⟨rfl, List.map_congr_left fun s _ => ?_⟩
  simp only [Function.comp, applyOne]
  split <;> rfl

theorem applyServerOptions_names_distinct (opts : List SrvOpt) (servers res : List Srv)
    (h : applyServerOptions opts servers = some res) : (res.map (·.name)).Nodup :=
  hasDup_false_nodup _ (applyServerOptions_some opts servers res h).2

theorem option_applied_matches (sorted : List SrvOpt) (s : Srv) (o : SrvOpt)
    (h : optFor sorted s = some o) : o.addr = "" ∨ o.addr ∈ s.listen := by
  have := List.find?_some h
  simpa using this

example : applyServerOptions [⟨":8080", some "srv1", none⟩, ⟨":8082", some "srv0", some 5⟩]
    [⟨"srv0", [":8080"], none⟩, ⟨"srv1", [":8082"], none⟩]
    = some [⟨"srv1", [":8080"], none⟩, ⟨"srv0", [":8082"], some 5⟩] := by decide +kernel
example : applyServerOptions [⟨":8080", some "srv1", none⟩]
    [⟨"srv0", [":8080"], none⟩, ⟨"srv1", [":8082"], none⟩] = none := by decide +kernel
example : applyServerOptions [⟨"", none, some 7⟩, ⟨":8082", none, some 3⟩]
    [⟨"srv0", [":8080"], none⟩, ⟨"srv1", [":8082"], none⟩]
    = some [⟨"srv0", [":8080"], some 7⟩, ⟨"srv1", [":8082"], some 3⟩] := by decide +kernel

/-- NON-VACUITY (the loop before /repo commit 42cbd3d): swapping the default names of two servers — the two
possible map iteration orders leave different servers, and each loses one -/
theorem rename_old_code_fails :
    ∃ (m : List (String × Srv)) (r1 r2 : List (String × String)),
      r1.Perm r2 ∧ renameOld r1 m ≠ renameOld r2 m ∧
      (renameOld r1 m).length < m.length ∧ (renameOld r2 m).length < m.length :=
  ⟨[("srv0", ⟨"srv0", [":8080"], none⟩), ("srv1", ⟨"srv1", [":8082"], none⟩)],
   [("srv0", "srv1"), ("srv1", "srv0")], [("srv1", "srv0"), ("srv0", "srv1")],
   List.Perm.swap _ _ _, by decide +kernel, by decide +kernel, by decide +kernel⟩

end CaddyModel.C16
