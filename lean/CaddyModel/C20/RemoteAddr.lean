/-
C20 — the producer/consumer contract between `LoggableHTTPRequest` (producer of `remote_ip`) and the
`ip_mask` filter (consumer): whatever peer address net/http delivers, `remote_ip` is the bare address — no
brackets, no port — i.e. a value `net.ParseIP` accepts once the zone is cut off, so the mask applies.

`RemoteAddr` is `net.JoinHostPort(ip+zone, port)` for TCP peers (`TCPAddr.String()`), and `@` or the empty
string for the peer of a unix socket.
-/
import CaddyModel.C20.Model
import CaddyModel.C10.GlueLemmas
import CaddyModel.Util.StrLemmas

namespace CaddyModel.C20

-- by name: `cutZone` and `splitOn` exist in both namespaces
open CaddyModel.C10 (splitHostPort splitHostPort_no_colon splitHostPort_plain_peer splitHostPort_bracketed_peer)

/-- `net.JoinHostPort(ip, port)` is undone by the `net.SplitHostPort` in `LoggableHTTPRequest.MarshalLogObject`:
    brackets and port never reach `remote_ip` -/
theorem splitHostPort_joinHostPort (ip port : Bytes)
    (hi : (91 : UInt8) ∉ ip ∧ (93 : UInt8) ∉ ip)
    (hp : (58 : UInt8) ∉ port ∧ (91 : UInt8) ∉ port ∧ (93 : UInt8) ∉ port) :
    splitHostPort (joinHostPort ip port) = some (ip, port) := by
  unfold joinHostPort
  split
  · simpa using splitHostPort_bracketed_peer ip port hi hp
  · rename_i hc
    simpa using splitHostPort_plain_peer ip port ⟨by simpa using hc, hi⟩ hp

/-- **producer.** For a TCP peer `ip` (IPv4, IPv6, IPv6 with zone, IPv4-mapped — anything without brackets) and
    `port`, `RemoteAddr = net.JoinHostPort(ip, port)` and the request object's `remote_ip` is exactly `ip`:
    no brackets, no port. -/
theorem remote_ip_is_bare_address (r : Req) (ip port : Bytes)
    (hsplit : r.split = splitHostPort r.remoteAddr) (haddr : r.remoteAddr = joinHostPort ip port)
    (hi : (91 : UInt8) ∉ ip ∧ (93 : UInt8) ∉ ip)
    (hp : (58 : UInt8) ∉ port ∧ (91 : UInt8) ∉ port ∧ (93 : UInt8) ∉ port) :
    remoteIP r = ip ∧ remotePort r = port := by
  unfold remoteIP remotePort
  rw [hsplit, haddr, splitHostPort_joinHostPort ip port hi hp]
  simp

/-- the peer of a unix socket (`@`, or the empty string): `remote_ip` is that string, `remote_port` is empty -/
theorem remote_ip_of_unix_peer (r : Req) (hsplit : r.split = splitHostPort r.remoteAddr)
    (hc : (58 : UInt8) ∉ r.remoteAddr) : remoteIP r = r.remoteAddr ∧ remotePort r = [] := by
  unfold remoteIP remotePort
  rw [hsplit, splitHostPort_no_colon r.remoteAddr hc]
  simp

/-- **consumer.** …hence an `ip_mask` filter on `request>remote_ip` applies to every TCP peer: if `net.ParseIP`
    accepts the bare address (zone cut off), what is logged is the masked address — never the peer's. -/
theorem remote_ip_mask_applies (o : Oracles) (m4 m6 : Option (List UInt8)) (r : Req) (ip port : Bytes) (a : IPAddr)
    (hsplit : r.split = splitHostPort r.remoteAddr) (haddr : r.remoteAddr = joinHostPort ip port)
    (hi : (91 : UInt8) ∉ ip ∧ (93 : UInt8) ∉ ip)
    (hp : (58 : UInt8) ∉ port ∧ (91 : UInt8) ∉ port ∧ (93 : UInt8) ∉ port)
    (hshp : o.shp ip = none) (hparse : o.parseIP (cutZone ip) = some a) :
    maskValue o m4 m6 (remoteIP r) = o.ipStr (maskedOf m4 m6 a) := by
  rw [(remote_ip_is_bare_address r ip port hsplit haddr hi hp).1]
  simp [maskValue, hostOf, portOf, hshp, hparse]

/-- **observation on the unchanged tree: the filter fails open.** A value `net.ParseIP` does not accept is
    emitted unchanged — which is what turns a producer that hands over `[2001:db8::1]` (brackets kept) into a
    leak of the full client address through the filter. -/
theorem ipmask_emits_unparsable_value_unchanged (o : Oracles) (m4 m6 : Option (List UInt8)) (v : Bytes)
    (h : o.parseIP (cutZone (hostOf o v)) = none) : maskValue o m4 m6 v = v := by
  simp [maskValue, h]

/-- what the standard library answers around `2001:db8::1`: the bare address parses, the bracketed one does not -/
def wB : Oracles where
  H := id
  trim := id
  shp := splitHostPort
  parseIP := fun s => if s = str "2001:db8::1" then
    some (.v6 [0x20, 0x01, 0x0d, 0xb8, 0, 0, 0, 0, 0, 0, 0, 0, 0, 0, 0, 1]) else none
  ipStr := fun m => if m = some [0x20, 0x01, 0x0d, 0xb8, 0, 0, 0, 0, 0, 0, 0, 0, 0, 0, 0, 0] then str "2001:db8::" else str "?"
  parseURL := fun _ => none
  parseQuery := fun _ => []
  cookies := fun _ => []
  reSpans := fun _ => []

theorem remote_ip_brackets_would_leak :
    splitHostPort (joinHostPort (str "2001:db8::1") (str "443")) = some (str "2001:db8::1", str "443") ∧
    maskValue wB (cidr4 16) (cidr6 32) (str "2001:db8::1") = str "2001:db8::" ∧
    maskValue wB (cidr4 16) (cidr6 32) (str "[2001:db8::1]") = str "[2001:db8::1]" := by
  repeat rw [str_ofList]
  decide +kernel

example : joinHostPort (str "fe80::1%eth0") (str "9") = str "[fe80::1%eth0]:9" ∧
    joinHostPort (str "10.1.2.3") (str "80") = str "10.1.2.3:80" := by
  repeat rw [str_ofList]
  decide +kernel

end CaddyModel.C20
