/-
C20 — "unless credential logging is explicitly enabled": theorems about the plumbing of the flag.
-/
import CaddyModel.C20.Plumb
import CaddyModel.Util.StrLemmas

namespace CaddyModel.C20

theorem mem_insertBlock (b x : OptBlock) (l : List OptBlock) : x ∈ insertBlock b l ↔ x = b ∨ x ∈ l := by
  fun_induction insertBlock b l <;> simp [*, or_left_comm]

theorem mem_sortBlocks (x : OptBlock) : ∀ l, x ∈ sortBlocks l ↔ x ∈ l
  | [] => by simp [sortBlocks]
  | b :: r => by simp [sortBlocks, mem_insertBlock, mem_sortBlocks x r]

theorem creds_of_applyOptsOrder {order : List OptBlock} {s : Srv} (h : effectiveCreds (applyOptsOrder order s) = true) :
    ∃ b, firstBlock order s = some b ∧ b ∈ order ∧ blockApplies s b = true ∧ b.logCreds = true := by
  unfold applyOptsOrder at h
  cases hf : firstBlock order s with
  | none => simp [hf, effectiveCreds] at h
  | some b =>
    refine ⟨b, rfl, List.mem_of_find?_eq_some hf, List.find?_some hf, ?_⟩
    cases hb : b.logCreds with
    | true => rfl
    | false => simp [hf, hb, effectiveCreds] at h

/-- **explicitly enabled, whatever `sort.Slice` does with ties.** `sort.Slice` is not a stable sort beyond 12
    elements, so which of several equally long listener addresses comes first is unspecified; the statement
    does not depend on it: for ANY order that holds exactly the configured blocks, a server logs credentials
    only if a block that applies to it contains `log_credentials`. -/
theorem credentials_only_when_enabled_any_order (blocks order : List OptBlock) (s : Srv)
    (hperm : ∀ x, x ∈ order ↔ x ∈ blocks) (h : effectiveCreds (applyOptsOrder order s) = true) :
    ∃ b ∈ blocks, blockApplies s b = true ∧ b.logCreds = true :=
  have ⟨b, _, hm, hb⟩ := creds_of_applyOptsOrder h
  ⟨b, (hperm b).mp hm, hb⟩

/-- **explicitly enabled.** A server logs credentials only if the `servers` block chosen for it — the first one,
    longest listener address first, that has an empty listener address or one of the server's listen addresses —
    contains `log_credentials`. -/
theorem credentials_only_when_explicitly_enabled (blocks : List OptBlock) (s : Srv)
    (h : effectiveCreds (applyOpts blocks s) = true) :
    ∃ b, firstBlock (sortBlocks blocks) s = some b ∧ b ∈ blocks ∧ blockApplies s b = true ∧ b.logCreds = true :=
  have ⟨b, hf, hm, hb⟩ := creds_of_applyOptsOrder h
  ⟨b, hf, (mem_sortBlocks b blocks).mp hm, hb⟩

/-- enabling it for one listener does not enable it for a server that does not listen there -/
theorem credentials_enabled_per_listener (blocks : List OptBlock) (s : Srv)
    (h : ∀ b ∈ blocks, b.logCreds = true → blockApplies s b = false) :
    effectiveCreds (applyOpts blocks s) = false := by
  cases hc : effectiveCreds (applyOpts blocks s) with
  | false => rfl
  | true =>
    rcases credentials_only_when_explicitly_enabled blocks s hc with ⟨b, _, hm, ha, hb⟩
    rw [h b hm hb] at ha; cases ha

/-- the default is off: without any `log_credentials` no server logs credentials, whatever else is configured -/
theorem credentials_off_by_default (blocks : List OptBlock) (s : Srv) (h : ∀ b ∈ blocks, b.logCreds = false) :
    effectiveCreds (applyOpts blocks s) = false :=
  credentials_enabled_per_listener blocks s fun b hm hb => absurd ((h b hm).symm.trans hb) Bool.false_ne_true

/-- and when the first applicable block asks for it, the flag is on even for a server without `log` -/
theorem credentials_enabled_when_asked (blocks : List OptBlock) (s : Srv) (b : OptBlock)
    (hf : firstBlock (sortBlocks blocks) s = some b) (hb : b.logCreds = true) : applyOpts blocks s = (true, true) := by
  simp [applyOpts, applyOptsOrder, hf, hb]

theorem redirectLogs_eq (srvs : List TlsSrv) :
    redirectLogs srvs = (srvs.reverse.filterMap fun s => if s.qualifies then s.logs else none).head? := by
  induction srvs with
  | nil => rfl
  | cons s r ih =>
    rw [redirectLogs, ih, List.reverse_cons, List.filterMap_append, List.head?_append]
    cases (r.reverse.filterMap fun s => if s.qualifies then s.logs else none).head? with
    | some f => rfl
    | none => obtain ⟨_ | _, _ | _⟩ := s <;> rfl

theorem redirectLogs_some (srvs : List TlsSrv) (f : Bool) (h : redirectLogs srvs = some f) :
    ∃ s ∈ srvs, s.qualifies = true ∧ s.logs = some f := by
  rw [redirectLogs_eq] at h
  have ⟨s, hs, hf⟩ := List.mem_filterMap.mp (List.mem_of_mem_head? h)
  exact ⟨s, List.mem_reverse.mp hs, Option.ite_none_right_eq_some.mp hf⟩

/-- **the redirect server.** The server automatic HTTPS adds for HTTP->HTTPS redirects logs credentials only if
    a configured server that qualifies for automatic HTTPS has them enabled — it never invents the flag. -/
theorem redirect_server_credentials_come_from_a_tls_server : ∀ (srvs : List TlsSrv),
    redirectCreds srvs = true → ∃ s ∈ srvs, s.qualifies = true ∧ s.logs = some true := by
  intro srvs h
  unfold redirectCreds at h
  split at h
  · rename_i f hf
    exact redirectLogs_some srvs true (h ▸ hf)
  · cases h

/-- …and it is the LAST qualifying server with a `logs` object that decides: credentials enabled on an earlier
    server do not reach the redirect server when a later one has them off -/
theorem redirect_server_takes_last (srvs : List TlsSrv) (s : TlsSrv) (f : Bool)
    (hq : s.qualifies = true) (hl : s.logs = some f) : redirectCreds (srvs ++ [s]) = f := by
  simp [redirectCreds, redirectLogs_eq, hq, hl]

-- the harness' configuration: tlsA (credentials on), tlsB (off): the redirect server has them off
example : redirectCreds [⟨true, some true⟩, ⟨true, some false⟩] = false := by decide
example : redirectCreds [⟨true, some false⟩, ⟨false, some true⟩, ⟨true, none⟩] = false ∧
    redirectCreds [⟨true, some true⟩, ⟨true, none⟩] = true := by decide
def exBlocks : List OptBlock := [⟨[], false⟩, ⟨str ":8001", true⟩, ⟨str "127.0.0.1:8002", false⟩]
example : sortBlocks exBlocks = [⟨str "127.0.0.1:8002", false⟩, ⟨str ":8001", true⟩, ⟨[], false⟩] := by
  unfold exBlocks
  repeat rw [str_ofList]
  decide
-- the specific block wins over the catch-all although it is written after it
example : applyOpts exBlocks ⟨[str ":8001"], false⟩ = (true, true) := by
  unfold exBlocks
  repeat rw [str_ofList]
  decide
example : applyOpts exBlocks ⟨[str "127.0.0.1:8002", str "127.0.0.2:8002"], true⟩ = (true, false) := by
  unfold exBlocks
  repeat rw [str_ofList]
  decide
example : applyOpts exBlocks ⟨[str ":8003"], false⟩ = (false, false) := by
  unfold exBlocks
  repeat rw [str_ofList]
  decide
example : effectiveCreds (applyOpts [] ⟨[str ":80"], true⟩) = false := by decide

end CaddyModel.C20
