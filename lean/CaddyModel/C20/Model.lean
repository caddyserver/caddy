/-
C20 — model of the code that decides what reaches the logs.

* `loggableHeader`  = `LoggableHTTPHeader.MarshalLogObject` (modules/caddyhttp/marshalers.go):
  every header is emitted as an array; unless `ShouldLogCredentials`, a header whose
  `strings.ToLower(strings.TrimPrefix(key, "Trailer:"))` is one of the four credential names is emitted as `["REDACTED"]`,
  whatever its casing and however many values it has.
* `loggableRequest` = `LoggableHTTPRequest.MarshalLogObject` (flattened, `>` joins a path).
* `siteEntries`     = which log entries the server (access / error), the reverse proxy
  ("upstream roundtrip") and the rewrite handler ("rewrote request") build, from which header
  map and with which credentials flag.
* `applyFilter`     = the eight log field filters of modules/logging/filters.go as functions on
  the field they receive from the filter encoder.  Library calls (`strings.TrimSpace`,
  `net.SplitHostPort`, `net.ParseIP`, `IP.String`, `url.Parse`/`Query`/`String`,
  `Request.Cookies`, regexp matching/expansion, SHA-256) are the parameter `Oracles`; the glue
  around them (splitting, choosing the mask, pass-through on failure, joining, escaping) is here.

Byte strings are `List UInt8`.  A Go map (`http.Header`, `url.Values`) is an association list
with distinct keys; everything that is emitted from a map is emitted per key, so order is the
order of the list (the harness sorts both sides).
-/
import CaddyModel.Util.Hex

namespace CaddyModel.C20

/-! ### header redaction (marshalers.go) -/

abbrev Hdr := List (Bytes × List Bytes)

/-- ASCII upper → lower -/
def lowerByte (b : UInt8) : UInt8 := if 65 ≤ b ∧ b ≤ 90 then b + 32 else b

/-- `strings.ToLower` as far as equality with an ASCII name is concerned: ASCII letters are
    folded; the only two non-ASCII runes whose lower case is an ASCII letter are U+212A KELVIN
    SIGN (`E2 84 AA` → `k`) and U+0130 (`C4 B0` → `i`); every other byte ≥ 0x80 stays ≥ 0x80
    (and therefore never equals a byte of an ASCII name). -/
def foldAux : Nat → Bytes → Bytes
  | _, [] => []
  | n + 1, _ :: r => foldAux n r          -- continuation bytes of a rune already folded
  | 0, a :: r =>
    if a = 0xE2 ∧ r.take 2 = [0x84, 0xAA] then 107 :: foldAux 2 r
    else if a = 0xC4 ∧ r.take 1 = [0xB0] then 105 :: foldAux 1 r
    else lowerByte a :: foldAux 0 r

def foldName (k : Bytes) : Bytes := foldAux 0 k

/-- the names of marshalers.go's `switch strings.ToLower(key)` -/
def credNames : List Bytes :=
  [str "cookie", str "set-cookie", str "authorization", str "proxy-authorization"]

/-- the key test of marshalers.go BEFORE fix 48df0ef: `switch strings.ToLower(key)` -/
def isCredOld (key : Bytes) : Bool := credNames.contains (foldName key)

/-- `http.TrailerPrefix`: reverse_proxy keeps a trailer the upstream did not announce in the response
    header map under `Trailer:<name>` -/
def trailerPrefix : Bytes := str "Trailer:"

/-- `strings.TrimPrefix(key, http.TrailerPrefix)`: exact case, at most once -/
def stripTrailer (key : Bytes) : Bytes :=
  if trailerPrefix.isPrefixOf key then key.drop trailerPrefix.length else key

/-- the key test as it is now: `switch strings.ToLower(strings.TrimPrefix(key, http.TrailerPrefix))` -/
def isCred (key : Bytes) : Bool := isCredOld (stripTrailer key)

def redactedVal : List Bytes := [str "REDACTED"]

/-- the array emitted for one header -/
def logVal (creds : Bool) (key : Bytes) (vals : List Bytes) : List Bytes :=
  if !creds && isCred key then redactedVal else vals

/-- `LoggableHTTPHeader{h, creds}.MarshalLogObject`: one array per key (a nil map emits nothing) -/
def loggableHeader (h : Hdr) (creds : Bool) : Hdr :=
  h.map fun kv => (kv.1, logVal creds kv.1 kv.2)

/-! ### the request object -/

structure Req where
  remoteAddr : Bytes
  split : Option (Bytes × Bytes)   -- net.SplitHostPort(RemoteAddr); none = error
  clientIP : Option Bytes          -- the `client_ip` var, when it is a string
  proto : Bytes
  method : Bytes
  host : Bytes
  uri : Bytes
  hdr : Hdr
  te : Option (List Bytes)         -- TransferEncoding, none = nil

/-- what a zap field carries, as far as the filters are concerned -/
inductive FVal where
  | str (s : Bytes)            -- StringType
  | arr (l : List Bytes)       -- ArrayMarshalerType holding a caddyhttp.LoggableStringArray
  | other (tag : Nat)          -- every other field type (ints, bools, durations, objects, zap.Strings …)
  | skip                       -- SkipType: nothing is emitted
deriving DecidableEq, Repr

structure Field where
  key : Bytes
  val : FVal
deriving DecidableEq, Repr

def remoteIP (r : Req) : Bytes := match r.split with | some (ip, _) => ip | none => r.remoteAddr
def remotePort (r : Req) : Bytes := match r.split with | some (_, p) => p | none => []

def optField (k : Bytes) : Option Bytes → List Field
  | some v => [⟨k, .str v⟩]
  | none => []

def optArr (k : Bytes) : Option (List Bytes) → List Field
  | some v => [⟨k, .arr v⟩]
  | none => []

def hdrPrefix : Bytes := str "headers>"

/-- `LoggableHTTPRequest{r, creds}.MarshalLogObject`, flattened (`headers>Name`); TLS state left out -/
def loggableRequest (r : Req) (creds : Bool) : List Field :=
  [⟨str "remote_ip", .str (remoteIP r)⟩, ⟨str "remote_port", .str (remotePort r)⟩]
  ++ optField (str "client_ip") r.clientIP
  ++ [⟨str "proto", .str r.proto⟩, ⟨str "method", .str r.method⟩, ⟨str "host", .str r.host⟩,
      ⟨str "uri", .str r.uri⟩]
  ++ (loggableHeader r.hdr creds).map (fun kv => ⟨hdrPrefix ++ kv.1, .arr kv.2⟩)
  ++ optArr (str "transfer_encoding") r.te

/-! ### log sites (server.go, reverseproxy.go, rewrite.go) -/

inductive Route where
  | respond      -- a handler writes the response
  | fail         -- a handler returns an error (plain or HandlerError)
  | proxyOk      -- reverse_proxy, the round trip succeeds (a normal response, a response handled by handle_response
                 -- routes, or 101 Switching Protocols: the upgrade path logs no further header object)
  | proxyErr     -- reverse_proxy, the round trip fails
  | fcgiErr      -- reverse_proxy with the fastcgi transport: its own "roundtrip" debug entry, then the dial fails
  | proxyRetry   -- reverse_proxy, the first round trip fails and is retried, the second succeeds
deriving DecidableEq, Repr

structure Scn where
  creds : Bool            -- server.Logs.ShouldLogCredentials
  skipAccess : Bool       -- host is in skip_hosts (no access log; error logs unaffected)
  names : List Bytes      -- logger name suffixes wrapLogger yields for the host ("" = default logger)
  rewrote : Bool          -- a rewrite handler ran before and changed the request
  route : Route
  tIn : Hdr               -- request headers when the server was entered (the clone that is logged)
  tMid : Hdr              -- request headers when the rewrite handler ran
  tOut : Hdr              -- headers of the outgoing (upstream) request
  tUp : Hdr               -- headers of the upstream response
  tResp : Hdr             -- response headers when the access log is written

/-- one logged header object: (logger name, object path, logged headers) -/
structure Entry where
  logger : Bytes
  obj : Bytes
  hdr : Hdr
deriving DecidableEq, Repr

def named (base : Bytes) (n : Bytes) : Bytes := if n.isEmpty then base else base ++ [46] ++ n

def rewriteEntries (s : Scn) : List Entry :=
  if s.rewrote then
    -- rewrite.go:146  `LoggableHTTPRequest{Request: r}` — the flag is the zero value
    [⟨str "http.handlers.rewrite", str "request>headers", loggableHeader s.tMid false⟩]
  else []

def proxyEntries (s : Scn) : List Entry :=
  match s.route with
  | .proxyOk =>
    [⟨str "http.handlers.reverse_proxy", str "request>headers", loggableHeader s.tOut s.creds⟩,
     ⟨str "http.handlers.reverse_proxy", str "headers", loggableHeader s.tUp s.creds⟩]
  | .proxyErr =>
    [⟨str "http.handlers.reverse_proxy", str "request>headers", loggableHeader s.tOut s.creds⟩]
  | .proxyRetry =>
    -- one "upstream roundtrip" entry per attempt: the failed one without, the successful one with the response headers
    [⟨str "http.handlers.reverse_proxy", str "request>headers", loggableHeader s.tOut s.creds⟩,
     ⟨str "http.handlers.reverse_proxy", str "request>headers", loggableHeader s.tOut s.creds⟩,
     ⟨str "http.handlers.reverse_proxy", str "headers", loggableHeader s.tUp s.creds⟩]
  | .fcgiErr =>
    -- fastcgi.go:141  `LoggableHTTPRequest{Request: r, ShouldLogCredentials: logCreds}` logged before dialing
    [⟨str "http.reverse_proxy.transport.fastcgi", str "request>headers", loggableHeader s.tOut s.creds⟩,
     ⟨str "http.handlers.reverse_proxy", str "request>headers", loggableHeader s.tOut s.creds⟩]
  | _ => []

def failed (s : Scn) : Bool := s.route = .fail || s.route = .proxyErr || s.route = .fcgiErr

def errorEntries (s : Scn) : List Entry :=
  if failed s then
    s.names.map fun n => ⟨named (str "http.log.error") n, str "request>headers", loggableHeader s.tIn s.creds⟩
  else []

def accessEntries (s : Scn) : List Entry :=
  if s.skipAccess then [] else
  s.names.flatMap fun n =>
    [⟨named (str "http.log.access") n, str "request>headers", loggableHeader s.tIn s.creds⟩,
     ⟨named (str "http.log.access") n, str "resp_headers", loggableHeader s.tResp s.creds⟩]

/-- every header object logged while one request is served, in the order of emission -/
def siteEntries (s : Scn) : List Entry :=
  rewriteEntries s ++ proxyEntries s ++ errorEntries s ++ accessEntries s

/-! ### field filters (modules/logging/filters.go) -/

inductive IPAddr where
  | v4 (b : List UInt8)    -- `To4() != nil`, the 4 bytes
  | v6 (b : List UInt8)    -- otherwise, the 16 bytes
deriving DecidableEq, Repr

structure URLParts where
  pre : Bytes                        -- `u.String()` up to (not including) `?`
  post : Bytes                       -- `#fragment` or empty
  force : Bool                       -- `u.ForceQuery`
  q : List (Bytes × List Bytes)      -- `u.Query()`, keys distinct and sorted
deriving DecidableEq, Repr

structure Cookie where
  name : Bytes
  value : Bytes
  quoted : Bool
deriving DecidableEq, Repr

/-- one effective regexp match: `[s, e)` and the expanded replacement -/
structure Span where
  s : Nat
  e : Nat
  exp : Bytes
deriving DecidableEq, Repr

/-- library functions the filters call (the driver computes `H`, `trim` and `shp` itself — SHA-256 and the byte-level
    `TrimSpace` / `SplitHostPort` of C10.Glue — and takes the others from tables the harness supplies per case) -/
structure Oracles where
  H : Bytes → Bytes                              -- `hash`: hex of the first 4 bytes of SHA-256
  trim : Bytes → Bytes                           -- strings.TrimSpace
  shp : Bytes → Option (Bytes × Bytes)           -- net.SplitHostPort
  parseIP : Bytes → Option IPAddr                -- net.ParseIP
  ipStr : Option (List UInt8) → Bytes            -- IP.String() (none = nil IP)
  parseURL : Bytes → Option URLParts             -- url.Parse
  parseQuery : Bytes → List (Bytes × List Bytes)  -- url.ParseQuery (what parses; keys distinct and sorted)
  cookies : List Bytes → List Cookie             -- (&http.Request{Header: {"Cookie": l}}).Cookies()
  reSpans : Bytes → List Span                    -- matches ReplaceAllString replaces, with expansions

inductive ActT where
  | replace | hash | delete
deriving DecidableEq, Repr

/-- `queryFilterAction` / `cookieFilterAction` -/
structure Act where
  typ : ActT
  name : Bytes
  value : Bytes
deriving DecidableEq, Repr

inductive Filter where
  | delete
  | replace (v : Bytes)
  | hash
  | ipMask (v4raw v6raw : Int)
  | query (acts : List Act)
  | cookie (acts : List Act)
  | regexp
  | rename (name : Bytes)
deriving DecidableEq, Repr

/-- `if array, ok := in.Interface.(LoggableStringArray) {…each…} else { in.String = f(in.String) }`:
    for a field that is neither a string nor such an array the assignment to `in.String` has no
    effect on what is emitted. -/
def mapStr (f : Bytes → Bytes) : FVal → FVal
  | .str s => .str (f s)
  | .arr l => .arr (l.map f)
  | .other t => .other t
  | .skip => .skip

/-! ip_mask -/

def maskByte (ones : Nat) : UInt8 := if ones ≥ 8 then 255 else UInt8.ofNat (256 - 2 ^ (8 - ones))

def cidrBytes : (len ones : Nat) → List UInt8
  | 0, _ => []
  | n + 1, ones => maskByte ones :: cidrBytes n (ones - 8)

/-- `parseRawToMask`: 0 ⇒ nil; `net.CIDRMask` returns nil when ones ∉ [0, bits] -/
def cidrMask (raw : Int) (bits : Nat) : Option (List UInt8) :=
  if raw ≤ 0 ∨ raw > (bits : Int) then none else some (cidrBytes (bits / 8) raw.toNat)

def andBytes (ip mask : List UInt8) : List UInt8 := List.zipWith (· &&& ·) ip mask

/-- `ipAddr.Mask(mask)` with the mask chosen by `ipAddr.To4() == nil`; none = nil IP -/
def maskedOf (m4 m6 : Option (List UInt8)) : IPAddr → Option (List UInt8)
  | .v4 b => m4.map (andBytes b)
  | .v6 b => m6.map (andBytes b)

def hostOf (o : Oracles) (value : Bytes) : Bytes :=
  match o.shp value with | some (h, _) => h | none => value

def portOf (o : Oracles) (value : Bytes) : Bytes :=
  match o.shp value with | some (_, p) => p | none => []

/-- net.JoinHostPort -/
def joinHostPort (host port : Bytes) : Bytes :=
  if host.contains 58 then [91] ++ host ++ [93, 58] ++ port else host ++ [58] ++ port

/-- `strings.Cut(host, "%")`: an IPv6 zone is not part of the address -/
def cutZone (host : Bytes) : Bytes := host.takeWhile (· ≠ 37)

/-- one comma-separated element, already trimmed -/
def maskValue (o : Oracles) (m4 m6 : Option (List UInt8)) (value : Bytes) : Bytes :=
  match o.parseIP (cutZone (hostOf o value)) with
  | none => value                        -- `output += value + ", "; continue`
  | some ip =>
    if (portOf o value).isEmpty then o.ipStr (maskedOf m4 m6 ip)
    else joinHostPort (o.ipStr (maskedOf m4 m6 ip)) (portOf o value)

/-- the same element BEFORE the zone fix: `net.ParseIP(host)` on the host with its zone -/
def maskValueOld (o : Oracles) (m4 m6 : Option (List UInt8)) (value : Bytes) : Bytes :=
  match o.parseIP (hostOf o value) with
  | none => value
  | some ip =>
    if (portOf o value).isEmpty then o.ipStr (maskedOf m4 m6 ip)
    else joinHostPort (o.ipStr (maskedOf m4 m6 ip)) (portOf o value)

/-- strings.Split(s, ",") -/
def splitOn (c : UInt8) : Bytes → List Bytes
  | [] => [[]]
  | b :: r =>
    if b = c then [] :: splitOn c r
    else match splitOn c r with
      | p :: ps => (b :: p) :: ps
      | [] => [[b]]

def commaSpace : Bytes := [44, 32]

/-- strings.TrimSuffix -/
def trimSuffix (s suf : Bytes) : Bytes :=
  if suf.isSuffixOf s then s.take (s.length - suf.length) else s

def ipMaskStr (o : Oracles) (m4 m6 : Option (List UInt8)) (s : Bytes) : Bytes :=
  trimSuffix (((splitOn 44 s).map fun p => maskValue o m4 m6 (o.trim p) ++ commaSpace).flatten) commaSpace

/-! query -/

def isUnreserved (b : UInt8) : Bool :=
  (48 ≤ b && b ≤ 57) || (65 ≤ b && b ≤ 90) || (97 ≤ b && b ≤ 122) || b = 45 || b = 95 || b = 46 || b = 126

def upperHex (n : UInt8) : UInt8 := if n < 10 then 48 + n else 55 + n

/-- url.QueryEscape -/
def queryEscape : Bytes → Bytes
  | [] => []
  | b :: r =>
    if isUnreserved b then b :: queryEscape r
    else if b = 32 then 43 :: queryEscape r
    else 37 :: upperHex (b >>> 4) :: upperHex (b &&& 15) :: queryEscape r

def applyAct (H : Bytes → Bytes) (q : List (Bytes × List Bytes)) (a : Act) : List (Bytes × List Bytes) :=
  match a.typ with
  | .replace => q.map fun kv => if kv.1 = a.name then (kv.1, kv.2.map fun _ => a.value) else kv
  | .hash => q.map fun kv => if kv.1 = a.name then (kv.1, kv.2.map fun _ => H a.value) else kv   -- sic: hash(a.Value)
  | .delete => q.filter fun kv => kv.1 ≠ a.name

def applyActs (H : Bytes → Bytes) (acts : List Act) (q : List (Bytes × List Bytes)) : List (Bytes × List Bytes) :=
  acts.foldl (applyAct H) q

def pairStr (k v : Bytes) : Bytes := queryEscape k ++ [61] ++ queryEscape v

/-- url.Values.Encode (keys already sorted) -/
def encodeQuery (q : List (Bytes × List Bytes)) : Bytes :=
  [38].intercalate (q.flatMap fun kv => kv.2.map (pairStr kv.1))

def urlString (u : URLParts) (rawq : Bytes) : Bytes :=
  u.pre ++ (if u.force || !rawq.isEmpty then 63 :: rawq else []) ++ u.post

/-- strings.Cut(s, c): text before and after the first `c`; none = not found -/
def cutAt (c : UInt8) : Bytes → Option (Bytes × Bytes)
  | [] => none
  | b :: r => if b = c then some ([], r) else
    match cutAt c r with
    | some (x, y) => some (b :: x, y)
    | none => none

/-- the part after the first `?`: raw query up to a `#`, and the rest -/
def splitQuery (o : Oracles) (before after : Bytes) : URLParts :=
  match cutAt 35 after with
  | none => ⟨before, [], after.isEmpty, o.parseQuery after⟩
  | some (rawq, frag) => ⟨before, 35 :: frag, rawq.isEmpty, o.parseQuery rawq⟩

/-- what `processQueryString` works on when `url.Parse` fails: the value cut at its first `?`;
    none = there is no `?` -/
def fallbackParts (o : Oracles) (s : Bytes) : Option URLParts :=
  match cutAt 63 s with
  | none => none
  | some (before, after) => some (splitQuery o before after)

def queryStr (o : Oracles) (acts : List Act) (s : Bytes) : Bytes :=
  match o.parseURL s with
  | some u => urlString u (encodeQuery (applyActs o.H acts u.q))
  | none =>
    match fallbackParts o s with
    | none => s                                  -- `if !found { return s }`
    | some u => urlString u (encodeQuery (applyActs o.H acts u.q))

/-- the same BEFORE the fallback fix: `if err != nil { return s }` -/
def queryStrOld (o : Oracles) (acts : List Act) (s : Bytes) : Bytes :=
  match o.parseURL s with
  | none => s
  | some u => urlString u (encodeQuery (applyActs o.H acts u.q))

/-! cookie -/

def validCookieValueByte (b : UInt8) : Bool := 0x20 ≤ b && b < 0x7f && b ≠ 34 && b ≠ 59 && b ≠ 92

/-- sanitizeCookieValue -/
def sanitizeValue (v : Bytes) (quoted : Bool) : Bytes :=
  if (v.filter validCookieValueByte).isEmpty then []
  else if (v.filter validCookieValueByte).contains 32 || (v.filter validCookieValueByte).contains 44 || quoted then
    [34] ++ v.filter validCookieValueByte ++ [34]
  else v.filter validCookieValueByte

/-- sanitizeCookieName: `\n` and `\r` become `-` -/
def sanitizeName (n : Bytes) : Bytes := n.map fun b => if b = 10 ∨ b = 13 then 45 else b

def renderCookie (c : Cookie) : Bytes := sanitizeName c.name ++ [61] ++ sanitizeValue c.value c.quoted

/-- the inner `for _, a := range m.Actions` loop: the first action with the cookie's name decides;
    none = the cookie is dropped -/
def cookieAct (H : Bytes → Bytes) : List Act → Cookie → Option Cookie
  | [], c => some c
  | a :: rest, c =>
    if c.name ≠ a.name then cookieAct H rest c
    else match a.typ with
      | .replace => some { c with value := a.value }
      | .hash => some { c with value := H c.value }
      | .delete => none

def semiSpace : Bytes := [59, 32]

def cookieVal (o : Oracles) (acts : List Act) : FVal → FVal
  | .arr l =>
    match (o.cookies l).filterMap (cookieAct o.H acts) with
    | [] => .arr []
    | cs => .arr [semiSpace.intercalate (cs.map renderCookie)]
  | v => v                                       -- `if !ok { return in }`

/-! regexp -/

/-- `Regexp.ReplaceAllString`'s copy loop: unmatched text before each match, the expansion, and
    finally the rest -/
def reLoop (src : Bytes) : List Span → Nat → Bytes
  | [], last => src.drop last
  | sp :: r, last => (src.drop last).take (sp.s - last) ++ sp.exp ++ reLoop src r sp.e

def reStr (o : Oracles) (s : Bytes) : Bytes := reLoop s (o.reSpans s) 0

/-! all filters -/

def cidr4 (raw : Int) : Option (List UInt8) := cidrMask raw 32
def cidr6 (raw : Int) : Option (List UInt8) := cidrMask raw 128

/-- `filter.Filter(field)`; the result with `.skip` is not emitted -/
def applyFilter (o : Oracles) : Filter → Field → Field
  | .delete, f => ⟨f.key, .skip⟩
  | .replace v, f => ⟨f.key, .str v⟩
  | .hash, f => ⟨f.key, mapStr o.H f.val⟩
  | .ipMask a b, f => ⟨f.key, mapStr (ipMaskStr o (cidr4 a) (cidr6 b)) f.val⟩
  | .query acts, f => ⟨f.key, mapStr (queryStr o acts) f.val⟩
  | .cookie acts, f => ⟨f.key, cookieVal o acts f.val⟩
  | .regexp, f => ⟨f.key, mapStr (reStr o) f.val⟩
  | .rename n, f => ⟨n, f.val⟩

end CaddyModel.C20
