/-
C20 — the filter encoder's dispatch (`FEnc.lean`) in a flat view (`Flat`, `flat3List`), and what it guarantees per key path:
under `noObjFilterList` the flat view of the output is `flatMap specStep` of the input's; without that exclusion every entry of
the output `StemsFrom` an entry of the input; the visible path (`visList`) is the key path (`keyPathLeaves`) under `noNsList`
and not without.  With them, evaluated witnesses against the dispatch before two repairs and test vectors on `exEntry` /
`exCfg` with the oracle `exFO`.
-/
import CaddyModel.C20.FEnc
import CaddyModel.Util.StrLemmas

namespace CaddyModel.C20

/-! ### the flat view: one entry per field, with the prefix it is reached under -/

structure Flat where
  pre : Bytes          -- keyPrefix when the field reaches the encoder
  key : Bytes
  val : FVal
  isObj : Bool         -- the entry stands for an object (its fields follow)
deriving DecidableEq, Repr

/-- the value under which a `zap.Namespace` field shows in the flat view -/
def nsTag : Nat := 99
-- A marker is told from a field by this tag alone: a field whose own value is `.other 99` reads as a marker in `StemsFrom`.

mutual
def flat3Node (pre : Bytes) : Node → List Flat
  | .leaf k v => [⟨pre, k, v, false⟩]
  | .obj k kids => ⟨pre, k, .other objTag, true⟩ :: flat3List (pre ++ k ++ pathSep) kids
  | .ns k => [⟨pre, k, .other nsTag, true⟩]     -- a structural entry; `pre` of the later fields is the encoder's, unchanged
def flat3List (pre : Bytes) : List Node → List Flat
  | [] => []
  | n :: r => flat3Node pre n ++ flat3List pre r
end

/-- what the property expects of one flattened field: an object entry stays, a field whose full path
    `pre ++ key` has a configured filter is replaced by that filter's result, any other field stays -/
def specStep (o : Oracles) (cfg : FCfg) (e : Flat) : List Flat :=
  if e.isObj then [e] else
  match lookupF cfg (e.pre ++ e.key) with
  | none => [e]
  | some f =>
    match (applyFilter o f ⟨e.key, e.val⟩).val with
    | .skip => []
    | v => [⟨e.pre, (applyFilter o f ⟨e.key, e.val⟩).key, v, false⟩]

mutual
/-- no filter is configured on the path of an object (then the flat view of the output is a `flatMap`) -/
def noObjFilterNode (cfg : FCfg) (pre : Bytes) : Node → Bool
  | .leaf _ _ => true
  | .obj k kids => (lookupF cfg (pre ++ k)).isNone && noObjFilterList cfg (pre ++ k ++ pathSep) kids
  | .ns _ => true
def noObjFilterList (cfg : FCfg) (pre : Bytes) : List Node → Bool
  | [] => true
  | n :: r => noObjFilterNode cfg pre n && noObjFilterList cfg pre r
end

theorem flat3_emitLeaf (pre : Bytes) (f : Field) :
    flat3List pre (emitLeaf f) = (match f.val with | .skip => [] | v => [⟨pre, f.key, v, false⟩]) := by
  unfold emitLeaf
  cases f.val <;> simp [flat3List, flat3Node]

theorem flat3List_append (pre : Bytes) : ∀ (a b : List Node), flat3List pre (a ++ b) = flat3List pre a ++ flat3List pre b
  | [], b => by simp [flat3List]
  | n :: r, b => by
    simp only [List.cons_append, flat3List, List.append_assoc]
    rw [flat3List_append pre r b]

mutual
theorem flat3_encNode (o : Oracles) (cfg : FCfg) (pre : Bytes) : ∀ (n : Node), noObjFilterNode cfg pre n = true →
    flat3List pre (encNode o cfg pre n) = (flat3Node pre n).flatMap (specStep o cfg)
  | .leaf k v, _ => by
    simp only [encNode, flat3Node, List.flatMap_cons, List.flatMap_nil, List.append_nil, specStep]
    cases lookupF cfg (pre ++ k) with
    | none => simp [flat3List, flat3Node]
    | some f =>
      simp only [flat3_emitLeaf]
      cases (applyFilter o f ⟨k, v⟩).val <;> simp
  | .obj k kids, h => by
    simp only [noObjFilterNode, Bool.and_eq_true, Option.isNone_iff_eq_none] at h
    simp only [encNode, h.1, flat3Node, flat3List, List.append_nil, List.flatMap_cons, specStep, if_true,
      flat3_encList o cfg (pre ++ k ++ pathSep) kids h.2, List.singleton_append]
  | .ns k, _ => by simp [encNode, flat3Node, flat3List, specStep]
theorem flat3_encList (o : Oracles) (cfg : FCfg) (pre : Bytes) : ∀ (ns : List Node), noObjFilterList cfg pre ns = true →
    flat3List pre (encList o cfg pre ns) = (flat3List pre ns).flatMap (specStep o cfg)
  | [], _ => by simp [encList, flat3List]
  | n :: r, h => by
    simp only [noObjFilterList, Bool.and_eq_true] at h
    simp only [encList, flat3List, List.flatMap_append]
    rw [← flat3_encNode o cfg pre n h.1, ← flat3_encList o cfg pre r h.2]
    exact flat3List_append pre _ _
end

/-- **the filter encoder is per-path filtering.** When no filter sits on the path of an object, encoding an
    entry is exactly: walk its fields at every depth, and replace each field whose full path
    (`outer>…>key`, compared byte for byte) has a configured filter by that filter's result — applied once,
    to that field only; every other field, and the object structure, is unchanged.  It does not matter
    which fields came through `logger.With` and which with the entry. -/
theorem filter_encoder_is_per_path_filtering (o : Oracles) (cfg : FCfg) (fields : List Node)
    (h : noObjFilterList cfg [] fields = true) :
    flat3List [] (filterEncode o cfg fields) = (flat3List [] fields).flatMap (specStep o cfg) :=
  flat3_encList o cfg [] fields h

/-- a field with a `delete` filter on its path contributes nothing, at any depth -/
theorem fenc_delete_hides_at_any_depth (o : Oracles) (cfg : FCfg) (e : Flat) (ho : e.isObj = false)
    (hf : lookupF cfg (e.pre ++ e.key) = some .delete) : specStep o cfg e = [] := by
  simp [specStep, ho, hf, applyFilter]

/-- a field with a `replace` filter on its path contributes exactly the replacement, at any depth -/
theorem fenc_replace_hides_at_any_depth (o : Oracles) (cfg : FCfg) (e : Flat) (v : Bytes) (ho : e.isObj = false)
    (hf : lookupF cfg (e.pre ++ e.key) = some (.replace v)) : specStep o cfg e = [⟨e.pre, e.key, .str v, false⟩] := by
  simp [specStep, ho, hf, applyFilter]

/-- how an emitted field `e'` relates to the input field `e` it stems from: untouched when no filter is
    configured on `e`'s full key path (or `e` is a namespace marker), otherwise the result of exactly that filter (for an object that
    the filter kept: the object under the key the filter gave it) -/
def StemsFrom (o : Oracles) (cfg : FCfg) (e e' : Flat) : Prop :=
  ((lookupF cfg (e.pre ++ e.key) = none ∨ e.val = .other nsTag) ∧ e'.key = e.key ∧ e'.val = e.val ∧ e'.isObj = e.isObj) ∨
  (∃ f, lookupF cfg (e.pre ++ e.key) = some f ∧ e'.key = (applyFilter o f ⟨e.key, e.val⟩).key ∧
        ((e.isObj = true ∧ e'.isObj = true) ∨ e'.val = (applyFilter o f ⟨e.key, e.val⟩).val))

-- `pre'` is free: an object its filter renamed shows its fields under another prefix than the one they are
-- looked up under, and `StemsFrom` does not read `e'.pre`.
mutual
theorem stems_encNode (o : Oracles) (cfg : FCfg) : ∀ (pre pre' : Bytes) (n : Node),
    ∀ e' ∈ flat3List pre' (encNode o cfg pre n), ∃ e ∈ flat3Node pre n, StemsFrom o cfg e e'
  | pre, pre', .leaf k v => by
    intro e' he'
    simp only [encNode] at he'
    cases hl : lookupF cfg (pre ++ k) with
    | none =>
      simp [hl, flat3List, flat3Node] at he'
      subst he'
      exact ⟨⟨pre, k, v, false⟩, List.mem_cons_self .., Or.inl ⟨Or.inl hl, rfl, rfl, rfl⟩⟩
    | some f =>
      simp only [hl, flat3_emitLeaf] at he'
      cases hv : (applyFilter o f ⟨k, v⟩).val <;> simp [hv] at he' <;> subst he' <;>
        exact ⟨⟨pre, k, v, false⟩, List.mem_cons_self .., Or.inr ⟨f, hl, rfl, Or.inr hv.symm⟩⟩
  | pre, pre', .obj k kids => by
    intro e' he'
    simp only [encNode] at he'
    cases hl : lookupF cfg (pre ++ k) with
    | none =>
      simp only [hl, flat3List, flat3Node, List.append_nil, List.mem_cons] at he'
      rcases he' with rfl | he'
      · exact ⟨⟨pre, k, .other objTag, true⟩, List.mem_cons_self .., Or.inl ⟨Or.inl hl, rfl, rfl, rfl⟩⟩
      · rcases stems_encList o cfg (pre ++ k ++ pathSep) (pre' ++ k ++ pathSep) kids e' he' with ⟨e, he, hs⟩
        exact ⟨e, List.mem_cons_of_mem _ he, hs⟩
    | some f =>
      simp only [hl, emitObj] at he'
      cases hv : (applyFilter o f ⟨k, .other objTag⟩).val with
      | skip => simp [hv, flat3List] at he'
      | other t =>
        simp only [hv, flat3List, flat3Node, List.append_nil, List.mem_cons] at he'
        rcases he' with rfl | he'
        · exact ⟨⟨pre, k, .other objTag, true⟩, List.mem_cons_self ..,
            Or.inr ⟨f, hl, rfl, Or.inl ⟨rfl, rfl⟩⟩⟩
        · rcases stems_encList o cfg (pre ++ k ++ pathSep) _ kids e' he' with ⟨e, he, hs⟩
          exact ⟨e, List.mem_cons_of_mem _ he, hs⟩
      | _ =>
        -- replaced by a string or an array: a single leaf
        simp [hv, flat3List, flat3Node] at he'
        subst he'
        exact ⟨⟨pre, k, .other objTag, true⟩, List.mem_cons_self .., Or.inr ⟨f, hl, rfl, Or.inr hv.symm⟩⟩
  | pre, pre', .ns k => by
    intro e' he'
    simp [encNode, flat3List, flat3Node] at he'
    subst he'
    exact ⟨⟨pre, k, .other nsTag, true⟩, List.mem_cons_self .., Or.inl ⟨Or.inr rfl, rfl, rfl, rfl⟩⟩
theorem stems_encList (o : Oracles) (cfg : FCfg) : ∀ (pre pre' : Bytes) (ns : List Node),
    ∀ e' ∈ flat3List pre' (encList o cfg pre ns), ∃ e ∈ flat3List pre ns, StemsFrom o cfg e e'
  | _, _, [] => by simp [encList, flat3List]
  | pre, pre', n :: r => by
    intro e' he'
    simp only [encList, flat3List_append, List.mem_append] at he'
    rcases he' with he' | he'
    · rcases stems_encNode o cfg pre pre' n e' he' with ⟨e, he, hs⟩
      exact ⟨e, List.mem_append_left _ he, hs⟩
    · rcases stems_encList o cfg pre pre' r e' he' with ⟨e, he, hs⟩
      exact ⟨e, List.mem_append_right _ he, hs⟩
end

/-- **every field meets the filter of its own path, wherever it is nested** (full strength, no exclusion):
    each field of the encoded entry stems from an input field and is either that field untouched — and then
    no filter is configured on its original full path — or the result of exactly the filter configured on
    that path; in particular a filter on an enclosing object (rename, or one that does not apply to objects)
    does not switch the filters inside it off. -/
theorem fenc_every_field_stems_from_its_path_filter (o : Oracles) (cfg : FCfg) (fields : List Node) :
    ∀ e' ∈ flat3List [] (filterEncode o cfg fields), ∃ e ∈ flat3List [] fields, StemsFrom o cfg e e' :=
  stems_encList o cfg [] [] fields

mutual
theorem encNode_no_config (o : Oracles) (pre : Bytes) : ∀ n, encNode o [] pre n = [n]
  | .leaf k v => by simp [encNode, lookupF]
  | .obj k kids => by
    have ih := encList_no_config o (pre ++ k ++ pathSep) kids
    simp only [encNode, lookupF, List.find?_nil, Option.map_none, ih]
  | .ns k => by simp [encNode]
theorem encList_no_config (o : Oracles) (pre : Bytes) : ∀ ns, encList o [] pre ns = ns
  | [] => by simp [encList]
  | n :: r => by simp [encList, encNode_no_config o pre n, encList_no_config o pre r]
end

theorem fenc_no_config_identity (o : Oracles) (fields : List Node) : filterEncode o [] fields = fields :=
  encList_no_config o [] fields

/-- an object that its own filter keeps is emitted under the key the filter gave it, with the fields inside
    encoded under the ORIGINAL key path -/
theorem fenc_kept_object_still_filters_inside (o : Oracles) (cfg : FCfg) (pre k : Bytes) (kids : List Node)
    (f : Filter) (t : Nat) (hl : lookupF cfg (pre ++ k) = some f)
    (hk : (applyFilter o f ⟨k, .other objTag⟩).val = .other t) :
    encNode o cfg pre (.obj k kids) =
      [.obj (applyFilter o f ⟨k, .other objTag⟩).key (encList o cfg (pre ++ k ++ pathSep) kids)] := by
  simp [encNode, hl, emitObj, hk]

-- library answers for entries whose filters call none of them (delete, replace, rename); `hash` prefixes an `h`
def exFO : Oracles := ⟨fun s => 104 :: s, id, fun _ => none, fun _ => none, fun _ => [], fun _ => none, fun _ => [], fun _ => [], fun _ => []⟩

/-- Why fix 5e69734 was needed (non-vacuity of the object case of `fenc_every_field_stems_from_its_path_filter`):
    the OLD dispatch handed an object that its own filter kept straight to the wrapped encoder, so no filter
    configured on a path inside it ran: `request → rename rq` switched `request>uri → delete` off and the URI
    was logged; the dispatch as it is now emits `rq{}`. -/
theorem fenc_object_filter_old_code_fails :
    ∃ (o : Oracles) (cfg : FCfg) (fields : List Node) (secret : Bytes),
      lookupF cfg (str "request>uri") = some .delete ∧
      flat3List [] fields = [⟨[], str "request", .other objTag, true⟩, ⟨str "request>", str "uri", .str secret, false⟩] ∧
      flat3List [] (encListOld o cfg [] fields) =
        [⟨[], str "rq", .other objTag, true⟩, ⟨str "rq>", str "uri", .str secret, false⟩] ∧
      flat3List [] (filterEncode o cfg fields) = [⟨[], str "rq", .other objTag, true⟩] := by
  refine ⟨exFO,
   [(str "request", .rename (str "rq")), (str "request>uri", .delete)],
   [.obj (str "request") [.leaf (str "uri") (.str (str "SECRET"))]], str "SECRET", ?_⟩
  repeat rw [str_ofList]
  decide +kernel

/-! ### namespaces: the path a field is SHOWN under vs. the key path it is looked up under -/

/-- what a field adds to the visible path of the LATER fields of its level -/
def nsExt : Node → Bytes
  | .ns k => k ++ pathSep
  | _ => []

mutual
/-- the leaves of an entry with the path they are nested under in the written entry — what the documented
    `outer>inner` addressing of `fields` refers to: objects AND open namespaces are levels -/
def visNode (vis : Bytes) : Node → List (Bytes × FVal)
  | .leaf k v => [(vis ++ k, v)]
  | .obj k kids => visList (vis ++ k ++ pathSep) kids
  | .ns _ => []
def visList (vis : Bytes) : List Node → List (Bytes × FVal)
  | [] => []
  | n :: r => visNode vis n ++ visList (vis ++ nsExt n) r
end

mutual
/-- the entry contains no `zap.Namespace` field -/
def noNsNode : Node → Bool
  | .leaf _ _ => true
  | .obj _ kids => noNsList kids
  | .ns _ => false
def noNsList : List Node → Bool
  | [] => true
  | n :: r => noNsNode n && noNsList r
end

def keyPathLeaves (l : List Flat) : List (Bytes × FVal) :=
  l.filterMap fun e => if e.isObj then none else some (e.pre ++ e.key, e.val)

theorem keyPathLeaves_append (a b : List Flat) : keyPathLeaves (a ++ b) = keyPathLeaves a ++ keyPathLeaves b :=
  List.filterMap_append

mutual
theorem vis_eq_key_path_node (pre : Bytes) : ∀ (n : Node), noNsNode n = true →
    visNode pre n = keyPathLeaves (flat3Node pre n)
  | .leaf k v, _ => by simp [visNode, flat3Node, keyPathLeaves]
  | .obj k kids, h => by
    simp only [noNsNode] at h
    simp only [visNode, flat3Node]
    rw [vis_eq_key_path_list (pre ++ k ++ pathSep) kids h]
    simp [keyPathLeaves]
  | .ns _, h => by simp [noNsNode] at h
theorem vis_eq_key_path_list (pre : Bytes) : ∀ (ns : List Node), noNsList ns = true →
    visList pre ns = keyPathLeaves (flat3List pre ns)
  | [], _ => by simp [visList, flat3List, keyPathLeaves]
  | n :: r, h => by
    simp only [noNsList, Bool.and_eq_true] at h
    have hext : nsExt n = [] := by
      cases n with
      | ns k => simp [noNsNode] at h
      | _ => rfl
    simp only [visList, flat3List, keyPathLeaves_append, hext, List.append_nil]
    rw [vis_eq_key_path_node pre n h.1, vis_eq_key_path_list pre r h.2]
end

/-- **without namespaces the key path is the visible path** (`…_partial`): for an entry that contains no
    `zap.Namespace` field, the path under which the encoder looks a field up (and about which
    `fenc_every_field_stems_from_its_path_filter` speaks) is the path under which the field is shown. -/
theorem fenc_key_path_is_visible_path_partial (fields : List Node) (h : noNsList fields = true) :
    visList [] fields = keyPathLeaves (flat3List [] fields) :=
  vis_eq_key_path_list [] fields h

/-- FULL STATEMENT (false on the unchanged tree): the same without the exclusion — a filter configured for the
    path a field is shown under is the filter the field meets.  Refuted: `OpenNamespace` is only forwarded to
    the wrapped encoder, the key path is not extended; the error log of a failed error route is
    `{…, "first_error": {"msg": …}}`, yet `first_error>msg → delete` never runs and the message is logged. -/
theorem fenc_namespace_full_fails :
    ∃ (o : Oracles) (cfg : FCfg) (fields : List Node) (secret : Bytes),
      visList [] fields = [(str "first_error>msg", .str secret)] ∧
      lookupF cfg (str "first_error>msg") = some .delete ∧ noNsList fields = false ∧
      keyPathLeaves (flat3List [] fields) = [(str "msg", .str secret)] ∧
      listStrings (filterEncode o cfg fields) = [str "first_error", str "msg", secret] := by
  refine ⟨exFO,
   [(str "first_error>msg", .delete)], [.ns (str "first_error"), .leaf (str "msg") (.str (str "SECRET"))],
   str "SECRET", ?_⟩
  repeat rw [str_ofList]
  decide +kernel

/-- **wrapping composes** (full strength): a filter encoder wrapped in a filter encoder is the inner encoder
    applied to what the outer encoder emits — every field meets the inner filter of its own key path, at any
    depth (`fenc_every_field_stems_from_its_path_filter` applies to each stage). -/
theorem fenc_wrapped_encoder_composes (o : Oracles) (outer inner : FCfg) (fields : List Node) :
    filterEncode2 o outer inner fields = filterEncode o inner (filterEncode o outer fields) := rfl

theorem fenc_wrapped_encoder_inner_filters_by_path (o : Oracles) (outer inner : FCfg) (fields : List Node) :
    ∀ e' ∈ flat3List [] (filterEncode2 o outer inner fields),
      ∃ e ∈ flat3List [] (filterEncode o outer fields), StemsFrom o inner e e' :=
  fenc_every_field_stems_from_its_path_filter o inner (filterEncode o outer fields)

/-- Why fix 6641767 was needed (non-vacuity): the OLD outer encoder marshalled the fields of an object into the
    inner encoder's TOP-LEVEL copy, so the inner encoder looked every nested field up without its key path:
    with no outer filter at all, the inner `request>uri → delete` did not run; now it does. -/
theorem fenc_wrapped_encoder_old_code_fails :
    ∃ (o : Oracles) (inner : FCfg) (fields : List Node) (secret : Bytes),
      lookupF inner (str "request>uri") = some .delete ∧
      visList [] fields = [(str "request>uri", .str secret)] ∧
      listStrings (filterEncode2Old o [] inner fields) = [str "request", str "uri", secret] ∧
      listStrings (filterEncode2 o [] inner fields) = [str "request"] := by
  refine ⟨exFO,
   [(str "request>uri", .delete)], [.obj (str "request") [.leaf (str "uri") (.str (str "SECRET"))]],
   str "SECRET", ?_⟩
  repeat rw [str_ofList]
  decide +kernel

def exEntry : List Node :=
  [.obj (str "request") [.leaf (str "uri") (.str (str "/x?token=S")),
     .obj (str "headers") [.leaf (str "Cookie") (.arr [str "sid=S"]), .leaf (str "X") (.arr [str "1"])]],
   .leaf (str "status") (.other 0)]

def exCfg : FCfg := [(str "request>headers>Cookie", .delete), (str "request>uri", .replace (str "R")),
  (str "request>headers>X", .hash), (str "Cookie", .delete), (str "request>headers>cookie", .replace (str "no"))]

example : noObjFilterList exCfg [] exEntry = true := by
  unfold exCfg exEntry
  repeat rw [str_ofList]
  decide +kernel
example : flat3List [] (filterEncode exFO exCfg exEntry) =
    [⟨[], str "request", .other objTag, true⟩, ⟨str "request>", str "uri", .str (str "R"), false⟩,
     ⟨str "request>", str "headers", .other objTag, true⟩,
     ⟨str "request>headers>", str "X", .arr [str "h1"], false⟩, ⟨[], str "status", .other 0, false⟩] := by
  unfold exCfg exEntry
  repeat rw [str_ofList]
  decide +kernel
example : listStrings (filterEncode exFO exCfg exEntry) =
    [str "request", str "uri", str "R", str "headers", str "X", str "h1", str "status"] := by
  unfold exCfg exEntry
  repeat rw [str_ofList]
  decide +kernel

-- a filter on the object itself: `request → rename rq`, `request>headers → hash` (kept), and the filters inside still run
example : flat3List [] (filterEncode exFO ((str "request", .rename (str "rq")) :: (str "request>headers", .hash) :: exCfg) exEntry) =
    [⟨[], str "rq", .other objTag, true⟩, ⟨str "rq>", str "uri", .str (str "R"), false⟩,
     ⟨str "rq>", str "headers", .other objTag, true⟩,
     ⟨str "rq>headers>", str "X", .arr [str "h1"], false⟩, ⟨[], str "status", .other 0, false⟩] := by
  unfold exCfg exEntry
  repeat rw [str_ofList]
  decide +kernel
-- delete / replace on the object remove it with everything inside
example : listStrings (filterEncode exFO [(str "request", .delete)] exEntry) = [str "status"] ∧
    listStrings (filterEncode exFO [(str "request>headers", .replace (str "-"))] exEntry) =
      [str "request", str "uri", str "/x?token=S", str "headers", str "-", str "status"] := by
  unfold exEntry
  repeat rw [str_ofList]
  decide +kernel

example : noNsList exEntry = true ∧ visList [] exEntry =
    [(str "request>uri", .str (str "/x?token=S")), (str "request>headers>Cookie", .arr [str "sid=S"]),
     (str "request>headers>X", .arr [str "1"]), (str "status", .other 0)] := by
  unfold exEntry
  repeat rw [str_ofList]
  decide +kernel

end CaddyModel.C20
