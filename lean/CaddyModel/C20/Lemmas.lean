/-
C20 — what the property theorems of `Props.lean` need to know about the functions of `Model.lean` and the
predicates of `Spec.lean`.
-/
import CaddyModel.C20.Spec
import CaddyModel.Util.StrLemmas

namespace CaddyModel.C20

theorem lowerByte_lt {b : UInt8} (h : lowerByte b < 128) : b < 128 := by
  unfold lowerByte at h
  split at h
  · rename_i hb
    exact Nat.lt_of_le_of_lt (UInt8.le_iff_toNat_le.mp hb.2) (by decide)
  · exact h

theorem foldAux_ascii : ∀ (k : Bytes), (∀ b ∈ k, b < 128) → foldAux 0 k = k.map lowerByte
  | [], _ => by simp [foldAux]
  | a :: r, h => by
    have ha : a < 128 := h a (by simp)
    have h1 : a ≠ 0xE2 := by intro e; subst e; exact absurd ha (by decide)
    have h2 : a ≠ 0xC4 := by intro e; subst e; exact absurd ha (by decide)
    have ih := foldAux_ascii r (fun b hb => h b (by simp [hb]))
    simp [foldAux, h1, h2, ih]

-- `≠ 58`: no name holds a colon, so `stripTrailer` leaves every casing of it alone (`cred_any_casing`)
theorem credNames_bytes : ∀ n ∈ credNames, ∀ b ∈ n, b < 128 ∧ b ≠ 58 := by
  unfold credNames
  repeat rw [str_ofList]
  decide +kernel

theorem stripTrailer_no_colon (k : Bytes) (h : (58 : UInt8) ∉ k) : stripTrailer k = k := by
  unfold stripTrailer
  split
  · rename_i hp
    rcases List.isPrefixOf_iff_prefix.mp hp with ⟨t, rfl⟩
    exact absurd (by simp [trailerPrefix, str]) h
  · rfl

theorem stripTrailer_prefixed (k : Bytes) : stripTrailer (trailerPrefix ++ k) = k := by
  unfold stripTrailer
  have : trailerPrefix.isPrefixOf (trailerPrefix ++ k) = true :=
    List.isPrefixOf_iff_prefix.mpr (List.prefix_append _ _)
  simp [this]

theorem logVal_off (k : Bytes) (v : List Bytes) : logVal false k v = if isCred k then redactedVal else v := by
  simp [logVal]

theorem logVal_on (k : Bytes) (v : List Bytes) : logVal true k v = v := rfl

theorem mem_loggableHeader {h : Hdr} {c : Bool} {kv : Bytes × List Bytes} (hm : kv ∈ loggableHeader h c) :
    ∃ v, (kv.1, v) ∈ h ∧ kv.2 = logVal c kv.1 v := by
  unfold loggableHeader at hm
  rcases List.mem_map.mp hm with ⟨⟨k, v⟩, hin, rfl⟩
  exact ⟨v, hin, rfl⟩

theorem mem_loggableHeader_of_isCred {h : Hdr} {k : Bytes} {vals : List Bytes} (hm : (k, vals) ∈ h)
    (hc : isCred k = true) : (k, redactedVal) ∈ loggableHeader h false :=
  List.mem_map.mpr ⟨(k, vals), hm, by rw [logVal_off, if_pos hc]⟩

theorem forall_hdrStrings {P : Bytes → Prop} {h : Hdr} :
    (∀ b ∈ hdrStrings h, P b) ↔ ∀ kv ∈ h, P kv.1 ∧ ∀ v ∈ kv.2, P v := by
  simp only [hdrStrings, List.forall_mem_flatMap, List.forall_mem_cons]

theorem forall_fieldStrings {P : Bytes → Prop} {fs : List Field} :
    (∀ b ∈ fieldStrings fs, P b) ↔ ∀ f ∈ fs, P f.key ∧ ∀ v ∈ fvalStrings f.val, P v := by
  simp only [fieldStrings, List.forall_mem_flatMap, List.forall_mem_cons]

theorem mem_rewriteEntries {s : Scn} : ∀ e ∈ rewriteEntries s,
    e.obj = str "request>headers" ∧ e.hdr = loggableHeader s.tMid false := by
  unfold rewriteEntries
  split <;> simp

theorem mem_proxyEntries {s : Scn} : ∀ e ∈ proxyEntries s,
    (e.obj = str "request>headers" ∧ e.hdr = loggableHeader s.tOut s.creds) ∨
    (e.obj = str "headers" ∧ e.hdr = loggableHeader s.tUp s.creds) := by
  unfold proxyEntries
  split <;> simp

theorem mem_errorEntries {s : Scn} : ∀ e ∈ errorEntries s,
    e.obj = str "request>headers" ∧ e.hdr = loggableHeader s.tIn s.creds := by
  unfold errorEntries
  split <;> simp

theorem mem_accessEntries {s : Scn} : ∀ e ∈ accessEntries s,
    (e.obj = str "request>headers" ∧ e.hdr = loggableHeader s.tIn s.creds) ∨
    (e.obj = str "resp_headers" ∧ e.hdr = loggableHeader s.tResp s.creds) := by
  intro e he
  unfold accessEntries at he
  split at he
  · cases he
  · rcases List.mem_flatMap.mp he with ⟨n, _, he⟩
    simp only [List.mem_cons, List.not_mem_nil, or_false] at he
    rcases he with rfl | rfl
    · exact Or.inl ⟨rfl, rfl⟩
    · exact Or.inr ⟨rfl, rfl⟩

theorem mem_flagEntries {s : Scn} : ∀ e ∈ proxyEntries s ++ errorEntries s ++ accessEntries s,
    (e.obj = str "request>headers" ∧ e.hdr = loggableHeader s.tIn s.creds) ∨
    (e.obj = str "request>headers" ∧ e.hdr = loggableHeader s.tOut s.creds) ∨
    (e.obj = str "headers" ∧ e.hdr = loggableHeader s.tUp s.creds) ∨
    (e.obj = str "resp_headers" ∧ e.hdr = loggableHeader s.tResp s.creds) := by
  intro e he
  simp only [List.mem_append] at he
  rcases he with (he | he) | he
  · exact (mem_proxyEntries e he).elim (Or.inr ∘ Or.inl) (Or.inr ∘ Or.inr ∘ Or.inl)
  · exact Or.inl (mem_errorEntries e he)
  · exact (mem_accessEntries e he).elim Or.inl (Or.inr ∘ Or.inr ∘ Or.inr)

theorem mem_siteEntries {s : Scn} : ∀ e ∈ siteEntries s,
    e ∈ rewriteEntries s ∨ e ∈ proxyEntries s ++ errorEntries s ++ accessEntries s :=
  fun _ he => by simpa only [siteEntries, List.mem_append, or_assoc] using he

theorem mem_map_overwrite {q : List (Bytes × List Bytes)} {n c : Bytes} {kv : Bytes × List Bytes}
    (hm : kv ∈ q.map fun kv => if kv.1 = n then (kv.1, kv.2.map fun _ => c) else kv) :
    (kv.1 ≠ n ∧ kv ∈ q) ∨ (kv.1 = n ∧ ∀ v ∈ kv.2, v = c) := by
  rcases List.mem_map.mp hm with ⟨kv0, hin, rfl⟩
  by_cases h : kv0.1 = n
  · rw [if_pos h]; exact Or.inr ⟨h, by simp⟩
  · rw [if_neg h]; exact Or.inl ⟨h, hin⟩

theorem mem_applyAct {H : Bytes → Bytes} {q : List (Bytes × List Bytes)} {a : Act} {kv : Bytes × List Bytes}
    (hm : kv ∈ applyAct H q a) :
    (kv.1 ≠ a.name ∧ kv ∈ q) ∨ (kv.1 = a.name ∧ ∀ v ∈ kv.2, v = a.value ∨ v = H a.value) := by
  unfold applyAct at hm
  cases ht : a.typ <;> simp only [ht] at hm
  · exact (mem_map_overwrite hm).imp_right fun h => ⟨h.1, fun v hv => Or.inl (h.2 v hv)⟩
  · exact (mem_map_overwrite hm).imp_right fun h => ⟨h.1, fun v hv => Or.inr (h.2 v hv)⟩
  · exact Or.inl ⟨by simpa using (List.mem_filter.mp hm).2, (List.mem_filter.mp hm).1⟩

theorem hiddenBy_cons_eq_false {a : Act} {rest : List Act} {k : Bytes} :
    hiddenBy (a :: rest) k = false ↔ a.name ≠ k ∧ hiddenBy rest k = false := by
  simp [hiddenBy]

theorem applyActs_untouched (H : Bytes → Bytes) : ∀ (acts : List Act) (q : List (Bytes × List Bytes)) (kv : Bytes × List Bytes),
    kv ∈ applyActs H acts q → hiddenBy acts kv.1 = false → kv ∈ q
  | [], _, _, hm, _ => hm
  | a :: rest, q, kv, hm, hh => by
    have ⟨hne, hr⟩ := hiddenBy_cons_eq_false.mp hh
    rcases mem_applyAct (applyActs_untouched H rest (applyAct H q a) kv hm hr) with h | h
    · exact h.2
    · exact absurd h.1.symm hne

theorem applyActs_hidden (H : Bytes → Bytes) : ∀ (acts : List Act) (q : List (Bytes × List Bytes)) (kv : Bytes × List Bytes),
    kv ∈ applyActs H acts q → hiddenBy acts kv.1 = true → ∀ v ∈ kv.2, v ∈ actConsts H acts
  | [], _, _, _, hh => by cases hh
  | a :: rest, q, kv, hm, hh => by
    intro v hv
    show v ∈ [a.value, H a.value] ++ actConsts H rest
    cases hr : hiddenBy rest kv.1
    · -- only `a` names this key: later actions leave the entry alone
      rcases mem_applyAct (applyActs_untouched H rest (applyAct H q a) kv hm hr) with h | h
      · exact absurd (hiddenBy_cons_eq_false.mpr ⟨fun e => h.1 e.symm, hr⟩) (by simp [hh])
      · exact List.mem_append_left _ (by simpa using h.2 v hv)
    · exact List.mem_append_right _ (applyActs_hidden H rest (applyAct H q a) kv hm hr v hv)

theorem cutAt_none (c : UInt8) (s : Bytes) (h : cutAt c s = none) : c ∉ s := by
  fun_induction cutAt c s
  case case1 => exact List.not_mem_nil
  case case4 b r hb hr ih => exact List.not_mem_cons_of_ne_of_not_mem (Ne.symm hb) (ih hr)
  all_goals cases h

theorem cutAt_some (c : UInt8) (s x y : Bytes) (h : cutAt c s = some (x, y)) : s = x ++ c :: y ∧ c ∉ x := by
  fun_induction cutAt c s generalizing x y
  case case2 => cases h; exact ⟨rfl, List.not_mem_nil⟩
  case case3 b r hb x' y' hr ih =>
    cases h
    have ⟨h1, h2⟩ := ih x' y' hr
    exact ⟨by rw [h1]; rfl, List.not_mem_cons_of_ne_of_not_mem (Ne.symm hb) h2⟩
  all_goals cases h

theorem fallbackParts_eq (o : Oracles) (s : Bytes) :
    fallbackParts o s = (cutAt 63 s).map fun p => splitQuery o p.1 p.2 := by
  unfold fallbackParts
  split <;> simp [*]

theorem cookieAct_some (H : Bytes → Bytes) (acts : List Act) (c c' : Cookie) (h : cookieAct H acts c = some c') :
    c'.name = c.name ∧
    ((hiddenBy acts c.name = false ∧ c' = c) ∨
     (∃ a ∈ acts, a.name = c.name ∧ (c'.value = a.value ∨ c'.value = H c.value))) := by
  fun_induction cookieAct H acts c
  case case1 => cases h; exact ⟨rfl, Or.inl ⟨rfl, rfl⟩⟩
  case case2 a rest c hne ih =>
    rcases ih h with ⟨h1, h2 | ⟨a', ha', h3⟩⟩
    · exact ⟨h1, Or.inl ⟨hiddenBy_cons_eq_false.mpr ⟨fun e => hne e.symm, h2.1⟩, h2.2⟩⟩
    · exact ⟨h1, Or.inr ⟨a', List.mem_cons_of_mem _ ha', h3⟩⟩
  case case3 a rest c heq _ =>
    cases h; exact ⟨rfl, Or.inr ⟨a, List.mem_cons_self .., (Decidable.not_not.mp heq).symm, Or.inl rfl⟩⟩
  case case4 a rest c heq _ =>
    cases h; exact ⟨rfl, Or.inr ⟨a, List.mem_cons_self .., (Decidable.not_not.mp heq).symm, Or.inr rfl⟩⟩
  case case5 => cases h

theorem take_drop_congr (l1 l2 : Bytes) (a n : Nat)
    (h : ∀ i, a ≤ i → i < a + n → l1[i]? = l2[i]?) : (l1.drop a).take n = (l2.drop a).take n := by
  apply List.ext_getElem?
  intro i
  simp only [List.getElem?_take, List.getElem?_drop]
  split
  · apply h <;> omega
  · rfl

theorem drop_congr (l1 l2 : Bytes) (a : Nat) (h : ∀ i, a ≤ i → l1[i]? = l2[i]?) : l1.drop a = l2.drop a := by
  apply List.ext_getElem?
  intro i
  simp only [List.getElem?_drop]
  apply h; omega

theorem covered_cons (sp : Span) (r : List Span) (i : Nat) :
    covered (sp :: r) i = false ↔ ¬ (sp.s ≤ i ∧ i < sp.e) ∧ covered r i = false := by
  simp [covered]

theorem covered_of_lt : ∀ (spans : List Span) (last : Nat), wfSpans last spans = true →
    ∀ i < last, covered spans i = false
  | [], _, _, _, _ => rfl
  | sp :: r, last, hw, i, hi => by
    simp only [wfSpans, Bool.and_eq_true, decide_eq_true_eq] at hw
    exact (covered_cons sp r i).mpr ⟨by omega, covered_of_lt r sp.e hw.2 i (by omega)⟩

theorem reLoop_congr (src1 src2 : Bytes) : ∀ (spans : List Span) (last : Nat), wfSpans last spans = true →
    (∀ i, last ≤ i → covered spans i = false → src1[i]? = src2[i]?) →
    reLoop src1 spans last = reLoop src2 spans last
  | [], last, _, h => drop_congr _ _ _ fun i hi => h i hi rfl
  | sp :: r, last, hw, h => by
    simp only [wfSpans, Bool.and_eq_true, decide_eq_true_eq] at hw
    -- the text before the match is uncovered; behind it, `sp` covers nothing
    have h1 := take_drop_congr src1 src2 last (sp.s - last) fun i hi1 hi2 =>
      h i hi1 ((covered_cons sp r i).mpr ⟨by omega, covered_of_lt r sp.e hw.2 i (by omega)⟩)
    have h2 := reLoop_congr src1 src2 r sp.e hw.2 fun i hi hc =>
      h i (by omega) ((covered_cons sp r i).mpr ⟨by omega, hc⟩)
    simp only [reLoop, h1, h2]

theorem splitOn_ne_nil (c : UInt8) (s : Bytes) : splitOn c s ≠ [] := by
  fun_cases splitOn c s <;> simp

theorem flatten_sep {α} (sep : Bytes) (f : α → Bytes) : ∀ (l : List α), l ≠ [] →
    (l.map fun x => f x ++ sep).flatten = sep.intercalate (l.map f) ++ sep
  | [], h => absurd rfl h
  | [x], _ => by simp
  | x :: y :: r, _ => by
    have ih := flatten_sep sep f (y :: r) (by simp)
    simp only [List.map_cons, List.flatten_cons, List.intercalate_cons_cons, List.append_assoc] at ih ⊢
    rw [ih]

theorem trimSuffix_append (x sep : Bytes) : trimSuffix (x ++ sep) sep = x := by
  unfold trimSuffix
  have : sep.isSuffixOf (x ++ sep) = true := by
    rw [List.isSuffixOf_iff_suffix]; exact List.suffix_append x sep
  simp [this]

end CaddyModel.C20
