/-
C20 — `log_append` (LogAppend.lean): the extra field does not depend on credential headers the configured value does not
name, since a lookup under a non-credential key sees only `nonCreds h`.  The boundary is evaluated on `laHdrA` / `laResp`: a
placeholder that names a credential header is logged verbatim.
-/
import CaddyModel.C20.LogAppend
import CaddyModel.Util.StrLemmas

namespace CaddyModel.C20

theorem hdrLookup_nonCreds (h : Hdr) (k : Bytes) (hk : isCred k = false) :
    hdrLookup (nonCreds h) k = hdrLookup h k := by
  unfold hdrLookup nonCreds
  rw [List.find?_filter]
  have : (fun kv : Bytes × List Bytes => decide ((!isCred kv.1) = true ∧ (kv.1 == k) = true)) = fun kv => kv.1 == k := by
    funext kv
    by_cases e : kv.1 = k <;> simp [e, hk]
  rw [this]

theorem hdrLookup_congr (h h' : Hdr) (k : Bytes) (hk : isCred k = false) (hh : nonCreds h = nonCreds h') :
    hdrLookup h k = hdrLookup h' k := by
  rw [← hdrLookup_nonCreds h k hk, ← hdrLookup_nonCreds h' k hk, hh]

/-- **log_append never leaks a credential header it was not asked for (non-interference).**  Two requests /
    responses that differ ONLY in their credential headers (Cookie, Set-Cookie, Authorization,
    Proxy-Authorization in any spelling, `Trailer:` forms) give the same extra log field — for every configured
    value (constant, variable name, placeholder of any modelled key, malformed brace strings), every `vars`
    map — unless the configured value is a placeholder that names a credential header itself. -/
theorem log_append_ignores_unnamed_credentials (method host : Bytes) (vars : Vars) (h h' rh rh' : Hdr) (v : Bytes)
    (hreq : nonCreds h = nonCreds h') (hresp : nonCreds rh = nonCreds rh') (hn : namesCredential v = false) :
    logAppendValue method host vars h rh v = logAppendValue method host vars h' rh' v := by
  unfold logAppendValue
  by_cases hp : looksPlaceholder v = true
  -- a placeholder: `replGet` reads `h` and `rh` only in the two header lookups, and by `hn` a key looked up
  -- there is no credential key
  · simp only [namesCredential, hp, Bool.true_and, namesCredentialKey, Bool.or_eq_false_iff] at hn
    simp only [hp, if_true]
    unfold replGet
    by_cases ha : reqHeaderPrefix.isPrefixOf (trimBraces v) = true
    · simp only [ha, Bool.true_and] at hn
      simp only [ha, if_true, hdrLookup_congr h h' _ hn.1 hreq]
    · simp only [ha, Bool.false_eq_true, if_false]
      by_cases hb : respHeaderPrefix.isPrefixOf (trimBraces v) = true
      · simp only [hb, Bool.true_and] at hn
        simp only [hb, if_true, hdrLookup_congr rh rh' _ hn.2 hresp]
      · simp only [hb, Bool.false_eq_true, if_false]
  · simp only [hp, Bool.false_eq_true, if_false]

def laHdrA : Hdr := [(str "Authorization", [str "Bearer SECRET1"]), (str "Cookie", [str "sid=SECRET2", str "b=1"]), (str "X-Id", [str "7"])]
def laHdrB : Hdr := [(str "Authorization", [str "Bearer other"]), (str "X-Id", [str "7"])]
def laResp : Hdr := [(str "Set-Cookie", [str "sid=SECRET3"]), (str "Etag", [str "e"])]

example : nonCreds laHdrA = nonCreds laHdrB ∧ namesCredential (str "{http.request.header.x-id}") = false ∧
    logAppendValue (str "GET") (str "h") [] laHdrA laResp (str "{http.request.header.x-id}") = .s (str "7") := by
  repeat rw [str_ofList]
  decide +kernel

/-- **what "explicitly enabled" means for an extra field.**  A placeholder that names a credential header — in
    any casing `textproto.CanonicalMIMEHeaderKey` folds, with extra braces `strings.Trim` removes, request or
    response side — is evaluated verbatim: all values joined by commas, not redacted, whatever the server's
    log_credentials flag (the flag is not an input of the extra field at all). -/
theorem log_append_named_credential_is_logged_verbatim :
    logAppendValue (str "GET") (str "h") [] laHdrA laResp (str "{http.request.header.cOOKIE}}") = .s (str "sid=SECRET2,b=1") ∧
    namesCredential (str "{http.request.header.cOOKIE}}") = true ∧
    logAppendValue (str "GET") (str "h") [] laHdrA laResp (str "{http.response.header.set-cookie}") = .s (str "sid=SECRET3") ∧
    namesCredential (str "{http.response.header.set-cookie}") = true := by
  repeat rw [str_ofList]
  decide +kernel

/-- **the value's three readings.**  One opening brace at the start and a closing brace at the end make a
    placeholder; otherwise a name found in `vars` is that variable; otherwise the text is a constant — a brace
    string that is no placeholder (two opening braces, text after the brace) is never expanded. -/
theorem log_append_reads_value_three_ways (method host : Bytes) (vars : Vars) (h rh : Hdr) (v : Bytes) :
    logAppendValue method host vars h rh v =
      (if looksPlaceholder v then replGet method host vars h rh (trimBraces v)
       else match varLookup vars v with
         | some x => varVal (some x)
         | none => .s v) := rfl

example : logAppendValue (str "GET") (str "h") [(str "u", some (str "bob")), (str "t", none)] laHdrA laResp (str "u") = .s (str "bob") ∧
    logAppendValue (str "GET") (str "h") [(str "u", some (str "bob")), (str "t", none)] laHdrA laResp (str "t") = .other ∧
    logAppendValue (str "GET") (str "h") [] laHdrA laResp (str "{{http.request.header.Cookie}}") = .s (str "{{http.request.header.Cookie}}") ∧
    logAppendValue (str "GET") (str "h") [] laHdrA laResp (str "{nope}") = .nil ∧
    logAppendValue (str "GET") (str "h") [] laHdrA laResp (str "{http.request.header.Coo kie}") = .s [] := by
  repeat rw [str_ofList]
  decide +kernel

/-- a header name with a non-token byte is looked up as written: it never canonicalises INTO a credential name -/
theorem canonicalKey_keeps_non_token_keys (k : Bytes) (hk : k.all tokenByte = false) : canonicalKey k = k := by
  unfold canonicalKey; simp [hk]

example : (str "Coo kie").all tokenByte = false ∧ canonicalKey (str "pROXY-authorization") = str "Proxy-Authorization" := by
  repeat rw [str_ofList]
  decide +kernel

end CaddyModel.C20
