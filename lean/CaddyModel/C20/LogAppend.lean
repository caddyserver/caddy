/-
C20 — operator-defined extra log fields: `log_append` (modules/caddyhttp/logging/logadd.go).

`LogAppend.ServeHTTP` runs the rest of the chain, then computes ONE value from the configured `value`
string and hands it to the access log as an extra field (`zap.Any(key, value)`; server.go logRequest
appends `extra.fields` to the entry):

    if HasPrefix(v,"{") && HasSuffix(v,"}") && Count(v,"{") == 1   → repl.Get(strings.Trim(v, "{}"))
    else if val, ok := vars[v]; ok                                  → val
    else                                                            → v  (a constant)

The only way header material can enter is the first branch, through the HTTP replacer's
`http.request.header.<field>` key: `strings.Join(req.Header[textproto.CanonicalMIMEHeaderKey(field)], ",")`
(modules/caddyhttp/replacer.go).  The rule the property needs (decision of round h, with the property text):
a credential header reaches an extra field ONLY when the operator wrote a placeholder that NAMES that very
header — that is credential logging explicitly asked for, field by field; every other configured value
yields a field that does not depend on the credential headers at all (non-interference).

Modelled replacer keys: `http.request.header.*`, `http.response.header.*`, `http.request.method`, `http.request.host`,
`http.vars.*`; every other key the harness sends is one no provider knows (→ nil).  The remaining
keys of the HTTP provider (cookie.*, uri.*, tls.*, …) are judged on the implementation by the taint oracle
of op `lax` (class la-credential-in-extra-field).
-/
import CaddyModel.C20.Model

namespace CaddyModel.C20

/-- what `zap.Any` receives -/
inductive LaVal where
  | s (v : Bytes)     -- a string
  | nil               -- no provider knows the key (`repl.Get` → nil, false)
  | other             -- a non-string variable (bool, …)
deriving DecidableEq, Repr

/-- a `vars` entry: a string or something else -/
abbrev Vars := List (Bytes × Option Bytes)

def lbrace : UInt8 := 123
def rbrace : UInt8 := 125
def isBrace (b : UInt8) : Bool := b == lbrace || b == rbrace

/-- the placeholder test of logadd.go -/
def looksPlaceholder (v : Bytes) : Bool :=
  v.head? == some lbrace && v.getLast? == some rbrace && v.count lbrace == 1

/-- `strings.Trim(v, "{}")`: every leading and trailing brace goes -/
def trimBraces (v : Bytes) : Bytes := ((v.dropWhile isBrace).reverse.dropWhile isBrace).reverse

/-- net/textproto `validHeaderFieldByte`: RFC 7230 token characters -/
def tokenByte (b : UInt8) : Bool :=
  (48 ≤ b && b ≤ 57) || (65 ≤ b && b ≤ 90) || (97 ≤ b && b ≤ 122) ||
  [33, 35, 36, 37, 38, 39, 42, 43, 45, 46, 94, 95, 96, 124, 126].contains b

def upperByte (b : UInt8) : UInt8 := if 97 ≤ b ∧ b ≤ 122 then b - 32 else b

/-- the canonicalising loop: upper case at the start and after `-`, lower case elsewhere -/
def canonAux : Bool → Bytes → Bytes
  | _, [] => []
  | up, c :: r => (if up then upperByte c else lowerByte c) :: canonAux (c == 45) r

/-- `textproto.CanonicalMIMEHeaderKey`: a key with any non-token byte (space included) is returned unchanged -/
def canonicalKey (k : Bytes) : Bytes := if k.all tokenByte then canonAux true k else k

def hdrLookup (h : Hdr) (k : Bytes) : List Bytes :=
  match h.find? (fun kv => kv.1 == k) with
  | some kv => kv.2
  | none => []

/-- `strings.Join(vals, ",")` -/
def joinComma : List Bytes → Bytes
  | [] => []
  | [a] => a
  | a :: r => a ++ 44 :: joinComma r

def reqHeaderPrefix : Bytes := str "http.request.header."
def varsPrefix : Bytes := str "http.vars."
def respHeaderPrefix : Bytes := str "http.response.header."

def varLookup (vars : Vars) (k : Bytes) : Option (Option Bytes) :=
  (vars.find? (fun kv => kv.1 == k)).map (·.2)

def varVal : Option (Option Bytes) → LaVal
  | some (some s) => .s s
  | some none => .other
  | none => .nil

/-- the part of `repl.Get` the model covers (see the file comment) -/
def replGet (method host : Bytes) (vars : Vars) (h rh : Hdr) (key : Bytes) : LaVal :=
  if reqHeaderPrefix.isPrefixOf key then
    .s (joinComma (hdrLookup h (canonicalKey (key.drop reqHeaderPrefix.length))))
  else if key == str "http.request.method" then .s method
  else if key == str "http.request.host" then .s host
  else if varsPrefix.isPrefixOf key then
    -- `http.vars.x`: GetVar; a missing variable is a nil value
    varVal (varLookup vars (key.drop varsPrefix.length))
  else if respHeaderPrefix.isPrefixOf key then
    -- log_append runs AFTER the rest of the chain: the response header map is what the handlers left there
    .s (joinComma (hdrLookup rh (canonicalKey (key.drop respHeaderPrefix.length))))
  else .nil

/-- the value `LogAppend.ServeHTTP` adds to the access log entry -/
def logAppendValue (method host : Bytes) (vars : Vars) (h rh : Hdr) (v : Bytes) : LaVal :=
  if looksPlaceholder v then replGet method host vars h rh (trimBraces v)
  else match varLookup vars v with
    | some x => varVal (some x)
    | none => .s v

/-- the configured value is a placeholder that NAMES a credential header (any casing the canonicalisation
    folds; `Trailer:`-prefixed keys as the wrapper treats them) -/
def namesCredentialKey (key : Bytes) : Bool :=
  (reqHeaderPrefix.isPrefixOf key && isCred (canonicalKey (key.drop reqHeaderPrefix.length))) ||
  (respHeaderPrefix.isPrefixOf key && isCred (canonicalKey (key.drop respHeaderPrefix.length)))

def namesCredential (v : Bytes) : Bool := looksPlaceholder v && namesCredentialKey (trimBraces v)

/-- the header map without its credential headers -/
def nonCreds (h : Hdr) : Hdr := h.filter fun kv => !isCred kv.1

end CaddyModel.C20
