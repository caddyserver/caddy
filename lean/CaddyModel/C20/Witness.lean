/-
C20 — concrete witnesses.  `hash_full_fails`: a clause of the property the unchanged tree does NOT satisfy, stated
at full strength and refuted; it is exported as protocol lines (`witnessLines`, Driver.lean) and replayed on the real
code on every run; the provable part is the `…_partial` theorem of `Props.lean`.  `…_old_code_fails`: the code
before a repair leaks on the witness, the code as it is now does not (the inputs are regression cases in corpus/C20).

The oracles `wO` and `wZ` answer what the Go standard library answers on the witness inputs
(`wO`: `url.Parse("/a?token=…#%zz")` fails with `invalid URL escape "%zz"`, `url.ParseQuery("token=…")` is
`token ↦ […]`; `wZ`: said at its definition) — the harness recomputes those answers when the line is replayed and reports
`table-mismatch` if they ever differ.

Where a proof unfolds the oracle, the token or the key test before `repeat rw [str_ofList]`, it is so that the rewrite reaches
their string literals (the kernel is slow on `String.toList` of a literal): for the cost of the check, not for its truth.
-/
import CaddyModel.C20.Spec
import CaddyModel.Util.StrLemmas

namespace CaddyModel.C20

def wO : Oracles where
  H := fun _ => str "e3b0c442"
  trim := id
  shp := fun _ => none
  parseIP := fun _ => none
  ipStr := fun _ => str "<nil>"
  parseURL := fun _ => none
  parseQuery := fun s => if s = str "token=0123456789abcdef0123456789abcdef" then
    [(str "token", [str "0123456789abcdef0123456789abcdef"])] else []
  cookies := fun _ => []
  reSpans := fun _ => []

def wTok : Bytes := str "0123456789abcdef0123456789abcdef"

/-- Why the fallback was needed (non-vacuity of the `url.Parse`-fails branch of `query_filter_hides_param` in Props.lean):
    `url.Parse` rejects `/a?token=T#%zz` (the HTTP server accepts it as a request target); the OLD
    `processQueryString` then returned its input unchanged, token included; the function as it is now cuts
    the value at its first `?` and filters that query. -/
theorem query_filter_old_code_fails :
    ∃ (o : Oracles) (acts : List Act) (s tok : Bytes),
      hiddenBy acts (str "token") = true ∧ s = str "/a?token=" ++ tok ++ str "#%zz" ∧
      o.parseURL s = none ∧ queryStrOld o acts s = s ∧ occurs tok (queryStrOld o acts s) = true ∧
      queryStr o acts s = str "/a#%zz" ∧ occurs tok (queryStr o acts s) = false := by
  refine ⟨wO, [⟨.delete, str "token", []⟩], str "/a?token=" ++ wTok ++ str "#%zz", wTok, ?_⟩
  unfold wO wTok
  repeat rw [str_ofList]
  decide +kernel

/-- what the standard library answers around `fe80::1%eth0`: `net.ParseIP` accepts `fe80::1` and rejects the
    zoned spelling; `IP.String()` of the /32-masked address is `fe80::` -/
def wZ : Oracles where
  H := fun _ => str "e3b0c442"
  trim := id
  shp := fun _ => none
  parseIP := fun s => if s = str "fe80::1" then some (.v6 [0xfe, 0x80, 0, 0, 0, 0, 0, 0, 0, 0, 0, 0, 0, 0, 0, 1]) else none
  ipStr := fun m => if m = some [0xfe, 0x80, 0, 0, 0, 0, 0, 0, 0, 0, 0, 0, 0, 0, 0, 0] then str "fe80::" else str "?"
  parseURL := fun _ => none
  parseQuery := fun _ => []
  cookies := fun _ => []
  reSpans := fun _ => []

/-- Why the zone fix was needed (non-vacuity of `ipmask_hides_host_bits` in Props.lean / `ipmask_zone_independent`):
    the OLD element function handed the host to `net.ParseIP` with its zone; `net.ParseIP` rejects a zoned
    IPv6 address (`fe80::1%eth0`, what `RemoteAddr` holds for a link-local client) and the element was copied
    unchanged; the function as it is now cuts the zone off first and emits the masked address. -/
theorem ipmask_old_code_fails :
    ∃ (o : Oracles) (v : Bytes), v = str "fe80::1%eth0" ∧ o.parseIP (hostOf o v) = none ∧
      maskValueOld o (cidr4 16) (cidr6 32) v = v ∧
      (o.parseIP (cutZone (hostOf o v))).isSome = true ∧ maskValue o (cidr4 16) (cidr6 32) v = str "fe80::" := by
  refine ⟨wZ, str "fe80::1%eth0", ?_⟩
  unfold wZ
  repeat rw [str_ofList]
  decide +kernel

/-- FULL STATEMENT (false): hash / ip_mask / query / regexp never emit the field they are configured on
    unchanged, for every field type.  Refuted: on a field that is neither a string nor a
    `LoggableStringArray` (an integer such as `status`, an object such as `request>headers`) these
    filters assign to `in.String`, which such a field does not use — it is emitted unchanged; the cookie
    filter returns a non-array field unchanged. (Documented: "operates on string fields, or on arrays of strings".) -/
theorem hash_full_fails :
    ∃ (o : Oracles) (f : Field), f.val = .other 0 ∧ stringy f.val = false ∧
      (applyFilter o .hash f).val = f.val ∧ (applyFilter o (.ipMask 16 32) f).val = f.val ∧
      (applyFilter o (.query [⟨.delete, str "token", []⟩]) f).val = f.val ∧ (applyFilter o .regexp f).val = f.val ∧
      (applyFilter o (.cookie [⟨.delete, str "sid", []⟩]) ⟨f.key, .str (str "sid=S")⟩).val = .str (str "sid=S") :=
  ⟨wO, ⟨str "status", .other 0⟩, by decide +kernel⟩

/-- the header object as the code built it BEFORE fix 48df0ef (key test `strings.ToLower(key)`) -/
def loggableHeaderOld (h : Hdr) : Hdr :=
  h.map fun kv => (kv.1, if isCredOld kv.1 then redactedVal else kv.2)

/-- Why the fix was needed (non-vacuity of the trailer clause of `redacted_trailer_any_casing_any_count` in Props.lean):
    a trailer field the upstream did not announce is copied by reverse_proxy into the response header map
    under `http.TrailerPrefix + name` = `Trailer:Set-Cookie`; the OLD key test does not recognise it and the
    old code logged the secret, the key test as it is now redacts it. -/
theorem trailer_key_old_code_fails :
    ∃ (h : Hdr) (secret : Bytes), h = [(str "Trailer:Set-Cookie", [str "sid=" ++ secret])] ∧
      isCredOld (str "Trailer:Set-Cookie") = false ∧ loggableHeaderOld h = h ∧
      occurs secret ((loggableHeaderOld h).flatMap fun kv => kv.2).flatten = true ∧
      isCred (str "Trailer:Set-Cookie") = true ∧
      loggableHeader h false = [(str "Trailer:Set-Cookie", [str "REDACTED"])] := by
  refine ⟨[(str "Trailer:Set-Cookie", [str "sid=" ++ wTok])], wTok, ?_⟩
  unfold loggableHeaderOld loggableHeader logVal isCred isCredOld credNames stripTrailer trailerPrefix redactedVal wTok
  repeat rw [str_ofList]
  decide +kernel

end CaddyModel.C20
