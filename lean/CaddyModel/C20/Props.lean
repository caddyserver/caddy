/-
C20 — property theorems about header redaction, the log field filters and the census of log sites; also the root that
`Audit.lean` imports: the theorems here rest on `Lemmas` (and one test vector on `Witness.wZ`); `FEncProps`, `PlumbProps`,
`RemoteAddr`, `LogAppendProps` are imported only to be reached from here.

Statement: unless credential logging is explicitly enabled, the values of Cookie, Set-Cookie,
Authorization and Proxy-Authorization headers of any request or response never appear in access
logs, error logs or reverse-proxy debug logs, whatever the header-name casing, number of values
or handler path taken.  A configured log field filter (delete, replace, hash, IP mask, query,
cookie, regexp) never emits the original value of the part it is configured to hide.

Clauses the unchanged tree violates are stated at full strength and refuted by a concrete witness
(`…_full_fails`), and proved as `…_partial` under an explicit decidable exclusion; clauses that hold since a
repair have a witness against the old code (`…_old_code_fails`); both kinds are in `Witness.lean` and FEncProps.lean.
-/
import CaddyModel.C20.Lemmas
import CaddyModel.C20.Witness
import CaddyModel.C20.FEncProps
import CaddyModel.C20.PlumbProps
import CaddyModel.C20.RemoteAddr
import CaddyModel.C20.LogAppendProps
import CaddyModel.Gen.Redacted
import CaddyModel.Gen.LogSites
import CaddyModel.Util.StrLemmas  -- `str_ofList`, named here: under `repeat rw […]` a missing name goes unnoticed (the test vectors still pass, slower)

namespace CaddyModel.C20

/-! ### header redaction and the log sites -/

/-- the key test before the trailer fix already accepted every ASCII casing of the four names -/
theorem credOld_any_casing (k name : Bytes) (hn : name ∈ credNames) (hk : k.map lowerByte = name) :
    isCredOld k = true := by
  have hascii : ∀ b ∈ k, b < 128 := fun b hb =>
    lowerByte_lt (credNames_bytes name hn _ (hk ▸ List.mem_map_of_mem hb)).1
  unfold isCredOld foldName
  rw [foldAux_ascii k hascii, hk]
  simpa using hn

/-- **any casing.** A key that is one of the four names up to ASCII case is a credential key. -/
theorem cred_any_casing (k name : Bytes) (hn : name ∈ credNames) (hk : k.map lowerByte = name) :
    isCred k = true := by
  have hcolon : (58 : UInt8) ∉ k := fun h58 =>
    (credNames_bytes name hn (lowerByte 58) (hk ▸ List.mem_map_of_mem h58)).2 rfl
  unfold isCred
  rw [stripTrailer_no_colon k hcolon]
  exact credOld_any_casing k name hn hk

/-- **trailer-prefixed keys.** `Trailer:<name>` — how reverse_proxy keeps a trailer field the upstream did
    not announce — is a credential key too, for every ASCII casing of the name. -/
theorem cred_trailer_any_casing (k name : Bytes) (hn : name ∈ credNames) (hk : k.map lowerByte = name) :
    isCred (trailerPrefix ++ k) = true := by
  unfold isCred
  rw [stripTrailer_prefixed]
  exact credOld_any_casing k name hn hk

/-- **redacted.** Without `log_credentials`, the logged header object is the header map with the
    same keys in the same order where every credential key — in any casing, with any number of
    values (none, one, many) — carries exactly `["REDACTED"]`, and every other header is unchanged. -/
theorem redacted (h : Hdr) : loggableHeader h false = redactSpec h := by
  unfold loggableHeader redactSpec
  apply List.map_congr_left
  intro kv _
  rw [logVal_off]
  split <;> rfl

theorem redacted_any_casing_any_count (h : Hdr) (k name : Bytes) (vals : List Bytes)
    (hn : name ∈ credNames) (hk : k.map lowerByte = name) (hm : (k, vals) ∈ h) :
    (k, [str "REDACTED"]) ∈ loggableHeader h false :=
  mem_loggableHeader_of_isCred hm (cred_any_casing k name hn hk)

theorem redacted_trailer_any_casing_any_count (h : Hdr) (k name : Bytes) (vals : List Bytes)
    (hn : name ∈ credNames) (hk : k.map lowerByte = name) (hm : (trailerPrefix ++ k, vals) ∈ h) :
    (trailerPrefix ++ k, [str "REDACTED"]) ∈ loggableHeader h false :=
  mem_loggableHeader_of_isCred hm (cred_trailer_any_casing k name hn hk)

theorem logged_keys_are_header_keys (h : Hdr) (c : Bool) : (loggableHeader h c).map (·.1) = h.map (·.1) := by
  unfold loggableHeader
  simp [List.map_map, Function.comp_def]

theorem enabled_logs_everything (h : Hdr) : loggableHeader h true = h := by
  unfold loggableHeader
  simp [logVal_on]

/-- **taint, one header object.** If something `Bad` (e.g. "contains the secret token") is found in no
    header name and in no value of a non-credential header, it is found nowhere in the logged object. -/
theorem secret_absent_from_header_object (Bad : Bytes → Prop) (h : Hdr) (hh : OnlyInCreds Bad h)
    (hred : ¬ Bad (str "REDACTED")) : ∀ b ∈ hdrStrings (loggableHeader h false), ¬ Bad b := by
  rw [forall_hdrStrings]
  intro kv hkv
  rcases mem_loggableHeader hkv with ⟨v, hin, hval⟩
  have ⟨hkey, hvals⟩ := hh (kv.1, v) hin
  refine ⟨hkey, ?_⟩
  rw [hval, logVal_off]
  cases hc : isCred kv.1
  · exact hvals hc
  · exact fun _ hb => List.mem_singleton.mp hb ▸ hred

/-- the same with the harness' predicate: `strings.Contains(b, secret)` -/
theorem secret_absent_from_header_object_occurs (secret : Bytes) (h : Hdr)
    (hh : OnlyInCreds (fun b => occurs secret b = true) h) (hred : occurs secret (str "REDACTED") = false) :
    ∀ b ∈ hdrStrings (loggableHeader h false), occurs secret b = false := by
  intro b hb
  simpa using secret_absent_from_header_object (fun b => occurs secret b = true) h hh (by simp [hred]) b hb

/-- **taint, request object.** `LoggableHTTPRequest` adds the remote address, protocol, method, host,
    URI and transfer encodings; if the secret is in none of those it is not in the object.
    (`hpre`: the flattened key `headers>Name` is itself an emitted string.) -/
theorem secret_absent_from_request_object (Bad : Bytes → Prop) (r : Req) (hh : OnlyInCreds Bad r.hdr)
    (hred : ¬ Bad (str "REDACTED"))
    (hconst : ∀ b ∈ [str "remote_ip", str "remote_port", str "client_ip", str "proto", str "method", str "host",
                     str "uri", str "transfer_encoding"], ¬ Bad b)
    (hpub : ∀ b ∈ [remoteIP r, remotePort r, r.proto, r.method, r.host, r.uri], ¬ Bad b)
    (hcip : ∀ b, r.clientIP = some b → ¬ Bad b) (hte : ∀ l, r.te = some l → ∀ b ∈ l, ¬ Bad b)
    (hpre : ∀ k, ¬ Bad k → ¬ Bad (hdrPrefix ++ k)) :
    ∀ b ∈ fieldStrings (loggableRequest r false), ¬ Bad b := by
  rw [forall_fieldStrings]
  simp only [loggableRequest, List.forall_mem_append]
  simp only [List.forall_mem_cons] at hconst hpub
  refine ⟨⟨⟨⟨?_, ?_⟩, ?_⟩, ?_⟩, ?_⟩
  · simp [fvalStrings, hconst, hpub]
  · cases hc : r.clientIP with
    | none => simp [optField]
    | some ip => simpa [optField, fvalStrings, hconst] using hcip ip hc
  · simp [fvalStrings, hconst, hpub]
  · intro f hf
    rcases List.mem_map.mp hf with ⟨kv, hkv, rfl⟩
    have ⟨hk, hv⟩ := forall_hdrStrings.mp (secret_absent_from_header_object Bad r.hdr hh hred) kv hkv
    exact ⟨hpre _ hk, hv⟩
  · cases hc : r.te with
    | none => simp [optArr]
    | some l => simpa [optArr, fvalStrings, hconst] using hte l hc

/-- **every site, every handler path.** With `log_credentials` off, whichever route is taken (handler
    answers, handler error, proxy success, proxy error, with or without a preceding rewrite), whichever
    loggers the host maps to: if the secret occurs only in values of credential-named headers of the
    request as received, as rewritten, as sent upstream, of the upstream response and of the final
    response, then it occurs in no header object of any access, error, reverse-proxy or rewrite entry. -/
theorem secret_absent_from_fields (Bad : Bytes → Prop) (s : Scn) (hoff : s.creds = false)
    (hin : OnlyInCreds Bad s.tIn) (hmid : OnlyInCreds Bad s.tMid) (hout : OnlyInCreds Bad s.tOut)
    (hup : OnlyInCreds Bad s.tUp) (hresp : OnlyInCreds Bad s.tResp) (hred : ¬ Bad (str "REDACTED")) :
    ∀ e ∈ siteEntries s, ∀ b ∈ hdrStrings e.hdr, ¬ Bad b := by
  have clean := fun t ht => secret_absent_from_header_object Bad t ht hred
  intro e he
  rcases mem_siteEntries e he with he | he
  · rw [(mem_rewriteEntries e he).2]; exact clean _ hmid
  · rcases mem_flagEntries e he with ⟨_, h⟩ | ⟨_, h⟩ | ⟨_, h⟩ | ⟨_, h⟩ <;> rw [h, hoff]
    · exact clean _ hin
    · exact clean _ hout
    · exact clean _ hup
    · exact clean _ hresp

/-- the rewrite handler's debug entry is redacted even when the server logs credentials
    (it builds `LoggableHTTPRequest{Request: r}` without the flag) -/
theorem rewrite_site_always_redacts (s : Scn) :
    ∀ e ∈ rewriteEntries s, e.hdr = redactSpec s.tMid :=
  fun e he => (mem_rewriteEntries e he).2.trans (redacted _)

theorem sites_use_server_flag (s : Scn) :
    ∀ e ∈ proxyEntries s ++ errorEntries s ++ accessEntries s,
      e.hdr = loggableHeader s.tIn s.creds ∨ e.hdr = loggableHeader s.tOut s.creds ∨
      e.hdr = loggableHeader s.tUp s.creds ∨ e.hdr = loggableHeader s.tResp s.creds :=
  fun e he => (mem_flagEntries e he).imp And.right (Or.imp And.right (Or.imp And.right And.right))

/-- **which sites log a response header map, and how.** Whatever path a proxied request takes — a normal
    response, a response handled by `handle_response` routes, a retried round trip, 101 Switching Protocols
    (HTTP/1.1 Upgrade or extended CONNECT over HTTP/2; the upgrade path itself logs no header object), an
    intercepted response — the only header objects built from a RESPONSE header map are the reverse proxy's
    `headers` (the upstream response as received) and the access log's `resp_headers` (the response as sent),
    both through `LoggableHTTPHeader` with the server's flag. -/
theorem response_header_sites (s : Scn) :
    ∀ e ∈ siteEntries s, (e.obj = str "headers" ∨ e.obj = str "resp_headers") →
      (e.hdr = loggableHeader s.tUp s.creds ∨ e.hdr = loggableHeader s.tResp s.creds) := by
  have req : ∀ e : Entry, e.obj = str "request>headers" → ¬ (e.obj = str "headers" ∨ e.obj = str "resp_headers") := by
    intro e h
    rw [h]
    repeat rw [str_ofList]
    decide
  intro e he hobj
  rcases mem_siteEntries e he with he | he
  · exact absurd hobj (req e (mem_rewriteEntries e he).1)
  · rcases mem_flagEntries e he with ⟨h, _⟩ | ⟨h, _⟩ | ⟨_, h⟩ | ⟨_, h⟩
    · exact absurd hobj (req e h)
    · exact absurd hobj (req e h)
    · exact Or.inl h
    · exact Or.inr h

/-- **response headers: exactly the credentials are hidden.** Applied to a response header map the wrapper
    replaces the values of `Set-Cookie` (the credential a response carries; also `Cookie`, `Authorization`,
    `Proxy-Authorization` should a response have them) — in any casing, with any number of values, also when
    kept as `Trailer:Set-Cookie` — and nothing else: challenge and handshake headers that merely look similar
    (`Proxy-Authenticate`, `WWW-Authenticate`, `Authentication-Info`, `Upgrade`, `Sec-WebSocket-Accept`) are
    not credentials and are logged as they are. -/
theorem response_headers_hide_exactly_credentials (h : Hdr) :
    loggableHeader h false = h.map (fun kv => if isCred kv.1 then (kv.1, redactedVal) else kv) ∧
    (∀ k, k.map lowerByte = str "set-cookie" → isCred k = true ∧ isCred (trailerPrefix ++ k) = true) ∧
    ([str "Proxy-Authenticate", str "WWW-Authenticate", str "Authentication-Info", str "Upgrade",
      str "Sec-WebSocket-Accept", str "Connection"].all fun k => !isCred k) = true := by
  refine ⟨redacted h, fun k hk => ?_, ?_⟩
  · have hn : str "set-cookie" ∈ credNames := by simp [credNames]
    exact ⟨cred_any_casing k _ hn hk, cred_trailer_any_casing k _ hn hk⟩
  · unfold isCred isCredOld credNames stripTrailer trailerPrefix
    repeat rw [str_ofList]
    decide +kernel

/-! ### regenerated facts (`Gen/*.lean` is rewritten from /repo's source on every run) -/

/-- the names in the `switch` of marshalers.go are the model's `credNames`, and the switch is keyed
    on `strings.ToLower(key)`: editing the list or the folding in the source breaks this theorem -/
theorem redacted_names_match_source :
    Gen.redactionIsCaseFolded = true ∧
    ((Gen.redactedHeaderNames.map str).all (fun n => credNames.contains n) &&
     credNames.all (fun n => (Gen.redactedHeaderNames.map str).contains n)) = true := by decide +kernel

/-- kinds of log-site arguments that go through `LoggableHTTPRequest` / `LoggableHTTPHeader` with the
    server's `ShouldLogCredentials` (or with the flag left off). The extractor names the flag expression
    semantically: `server-flag` = it reads a `.ShouldLogCredentials` field, directly, through a local variable or
    through a parameter all of whose callers pass such an expression — whatever the variables are called. -/
def wrappedKind (k : String) : Bool :=
  k == "wrapped" || k == "wrapped-value" || k == "wrappedcred:server-flag"

/-- the one kind of header-derived value that reaches a log field outside the wrappers (the data-flow step of
    tools/extract finds it): reverse_proxy's handleUpgradeResponse logs `upgradeType(h)` = the lower-cased `Upgrade` header value
    when `Connection` lists `upgrade` — a protocol token, none of the four credential headers. -/
def upgradeTokenSite (s : String × String × String) : Bool :=
  s.1 == "reverseproxy" && (s.2.1 == "backend_upgrade" || s.2.1 == "requested_upgrade") &&
  s.2.2 == "viavar:raw:net/http.Header:call:upgradeType"

/-- the zap fields under modules/caddyhttp/… whose argument is an object / interface the typed scan cannot look into,
    by (package, key, constructor:type): the automatic-HTTPS debug dump of the two apps (configuration, no request),
    the handler module of the trace log (configuration), the fastcgi environment (its own marshaler `loggableEnv`
    blanks HTTP_COOKIE / HTTP_SET_COOKIE / HTTP_AUTHORIZATION / HTTP_PROXY_AUTHORIZATION under the same flag — taint
    oracle of the site stream, route fcg), the PROXY-protocol header (addresses), recovered panic values, and
    log_append's `zap.Any(h.Key, value)` — the operator-defined extra field modelled in LogAppend.lean. -/
def knownOpaqueFields : List (String × String × String) := [
  ("caddyhttp", "http", "Reflect:*caddyhttp.App"),
  ("caddyhttp", "tls", "Reflect:*caddytls.TLS"),
  ("caddyhttp", "module", "Any:caddyhttp.MiddlewareHandler"),
  ("fastcgi", "env", "Object:fastcgi.loggableEnv"),
  ("logging", "h.Key", "Any:any"),
  ("reverseproxy", "header", "Any:*proxyproto.Header"),
  ("reverseproxy", "error", "Any:interface{}")]

/-- **every log field is classified (unclassified = 0).**  Of ALL zap field constructor calls under
    modules/caddyhttp/… (regenerated census, not only the request-typed ones) each is either classified by the typed
    scan (an entry of `Gen.logSites`, judged by `all_sites_wrapped`), or has arguments of plain type (strings, numbers,
    booleans, durations, times, errors, string slices — no header map or object can travel in them except through a
    local variable, which the data-flow step turns into a `viavar:` site), or is one of the known opaque fields.
    A new `zap.Any` / `zap.Object` / `zap.Reflect` of some structure, or a new header-derived local variable in a
    log field, changes the regenerated facts and breaks this theorem or `all_sites_wrapped`. -/
theorem every_log_field_is_classified :
    Gen.logFieldCalls = Gen.logFieldClassified + Gen.logFieldPlain + Gen.logOpaqueFields.length ∧
    Gen.logOpaqueFields.all (fun s => knownOpaqueFields.contains (s.1, s.2.2.1, s.2.2.2)) = true ∧
    knownOpaqueFields.all (fun k => Gen.logOpaqueFields.any fun s => (s.1, s.2.2.1, s.2.2.2) == k) = true ∧
    0 < Gen.logFieldPlain := by decide +kernel

/-- **all sites wrapped.** Every zap field under modules/caddyhttp/… whose argument is (computed from) an
    `*http.Request`, `http.Header`, `http.Response` or cookies goes through the loggable wrappers; the
    modelled sites (by package and field key — function names are free to change) are among them with the flag
    the model gives them.  A new unwrapped log site, or a
    wrapper fed with another flag expression, changes the regenerated table and breaks this theorem. -/
theorem all_sites_wrapped :
    Gen.logSitesScanComplete = true ∧
    Gen.logSites.all (fun s => wrappedKind s.2.2.2 || upgradeTokenSite (s.1, s.2.2.1, s.2.2.2)) = true ∧
    ([("caddyhttp", "request", "wrappedcred:server-flag"),
      ("caddyhttp", "resp_headers", "wrappedcred:server-flag"),
      ("reverseproxy", "request", "wrappedcred:server-flag"),
      ("reverseproxy", "headers", "wrappedcred:server-flag"),
      ("rewrite", "request", "wrapped")].all fun e =>
        Gen.logSites.any fun s => s.1 == e.1 && s.2.2.1 == e.2.1 && s.2.2.2 == e.2.2) = true := by decide +kernel

/-- **sites elsewhere are known.** Outside modules/caddyhttp/… exactly one zap field in the whole module is
    computed from a request / response / header: the admin endpoint's own "received request" log
    (admin.go, logger `admin.api`, `zap.Reflect("headers", r.Header)`, not redacted).  That is the request log
    of the ADMIN API — not one of the log kinds the property names (access logs, error logs and reverse-proxy
    debug logs of the HTTP server) — so it is listed here explicitly rather than excused silently: any NEW
    site anywhere in the module that logs request / response / header material changes the regenerated table
    and breaks this theorem. -/
theorem sites_elsewhere_are_known :
    Gen.logSitesElsewhere = [("caddy", "ServeHTTP", "headers", "raw:net/http.Header")] := by decide +kernel

/-! ### the field filters -/

theorem delete_never_emits (o : Oracles) (f : Field) : (applyFilter o .delete f).val = .skip := rfl

theorem replace_never_emits_original (o : Oracles) (v : Bytes) (f f' : Field) (hk : f.key = f'.key) :
    applyFilter o (.replace v) f = applyFilter o (.replace v) f' ∧ (applyFilter o (.replace v) f).val = .str v := by
  simp [applyFilter, hk]

/-- **hash**, on the field types it is documented for (string, array of strings): every emitted string
    is the hash of the string at the same position, so the original is emitted only where `H s = s`.
    (Full statement over all field types: `hash_full_fails` in Witness.lean.) -/
theorem hash_never_emits_original_partial (o : Oracles) (f : Field) (hs : stringy f.val = true) :
    (∀ s, f.val = .str s → (applyFilter o .hash f).val = .str (o.H s)) ∧
    (∀ l, f.val = .arr l → (applyFilter o .hash f).val = .arr (l.map o.H)) ∧
    ((∀ s ∈ fvalStrings f.val, o.H s ≠ s) → fvalStrings f.val ≠ [] → (applyFilter o .hash f).val ≠ f.val) := by
  refine ⟨fun s h => by simp [applyFilter, h, mapStr], fun l h => by simp [applyFilter, h, mapStr],
    fun hne hnon => ?_⟩
  cases hv : f.val with
  | str s => simpa [applyFilter, hv, mapStr] using hne s (by simp [hv, fvalStrings])
  | arr l =>
    cases l with
    | nil => simp [hv, fvalStrings] at hnon
    | cons x r =>
      have := hne x (by simp [hv, fvalStrings])
      simp [applyFilter, hv, mapStr, this]
  | other t => simp [hv, stringy] at hs
  | skip => simp [hv, stringy] at hs

/-- **cookie.** The emitted `Cookie` array is the rendering of a list of cookies each of which stems
    from a parsed cookie `c` of the input and is either `c` itself — and then no action names it — or
    carries an action's replacement value or the hash of `c`'s value.  A cookie named by an action
    never reaches the output with its own value (short of `H v = v` or a replacement equal to it). -/
theorem cookie_filter_hides_named (o : Oracles) (acts : List Act) (l : List Bytes) :
    ∃ cs', cookieVal o acts (.arr l) = .arr (joinCookies cs') ∧
      ∀ c' ∈ cs', ∃ c ∈ o.cookies l, c'.name = c.name ∧
        ((hiddenBy acts c.name = false ∧ c' = c) ∨
         (∃ a ∈ acts, a.name = c.name ∧ (c'.value = a.value ∨ c'.value = o.H c.value))) := by
  refine ⟨(o.cookies l).filterMap (cookieAct o.H acts), ?_, ?_⟩
  · cases hfm : (o.cookies l).filterMap (cookieAct o.H acts) <;> simp [cookieVal, joinCookies, hfm]
  · intro c' hc'
    rcases List.mem_filterMap.mp hc' with ⟨c, hc, hact⟩
    exact ⟨c, hc, cookieAct_some o.H acts c c' hact⟩

/-- **regexp** (non-interference). With matches in order, the output does not depend on the bytes inside
    the matched spans: two inputs that agree outside them (and have the same matches and expansions)
    give the same output.  The matched text itself is never copied. -/
theorem regexp_filter_hides_matched_spans (o : Oracles) (s1 s2 : Bytes)
    (hsp : o.reSpans s1 = o.reSpans s2) (hw : wfSpans 0 (o.reSpans s1) = true)
    (hagree : ∀ i, covered (o.reSpans s1) i = false → s1[i]? = s2[i]?) :
    reStr o s1 = reStr o s2 := by
  unfold reStr
  rw [← hsp]
  exact reLoop_congr s1 s2 _ 0 hw (fun i _ hc => hagree i hc)

/-- **query.** For every value: either it contains no `?` at all — it has no query part and is returned
    as is — or the output is `pre ? query # post` where `pre`/`post`/the parameters come from `url.Parse`,
    or, when `url.Parse` rejects the value, from cutting it at its first `?` (and the following `#`), and in
    that query every parameter named by an action has only values taken from the action list (a replacement
    value or the hash of one) — never a value of the input.
    (The behaviour before the fallback: `query_filter_old_code_fails` in Witness.lean.) -/
theorem query_filter_hides_param (o : Oracles) (acts : List Act) (s : Bytes) :
    (∃ u, (o.parseURL s = some u ∨ (o.parseURL s = none ∧ fallbackParts o s = some u)) ∧
        queryStr o acts s = urlString u (encodeQuery (applyActs o.H acts u.q)) ∧
        ∀ kv ∈ applyActs o.H acts u.q, hiddenBy acts kv.1 = true → ∀ v ∈ kv.2, v ∈ actConsts o.H acts)
    ∨ ((63 : UInt8) ∉ s ∧ queryStr o acts s = s) := by
  unfold queryStr
  cases hp : o.parseURL s with
  | some u => exact Or.inl ⟨u, Or.inl rfl, rfl, applyActs_hidden o.H acts u.q⟩
  | none =>
    cases hf : fallbackParts o s with
    | some u => exact Or.inl ⟨u, Or.inr ⟨rfl, rfl⟩, rfl, applyActs_hidden o.H acts u.q⟩
    | none =>
      rw [fallbackParts_eq, Option.map_eq_none_iff] at hf
      exact Or.inr ⟨cutAt_none 63 s hf, rfl⟩

/-- the fallback works on literal pieces of the input: the text before the first `?`, the raw query up to
    the next `#` (handed to `url.ParseQuery`), and the rest, which is copied -/
theorem query_fallback_is_textual (o : Oracles) (s : Bytes) (u : URLParts) (h : fallbackParts o s = some u) :
    ∃ rawq, s = u.pre ++ 63 :: rawq ++ u.post ∧ (63 : UInt8) ∉ u.pre ∧ (35 : UInt8) ∉ rawq ∧
      u.q = o.parseQuery rawq ∧ u.force = rawq.isEmpty := by
  rw [fallbackParts_eq, Option.map_eq_some_iff] at h
  obtain ⟨⟨before, after⟩, hc, rfl⟩ := h
  have ⟨h1, hpre⟩ := cutAt_some 63 s before after hc
  unfold splitQuery
  split
  · rename_i hd
    exact ⟨after, by rw [List.append_nil]; exact h1, hpre, cutAt_none 35 after hd, rfl, rfl⟩
  · rename_i rawq frag hd
    have ⟨h2, hq⟩ := cutAt_some 35 after rawq frag hd
    exact ⟨rawq, by rw [h1, h2, List.append_assoc]; rfl, hpre, hq, rfl, rfl⟩

theorem query_filter_keeps_other_params (o : Oracles) (acts : List Act) (u : URLParts) :
    ∀ kv ∈ applyActs o.H acts u.q, hiddenBy acts kv.1 = false → kv ∈ u.q :=
  applyActs_untouched o.H acts u.q

/-- the `hash` action of the query filter writes `hash(action.Value)` — a constant that does not
    depend on the parameter's content (filters.go: `q[a.Parameter][i] = hash(a.Value)`) -/
theorem query_hash_action_is_constant (H : Bytes → Bytes) (q : List (Bytes × List Bytes)) (a : Act)
    (ht : a.typ = .hash) :
    ∀ kv ∈ applyAct H q a, kv.1 = a.name → kv.2 = List.replicate kv.2.length (H a.value) := by
  intro kv hkv hk
  simp only [applyAct, ht] at hkv
  rcases mem_map_overwrite hkv with h | h
  · exact absurd hk h.1
  · exact List.eq_replicate_iff.mpr ⟨rfl, h.2⟩

/-- **ip_mask.** An element denotes an IP address when `net.ParseIP` accepts its host part with the zone cut
    off (`host`, `host:port`, `[host]:port`, each with or without `%zone`).  For such elements the emitted
    text is a function of the masked address bytes and the port only — two addresses with the same network
    part are logged identically.  (Elements that are not IP addresses have no host bits to hide and are
    copied; the behaviour before the zone fix: `ipmask_old_code_fails` in Witness.lean.) -/
theorem ipmask_hides_host_bits (o : Oracles) (m4 m6 : Option (List UInt8)) (v v' : Bytes) (ip ip' : IPAddr)
    (h1 : o.parseIP (cutZone (hostOf o v)) = some ip) (h2 : o.parseIP (cutZone (hostOf o v')) = some ip')
    (hnet : maskedOf m4 m6 ip = maskedOf m4 m6 ip') (hport : portOf o v = portOf o v') :
    maskValue o m4 m6 v = maskValue o m4 m6 v' := by
  simp [maskValue, h1, h2, hnet, hport]

/-- **zones.** The zone of an address never reaches the log: two elements whose hosts differ only in the
    zone (`fe80::1%eth0`, `fe80::1%wlan1`, `fe80::1`) are logged identically. -/
theorem ipmask_zone_independent (o : Oracles) (m4 m6 : Option (List UInt8)) (v v' : Bytes)
    (hhost : cutZone (hostOf o v) = cutZone (hostOf o v')) (hport : portOf o v = portOf o v')
    (hip : (o.parseIP (cutZone (hostOf o v))).isSome = true) :
    maskValue o m4 m6 v = maskValue o m4 m6 v' := by
  have ⟨ip, h⟩ := Option.isSome_iff_exists.mp hip
  exact ipmask_hides_host_bits o m4 m6 v v' ip ip h (hhost ▸ h) rfl hport

/-- the string-level glue of `mask` (append `, ` after every element, `TrimSuffix` once) is exactly
    "process every comma-separated element on its own and join with `, `": no element can influence how
    another is treated, and an element whose host `net.ParseIP` accepts is always emitted masked. -/
theorem ipmask_string_is_elementwise (o : Oracles) (m4 m6 : Option (List UInt8)) (s : Bytes) :
    ipMaskStr o m4 m6 s = commaSpace.intercalate ((splitOn 44 s).map fun p => maskValue o m4 m6 (o.trim p)) := by
  unfold ipMaskStr
  rw [flatten_sep commaSpace _ _ (splitOn_ne_nil 44 s)]
  exact trimSuffix_append _ _

/-- the masks are CIDR masks: byte `i` of a `/ones` mask keeps the top `min 8 (ones - 8 i)` bits -/
theorem cidr_mask_table : (List.range 9).map maskByte = [0, 128, 192, 224, 240, 248, 252, 254, 255] ∧
    ∀ len ones, (cidrBytes (len + 1) ones) = maskByte ones :: cidrBytes len (ones - 8) := by
  refine ⟨by decide, fun _ _ => rfl⟩

theorem rename_keeps_value (o : Oracles) (n : Bytes) (f : Field) : (applyFilter o (.rename n) f).val = f.val := rfl

/-! ### non-vacuity: concrete, non-trivial instances (kernel-evaluated)

Where a test reads `str "…"` literals inside a definition (an example constant, the key test with `credNames`, the site
functions with their logger names), the proof unfolds it first and rewrites with `str_ofList`: the kernel is slow on
`String.toList` of a literal.  That is for the cost of the check, not for its truth — only `OnlyInCreds`, a `Prop` without a
`Decidable` instance, has to be unfolded. -/

def exHdr : Hdr := [(str "cOOkie", [str "sid=SECRET", str "b=2"]), (str "X", [str "1"]), (str "Proxy-Authorization", [])]

example : (str "cOOkie").map lowerByte = str "cookie" ∧ str "cookie" ∈ credNames := by
  repeat rw [str_ofList]
  decide +kernel
example : loggableHeader exHdr false =
    [(str "cOOkie", [str "REDACTED"]), (str "X", [str "1"]), (str "Proxy-Authorization", [str "REDACTED"])] := by
  unfold loggableHeader logVal isCred isCredOld credNames stripTrailer trailerPrefix redactedVal exHdr
  repeat rw [str_ofList]
  decide +kernel
example : loggableHeader exHdr true = exHdr := enabled_logs_everything exHdr
-- the Kelvin sign folds to `k`: `cooKie` is redacted as well
example : isCred ([99, 111, 111, 0xE2, 0x84, 0xAA, 105, 101]) = true := by decide +kernel
example : isCred (str "cookie2") = false ∧ isCred (str "x-cookie") = false := by
  unfold isCred isCredOld credNames stripTrailer trailerPrefix
  repeat rw [str_ofList]
  decide +kernel
-- trailer-prefixed keys: exact prefix, stripped once
example : isCred (str "Trailer:Set-Cookie") = true ∧ isCred (str "Trailer:aUTHORIZATION") = true ∧
    isCred (str "trailer:Set-Cookie") = false ∧ isCred (str "Trailer:Trailer:Cookie") = false := by
  unfold isCred isCredOld credNames stripTrailer trailerPrefix
  repeat rw [str_ofList]
  decide +kernel
example : loggableHeader [(str "Trailer:Set-Cookie", [[], str "sid=SECRET"])] false =
    [(str "Trailer:Set-Cookie", [str "REDACTED"])] := by
  unfold loggableHeader logVal isCred isCredOld credNames stripTrailer trailerPrefix redactedVal
  repeat rw [str_ofList]
  decide +kernel
example : OnlyInCreds (fun b => occurs (str "SECRET") b = true) exHdr := by
  unfold OnlyInCreds isCred isCredOld credNames stripTrailer trailerPrefix exHdr
  repeat rw [str_ofList]
  decide +kernel
example : occurs (str "SECRET") (str "sid=SECRET") = true ∧ occurs (str "SECRET") (str "REDACTED") = false := by
  repeat rw [str_ofList]
  decide

def exScn : Scn := ⟨false, false, [[], str "n1"], true, .proxyErr, exHdr, exHdr, exHdr, [], [(str "Set-Cookie", [str "sid=SECRET"])]⟩
example : (siteEntries exScn).map (·.logger) =
    [str "http.handlers.rewrite", str "http.handlers.reverse_proxy", str "http.log.error", str "http.log.error.n1",
     str "http.log.access", str "http.log.access", str "http.log.access.n1", str "http.log.access.n1"] := by
  unfold siteEntries rewriteEntries proxyEntries errorEntries accessEntries
  repeat rw [str_ofList]
  decide +kernel
example : ∀ e ∈ siteEntries exScn, ∀ b ∈ hdrStrings e.hdr, occurs (str "SECRET") b = false := by
  unfold exScn exHdr
  repeat rw [str_ofList]
  decide +kernel

-- the fastcgi transport's own debug entry precedes the reverse proxy's
example : (siteEntries { exScn with route := .fcgiErr, rewrote := false, names := [[]] }).map (·.logger) =
    [str "http.reverse_proxy.transport.fastcgi", str "http.handlers.reverse_proxy", str "http.log.error",
     str "http.log.access", str "http.log.access"] := by
  unfold siteEntries rewriteEntries proxyEntries errorEntries accessEntries
  repeat rw [str_ofList]
  decide +kernel

-- with log_credentials ON the rewrite entry is still redacted, the access entry is not
def exScnOn : Scn := { exScn with creds := true, route := .respond }
example : (siteEntries exScnOn).map (fun e => (e.logger, occurs (str "SECRET") (hdrStrings e.hdr).flatten)) =
    [(str "http.handlers.rewrite", false), (str "http.log.access", true), (str "http.log.access", true),
     (str "http.log.access.n1", true), (str "http.log.access.n1", true)] := by
  unfold exScnOn exScn exHdr
  repeat rw [str_ofList]
  decide +kernel

def exReq : Req := ⟨str "10.0.0.1:5", some (str "10.0.0.1", str "5"), some (str "10.0.0.1"), str "HTTP/1.1", str "GET",
  str "a.test", str "/x?y=1", exHdr, some [str "chunked"]⟩
example : (loggableRequest exReq false).map (·.key) =
    [str "remote_ip", str "remote_port", str "client_ip", str "proto", str "method", str "host", str "uri",
     str "headers>cOOkie", str "headers>X", str "headers>Proxy-Authorization", str "transfer_encoding"] := by
  unfold loggableRequest hdrPrefix
  repeat rw [str_ofList]
  decide +kernel
example : ∀ b ∈ fieldStrings (loggableRequest exReq false), occurs (str "SECRET") b = false := by
  unfold exReq exHdr
  repeat rw [str_ofList]
  decide +kernel
example : ∃ b ∈ fieldStrings (loggableRequest exReq true), occurs (str "SECRET") b = true := by
  unfold exReq exHdr
  repeat rw [str_ofList]
  decide +kernel

-- the upstream's 101 answer: Set-Cookie is hidden, the handshake headers are not
example : loggableHeader [(str "Connection", [str "Upgrade"]), (str "Upgrade", [str "websocket"]),
      (str "SET-cookie", [[], str "sid=SECRET"]), (str "Proxy-Authenticate", [str "Basic realm=x"])] false =
    [(str "Connection", [str "Upgrade"]), (str "Upgrade", [str "websocket"]),
      (str "SET-cookie", [str "REDACTED"]), (str "Proxy-Authenticate", [str "Basic realm=x"])] := by
  unfold loggableHeader logVal isCred isCredOld credNames stripTrailer trailerPrefix redactedVal
  repeat rw [str_ofList]
  decide +kernel
-- a retried round trip: two request entries, then the response headers
example : (siteEntries { exScn with route := .proxyRetry, rewrote := false, names := [[]] }).map (fun e => (e.logger, e.obj)) =
    [(str "http.handlers.reverse_proxy", str "request>headers"), (str "http.handlers.reverse_proxy", str "request>headers"),
     (str "http.handlers.reverse_proxy", str "headers"), (str "http.log.access", str "request>headers"),
     (str "http.log.access", str "resp_headers")] := by
  unfold siteEntries rewriteEntries proxyEntries errorEntries accessEntries
  repeat rw [str_ofList]
  decide +kernel

def exO : Oracles where
  H := fun s => 104 :: s.reverse
  trim := id
  shp := fun s => if s = str "10.1.2.3:80" then some (str "10.1.2.3", str "80") else none
  parseIP := fun s => if s = str "10.1.2.3" then some (.v4 [10, 1, 2, 3]) else if s = str "10.1.9.9" then some (.v4 [10, 1, 9, 9]) else none
  ipStr := fun m => if m = some [10, 1, 0, 0] then str "10.1.0.0" else str "<nil>"
  parseURL := fun s => if s = str "/a?token=S&x=1" then some ⟨str "/a", [], false, [(str "token", [str "S"]), (str "x", [str "1"])]⟩ else none
  parseQuery := fun s => if s = str "token=S&x=1" then [(str "token", [str "S"]), (str "x", [str "1"])] else []
  cookies := fun _ => [⟨str "sid", str "S", false⟩, ⟨str "x", str "1", false⟩, ⟨str "del", str "D", false⟩]
  reSpans := fun s => if s.length = 9 then [⟨0, 5, str "tok=X"⟩] else []

example : applyFilter exO .hash ⟨str "k", .arr [str "ab", str "c"]⟩ = ⟨str "k", .arr [str "hba", str "hc"]⟩ := by
  repeat rw [str_ofList]
  decide
example : stringy (.arr [str "ab"]) = true := by decide
example : applyFilter exO (.ipMask 16 32) ⟨str "k", .str (str "10.1.2.3:80,10.1.9.9,unknown")⟩
    = ⟨str "k", .str (str "10.1.0.0:80, 10.1.0.0, unknown")⟩ := by
  repeat rw [str_ofList]
  decide +kernel
example : maskValue exO (cidr4 16) (cidr6 32) (str "10.1.2.3") = str "10.1.0.0" ∧
    maskValue exO (cidr4 16) (cidr6 32) (str "10.1.9.9") = str "10.1.0.0" ∧
    maskedOf (cidr4 16) (cidr6 32) (.v4 [10, 1, 2, 3]) = maskedOf (cidr4 16) (cidr6 32) (.v4 [10, 1, 9, 9]) := by
  repeat rw [str_ofList]
  decide +kernel
example : maskValue exO (cidr4 16) (cidr6 32) (str "10.1.2.3:80") = str "10.1.0.0:80" := by
  repeat rw [str_ofList]
  decide +kernel
example : cutZone (str "fe80::1%eth0") = str "fe80::1" ∧ cutZone (str "10.1.2.3") = str "10.1.2.3" := by
  repeat rw [str_ofList]
  decide
example : maskValue wZ (cidr4 16) (cidr6 32) (str "fe80::1%eth0") = str "fe80::" ∧
    maskValue wZ (cidr4 16) (cidr6 32) (str "fe80::1%wlan1") = str "fe80::" ∧
    (wZ.parseIP (cutZone (hostOf wZ (str "fe80::1%eth0")))).isSome = true := by
  repeat rw [str_ofList]
  decide +kernel
example : queryStr exO [⟨.delete, str "token", []⟩] (str "/a?token=S&x=1") = str "/a?x=1" := by
  repeat rw [str_ofList]
  decide +kernel
example : queryStr exO [⟨.replace, str "token", str "R"⟩] (str "/a?token=S&x=1") = str "/a?token=R&x=1" := by
  repeat rw [str_ofList]
  decide +kernel
example : queryStr exO [⟨.hash, str "token", []⟩] (str "/a?token=S&x=1") = str "/a?token=h&x=1" := by
  repeat rw [str_ofList]
  decide +kernel
example : hiddenBy [⟨.delete, str "token", []⟩] (str "token") = true := by decide
-- `url.Parse` rejects `%zz/a?token=S&x=1#%zz` (exO.parseURL = none): the query part is filtered all the same
example : exO.parseURL (str "%zz/a?token=S&x=1#%zz") = none ∧
    queryStr exO [⟨.delete, str "token", []⟩] (str "%zz/a?token=S&x=1#%zz") = str "%zz/a?x=1#%zz" ∧
    queryStr exO [⟨.replace, str "token", str "R"⟩] (str "%zz/a?token=S&x=1") = str "%zz/a?token=R&x=1" ∧
    queryStr exO [⟨.delete, str "token", []⟩] (str "%zz/a") = str "%zz/a" := by
  repeat rw [str_ofList]
  decide +kernel
example : cookieVal exO [⟨.replace, str "sid", str "R"⟩, ⟨.delete, str "del", []⟩] (.arr [str "sid=S; x=1; del=D"])
    = .arr [str "sid=R; x=1"] := by
  repeat rw [str_ofList]
  decide +kernel
example : reStr exO (str "tok=S;a=1") = str "tok=X;a=1" ∧ wfSpans 0 (exO.reSpans (str "tok=S;a=1")) = true
    ∧ covered (exO.reSpans (str "tok=S;a=1")) 4 = true ∧ covered (exO.reSpans (str "tok=S;a=1")) 5 = false := by
  repeat rw [str_ofList]
  decide +kernel
example : reStr exO (str "tok=S;a=1") = reStr exO (str "tok=T;a=1") := by
  repeat rw [str_ofList]
  decide +kernel
example : maskByte 3 = 224 ∧ (0xAB : UInt8) &&& maskByte 3 = (0xBF : UInt8) &&& maskByte 3 := by decide

end CaddyModel.C20
