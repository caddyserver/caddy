/-
Go's `strings.Split` and `strings.Join` for a one-byte separator, transliterated once, with their laws.
The model files of several properties each hold their own transliteration (`splitSlash`, `splitDot`,
`splitOn c`, `joinSlash`, …); those are part of their models and stay where they are. The defining
equations determine each function (`split_unique`, `join_unique`), so a directory whose proofs speak of
its copy ties it to `Go.split` / `Go.join` by one application of these next to its lemmas and reads what
it needs off the laws below through that tie; a copy that is only evaluated has none.
-/
import CaddyModel.Util.Hex

namespace CaddyModel.Go

/-- `strings.Split(s, string c)`: never empty -/
def split (c : UInt8) : Bytes → List Bytes
  | [] => [[]]
  | x :: xs =>
    if x = c then [] :: split c xs
    else match split c xs with
      | [] => [[x]]
      | p :: ps => (x :: p) :: ps

/-- `strings.Join(l, string c)` -/
def join (c : UInt8) : List Bytes → Bytes
  | [] => []
  | [a] => a
  | a :: b :: t => a ++ c :: join c (b :: t)

theorem split_unique {c : UInt8} {sp : Bytes → List Bytes} (h0 : sp [] = [[]])
    (h1 : ∀ x xs, sp (x :: xs) = if x = c then [] :: sp xs else
      match sp xs with
      | [] => [[x]]
      | p :: ps => (x :: p) :: ps) : sp = split c := by
  funext s
  induction s with
  | nil => exact h0
  | cons x xs ih => rw [h1, ih, split]

theorem join_unique {c : UInt8} {jn : List Bytes → Bytes} (h0 : jn [] = []) (h1 : ∀ a, jn [a] = a)
    (h2 : ∀ a b t, jn (a :: b :: t) = a ++ c :: jn (b :: t)) : jn = join c := by
  funext l
  induction l with
  | nil => exact h0
  | cons a t ih =>
    cases t with
    | nil => exact h1 a
    | cons b t => rw [h2, ih, join]

theorem split_ne_nil (c : UInt8) (s : Bytes) : split c s ≠ [] := by
  fun_cases split c s <;> simp

/-- a byte other than the separator joins the first piece of the rest -/
theorem split_cons_ne {c x : UInt8} (h : x ≠ c) (xs : Bytes) :
    ∃ p ps, split c xs = p :: ps ∧ split c (x :: xs) = (x :: p) :: ps := by
  obtain ⟨p, ps, e⟩ := List.exists_cons_of_ne_nil (split_ne_nil c xs)
  exact ⟨p, ps, e, by rw [split, if_neg h, e]⟩

theorem split_append_sep (c : UInt8) (a b : Bytes) : split c (a ++ c :: b) = split c a ++ split c b := by
  induction a with
  | nil => simp [split]
  | cons x xs ih =>
    by_cases h : x = c
    · simp [split, h, ih]
    · obtain ⟨p, ps, e, e'⟩ := split_cons_ne h xs
      rw [e', List.cons_append, split, if_neg h, ih, e]; rfl

theorem split_of_not_mem {c : UInt8} : ∀ {s : Bytes}, c ∉ s → split c s = [s]
  | [], _ => rfl
  | x :: xs, h => by
    rw [split, if_neg (fun e : x = c => h (e ▸ List.mem_cons_self)), split_of_not_mem fun m => h (List.mem_cons_of_mem _ m)]

theorem not_mem_of_mem_split {c : UInt8} {s p : Bytes} (hp : p ∈ split c s) : c ∉ p := by
  induction s generalizing p with
  | nil => rw [List.mem_singleton.mp hp]; exact List.not_mem_nil
  | cons x xs ih =>
    by_cases h : x = c
    · rw [split, if_pos h] at hp
      exact (List.mem_cons.mp hp).elim (· ▸ List.not_mem_nil) ih
    · obtain ⟨q, qs, e, e'⟩ := split_cons_ne h xs
      rw [e'] at hp; rw [e] at ih
      rcases List.mem_cons.mp hp with rfl | hp
      · exact fun m => (List.mem_cons.mp m).elim (fun e => h e.symm) (ih List.mem_cons_self)
      · exact ih (List.mem_cons_of_mem _ hp)

theorem join_cons_cons (c : UInt8) (a : Bytes) {t : List Bytes} (ht : t ≠ []) : join c (a :: t) = a ++ c :: join c t := by
  obtain ⟨b, t, rfl⟩ := List.exists_cons_of_ne_nil ht; rfl

theorem split_join (c : UInt8) : ∀ {l : List Bytes}, l ≠ [] → (∀ p ∈ l, c ∉ p) → split c (join c l) = l
  | [], h, _ => absurd rfl h
  | [a], _, hl => split_of_not_mem (hl a List.mem_cons_self)
  | a :: b :: t, _, hl => by
    rw [join, split_append_sep, split_of_not_mem (hl a List.mem_cons_self),
      split_join c (List.cons_ne_nil b t) fun p hp => hl p (List.mem_cons_of_mem _ hp)]; rfl

theorem join_split (c : UInt8) (s : Bytes) : join c (split c s) = s := by
  induction s with
  | nil => rfl
  | cons x xs ih =>
    by_cases h : x = c
    · rw [split, if_pos h, join_cons_cons c [] (split_ne_nil c xs), ih, h]; rfl
    · obtain ⟨p, ps, e, e'⟩ := split_cons_ne h xs
      rw [e']; rw [e] at ih
      cases ps with
      | nil => exact congrArg (x :: ·) ih
      | cons q qs => exact congrArg (x :: ·) ih

theorem join_append (c : UInt8) {l1 l2 : List Bytes} (h1 : l1 ≠ []) (h2 : l2 ≠ []) :
    join c (l1 ++ l2) = join c l1 ++ c :: join c l2 := by
  induction l1 with
  | nil => exact absurd rfl h1
  | cons a t ih =>
    by_cases ht : t = []
    · subst ht; exact join_cons_cons c a h2
    · rw [List.cons_append, join_cons_cons c a (by simp [ht]), ih ht, join_cons_cons c a ht, List.append_assoc]; rfl

/-- a byte map that neither creates nor destroys separators commutes with `split`
    (ASCII lower-casing with `.`, `/`, `,`) -/
theorem split_map {c : UInt8} {f : UInt8 → UInt8} (hf : ∀ b, f b = c ↔ b = c) (s : Bytes) :
    split c (s.map f) = (split c s).map (List.map f) := by
  induction s with
  | nil => rfl
  | cons x xs ih =>
    by_cases h : x = c
    · simp [split, h, (hf c).mpr rfl, ih]
    · obtain ⟨p, ps, e, e'⟩ := split_cons_ne h xs
      rw [e', List.map_cons, split, if_neg (mt (hf x).mp h), ih, e]; rfl

theorem mem_join {c b : UInt8} {l : Bytes} : ∀ {L : List Bytes}, l ∈ L → b ∈ l → b ∈ join c L
  | [_], hl, hb => List.mem_singleton.mp hl ▸ hb
  | a :: a' :: t, hl, hb => by
    rw [join]
    rcases List.mem_cons.mp hl with rfl | hl
    · exact List.mem_append_left _ hb
    · exact List.mem_append_right _ (List.mem_cons_of_mem _ (mem_join hl hb))

theorem join_ne_nil (c : UInt8) {a : Bytes} (t : List Bytes) (ha : a ≠ []) : join c (a :: t) ≠ [] := by
  cases t with
  | nil => exact ha
  | cons b t => rw [join]; exact fun e => ha (List.append_eq_nil_iff.mp e).1

end CaddyModel.Go
