import CaddyModel.Util.Hex

namespace CaddyModel

/-- A string literal's bytes without evaluating `String.toList` on the literal (UTF-8 encoding and
    decoding again, which the kernel does slowly): `rw [str_ofList]` unifies `String.ofList _` with the
    literal and leaves the explicit byte list. -/
theorem str_ofList (l : List Char) : str (String.ofList l) = l.map (fun c => c.toNat.toUInt8) := by
  rw [str, String.toList_ofList]

end CaddyModel
