/-
C06 — `strings.Split` / `Join` on one separator byte; `path.Clean` as a segment machine with a stack
invariant, and how a cleaned path ends; `cleanPath` in both slash modes: a run of segments that leaves no
trace may be inserted at a slash.
-/
import CaddyModel.C06.Bytes
import CaddyModel.C06.Preds

namespace CaddyModel.C06

theorem splitOn_append_sep (c : UInt8) (a b : Bytes) :
    splitOn c (a ++ c :: b) = splitOn c a ++ splitOn c b := splitOn_eq c ▸ Go.split_append_sep c a b

theorem splitOn_joinSep (c : UInt8) (segs : List Bytes) (hne : segs ≠ [])
    (h : ∀ s, s ∈ segs → s.contains c = false) : splitOn c (joinSep c segs) = segs := by
  rw [splitOn_eq, joinSep_eq]; exact Go.split_join c hne fun p hp => not_mem_of_contains (h p hp)

theorem mem_splitOn_not_contains (c : UInt8) (s : Bytes) (seg : Bytes) (h : seg ∈ splitOn c s) :
    seg.contains c = false := by
  simpa using Go.not_mem_of_mem_split (splitOn_eq c ▸ h)

theorem joinSep_head (c : UInt8) (s : Bytes) (ss : List Bytes) (hs : s ≠ []) :
    (joinSep c (s :: ss)).head? = s.head? := by
  obtain ⟨x, xs, rfl⟩ := List.exists_cons_of_ne_nil hs
  cases ss <;> rfl

theorem joinSep_ne_nil (c : UInt8) (s : Bytes) (ss : List Bytes) (hs : s ≠ []) : joinSep c (s :: ss) ≠ [] :=
  joinSep_eq c ▸ Go.join_ne_nil c ss hs

def SegOk (t : Bytes) : Prop := t ≠ [] ∧ t ≠ dot ∧ t.contains cSlash = false

/-- invariant of the output stack (last segment first): kept segments are non-empty, not `.`,
    slash-free; a `..` only survives in a relative path, at the bottom or on another `..` -/
def okSt (r : Bool) : List Bytes → Prop
  | [] => True
  | t :: rest => SegOk t ∧ okSt r rest ∧ (t = dotdot → r = false ∧ (rest = [] ∨ rest.head? = some dotdot))

theorem segOk_dotdot : SegOk dotdot := by
  refine ⟨by decide, by decide, by decide⟩

theorem okSt_step (r : Bool) (st : List Bytes) (seg : Bytes) (hst : okSt r st)
    (hseg : seg.contains cSlash = false) : okSt r (cleanStep r st seg) := by
  fun_cases cleanStep r st seg
  case case1 => exact hst
  case case2 => trivial
  case case3 hr =>
    rw [Bool.not_eq_true] at hr
    exact ⟨segOk_dotdot, trivial, fun _ => ⟨hr, Or.inl rfl⟩⟩
  case case4 => exact ⟨segOk_dotdot, hst, fun _ => ⟨(hst.2.2 rfl).1, Or.inr rfl⟩⟩
  case case5 => exact hst.2.1
  case case6 h1 h2 =>
    exact ⟨⟨fun e => h1 (Or.inl e), fun e => h1 (Or.inr e), hseg⟩, hst, fun e => absurd e h2⟩

theorem okSt_foldl (r : Bool) : ∀ (segs : List Bytes) (st : List Bytes), okSt r st →
    (∀ s, s ∈ segs → s.contains cSlash = false) → okSt r (segs.foldl (cleanStep r) st)
  | [], _, h, _ => h
  | s :: ss, st, h, hs =>
    okSt_foldl r ss _ (okSt_step r st s h (hs s List.mem_cons_self)) (fun x hx => hs x (List.mem_cons_of_mem _ hx))

theorem replay (r : Bool) : ∀ st : List Bytes, okSt r st → st.reverse.foldl (cleanStep r) [] = st
  | [], _ => rfl
  | t :: rest, h => by
    rw [List.reverse_cons, List.foldl_append, replay r rest h.2.1]
    show cleanStep r rest t = t :: rest
    unfold cleanStep
    rw [if_neg (fun e => e.elim h.1.1 h.1.2.1)]
    by_cases ht : t = dotdot
    · -- a `..` on the stack sits at the bottom of a relative path or on another `..`: it is kept again
      rw [if_pos ht]
      rcases h.2.2 ht with ⟨hr, hrest | hrest⟩
      · subst hrest hr; rw [ht]; rfl
      · cases rest with
        | nil => cases hrest
        | cons t' r' =>
          show (if t' = dotdot then dotdot :: t' :: r' else r') = t :: t' :: r'
          rw [if_pos (Option.some.inj hrest), ht]
    · rw [if_neg ht]

theorem okSt_mem (r : Bool) : ∀ (st : List Bytes) (s : Bytes), okSt r st → s ∈ st →
    SegOk s ∧ (r = true → s ≠ dotdot)
  | t :: rest, s, h, hs => by
    rcases List.mem_cons.mp hs with e | e
    · subst e; exact ⟨h.1, fun hr hd => by rw [(h.2.2 hd).1] at hr; cases hr⟩
    · exact okSt_mem r rest s h.2.1 e

theorem okSt_clean (r : Bool) (p : Bytes) : okSt r ((splitOn cSlash p).foldl (cleanStep r) []) :=
  okSt_foldl r _ [] trivial (mem_splitOn_not_contains cSlash p)

theorem cleanSegs_ok (r : Bool) (p : Bytes) :
    ∀ s, s ∈ cleanSegs r (splitOn cSlash p) → SegOk s ∧ (r = true → s ≠ dotdot) :=
  fun s hs => okSt_mem r _ s (okSt_clean r p) (List.mem_reverse.mp hs)

theorem pathClean_of_ne_nil {p : Bytes} (hp : p ≠ []) :
    pathClean p = renderClean (isRooted p) (cleanSegs (isRooted p) (splitOn cSlash p)) := if_neg hp

theorem pathClean_ne_nil (p : Bytes) : pathClean p ≠ [] := by
  by_cases hp : p = []
  · subst hp; decide
  rw [pathClean_of_ne_nil hp]
  unfold renderClean
  cases isRooted p with
  | true => exact List.cons_ne_nil _ _
  | false =>
    cases hc : cleanSegs false (splitOn cSlash p) with
    | nil => decide
    | cons s ss => exact joinSep_ne_nil cSlash s ss (cleanSegs_ok _ p s (by rw [hc]; exact List.mem_cons_self)).1.1

theorem cleanSegs_nil_cons (r : Bool) (segs : List Bytes) : cleanSegs r ([] :: segs) = cleanSegs r segs := by
  unfold cleanSegs
  simp [cleanStep]

/-- **rendering a clean stack yields a path that `path.Clean` leaves alone**: splitting the rendered
    path gives the segments back, and replaying them reproduces the stack -/
theorem pathClean_render (r : Bool) (st : List Bytes) (h : okSt r st) :
    pathClean (renderClean r st.reverse) = renderClean r st.reverse := by
  have hok : ∀ s, s ∈ st.reverse → SegOk s := fun s hs => (okSt_mem r st s h (List.mem_reverse.mp hs)).1
  have hfix : cleanSegs r st.reverse = st.reverse := by unfold cleanSegs; rw [replay r st h]
  generalize st.reverse = segs at hok hfix
  cases segs with
  | nil => cases r <;> decide
  | cons s ss =>
    have hs := hok s List.mem_cons_self
    have hsplit : splitOn cSlash (joinSep cSlash (s :: ss)) = s :: ss :=
      splitOn_joinSep cSlash (s :: ss) (List.cons_ne_nil _ _) (fun x hx => (hok x hx).2.2)
    cases r with
    | true =>
      show pathClean (cSlash :: joinSep cSlash (s :: ss)) = _
      rw [pathClean_of_ne_nil (List.cons_ne_nil _ _)]
      show renderClean true (cleanSegs true (splitOn cSlash (cSlash :: joinSep cSlash (s :: ss)))) = _
      rw [splitOn, if_pos rfl, hsplit, cleanSegs_nil_cons, hfix]
    | false =>
      have hq : renderClean false (s :: ss) = joinSep cSlash (s :: ss) := by
        unfold renderClean; rw [if_neg Bool.false_ne_true, if_neg (List.cons_ne_nil _ _)]
      have hroot : isRooted (joinSep cSlash (s :: ss)) = false := by
        unfold isRooted
        rw [joinSep_head cSlash s ss hs.1]
        exact beq_eq_false_iff_ne.mpr (head?_of_not_contains hs.2.2)
      rw [hq, pathClean_of_ne_nil (joinSep_ne_nil _ _ _ hs.1), hroot, hsplit, hfix, hq]

theorem pathClean_idem (p : Bytes) : pathClean (pathClean p) = pathClean p := by
  by_cases hp : p = []
  · subst hp; decide
  · rw [pathClean_of_ne_nil hp]
    exact pathClean_render _ _ (okSt_clean _ p)

theorem endsWithSlash_joinSep : ∀ segs : List Bytes, (∀ s, s ∈ segs → SegOk s) →
    endsWithSlash (joinSep cSlash segs) = false
  | [], _ => rfl
  | [s], h => by
    unfold endsWithSlash
    exact beq_eq_false_iff_ne.mpr (getLast?_ne_of_not_contains (h s (List.mem_singleton.mpr rfl)).2.2)
  | s :: t :: ss, h => by
    have ih := endsWithSlash_joinSep (t :: ss) (fun x hx => h x (List.mem_cons_of_mem _ hx))
    have ht := h t (List.mem_cons_of_mem _ List.mem_cons_self)
    simp only [joinSep] at ih ⊢
    unfold endsWithSlash at *
    rw [getLast?_append_cons, List.getLast?_cons_of_ne_nil (joinSep_ne_nil cSlash t ss ht.1)]
    exact ih

theorem pathClean_endsWithSlash (p : Bytes) (h : endsWithSlash (pathClean p) = true) : pathClean p = [cSlash] := by
  by_cases hp : p = []
  · subst hp; exact absurd h (by decide)
  rw [pathClean_of_ne_nil hp] at h ⊢
  have hok := fun s h => (cleanSegs_ok (isRooted p) p s h).1
  generalize isRooted p = r at h hok ⊢
  generalize cleanSegs r (splitOn cSlash p) = segs at h hok ⊢
  have hj := endsWithSlash_joinSep segs hok
  unfold renderClean at h ⊢
  cases segs with
  | nil =>
    cases r with
    | true => rfl
    | false => exact absurd h (by decide)
  | cons s ss =>
    -- neither `s/…` nor `/s/…` ends in a slash
    exfalso
    cases r with
    | false =>
      rw [if_neg Bool.false_ne_true, if_neg (List.cons_ne_nil _ _), hj] at h; cases h
    | true =>
      unfold endsWithSlash at h hj
      rw [if_pos rfl, List.getLast?_cons_of_ne_nil (joinSep_ne_nil cSlash s ss (hok s List.mem_cons_self).1), hj] at h
      cases h

theorem endsWithSlash_append_slash (c : Bytes) : endsWithSlash (c ++ [cSlash]) = true := by
  unfold endsWithSlash
  rw [getLast?_append_cons]
  rfl

/-- a run of segments that `path.Clean` consumes without trace, whatever it has kept so far -/
def Neutral (ms : List Bytes) : Prop := ∀ (r : Bool) (st : List Bytes), ms.foldl (cleanStep r) st = st

theorem neutral_empty : Neutral [[]] := by
  intro r st; simp [cleanStep]

theorem neutral_dot : Neutral [dot] := by
  intro r st; simp [cleanStep]

theorem normalSeg_iff (x : Bytes) :
    normalSeg x = true ↔ x ≠ [] ∧ x ≠ dot ∧ x ≠ dotdot ∧ x.contains cSlash = false := by
  unfold normalSeg
  simp only [Bool.and_eq_true, bne_iff_ne, ne_eq, Bool.not_eq_eq_eq_not, Bool.not_true, and_assoc]

theorem slashFree_seg_dotdot (x : Bytes) (hx : normalSeg x = true) :
    ∀ s, s ∈ [x, dotdot] → s.contains cSlash = false := by
  intro s hs
  simp only [List.mem_cons, List.not_mem_nil, or_false] at hs
  rcases hs with rfl | rfl
  · exact ((normalSeg_iff s).mp hx).2.2.2
  · rfl

/-- `path.Clean` pushes `x` and pops it again -/
theorem neutral_dotdot (x : Bytes) (hx : normalSeg x = true) : Neutral [x, dotdot] := by
  obtain ⟨h1, h2, h3, _⟩ := (normalSeg_iff x).mp hx
  intro r st
  have e : cleanStep r st x = x :: st := by
    unfold cleanStep
    rw [if_neg (fun e => e.elim h1 h2), if_neg h3]
  rw [List.foldl_cons, List.foldl_cons, List.foldl_nil, e]
  unfold cleanStep
  rw [if_neg (by decide), if_pos rfl]
  show (if x = dotdot then dotdot :: x :: st else st) = st
  rw [if_neg h3]

theorem isRooted_append_sep (a rest : Bytes) : isRooted (a ++ cSlash :: rest) = (a == [] || isRooted a) := by
  cases a with
  | nil => rfl
  | cons x xs => rfl

theorem endsWithSlash_insert (a m b : Bytes) :
    endsWithSlash (a ++ cSlash :: (m ++ cSlash :: b)) = endsWithSlash (a ++ cSlash :: b) := by
  unfold endsWithSlash
  rw [getLast?_append_cons, getLast?_append_cons]
  have : cSlash :: (m ++ cSlash :: b) = (cSlash :: m) ++ cSlash :: b := rfl
  rw [this, getLast?_append_cons]

/-- `path.Clean` of a path with a slash in it: the fold over the second part, continued from the first -/
theorem pathClean_at_slash (a b : Bytes) :
    pathClean (a ++ cSlash :: b) =
      renderClean (a == [] || isRooted a)
        (((splitOn cSlash b).foldl (cleanStep (a == [] || isRooted a))
          ((splitOn cSlash a).foldl (cleanStep (a == [] || isRooted a)) [])).reverse) := by
  rw [pathClean_of_ne_nil (by simp), isRooted_append_sep, cleanSegs, splitOn_append_sep, List.foldl_append]

theorem pathClean_append_slash (c : Bytes) (hc : c ≠ []) : pathClean (c ++ [cSlash]) = pathClean c := by
  rw [pathClean_at_slash, pathClean_of_ne_nil hc, beq_eq_false_iff_ne.mpr hc, Bool.false_or]
  exact congrArg _ (congrArg _ (neutral_empty _ _))

theorem pathClean_insert (a b : Bytes) (ms : List Bytes) (hms : ms ≠ [])
    (hsl : ∀ s, s ∈ ms → s.contains cSlash = false) (hn : Neutral ms) :
    pathClean (a ++ cSlash :: (joinSep cSlash ms ++ cSlash :: b)) = pathClean (a ++ cSlash :: b) := by
  rw [pathClean_at_slash, pathClean_at_slash, splitOn_append_sep, splitOn_joinSep cSlash ms hms hsl,
    List.foldl_append, hn]

theorem cleanPath_insert (a b : Bytes) (ms : List Bytes) (hms : ms ≠ [])
    (hsl : ∀ s, s ∈ ms → s.contains cSlash = false) (hn : Neutral ms) :
    cleanPath (a ++ cSlash :: (joinSep cSlash ms ++ cSlash :: b)) = cleanPath (a ++ cSlash :: b) := by
  unfold cleanPath
  rw [pathClean_insert a b ms hms hsl hn, endsWithSlash_insert]

/-- the `p[i-1] == '/'` of the next iteration -/
def lastSlash (s : Bool) (a : Bytes) : Bool :=
  match a.getLast? with
  | none => s
  | some c => c == cSlash

theorem lastSlash_cons (s : Bool) (x : UInt8) (xs : Bytes) : lastSlash s (x :: xs) = lastSlash (x == cSlash) xs := by
  unfold lastSlash
  rw [List.getLast?_cons]
  cases xs.getLast? <;> rfl

theorem expandSlashes_append (a : Bytes) (s : Bool) (b : Bytes) :
    expandSlashes s (a ++ b) = expandSlashes s a ++ expandSlashes (lastSlash s a) b := by
  fun_induction expandSlashes s a
  case case1 => rfl
  case case2 s x xs h ih =>
    rw [lastSlash_cons, List.cons_append, expandSlashes, if_pos h, ih, beq_iff_eq.mpr h.1]; rfl
  case case3 s x xs h ih =>
    rw [lastSlash_cons, List.cons_append, expandSlashes, if_neg h, ih]; rfl

theorem expandSlashes_no_slash (x : Bytes) (s : Bool) (h : x.contains cSlash = false) : expandSlashes s x = x := by
  fun_induction expandSlashes s x
  case case1 => rfl
  case case2 c cs hc _ => exact absurd hc.1 (not_contains_cons h).1
  case case3 c cs _ ih => rw [ih (not_contains_cons h).2]

theorem lastSlash_no_slash (x : Bytes) (s : Bool) (hx : x ≠ []) (h : x.contains cSlash = false) :
    lastSlash s x = false := by
  unfold lastSlash
  cases hl : x.getLast? with
  | none => exact absurd (List.getLast?_eq_none_iff.mp hl) hx
  | some c => exact beq_eq_false_iff_ne.mpr fun e => getLast?_ne_of_not_contains h (e ▸ hl)

/-- a run of bytes in which `CleanPath(·, false)` has nothing to mark when it stands right after a slash (hence
    `true`), and after which the next byte is not marked either (it does not end in a slash) -/
def Inert (m : Bytes) : Prop := expandSlashes true m = m ∧ lastSlash true m = false

theorem inert_dot : Inert dot := by
  constructor <;> decide

theorem inert_seg_dotdot (x : Bytes) (hx : normalSeg x = true) : Inert (x ++ cSlash :: dotdot) := by
  obtain ⟨h1, _, _, h4⟩ := (normalSeg_iff x).mp hx
  constructor
  · rw [expandSlashes_append, expandSlashes_no_slash x _ h4, lastSlash_no_slash x _ h1 h4]
    rfl
  · unfold lastSlash
    rw [getLast?_append_cons]
    rfl

theorem cleanPathMode_insert (mode : Bool) (a b : Bytes) (ms : List Bytes) (hms : ms ≠ [])
    (hsl : ∀ s, s ∈ ms → s.contains cSlash = false) (hn : Neutral ms) (hi : Inert (joinSep cSlash ms)) :
    cleanPathMode mode (a ++ cSlash :: (joinSep cSlash ms ++ cSlash :: b)) = cleanPathMode mode (a ++ cSlash :: b) := by
  unfold cleanPathMode
  cases mode with
  | true => simp only [if_true]; exact cleanPath_insert a b ms hms hsl hn
  | false =>
    simp only [Bool.false_eq_true, if_false]
    congr 1
    -- the marking pass leaves the inserted run as it is (`Inert`) and marks `a` and `b` as it does without
    -- the run: what remains is `cleanPath_insert` for the marked `a` and `b`
    have e1 : ∀ rest : Bytes, expandSlashes false (a ++ cSlash :: rest) =
        (expandSlashes false a ++ (if lastSlash false a then [255] else [])) ++ cSlash :: expandSlashes true rest := by
      intro rest
      rw [expandSlashes_append]
      simp only [expandSlashes]
      cases lastSlash false a <;> simp
    rw [e1, e1, expandSlashes_append, hi.1, hi.2]
    simp only [expandSlashes, Bool.false_eq_true, and_false, if_false]
    have : (cSlash == cSlash) = true := by decide
    rw [this]
    exact cleanPath_insert _ _ ms hms hsl hn

end CaddyModel.C06
