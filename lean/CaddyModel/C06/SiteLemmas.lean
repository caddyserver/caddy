/-
C06 — Caddyfile site keys (`ParseAddress` / `Normalize`).
-/
import CaddyModel.C06.HostLemmas

namespace CaddyModel.C06

theorem addrHost_with_port (h p : Bytes) (hh : plainHost h = true) (hp : plainHost p = true) :
    addrHost (h ++ cColon :: p) = h := by
  unfold addrHost
  rw [splitHostPort_with_port h p hh hp]

theorem addrHost_plain (h : Bytes) (hh : plainHost h = true) : addrHost h = h := by
  unfold addrHost
  rw [splitHostPort_no_colon h ((plainHost_iff h).mp hh).1]
  simp only
  rw [splitHostPort_with_port h [] hh (by decide)]

theorem takeWhile_to_slash (a q : Bytes) (ha : a.contains cSlash = false) (hq : keyPathShape q = true) :
    (a ++ q).takeWhile (· != cSlash) = a ∧ (a ++ q).dropWhile (· != cSlash) = q := by
  have hall : ∀ x, x ∈ a → (x != cSlash) = true := by
    intro x hx
    rw [bne_iff_ne]
    rintro rfl
    exact not_mem_of_contains ha hx
  rw [List.takeWhile_append_of_pos hall, List.dropWhile_append_of_pos hall]
  cases q with
  | nil => exact ⟨List.append_nil a, rfl⟩
  | cons x xs =>
    obtain rfl : x = cSlash := by simpa [keyPathShape] using hq
    exact ⟨List.append_nil a, rfl⟩

theorem dropScheme_of_no_scheme {key : Bytes} (h1 : hasPrefix key httpScheme = false)
    (h2 : hasPrefix key httpsScheme = false) : dropScheme key = key := by
  unfold dropScheme; rw [h1, h2]; rfl

theorem parseSiteKey_hostport (hp q : Bytes) (hs : hp.contains cSlash = false) (hq : keyPathShape q = true)
    (hns : hasPrefix (hp ++ q) httpScheme = false) (hns2 : hasPrefix (hp ++ q) httpsScheme = false) :
    parseSiteKey (hp ++ q) = (lower (addrHost hp), q) := by
  unfold parseSiteKey
  rw [dropScheme_of_no_scheme hns hns2]
  have := takeWhile_to_slash hp q hs hq
  rw [this.1, this.2]

end CaddyModel.C06
