/-
C06 — the chunk matcher of `path.Match` computes the declarative reading of Preds.lean (`c`, `\c`, `?`,
`[…]`, `[^…]`: a chunk is a list of elements, each of which consumes exactly one byte), and so does
`globMatch` on a pattern that is one star-free chunk (`globMatch_single_chunk`).
-/
import CaddyModel.C06.Preds

namespace CaddyModel.C06

theorem classLoop_eq (r : UInt8) : ∀ (fuel : Nat) (chunk : Bytes) (seen mt : Bool),
    classLoop r fuel chunk seen mt =
      match parseRanges fuel chunk seen with
      | .ok rs rest => .ok (mt || rs.any fun p => inRange p.1 p.2 r) rest
      | .bad => .bad
      | .fuel => .fuel
  | 0, _, _, _ => rfl
  | fuel + 1, chunk, seen, mt => by
    -- both loops go on alike after a range `lo-hi` (a single character is `lo-lo`)
    have step : ∀ (lo hi : UInt8) (c : Bytes),
        classLoop r fuel c true (mt || inRange lo hi r) =
          match (match parseRanges fuel c true with
                 | .ok rs rest => RangesRes.ok ((lo, hi) :: rs) rest
                 | q => q) with
          | .ok rs rest => .ok (mt || rs.any fun p => inRange p.1 p.2 r) rest
          | .bad => .bad
          | .fuel => .fuel := by
      intro lo hi c
      rw [classLoop_eq r fuel c true _]
      cases parseRanges fuel c true <;> simp [Bool.or_assoc]
    unfold classLoop parseRanges
    by_cases hc : chunk.head? = some cRBr ∧ seen = true
    · rw [if_pos hc, if_pos hc]; simp
    · rw [if_neg hc, if_neg hc]
      cases h1 : getEsc chunk with
      | none => rfl
      | some q =>
        obtain ⟨lo, c1⟩ := q
        simp only
        by_cases hd : c1.head? = some 45
        · rw [if_pos hd, if_pos hd]
          cases h2 : getEsc (c1.drop 1) with
          | none => rfl
          | some q2 => exact step lo q2.1 q2.2
        · rw [if_neg hd, if_neg hd]; exact step lo lo c1

/-- one step of `matchChunk` seen through the parsed chunk: an element in front consumes one
    byte; `flag` is the Go code's test on that byte (it only matters while the match has not
    failed and there is a byte left) -/
theorem chunkSpec_fold (e : Elem) (p : ParseRes) (s : Bytes) (failed flag : Bool)
    (hflag : ∀ b t, s = b :: t → failed = false → flag = !elemMatches e b) :
    chunkSpec p (adv (failed || s.isEmpty) s) (failed || s.isEmpty || flag) = chunkSpec (consElem e p) s failed := by
  cases p with
  | bad => rfl
  | fuel => rfl
  | ok es =>
    cases failed with
    | true => rfl
    | false =>
      cases s with
      | nil => rfl
      | cons b t =>
        rw [hflag b t rfl rfl]
        simp only [chunkSpec, consElem, elemsMatch, adv, Bool.false_or, List.isEmpty_cons, Bool.false_eq_true,
          if_false, List.drop_succ_cons, List.drop_zero]
        cases elemMatches e b <;> rfl

theorem matchChunk_eq_spec : ∀ (fuel : Nat) (chunk s : Bytes) (failed : Bool),
    matchChunk fuel chunk s failed = chunkSpec (parseChunk fuel chunk) s failed
  | fuel, [], s, failed => by
    unfold matchChunk parseChunk
    cases failed <;> rfl
  | 0, _ :: _, _, _ => by
    unfold matchChunk parseChunk
    rfl
  | fuel + 1, c :: rest, s, failed => by
    unfold matchChunk parseChunk
    by_cases h1 : c = cLBr
    · rw [if_pos h1, if_pos h1, classLoop_eq]
      cases hp : parseRanges (rest.length + 1) (classBody rest) false with
      | bad => rfl
      | fuel => rfl
      | ok rs rest' =>
        simp only
        rw [matchChunk_eq_spec fuel rest' _ _]
        apply chunkSpec_fold
        rintro b t rfl rfl
        simp only [Bool.false_or, List.isEmpty_cons, classRune, Bool.false_eq_true, if_false, elemMatches]
        cases (rs.any fun p => inRange p.1 p.2 b) <;> cases negated rest <;> rfl
    · rw [if_neg h1, if_neg h1]
      by_cases h2 : c = 63
      · rw [if_pos h2, if_pos h2, matchChunk_eq_spec fuel rest _ _]
        apply chunkSpec_fold
        rintro b t rfl rfl
        simp [elemMatches, bne]
      · rw [if_neg h2, if_neg h2]
        by_cases h3 : c = cBack
        · rw [if_pos h3, if_pos h3]
          cases rest with
          | nil => rfl
          | cons d rest' =>
            simp only
            rw [matchChunk_eq_spec fuel rest' _ _]
            apply chunkSpec_fold
            rintro b t rfl rfl
            simp [elemMatches, bne]
        · rw [if_neg h3, if_neg h3, matchChunk_eq_spec fuel rest _ _]
          apply chunkSpec_fold
          rintro b t rfl rfl
          simp [elemMatches, bne]

theorem elemsMatch_iff : ∀ (es : List Elem) (s : Bytes), elemsMatch es s = some [] ↔ ElemsAccept es s
  | [], s => by
    rw [elemsMatch, Option.some.injEq]
    exact ⟨fun h => h ▸ .nil, fun h => by cases h; rfl⟩
  | _ :: _, [] => ⟨fun h => (by cases h), fun h => (by cases h)⟩
  | e :: es, b :: s => by
    rw [elemsMatch]
    by_cases hm : elemMatches e b = true
    · rw [if_pos hm]
      exact ⟨fun h => .cons hm ((elemsMatch_iff es s).mp h),
        fun h => by cases h with | cons _ hr => exact (elemsMatch_iff es s).mpr hr⟩
    · rw [if_neg hm]
      exact ⟨fun h => (by cases h), fun h => by cases h with | cons hm' _ => exact absurd hm' hm⟩

theorem dropStars_of_ne {p : UInt8} (ps : Bytes) (h : p ≠ cStar) : dropStars (p :: ps) = p :: ps := if_neg h

theorem globMatch_single_chunk (pat s : Bytes) (hne : pat ≠ []) (hstar : pat.head? ≠ some cStar)
    (hchunk : scanLen false pat = pat.length) :
    globMatch pat s =
      match parseChunk pat.length pat with
      | .ok es => ofBool (elemsMatch es s == some [])
      | .bad => .bad
      | .fuel => .fuel := by
  cases pat with
  | nil => exact absurd rfl hne
  | cons p ps =>
    have h1 : p ≠ cStar := fun e => hstar (congrArg some e)
    have hds := dropStars_of_ne ps h1
    have hc : chunkOf (p :: ps) = p :: ps := by
      unfold chunkOf; rw [hds, hchunk]; simp
    have hr : restOf (p :: ps) = [] := by
      unfold restOf; rw [hds, hchunk]; simp
    have hstar' : (p == cStar) = false := by simpa using h1
    unfold globMatch globLoop
    rw [hc, hr, hstar']
    unfold globStep
    rw [matchChunk_eq_spec]
    simp only [Bool.false_and, Bool.false_eq_true, if_false, List.isEmpty_nil, Bool.not_true, Bool.or_false]
    cases hp : parseChunk (p :: ps).length (p :: ps) with
    | bad => rfl
    | fuel => rfl
    | ok es =>
      simp only [chunkSpec, Bool.false_eq_true, if_false]
      cases he : elemsMatch es s with
      | none => rfl
      | some t =>
        cases t with
        | nil => rfl
        | cons x xs => rfl

end CaddyModel.C06
