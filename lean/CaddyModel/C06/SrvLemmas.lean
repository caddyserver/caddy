/-
C06 — what the replacer and automatic HTTPS phase 1 do to a provisioned host matcher (nothing the
large-list layout depends on); the redirect route's de-duplicated domain list.
-/
import CaddyModel.C06.Lemmas

namespace CaddyModel.C06

theorem expand_no_brace (look : Bytes → Bytes) : ∀ (fuel : Nat) (s : Bytes),
    s.contains cBrace = false → expand look fuel s = s
  | 0, _, _ => rfl
  | _ + 1, [], _ => rfl
  | fuel + 1, c :: r, h => by
    replace h := not_contains_cons h
    unfold expand
    rw [if_neg h.1, expand_no_brace look fuel r h.2]

theorem expand_exact (look : Bytes → Bytes) (e : Bytes) (hf : fuzzy e = false) :
    expand look e.length e = e :=
  expand_no_brace look _ e ((fuzzy_eq_false_iff e).mp hf).1

theorem keysOf_no_brace : ∀ (fuel : Nat) (s : Bytes), s.contains cBrace = false → keysOf fuel s = []
  | 0, _, _ => rfl
  | _ + 1, [], _ => rfl
  | fuel + 1, c :: r, h => by
    replace h := not_contains_cons h
    unfold keysOf
    rw [if_neg h.1, keysOf_no_brace fuel r h.2]

/-- whether phase 1 fails does not depend on Provision's rearrangement of the list -/
theorem phase1_fails_provisioned (emptyGlobal : Bytes → Bool) {thr : Nat} {l m : List Bytes}
    (h : provisionHost thr l = some m) :
    m.any (fun e => (keysOf e.length e).any emptyGlobal) = l.any (fun e => (keysOf e.length e).any emptyGlobal) := by
  refine any_provisioned _ (fun e hfe => ?_) h
  -- an exact entry has no placeholder, lower-cased or not
  have hb := ((fuzzy_eq_false_iff e).mp hfe).1
  rw [keysOf_no_brace _ _ (by rw [contains_lower _ nl_brace]; exact hb), keysOf_no_brace _ _ hb]

theorem dedupCI_spec (ds seen : List Bytes) :
    ((dedupCI seen ds).map lower).Nodup ∧ ∀ x, x ∈ (dedupCI seen ds).map lower → x ∉ seen := by
  fun_induction dedupCI seen ds
  case case1 => exact ⟨List.nodup_nil, fun _ h => nomatch h⟩
  case case2 ih => exact ih
  case case3 seen d ds hd ih =>
    -- `d` is kept: nothing kept later folds to `lower d`, which has joined `seen`
    rw [List.map_cons, List.nodup_cons]
    refine ⟨⟨fun hm => ih.2 _ hm List.mem_cons_self, ih.1⟩, fun x hx hs => ?_⟩
    rcases List.mem_cons.mp hx with rfl | hx
    · exact hd (List.contains_iff_mem.mpr hs)
    · exact ih.2 x hx (List.mem_cons_of_mem _ hs)

theorem dedupCI_no_dup (ds : List Bytes) : hasDup ((dedupCI [] ds).map lower) = false :=
  (hasDup_eq_false_iff _).mpr (dedupCI_spec ds []).1

end CaddyModel.C06
