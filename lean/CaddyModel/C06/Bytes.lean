/-
C06 — byte strings: `splitOn` / `joinSep` are `Go.split` / `Go.join` of `Util/GoStrings.lean`; ASCII case folding
(`lower` commutes with the list operations and is blind to bytes that are not letters, `NonLetter`);
`strings.HasPrefix` / `HasSuffix` / `Contains` are `List`'s `<+:` / `<:+` / `<:+:`; `strings.Count` spelt out.
-/
import CaddyModel.C06.Model
import CaddyModel.Util.GoStrings

namespace CaddyModel.C06

theorem not_contains_cons {α : Type} [BEq α] [LawfulBEq α] {c x : α} {xs : List α}
    (h : (x :: xs).contains c = false) : x ≠ c ∧ xs.contains c = false := by
  rw [List.contains_cons, Bool.or_eq_false_iff] at h
  exact ⟨fun e => by rw [e, beq_self_eq_true] at h; exact Bool.noConfusion h.1, h.2⟩

theorem not_mem_of_contains {c : UInt8} {s : Bytes} (h : s.contains c = false) : c ∉ s := by simpa using h

theorem splitOn_eq (c : UInt8) : splitOn c = Go.split c :=
  Go.split_unique rfl fun x xs => by rw [splitOn]; cases splitOn c xs <;> rfl

theorem joinSep_eq (c : UInt8) : joinSep c = Go.join c := Go.join_unique rfl (fun _ => rfl) fun _ _ _ => rfl

theorem head?_of_not_contains {c : UInt8} {s : Bytes} (h : s.contains c = false) : s.head? ≠ some c :=
  fun hh => not_mem_of_contains h (List.mem_of_head? hh)

theorem getLast?_append_cons (a : Bytes) (c : UInt8) (b : Bytes) : (a ++ c :: b).getLast? = (c :: b).getLast? := by
  rw [List.getLast?_append, List.getLast?_cons]
  rfl

theorem getLast?_ne_of_not_contains {c : UInt8} {s : Bytes} (h : s.contains c = false) : s.getLast? ≠ some c :=
  fun hl => not_mem_of_contains h (List.mem_of_getLast? hl)

theorem any_congr_mem {α : Type} : ∀ {l : List α} {f g : α → Bool}, (∀ x, x ∈ l → f x = g x) → l.any f = l.any g
  | [], _, _, _ => rfl
  | x :: xs, f, g, h => by
    simp only [List.any_cons]
    rw [h x List.mem_cons_self, any_congr_mem (fun y hy => h y (List.mem_cons_of_mem _ hy))]

theorem length_drop_le (n : Nat) (p : Bytes) : (p.drop n).length ≤ p.length :=
  List.length_drop ▸ Nat.sub_le _ _

theorem lowerByte_toNat (b : UInt8) :
    (lowerByte b).toNat = if 65 ≤ b.toNat ∧ b.toNat ≤ 90 then b.toNat + 32 else b.toNat := by
  unfold lowerByte
  by_cases h : 65 ≤ b ∧ b ≤ 90
  · have h' : 65 ≤ b.toNat ∧ b.toNat ≤ 90 := h
    rw [if_pos h, if_pos h', UInt8.toNat_add]
    exact Nat.mod_eq_of_lt (Nat.lt_of_le_of_lt (Nat.add_le_add_right h'.2 32) (by decide))
  · have h' : ¬ (65 ≤ b.toNat ∧ b.toNat ≤ 90) := h
    rw [if_neg h, if_neg h']

def NonLetter (c : UInt8) : Prop := ¬ (97 ≤ c.toNat ∧ c.toNat ≤ 122) ∧ ¬ (65 ≤ c.toNat ∧ c.toNat ≤ 90)

theorem lowerByte_eq_iff (b c : UInt8) (hc : NonLetter c) : lowerByte b = c ↔ b = c := by
  constructor
  · intro e
    by_cases h : 65 ≤ b ∧ b ≤ 90
    · -- an upper-case letter goes to a lower-case letter, which `c` is not
      have h' : 65 ≤ b.toNat ∧ b.toNat ≤ 90 := h
      refine absurd ?_ hc.1
      rw [← e, lowerByte_toNat, if_pos h']
      exact ⟨Nat.add_le_add_right h'.1 32, Nat.add_le_add_right h'.2 32⟩
    · rw [← e]; exact (if_neg h).symm
  · rintro rfl; exact if_neg hc.2

theorem lowerByte_idem (b : UInt8) : lowerByte (lowerByte b) = lowerByte b := by
  have h : ¬ (65 ≤ (lowerByte b).toNat ∧ (lowerByte b).toNat ≤ 90) := by
    rw [lowerByte_toNat]; split <;> omega
  exact if_neg h

theorem lower_idem (s : Bytes) : lower (lower s) = lower s := by
  unfold lower
  rw [List.map_map]
  apply List.map_congr_left
  intro a _
  exact lowerByte_idem a

theorem lowerByte_beq (x c : UInt8) (hc : NonLetter c) : (lowerByte x == c) = (x == c) := by
  rw [Bool.eq_iff_iff, beq_iff_eq, beq_iff_eq]; exact lowerByte_eq_iff x c hc

theorem lower_cons (x : UInt8) (xs : Bytes) : lower (x :: xs) = lowerByte x :: lower xs := rfl

theorem lower_take (n : Nat) (s : Bytes) : lower (s.take n) = (lower s).take n := by
  unfold lower; rw [List.map_take]

theorem lower_drop (n : Nat) (s : Bytes) : lower (s.drop n) = (lower s).drop n := by
  unfold lower; rw [List.map_drop]

theorem lower_reverse (s : Bytes) : lower s.reverse = (lower s).reverse := by
  unfold lower; rw [List.map_reverse]

theorem lower_append (a b : Bytes) : lower (a ++ b) = lower a ++ lower b := by
  unfold lower; rw [List.map_append]

theorem contains_lower (c : UInt8) (hc : NonLetter c) : ∀ s : Bytes, (lower s).contains c = s.contains c
  | [] => rfl
  | x :: xs => by
    rw [lower_cons, List.contains_cons, List.contains_cons, contains_lower c hc xs, BEq.comm (a := c),
      lowerByte_beq x c hc, BEq.comm (a := x)]

theorem nl_star : NonLetter cStar := by unfold NonLetter; decide
theorem nl_brace : NonLetter cBrace := by unfold NonLetter; decide
theorem nl_dot : NonLetter cDot := by unfold NonLetter; decide
theorem nl_colon : NonLetter cColon := by unfold NonLetter; decide
theorem nl_lbr : NonLetter cLBr := by unfold NonLetter; decide
theorem nl_rbr : NonLetter cRBr := by unfold NonLetter; decide
theorem nl_slash : NonLetter cSlash := by unfold NonLetter; decide
theorem nl_pct : NonLetter cPct := by unfold NonLetter; decide

theorem hasPrefix_iff : ∀ (s pre : Bytes), hasPrefix s pre = true ↔ pre <+: s
  | s, [] => by cases s <;> simp [hasPrefix]
  | [], _ :: _ => by simp [hasPrefix]
  | x :: xs, p :: ps => by
    rw [hasPrefix, Bool.and_eq_true, beq_iff_eq, hasPrefix_iff xs ps, List.cons_prefix_cons, eq_comm]

theorem hasPrefix_append_self (a b : Bytes) : hasPrefix (a ++ b) a = true :=
  (hasPrefix_iff _ _).mpr (List.prefix_append a b)

theorem hasSuffix_iff (s suf : Bytes) : hasSuffix s suf = true ↔ suf <:+ s := by
  unfold hasSuffix
  rw [hasPrefix_iff, List.reverse_prefix]

theorem containsSub_iff : ∀ (s sub : Bytes), containsSub s sub = true ↔ sub <:+: s
  | [], sub => by rw [containsSub, List.isEmpty_iff, List.infix_nil]
  | x :: xs, sub => by
    rw [containsSub, Bool.or_eq_true, hasPrefix_iff, containsSub_iff xs sub, List.infix_cons_iff]

theorem hasPrefix_lower : ∀ (s sub : Bytes), (∀ c, c ∈ sub → NonLetter c) → hasPrefix (lower s) sub = hasPrefix s sub
  | s, [], _ => by cases s <;> rfl
  | [], _ :: _, _ => rfl
  | x :: xs, c :: cs, h => by
    rw [lower_cons, hasPrefix, hasPrefix, lowerByte_beq x c (h c List.mem_cons_self),
      hasPrefix_lower xs cs (fun d hd => h d (List.mem_cons_of_mem _ hd))]

theorem containsSub_lower : ∀ (s sub : Bytes), (∀ c, c ∈ sub → NonLetter c) → containsSub (lower s) sub = containsSub s sub
  | [], _, _ => rfl
  | x :: xs, sub, h => by
    rw [lower_cons, containsSub, containsSub, ← lower_cons, hasPrefix_lower (x :: xs) sub h, containsSub_lower xs sub h]

theorem splitOn_lower (c : UInt8) (hc : NonLetter c) (s : Bytes) : splitOn c (lower s) = (splitOn c s).map lower :=
  splitOn_eq c ▸ Go.split_map (fun b => lowerByte_eq_iff b c hc) s

theorem countByte_append (c : UInt8) (a b : Bytes) : countByte c (a ++ b) = countByte c a + countByte c b := by
  unfold countByte; simp

theorem countByte_zero {c : UInt8} {s : Bytes} (h : s.contains c = false) : countByte c s = 0 := by
  unfold countByte
  rw [← List.count_eq_length_filter, List.count_eq_zero]
  exact not_mem_of_contains h

end CaddyModel.C06
