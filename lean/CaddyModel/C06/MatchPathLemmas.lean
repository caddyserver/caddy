/-
C06 — `MatchPath`: Provision's `*` shuffle is invisible (`pathCase_eq_any`); a pattern sees the request only
through the forms cleaned in its own slash mode (`pathCase_congr`; what `cleanPathMode` computes plays no
part here); the fast paths and literal patterns are the documented rules.
-/
import CaddyModel.C06.GlobLemmas

namespace CaddyModel.C06

theorem lower_star : lower star = star := by decide

theorem patMatches_star (lp esc : Bytes) : patMatches lp esc star = true := by
  unfold patMatches; rw [if_pos rfl]

theorem provTail_snd (ps : List Bytes) : (provTail ps).2 = ps.contains star := by
  fun_induction provTail ps
  case case1 => rfl
  case case2 ps => rw [List.contains_cons, beq_self_eq_true]; rfl
  case case3 p ps h ih =>
    rw [ih, List.contains_cons, beq_eq_false_iff_ne.mpr (Ne.symm h)]; rfl

theorem provTail_fst (ps : List Bytes) (h : ps.contains star = false) : (provTail ps).1 = ps.map lower := by
  fun_induction provTail ps
  case case1 => rfl
  case case2 ps => exact absurd rfl (not_contains_cons h).1
  case case3 p ps _ ih => rw [ih (not_contains_cons h).2]; rfl

theorem pathCase_eq_any (l : List Bytes) (p e : Bytes) :
    pathCase l p e = l.any (fun pat => patMatches (lower p) e (lower pat)) := by
  unfold pathCase matchPath
  cases l with
  | nil => rfl
  | cons p0 ps =>
    simp only [provisionPath]
    rw [provTail_snd]
    cases hc : ps.contains star with
    | true =>
      simp only [if_true, List.any_cons, patMatches_star, Bool.true_or]
      symm
      have : (ps.any fun pat => patMatches (lower p) e (lower pat)) = true := by
        rw [List.any_eq_true]
        refine ⟨star, List.contains_iff_mem.mp hc, ?_⟩
        rw [lower_star]; exact patMatches_star _ _
      rw [this, Bool.or_true]
    | false =>
      simp only [Bool.false_eq_true, if_false, List.any_cons]
      rw [provTail_fst ps hc, List.any_map]
      rfl

theorem pathCase_singleton (pat p e : Bytes) : pathCase [pat] p e = patMatches (lower p) e (lower pat) := by
  rw [pathCase_eq_any, List.any_cons, List.any_nil, Bool.or_false]

theorem slashes_nonLetter : ∀ c, c ∈ [cSlash, cSlash] → NonLetter c := by
  intro c hc
  simp only [List.mem_cons, List.not_mem_nil, or_false, or_self] at hc
  subst hc; exact nl_slash

/-- a pattern looks at the request only through the lower-cased path cleaned in the pattern's own
    slash mode and, if it contains `%`, through the lower-cased escaped path cleaned likewise -/
theorem patMatches_congr (pat lp e lp' e' : Bytes)
    (hp : cleanPathMode (!containsSub pat [cSlash, cSlash]) lp = cleanPathMode (!containsSub pat [cSlash, cSlash]) lp')
    (he : pat.contains cPct = true →
      cleanPathMode (!containsSub pat [cSlash, cSlash]) (lower e) =
        cleanPathMode (!containsSub pat [cSlash, cSlash]) (lower e')) :
    patMatches lp e pat = patMatches lp' e' pat := by
  unfold patMatches
  rw [hp]
  cases hc : pat.contains cPct with
  | false => rw [if_neg Bool.false_ne_true, if_neg Bool.false_ne_true]
  | true => rw [he hc]

/-- the congruence behind every spelling theorem of `MatchPath` -/
theorem pathCase_congr (l : List Bytes) (p e p' e' : Bytes)
    (hp : ∀ pat, pat ∈ l → cleanPathMode (!containsSub pat [cSlash, cSlash]) (lower p) =
      cleanPathMode (!containsSub pat [cSlash, cSlash]) (lower p'))
    (he : ∀ pat, pat ∈ l → pat.contains cPct = true →
      cleanPathMode (!containsSub pat [cSlash, cSlash]) (lower e) =
        cleanPathMode (!containsSub pat [cSlash, cSlash]) (lower e')) :
    pathCase l p e = pathCase l p' e' := by
  rw [pathCase_eq_any, pathCase_eq_any]
  refine any_congr_mem fun pat hpat => patMatches_congr _ _ _ _ _ ?_ ?_
  · rw [containsSub_lower _ _ slashes_nonLetter]; exact hp pat hpat
  · rw [containsSub_lower _ _ slashes_nonLetter, contains_lower _ nl_pct]; exact he pat hpat

theorem count_star_plain {s : Bytes} (h : plainPat s = true) : countByte cStar s = 0 :=
  countByte_zero (plainPat_no_star h)

theorem patMatches_merging (lp e pat : Bytes) (hs : pat ≠ star)
    (h1 : pat.contains cPct = false) (h2 : containsSub pat [cSlash, cSlash] = false) :
    patMatches lp e pat =
      if countByte cStar pat = 2 ∧ pat.head? = some cStar ∧ pat.getLast? = some cStar then
        containsSub (cleanPath lp) ((pat.drop 1).dropLast)
      else if countByte cStar pat = 1 ∧ pat.head? = some cStar then hasSuffix (cleanPath lp) (pat.drop 1)
      else if countByte cStar pat = 1 ∧ pat.getLast? = some cStar then hasPrefix (cleanPath lp) pat.dropLast
      else globMatch pat (cleanPath lp) == .yes := by
  unfold patMatches
  rw [if_neg hs, h1, h2]
  rfl

theorem patMatches_exact (lp e pat : Bytes) (hp : plainPat pat = true)
    (h1 : pat.contains cPct = false) (h2 : containsSub pat [cSlash, cSlash] = false) :
    patMatches lp e pat = (cleanPath lp == pat) := by
  have hs : pat ≠ star := by
    intro e; subst e; exact absurd (plainPat_no_star hp) (by decide)
  rw [patMatches_merging lp e pat hs h1 h2, count_star_plain hp, if_neg (fun h => absurd h.1 (by decide)),
    if_neg (fun h => absurd h.1 (by decide)), if_neg (fun h => absurd h.1 (by decide))]
  exact globMatch_plain pat _ hp

theorem patMatches_prefix (lp e pre : Bytes) (hp : plainPat pre = true) (hne : pre ≠ [])
    (h1 : (pre ++ [cStar]).contains cPct = false) (h2 : containsSub (pre ++ [cStar]) [cSlash, cSlash] = false) :
    patMatches lp e (pre ++ [cStar]) = hasPrefix (cleanPath lp) pre := by
  obtain ⟨x, xs, rfl⟩ := List.exists_cons_of_ne_nil hne
  have hs : x :: xs ++ [cStar] ≠ star := by
    intro e; have := congrArg List.length e; simp [star] at this
  have hcount : countByte cStar (x :: xs ++ [cStar]) = 1 := by
    rw [countByte_append, count_star_plain hp]; rfl
  have hhead : (x :: xs ++ [cStar]).head? ≠ some cStar := head?_of_not_contains (s := x :: xs) (plainPat_no_star hp)
  rw [patMatches_merging lp e _ hs h1 h2, hcount, if_neg (fun h => absurd h.1 (by decide)),
    if_neg (fun h => hhead h.2), if_pos ⟨rfl, List.getLast?_concat⟩, List.dropLast_concat]

theorem patMatches_suffix (lp e suf : Bytes) (hp : plainPat suf = true) (hne : suf ≠ [])
    (h1 : (cStar :: suf).contains cPct = false) (h2 : containsSub (cStar :: suf) [cSlash, cSlash] = false) :
    patMatches lp e (cStar :: suf) = hasSuffix (cleanPath lp) suf := by
  have hs : cStar :: suf ≠ star := fun e => hne (List.cons.inj e).2
  have hcount : countByte cStar (cStar :: suf) = 1 := by
    rw [← List.singleton_append, countByte_append, count_star_plain hp]; rfl
  rw [patMatches_merging lp e _ hs h1 h2, hcount, if_neg (fun h => absurd h.1 (by decide)), if_pos ⟨rfl, rfl⟩]
  rfl

theorem patMatches_substring (lp e mid : Bytes) (hp : plainPat mid = true)
    (h1 : (cStar :: mid ++ [cStar]).contains cPct = false)
    (h2 : containsSub (cStar :: mid ++ [cStar]) [cSlash, cSlash] = false) :
    patMatches lp e (cStar :: mid ++ [cStar]) = containsSub (cleanPath lp) mid := by
  have hs : cStar :: mid ++ [cStar] ≠ star := by
    intro e; have := congrArg List.length e; simp [star] at this
  have hcount : countByte cStar (cStar :: mid ++ [cStar]) = 2 := by
    rw [List.cons_append, ← List.singleton_append, countByte_append, countByte_append, count_star_plain hp]; rfl
  rw [patMatches_merging lp e _ hs h1 h2, hcount, if_pos ⟨rfl, rfl, List.getLast?_concat⟩]
  show containsSub _ (mid ++ [cStar]).dropLast = _
  rw [List.dropLast_concat]

end CaddyModel.C06
