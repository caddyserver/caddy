/-
C06 — `lower` commutes with `net.SplitHostPort` / `stripPort`, and `entryMatches` sees the host through `lower`
only; a provisioned matcher is the plain scan of the configured list on the canonical host
(`matchHostX_provisioned`, `hostCase_canon`); the loop body of the host matcher is the documented rule;
`stripPort` on the spellings `h`, `h:port`, `[h]`, `[h]:port`.
-/
import CaddyModel.C06.Lemmas
import CaddyModel.C06.Spec

namespace CaddyModel.C06

theorem lastIndexOf_lower (c : UInt8) (hc : NonLetter c) : ∀ s : Bytes, lastIndexOf c (lower s) = lastIndexOf c s
  | [] => rfl
  | x :: xs => by
    have ih := lastIndexOf_lower c hc xs
    unfold lower at *
    have := lowerByte_eq_iff x c hc
    simp only [List.map_cons, lastIndexOf, ih, this]

theorem indexOf_lower (c : UInt8) (hc : NonLetter c) : ∀ s : Bytes, indexOf c (lower s) = indexOf c s
  | [] => rfl
  | x :: xs => by
    have ih := indexOf_lower c hc xs
    unfold lower at *
    have := lowerByte_eq_iff x c hc
    simp only [List.map_cons, indexOf, ih, this]

theorem head_lower_eq (c : UInt8) (hc : NonLetter c) (s : Bytes) :
    ((lower s).head? = some c) ↔ (s.head? = some c) := by
  cases s with
  | nil => simp [lower]
  | cons x xs =>
    simp only [lower, List.map_cons, List.head?_cons, Option.some.injEq]
    exact lowerByte_eq_iff x c hc

theorem trimPrefixByte_lower (c : UInt8) (hc : NonLetter c) (s : Bytes) :
    trimPrefixByte c (lower s) = lower (trimPrefixByte c s) := by
  cases s with
  | nil => rfl
  | cons x xs =>
    have := lowerByte_eq_iff x c hc
    simp only [lower, List.map_cons, trimPrefixByte, this]
    split <;> rfl

theorem trimBrackets_lower (s : Bytes) : trimBrackets (lower s) = lower (trimBrackets s) := by
  unfold trimBrackets
  rw [trimPrefixByte_lower _ nl_lbr, ← lower_reverse, trimPrefixByte_lower _ nl_rbr, ← lower_reverse]

theorem splitHostPort_lower (s : Bytes) : splitHostPort (lower s) = (splitHostPort s).map lower := by
  unfold splitHostPort
  rw [lastIndexOf_lower _ nl_colon, indexOf_lower _ nl_rbr]
  cases lastIndexOf cColon s with
  | none => rfl
  | some i =>
    have hh := head_lower_eq cLBr nl_lbr s
    by_cases h : s.head? = some cLBr
    · simp only [if_pos h, if_pos (hh.mpr h)]
      cases indexOf cRBr s with
      | none => rfl
      | some e =>
        simp only [← lower_drop, contains_lower _ nl_lbr, contains_lower _ nl_rbr, ← lower_take,
          apply_ite (Option.map lower), Option.map_none, Option.map_some]
    · simp only [if_neg h, if_neg (fun e => h (hh.mp e)), ← lower_take, contains_lower _ nl_colon,
        contains_lower _ nl_lbr, contains_lower _ nl_rbr, apply_ite (Option.map lower), Option.map_none, Option.map_some]

theorem stripPort_lower (s : Bytes) : stripPort (lower s) = lower (stripPort s) := by
  unfold stripPort
  rw [splitHostPort_lower]
  cases splitHostPort s with
  | none => exact trimBrackets_lower s
  | some h => rfl

theorem canonHost_of_lower_eq {h h' : Bytes} (e : lower h = lower h') : canonHost h = canonHost h' := by
  unfold canonHost
  rw [← stripPort_lower, ← stripPort_lower, e]

theorem equalFold_lower_right (p h : Bytes) : equalFold p (lower h) = equalFold p h := by
  unfold equalFold; rw [lower_idem]

theorem labelsMatch_lower : ∀ ps hs : List Bytes, labelsMatch ps (hs.map lower) = labelsMatch ps hs
  | [], [] => rfl
  | [], _ :: _ => rfl
  | _ :: _, [] => rfl
  | p :: ps, h :: hs => by
    have he : (lower h).isEmpty = h.isEmpty := by cases h <;> rfl
    simp only [List.map_cons, labelsMatch, labelMatch, equalFold_lower_right, labelsMatch_lower ps hs, he]

theorem entryMatches_lower (h e : Bytes) : entryMatches (lower h) e = entryMatches h e := by
  unfold entryMatches
  split
  · rw [splitOn_lower _ nl_dot, labelsMatch_lower]
  · unfold equalFold; rw [lower_idem]

theorem any_entryMatches_canonHost (l : List Bytes) (f : Bytes → Bytes) (rhost : Bytes) :
    l.any (fun e => entryMatches (canonHost rhost) (f e)) = l.any (fun e => entryMatches (stripPort rhost) (f e)) :=
  congrArg l.any (funext fun e => entryMatches_lower _ (f e))

theorem matchHostX_provisioned (f : Bytes → Bytes) (hf : ∀ e, fuzzy e = false → f e = e) {thr : Nat} {l m : List Bytes}
    (h : provisionHost thr l = some m) (rhost : Bytes) :
    matchHostX f thr m rhost = l.any (fun e => entryMatches (canonHost rhost) (f e)) := by
  have hm := (provisionHost_shape h).2
  rw [any_entryMatches_canonHost]
  split at hm
  · exact matchHostX_sorted f hf thr l m rhost hm.1 hm.2
  · rename_i hl; rw [hm]; exact matchHostX_small f thr l rhost hl

theorem hostCase_canon (thr : Nat) (l : List Bytes) (rhost : Bytes) :
    hostCase thr l rhost =
      if hasDup (l.map lower) then .dup else .res (l.any (entryMatches (canonHost rhost))) := by
  unfold hostCase
  cases h : provisionHost thr l with
  | none => rw [(provisionHost_eq_none_iff thr l).mp h]; rfl
  | some m =>
    rw [(provisionHost_shape h).1]
    exact congrArg HostRes.res ((matchHostX_id thr m rhost).symm.trans (matchHostX_provisioned _ (fun _ _ => rfl) h rhost))

theorem labelMatch_iff (p h : Bytes) (hh : lower h = h) : labelMatch p h = true ↔ LabelRule p h := by
  unfold labelMatch LabelRule equalFold
  by_cases hp : p = [cStar]
  · subst hp; cases h <;> simp
  · simp [hp, hh]

theorem labelsMatch_iff : ∀ ps hs : List Bytes, (∀ h, h ∈ hs → lower h = h) →
    (labelsMatch ps hs = true ↔ LabelsRule ps hs)
  | [], [], _ => ⟨fun _ => .nil, fun _ => rfl⟩
  | [], _ :: _, _ => ⟨fun h => (by cases h), fun h => (by cases h)⟩
  | _ :: _, [], _ => ⟨fun h => (by cases h), fun h => (by cases h)⟩
  | p :: ps, h :: hs, hl => by
    have ih := labelsMatch_iff ps hs (fun x hx => hl x (List.mem_cons_of_mem _ hx))
    have key := labelMatch_iff p h (hl h List.mem_cons_self)
    rw [labelsMatch, Bool.and_eq_true, key, ih]
    exact ⟨fun ⟨h1, h2⟩ => .cons h1 h2, fun hr => by cases hr with | cons h1 h2 => exact ⟨h1, h2⟩⟩

theorem entryMatches_iff_rule (ch e : Bytes) (hc : lower ch = ch) :
    entryMatches ch e = true ↔ EntryRule e ch := by
  unfold entryMatches EntryRule
  split
  · apply labelsMatch_iff
    intro h hh
    rw [← hc, splitOn_lower _ nl_dot] at hh
    rcases List.mem_map.mp hh with ⟨x, _, hx⟩
    rw [← hx, lower_idem]
  · unfold equalFold
    rw [hc]
    simp only [beq_iff_eq]
    exact eq_comm

theorem lastIndexOf_none (c : UInt8) : ∀ s : Bytes, s.contains c = false → lastIndexOf c s = none
  | [], _ => rfl
  | x :: xs, h => by
    replace h := not_contains_cons h
    simp only [lastIndexOf, lastIndexOf_none c xs h.2]
    rw [if_neg h.1]

theorem lastIndexOf_append (c : UInt8) (p : Bytes) (hp : p.contains c = false) :
    ∀ h : Bytes, lastIndexOf c (h ++ c :: p) = some h.length
  | [] => by simp [lastIndexOf, lastIndexOf_none c p hp]
  | x :: xs => by simp [lastIndexOf, lastIndexOf_append c p hp xs]

theorem lastIndexOf_lt (c : UInt8) : ∀ (s : Bytes) (i : Nat), lastIndexOf c s = some i → i < s.length
  | [], _, h => by cases h
  | x :: xs, i, h => by
    unfold lastIndexOf at h
    cases hh : lastIndexOf c xs with
    | some j => rw [hh] at h; cases h; exact Nat.succ_lt_succ (lastIndexOf_lt c xs j hh)
    | none => rw [hh] at h; simp only at h; split at h <;> cases h; exact Nat.succ_pos _

theorem indexOf_append (c : UInt8) (p h : Bytes) (hh : h.contains c = false) :
    indexOf c (h ++ c :: p) = some h.length := by
  induction h with
  | nil => exact if_pos rfl
  | cons x xs ih =>
    rw [List.cons_append, indexOf, if_neg (not_contains_cons hh).1, ih (not_contains_cons hh).2]; rfl

theorem trimPrefixByte_of_not_head (c : UInt8) (s : Bytes) (h : s.head? ≠ some c) : trimPrefixByte c s = s := by
  cases s with
  | nil => rfl
  | cons x xs =>
    simp only [List.head?_cons, ne_eq, Option.some.injEq] at h
    simp [trimPrefixByte, h]

theorem trimBrackets_plain (s : Bytes) (h1 : s.contains cLBr = false) (h2 : s.contains cRBr = false) :
    trimBrackets s = s := by
  unfold trimBrackets
  rw [trimPrefixByte_of_not_head _ _ (head?_of_not_contains h1)]
  rw [trimPrefixByte_of_not_head _ _ (head?_of_not_contains (by simpa using h2))]
  simp

theorem trimBrackets_bracketed (s : Bytes) : trimBrackets (cLBr :: s ++ [cRBr]) = s := by
  unfold trimBrackets
  simp [trimPrefixByte]

theorem plainHost_iff (h : Bytes) :
    plainHost h = true ↔ h.contains cColon = false ∧ h.contains cLBr = false ∧ h.contains cRBr = false := by
  unfold plainHost
  simp only [Bool.and_eq_true, Bool.not_eq_eq_eq_not, Bool.not_true, and_assoc]

theorem splitHostPort_no_colon (h : Bytes) (hc : h.contains cColon = false) : splitHostPort h = none := by
  unfold splitHostPort
  rw [lastIndexOf_none _ _ hc]

theorem stripPort_plain (h : Bytes) (hh : plainHost h = true) : stripPort h = h := by
  obtain ⟨hc, hl, hr⟩ := (plainHost_iff h).mp hh
  unfold stripPort
  rw [splitHostPort_no_colon h hc]
  exact trimBrackets_plain h hl hr

theorem splitHostPort_with_port (h p : Bytes) (hh : plainHost h = true) (hp : plainHost p = true) :
    splitHostPort (h ++ cColon :: p) = some h := by
  obtain ⟨hc, hl, hr⟩ := (plainHost_iff h).mp hh
  obtain ⟨pc, pl, pr⟩ := (plainHost_iff p).mp hp
  have h1 : (h ++ cColon :: p).contains cLBr = false := by
    rw [List.contains_append, hl, List.contains_cons, pl]; decide
  have h2 : (h ++ cColon :: p).contains cRBr = false := by
    rw [List.contains_append, hr, List.contains_cons, pr]; decide
  unfold splitHostPort
  rw [lastIndexOf_append _ _ pc]
  simp only
  rw [if_neg (head?_of_not_contains h1), List.take_left' rfl, hc, h1, h2]
  rfl

theorem stripPort_with_port (h p : Bytes) (hh : plainHost h = true) (hp : plainHost p = true) :
    stripPort (h ++ cColon :: p) = h := by
  unfold stripPort
  rw [splitHostPort_with_port h p hh hp]

theorem bracketFree_iff (h : Bytes) :
    bracketFree h = true ↔ h.contains cLBr = false ∧ h.contains cRBr = false := by
  unfold bracketFree
  simp only [Bool.and_eq_true, Bool.not_eq_eq_eq_not, Bool.not_true]

theorem indexOf_bracketed (h rest : Bytes) (hh : h.contains cRBr = false) :
    indexOf cRBr (cLBr :: h ++ cRBr :: rest) = some (h.length + 1) := by
  rw [List.cons_append, indexOf, if_neg (by decide), indexOf_append cRBr rest h hh]; rfl

theorem stripPort_bracketed (h : Bytes) (hh : bracketFree h = true) : stripPort (cLBr :: h ++ [cRBr]) = h := by
  unfold stripPort splitHostPort
  cases hl : lastIndexOf cColon (cLBr :: h ++ [cRBr]) with
  | none => exact trimBrackets_bracketed h
  | some i =>
    -- colons inside the brackets only: "missing port"
    have hi := lastIndexOf_lt _ _ _ hl
    rw [List.length_append] at hi
    have hne : ¬ (h.length + 1 + 1 = i) := Nat.ne_of_gt hi
    simp only
    rw [if_pos (by simp), indexOf_bracketed h [] ((bracketFree_iff h).mp hh).2]
    simp only
    rw [if_neg hne]
    exact trimBrackets_bracketed h

theorem stripPort_bracketed_port (h p : Bytes) (hh : bracketFree h = true) (hp : plainHost p = true) :
    stripPort (cLBr :: h ++ cRBr :: cColon :: p) = h := by
  obtain ⟨hl, hr⟩ := (bracketFree_iff h).mp hh
  obtain ⟨pc, pl, pr⟩ := (plainHost_iff p).mp hp
  have hlast : lastIndexOf cColon (cLBr :: h ++ cRBr :: cColon :: p) = some (h.length + 2) := by
    have := lastIndexOf_append cColon p pc (cLBr :: h ++ [cRBr])
    rwa [List.append_assoc, List.length_append] at this
  have htake : (cLBr :: h ++ cRBr :: cColon :: p).take (h.length + 1) = cLBr :: h := List.take_left' rfl
  have hdrop : (cLBr :: h ++ cRBr :: cColon :: p).drop (h.length + 1 + 1) = cColon :: p := by
    rw [List.append_cons]
    exact List.drop_left' (by rw [List.length_append]; rfl)
  have h1 : ((cLBr :: h ++ cRBr :: cColon :: p).drop 1).contains cLBr = false := by
    show (h ++ cRBr :: cColon :: p).contains cLBr = false
    rw [List.contains_append, hl, List.contains_cons, List.contains_cons, pl]; rfl
  have h2 : (cColon :: p).contains cRBr = false := by
    rw [List.contains_cons, pr]; rfl
  unfold stripPort splitHostPort
  rw [hlast]
  simp only
  rw [if_pos (by simp), indexOf_bracketed h _ hr]
  simp only [if_true]
  rw [h1, hdrop, h2, htake]
  rfl

end CaddyModel.C06
