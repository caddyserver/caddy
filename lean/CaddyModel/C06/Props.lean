/-
C06 — property theorems.

Statement: whether a host or path matcher matches depends only on the request's canonical
host and path: changing letter case, adding or removing the port, percent-encoding unreserved
characters, or inserting duplicate slashes and dot segments never changes the result, and
neither does the number or order of entries in the matcher's list.  On canonical inputs
matching follows the documented pattern rules.

All statements are about the executable model `Model.lean` (tied to the Go code by the
correspondence stream); byte strings under ASCII case folding; no bound on list sizes.
Clauses the tree violates are in `Witness.lean` (`…_full_fails`), their provable parts here
under an explicit decidable exclusion.  For four `fix:` commits the code before the commit is modelled and
proved to fail its clause (`…_old_code_fails`, `wildcard_empty_label_old_code_matched`: in `Witness.lean` for the
`%` patterns and the wildcard label, here for the redirect hosts); the clauses are proved here for the code as
it is, except the exact rule of star-free `%` patterns (kernel-evaluated instances in `Witness.lean`).  The two
repairs of the large-list fast path (`matchHost_case_invariant`, `matchHost_nonascii_is_linear_scan`) have no
theorem about the earlier code.
-/
import CaddyModel.C06.PathLemmas
import CaddyModel.C06.MatchPathLemmas
import CaddyModel.C06.SiteLemmas
import CaddyModel.C06.ProvLemmas
import CaddyModel.C06.SrvLemmas
import CaddyModel.C06.Witness   -- not used here: `CaddyModel.lean` and `Audit.lean` reach the witness theorems through this module
import CaddyModel.Gen.Consts
import CaddyModel.Gen.HostMatcherWrites

namespace CaddyModel.C06

/-- **host matching is a function of the canonical host, and it is the documented rule.**
    Whatever the size of the list (small: linear scan; large: lower-cased, sorted, binary
    search + scan of the fuzzy prefix) and whatever the threshold between the two code
    paths: unless Provision rejects the list (repeated name), the matcher matches iff some
    entry matches the canonical host by the documented rules (exact name, or `*` labels). -/
theorem matchHost_follows_rules (thr : Nat) (l : List Bytes) (rhost : Bytes)
    (hnd : hasDup (l.map lower) = false) :
    ∃ b, hostCase thr l rhost = .res b ∧ (b = true ↔ HostRule l (canonHost rhost)) := by
  refine ⟨l.any (entryMatches (canonHost rhost)), ?_, ?_⟩
  · rw [hostCase_canon, hnd]; rfl
  · have hc : lower (canonHost rhost) = canonHost rhost := by unfold canonHost; rw [lower_idem]
    rw [List.any_eq_true]
    exact exists_congr fun e => and_congr_right fun _ => entryMatches_iff_rule _ e hc

theorem provisionHost_rejects_iff_dup (thr : Nat) (l : List Bytes) (rhost : Bytes) :
    hostCase thr l rhost = .dup ↔ ¬ (l.map lower).Nodup := by
  rw [hostCase_canon, ← hasDup_iff]
  cases hasDup (l.map lower) <;> simp

theorem matchHost_depends_only_on_canonical_host (thr : Nat) (l : List Bytes) (h h' : Bytes)
    (e : canonHost h = canonHost h') : hostCase thr l h = hostCase thr l h' := by
  rw [hostCase_canon, hostCase_canon, e]

/-- **letter case of the request host never matters** (any list size: this is the clause the
    large-list fast path used to violate before the `fix:` commit) -/
theorem matchHost_case_invariant (thr : Nat) (l : List Bytes) (h h' : Bytes)
    (e : lower h = lower h') : hostCase thr l h = hostCase thr l h' :=
  matchHost_depends_only_on_canonical_host thr l h h' (canonHost_of_lower_eq e)

/-- `name` ↔ `name:port` -/
theorem matchHost_port_invariant (thr : Nat) (l : List Bytes) (h p : Bytes)
    (hh : plainHost h = true) (hp : plainHost p = true) :
    hostCase thr l (h ++ cColon :: p) = hostCase thr l h := by
  apply matchHost_depends_only_on_canonical_host
  unfold canonHost
  rw [stripPort_with_port h p hh hp, stripPort_plain h hh]

/-- the same for bracketed IPv6 literals: `[addr]:port`, `[addr]` and `addr` are one host -/
theorem matchHost_port_invariant_ipv6 (thr : Nat) (l : List Bytes) (h p : Bytes)
    (hh : bracketFree h = true) (hp : plainHost p = true) :
    hostCase thr l (cLBr :: h ++ cRBr :: cColon :: p) = hostCase thr l (cLBr :: h ++ [cRBr]) := by
  apply matchHost_depends_only_on_canonical_host
  unfold canonHost
  rw [stripPort_bracketed_port h p hh hp, stripPort_bracketed h hh]

theorem matchHost_perm_invariant (thr : Nat) (l l' : List Bytes) (h : Bytes) (hp : l.Perm l') :
    hostCase thr l h = hostCase thr l' h := by
  rw [hostCase_canon, hostCase_canon, hasDup_perm (hp.map lower), hp.any_eq]

/-- **the number of entries never matters (1)**: the optimised code path for large lists and the
    plain scan compute the same function — the answer does not depend on where the threshold is -/
theorem matchHost_size_invariant (thr thr' : Nat) (l : List Bytes) (h : Bytes) :
    hostCase thr l h = hostCase thr' l h := by
  rw [hostCase_canon, hostCase_canon]

/-- **the number of entries never matters (2)**: appending any number of entries that do not
    themselves match the request (and do not repeat a name) leaves the answer unchanged,
    in particular when it moves the list across the threshold -/
theorem matchHost_padding_invariant (thr : Nat) (l extra : List Bytes) (h : Bytes)
    (hnd : hasDup ((l ++ extra).map lower) = false)
    (hx : ∀ e, e ∈ extra → entryMatches (canonHost h) e = false) :
    hostCase thr (l ++ extra) h = hostCase thr l h := by
  have hnd' : hasDup (l.map lower) = false := by
    rw [hasDup_eq_false_iff, List.map_append] at *
    exact (List.nodup_append.mp hnd).1
  rw [hostCase_canon, hostCase_canon, hnd, hnd', List.any_append]
  have : extra.any (entryMatches (canonHost h)) = false := List.any_eq_false.mpr (fun e he => by simp [hx e he])
  rw [this, Bool.or_false]

/-- **whatever `sort.Slice` does.** The large-list code path is correct for EVERY slice that is a
    sorted permutation of the lower-cased entries, not just for the one the model's insertion
    sort produces (`sort.Slice` is not stable; this theorem makes that irrelevant). -/
theorem matchHost_independent_of_sort_algorithm (thr : Nat) (l m : List Bytes) (rhost : Bytes)
    (hl : l.length > thr) (hperm : m.Perm (l.map lowerExact)) (hs : Sorted m) :
    matchHost thr m rhost = l.any (entryMatches (canonHost rhost)) := by
  -- `matchHostX_sorted` holds wherever the threshold is: `hl` is not used
  rw [← matchHostX_id, matchHostX_sorted _ (fun _ _ => rfl) thr l m rhost hperm hs]
  exact (any_entryMatches_canonHost l (fun e => e) rhost).symm

/-- **non-ASCII request hosts never reach the optimised code.** For a request host with a byte
    ≥ 0x80 the matcher — whatever the size of its list — is literally the linear scan of the
    small-list code path over its slice: no binary search, no early `break`.  So for such hosts
    the size-invariance above does not rest on `strings.ToLower`-equality and
    `strings.EqualFold` agreeing (they do not beyond ASCII: U+017F, U+0130), which is what the
    `fix:` commit "host matcher with a large list takes the fast path for ASCII hosts only" repaired. -/
theorem matchHost_nonascii_is_linear_scan (thr : Nat) (m : List Bytes) (rhost : Bytes)
    (h : asciiOnly (stripPort rhost) = false) :
    matchHost thr m rhost = m.any (entryMatches (stripPort rhost)) := by
  rw [← matchHostX_id]
  exact matchHostX_slow _ thr m rhost (by unfold useFast; rw [h, Bool.and_false])

/-! ## MatchHost.Provision with `idna.ToASCII` as a parameter (any conversion function) -/

/-- **what Provision leaves in the slice, for every list size**: Provision succeeds only if every
    entry converts and no two converted entries agree up to letter case; then a small list is
    exactly the converted entries in order, and a large list is a *sorted permutation of the
    converted entries with the exact ones lower-cased* — never the unconverted spelling. -/
theorem provision_entries_are_converted (idna : Bytes → Option Bytes) (thr : Nat) (l m : List Bytes)
    (h : provisionHostI idna thr l = .ok m) :
    ∃ as, convAll idna l = some as ∧ hasDup (as.map lower) = false ∧
      (if l.length > thr then m.Perm (as.map lowerExact) ∧ Sorted m else m = as) := by
  obtain ⟨as, has, hp⟩ := (provisionHostI_ok_iff idna thr l m).mp h
  rw [← convAll_length idna l as has]
  exact ⟨as, has, provisionHost_shape hp⟩

/-- in a large list every exact entry of the provisioned slice is `lower (idna entry)` of a
    configured entry (what the byte-wise binary search needs) -/
theorem provision_large_exact_entries (idna : Bytes → Option Bytes) (thr : Nat) (l m : List Bytes)
    (h : provisionHostI idna thr l = .ok m) (hl : l.length > thr) :
    ∀ x, x ∈ m → fuzzy x = false → ∃ e a, e ∈ l ∧ idna e = some a ∧ x = lower a := by
  rcases provision_entries_are_converted idna thr l m h with ⟨as, has, _, hm⟩
  rw [if_pos hl] at hm
  intro x hx hfx
  obtain ⟨a, ha, rfl⟩ := List.mem_map.mp (hm.1.mem_iff.mp hx)
  rw [fuzzy_lowerExact] at hfx
  obtain ⟨e, he, hea⟩ := convAll_mem idna l as has a ha
  exact ⟨e, a, he, hea, lowerExact_of_exact hfx⟩

/-- **matching is decided on the converted entries, for every list size and threshold** -/
theorem matchHostI_follows_rules (idna : Bytes → Option Bytes) (thr : Nat) (l as : List Bytes) (rhost : Bytes)
    (h : convAll idna l = some as) (hnd : hasDup (as.map lower) = false) :
    hostCaseI idna thr l rhost = .res (as.any (entryMatches (canonHost rhost))) := by
  rw [hostCaseI_eq idna thr l as rhost h, hostCase_canon, hnd]
  rfl

/-- Provision fails exactly when a conversion fails or two converted entries agree up to case -/
theorem provision_fails_iff (idna : Bytes → Option Bytes) (thr : Nat) (l : List Bytes) :
    (∃ m, provisionHostI idna thr l = .ok m) ↔
      ∃ as, convAll idna l = some as ∧ hasDup (as.map lower) = false := by
  constructor
  · rintro ⟨m, hm⟩
    obtain ⟨as, has, hp⟩ := (provisionHostI_ok_iff idna thr l m).mp hm
    exact ⟨as, has, (provisionHost_shape hp).1⟩
  · rintro ⟨as, has, hnd⟩
    obtain ⟨m, hp⟩ := provisionHost_some_of_nodup thr hnd
    exact ⟨m, (provisionHostI_ok_iff idna thr l m).mpr ⟨as, has, hp⟩⟩

/-! ## host matching through the provisioned server (Provision → automatic HTTPS phase 1 → request) -/

/-- **automatic HTTPS phase 1 is read-only on host matchers**: the slice the request-time
    matcher sees is the slice `MatchHost.Provision` left (sorted, partitioned, lower-cased) -/
theorem autohttps_phase1_leaves_host_matcher_alone (emptyGlobal : Bytes → Bool) (m m' : List Bytes)
    (h : autohttpsHostView emptyGlobal m = some m') : m' = m := by
  unfold autohttpsHostView at h
  split at h
  · cases h
  · cases h; rfl

/-- the provisioned server, for every list size and every threshold: duplicate check, phase-1
    check, then "some CONFIGURED entry, expanded by the request's replacer, matches the canonical host" -/
theorem srvHostCase_eq (thr : Nat) (l : List Bytes) (look : Bytes → Bytes) (emptyGlobal : Bytes → Bool)
    (rhost : Bytes) :
    srvHostCase thr l look emptyGlobal rhost =
      if hasDup (l.map lower) then .dup
      else if l.any (fun e => (keysOf e.length e).any emptyGlobal) then .phase1Err
      else .res (l.any (fun e => entryMatches (canonHost rhost) (expand look e.length e))) := by
  unfold srvHostCase
  cases h : provisionHost thr l with
  | none => rw [(provisionHost_eq_none_iff thr l).mp h]; rfl
  | some m =>
    rw [(provisionHost_shape h).1]
    unfold autohttpsHostView
    simp only
    rw [phase1_fails_provisioned emptyGlobal h]
    cases l.any (fun e => (keysOf e.length e).any emptyGlobal) with
    | true => rfl
    | false => exact congrArg SrvRes.res (matchHostX_provisioned _ (expand_exact look) h rhost)

/-- **match result of the provisioned server = match result of the configured list, for every
    size**: Provision's large-list layout, phase 1 and the per-request expansion of placeholder
    entries together compute the plain scan of the list as configured -/
theorem srvHost_matches_configured_list (thr : Nat) (l : List Bytes) (look : Bytes → Bytes)
    (emptyGlobal : Bytes → Bool) (rhost : Bytes) (hnd : hasDup (l.map lower) = false)
    (hok : l.any (fun e => (keysOf e.length e).any emptyGlobal) = false) :
    srvHostCase thr l look emptyGlobal rhost =
      .res (hostLoopX (fun e => expand look e.length e) false (canonHost rhost) l) := by
  rw [srvHostCase_eq, hnd, hok, hostLoopX_small]
  rfl

theorem srvHost_size_invariant (thr thr' : Nat) (l : List Bytes) (look : Bytes → Bytes)
    (emptyGlobal : Bytes → Bool) (rhost : Bytes) :
    srvHostCase thr l look emptyGlobal rhost = srvHostCase thr' l look emptyGlobal rhost := by
  rw [srvHostCase_eq, srvHostCase_eq]

theorem srvHost_depends_only_on_canonical_host (thr : Nat) (l : List Bytes) (look : Bytes → Bytes)
    (emptyGlobal : Bytes → Bool) (h h' : Bytes) (e : canonHost h = canonHost h') :
    srvHostCase thr l look emptyGlobal h = srvHostCase thr l look emptyGlobal h' := by
  rw [srvHostCase_eq, srvHostCase_eq, e]

theorem srvHost_perm_invariant (thr : Nat) (l l' : List Bytes) (look : Bytes → Bytes)
    (emptyGlobal : Bytes → Bool) (rhost : Bytes) (hp : l.Perm l') :
    srvHostCase thr l look emptyGlobal rhost = srvHostCase thr l' look emptyGlobal rhost := by
  rw [srvHostCase_eq, srvHostCase_eq, hasDup_perm (hp.map lower), hp.any_eq, hp.any_eq]

/-! ## the host matcher of the automatic HTTP→HTTPS redirect route -/

/-- **the clause was false for the code before the `fix:` commit "provision the host matcher of
    the automatic HTTP->HTTPS redirect route"** (`provisioned = false`): which redirect a name gets
    depended on how many other names the server had.  Counter-example (threshold 2 in place of
    100): one route with `Example.com` — `example.com` is redirected by the host-matched route;
    the same route plus a second route with two unrelated names — it fell to the catch-all.
    The matcher was used without `Provision`, so a "large" list was neither lower-cased nor
    laid out for the binary search.  With the matcher provisioned (the code as it is) the same
    case is answered correctly, and `redirHost_provisioned_is_plain_scan` holds for every size.
    Regression case: `corpus/C06/redirect-hostmatcher-size.txt`. -/
theorem redirHost_size_invariant_old_code_fails :
    redirCase false 2 [[[69, 120, 97, 109, 112, 108, 101, 46, 99, 111, 109]]] (fun _ => []) (fun _ => []) (fun _ => false) [101, 120, 97, 109, 112, 108, 101, 46, 99, 111, 109] = .res true ∧
    redirCase false 2 [[[69, 120, 97, 109, 112, 108, 101, 46, 99, 111, 109]], [[122, 122, 49, 46, 105, 110, 118, 97, 108, 105, 100], [122, 122, 50, 46, 105, 110, 118, 97, 108, 105, 100]]] (fun _ => []) (fun _ => []) (fun _ => false) [101, 120, 97, 109, 112, 108, 101, 46, 99, 111, 109] = .res false ∧
    redirCase true 2 [[[69, 120, 97, 109, 112, 108, 101, 46, 99, 111, 109]], [[122, 122, 49, 46, 105, 110, 118, 97, 108, 105, 100], [122, 122, 50, 46, 105, 110, 118, 97, 108, 105, 100]]] (fun _ => []) (fun _ => []) (fun _ => false) [101, 120, 97, 109, 112, 108, 101, 46, 99, 111, 109] = .res true := by
  decide +kernel

/-- what did hold for the old code: up to `thr` redirect domains the unprovisioned matcher was
    the plain scan of the domain list -/
theorem redirHost_unprovisioned_partial (thr : Nat) (domains : List Bytes) (look : Bytes → Bytes) (rhost : Bytes)
    (h : ¬ domains.length > thr) :
    redirMatch false thr domains look rhost =
      domains.any (fun d => entryMatches (stripPort rhost) (expand look d.length d)) := by
  unfold redirMatch
  simp only [Bool.false_eq_true, if_false]
  exact matchHostX_small _ thr domains rhost h

/-- **with the redirect matcher provisioned, it answers like the plain scan of the
    (case-insensitively de-duplicated) domain list, for every number of names and every threshold** -/
theorem redirHost_provisioned_is_plain_scan (thr : Nat) (domains : List Bytes) (look : Bytes → Bytes) (rhost : Bytes) :
    redirMatch true thr domains look rhost =
      (dedupCI [] domains).any (fun d => entryMatches (stripPort rhost) (expand look d.length d)) := by
  obtain ⟨m, h⟩ := provisionHost_some_of_nodup thr (dedupCI_no_dup domains)
  unfold redirMatch
  rw [if_pos rfl, h]
  exact (matchHostX_provisioned _ (expand_exact look) h rhost).trans (any_entryMatches_canonHost _ _ rhost)

theorem redirHost_provisioned_size_invariant (thr thr' : Nat) (domains : List Bytes) (look : Bytes → Bytes) (rhost : Bytes) :
    redirMatch true thr domains look rhost = redirMatch true thr' domains look rhost := by
  rw [redirHost_provisioned_is_plain_scan, redirHost_provisioned_is_plain_scan]

theorem pathClean_idempotent (p : Bytes) : pathClean (pathClean p) = pathClean p := pathClean_idem p

/-- `cleanPath` (hence the canonical form used by the matchers) is idempotent -/
theorem cleanPath_idempotent (p : Bytes) : cleanPath (cleanPath p) = cleanPath p := by
  unfold cleanPath
  by_cases h : pathClean p ≠ [cSlash] ∧ endsWithSlash p = true
  · rw [if_pos h]
    rw [pathClean_append_slash _ (pathClean_ne_nil p), pathClean_idem, endsWithSlash_append_slash]
    rw [if_pos ⟨h.1, rfl⟩]
  · rw [if_neg h, pathClean_idem]
    rw [if_neg]
    intro hh
    exact hh.1 (pathClean_endsWithSlash p hh.2)

/-- **what a cleaned request path looks like**: `/` followed by ordinary segments (non-empty, not
    `.`, not `..`, slash-free) joined by single slashes — no dot segment survives -/
theorem pathClean_rooted_form (p : Bytes) (hr : isRooted p = true) :
    ∃ segs : List Bytes, pathClean p = cSlash :: joinSep cSlash segs ∧
      ∀ s, s ∈ segs → normalSeg s = true := by
  have hp : p ≠ [] := by intro e; subst e; cases hr
  refine ⟨cleanSegs true (splitOn cSlash p), by rw [pathClean_of_ne_nil hp, hr]; rfl, fun s hs => ?_⟩
  obtain ⟨h1, h2⟩ := cleanSegs_ok true p s hs
  exact (normalSeg_iff s).mpr ⟨h1.1, h1.2.1, h2 rfl, h1.2.2⟩

theorem cleanPath_dup_slash (a b : Bytes) :
    cleanPath (a ++ cSlash :: cSlash :: b) = cleanPath (a ++ cSlash :: b) :=
  cleanPath_insert a b [[]] (by simp) (by intro s hs; simp at hs; subst hs; rfl) neutral_empty

theorem cleanPathMode_dot_segment (mode : Bool) (a b : Bytes) :
    cleanPathMode mode (a ++ cSlash :: cDot :: cSlash :: b) = cleanPathMode mode (a ++ cSlash :: b) :=
  cleanPathMode_insert mode a b [dot] (by simp) (by intro s hs; simp at hs; subst hs; rfl) neutral_dot inert_dot

theorem cleanPathMode_dotdot_segment (mode : Bool) (a b x : Bytes) (hx : normalSeg x = true) :
    cleanPathMode mode (a ++ cSlash :: (x ++ cSlash :: cDot :: cDot :: cSlash :: b)) = cleanPathMode mode (a ++ cSlash :: b) := by
  have := cleanPathMode_insert mode a b [x, dotdot] (List.cons_ne_nil _ _) (slashFree_seg_dotdot x hx)
    (neutral_dotdot x hx) (inert_seg_dotdot x hx)
  simp only [joinSep, dotdot, List.append_assoc, List.cons_append, List.nil_append] at this
  exact this

theorem cleanPath_dot_segment (a b : Bytes) :
    cleanPath (a ++ cSlash :: cDot :: cSlash :: b) = cleanPath (a ++ cSlash :: b) :=
  cleanPathMode_dot_segment true a b

theorem cleanPath_dotdot_segment (a b x : Bytes) (hx : normalSeg x = true) :
    cleanPath (a ++ cSlash :: (x ++ cSlash :: cDot :: cDot :: cSlash :: b)) = cleanPath (a ++ cSlash :: b) :=
  cleanPathMode_dotdot_segment true a b x hx

theorem canonPath_case_invariant (p p' : Bytes) (e : lower p = lower p') : canonPath p = canonPath p' := by
  unfold canonPath; rw [e]

/-- **what MatchPath respects, in every mode**: the answer is a function of the two cleaned
    forms (slashes merged / empty segments kept) of the lower-cased path and of the lower-cased
    escaped path. -/
theorem matchPath_depends_only_on_clean_forms (l : List Bytes) (p e p' e' : Bytes)
    (hp : ∀ m, cleanPathMode m (lower p) = cleanPathMode m (lower p'))
    (he : ∀ m, cleanPathMode m (lower e) = cleanPathMode m (lower e')) :
    pathCase l p e = pathCase l p' e' :=
  pathCase_congr l p e p' e' (fun _ _ => hp _) (fun _ _ _ => he _)

/-- **spelling invariance.** For patterns without `%` and `//` the answer depends only on the
    canonical path: any two requests with the same canonical path — whatever their letter
    case, duplicate slashes, dot segments, and whatever their escaped form (hence however
    unreserved characters were percent-encoded, `net/url` having decoded them into
    `URL.Path`) — get the same answer. -/
theorem matchPath_spelling_invariant (l : List Bytes) (p e p' e' : Bytes)
    (hl : plainPatterns l = true) (hc : canonPath p = canonPath p') :
    pathCase l p e = pathCase l p' e' := by
  unfold plainPatterns at hl
  have hpat := fun pat h => Bool.and_eq_true_iff.mp (List.all_eq_true.mp hl pat h)
  refine pathCase_congr l p e p' e' (fun pat h => ?_) (fun pat h hpct => ?_)
  · rw [(hpat pat h).2]; exact hc
  · have := (hpat pat h).1
    rw [hpct] at this; exact absurd this (by decide)

/-- patterns with `//` (but no `%`): additionally the empty segments of the path are looked at,
    nothing else — letter case, dot segments and the escaped form still never matter -/
theorem matchPath_keepslashes_invariant (l : List Bytes) (p e p' e' : Bytes)
    (hl : unescapedPatterns l = true)
    (hc : canonPath p = canonPath p') (hk : canonPathKeepSlashes p = canonPathKeepSlashes p') :
    pathCase l p e = pathCase l p' e' := by
  unfold unescapedPatterns at hl
  refine pathCase_congr l p e p' e' (fun pat _ => ?_) (fun pat h hpct => ?_)
  · cases containsSub pat [cSlash, cSlash]
    · exact hc
    · exact hk
  · have := List.all_eq_true.mp hl pat h
    rw [hpct] at this; exact absurd this (by decide)

/-- lists without a `//` pattern only ever look at the slash-merged forms -/
theorem matchPath_merge_only (l : List Bytes) (p e p' e' : Bytes) (hl : mergingPatterns l = true)
    (hp : cleanPath (lower p) = cleanPath (lower p')) (he : cleanPath (lower e) = cleanPath (lower e')) :
    pathCase l p e = pathCase l p' e' := by
  unfold mergingPatterns at hl
  have hpat := fun pat h => List.all_eq_true.mp hl pat h
  exact pathCase_congr l p e p' e' (fun pat h => by rw [hpat pat h]; exact hp)
    (fun pat h _ => by rw [hpat pat h]; exact he)

/-- **percent-encoding (model part).** Lists without a `%` pattern never look at the escaped
    form of the path: however the client percent-encoded the target, only the decoded
    `URL.Path` counts. -/
theorem matchPath_ignores_escaped_form (l : List Bytes) (p e e' : Bytes) (hl : unescapedPatterns l = true) :
    pathCase l p e = pathCase l p e' :=
  matchPath_keepslashes_invariant l p e p e' hl rfl rfl

/-- **letter case never matters, for every pattern list** (`%` patterns included: the escaped
    path is lower-cased like the unescaped one; before that `fix:` commit this clause failed,
    see `matchPath_case_invariant_old_code_fails` (Witness.lean)) -/
theorem matchPath_case_invariant (l : List Bytes) (p e p' e' : Bytes)
    (hc : lower p = lower p') (he : lower e = lower e') :
    pathCase l p e = pathCase l p' e' := by
  apply matchPath_depends_only_on_clean_forms
  · intro m; rw [hc]
  · intro m; rw [he]

/-- **duplicate slashes**, provable part (full statement: `matchPath_dup_slash_full_fails` (Witness.lean)):
    excluded are lists with a `//` pattern, for which keeping empty segments is the documented intent -/
theorem matchPath_dup_slash_invariant_partial (l : List Bytes) (a b ea eb : Bytes)
    (hl : mergingPatterns l = true) :
    pathCase l (a ++ cSlash :: cSlash :: b) (ea ++ cSlash :: cSlash :: eb) =
      pathCase l (a ++ cSlash :: b) (ea ++ cSlash :: eb) := by
  apply matchPath_merge_only l _ _ _ _ hl
  · simp only [lower_append, lower_cons]
    exact cleanPath_dup_slash _ _
  · simp only [lower_append, lower_cons]
    exact cleanPath_dup_slash _ _

/-- **dot segments never matter, for every pattern list** (`%` and `//` patterns included):
    `/./` inserted into the request target -/
theorem matchPath_dot_segment_invariant (l : List Bytes) (a b ea eb : Bytes) :
    pathCase l (a ++ cSlash :: cDot :: cSlash :: b) (ea ++ cSlash :: cDot :: cSlash :: eb) =
      pathCase l (a ++ cSlash :: b) (ea ++ cSlash :: eb) := by
  apply matchPath_depends_only_on_clean_forms
  · intro m
    simp only [lower_append, lower_cons]
    exact cleanPathMode_dot_segment m _ _
  · intro m
    simp only [lower_append, lower_cons]
    exact cleanPathMode_dot_segment m _ _

/-- … and `/x/../` inserted into the request target (`x` an ordinary segment; `x'` is its
    spelling in the escaped form) -/
theorem matchPath_dotdot_segment_invariant (l : List Bytes) (a b ea eb x x' : Bytes)
    (hx : normalSeg (lower x) = true) (hx' : normalSeg (lower x') = true) :
    pathCase l (a ++ cSlash :: (x ++ cSlash :: cDot :: cDot :: cSlash :: b))
               (ea ++ cSlash :: (x' ++ cSlash :: cDot :: cDot :: cSlash :: eb)) =
      pathCase l (a ++ cSlash :: b) (ea ++ cSlash :: eb) := by
  apply matchPath_depends_only_on_clean_forms
  · intro m
    simp only [lower_append, lower_cons]
    exact cleanPathMode_dotdot_segment m _ _ _ hx
  · intro m
    simp only [lower_append, lower_cons]
    exact cleanPathMode_dotdot_segment m _ _ _ hx'

/-- **the order of the patterns never matters** (Provision's `*` shuffle included) -/
theorem matchPath_perm_invariant (l l' : List Bytes) (p e : Bytes) (hp : l.Perm l') :
    pathCase l p e = pathCase l' p e := by
  rw [pathCase_eq_any, pathCase_eq_any, hp.any_eq]

/-- **the number of patterns never matters**: a list matches iff one of its parts does; patterns
    that do not match can be added or removed freely -/
theorem matchPath_size_invariant (l l' : List Bytes) (p e : Bytes) :
    pathCase (l ++ l') p e = (pathCase l p e || pathCase l' p e) := by
  rw [pathCase_eq_any, pathCase_eq_any, pathCase_eq_any, List.any_append]

/-! ## documented pattern rules on the canonical path (the shapes that are not globs) -/

theorem matchPath_star_rule (p e : Bytes) : pathCase [star] p e = true := by
  rw [pathCase_singleton, lower_star]; exact patMatches_star _ _

/-- a pattern of literal bytes matches exactly the requests whose canonical path it is -/
theorem matchPath_exact_rule (pat p e : Bytes) (hl : lower pat = pat) (hp : plainPat pat = true)
    (h1 : pat.contains cPct = false) (h2 : containsSub pat [cSlash, cSlash] = false) :
    pathCase [pat] p e = (canonPath p == pat) := by
  rw [pathCase_singleton, hl, patMatches_exact _ _ _ hp h1 h2]; rfl

/-- `pre*` matches exactly the requests whose canonical path starts with `pre` -/
theorem matchPath_prefix_rule (pre p e : Bytes) (hl : lower pre = pre) (hp : plainPat pre = true) (hne : pre ≠ [])
    (h1 : (pre ++ [cStar]).contains cPct = false) (h2 : containsSub (pre ++ [cStar]) [cSlash, cSlash] = false) :
    pathCase [pre ++ [cStar]] p e = true ↔ ∃ rest, canonPath p = pre ++ rest := by
  have : lower (pre ++ [cStar]) = pre ++ [cStar] := by rw [lower_append, hl]; rfl
  rw [pathCase_singleton, this, patMatches_prefix _ _ _ hp hne h1 h2, hasPrefix_iff]
  exact exists_congr fun _ => eq_comm

/-- `*suf` matches exactly the requests whose canonical path ends with `suf` -/
theorem matchPath_suffix_rule (suf p e : Bytes) (hl : lower suf = suf) (hp : plainPat suf = true) (hne : suf ≠ [])
    (h1 : (cStar :: suf).contains cPct = false) (h2 : containsSub (cStar :: suf) [cSlash, cSlash] = false) :
    pathCase [cStar :: suf] p e = true ↔ ∃ front, canonPath p = front ++ suf := by
  have : lower (cStar :: suf) = cStar :: suf := by rw [lower_cons, hl]; rfl
  rw [pathCase_singleton, this, patMatches_suffix _ _ _ hp hne h1 h2, hasSuffix_iff]
  exact exists_congr fun _ => eq_comm

/-- `*mid*` matches exactly the requests whose canonical path contains `mid` -/
theorem matchPath_substring_rule (mid p e : Bytes) (hl : lower mid = mid) (hp : plainPat mid = true)
    (h1 : (cStar :: mid ++ [cStar]).contains cPct = false)
    (h2 : containsSub (cStar :: mid ++ [cStar]) [cSlash, cSlash] = false) :
    pathCase [cStar :: mid ++ [cStar]] p e = true ↔ ∃ front back, canonPath p = front ++ mid ++ back := by
  have : lower (cStar :: mid ++ [cStar]) = cStar :: mid ++ [cStar] := by
    rw [List.cons_append, lower_cons, lower_append, hl]; rfl
  rw [pathCase_singleton, this, patMatches_substring _ _ _ hp h1 h2, containsSub_iff]
  exact exists_congr fun _ => exists_congr fun _ => eq_comm

/-! ## glob semantics of the single-character operators (`c`, `\\c`, `?`, `[…]`, `[^…]`) -/

/-- **`matchChunk` is parse-then-match**: a star-free chunk denotes a list of elements (literal,
    `?`, character class), each consuming exactly one byte; a malformed chunk is `ErrBadPattern`
    whatever the name -/
theorem matchChunk_is_elementwise (chunk s : Bytes) :
    matchChunk chunk.length chunk s false = chunkSpec (parseChunk chunk.length chunk) s false :=
  matchChunk_eq_spec _ _ _ _

/-- **a pattern without `*` matches exactly the names of its own length whose bytes are accepted
    element by element** (`?` = any byte but `/`, a class = its ranges, negated or not, `\\c` = `c`);
    a malformed pattern matches nothing -/
theorem globMatch_starfree_rule (pat s : Bytes) (es : List Elem) (hne : pat ≠ [])
    (hstar : pat.head? ≠ some cStar) (hchunk : scanLen false pat = pat.length)
    (hparse : parseChunk pat.length pat = .ok es) :
    globMatch pat s = .yes ↔ ElemsAccept es s := by
  rw [globMatch_single_chunk pat s hne hstar hchunk, hparse, ← elemsMatch_iff]
  simp only
  rw [ofBool_eq_yes, beq_iff_eq]

theorem globMatch_starfree_bad (pat s : Bytes) (hne : pat ≠ [])
    (hstar : pat.head? ≠ some cStar) (hchunk : scanLen false pat = pat.length)
    (hparse : parseChunk pat.length pat = .bad) :
    globMatch pat s = .bad := by
  rw [globMatch_single_chunk pat s hne hstar hchunk, hparse]

/-! ## the recursion budgets of the model are never exhausted -/

theorem globMatch_never_runs_out_of_fuel (pattern name : Bytes) : globMatch pattern name ≠ .fuel :=
  globLoop_no_fuel _ _ _ (Nat.le_succ _)

theorem escLoop_never_runs_out_of_fuel (pat ep : Bytes) : escLoop (pat.length + 1) pat ep [] ≠ .fuel :=
  escLoop_no_fuel _ _ _ _ (Nat.le_succ _)

theorem matchChunk_never_runs_out_of_fuel (chunk s : Bytes) : matchChunk chunk.length chunk s false ≠ .fuel :=
  matchChunk_no_fuel _ _ _ _ (Nat.le_refl _)

/-! ## matcher sets (`{"host": […], "path": […]}` as configured in JSON / produced by the Caddyfile adapter) -/

/-- a set with a host and a path matcher is their conjunction (after Provision's duplicate check) -/
theorem matcherSet_is_conjunction (thr : Nat) (hosts pats : List Bytes) (rhost p e : Bytes)
    (hnd : hasDup (hosts.map lower) = false) :
    setCase thr hosts pats rhost p e =
      .res (hosts.any (entryMatches (canonHost rhost)) && pathCase pats p e) := by
  unfold setCase
  rw [hostCase_canon, hnd]
  rfl

/-- **a matcher set, too, depends only on the canonical host and the cleaned forms of the path** -/
theorem matcherSet_depends_only_on_canonical_request (thr : Nat) (hosts pats : List Bytes)
    (h h' p e p' e' : Bytes) (hh : canonHost h = canonHost h')
    (hp : ∀ m, cleanPathMode m (lower p) = cleanPathMode m (lower p'))
    (he : ∀ m, cleanPathMode m (lower e) = cleanPathMode m (lower e')) :
    setCase thr hosts pats h p e = setCase thr hosts pats h' p' e' := by
  unfold setCase
  rw [matchHost_depends_only_on_canonical_host thr hosts h h' hh,
    matchPath_depends_only_on_clean_forms pats p e p' e' hp he]

/-- order and number of entries of either matcher of the set never matter -/
theorem matcherSet_perm_invariant (thr : Nat) (hosts hosts' pats pats' : List Bytes) (h p e : Bytes)
    (h1 : hosts.Perm hosts') (h2 : pats.Perm pats') :
    setCase thr hosts pats h p e = setCase thr hosts' pats' h p e := by
  unfold setCase
  rw [matchHost_perm_invariant thr hosts hosts' h h1, matchPath_perm_invariant pats pats' p e h2]

/-! ## Caddyfile glue: a site block `<key> { respond <matcher> "hit" }` through the adapter -/

/-- **the whole site block depends only on the canonical host and the cleaned forms of the path**:
    the site key's host and path matchers, the directive's implicit / named matcher set and
    their conjunction add no other dependence on the spelling of the request -/
theorem siteCase_depends_only_on_canonical_request (thr : Nat) (key : Bytes) (mode : TokMode)
    (hosts pats : List Bytes) (h h' p e p' e' : Bytes) (hh : canonHost h = canonHost h')
    (hp : ∀ m, cleanPathMode m (lower p) = cleanPathMode m (lower p'))
    (he : ∀ m, cleanPathMode m (lower e) = cleanPathMode m (lower e')) :
    siteCase thr key mode hosts pats h p e = siteCase thr key mode hosts pats h' p' e' := by
  unfold siteCase tokCase
  rw [matchHost_depends_only_on_canonical_host thr [(parseSiteKey key).1] h h' hh,
    matchHost_depends_only_on_canonical_host thr hosts h h' hh,
    matchPath_depends_only_on_clean_forms [(parseSiteKey key).2] p e p' e' hp he,
    matchPath_depends_only_on_clean_forms pats p e p' e' hp he]

/-- **the spelling of the site key never matters**: `Name:port/path` and `name/path` (any letter
    case of the name, any port or none) configure the same site — the adapter stores the
    lower-cased name without the port as the host matcher -/
theorem siteCase_key_spelling_invariant (thr : Nat) (n n' port q : Bytes) (mode : TokMode)
    (hosts pats : List Bytes) (h p e : Bytes)
    (hn : plainHost n = true) (hn' : plainHost n' = true) (hport : plainHost port = true)
    (hs : (n ++ cColon :: port).contains cSlash = false) (hs' : n'.contains cSlash = false)
    (hq : keyPathShape q = true)
    (hns : hasPrefix (n ++ cColon :: port ++ q) httpScheme = false)
    (hns2 : hasPrefix (n ++ cColon :: port ++ q) httpsScheme = false)
    (hns' : hasPrefix (n' ++ q) httpScheme = false) (hns2' : hasPrefix (n' ++ q) httpsScheme = false)
    (hcase : lower n = lower n') :
    siteCase thr (n ++ cColon :: port ++ q) mode hosts pats h p e =
      siteCase thr (n' ++ q) mode hosts pats h p e := by
  unfold siteCase
  rw [parseSiteKey_hostport _ q hs hq hns hns2, parseSiteKey_hostport n' q hs' hq hns' hns2',
    addrHost_with_port n port hn hport, addrHost_plain n' hn', hcase]

/-- `handle /pat`, `route /pat` and `handle_path /pat` guard their block with the path matcher
    `[pat]` — the very token, not the prefix `handle_path` strips afterwards -/
theorem tokCase_handle_and_handle_path (thr : Nat) (pat rhost p e : Bytes) :
    tokCase thr .handle [] [pat] rhost p e = .res (pathCase [pat] p e) ∧
    tokCase thr .handlePath [] [pat] rhost p e = .res (pathCase [pat] p e) := ⟨rfl, rfl⟩

/-- the scheme prefix of a site key never reaches the host matcher: `https://name` = `name` -/
theorem parseSiteKey_scheme_dropped (rest : Bytes) (h1 : hasPrefix rest httpScheme = false)
    (h2 : hasPrefix rest httpsScheme = false) :
    parseSiteKey (httpsScheme ++ rest) = parseSiteKey rest ∧ parseSiteKey (httpScheme ++ rest) = parseSiteKey rest := by
  have e1 := dropScheme_of_no_scheme h1 h2
  -- `https://…` does not start with `http://` (fifth byte)
  have a : hasPrefix (httpsScheme ++ rest) httpScheme = false := rfl
  have e2 : dropScheme (httpsScheme ++ rest) = rest := by
    unfold dropScheme
    rw [a, hasPrefix_append_self, if_neg Bool.false_ne_true, if_pos rfl, List.drop_left]
  have e3 : dropScheme (httpScheme ++ rest) = rest := by
    unfold dropScheme
    rw [hasPrefix_append_self, if_pos rfl, List.drop_left]
  unfold parseSiteKey
  rw [e1, e2, e3]
  exact ⟨rfl, rfl⟩

/-- the implicit matcher token `/pattern` is the path matcher with that one pattern, `*` is no matcher -/
theorem tokCase_implicit_and_star (thr : Nat) (pat rhost p e : Bytes) :
    tokCase thr .implicit [] [pat] rhost p e = .res (pathCase [pat] p e) ∧
    tokCase thr .star [] [] rhost p e = .res true := ⟨rfl, rfl⟩

/-- **negation adds no dependence on the spelling**: `not {host …} {path …}` depends only on the
    canonical host and the cleaned forms of the path -/
theorem notCase_depends_only_on_canonical_request (thr : Nat) (hosts pats : List Bytes)
    (h h' p e p' e' : Bytes) (hh : canonHost h = canonHost h')
    (hp : ∀ m, cleanPathMode m (lower p) = cleanPathMode m (lower p'))
    (he : ∀ m, cleanPathMode m (lower e) = cleanPathMode m (lower e')) :
    notCase thr hosts pats h p e = notCase thr hosts pats h' p' e' := by
  unfold notCase
  rw [matchHost_depends_only_on_canonical_host thr hosts h h' hh,
    matchPath_depends_only_on_clean_forms pats p e p' e' hp he]

theorem matchPathRE_spelling_invariant (k : ReKind) (lit p p' : Bytes) (h : cleanPath p = cleanPath p') :
    matchPathRE k lit p = matchPathRE k lit p' := by
  unfold matchPathRE; rw [h]

/-! ## non-vacuity: every hypothesis above is met by concrete, non-trivial inputs (kernel-evaluated) -/

-- three entries, threshold 2 (⇒ the large code path), mixed-case entry, request in another case with a port
example : hostCase 2 [[69, 120, 97, 109, 112, 108, 101, 46, 99, 111, 109], [98, 46, 116, 101, 115, 116], [42, 46, 99, 46, 116, 101, 115, 116]] [69, 88, 65, 77, 80, 76, 69, 46, 99, 111, 109, 58, 56, 48] = .res true := by decide +kernel
example : hasDup ([[69, 120, 97, 109, 112, 108, 101, 46, 99, 111, 109], [98, 46, 116, 101, 115, 116], [42, 46, 99, 46, 116, 101, 115, 116]].map lower) = false := by decide
-- the same list on the small code path (threshold 100)
example : hostCase 100 [[69, 120, 97, 109, 112, 108, 101, 46, 99, 111, 109], [98, 46, 116, 101, 115, 116], [42, 46, 99, 46, 116, 101, 115, 116]] [69, 88, 65, 77, 80, 76, 69, 46, 99, 111, 109, 58, 56, 48] = .res true := by decide +kernel
-- wildcard label, large path
example : hostCase 2 [[69, 120, 97, 109, 112, 108, 101, 46, 99, 111, 109], [98, 46, 116, 101, 115, 116], [42, 46, 99, 46, 116, 101, 115, 116]] [88, 46, 99, 46, 84, 101, 115, 116] = .res true := by decide +kernel
example : hostCase 2 [[69, 120, 97, 109, 112, 108, 101, 46, 99, 111, 109], [98, 46, 116, 101, 115, 116], [42, 46, 99, 46, 116, 101, 115, 116]] [120, 46, 121, 46, 99, 46, 116, 101, 115, 116] = .res false := by decide +kernel
-- a repeated name (up to case) is rejected
example : hostCase 2 [[69, 120, 97, 109, 112, 108, 101, 46, 99, 111, 109], [101, 120, 97, 109, 112, 108, 101, 46, 99, 111, 109]] [101, 120, 97, 109, 112, 108, 101, 46, 99, 111, 109] = .dup := by decide
example : lower [69, 120, 97, 109, 112, 108, 101, 46, 99, 111, 109] = lower [101, 120, 97, 109, 112, 108, 101, 46, 99, 111, 109] := by decide
example : plainHost [101, 120, 97, 109, 112, 108, 101, 46, 99, 111, 109] = true ∧ plainHost [56, 48] = true := by decide
example : bracketFree [50, 48, 48, 49, 58, 100, 98, 56, 58, 58, 49] = true := by decide
example : canonHost (cLBr :: [50, 48, 48, 49, 58, 100, 98, 56, 58, 58, 49] ++ cRBr :: cColon :: [56, 48]) = [50, 48, 48, 49, 58, 100, 98, 56, 58, 58, 49] := by decide +kernel
example : [[69, 120, 97, 109, 112, 108, 101, 46, 99, 111, 109], [98, 46, 116, 101, 115, 116], [42, 46, 99, 46, 116, 101, 115, 116]].Perm [[42, 46, 99, 46, 116, 101, 115, 116], [69, 120, 97, 109, 112, 108, 101, 46, 99, 111, 109], [98, 46, 116, 101, 115, 116]] := by decide +kernel
example : ∀ e, e ∈ [[98, 46, 116, 101, 115, 116], [42, 46, 99, 46, 116, 101, 115, 116]] → entryMatches (canonHost [69, 88, 65, 77, 80, 76, 69, 46, 99, 111, 109, 58, 56, 48]) e = false := by decide +kernel
example : pathClean [47, 97, 47, 46, 46, 47, 98, 47, 47, 99, 47, 46, 47, 100, 47] = [47, 98, 47, 99, 47, 100] := by decide
example : cleanPath [47, 97, 47, 46, 46, 47, 98, 47, 47, 99, 47, 46, 47, 100, 47] = [47, 98, 47, 99, 47, 100, 47] := by decide +kernel
example : normalSeg [122, 122, 57] = true := by decide
-- MatchPath: plain patterns, two spellings of one canonical path
example : plainPatterns [[47, 97, 112, 105, 47, 42], [42, 46, 112, 104, 112]] = true := by decide
example : canonPath [47, 65, 80, 73, 47, 47, 118, 49, 47, 46, 47, 120, 47, 46, 46, 47, 117, 115, 101, 114, 115] = canonPath [47, 97, 112, 105, 47, 118, 49, 47, 117, 115, 101, 114, 115] := by decide +kernel
example : pathCase [[47, 97, 112, 105, 47, 42], [42, 46, 112, 104, 112]] [47, 65, 80, 73, 47, 47, 118, 49, 47, 46, 47, 120, 47, 46, 46, 47, 117, 115, 101, 114, 115] [47, 65, 80, 73, 47, 47, 118, 49, 47, 46, 47, 120, 47, 46, 46, 47, 117, 115, 101, 114, 115] = true := by decide +kernel
example : pathCase [[47, 97, 112, 105, 47, 42], [42, 46, 112, 104, 112]] [47, 97, 112, 105, 47, 118, 49, 47, 117, 115, 101, 114, 115] [47, 97, 112, 105, 47, 118, 49, 47, 117, 115, 101, 114, 115] = true := by decide +kernel
example : unescapedPatterns [[47, 97, 47, 47, 98]] = true ∧ plainPatterns [[47, 97, 47, 47, 98]] = false := by decide
example : pathCase [[47, 97, 47, 47, 98]] [47, 65, 47, 46, 47, 47, 98] [47, 65, 47, 46, 47, 47, 98] = true := by decide +kernel
example : [[47, 97, 112, 105, 47, 42], [42, 46, 112, 104, 112]].Perm [[42, 46, 112, 104, 112], [47, 97, 112, 105, 47, 42]] := by decide
example : matchPathRE .pre [47, 97, 112, 105] [47, 120, 47, 46, 46, 47, 47, 97, 112, 105, 47, 46, 47, 118, 49] = true := by decide

example : mergingPatterns [[47, 97, 112, 105, 47, 42], [47, 97, 37, 50, 102, 98, 47, 42]] = true ∧ unescapedPatterns [[47, 97, 112, 105, 47, 42], [47, 97, 37, 50, 102, 98, 47, 42]] = false := by decide
example : pathCase [[47, 97, 37, 50, 102, 98, 47, 42]] [47, 120, 47, 46, 46, 47, 47, 97, 47, 98, 47, 46, 47, 99] [47, 120, 47, 46, 46, 47, 47, 97, 37, 50, 70, 98, 47, 46, 47, 99] = true := by decide +kernel
example : normalSeg (lower [122, 122, 57]) = true := by decide

example : lower [47, 97, 100, 109, 105, 110] = [47, 97, 100, 109, 105, 110] ∧ plainPat [47, 97, 100, 109, 105, 110] = true ∧ [47, 97, 100, 109, 105, 110].contains cPct = false ∧
    containsSub [47, 97, 100, 109, 105, 110] [cSlash, cSlash] = false := by decide +kernel
example : pathCase [[47, 97, 100, 109, 105, 110]] [47, 47, 65, 100, 109, 105, 110] [47, 47, 65, 100, 109, 105, 110] = true := by decide +kernel
example : pathCase [[47, 97, 100, 109, 105, 110] ++ [cStar]] [47, 120, 47, 46, 46, 47, 65, 68, 77, 73, 78, 47, 112, 97, 110, 101, 108] [47, 120, 47, 46, 46, 47, 65, 68, 77, 73, 78, 47, 112, 97, 110, 101, 108] = true := by decide +kernel
example : pathCase [cStar :: [46, 112, 104, 112]] [47, 97, 47, 46, 47, 73, 110, 100, 101, 120, 46, 80, 72, 80] [47, 97, 47, 46, 47, 73, 110, 100, 101, 120, 46, 80, 72, 80] = true := by decide +kernel
example : pathCase [cStar :: [115, 101, 99, 114, 101, 116] ++ [cStar]] [47, 97, 47, 83, 69, 67, 82, 69, 84, 45, 102, 105, 108, 101, 115, 47, 120] [47, 97, 47, 83, 69, 67, 82, 69, 84, 45, 102, 105, 108, 101, 115, 47, 120] = true := by decide +kernel
example : globMatch [47, 97, 47, 42, 47, 91, 99, 45, 101, 93, 63] [47, 97, 47, 120, 121, 122, 47, 100, 113] = .yes ∧ globMatch [47, 97, 47, 42, 47, 91, 99, 45] [47, 97, 47, 120, 121, 122, 47, 100, 113] = .bad := by decide +kernel
example : Sorted (sortHosts ([[69, 120, 97, 109, 112, 108, 101, 46, 99, 111, 109], [98, 46, 116, 101, 115, 116], [42, 46, 99, 46, 116, 101, 115, 116]].map lowerExact)) := sortHosts_sorted _
example : isRooted [47, 120, 47, 46, 46, 47, 65, 68, 77, 73, 78, 47, 112, 97, 110, 101, 108] = true := by decide

/-- **regenerated tie: outside matchers.go, package caddyhttp only reads provisioned host matchers.**
    `tools/extract` lists, on every run, every statement of the non-test files of modules/caddyhttp
    (matchers.go excepted) that stores into a value obtained by a `.(*MatchHost)` type assertion —
    an element (`(*hm)[i] = …`) or the whole slice — and the loops that read one. There is such a
    loop (automatic HTTPS phase 1) and there is no such store: this is the source-level side of
    `autohttpsHostView` being the identity on the slice (`autohttps_phase1_leaves_host_matcher_alone`). -/
theorem host_matcher_read_only_matches_source :
    Gen.hostMatcherWrites = [] ∧
    Gen.hostMatcherRanges = ["autohttps.go:automaticHTTPSPhase1: range *hm"] := ⟨rfl, rfl⟩

/-- **regenerated tie.** The large-list threshold the driver instantiates (`largeThreshold = 100`, Driver.lean)
    is the constant `tools/extract` reads out of `MatchHost.large` on every run. (The host theorems above
    hold for EVERY threshold, so a changed constant cannot break the property — it would only make the
    executable model disagree with the code, and this statement says why.) -/
theorem large_threshold_matches_source : Gen.matchHostLargeThreshold = some 100 := by decide

example : pathCase [[47, 97, 37, 50, 102, 98, 47, 106]] [47, 97, 47, 98, 47, 106] [47, 97, 37, 50, 102, 98, 47, 106] = true ∧ pathCase [[47, 97, 37, 50, 102, 98, 47, 106]] [47, 65, 47, 98, 47, 74] [47, 65, 37, 50, 70, 98, 47, 74] = true ∧
    lower [47, 97, 47, 98, 47, 106] = lower [47, 65, 47, 98, 47, 74] ∧ lower [47, 97, 37, 50, 102, 98, 47, 106] = lower [47, 65, 37, 50, 70, 98, 47, 74] := by decide +kernel
-- an escape that decodes to an upper-case letter (`%4A` = `J`) matches the lower-case pattern too
example : pathCase [[47, 97, 37, 50, 102, 98, 47, 106]] [47, 65, 47, 98, 47, 74] [47, 65, 37, 50, 70, 98, 47, 37, 52, 65] = true := by decide +kernel

-- a non-ASCII request host (U+017F `ſ`, bytes C5 BF) against a "large" list
example : asciiOnly (stripPort [197, 191, 46, 99, 111, 109]) = false := by decide
example : hostCase 2 [[115, 46, 99, 111, 109], [98, 46, 116, 101, 115, 116], [42, 46, 99, 46, 116, 101, 115, 116]] [197, 191, 46, 99, 111, 109] = .res false := by decide +kernel

example : setCase 2 [[69, 120, 97, 109, 112, 108, 101, 46, 99, 111, 109], [98, 46, 116, 101, 115, 116], [42, 46, 99, 46, 116, 101, 115, 116]] [[47, 97, 112, 105, 47, 42]] [69, 88, 65, 77, 80, 76, 69, 46, 99, 111, 109, 58, 56, 48] [47, 65, 80, 73, 47, 47, 118, 49, 47, 46, 47, 120, 47, 46, 46, 47, 117, 115, 101, 114, 115] [47, 65, 80, 73, 47, 47, 118, 49, 47, 46, 47, 120, 47, 46, 46, 47, 117, 115, 101, 114, 115] = .res true := by decide +kernel
example : setCase 2 [[69, 120, 97, 109, 112, 108, 101, 46, 99, 111, 109], [98, 46, 116, 101, 115, 116], [42, 46, 99, 46, 116, 101, 115, 116]] [[47, 97, 112, 105, 47, 42]] [120, 46, 121] [47, 65, 80, 73, 47, 47, 118, 49, 47, 46, 47, 120, 47, 46, 46, 47, 117, 115, 101, 114, 115] [47, 65, 80, 73, 47, 47, 118, 49, 47, 46, 47, 120, 47, 46, 46, 47, 117, 115, 101, 114, 115] = .res false := by decide +kernel

example : parseSiteKey [69, 120, 97, 109, 112, 108, 101, 46, 67, 79, 77, 58, 56, 48, 56, 48, 47, 97, 112, 105, 42] = ([101, 120, 97, 109, 112, 108, 101, 46, 99, 111, 109], [47, 97, 112, 105, 42]) ∧ parseSiteKey [101, 120, 97, 109, 112, 108, 101, 46, 99, 111, 109, 47, 97, 112, 105, 42] = ([101, 120, 97, 109, 112, 108, 101, 46, 99, 111, 109], [47, 97, 112, 105, 42]) := by decide +kernel
example : plainHost [69, 120, 97, 109, 112, 108, 101, 46, 67, 79, 77] = true ∧ plainHost [56, 48, 56, 48] = true ∧ keyPathShape [47, 97, 112, 105, 42] = true ∧
    hasPrefix [69, 120, 97, 109, 112, 108, 101, 46, 67, 79, 77, 58, 56, 48, 56, 48, 47, 97, 112, 105, 42] httpScheme = false ∧ lower [69, 120, 97, 109, 112, 108, 101, 46, 67, 79, 77] = lower [101, 120, 97, 109, 112, 108, 101, 46, 99, 111, 109] := by decide +kernel
example : siteCase 100 [69, 120, 97, 109, 112, 108, 101, 46, 67, 79, 77, 58, 56, 48, 56, 48, 47, 97, 112, 105, 42] .named [[119, 119, 119, 46, 101, 120, 97, 109, 112, 108, 101, 46, 99, 111, 109]] [[42, 46, 112, 104, 112]] [69, 88, 65, 77, 80, 76, 69, 46, 99, 111, 109, 58, 52, 52, 51] [47, 65, 80, 73, 47, 120, 46, 112, 104, 112] [47, 65, 80, 73, 47, 120, 46, 112, 104, 112] = .res false := by decide +kernel
example : siteCase 100 [69, 120, 97, 109, 112, 108, 101, 46, 67, 79, 77, 58, 56, 48, 56, 48, 47, 97, 112, 105, 42] .implicit [] [[47, 97, 112, 105, 47, 118, 49, 47, 42]] [69, 88, 65, 77, 80, 76, 69, 46, 99, 111, 109, 58, 52, 52, 51] [47, 120, 47, 46, 46, 47, 47, 65, 112, 105, 47, 86, 49, 47, 117, 115, 101, 114, 115] [47, 120, 47, 46, 46, 47, 47, 65, 112, 105, 47, 86, 49, 47, 117, 115, 101, 114, 115] = .res true := by decide +kernel
example : siteCase 100 [104, 116, 116, 112, 58, 47, 47, 58, 57, 48, 48, 48] .star [] [] [69, 88, 65, 77, 80, 76, 69, 46, 99, 111, 109, 58, 52, 52, 51] [47, 65, 80, 73, 47, 120, 46, 112, 104, 112] [47, 65, 80, 73, 47, 120, 46, 112, 104, 112] = .res true := by decide +kernel

/-- a conversion table as the harness ships it: `bücher.example ↦ xn--bcher-kva.example`, identity on two ASCII names -/
def exIdna : Bytes → Option Bytes := fun e =>
  if e = [98, 195, 188, 99, 104, 101, 114, 46, 101, 120, 97, 109, 112, 108, 101] then some [120, 110, 45, 45, 98, 99, 104, 101, 114, 45, 107, 118, 97, 46, 101, 120, 97, 109, 112, 108, 101] else if e = [98, 46, 116, 101, 115, 116] then some [98, 46, 116, 101, 115, 116] else if e = [83, 46, 99, 111, 109] then some [83, 46, 99, 111, 109] else none
example : provisionHostI exIdna 2 [[83, 46, 99, 111, 109], [98, 195, 188, 99, 104, 101, 114, 46, 101, 120, 97, 109, 112, 108, 101], [98, 46, 116, 101, 115, 116]] = .ok [[98, 46, 116, 101, 115, 116], [115, 46, 99, 111, 109], [120, 110, 45, 45, 98, 99, 104, 101, 114, 45, 107, 118, 97, 46, 101, 120, 97, 109, 112, 108, 101]] := by decide +kernel
example : provisionHostI exIdna 100 [[83, 46, 99, 111, 109], [98, 195, 188, 99, 104, 101, 114, 46, 101, 120, 97, 109, 112, 108, 101], [98, 46, 116, 101, 115, 116]] = .ok [[83, 46, 99, 111, 109], [120, 110, 45, 45, 98, 99, 104, 101, 114, 45, 107, 118, 97, 46, 101, 120, 97, 109, 112, 108, 101], [98, 46, 116, 101, 115, 116]] := by decide +kernel
example : hostCaseI exIdna 2 [[83, 46, 99, 111, 109], [98, 195, 188, 99, 104, 101, 114, 46, 101, 120, 97, 109, 112, 108, 101], [98, 46, 116, 101, 115, 116]] [88, 78, 45, 45, 66, 67, 72, 69, 82, 45, 75, 86, 65, 46, 69, 120, 97, 109, 112, 108, 101, 58, 52, 52, 51] = .res true := by decide +kernel
example : provisionHostI exIdna 2 [[83, 46, 99, 111, 109], [98, 195, 188, 99, 104, 101, 114, 46, 101, 120, 97, 109, 112, 108, 101], [115, 46, 99, 111, 109]] = .idnaErr := by decide +kernel

example : notCase 2 [[69, 120, 97, 109, 112, 108, 101, 46, 99, 111, 109], [98, 46, 116, 101, 115, 116], [42, 46, 99, 46, 116, 101, 115, 116]] [[47, 97, 112, 105, 47, 42]] [120, 46, 121] [47, 111, 116, 104, 101, 114] [47, 111, 116, 104, 101, 114] = .res true := by decide +kernel
example : notCase 2 [[69, 120, 97, 109, 112, 108, 101, 46, 99, 111, 109], [98, 46, 116, 101, 115, 116], [42, 46, 99, 46, 116, 101, 115, 116]] [[47, 97, 112, 105, 47, 42]] [120, 46, 121] [47, 65, 80, 73, 47, 47, 118, 49, 47, 46, 47, 120, 47, 46, 46, 47, 117, 115, 101, 114, 115] [47, 65, 80, 73, 47, 47, 118, 49, 47, 46, 47, 120, 47, 46, 46, 47, 117, 115, 101, 114, 115] = .res false := by decide +kernel

example : parseChunk [47, 102, 63, 91, 97, 45, 99, 120, 93, 91, 94, 48, 45, 57, 93, 92, 42].length [47, 102, 63, 91, 97, 45, 99, 120, 93, 91, 94, 48, 45, 57, 93, 92, 42] = .ok [.lit 47, .lit 102, .any, .cls false [(97, 99), (120, 120)], .cls true [(48, 57)], .lit 42] := by decide +kernel
example : scanLen false [47, 102, 63, 91, 97, 45, 99, 120, 93, 91, 94, 48, 45, 57, 93, 92, 42] = [47, 102, 63, 91, 97, 45, 99, 120, 93, 91, 94, 48, 45, 57, 93, 92, 42].length ∧ [47, 102, 63, 91, 97, 45, 99, 120, 93, 91, 94, 48, 45, 57, 93, 92, 42].head? ≠ some cStar := by decide +kernel
example : globMatch [47, 102, 63, 91, 97, 45, 99, 120, 93, 91, 94, 48, 45, 57, 93, 92, 42] [47, 102, 111, 98, 122, 42] = .yes ∧ globMatch [47, 102, 63, 91, 97, 45, 99, 120, 93, 91, 94, 48, 45, 57, 93, 92, 42] [47, 102, 47, 98, 122, 42] = .no := by decide +kernel
example : parseChunk [47, 97, 91, 98, 45].length [47, 97, 91, 98, 45] = .bad := by decide

/-- `{env.C06_A}` = `Tenant.example.test`, `{http.request.header.X-T}` = `acme` -/
def exLook : Bytes → Bytes := fun k =>
  if k = [101, 110, 118, 46, 67, 48, 54, 95, 65] then [84, 101, 110, 97, 110, 116, 46, 101, 120, 97, 109, 112, 108, 101, 46, 116, 101, 115, 116] else if k = [104, 116, 116, 112, 46, 114, 101, 113, 117, 101, 115, 116, 46, 104, 101, 97, 100, 101, 114, 46, 88, 45, 84] then [97, 99, 109, 101] else []
-- three entries over threshold 2 (large path): env placeholder, request placeholder, exact name
example : srvHostCase 2 [[123, 101, 110, 118, 46, 67, 48, 54, 95, 65, 125], [123, 104, 116, 116, 112, 46, 114, 101, 113, 117, 101, 115, 116, 46, 104, 101, 97, 100, 101, 114, 46, 88, 45, 84, 125, 46, 100, 121, 110, 46, 116, 101, 115, 116], [72, 49, 46, 101, 120, 97, 109, 112, 108, 101, 46, 116, 101, 115, 116]] exLook (fun _ => false) [84, 69, 78, 65, 78, 84, 46, 101, 120, 97, 109, 112, 108, 101, 46, 116, 101, 115, 116, 58, 56, 52, 52, 51] = .res true := by decide +kernel
example : srvHostCase 2 [[123, 101, 110, 118, 46, 67, 48, 54, 95, 65, 125], [123, 104, 116, 116, 112, 46, 114, 101, 113, 117, 101, 115, 116, 46, 104, 101, 97, 100, 101, 114, 46, 88, 45, 84, 125, 46, 100, 121, 110, 46, 116, 101, 115, 116], [72, 49, 46, 101, 120, 97, 109, 112, 108, 101, 46, 116, 101, 115, 116]] exLook (fun _ => false) [65, 99, 109, 101, 46, 100, 121, 110, 46, 116, 101, 115, 116] = .res true := by decide +kernel
example : srvHostCase 100 [[123, 101, 110, 118, 46, 67, 48, 54, 95, 65, 125], [123, 104, 116, 116, 112, 46, 114, 101, 113, 117, 101, 115, 116, 46, 104, 101, 97, 100, 101, 114, 46, 88, 45, 84, 125, 46, 100, 121, 110, 46, 116, 101, 115, 116], [72, 49, 46, 101, 120, 97, 109, 112, 108, 101, 46, 116, 101, 115, 116]] exLook (fun _ => false) [84, 69, 78, 65, 78, 84, 46, 101, 120, 97, 109, 112, 108, 101, 46, 116, 101, 115, 116, 58, 56, 52, 52, 51] = .res true := by decide +kernel
example : srvHostCase 2 [[123, 101, 110, 118, 46, 67, 48, 54, 95, 65, 125], [123, 104, 116, 116, 112, 46, 114, 101, 113, 117, 101, 115, 116, 46, 104, 101, 97, 100, 101, 114, 46, 88, 45, 84, 125, 46, 100, 121, 110, 46, 116, 101, 115, 116], [72, 49, 46, 101, 120, 97, 109, 112, 108, 101, 46, 116, 101, 115, 116]] exLook (fun k => k == [101, 110, 118, 46, 67, 48, 54, 95, 65]) [84, 69, 78, 65, 78, 84, 46, 101, 120, 97, 109, 112, 108, 101, 46, 116, 101, 115, 116, 58, 56, 52, 52, 51] = .phase1Err := by decide +kernel
example : keysOf [123, 104, 116, 116, 112, 46, 114, 101, 113, 117, 101, 115, 116, 46, 104, 101, 97, 100, 101, 114, 46, 88, 45, 84, 125, 46, 100, 121, 110, 46, 116, 101, 115, 116].length [123, 104, 116, 116, 112, 46, 114, 101, 113, 117, 101, 115, 116, 46, 104, 101, 97, 100, 101, 114, 46, 88, 45, 84, 125, 46, 100, 121, 110, 46, 116, 101, 115, 116] = [[104, 116, 116, 112, 46, 114, 101, 113, 117, 101, 115, 116, 46, 104, 101, 97, 100, 101, 114, 46, 88, 45, 84]] ∧ expand exLook [123, 104, 116, 116, 112, 46, 114, 101, 113, 117, 101, 115, 116, 46, 104, 101, 97, 100, 101, 114, 46, 88, 45, 84, 125, 46, 100, 121, 110, 46, 116, 101, 115, 116].length [123, 104, 116, 116, 112, 46, 114, 101, 113, 117, 101, 115, 116, 46, 104, 101, 97, 100, 101, 114, 46, 88, 45, 84, 125, 46, 100, 121, 110, 46, 116, 101, 115, 116] = [97, 99, 109, 101, 46, 100, 121, 110, 46, 116, 101, 115, 116] := by decide +kernel

end CaddyModel.C06
