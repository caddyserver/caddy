/-
C06 — what the stated theorems use beside `Spec.lean`: side conditions on hosts, site keys, path segments and
pattern lists; the layout order of a large host list and the converted list of Provision; the declarative
reading of a star-free glob chunk (a list of one-byte elements).
-/
import CaddyModel.C06.Model

namespace CaddyModel.C06

/-- a host name or port as `net.SplitHostPort` takes it without brackets: no `:`, `[`, `]` -/
def plainHost (h : Bytes) : Bool := !h.contains cColon && !h.contains cLBr && !h.contains cRBr

/-- the inside of a bracketed IP literal: no `[`, `]` (colons allowed) -/
def bracketFree (h : Bytes) : Bool := !h.contains cLBr && !h.contains cRBr

/-- the path part of a site key: empty or starting with `/` -/
def keyPathShape (q : Bytes) : Bool := q.isEmpty || q.head? == some cSlash

def normalSeg (x : Bytes) : Bool := x != [] && x != dot && x != dotdot && !x.contains cSlash

/-- no pattern of the list asks for escaped-space comparison (`%`) or slash preservation (`//`) -/
def plainPatterns (l : List Bytes) : Bool :=
  l.all (fun pat => !pat.contains cPct && !containsSub pat [cSlash, cSlash])

/-- no pattern of the list asks for escaped-space comparison (`%`) -/
def unescapedPatterns (l : List Bytes) : Bool := l.all (fun pat => !pat.contains cPct)

/-- no pattern of the list asks for slash preservation (`//`) -/
def mergingPatterns (l : List Bytes) : Bool := l.all (fun pat => !containsSub pat [cSlash, cSlash])

def convAll (idna : Bytes → Option Bytes) : List Bytes → Option (List Bytes)
  | [] => some []
  | h :: t =>
    match idna h, convAll idna t with
    | some a, some r => some (a :: r)
    | _, _ => none

/-- never descending in the comparator Provision sorts by: no later entry is `hostLess` than an earlier one
    (the negative form, so that equal neighbours are allowed) -/
def Sorted (l : List Bytes) : Prop := l.Pairwise (fun a b => hostLess b a = false)

/-! ### the single-character operators of `path.Match` -/

inductive Elem where
  | lit (c : UInt8)                                   -- `c` or `\c`
  | any                                               -- `?`
  | cls (neg : Bool) (ranges : List (UInt8 × UInt8))  -- `[lo-hi…]` / `[^lo-hi…]`
deriving DecidableEq, Repr

def elemMatches : Elem → UInt8 → Bool
  | .lit c, b => b == c
  | .any, b => b != cSlash
  | .cls neg rs, b => (rs.any fun p => inRange p.1 p.2 b) != neg

/-- a list of elements against the beginning of `s`: the rest of `s` on success -/
def elemsMatch : List Elem → Bytes → Option Bytes
  | [], s => some s
  | _ :: _, [] => none
  | e :: es, b :: s => if elemMatches e b then elemsMatch es s else none

inductive RangesRes where
  | ok (rs : List (UInt8 × UInt8)) (rest : Bytes)
  | bad
  | fuel
deriving DecidableEq, Repr

/-- the ranges of a character class (the syntax `classLoop` accepts) -/
def parseRanges : Nat → Bytes → Bool → RangesRes
  | 0, _, _ => .fuel
  | fuel + 1, chunk, seen =>
    if chunk.head? = some cRBr ∧ seen = true then .ok [] (chunk.drop 1)
    else match getEsc chunk with
      | none => .bad
      | some (lo, c1) =>
        if c1.head? = some 45 then
          match getEsc (c1.drop 1) with
          | none => .bad
          | some (hi, c2) =>
            match parseRanges fuel c2 true with
            | .ok rs rest => .ok ((lo, hi) :: rs) rest
            | r => r
        else
          match parseRanges fuel c1 true with
          | .ok rs rest => .ok ((lo, lo) :: rs) rest
          | r => r

inductive ParseRes where
  | ok (es : List Elem)
  | bad
  | fuel
deriving DecidableEq, Repr

def consElem (e : Elem) : ParseRes → ParseRes
  | .ok es => .ok (e :: es)
  | r => r

/-- a star-free chunk as a list of elements (the syntax `matchChunk` accepts) -/
def parseChunk : Nat → Bytes → ParseRes
  | _, [] => .ok []
  | 0, _ :: _ => .fuel
  | fuel + 1, c :: rest =>
    if c = cLBr then
      match parseRanges (rest.length + 1) (classBody rest) false with
      | .bad => .bad
      | .fuel => .fuel
      | .ok rs rest' => consElem (.cls (negated rest) rs) (parseChunk fuel rest')
    else if c = 63 then consElem .any (parseChunk fuel rest)
    else if c = cBack then
      match rest with
      | [] => .bad
      | d :: rest' => consElem (.lit d) (parseChunk fuel rest')
    else consElem (.lit c) (parseChunk fuel rest)

/-- the result of `matchChunk` read off the parsed chunk -/
def chunkSpec (p : ParseRes) (s : Bytes) (failed : Bool) : ChunkRes :=
  match p with
  | .bad => .bad
  | .fuel => .fuel
  | .ok es =>
    if failed then .fail
    else match elemsMatch es s with
      | some r => .ok r
      | none => .fail

inductive ElemsAccept : List Elem → Bytes → Prop
  | nil : ElemsAccept [] []
  | cons {e : Elem} {b : UInt8} {es : List Elem} {s : Bytes} :
      elemMatches e b = true → ElemsAccept es s → ElemsAccept (e :: es) (b :: s)

end CaddyModel.C06
