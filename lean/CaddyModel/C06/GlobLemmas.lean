/-
C06 — the recursion budgets of the `path.Match` / escape-comparator models are never exhausted; a
pattern of literal bytes matches itself and nothing else.
-/
import CaddyModel.C06.ElemLemmas
import CaddyModel.C06.Bytes
import CaddyModel.C06.Spec

namespace CaddyModel.C06

theorem getEsc_length {c r : Bytes} {x : UInt8} : getEsc c = some (x, r) → r.length < c.length := by
  fun_cases getEsc c <;> intro h <;> cases h
  · exact Nat.lt_succ_of_lt (Nat.lt_succ_self _)
  · exact Nat.lt_succ_self _

theorem classLoop_spec (r : UInt8) (fuel : Nat) (chunk : Bytes) (seen mt : Bool) : chunk.length < fuel →
    classLoop r fuel chunk seen mt ≠ .fuel ∧
      ∀ m rest, classLoop r fuel chunk seen mt = .ok m rest → rest.length ≤ chunk.length := by
  fun_induction classLoop r fuel chunk seen mt <;> intro h
  · exact absurd h (Nat.not_lt_zero _)
  · exact ⟨ClassRes.noConfusion, fun _ _ e => by cases e; exact length_drop_le _ _⟩
  · exact ⟨ClassRes.noConfusion, fun _ _ e => by cases e⟩
  · exact ⟨ClassRes.noConfusion, fun _ _ e => by cases e⟩
  · -- a range `lo-hi`
    rename_i h1 _ _ _ h2 ih
    have l : _ < _ := Nat.lt_trans (Nat.lt_of_lt_of_le (getEsc_length h2) (length_drop_le 1 _)) (getEsc_length h1)
    obtain ⟨hf, hl⟩ := ih (Nat.lt_of_lt_of_le l (Nat.le_of_lt_succ h))
    exact ⟨hf, fun m rest e => Nat.le_trans (hl m rest e) (Nat.le_of_lt l)⟩
  · -- a single character
    rename_i h1 _ ih
    have l := getEsc_length h1
    obtain ⟨hf, hl⟩ := ih (Nat.lt_of_lt_of_le l (Nat.le_of_lt_succ h))
    exact ⟨hf, fun m rest e => Nat.le_trans (hl m rest e) (Nat.le_of_lt l)⟩

theorem classBody_length (rest : Bytes) : (classBody rest).length ≤ rest.length := by
  unfold classBody; split
  · exact length_drop_le 1 rest
  · exact Nat.le_refl _

theorem matchChunk_no_fuel (fuel : Nat) (chunk s : Bytes) (failed : Bool) :
    chunk.length ≤ fuel → matchChunk fuel chunk s failed ≠ .fuel := by
  fun_induction matchChunk fuel chunk s failed <;> intro h
  case case3 => exact absurd h (Nat.not_succ_le_zero _)   -- no budget, chunk not empty
  case case5 x =>   -- `[`: the class parser has budget enough
    exact absurd x (classLoop_spec _ _ _ false false (Nat.lt_succ_of_le (classBody_length _))).1
  case case6 x ih =>   -- `[…]` parsed: what follows it is shorter
    have hl := (classLoop_spec _ _ _ false false (Nat.lt_succ_of_le (classBody_length _))).2 _ _ x
    exact ih (Nat.le_trans hl (Nat.le_trans (classBody_length _) (Nat.le_of_succ_le_succ h)))
  case case7 ih => exact ih (Nat.le_of_succ_le_succ h)   -- `?`
  case case9 ih => exact ih (Nat.le_of_succ_le (Nat.le_of_succ_le_succ h))   -- `\c`: two bytes of the chunk
  case case10 ih => exact ih (Nat.le_of_succ_le_succ h)   -- a literal byte
  all_goals exact ChunkRes.noConfusion

theorem starSearch_no_fuel (chunk : Bytes) (last : Bool) (name : Bytes) : starSearch chunk last name ≠ .fuel := by
  fun_induction starSearch chunk last name
  case case6 hf => exact absurd hf (matchChunk_no_fuel _ _ _ _ (Nat.le_refl _))
  all_goals first | exact StarRes.noConfusion | assumption

theorem globStar_no_fuel (isStar : Bool) (chunk rest name : Bytes) : globStar isStar chunk rest name ≠ .done .fuel := by
  fun_cases globStar isStar chunk rest name
  case case4 hf => exact absurd hf (starSearch_no_fuel _ _ _)
  all_goals exact fun e => by cases e

theorem globStep_no_fuel (isStar : Bool) (chunk rest name : Bytes) : globStep isStar chunk rest name ≠ .done .fuel := by
  fun_cases globStep isStar chunk rest name
  case case1 => unfold ofBool; split <;> exact fun e => by cases e
  case case2 hf => exact absurd hf (matchChunk_no_fuel _ _ _ _ (Nat.le_refl _))
  case case5 => exact globStar_no_fuel _ _ _ _
  case case6 => exact globStar_no_fuel _ _ _ _
  all_goals exact fun e => by cases e

theorem scanLen_pos (inr : Bool) (x : UInt8) (xs : Bytes) (h : ¬ (x = cStar ∧ inr = false)) :
    0 < scanLen inr (x :: xs) := by
  unfold scanLen
  by_cases h1 : x = cBack
  · rw [if_pos h1]
    cases xs with
    | nil => exact Nat.one_pos
    | cons _ _ => exact Nat.add_pos_left (by decide) _
  · rw [if_neg h1]
    by_cases h2 : x = cLBr
    · rw [if_pos h2]; exact Nat.add_pos_left Nat.one_pos _
    · rw [if_neg h2]
      by_cases h3 : x = cRBr
      · rw [if_pos h3]; exact Nat.add_pos_left Nat.one_pos _
      · rw [if_neg h3, if_neg h]; exact Nat.add_pos_left Nat.one_pos _

theorem dropStars_length (p : Bytes) : (dropStars p).length ≤ p.length := by
  fun_induction dropStars p
  case case1 => exact Nat.le_refl _
  case case2 xs ih => exact Nat.le_succ_of_le ih
  case case3 => exact Nat.le_refl _

/-- every `Pattern:` iteration consumes at least one byte of the pattern -/
theorem restOf_length (p : UInt8) (ps : Bytes) : (restOf (p :: ps)).length < (p :: ps).length := by
  unfold restOf
  rw [List.length_drop]
  by_cases hp : p = cStar
  · subst hp
    exact Nat.lt_succ_of_le (Nat.le_trans (Nat.sub_le _ _) (dropStars_length ps))
  · rw [dropStars_of_ne ps hp]
    exact Nat.sub_lt (Nat.succ_pos _) (scanLen_pos false p ps (fun h => hp h.1))

theorem globLoop_no_fuel (fuel : Nat) (pattern name : Bytes) : pattern.length ≤ fuel →
    globLoop fuel pattern name ≠ .fuel := by
  fun_induction globLoop fuel pattern name <;> intro h
  · unfold ofBool; split <;> exact GlobRes.noConfusion
  · exact absurd h (Nat.not_succ_le_zero _)
  · rename_i hr
    intro e; rw [e] at hr
    exact globStep_no_fuel _ _ _ _ hr
  · rename_i ih
    exact ih (Nat.le_of_lt_succ (Nat.lt_of_lt_of_le (restOf_length _ _) h))

/-- every iteration either rejects or goes on with the tail of the pattern or a suffix of it -/
theorem escLoop_no_fuel (fuel : Nat) (pat ep sb : Bytes) : pat.length ≤ fuel → escLoop fuel pat ep sb ≠ .fuel := by
  fun_induction escLoop fuel pat ep sb <;> intro h
  all_goals first
    | exact EscRes.noConfusion
    | exact absurd h (Nat.not_succ_le_zero _)
    | (rename_i ih; exact ih (Nat.le_of_succ_le_succ h))
    | (rename_i ih; exact ih (Nat.le_trans (length_drop_le _ _) (Nat.le_of_succ_le_succ h)))

theorem plainPat_cons {c : UInt8} {rest : Bytes} (h : plainPat (c :: rest) = true) :
    (c ≠ cStar ∧ c ≠ 63 ∧ c ≠ cLBr ∧ c ≠ cBack) ∧ plainPat rest = true := by
  unfold plainPat at *
  simp only [Bool.and_eq_true, Bool.not_eq_eq_eq_not, Bool.not_true] at h ⊢
  obtain ⟨⟨⟨a, b⟩, l⟩, k⟩ := h
  exact ⟨⟨(not_contains_cons a).1, (not_contains_cons b).1, (not_contains_cons l).1, (not_contains_cons k).1⟩,
    ⟨⟨(not_contains_cons a).2, (not_contains_cons b).2⟩, (not_contains_cons l).2⟩, (not_contains_cons k).2⟩

theorem plainPat_no_star {s : Bytes} (h : plainPat s = true) : s.contains cStar = false := by
  unfold plainPat at h
  simp only [Bool.and_eq_true, Bool.not_eq_eq_eq_not, Bool.not_true] at h
  exact h.1.1.1

theorem scanLen_plain : ∀ (pat : Bytes) (inr : Bool), plainPat pat = true → scanLen inr pat = pat.length
  | [], _, _ => rfl
  | c :: rest, inr, hp => by
    obtain ⟨⟨h1, _, h3, h4⟩, hr⟩ := plainPat_cons hp
    unfold scanLen
    rw [if_neg h4, if_neg h3]
    by_cases h5 : c = cRBr
    · rw [if_pos h5, scanLen_plain rest _ hr, Nat.add_comm]; rfl
    · rw [if_neg h5, if_neg (fun e => h1 e.1), scanLen_plain rest _ hr, Nat.add_comm]; rfl

theorem parseChunk_plain : ∀ (pat : Bytes) (fuel : Nat), plainPat pat = true → pat.length ≤ fuel →
    parseChunk fuel pat = .ok (pat.map .lit)
  | [], _, _, _ => by unfold parseChunk; rfl
  | _ :: _, 0, _, h => absurd h (Nat.not_succ_le_zero _)
  | c :: rest, fuel + 1, hp, h => by
    obtain ⟨⟨_, h2, h3, h4⟩, hr⟩ := plainPat_cons hp
    unfold parseChunk
    rw [if_neg h3, if_neg h2, if_neg h4, parseChunk_plain rest fuel hr (Nat.le_of_succ_le_succ h)]
    rfl

theorem elemsMatch_lits : ∀ (pat s : Bytes), (elemsMatch (pat.map .lit) s == some []) = (s == pat)
  | [], [] => rfl
  | [], _ :: _ => rfl
  | _ :: _, [] => rfl
  | c :: cs, b :: s => by
    rw [List.map_cons, elemsMatch, List.cons_beq_cons, ← elemsMatch_lits cs s]
    show _ = (elemMatches (.lit c) b && _)
    cases elemMatches (.lit c) b <;> rfl

theorem ofBool_beq_yes (b : Bool) : (ofBool b == .yes) = b := by cases b <;> rfl

theorem ofBool_eq_yes (b : Bool) : ofBool b = .yes ↔ b = true := by cases b <;> decide

theorem globMatch_plain (pat s : Bytes) (hp : plainPat pat = true) : (globMatch pat s == .yes) = (s == pat) := by
  cases pat with
  | nil => cases s <;> rfl
  | cons p ps =>
    rw [globMatch_single_chunk _ s (List.cons_ne_nil p ps) (head?_of_not_contains (plainPat_no_star hp))
      (scanLen_plain _ _ hp), parseChunk_plain _ _ hp (Nat.le_refl _)]
    show (ofBool (elemsMatch ((p :: ps).map .lit) s == some []) == .yes) = _
    rw [ofBool_beq_yes, elemsMatch_lits]

end CaddyModel.C06
