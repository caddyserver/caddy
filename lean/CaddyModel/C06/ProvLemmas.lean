/-
C06 — `MatchHost.Provision` with `idna.ToASCII` as a parameter.
-/
import CaddyModel.C06.Lemmas

namespace CaddyModel.C06

/-- "some element was seen before" (the `seen` map of the first loop) -/
def hasDupWith : List Bytes → List Bytes → Bool
  | _, [] => false
  | seen, x :: r => seen.contains x || hasDupWith (x :: seen) r

theorem hasDupWith_iff : ∀ (xs seen : List Bytes),
    hasDupWith seen xs = true ↔ ((∃ x, x ∈ xs ∧ x ∈ seen) ∨ ¬ xs.Nodup)
  | [], seen => by simp [hasDupWith]
  | x :: r, seen => by
    simp only [hasDupWith, Bool.or_eq_true, List.contains_iff_mem, hasDupWith_iff r (x :: seen),
      List.mem_cons, List.nodup_cons]
    constructor
    · rintro (h | ⟨y, hy, hy' | hy'⟩ | h)
      · exact Or.inl ⟨x, Or.inl rfl, h⟩
      · subst hy'; exact Or.inr (fun hh => hh.1 hy)
      · exact Or.inl ⟨y, Or.inr hy, hy'⟩
      · exact Or.inr (fun hh => h hh.2)
    · rintro (⟨y, hy | hy, hys⟩ | h)
      · subst hy; exact Or.inl hys
      · exact Or.inr (Or.inl ⟨y, hy, Or.inr hys⟩)
      · by_cases hx : x ∈ r
        · exact Or.inr (Or.inl ⟨x, hx, Or.inl rfl⟩)
        · exact Or.inr (Or.inr (fun hn => h ⟨hx, hn⟩))

theorem hasDupWith_nil (xs : List Bytes) : hasDupWith [] xs = hasDup xs := by
  rw [Bool.eq_iff_iff, hasDupWith_iff, hasDup_iff]
  simp

theorem convAll_cons_some {idna : Bytes → Option Bytes} {x : Bytes} {t as : List Bytes}
    (h : convAll idna (x :: t) = some as) :
    ∃ a r, idna x = some a ∧ convAll idna t = some r ∧ as = a :: r := by
  unfold convAll at h
  cases hx : idna x with
  | none => rw [hx] at h; cases h
  | some a =>
    cases ht : convAll idna t with
    | none => rw [hx, ht] at h; cases h
    | some r => rw [hx, ht] at h; cases h; exact ⟨a, r, rfl, rfl, rfl⟩

theorem provPass1_of_conv (idna : Bytes → Option Bytes) : ∀ (l as seen acc : List Bytes),
    convAll idna l = some as →
    provPass1 idna l seen acc =
      if hasDupWith seen (as.map lower) then .dup else .ok (acc.reverse ++ as)
  | [], as, seen, acc, h => by
    cases h
    simp [provPass1, hasDupWith]
  | x :: t, as, seen, acc, h => by
    obtain ⟨a, r, hx, ht, rfl⟩ := convAll_cons_some h
    unfold provPass1
    rw [hx]
    simp only [List.map_cons, hasDupWith]
    cases hs : seen.contains (lower a) with
    | true => simp
    | false =>
      simp only [Bool.false_eq_true, if_false, Bool.false_or]
      rw [provPass1_of_conv idna t r _ _ ht]
      simp

theorem provPass1_ok_conv (idna : Bytes → Option Bytes) (l seen acc m : List Bytes)
    (h : provPass1 idna l seen acc = .ok m) : ∃ as, convAll idna l = some as := by
  fun_induction provPass1 idna l seen acc
  case case1 => exact ⟨[], rfl⟩
  case case2 => cases h
  case case3 => cases h
  case case4 x t seen acc a hx _ ih =>
    obtain ⟨r, hr⟩ := ih h
    exact ⟨a :: r, by unfold convAll; rw [hx, hr]⟩

theorem provisionHostI_eq (idna : Bytes → Option Bytes) (thr : Nat) (l as : List Bytes)
    (h : convAll idna l = some as) :
    provisionHostI idna thr l =
      match provisionHost thr as with
      | none => .dup
      | some m => .ok m := by
  unfold provisionHostI provisionHost
  rw [provPass1_of_conv idna l as [] [] h, hasDupWith_nil]
  by_cases hd : hasDup (as.map lower) = true
  · simp [hd]
  · have hd' : hasDup (as.map lower) = false := by simpa using hd
    simp only [hd', Bool.false_eq_true, if_false, List.reverse_nil, List.nil_append]
    split <;> rfl

theorem provisionHostI_ok_iff (idna : Bytes → Option Bytes) (thr : Nat) (l m : List Bytes) :
    provisionHostI idna thr l = .ok m ↔ ∃ as, convAll idna l = some as ∧ provisionHost thr as = some m := by
  constructor
  · intro h
    have hconv : ∃ as, convAll idna l = some as := by
      unfold provisionHostI at h
      cases hp : provPass1 idna l [] [] with
      | ok m0 => exact provPass1_ok_conv idna l [] [] m0 hp
      | idnaErr => rw [hp] at h; cases h
      | dup => rw [hp] at h; cases h
    obtain ⟨as, has⟩ := hconv
    rw [provisionHostI_eq idna thr l as has] at h
    cases hp : provisionHost thr as with
    | none => rw [hp] at h; cases h
    | some m' => rw [hp] at h; cases h; exact ⟨as, has, hp⟩
  · rintro ⟨as, has, hp⟩
    rw [provisionHostI_eq idna thr l as has, hp]

theorem hostCaseI_eq (idna : Bytes → Option Bytes) (thr : Nat) (l as : List Bytes) (rhost : Bytes)
    (h : convAll idna l = some as) :
    hostCaseI idna thr l rhost =
      match hostCase thr as rhost with
      | .dup => .dup
      | .res b => .res b := by
  unfold hostCaseI hostCase
  rw [provisionHostI_eq idna thr l as h]
  cases provisionHost thr as <;> rfl

theorem convAll_length (idna : Bytes → Option Bytes) : ∀ (l as : List Bytes), convAll idna l = some as → as.length = l.length
  | [], as, h => by cases h; rfl
  | x :: t, as, h => by
    obtain ⟨a, r, _, ht, rfl⟩ := convAll_cons_some h
    exact congrArg Nat.succ (convAll_length idna t r ht)

theorem convAll_mem (idna : Bytes → Option Bytes) : ∀ (l as : List Bytes), convAll idna l = some as →
    ∀ a, a ∈ as → ∃ e, e ∈ l ∧ idna e = some a
  | [], as, h, a, ha => by cases h; cases ha
  | x :: t, as, h, a, ha => by
    obtain ⟨b, r, hx, ht, rfl⟩ := convAll_cons_some h
    rcases List.mem_cons.mp ha with e | e
    · subst e; exact ⟨x, List.mem_cons_self, hx⟩
    · rcases convAll_mem idna t r ht a e with ⟨y, hy, hy'⟩
      exact ⟨y, List.mem_cons_of_mem _ hy, hy'⟩

end CaddyModel.C06
