/-
C06 — model of `MatchHost` / `MatchPath` / `MatchPathRE` (modules/caddyhttp/matchers.go) and of
`CleanPath` / `cleanPath` (modules/caddyhttp/caddyhttp.go), as the code is NOW (after the
`fix:` commits that lower-case exact entries and the probe of the large-list fast path, that
restrict that fast path to ASCII request hosts, and
that lower-case the escaped path (and the text built from it) for patterns containing `%`).

Byte strings are `List UInt8`.  `strings.ToLower` / `strings.EqualFold` are modelled by ASCII
case folding (they coincide with it on ASCII strings; the correspondence domain is ASCII, see
`inDomainHost`, `inDomainPath` in Driver.lean).  Standard-library functions are modelled by what they compute, not by
their loops: `path.Clean` as a segment stack, `net.SplitHostPort` by its case analysis,
`sort.Slice` as insertion sort (the comparator is a strict total order on duplicate-free lists,
so every correct sort returns the same slice), `sort.Search` as its binary-search loop,
`path.Match` chunk by chunk with its back-tracking star loop.  `idna.ToASCII` and
`Replacer.ReplaceAll` are the identity on the correspondence domain.
-/
import CaddyModel.Util.Hex

namespace CaddyModel.C06

/-! ### strings -/

def lowerByte (b : UInt8) : UInt8 := if 65 ≤ b ∧ b ≤ 90 then b + 32 else b

/-- `strings.ToLower` on ASCII -/
def lower (s : Bytes) : Bytes := s.map lowerByte

/-- `strings.EqualFold` on ASCII -/
def equalFold (a b : Bytes) : Bool := lower a == lower b

def cSlash : UInt8 := 47
def cDot : UInt8 := 46
def cStar : UInt8 := 42
def cPct : UInt8 := 37
def cColon : UInt8 := 58
def cLBr : UInt8 := 91     -- '['
def cRBr : UInt8 := 93     -- ']'
def cBack : UInt8 := 92    -- '\\'
def cBrace : UInt8 := 123  -- '{'

/-- `strings.HasPrefix s pre` -/
def hasPrefix : Bytes → Bytes → Bool
  | _, [] => true
  | [], _ :: _ => false
  | x :: xs, p :: ps => x == p && hasPrefix xs ps

/-- `strings.HasSuffix s suf` -/
def hasSuffix (s suf : Bytes) : Bool := hasPrefix s.reverse suf.reverse

/-- `strings.Contains s sub` -/
def containsSub : Bytes → Bytes → Bool
  | [], sub => sub.isEmpty
  | x :: xs, sub => hasPrefix (x :: xs) sub || containsSub xs sub

/-- `strings.Count s c` for a single byte -/
def countByte (c : UInt8) (s : Bytes) : Nat := (s.filter (· == c)).length

def consHead (x : UInt8) : List Bytes → List Bytes
  | [] => [[x]]
  | s :: ss => (x :: s) :: ss

/-- `strings.Split s (string c)`: always at least one piece -/
def splitOn (c : UInt8) : Bytes → List Bytes
  | [] => [[]]
  | x :: xs => if x = c then [] :: splitOn c xs else consHead x (splitOn c xs)

/-- `strings.Join segs (string c)` -/
def joinSep (c : UInt8) : List Bytes → Bytes
  | [] => []
  | [s] => s
  | s :: t :: ss => s ++ c :: joinSep c (t :: ss)

/-- Go's `a < b` on strings (byte-wise lexicographic) -/
def bytesLt : Bytes → Bytes → Bool
  | _, [] => false
  | [], _ :: _ => true
  | x :: xs, y :: ys => x < y || (x == y && bytesLt xs ys)

/-! ### MatchHost -/

def trimPrefixByte (c : UInt8) : Bytes → Bytes
  | [] => []
  | x :: xs => if x = c then xs else x :: xs

/-- `strings.TrimPrefix(·, "[")` then `strings.TrimSuffix(·, "]")` -/
def trimBrackets (h : Bytes) : Bytes :=
  (trimPrefixByte cRBr (trimPrefixByte cLBr h).reverse).reverse

/-- position of the last `c` in `s` (`bytealg.LastIndexByteString`) -/
def lastIndexOf (c : UInt8) : Bytes → Option Nat
  | [] => none
  | x :: xs => match lastIndexOf c xs with
    | some i => some (i + 1)
    | none => if x = c then some 0 else none

def indexOf (c : UInt8) : Bytes → Option Nat
  | [] => none
  | x :: xs => if x = c then some 0 else (indexOf c xs).map (· + 1)

/-- the host part of `net.SplitHostPort`, `none` = it returned an error -/
def splitHostPort (hp : Bytes) : Option Bytes :=
  match lastIndexOf cColon hp with
  | none => none                                   -- missing port
  | some i =>
    if hp.head? = some cLBr then
      match indexOf cRBr hp with
      | none => none                               -- missing ']'
      | some e =>
        if e + 1 = i then
          if (hp.drop 1).contains cLBr || (hp.drop (e + 1)).contains cRBr then none
          else some ((hp.take e).drop 1)
        else none                                  -- missing port / too many colons
    else
      if (hp.take i).contains cColon then none     -- too many colons
      else if hp.contains cLBr || hp.contains cRBr then none
      else some (hp.take i)

/-- `reqHost` of `MatchHost.MatchWithError` -/
def stripPort (rhost : Bytes) : Bytes :=
  match splitHostPort rhost with
  | some h => h
  | none => trimBrackets rhost

/-- `MatchHost.fuzzy`: `strings.ContainsAny(h, "{*")` -/
def fuzzy (h : Bytes) : Bool := h.contains cBrace || h.contains cStar

/-- the comparator given to `sort.Slice` in `Provision` -/
def hostLess (a b : Bytes) : Bool :=
  if fuzzy a && !fuzzy b then true
  else if !fuzzy a && fuzzy b then false
  else bytesLt a b

def insertHost (x : Bytes) : List Bytes → List Bytes
  | [] => [x]
  | y :: ys => if hostLess y x then y :: insertHost x ys else x :: y :: ys

/-- the slice after `sort.Slice(m, …)` -/
def sortHosts : List Bytes → List Bytes
  | [] => []
  | x :: xs => insertHost x (sortHosts xs)

/-- the duplicate check of `Provision` (first loop, `seen[strings.ToLower(asciiHost)]`) -/
def hasDup : List Bytes → Bool
  | [] => false
  | x :: xs => xs.contains x || hasDup xs

def lowerExact (h : Bytes) : Bytes := if fuzzy h then h else lower h

/-- `MatchHost.Provision` with `large() = len(m) > thr`; `none` = error (repeated host) -/
def provisionHost (thr : Nat) (l : List Bytes) : Option (List Bytes) :=
  if hasDup (l.map lower) then none
  else if l.length > thr then some (sortHosts (l.map lowerExact))
  else some l

/-- the loop of `sort.Search(n, f)` -/
def searchLoop (f : Nat → Bool) : Nat → Nat → Nat → Nat
  | 0, i, _ => i
  | fuel + 1, i, j =>
    if i < j then
      if f ((i + j) / 2) then searchLoop f fuel i ((i + j) / 2)
      else searchLoop f fuel ((i + j) / 2 + 1) j
    else i

def sortSearch (n : Nat) (f : Nat → Bool) : Nat := searchLoop f n 0 n

/-- the predicate handed to `sort.Search` by the fast path -/
def searchPred (m : List Bytes) (target : Bytes) (i : Nat) : Bool :=
  match m[i]? with
  | some e => !fuzzy e && !bytesLt e target
  | none => false

/-- `pos < len(m) && m[pos] == reqHostLower` -/
def fastHit (m : List Bytes) (target : Bytes) : Bool :=
  m[sortSearch m.length (searchPred m target)]? == some target

/-- one label: `*` stands for exactly one NON-EMPTY label (as in TLS server name matching, since
    the `fix:` commit "a wildcard label of the host matcher no longer matches an empty label");
    any other pattern label is compared case-insensitively -/
def labelMatch (p h : Bytes) : Bool :=
  if p == [cStar] then !h.isEmpty else equalFold p h

/-- label-wise comparison of a wildcard entry -/
def labelsMatch : List Bytes → List Bytes → Bool
  | [], [] => true
  | p :: ps, h :: hs => labelMatch p h && labelsMatch ps hs
  | _, _ => false

/-- one iteration of the `outer:` loop body (after the replacer, which is the identity) -/
def entryMatches (reqHost : Bytes) (e : Bytes) : Bool :=
  if e.contains cStar then labelsMatch (splitOn cDot e) (splitOn cDot reqHost)
  else equalFold reqHost e

/-- the `outer:` loop -/
def hostLoop (large : Bool) (reqHost : Bytes) : List Bytes → Bool
  | [] => false
  | e :: es =>
    if large && !fuzzy e then false      -- `break`
    else entryMatches reqHost e || hostLoop large reqHost es

/-- `isASCII(reqHost)` -/
def asciiOnly (s : Bytes) : Bool := s.all (· < 128)

/-- `large := m.large() && isASCII(reqHost)`: the fast paths are taken for ASCII request hosts only -/
def useFast (thr : Nat) (m : List Bytes) (reqHost : Bytes) : Bool :=
  decide (m.length > thr) && asciiOnly reqHost

/-- `MatchHost.MatchWithError` on a provisioned slice `m` -/
def matchHost (thr : Nat) (m : List Bytes) (rhost : Bytes) : Bool :=
  if useFast thr m (stripPort rhost) && fastHit m (lower (stripPort rhost)) then true
  else hostLoop (useFast thr m (stripPort rhost)) (stripPort rhost) m

/-- Provision + Match -/
inductive HostRes where
  | dup
  | res (b : Bool)
deriving DecidableEq, Repr

def hostCase (thr : Nat) (l : List Bytes) (rhost : Bytes) : HostRes :=
  match provisionHost thr l with
  | none => .dup
  | some m => .res (matchHost thr m rhost)

/-! ### path.Clean, cleanPath, CleanPath -/

def dot : Bytes := [cDot]
def dotdot : Bytes := [cDot, cDot]

/-- one segment of `path.Clean`; `st` is the output so far, last segment first -/
def cleanStep (rooted : Bool) (st : List Bytes) (seg : Bytes) : List Bytes :=
  if seg = [] ∨ seg = dot then st
  else if seg = dotdot then
    match st with
    | [] => if rooted then [] else [dotdot]
    | t :: r => if t = dotdot then dotdot :: t :: r else r
  else seg :: st

def isRooted (p : Bytes) : Bool := p.head? == some cSlash

def cleanSegs (rooted : Bool) (segs : List Bytes) : List Bytes :=
  (segs.foldl (cleanStep rooted) []).reverse

def renderClean (rooted : Bool) (segs : List Bytes) : Bytes :=
  if rooted then cSlash :: joinSep cSlash segs
  else if segs = [] then dot else joinSep cSlash segs

/-- `path.Clean` -/
def pathClean (p : Bytes) : Bytes :=
  if p = [] then dot
  else renderClean (isRooted p) (cleanSegs (isRooted p) (splitOn cSlash p))

def endsWithSlash (p : Bytes) : Bool := p.getLast? == some cSlash

/-- `cleanPath` (caddyhttp.go): `path.Clean` but a trailing slash survives -/
def cleanPath (p : Bytes) : Bytes :=
  if pathClean p ≠ [cSlash] ∧ endsWithSlash p then pathClean p ++ [cSlash] else pathClean p

/-- the loop of `CleanPath(p, false)`: a `0xff` byte goes between two consecutive slashes -/
def expandSlashes : Bool → Bytes → Bytes
  | _, [] => []
  | prevSlash, x :: xs =>
    if x = cSlash ∧ prevSlash then 255 :: x :: expandSlashes true xs
    else x :: expandSlashes (x == cSlash) xs

/-- `CleanPath(p, collapseSlashes)` -/
def cleanPathMode (merge : Bool) (p : Bytes) : Bytes :=
  if merge then cleanPath p
  else (cleanPath (expandSlashes false p)).filter (· ≠ 255)

/-! ### path.Match -/

inductive ChunkRes where
  | ok (rest : Bytes)
  | fail
  | bad           -- ErrBadPattern
  | fuel
deriving DecidableEq, Repr

def dropStars : Bytes → Bytes
  | [] => []
  | x :: xs => if x = cStar then dropStars xs else x :: xs

/-- length of the chunk found by the `Scan:` loop of `scanChunk` -/
def scanLen : Bool → Bytes → Nat
  | _, [] => 0
  | inr, x :: rest =>
    if x = cBack then
      match rest with
      | [] => 1
      | _ :: rest' => 2 + scanLen inr rest'
    else if x = cLBr then 1 + scanLen true rest
    else if x = cRBr then 1 + scanLen false rest
    else if x = cStar ∧ inr = false then 0
    else 1 + scanLen inr rest

/-- `scanChunk`: the chunk … -/
def chunkOf (pat : Bytes) : Bytes := (dropStars pat).take (scanLen false (dropStars pat))

/-- … and the rest of the pattern -/
def restOf (pat : Bytes) : Bytes := (dropStars pat).drop (scanLen false (dropStars pat))

/-- `getEsc`; `none` = ErrBadPattern -/
def getEsc : Bytes → Option (UInt8 × Bytes)
  | [] => none
  | c :: rest =>
    if c = 45 ∨ c = cRBr then none
    else if c = cBack then
      match rest with
      | [] => none
      | d :: rest' => if rest' = [] then none else some (d, rest')
    else if rest = [] then none else some (c, rest)

inductive ClassRes where
  | ok (mt : Bool) (rest : Bytes)
  | bad
  | fuel
deriving DecidableEq, Repr

def inRange (lo hi r : UInt8) : Bool := decide (lo ≤ r) && decide (r ≤ hi)

/-- the `for {…}` loop that parses the ranges of a character class -/
def classLoop (r : UInt8) : Nat → Bytes → Bool → Bool → ClassRes
  | 0, _, _, _ => .fuel
  | fuel + 1, chunk, seen, mt =>
    if chunk.head? = some cRBr ∧ seen = true then .ok mt (chunk.drop 1)
    else match getEsc chunk with
      | none => .bad
      | some (lo, c1) =>
        if c1.head? = some 45 then
          match getEsc (c1.drop 1) with
          | none => .bad
          | some (hi, c2) => classLoop r fuel c2 true (mt || inRange lo hi r)
        else classLoop r fuel c1 true (mt || inRange lo lo r)

def adv (failed : Bool) (s : Bytes) : Bytes := if failed then s else s.drop 1

/-- the rune read by the `[` case (0 when the match has already failed) -/
def classRune (failed : Bool) (s : Bytes) : UInt8 :=
  if failed then 0 else match s with | [] => 0 | x :: _ => x

def negated (chunk : Bytes) : Bool := chunk.head? == some 94

def classBody (chunk : Bytes) : Bytes := if negated chunk then chunk.drop 1 else chunk

/-- `matchChunk(chunk, s)`; `failed` is the Go variable of the same name -/
def matchChunk : Nat → Bytes → Bytes → Bool → ChunkRes
  | _, [], s, failed => if failed then .fail else .ok s
  | 0, _ :: _, _, _ => .fuel
  | fuel + 1, c :: rest, s, failed =>
    if c = cLBr then
      match classLoop (classRune (failed || s.isEmpty) s) (rest.length + 1) (classBody rest) false false with
      | .bad => .bad
      | .fuel => .fuel
      | .ok mt rest' =>
        matchChunk fuel rest' (adv (failed || s.isEmpty) s) (failed || s.isEmpty || (mt == negated rest))
    else if c = 63 then
      matchChunk fuel rest (adv (failed || s.isEmpty) s) (failed || s.isEmpty || s.head? == some cSlash)
    else if c = cBack then
      match rest with
      | [] => .bad
      | d :: rest' =>
        matchChunk fuel rest' (adv (failed || s.isEmpty) s) (failed || s.isEmpty || s.head? != some d)
    else
      matchChunk fuel rest (adv (failed || s.isEmpty) s) (failed || s.isEmpty || s.head? != some c)

inductive StarRes where
  | found (t : Bytes)
  | notFound
  | bad
  | fuel
deriving DecidableEq, Repr

/-- the `for i := 0; i < len(name) && name[i] != '/'; i++` loop of `Match` -/
def starSearch (chunk : Bytes) (last : Bool) : Bytes → StarRes
  | [] => .notFound
  | c :: rest =>
    if c = cSlash then .notFound
    else match matchChunk chunk.length chunk rest false with
      | .ok t => if last && !t.isEmpty then starSearch chunk last rest else .found t
      | .bad => .bad
      | .fuel => .fuel
      | .fail => starSearch chunk last rest

inductive GlobRes where
  | yes
  | no
  | bad
  | fuel
deriving DecidableEq, Repr

def ofBool (b : Bool) : GlobRes := if b then .yes else .no

inductive Step where
  | done (r : GlobRes)
  | next (t : Bytes)
deriving DecidableEq, Repr

/-- the `if star { for i := … }` part of one `Pattern:` iteration -/
def globStar (isStar : Bool) (chunk rest name : Bytes) : Step :=
  if isStar then
    match starSearch chunk rest.isEmpty name with
    | .found t => .next t
    | .notFound => .done .no
    | .bad => .done .bad
    | .fuel => .done .fuel
  else .done .no

/-- one iteration of the `Pattern:` loop after `star, chunk, pattern = scanChunk(pattern)` -/
def globStep (isStar : Bool) (chunk rest name : Bytes) : Step :=
  if isStar && chunk.isEmpty then .done (ofBool (!name.contains cSlash))
  else match matchChunk chunk.length chunk name false with
    | .fuel => .done .fuel
    | .bad => .done .bad
    | .ok t => if t.isEmpty || !rest.isEmpty then .next t else globStar isStar chunk rest name
    | .fail => globStar isStar chunk rest name

/-- `path.Match(pattern, name)`; the `Pattern:` loop, one chunk per unit of fuel -/
def globLoop : Nat → Bytes → Bytes → GlobRes
  | _, [], name => ofBool name.isEmpty
  | 0, _ :: _, _ => .fuel
  | fuel + 1, p :: ps, name =>
    match globStep (p == cStar) (chunkOf (p :: ps)) (restOf (p :: ps)) name with
    | .done r => r
    | .next t => globLoop fuel (restOf (p :: ps)) t

def globMatch (pattern name : Bytes) : GlobRes := globLoop (pattern.length + 1) pattern name

/-! ### MatchPath -/

def hexVal (c : UInt8) : Option UInt8 :=
  if 48 ≤ c ∧ c ≤ 57 then some (c - 48)
  else if 97 ≤ c ∧ c ≤ 102 then some (c - 87)
  else if 65 ≤ c ∧ c ≤ 70 then some (c - 55)
  else none

/-- `url.PathUnescape`; `none` = error -/
def pathUnescape : Bytes → Option Bytes
  | [] => some []
  | c :: rest =>
    if c = cPct then
      match rest with
      | a :: b :: rest' =>
        match hexVal a, hexVal b, pathUnescape rest' with
        | some x, some y, some r => some ((x <<< 4 ||| y) :: r)
        | _, _, _ => none
      | _ => none
    else (pathUnescape rest).map (c :: ·)

/-- `strings.ReplaceAll(p, "%*", "*")` -/
def replacePctStar : Bytes → Bytes
  | [] => []
  | [x] => [x]
  | x :: y :: rest =>
    if x = cPct ∧ y = cStar then cStar :: replacePctStar rest
    else x :: replacePctStar (y :: rest)

inductive EscRes where
  | built (sb : Bytes) (rest : Bytes)   -- loop left: text built, `escapedPath[iPath:]`
  | reject                -- one of the `return false` statements
  | fuel
deriving DecidableEq, Repr

/-- the wildcard arm of the lock-step loop; `pat1` starts at the `*` (or is what follows a
    lone trailing `%`), `ep'` is `escapedPath[iPath:]`.  Result: (text to append, bytes to skip). -/
def escSpan (pat1 ep' : Bytes) (normalize : Bool) : Option (Bytes × Nat) :=
  match (match pat1.drop 1 with
         | nextCh :: _ => indexOf nextCh ep'
         | [] => some ep'.length) with
  | none => none
  | some upto =>
    if upto = 0 then some ([], 0)
    else if normalize then (pathUnescape (ep'.take upto)).map (·, upto)
    else some (ep'.take upto, upto)

/-- the lock-step loop of `matchPatternWithEscapeSequence`: builds `sb` -/
def escLoop : Nat → Bytes → Bytes → Bytes → EscRes
  | _, [], erest, sb => .built sb erest
  | _, _ :: _, [], sb => .built sb []
  | 0, _ :: _, _ :: _, _ => .fuel
  | fuel + 1, pc :: prest, ec :: erest, sb =>
      -- decode an escape sequence of the path
      if ec = cPct ∧ erest.length ≥ 2 then
        match pathUnescape (lower (ec :: erest.take 2)) with
        | none => .reject
        | some pathCh =>
          if pc = cPct then
            if prest.length ≥ 2 ∧ prest.head? ≠ some cStar then
              escLoop fuel (prest.drop 2) (erest.drop 2) (sb ++ lower (ec :: erest.take 2))
            else match escSpan prest (erest.drop 1) false with
              | none => .reject
              | some (txt, n) => escLoop fuel (prest.drop 1) ((erest.drop 1).drop n) (sb ++ txt)
          else if pc = cStar then
            match escSpan (pc :: prest) (erest.drop 1) true with
            | none => .reject
            | some (txt, n) => escLoop fuel prest ((erest.drop 1).drop n) (sb ++ txt)
          else escLoop fuel prest (erest.drop 2) (sb ++ pathCh)
      else
        if pc = cPct then
          if prest.length ≥ 2 ∧ prest.head? ≠ some cStar then
            escLoop fuel (prest.drop 2) erest sb
          else match escSpan prest (ec :: erest) false with
            | none => .reject
            | some (txt, n) => escLoop fuel (prest.drop 1) ((ec :: erest).drop n) (sb ++ txt)
        else if pc = cStar then
          match escSpan (pc :: prest) (ec :: erest) true with
          | none => .reject
          | some (txt, n) => escLoop fuel prest ((ec :: erest).drop n) (sb ++ txt)
        else escLoop fuel prest erest (sb ++ [ec])

/-- `matchPatternWithEscapeSequence(escapedPath, matchPath)` -/
def escMatch (escapedPath pat : Bytes) : Bool :=
  match escLoop (pat.length + 1) pat escapedPath [] with
  | .built sb rest =>
    -- since /repo 84b6e63: whatever the pattern did not reach still is part of the path
    if rest.length > 0 then
      match pathUnescape rest with
      | none => false
      | some r => globMatch (replacePctStar pat) (lower (sb ++ r)) == .yes
    else globMatch (replacePctStar pat) (lower sb) == .yes
  | _ => false

def star : Bytes := [cStar]

/-- `MatchPath.Provision`, indices ≥ 1: (slice, whether a bare `*` was met) -/
def provTail : List Bytes → List Bytes × Bool
  | [] => ([], false)
  | p :: ps => if p = star then (p :: ps, true) else ((lower p :: (provTail ps).1), (provTail ps).2)

/-- `MatchPath.Provision` -/
def provisionPath : List Bytes → List Bytes
  | [] => []
  | p :: ps => (if (provTail ps).2 then star else lower p) :: (provTail ps).1

/-- the body of the loop of `MatchPath.MatchWithError` for one (provisioned) pattern;
    `lp` = `strings.ToLower(r.URL.Path)`, `esc` = `r.URL.EscapedPath()` -/
def patMatches (lp esc : Bytes) (pat : Bytes) : Bool :=
  if pat = star then true
  else if pat.contains cPct then
    escMatch (cleanPathMode (!containsSub pat [cSlash, cSlash]) (lower esc)) pat
  else if countByte cStar pat = 2 ∧ pat.head? = some cStar ∧ pat.getLast? = some cStar then
    containsSub (cleanPathMode (!containsSub pat [cSlash, cSlash]) lp) ((pat.drop 1).dropLast)
  else if countByte cStar pat = 1 ∧ pat.head? = some cStar then
    hasSuffix (cleanPathMode (!containsSub pat [cSlash, cSlash]) lp) (pat.drop 1)
  else if countByte cStar pat = 1 ∧ pat.getLast? = some cStar then
    hasPrefix (cleanPathMode (!containsSub pat [cSlash, cSlash]) lp) pat.dropLast
  else globMatch pat (cleanPathMode (!containsSub pat [cSlash, cSlash]) lp) == .yes

/-- `MatchPath.MatchWithError` on a provisioned slice -/
def matchPath (m : List Bytes) (path esc : Bytes) : Bool :=
  m.any (patMatches (lower path) esc)

/-- Provision + Match -/
def pathCase (l : List Bytes) (path esc : Bytes) : Bool :=
  matchPath (provisionPath l) path esc

/-! ### MatchPathRE (the regular expression itself is `regexp`'s; the harness uses the three
    literal shapes `^lit$`, `^lit`, `lit`) -/

inductive ReKind where
  | full | pre | sub
deriving DecidableEq, Repr

def reMatches (k : ReKind) (lit s : Bytes) : Bool :=
  match k with
  | .full => s == lit
  | .pre => hasPrefix s lit
  | .sub => containsSub s lit

/-- `MatchPathRE.MatchWithError`: the expression sees `cleanPath(r.URL.Path)` (not lower-cased) -/
def matchPathRE (k : ReKind) (lit path : Bytes) : Bool := reMatches k lit (cleanPath path)

/-! ### a matcher set `{"host": […], "path": […]}` (routes.go `MatcherSet.MatchWithError`): every
    matcher of the set must match; Provision of the set fails if one of its matchers' does -/

/-- `Route.ProvisionMatchers` + `MatcherSets.AnyMatchWithError` for one set with a host and a path matcher -/
def setCase (thr : Nat) (hosts pats : List Bytes) (rhost path esc : Bytes) : HostRes :=
  match hostCase thr hosts rhost with
  | .dup => .dup
  | .res b => .res (b && pathCase pats path esc)

/-! ### Caddyfile glue (caddyconfig/httpcaddyfile): a site block `<key> { respond <matcher> "hit" }`

`ParseAddress` + `Address.Normalize` turn the site key into a host and a path;
`compileEncodedMatcherSets` makes them the site's `host` / `path` matchers;
`matcherSetFromMatcherToken` turns the directive's matcher token into a matcher set
(`*` = none, `/…` = `path [tok]`, `@name` = the named set, whose `host …` / `path …` lines
simply collect their arguments).  A request reaches the handler iff the site's set and the
directive's set both match. -/

def httpScheme : Bytes := [104, 116, 116, 112, 58, 47, 47]   -- "http://"

def httpsScheme : Bytes := [104, 116, 116, 112, 115, 58, 47, 47]   -- "https://"

def dropScheme (key : Bytes) : Bytes :=
  if hasPrefix key httpScheme then key.drop httpScheme.length
  else if hasPrefix key httpsScheme then key.drop httpsScheme.length else key

/-- `host, port, err := net.SplitHostPort(s)`, on error retried with `s + ":"`, else `s` itself -/
def addrHost (hostport : Bytes) : Bytes :=
  match splitHostPort hostport with
  | some h => h
  | none =>
    match splitHostPort (hostport ++ [cColon]) with
    | some h => h
    | none => hostport

/-- `ParseAddress(key).Normalize()`: (Host, Path) -/
def parseSiteKey (key : Bytes) : Bytes × Bytes :=
  (lower (addrHost ((dropScheme key).takeWhile (· != cSlash))), (dropScheme key).dropWhile (· != cSlash))

inductive TokMode where
  | none      -- `respond "hit"`
  | star      -- `respond * "hit"`
  | implicit  -- `respond /path "hit"`
  | handle    -- `handle /path { respond "hit" }` (also `route`)
  | handlePath -- `handle_path /path { respond "hit" }`: the same path matcher, then a prefix strip
  | named     -- `@m { host …; path … }` + `respond @m "hit"`
deriving DecidableEq, Repr

def resAnd : HostRes → HostRes → HostRes
  | .dup, _ => .dup
  | _, .dup => .dup
  | .res a, .res b => .res (a && b)

/-- the matcher set of the directive -/
def tokCase (thr : Nat) (mode : TokMode) (hosts pats : List Bytes) (rhost path esc : Bytes) : HostRes :=
  match mode with
  | .none => .res true
  | .star => .res true
  | .implicit => .res (pathCase pats path esc)
  | .handle => .res (pathCase pats path esc)
  | .handlePath => .res (pathCase pats path esc)
  | .named =>
    resAnd (if hosts.isEmpty then .res true else hostCase thr hosts rhost)
           (.res (pats.isEmpty || pathCase pats path esc))

/-- adapt + provision + serve: does the request reach the handler of the site block? -/
def siteCase (thr : Nat) (key : Bytes) (mode : TokMode) (hosts pats : List Bytes)
    (rhost path esc : Bytes) : HostRes :=
  resAnd
    (resAnd (if (parseSiteKey key).1.isEmpty then .res true else hostCase thr [(parseSiteKey key).1] rhost)
            (.res ((parseSiteKey key).2.isEmpty || pathCase [(parseSiteKey key).2] path esc)))
    (tokCase thr mode hosts pats rhost path esc)

/-! ### MatchHost.Provision with `idna.ToASCII` as a parameter

`idna : Bytes → Option Bytes` (`none` = it returned an error) is the value the real
`idna.ToASCII` returned for each entry; the harness ships those values with the case.
First loop: entry by entry, convert, store the converted form, check the lower-cased converted
form against the ones seen so far.  Second part (large lists only): lower-case the exact
entries of the *converted* slice, sort. -/

inductive ProvRes where
  | idnaErr                   -- "converting hostname … to ASCII"
  | dup                       -- "host at index … is repeated"
  | ok (m : List Bytes)
deriving DecidableEq, Repr

/-- the first loop; `seen` = the map keys so far, `acc` = the converted prefix, last first -/
def provPass1 (idna : Bytes → Option Bytes) : List Bytes → List Bytes → List Bytes → ProvRes
  | [], _, acc => .ok acc.reverse
  | h :: t, seen, acc =>
    match idna h with
    | none => .idnaErr
    | some a => if seen.contains (lower a) then .dup else provPass1 idna t (lower a :: seen) (a :: acc)

/-- `MatchHost.Provision` -/
def provisionHostI (idna : Bytes → Option Bytes) (thr : Nat) (l : List Bytes) : ProvRes :=
  match provPass1 idna l [] [] with
  | .ok m => if m.length > thr then .ok (sortHosts (m.map lowerExact)) else .ok m
  | .idnaErr => .idnaErr
  | .dup => .dup

inductive HostResI where
  | idnaErr
  | dup
  | res (b : Bool)
deriving DecidableEq, Repr

/-- Provision + Match with the conversion as a parameter -/
def hostCaseI (idna : Bytes → Option Bytes) (thr : Nat) (l : List Bytes) (rhost : Bytes) : HostResI :=
  match provisionHostI idna thr l with
  | .ok m => .res (matchHost thr m rhost)
  | .idnaErr => .idnaErr
  | .dup => .dup

/-! ### `not` (matchers.go `MatchNot`): `{"not": [{"host": […]}, {"path": […]}]}` matches iff none of
    its matcher sets does -/

def notCase (thr : Nat) (hosts pats : List Bytes) (rhost path esc : Bytes) : HostRes :=
  match hostCase thr hosts rhost with
  | .dup => .dup
  | .res b => .res (!(b || pathCase pats path esc))

/-! ### host matching through the PROVISIONED SERVER (app.go / autohttps.go glue)

`App.Provision` → `automaticHTTPSPhase1`: the route matchers are provisioned
(`MatchHost.Provision`, above), then phase 1 walks over every provisioned `*MatchHost` and
expands the GLOBAL placeholders of each entry (`repl.ReplaceOrErr(d, true, false)`: an
`{env.…}` that evaluates to the empty string is an error, request placeholders are left
alone) to collect the server's domain names.  It only READS the slice.  At request time
`MatchWithError` expands every visited entry with the request's replacer
(`repl.ReplaceAll(host, "")`) before comparing it. -/

def cRBrace : UInt8 := 125

/-- the text up to the first `}` and what follows it -/
def takeKey : Bytes → Option (Bytes × Bytes)
  | [] => none
  | c :: r =>
    if c = cRBrace then some ([], r)
    else match takeKey r with
      | some (k, rest) => some (c :: k, rest)
      | none => none

/-- `Replacer.ReplaceAll(s, "")` on entries whose braces are well-formed placeholders:
    `look key` is the value (empty for unknown / unset) -/
def expand (look : Bytes → Bytes) : Nat → Bytes → Bytes
  | 0, s => s
  | _ + 1, [] => []
  | fuel + 1, c :: r =>
    if c = cBrace then
      match takeKey r with
      | some (k, rest) => look k ++ expand look fuel rest
      | none => c :: r
    else c :: expand look fuel r

/-- the placeholder keys of an entry -/
def keysOf : Nat → Bytes → List Bytes
  | 0, _ => []
  | _ + 1, [] => []
  | fuel + 1, c :: r =>
    if c = cBrace then
      match takeKey r with
      | some (k, rest) => k :: keysOf fuel rest
      | none => []
    else keysOf fuel r

/-- `automaticHTTPSPhase1` as far as a provisioned host matcher is concerned: `none` = it
    returns an error (a global placeholder of an entry evaluates to the empty string);
    otherwise the slice it leaves behind — the slice it was given -/
def autohttpsHostView (emptyGlobal : Bytes → Bool) (m : List Bytes) : Option (List Bytes) :=
  if m.any (fun e => (keysOf e.length e).any emptyGlobal) then none else some m

/-- the `outer:` loop with the per-request expansion `f` of each visited entry -/
def hostLoopX (f : Bytes → Bytes) (large : Bool) (reqHost : Bytes) : List Bytes → Bool
  | [] => false
  | e :: es =>
    if large && !fuzzy e then false
    else entryMatches reqHost (f e) || hostLoopX f large reqHost es

/-- `MatchHost.MatchWithError` with the replacer as the parameter `f` -/
def matchHostX (f : Bytes → Bytes) (thr : Nat) (m : List Bytes) (rhost : Bytes) : Bool :=
  if useFast thr m (stripPort rhost) && fastHit m (lower (stripPort rhost)) then true
  else hostLoopX f (useFast thr m (stripPort rhost)) (stripPort rhost) m

inductive SrvRes where
  | dup           -- Provision: repeated host
  | phase1Err     -- automatic HTTPS phase 1: empty global placeholder
  | res (b : Bool)
deriving DecidableEq, Repr

/-- load the config (provision matchers, automatic HTTPS phase 1), then serve one request:
    does the route behind the host matcher answer? -/
def srvHostCase (thr : Nat) (l : List Bytes) (look : Bytes → Bytes) (emptyGlobal : Bytes → Bool)
    (rhost : Bytes) : SrvRes :=
  match provisionHost thr l with
  | none => .dup
  | some m =>
    match autohttpsHostView emptyGlobal m with
    | none => .phase1Err
    | some m' => .res (matchHostX (fun e => expand look e.length e) thr m' rhost)

/-! ### the HTTP→HTTPS redirect route of automatic HTTPS (autohttps.go, second half of phase 1)

Every name phase 1 read out of the server's provisioned host matchers (global placeholders
expanded) becomes a "redirect domain"; the domains (a map's keys: no exact repeats) are sorted
byte-wise (`slices.Sorted`) and wrapped as `MatchHost(domains)` in a redirect route whose
target carries the server's port; behind it sits a catch-all redirect to the default HTTPS
port.  These matcher modules are not loaded from JSON; the code as it is (`provisioned = true`)
de-duplicates the names case-insensitively and calls `Provision` on the matcher by hand;
`provisioned = false` is the code before that `fix:` commit, which used the matcher as built. -/

def insertBytes (x : Bytes) : List Bytes → List Bytes
  | [] => [x]
  | y :: ys => if bytesLt x y then x :: y :: ys else if x = y then y :: ys else y :: insertBytes x ys

/-- `slices.Sorted(maps.Keys(…))`: distinct strings in byte order -/
def sortDedup : List Bytes → List Bytes
  | [] => []
  | x :: xs => insertBytes x (sortDedup xs)

/-- names that differ only by letter case count as repeated in `Provision`: keep the first -/
def dedupCI : List Bytes → List Bytes → List Bytes
  | _, [] => []
  | seen, d :: ds => if seen.contains (lower d) then dedupCI seen ds else d :: dedupCI (lower d :: seen) ds

/-- the redirect domains of a server whose routes carry the (provisioned) host lists `ms`;
    `lookG` expands global placeholders and re-emits request placeholders -/
def redirDomains (lookG : Bytes → Bytes) (ms : List (List Bytes)) : List Bytes :=
  sortDedup (ms.flatten.map fun e => expand lookG e.length e)

/-- the host matcher of the redirect route at request time -/
def redirMatch (provisioned : Bool) (thr : Nat) (domains : List Bytes) (look : Bytes → Bytes) (rhost : Bytes) : Bool :=
  if provisioned then
    match provisionHost thr (dedupCI [] domains) with
    | some m => matchHostX (fun e => expand look e.length e) thr m rhost
    | none => false
  else matchHostX (fun e => expand look e.length e) thr domains rhost

def provisionAll (thr : Nat) : List (List Bytes) → Option (List (List Bytes))
  | [] => some []
  | l :: ls =>
    match provisionHost thr l, provisionAll thr ls with
    | some m, some r => some (m :: r)
    | _, _ => none

/-- load a server with one host-matched route per list of `lists`, then send a plaintext
    request to the redirect listener: `true` = redirected by the host-matched redirect route (to
    the server's own port), `false` = by the catch-all behind it (to the default HTTPS port) -/
def redirCase (provisioned : Bool) (thr : Nat) (lists : List (List Bytes)) (lookG look : Bytes → Bytes)
    (emptyGlobal : Bytes → Bool) (rhost : Bytes) : SrvRes :=
  match provisionAll thr lists with
  | none => .dup
  | some ms =>
    if ms.any (fun m => (autohttpsHostView emptyGlobal m).isNone) then .phase1Err
    else .res (redirMatch provisioned thr (redirDomains lookG ms) look rhost)

end CaddyModel.C06
