/-
C06 — clauses of the property the tree does NOT satisfy (or did not before a repair), each with its full
statement, a proved counter-example (kernel-evaluated) and, where there is one, a pointer to the provable
part in `Props.lean`; some stand next to the fact about every input that is behind them (the rest of the path is
appended after an escaped match; an escape in the last three bytes is decoded, a shorter one is literal).
`witnessLines` (Driver.lean) exports the data of the `…_full_fails` counter-examples and of
`escape_at_end_of_path_is_decoded` as protocol lines, replayed on the implementation on every run; the data about
earlier code (`wCasePct`, `wEscRest`, the wildcard-label literals) are not exported.
-/
import CaddyModel.C06.Driver

namespace CaddyModel.C06

/-! ### the code before the `fix:` commit "path matcher patterns containing % match
    case-insensitively": the escaped path and the text built from it were not lower-cased -/

def escMatchOld (escapedPath pat : Bytes) : Bool :=
  match escLoop (pat.length + 1) pat escapedPath [] with
  | .built sb _ => globMatch (replacePctStar pat) sb == .yes
  | _ => false

/-- old `MatchPath` loop body: differs from `patMatches` in the `%` branch only -/
def patMatchesOld (lp esc : Bytes) (pat : Bytes) : Bool :=
  if pat.contains cPct ∧ pat ≠ star then
    escMatchOld (cleanPathMode (!containsSub pat [cSlash, cSlash]) esc) pat
  else patMatches lp esc pat

def pathCaseOld (l : List Bytes) (path esc : Bytes) : Bool :=
  (provisionPath l).any (patMatchesOld (lower path) esc)

/-- **the clause `matchPath_case_invariant` was false for the old code** (so the theorem is not
    vacuous and the repair is what made it true): pattern `/a%2fb`; `/a%2fb` matched, `/A%2fb` did
    not — a pattern with `%` was compared with the *escaped* path, whose letters (outside `%xx`)
    were never lower-cased, although the pattern itself was lower-cased by Provision.
    Regression case: `corpus/C06/escaped-pattern-case.txt` (`wCasePct`). -/
theorem matchPath_case_invariant_old_code_fails :
    ∃ (l : List Bytes) (p e p' e' : Bytes), lower p = lower p' ∧ lower e = lower e' ∧
      pathCaseOld l p e ≠ pathCaseOld l p' e' ∧ pathCase l p e = pathCase l p' e' :=
  ⟨wCasePct.pats, wCasePct.p1, wCasePct.e1, wCasePct.p2, wCasePct.e2, by decide +kernel⟩

/-- FULL STATEMENT (false): a duplicated slash never matters, for every pattern list:
      `∀ l a b ea eb, pathCase l (a ++ "//" ++ b) (ea ++ "//" ++ eb) = pathCase l (a ++ "/" ++ b) (ea ++ "/" ++ eb)`.
    Counter-example `wDupSlash`: pattern `/a//b` matches `/a//b` and not `/a/b` — the documented
    intent of a pattern that itself contains `//` ("we preserve them in the path").
    Provable part: `matchPath_dup_slash_invariant_partial` (no pattern contains `//`). -/
theorem matchPath_dup_slash_full_fails :
    ∃ (l : List Bytes) (a b ea eb : Bytes),
      pathCase l (a ++ cSlash :: cSlash :: b) (ea ++ cSlash :: cSlash :: eb) ≠
        pathCase l (a ++ cSlash :: b) (ea ++ cSlash :: eb) :=
  ⟨wDupSlash.pats, [47, 97], [98], [47, 97], [98], by decide +kernel⟩

theorem wDupSlash_is_the_witness :
    wDupSlash.p1 = [47, 97] ++ cSlash :: cSlash :: [98] ∧ wDupSlash.p2 = [47, 97] ++ cSlash :: [98] ∧
    wDupSlash.e1 = wDupSlash.p1 ∧ wDupSlash.e2 = wDupSlash.p2 := by decide

/-- FULL STATEMENT (false): how the client percent-encoded unreserved characters never matters,
    for every pattern list: `∀ l p e e', pathCase l p e = pathCase l p e'` (same decoded path).
    Counter-example `wPctEnc`: pattern `/%61` (an escaped `a`) matches the target `/%61` and not
    the target `/a` — the documented intent of a pattern that contains `%` ("compare in escaped space").
    Provable part: `matchPath_ignores_escaped_form` (no pattern contains `%`). -/
theorem matchPath_pct_encoding_full_fails :
    ∃ (l : List Bytes) (p e e' : Bytes), pathCase l p e ≠ pathCase l p e' :=
  ⟨wPctEnc.pats, wPctEnc.p1, wPctEnc.e1, wPctEnc.e2, by decide +kernel⟩

/-! ### the code before the `fix:` commit "a wildcard label of the host matcher no longer matches
    an empty label": a `*` label matched ANY request label, the empty one included -/

def labelsMatchOld : List Bytes → List Bytes → Bool
  | [], [] => true
  | p :: ps, h :: hs => (p == [cStar] || equalFold p h) && labelsMatchOld ps hs
  | _, _ => false

/-- `Host: .example.com` matched the entry `*.example.com` in the old code and does not any more
    (TLS server name matching never matched it: the mismatch bypassed client authentication);
    an ordinary label still matches -/
theorem wildcard_empty_label_old_code_matched :
    labelsMatchOld (splitOn cDot [42, 46, 101, 120, 97, 109, 112, 108, 101, 46, 99, 111, 109]) (splitOn cDot [46, 101, 120, 97, 109, 112, 108, 101, 46, 99, 111, 109]) = true ∧
    entryMatches [46, 101, 120, 97, 109, 112, 108, 101, 46, 99, 111, 109] [42, 46, 101, 120, 97, 109, 112, 108, 101, 46, 99, 111, 109] = false ∧ entryMatches [97, 46, 101, 120, 97, 109, 112, 108, 101, 46, 99, 111, 109] [42, 46, 101, 120, 97, 109, 112, 108, 101, 46, 99, 111, 109] = true ∧
    labelsMatchOld (splitOn cDot [cStar]) (splitOn cDot []) = true ∧ entryMatches [] [cStar] = false := by
  decide +kernel

/-! ### the lock-step comparator of `%` patterns (`matchPatternWithEscapeSequence`) at its
    index boundaries — one clause repaired by /repo 84b6e63 (class
    `path-rule-mismatch:escaped-pattern-matches-longer-path`, fixed) and two the tree still violates (known
    findings `path-spelling:pct-wildcard-terminator`, `path-spelling:pct-encoded-dot-segment`) -/

/-! #### the code before the `fix:` commit /repo 84b6e63 "a path pattern with an escape sequence does
     not match a longer path": the text built by the loop was matched as it stood, the rest of the
     path (`escapedPath[iPath:]`) was dropped -/

def escMatchNoRest (escapedPath pat : Bytes) : Bool :=
  match escLoop (pat.length + 1) pat escapedPath [] with
  | .built sb _ => globMatch (replacePctStar pat) (lower sb) == .yes
  | _ => false

/-- `patMatches` of the code before 84b6e63: differs in the `%` branch only -/
def patMatchesNoRest (lp esc : Bytes) (pat : Bytes) : Bool :=
  if pat.contains cPct ∧ pat ≠ star then
    escMatchNoRest (cleanPathMode (!containsSub pat [cSlash, cSlash]) (lower esc)) pat
  else patMatches lp esc pat

def pathCaseNoRest (l : List Bytes) (path esc : Bytes) : Bool :=
  (provisionPath l).any (patMatchesNoRest (lower path) esc)

/-- **the exact-match clause was false for the old code**: the star-free pattern `/sp%20ace` matched
    `/sp%20ace` AND `/sp%20acex` (the loop ends when the pattern is used up, `iPattern >= len(matchPath)`,
    and the rest of the path was never looked at); the repaired code rejects the longer path.
    Regression case: `corpus/C06/escaped-pattern-rest.txt` (`wEscRest`). -/
theorem matchPath_escaped_exact_old_code_fails :
    ∃ (pat p e x : Bytes), pat.contains cStar = false ∧ x ≠ [] ∧
      pathCaseNoRest [pat] p e = true ∧ pathCaseNoRest [pat] (p ++ x) (e ++ x) = true ∧
      pathCase [pat] p e = true ∧ pathCase [pat] (p ++ x) (e ++ x) = false :=
  ⟨[47, 115, 112, 37, 50, 48, 97, 99, 101], wEscRest.p1, wEscRest.e1, [120], by decide +kernel⟩

theorem wEscRest_is_the_old_code_witness :
    wEscRest.p2 = wEscRest.p1 ++ [120] ∧ wEscRest.e2 = wEscRest.e1 ++ [120] ∧
    wEscRest.pats = [[47, 115, 112, 37, 50, 48, 97, 99, 101]] := by decide +kernel

/-- the repaired step, for every pattern and path: when the loop leaves a rest `r` of the path, the
    text matched is `sb ++ unescape r` (and an undecodable rest rejects), otherwise `sb` -/
theorem escMatch_appends_rest_of_path (ep pat sb rest : Bytes)
    (h : escLoop (pat.length + 1) pat ep [] = .built sb rest) :
    escMatch ep pat =
      (if rest.length > 0 then
        match pathUnescape rest with
        | none => false
        | some r => globMatch (replacePctStar pat) (lower (sb ++ r)) == .yes
       else globMatch (replacePctStar pat) (lower sb) == .yes) := by
  unfold escMatch; rw [h]; rfl

example : escLoop 10 [47, 115, 112, 37, 50, 48, 97, 99, 101] [47, 115, 112, 37, 50, 48, 97, 99, 101, 120] [] =
    .built [47, 115, 112, 37, 50, 48, 97, 99, 101] [120] := by decide +kernel

/-- the exact rule on the repaired code, kernel-evaluated on the family of the finding: the
    star-free patterns `/sp%20ace`, `/a%2fb` match their own path (any spelling of the unreserved
    bytes) and no longer any longer path — a literal byte, a segment, an escaped byte or an encoded
    slash appended; `/a%2fb/*` still matches below the prefix -/
theorem matchPath_escaped_exact_rule_on_repaired_code :
    pathCase [[47, 115, 112, 37, 50, 48, 97, 99, 101]] [47, 115, 112, 32, 97, 99, 101] [47, 115, 112, 37, 50, 48, 97, 99, 101] = true ∧
    pathCase [[47, 115, 112, 37, 50, 48, 97, 99, 101]] [47, 115, 112, 32, 97, 99, 101] [47, 115, 112, 37, 50, 48, 97, 99, 37, 54, 53] = true ∧
    pathCase [[47, 115, 112, 37, 50, 48, 97, 99, 101]] [47, 115, 112, 32, 97, 99, 101, 120] [47, 115, 112, 37, 50, 48, 97, 99, 101, 120] = false ∧
    pathCase [[47, 115, 112, 37, 50, 48, 97, 99, 101]] [47, 115, 112, 32, 97, 99, 101, 120] [47, 115, 112, 37, 50, 48, 97, 99, 101, 37, 55, 56] = false ∧
    pathCase [[47, 115, 112, 37, 50, 48, 97, 99, 101]] [47, 115, 112, 32, 97, 99, 101, 47, 120] [47, 115, 112, 37, 50, 48, 97, 99, 101, 47, 120] = false ∧
    pathCase [[47, 97, 37, 50, 102, 98]] [47, 97, 47, 98] [47, 97, 37, 50, 70, 98] = true ∧
    pathCase [[47, 97, 37, 50, 102, 98]] [47, 97, 47, 98, 47, 120] [47, 97, 37, 50, 70, 98, 37, 50, 70, 120] = false ∧
    pathCase [[47, 97, 37, 50, 102, 98, 47, 42]] [47, 97, 47, 98, 47, 120] [47, 97, 37, 50, 70, 98, 47, 120] = true := by
  decide +kernel

/-- FULL STATEMENT (false): percent-encoding an unreserved byte of the request at a place where
    the pattern has no escape never matters.  Counter-example `wEscTerm`: `/k%20*z` matches
    `/k%20axz` and not `/k%20ax%7A`: the byte ending the `*` span is searched with IndexByte in the
    raw text (`escSpan`'s `indexOf nextCh ep'`), an encoded `z` is not found and the loop rejects. -/
theorem matchPath_pct_wildcard_terminator_full_fails :
    ∃ (l : List Bytes) (p e e' : Bytes), pathUnescape e = some p ∧ pathUnescape e' = some p ∧
      pathCase l p e = true ∧ pathCase l p e' = false :=
  ⟨wEscTerm.pats, wEscTerm.p1, wEscTerm.e1, wEscTerm.e2, by decide +kernel⟩

/-- FULL STATEMENT (false): dot segments never matter, however they are spelt.  Counter-example
    `wEscDot`: `/%*/y` matches `/./dx/y` and not `/%2e/dx/y` (same decoded path): for a `%` pattern
    `cleanPathMode` runs over the escaped text, where `%2e` is not a dot segment.
    Provable part: `matchPath_dot_segment_invariant`, `matchPath_dotdot_segment_invariant` (dot segments spelt literally). -/
theorem matchPath_encoded_dot_segment_full_fails :
    ∃ (l : List Bytes) (p e e' : Bytes), pathUnescape e = some p ∧ pathUnescape e' = some p ∧
      pathCase l p e = true ∧ pathCase l p e' = false :=
  ⟨wEscDot.pats, wEscDot.p1, wEscDot.e1, wEscDot.e2, by decide +kernel⟩

/-- boundary of `len(escapedPath) >= iPath+3`: an escape occupying the LAST three bytes of the path
    is decoded (`/foo%2Fbar/ba%7A` matches `/foo%2fbar/baz` like the canonical spelling); an escape in
    the FIRST bytes after the slash and two adjacent escapes as well -/
theorem escape_at_end_of_path_is_decoded :
    pathCase wEscEnd.pats wEscEnd.p1 wEscEnd.e1 = true ∧ pathCase wEscEnd.pats wEscEnd.p2 wEscEnd.e2 = true ∧
    pathCase wEscEnd.pats wEscEnd.p1 [47, 37, 54, 54, 111, 111, 37, 50, 70, 98, 97, 114, 47, 98, 97, 122] = true ∧
    pathCase wEscEnd.pats wEscEnd.p1 [47, 102, 111, 37, 54, 70, 37, 50, 70, 37, 54, 50, 97, 114, 47, 98, 37, 54, 49, 37, 55, 65] = true ∧
    pathCase [[47, 102, 105, 108, 101, 115, 47, 97, 37, 50, 102]] [47, 102, 105, 108, 101, 115, 47, 97, 47] [47, 102, 105, 108, 101, 115, 47, 97, 37, 50, 70] = true := by
  decide +kernel

/-- the loop step at the boundary, for every pattern and every text built so far: with a literal
    pattern byte in front and exactly three bytes `%ab` of path left, the escape is decoded and the
    path is used up (the comparison `erest.length ≥ 2` is `len(escapedPath) >= iPath+3`) -/
theorem escLoop_decodes_escape_in_last_three_bytes (fuel : Nat) (pc a b : UInt8) (prest sb : Bytes)
    (h1 : pc ≠ cPct) (h2 : pc ≠ cStar) :
    escLoop (fuel + 1) (pc :: prest) [cPct, a, b] sb =
      match pathUnescape (lower [cPct, a, b]) with
      | none => .reject
      | some ch => escLoop fuel prest [] (sb ++ ch) := by
  cases h : pathUnescape (lower [cPct, a, b]) <;> simp [escLoop, h1, h2, h]

example : escLoop 5 [122] [cPct, 55, 65] [47] = .built [47, 122] [] := by decide

/-- … and with only two bytes left a `%` is an ordinary byte (cannot happen for an EscapedPath) -/
theorem escLoop_short_escape_is_literal (fuel : Nat) (pc a : UInt8) (prest sb : Bytes)
    (h1 : pc ≠ cPct) (h2 : pc ≠ cStar) :
    escLoop (fuel + 1) (pc :: prest) [cPct, a] sb = escLoop fuel prest [a] (sb ++ [cPct]) := by
  simp [escLoop, h1, h2]

example : escLoop 5 [122] [cPct, 55] [47] = .built [47, 37] [55] := by decide

end CaddyModel.C06
