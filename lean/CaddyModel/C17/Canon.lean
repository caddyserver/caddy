/-
C17 — the canonical rendering `canonSep` / `canon` (Fragment.lean) by itself: it is white space, may stand
where the original separator stood (`sepOK_canonSep`, `good_canon`), is a fixed point (`canon_idem`), and keeps
the line breaks that the grouping of tokens depends on (`canonSep_keeps_break`).
-/
import CaddyModel.C17.Chunks

namespace CaddyModel.C17

theorem canon_none_head (N : Nat) (c : Chunk) (cs : List Chunk) :
    canon none N (c :: cs) = ⟨[], c.word⟩ :: canon (some c.kind) (nextN N c.kind) cs := rfl

theorem canonSep_dq_plain (N : Nat) (c : Chunk) : canonSep (some .dq) N c = canonSep (some .plain) N c := by
  simp [canonSep, braceLead, sameLine]

theorem countNL_eq_count (l : List Rune) : countNL l = l.count rNL := by
  induction l with
  | nil => rfl
  | cons x l ih =>
    rw [countNL, ih, List.count_cons, Nat.add_comm]
    simp only [beq_iff_eq]

theorem countNL_append (a b : List Rune) : countNL (a ++ b) = countNL a + countNL b := by
  simp only [countNL_eq_count, List.count_append]

theorem countNL_replicate (n : Nat) (c : Rune) : countNL (List.replicate n c) = if c = rNL then n else 0 := by
  simp only [countNL_eq_count, List.count_replicate, beq_iff_eq]

theorem countNL_of_all (p : Rune → Bool) (hp : ∀ c, p c = true → c ≠ rNL) (w : List Rune) (h : w.all p = true) :
    countNL w = 0 := by
  rw [countNL_eq_count, List.count_eq_zero]
  exact fun hm => hp _ (List.all_eq_true.mp h _ hm) rfl

theorem countNL_tabsN (n : Nat) : countNL (tabsN n) = 0 := by
  simp [tabsN, countNL_replicate, rTAB, rNL]

theorem reverse_tabsN (n : Nat) : (tabsN n).reverse = tabsN n := by simp [tabsN]

theorem countNL_nlsN (n : Nat) : countNL (nlsN n) = n := by
  simp [nlsN, countNL_replicate]

theorem all_ws_tabsN (n : Nat) : (tabsN n).all wsCh = true := by
  simp only [tabsN, List.all_replicate]; simp; right; decide

theorem all_ws_nlsN (n : Nat) : (nlsN n).all wsCh = true := by
  simp only [nlsN, List.all_replicate]; simp; right; decide

theorem wsCh_NL : wsCh rNL = true := by decide
theorem wsCh_SP : wsCh rSP = true := by decide

theorem all_ws_braceLead (p : Option Kind) (c : Chunk) : (braceLead p c).all wsCh = true := by
  unfold braceLead; split <;> simp [wsCh_SP]

theorem countNL_braceLead (p : Option Kind) (c : Chunk) : countNL (braceLead p c) = 0 := by
  unfold braceLead; split <;> simp [countNL, rSP, rNL]

theorem braceLead_mk (p : Option Kind) (sep : List Rune) (c : Chunk) : braceLead p ⟨sep, c.word⟩ = braceLead p c := rfl

theorem kind_with_sep (c : Chunk) (sep : List Rune) : (⟨sep, c.word⟩ : Chunk).kind = c.kind := rfl
theorem nl_mk (sep w : List Rune) : (⟨sep, w⟩ : Chunk).nl = countNL sep := rfl

theorem all_ws_sameLine (p : Option Kind) (N : Nat) : (sameLine p N).all wsCh = true := by
  unfold sameLine
  split
  · split
    · simp [wsCh_NL]
    · exact all_ws_tabsN N
  · simp [wsCh_SP]

/-- the separator `canonSep` puts in front of a word that is not a brace, after a word, a string or a `}` -/
def sepW (p : Kind) (N : Nat) (c : Chunk) : List Rune :=
  if c.nl = 0 then sameLine (some p) N else braceLead (some p) c ++ (nlsN (min c.nl 2) ++ tabsN N)

theorem sepW_all_ws (p : Kind) (N : Nat) (c : Chunk) : (sepW p N c).all wsCh = true := by
  unfold sepW
  split <;> simp [all_ws_sameLine, all_ws_braceLead, all_ws_nlsN, all_ws_tabsN]

theorem sepW_nl (p : Kind) (N : Nat) (c : Chunk) :
    countNL (sepW p N c) = if c.nl = 0 then (if p = .cls ∧ N = 0 then 2 else 0) else min c.nl 2 := by
  unfold sepW
  by_cases h0 : c.nl = 0
  · by_cases hp : p = .cls
    · by_cases hN : N = 0 <;> simp [h0, hp, hN, sameLine, countNL, countNL_tabsN, rNL]
    · simp [h0, hp, sameLine, countNL, rSP, rNL]
  · simp [h0, countNL_append, countNL_braceLead, countNL_nlsN, countNL_tabsN]

theorem sepW_ne (p : Kind) (N : Nat) (c : Chunk) : sepW p N c ≠ [] := by
  unfold sepW
  by_cases h0 : c.nl = 0
  · by_cases hp : p = .cls
    · cases N <;> simp [h0, hp, sameLine, tabsN, List.replicate_succ]
    · simp [h0, hp, sameLine]
  · have : min c.nl 2 ≠ 0 := by omega
    cases hm : min c.nl 2 with
    | zero => exact absurd hm this
    | succ n => simp [h0, nlsN, List.replicate_succ]

theorem canonSep_after {p : Kind} (N : Nat) (c : Chunk) (hp : p ≠ .opn) (hp' : p ≠ .cmt) :
    canonSep (some p) N c =
      if c.kind = .opn then [rSP] else if c.kind = .cls then rNL :: tabsN (N - 1) else sepW p N c := by
  cases p with
  | opn => exact absurd rfl hp
  | cmt => exact absurd rfl hp'
  | plain | dq | cls => simp only [canonSep, sepW]; cases c.kind <;> rfl

theorem canonSep_all_ws (prev : Option Kind) (N : Nat) (c : Chunk) : (canonSep prev N c).all wsCh = true := by
  cases prev with
  | none => rfl
  | some p =>
    by_cases hp : p = .opn
    · subst hp; simp [canonSep, wsCh_NL, all_ws_tabsN]
    by_cases hp' : p = .cmt
    · subst hp'
      simp only [canonSep]
      split <;> simp [wsCh_NL, all_ws_tabsN, all_ws_nlsN]
    rw [canonSep_after N c hp hp']
    split
    · simp [wsCh_SP]
    · split
      · simp [wsCh_NL, all_ws_tabsN]
      · exact sepW_all_ws p N c

theorem canonSep_ne {p : Kind} (N : Nat) (c : Chunk) : canonSep (some p) N c ≠ [] := by
  by_cases hp : p = .opn
  · subst hp; simp [canonSep]
  by_cases hp' : p = .cmt
  · subst hp'
    simp only [canonSep]
    split <;> simp
  rw [canonSep_after N c hp hp']
  split
  · simp
  · split
    · simp
    · exact sepW_ne p N c

theorem canonSep_brace_break {p : Kind} {N : Nat} {c : Chunk} (hp : p = .opn ∨ p = .cls) (h1 : c.kind ≠ .opn)
    (hnl : 1 ≤ c.nl) : 1 ≤ countNL (canonSep (some p) N c) := by
  rcases hp with rfl | rfl
  · simp [canonSep, countNL]
  rw [canonSep_after N c (by simp) (by simp), if_neg h1]
  split
  · simp [countNL]
  · have h0 : ¬c.nl = 0 := by omega
    rw [sepW_nl, if_neg h0]
    omega

theorem sepOK_canonSep {prev : Option Kind} {c : Chunk} (N : Nat) (h : SepOK prev c) :
    SepOK prev ⟨canonSep prev N c, c.word⟩ := by
  cases h with
  | first hs hk => exact .first rfl hk
  | @word p _ hp hs ho hc =>
    refine .word hp (canonSep_ne N c) (fun hk => ?_) (fun hk => ?_) <;>
      rw [nl_mk, canonSep_after N c (by rcases hp with rfl | rfl <;> simp) (by rcases hp with rfl | rfl <;> simp)] <;>
      rw [kind_with_sep] at hk <;> simp [hk, countNL, rSP, rNL]
  | cmt hs hk =>
    by_cases h2 : c.kind = .cls
    · exact .cmt (ws := tabsN (N - 1)) (by simp [canonSep, h2]) hk
    · exact .cmt (ws := nlsN (min (c.nl - 1) 2) ++ tabsN N) (by simp [canonSep, h2]) hk
  | @brace p _ hp hs hk hn =>
    -- a comment may follow the brace on the same line; anything else needs a line break
    refine .brace hp (canonSep_ne N c) hk (fun hc => ?_)
    rw [nl_mk]
    exact canonSep_brace_break hp hk (hn hc)

theorem good_canon {prev : Option Kind} {cs : List Chunk} (h : Good prev cs) : ∀ N, Good prev (canon prev N cs) := by
  induction h with
  | nil h => exact fun _ => .nil h
  | cons hws hsh hsep _ ih => exact fun N => .cons (canonSep_all_ws _ _ _) hsh (sepOK_canonSep N hsep) (ih _)

theorem canonSep_idem (prev : Option Kind) (N : Nat) (c : Chunk) :
    canonSep prev N ⟨canonSep prev N c, c.word⟩ = canonSep prev N c := by
  cases prev with
  | none => rfl
  | some p =>
    by_cases hp : p = .opn
    · subst hp; rfl
    by_cases hp' : p = .cmt
    · subst hp'
      by_cases hk : c.kind = .cls
      · simp [canonSep, kind_with_sep, hk]
      · have h3 : min (min (c.nl - 1) 2) 2 = min (c.nl - 1) 2 := by omega
        simp [canonSep, kind_with_sep, nl_mk, hk, countNL, countNL_append, countNL_nlsN, countNL_tabsN, h3]
    rw [canonSep_after N _ hp hp', canonSep_after N c hp hp', kind_with_sep]
    split
    · rfl
    · split
      · rfl
      · -- the number of newlines of `sepW` is a fixed point of the rule that produced it
        have hn := sepW_nl p N c
        unfold sepW at hn ⊢
        rw [nl_mk, braceLead_mk, hn]
        by_cases h0 : c.nl = 0
        · by_cases hcls : p = .cls ∧ N = 0
          · obtain ⟨rfl, rfl⟩ := hcls
            simp [h0, sameLine, braceLead, nlsN, tabsN, List.replicate_succ]
          · simp [h0, hcls]
        · have h2 : min c.nl 2 ≠ 0 := by omega
          have h3 : min (min c.nl 2) 2 = min c.nl 2 := by omega
          simp [h0, h2, h3, braceLead_mk]

theorem canon_idem : ∀ (cs : List Chunk) (prev : Option Kind) (N : Nat),
    canon prev N (canon prev N cs) = canon prev N cs
  | [], _, _ => rfl
  | c :: cs, prev, N => by
    simp only [canon, kind_with_sep, canonSep_idem, canon_idem cs]

theorem canonSep_keeps_break {prev : Option Kind} {N : Nat} {c : Chunk} (h : SepOK prev c) (hk : c.kind ≠ .cmt) :
    0 < countNL (canonSep prev N c) ↔ 0 < c.nl := by
  cases h with
  | first hs _ => simp [canonSep, Chunk.nl, hs, countNL]
  | @word p _ hp hs ho hc =>
    rw [canonSep_after N c (by rcases hp with rfl | rfl <;> simp) (by rcases hp with rfl | rfl <;> simp)]
    by_cases h1 : c.kind = .opn
    · simp [h1, ho h1, countNL, rSP, rNL]
    by_cases h2 : c.kind = .cls
    · have := hc h2
      simp [h2, countNL]; omega
    rw [if_neg h1, if_neg h2, sepW_nl]
    have hp' : p ≠ .cls := by rcases hp with rfl | rfl <;> simp
    by_cases h0 : c.nl = 0 <;> simp [h0, hp'] <;> omega
  | cmt hs _ =>
    -- after a comment the word is on a later line, in the original and in the rendering
    have : 1 ≤ c.nl := by simp [Chunk.nl, hs, countNL]
    have : 1 ≤ countNL (canonSep (some .cmt) N c) := by
      simp only [canonSep]
      split <;> simp [countNL] <;> omega
    omega
  | @brace p _ hp hs hk' hn =>
    have h1 := hn hk
    have := canonSep_brace_break (N := N) hp hk' h1
    omega

end CaddyModel.C17
