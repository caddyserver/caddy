/-
C17 — property theorems, with the few helpers about `format`, `formatCore`, the shape of `finish`'s result and the
formatter's marker window their proofs need (the size calculus and the lengths of `trimSpace` / `finish` are in
Lemmas.lean, the fragment in WCore.lean and below).

Statement: "Formatting a Caddyfile never changes its meaning: the formatted text tokenizes to
the same tokens with the same line grouping, and therefore adapts to the same JSON or the same
rejection, as the original.  Formatting is idempotent and terminates on every input."

What is proved here, over the statement-by-statement models of `Format` (Model.lean) and
`Tokenize` (Lexer.lean), for ALL rune strings, no size bound:
  * termination / no blow-up: `fmt_total`, `fmt_output_bound`, `fmt_ends_with_single_newline`;
  * the two remaining clauses FAIL on the unchanged tree at full strength — the negations are
    proved with concrete witnesses in Witness.lean (`fmt_preserves_tokens_full_fails`,
    `fmt_idempotent_full_fails`) — and are proved here on an explicit decidable fragment
    (`fmt_preserves_tokens_partial`, `fmt_idempotent_partial`, with the exact output `fmt_canonical_on_W`; all three
    are conjuncts of `W_core_of_inW`), and carried to the command (`cmdFmt_*_partial`);
  * source facts (`*_matches_source`) and, beside the heredoc one, `heredoc_end_rules_agree` on the marker window
    `closingWindow`.
-/
import CaddyModel.Gen.FmtCmd
import CaddyModel.Gen.HeredocEnd
import CaddyModel.C17.Lemmas
import CaddyModel.C17.WCore
import CaddyModel.C17.Witness

namespace CaddyModel.C17

/-- **Termination.**  The model of `Format` is a fold with no fuel: one `step` per input rune.
    Every inner loop of a step (`indent`, the `newLines` loop) performs a `write` per iteration,
    and the total number of writes is linear in the input — so every loop of every iteration
    terminates; the nesting counter never exceeds its cap of 10 (formatter.go), which is
    what bounds `indent`.  (`flushEnd` = the pending `{` written after the loop.) -/
theorem fmt_total (x : List Rune) :
    (flushEnd (run (trimSpace x))).rout.length ≤ 31 * x.length + 13 ∧ (run (trimSpace x)).nesting ≤ 10 := by
  have h := G_foldl (trimSpace x) (s := {}) (by decide)
  have hl := trimSpace_length_le x
  refine ⟨?_, h.2⟩
  have h1 := h.1
  have h2 := (G_flushEnd (s := (trimSpace x).foldl step {}) h.2).1
  unfold run
  have h0 : ({} : FState).rout.length = 0 := rfl
  have : 31 * (trimSpace x).length ≤ 31 * x.length := Nat.mul_le_mul_left 31 hl
  omega

theorem formatCore_length_le (y : List Rune) : (formatCore y).length ≤ 31 * y.length + 14 := by
  unfold formatCore
  have h1 := finish_length_le (flushEnd (run (trimSpace y))).rout
  have h2 := (fmt_total y).1
  omega

theorem format_cases (x : List Rune) :
    (x = [] ∧ format x = []) ∨
      ∃ y, (format x = formatCore y ∧ y.length ≤ x.length) ∨
        (format x = rBOM :: formatCore y ∧ y.length < x.length) := by
  unfold format
  cases x with
  | nil => exact Or.inl ⟨rfl, rfl⟩
  | cons a x =>
    right
    have hl := trimSpace_length_le (a :: x)
    simp only [List.isEmpty_cons, Bool.false_eq_true, ↓reduceIte]
    split
    · exact ⟨[], Or.inl ⟨rfl, Nat.zero_le _⟩⟩
    · rename_i c rest h
      rw [h] at hl
      split
      · exact ⟨rest, Or.inr ⟨rfl, hl⟩⟩
      · exact ⟨c :: rest, Or.inl ⟨rfl, hl⟩⟩

theorem fmt_output_bound (x : List Rune) : (format x).length ≤ 31 * x.length + 14 := by
  rcases format_cases x with ⟨rfl, h⟩ | ⟨y, ⟨h, hl⟩ | ⟨h, hl⟩⟩
  · rw [h]; simp
  · have := formatCore_length_le y
    rw [h]; omega
  · have := formatCore_length_le y
    rw [h, List.length_cons]; omega

theorem dropWhile_head_not (p : Rune → Bool) (l : List Rune) (c : Rune)
    (h : (l.dropWhile p).head? = some c) : p c = false := by
  have := List.head?_dropWhile_not p l
  rwa [h] at this

theorem dropWhile_getLast (p : Rune → Bool) (l : List Rune) (h : l.dropWhile p ≠ []) :
    (l.dropWhile p).getLast? = l.getLast? := by
  rw [List.getLast?_eq_some_getLast h, (List.dropWhile_suffix p).getLast h, ← List.getLast?_eq_some_getLast]

theorem finish_shape (r : List Rune) :
    ∃ body, finish r = body ++ [rNL] ∧
      (∀ c, body.head? = some c → isSpace c = false) ∧
      (∀ c, body.getLast? = some c → isSpace c = false) := by
  refine ⟨trimLeft (trimLeft r).reverse, rfl, ?_, ?_⟩
  · intro c h; exact dropWhile_head_not isSpace _ c h
  · intro c h
    unfold trimLeft at h
    by_cases hne : List.dropWhile isSpace (List.dropWhile isSpace r).reverse = []
    · rw [hne] at h; simp at h
    · rw [dropWhile_getLast isSpace _ hne, List.getLast?_reverse] at h
      exact dropWhile_head_not isSpace r c h

/-- **Shape of the result.**  For a non-empty input `Format x` is a body without leading or
    trailing white space (possibly starting with the byte order mark that was set aside)
    followed by exactly one `'\n'`; the empty input stays empty. -/
theorem fmt_ends_with_single_newline (x : List Rune) (hx : x ≠ []) :
    ∃ body, format x = body ++ [rNL] ∧
      (∀ c, body.head? = some c → isSpace c = false) ∧
      (∀ c, body.getLast? = some c → isSpace c = false) := by
  rcases format_cases x with ⟨rfl, -⟩ | ⟨y, ⟨h, -⟩ | ⟨h, -⟩⟩
  · exact absurd rfl hx
  · rw [h]; exact finish_shape _
  · obtain ⟨body, hb, h1, h2⟩ : ∃ body, formatCore y = body ++ [rNL] ∧ _ := finish_shape _
    refine ⟨rBOM :: body, by rw [h, hb]; rfl, ?_, ?_⟩
    · intro d hd; simp at hd; subst hd; decide
    · intro d hd
      cases body with
      | nil => simp at hd; subst hd; decide
      | cons b bs => exact h2 d (by simpa [List.getLast?_cons_cons] using hd)

theorem fmt_empty_stays_empty : format [] = [] := rfl

set_option maxRecDepth 100000 in
example : format (runes "a   {\n\n\nb  c\n }") = runes "a {\n\tb c\n}\n" := by
  repeat rw [runes_ofList]
  decide +kernel
example : (run (trimSpace (runes "a {\nb {\nc\n}\n}"))).nesting = 0 ∧
    (run (trimSpace (runes "a {\nb {\nc"))).nesting = 2 := by
  repeat rw [runes_ofList]
  decide +kernel
-- the cap: twelve opening braces, nesting stays at 10
set_option maxRecDepth 100000 in
example : (run (runes "a {\na {\na {\na {\na {\na {\na {\na {\na {\na {\na {\na {\na")).nesting = 10 := by
  rw [runes_ofList]
  decide +kernel

/-! ### meaning preservation and idempotence

FULL STATEMENTS (both FALSE on the unchanged tree — `fmt_preserves_tokens_full_fails`,
`fmt_idempotent_full_fails`, 16 classes of witnesses in `token_witnesses_all_fail`
/ `idem_witnesses_all_fail`, all in Witness.lean):

    ∀ x, preservesTokens x = true        -- Tokenize (Format x) means what Tokenize x means
    ∀ x, idempotentAt x = true           -- Format (Format x) = Format x

PROVED PART: both hold for every input in the fragment `W` (`inW`, an explicit DECIDABLE predicate on rune
strings, no size bound; the head of Fragment.lean says what it contains).  NOT covered by these two
theorems (only by the correspondence stream and the impl-side oracle): multi-line
quoted strings, heredoc tokens, line continuations, `#`/`"`/`<` inside words, CR, comments
directly before `{`.
-/

/-- on `W`, `Format` is the canonical re-rendering of the chunks (exact output) -/
theorem fmt_canonical_on_W (x : List Rune) (h : inW x = true) :
    ∃ (c : Chunk) (cs : List Chunk), goodFrom none (c :: cs) = true ∧
      format x = flatten (canon none 0 (c :: cs)) ++ [rNL] := by
  obtain ⟨c, cs, hg, hf, -⟩ := W_core_of_inW h
  exact ⟨c, cs, hg, hf⟩

/-- **meaning preservation on `W`**: the formatted text tokenizes to the same token texts,
    quote kinds and line grouping as the original -/
theorem fmt_preserves_tokens_partial (x : List Rune) (h : inW x = true) : preservesTokens x = true := by
  obtain ⟨-, -, -, -, ht, -⟩ := W_core_of_inW h
  exact ht

theorem fmt_idempotent_partial (x : List Rune) (h : inW x = true) : idempotentAt x = true := by
  obtain ⟨-, -, -, -, -, hi⟩ := W_core_of_inW h
  exact hi

/-! non-vacuity: `W` contains real files (nested blocks, odd indentation, blank lines, Unicode
words); the last `example` shows shapes that are outside `W` -/

set_option maxRecDepth 100000 in
example : inW (runes "  example.com   {\n\n\n  reverse_proxy  10.0.0.1:80\n\thandle /api/* {\n respond 200\n}\n\n\n\n}\nlocalhost\n\n") = true := by
  rw [runes_ofList]
  decide +kernel
set_option maxRecDepth 100000 in
example : inW (runes "{\n  admin off\n}\n:443 {\n}\n") = true := by
  rw [runes_ofList]
  decide +kernel
set_option maxRecDepth 100000 in
example : inW (runes "example.com {\n  respond   \"Hello,  {world} # `x`\"  200\n\theader X-A \"\" # c\n}\n") = true := by
  rw [runes_ofList]
  decide +kernel
set_option maxRecDepth 100000 in
example : inW (runes "# global\n\n\nexample.com {\n  # \"no\" <<tls> here\n  admin off # really\n}\n\n#\n# end") = true := by
  rw [runes_ofList]
  decide +kernel
-- placeholders: glued into words, at the start of a line (after a word the formatter leaves the
-- blank it writes before a kept-back `{` at the end of the previous line: `canonSep`/`braceLead`)
set_option maxRecDepth 100000 in
example : inW (runes "{$SITE}:443 {\n  root * {env.ROOT}/www\n  {args[0]} a{x}b {}\n\n# c\n{http.request.uri}\n}\n") = true := by
  rw [runes_ofList]
  decide +kernel
set_option maxRecDepth 100000 in
example : format (runes "a\n{x} b") = runes "a \n{x} b\n" := by
  repeat rw [runes_ofList]
  decide +kernel
-- a comment after `{` on the same line is moved into the block
set_option maxRecDepth 100000 in
example : inW (runes "a { # c\nb\n}") = true ∧ format (runes "a { # c\nb\n}") = runes "a {\n\t# c\n\tb\n}\n" := by
  repeat rw [runes_ofList]
  decide +kernel
-- escapes inside double-quoted strings
set_option maxRecDepth 100000 in
example : inW (runes "respond \"{\\\"k\\\": \\\"v\\\"} \\\\ \\<<x\" 200") = true := by
  rw [runes_ofList]
  decide +kernel
-- a comment after `}` on the same line: the indentation is written between brace and comment
set_option maxRecDepth 100000 in
example : inW (runes "a {\nb {\n} # c\n} # d") = true ∧
    format (runes "a {\nb {\n} # c\n} # d") = runes "a {\n\tb {\n\t}\t# c\n}\n\n# d\n" := by
  repeat rw [runes_ofList]
  decide +kernel
-- backquoted strings: literal, a backslash is an ordinary character in them
set_option maxRecDepth 100000 in
example : inW (runes "root  `C:\\sites\\a b`  {\n respond `say \"hi\" # {x}` 200\n}\n``") = true := by
  rw [runes_ofList]
  decide +kernel
-- outside `W`: one-line block, dangling brace, brace first on its line, CR inside a word, comment directly before `{`,
-- backslash in a comment, braces glued to a word or to each other (token preservation fails on the 1st, 3rd, 7th, 8th and 9th;
-- the others pass both clauses in the model and are outside only because the proof does not reach them)
set_option maxRecDepth 100000 in
example : inW (runes "a { b }") = false ∧ inW (runes "a {") = false ∧ inW (runes "a\n{\n}") = false ∧
    inW (runes "a\rb") = false ∧ inW (runes "# c\n{\n}") = false ∧ inW (runes "a # \\\n}") = false ∧
    inW (runes "a{") = false ∧ inW (runes "{{x}}") = false ∧ inW (runes "{}{") = false := by
  repeat rw [runes_ofList]
  decide +kernel

/-! ### the command around the formatter

`caddy fmt` (`cmdFmtRunes`, Spec.lean) emits `Format` of the file's text, so both clauses transfer to
what the user's file looks like after `caddy fmt --overwrite` (on `W` as theorems; everywhere
else through the `cf` correspondence op plus the `rt` oracle). -/

theorem cmdFmt_preserves_tokens_partial (x : List Rune) (h : inW x = true) :
    sameMeaning (tokenize x) (tokenize (cmdFmtRunes x)) = true :=
  fmt_preserves_tokens_partial x h

theorem cmdFmt_second_run_changes_nothing_partial (x : List Rune) (h : inW x = true) :
    cmdFmtRunes (cmdFmtRunes x) = cmdFmtRunes x := by
  have := fmt_idempotent_partial x h
  unfold idempotentAt at this
  exact eq_of_beq this


/-- **source fact** (regenerated from the tree under test on every run, `Gen/FmtCmd.lean`): in
    `cmdFmt` the bytes read from stdin / the file (`v0`) reach `caddyfile.Format` without being
    assigned again, and its result (`v1`, or the call in place) goes to `os.WriteFile` /
    `fmt.Print` unchanged — the static twin of the `cf` op -/
theorem cmdFmt_data_flow_matches_source :
    Gen.cmdFmtDataFlow =
      ["v0,err = io.ReadAll(os.Stdin)", "fmt.Print(string(caddyfile.Format(v0)))",
       "v0,err = os.ReadFile(configFile)", "v1 = caddyfile.Format(v0)",
       "os.WriteFile(configFile,v1,0o600)", "fmt.Print(string(v1))"] := rfl


/-- **source facts for the glue of Glue.lean** (regenerated on every run): `allTokens` lexes the
    substituted text; `Adapt` hands its untouched parameter to `Parse` and to the lint; the lint
    normalises CR LF on a copy (`v1`), formats that copy and compares the two -/
theorem fmt_glue_matches_source :
    Gen.allTokensReturns = ["Tokenize(replaceEnvVars(input),filename)"] ∧
    Gen.adaptBodyUses = ["Parse(filename,body)", "FormattingDifference(filename,body)"] ∧
    Gen.formattingDifferenceDataFlow =
      ["v1 = bytes.Replace(body,?(\"\\r\\n\"),?(\"\\n\"),-1)", "v0 = Format(v1)", "bytes.Equal(v0,v1)"] := ⟨rfl, rfl, rfl⟩

/-! ### the heredoc-end rule exists twice: lexer.go (*lexer).next and the formatter's own copy -/

/-- the formatter's `heredocClosingMarker` after the runes `l` of one heredoc body line
    (`pushClosing` per rune, starting from the empty window of a fresh line) -/
def closingWindow (marker l : List Rune) : List Rune :=
  l.foldl (fun w ch => pushClosing w marker ch) []

theorem pushClosing_window (m pre : List Rune) (c : Rune) :
    pushClosing (pre.drop (pre.length - m.length)) m c
      = (pre ++ [c]).drop ((pre ++ [c]).length - m.length) := by
  unfold pushClosing
  simp only [List.length_append, List.length_drop, List.length_singleton]
  by_cases h : m.length ≤ pre.length
  · rw [if_pos (by omega), ← List.drop_append_of_le_length (by omega), List.drop_drop]
    congr 1; omega
  · rw [if_neg (by omega)]
    simp [show pre.length - m.length = 0 by omega, show pre.length + 1 - m.length = 0 by omega]

theorem closingWindow_gen (m : List Rune) : ∀ (l pre : List Rune),
    l.foldl (fun w ch => pushClosing w m ch) (pre.drop (pre.length - m.length))
      = (pre ++ l).drop ((pre ++ l).length - m.length) := by
  intro l
  induction l with
  | nil => intro pre; simp
  | cons c t ih =>
    intro pre
    simp only [List.foldl_cons]
    rw [pushClosing_window, ih (pre ++ [c])]
    simp

theorem closingWindow_eq (m l : List Rune) :
    closingWindow m l = l.drop (l.length - m.length) := by
  have := closingWindow_gen m l []
  simpa [closingWindow] using this

/-- **the two copies decide the same way.**  On a heredoc body line `l` (everything read since
    the last newline) the formatter ends the heredoc iff its sliding window
    `heredocClosingMarker` equals the marker (`closingWindow`, `pushClosing` per rune); the
    lexer ends it iff the text read so far ends with the marker (`endsWith`).  For every marker
    and every line the two tests agree — glued to a longer word (`seeEOF`) or not. -/
theorem heredoc_end_rules_agree (m l : List Rune) :
    (closingWindow m l == m) = endsWith l m := by
  rw [closingWindow_eq]
  unfold endsWith
  by_cases h : m.length ≤ l.length
  · simp [h]
  · have h3 : l.length - m.length = 0 := by omega
    have hne : l ≠ m := by intro e; rw [e] at h; omega
    simp [h, h3, hne]

example : (closingWindow ("EOF".toList.map Char.toNat) ("  seeEOF".toList.map Char.toNat)
            == "EOF".toList.map Char.toNat) = true ∧
          endsWith ("  seeEOF".toList.map Char.toNat) ("EOF".toList.map Char.toNat) = true ∧
          endsWith ("  seeEO".toList.map Char.toNat) ("EOF".toList.map Char.toNat) = false := by
  repeat rw [String.toList_ofList]
  decide

/-- **source fact** (regenerated from the tree under test on every run, `Gen/HeredocEnd.lean`):
    the block of `(*lexer).next` that reads a heredoc body and the formatter's own copy of it
    are the ones modelled by the heredoc branch of `lexLoop` (`endsWith`, Lexer.lean) and `stepHeredoc`, Model.lean
    (`pushClosing … == marker`, window cleared at a newline) — normalised source text, locals
    renamed in order of appearance.  An edit of ONE of the two sites (say the lexer's marker
    must stand alone) breaks this theorem by name, whatever the generator finds. -/
theorem heredoc_end_rule_matches_source :
    Gen.lexerHeredocEndCond = "len(v1) >= len(v4) && v4 == string(v1[len(v1)-len(v4):])" ∧
    Gen.formatterHeredocEndCond = "slices.Equal(v1, v3)" ∧
    Gen.lexerHeredocBlock =
      ["if v0 {", "v1 = append(v1, v2)", "if v2 == '\\n' {", "v3.skippedLines++", "}",
       "if len(v1) >= len(v4) && v4 == string(v1[len(v1)-len(v4):]) {",
       "v1, v5 = v3.finalizeHeredoc(v1, v4)", "if v5 != nil {", "return false, v5", "}",
       "v3.line += v3.skippedLines", "v3.skippedLines = 0", "return v6('<'), nil", "}",
       "continue", "}"] ∧
    Gen.formatterHeredocBlock =
      ["if v0 == heredocOpened {", "v1 = append(v1, v2)", "if len(v1) > len(v3) {", "v1 = v1[1:]", "}",
       "v4(v2)", "if slices.Equal(v1, v3) {", "v3 = nil", "v1 = nil", "v0 = heredocClosed", "v5 = true",
       "} else if v2 == '\\n' {", "v1 = v1[:0]", "}", "continue", "}"] := ⟨rfl, rfl, rfl, rfl⟩


end CaddyModel.C17
