/-
C17 — both clauses on the fragment.  The property's observable `grouping` is computed from the chunks
(`gOf`) and is the same for a chunk list and its canonical rendering (`gOf_canon`); `W_core` puts this together
with `format_on_chunks`, `tokenize_on_chunks` and the facts about `canon`.
-/
import CaddyModel.C17.FragLemmas
import CaddyModel.C17.LexLemmas

namespace CaddyModel.C17

/-- the property's observable, computed from the chunks: word, quote kind, starts-a-new-line.
    `acc` = a newline was seen since the previous token (in the separators of skipped comments). -/
def gOf : (first acc : Bool) → List Chunk → List (List Rune × Rune × Bool)
  | _, _, [] => []
  | first, acc, c :: cs =>
    if isCmtW c.word then gOf first (acc || decide (0 < c.nl)) cs
    else (tokText c.word, tokQuote c.word, first || acc || decide (0 < c.nl)) :: gOf false false cs

theorem countNL_unesc (w : List Rune) (h : dqBody w = true) : countNL (unesc w) = 0 := by
  fun_induction dqBody w with
  | case1 => rfl
  | case2 c hc => simp at h
  | case3 c hc d t ih =>
    simp only [Bool.and_eq_true, bne_iff_ne, ne_eq] at h
    have h10 : d ≠ 10 := h.1
    simp only [beq_iff_eq] at hc
    subst hc
    by_cases hd : d = rDQ
    · simp [unesc, countNL, ih h.2, hd, rDQ, rNL]
    · simp [unesc, countNL, ih h.2, hd, h10, rBS, rNL]
  | case4 c t hc ih =>
    simp only [Bool.and_eq_true, bne_iff_ne, ne_eq] at h
    rw [unesc_cons_ne c t (by simpa using hc)]
    simp [countNL, h.1.2, ih h.2]

theorem shape_tok {k : Kind} {w : List Rune} (h : Shape k w) (hk : k ≠ .cmt) :
    isCmtW w = false ∧ ∀ ln, (⟨ln, tokText w, tokQuote w, []⟩ : Token).numLineBreaks = 0 := by
  by_cases hq : k = .dq
  · subst hq
    cases h with
    | dq has =>
      rw [tokText_dq, tokQuote_dq]
      exact ⟨by simp [isCmtW, rDQ, rHash], fun _ => by simp [Token.numLineBreaks, countNL_unesc _ has, rLT, rDQ]⟩
    | bq has =>
      rw [tokText_bq, tokQuote_bq]
      exact ⟨by simp [isCmtW, rBQ, rHash], fun _ => by
        simp [Token.numLineBreaks, countNL_of_all bqCh (fun c h => (bqCh_spec h).2) _ has, rLT, rBQ]⟩
  · obtain ⟨⟨a, as, e, ha, has⟩, h1, h2, h3⟩ := shape_unquoted h hk hq
    refine ⟨h1, fun _ => ?_⟩
    rw [h2, h3, e]
    simp [Token.numLineBreaks, countNL_of_all wordCh (fun c h => (wordCh_spec h).nl) (a :: as) (by simp [ha, has]), rLT]

/-- "a newline since the previous token" adds up over the separators of skipped comments -/
theorem newline_bit {a b : Nat} (n : Nat) (h : a ≤ b) : (decide (a < b) || decide (0 < n)) = decide (a < b + n) := by
  by_cases h1 : a < b <;> by_cases h2 : 0 < n <;> simp [h1, h2] <;> omega

theorem groupingFrom_toksOf : ∀ (cs : List Chunk) (ln : Nat) (p : Token) (acc : Bool) (prev : Option Kind),
    p.numLineBreaks = 0 → p.line ≤ ln → acc = decide (p.line < ln) → Good prev cs →
    groupingFrom (some p) (toksOf ln cs) = gOf false acc cs
  | [], _, _, _, _, _, _, _, _ => rfl
  | c :: cs, ln, p, acc, prev, hb, hle, hacc, .cons _ hsh _ hg' => by
    by_cases hk : c.kind = .cmt
    · have hc := shape_cmt (hk ▸ hsh)
      simp only [toksOf, gOf, hc, ↓reduceIte]
      exact groupingFrom_toksOf cs (ln + c.nl) p _ _ hb (by omega) (by rw [hacc, newline_bit _ hle]) hg'
    · obtain ⟨hc, hw⟩ := shape_tok hsh hk
      have ih := groupingFrom_toksOf cs (ln + c.nl) ⟨ln + c.nl, tokText c.word, tokQuote c.word, []⟩ false _
        (hw _) (Nat.le_refl _) (by simp) hg'
      simp only [toksOf, gOf, hc, Bool.false_eq_true, ↓reduceIte, groupingFrom, ih, isNextOnNewLine, hb,
        Bool.false_or, Nat.add_zero]
      rw [hacc, newline_bit _ hle]

/-- `acc` is free: the first token starts a line whatever came before (`gOf_true_head`) -/
theorem grouping_toksOf : ∀ (cs : List Chunk) (sep w : List Rune) (k : Kind) (ln : Nat) (acc : Bool), Shape k w →
    Good (some k) cs → grouping (toksOf ln (⟨sep, w⟩ :: cs)) = gOf true acc (⟨sep, w⟩ :: cs)
  | cs, sep, w, k, ln, acc, hsh, hg => by
    by_cases hk : k = .cmt
    · subst hk
      simp only [toksOf_cons, gOf, shape_cmt hsh, ↓reduceIte]
      match cs, hg with
      | [], _ => rfl
      | c :: cs, .cons _ hsh' _ hg' =>
        exact grouping_toksOf cs c.sep c.word c.kind _ _ hsh' hg'
    · obtain ⟨hc, hw⟩ := shape_tok hsh hk
      simp only [toksOf_cons, grouping, groupingFrom, gOf, hc, Bool.false_eq_true, ↓reduceIte, Bool.true_or]
      rw [groupingFrom_toksOf cs _ _ false _ (hw _) (Nat.le_refl _) (by simp) hg]

theorem gOf_true_head : ∀ (cs : List Chunk) (sep sep' w : List Rune) (acc acc' : Bool),
    gOf true acc (⟨sep, w⟩ :: cs) = gOf true acc' (⟨sep', w⟩ :: cs)
  | cs, sep, sep', w, acc, acc' => by
    simp only [gOf, Bool.true_or]
    split
    · match cs with
      | [] => rfl
      | c :: cs => exact gOf_true_head cs c.sep c.sep c.word _ _
    · rfl

theorem gOf_after_cmt : ∀ (cs : List Chunk) (first acc acc' : Bool), Good (some .cmt) cs →
    gOf first acc cs = gOf first acc' cs
  | [], _, _, _, _ => rfl
  | c :: cs, first, acc, acc', .cons _ _ hok _ => by
    obtain ⟨a, ws, hcs, ha⟩ := hok.cons
    have hnl : decide (0 < c.nl) = true := by simp [Chunk.nl, hcs, ha rfl, countNL]; omega
    simp only [gOf, hnl, Bool.or_true]

theorem gOf_canon : ∀ (cs : List Chunk) (prev : Option Kind) (N : Nat) (first acc : Bool), Good prev cs →
    gOf first acc (canon prev N cs) = gOf first acc cs
  | [], _, _, _, _, _ => rfl
  | c :: cs, prev, N, first, acc, .cons _ hsh hok hg' => by
    simp only [canon, gOf]
    rw [gOf_canon cs _ _ _ _ hg', gOf_canon cs _ _ _ _ hg']
    by_cases hk : c.kind = .cmt
    · -- a comment may change lines (after `{` or `}`), but the word after a comment starts a new line anyway
      rw [hk] at hg'
      simp only [shape_cmt (hk ▸ hsh), ↓reduceIte]
      exact gOf_after_cmt cs _ _ _ hg'
    · -- any other word keeps its "starts a new line" bit
      have hbit : decide (0 < (⟨canonSep prev N c, c.word⟩ : Chunk).nl) = decide (0 < c.nl) :=
        decide_eq_decide.mpr (canonSep_keeps_break hok hk)
      simp only [(shape_tok hsh hk).1, Bool.false_eq_true, ↓reduceIte, hbit]

theorem W_core {lead trail : List Rune} {c : Chunk} {cs : List Chunk}
    (hl : lead.all wsCh = true) (ht : trail.all wsCh = true) (hs : c.sep = [])
    (hg : goodFrom none (c :: cs) = true) :
    format (lead ++ (flatten (c :: cs) ++ trail)) = flatten (canon none 0 (c :: cs)) ++ [rNL] ∧
      preservesTokens (lead ++ (flatten (c :: cs) ++ trail)) = true ∧
      idempotentAt (lead ++ (flatten (c :: cs) ++ trail)) = true := by
  have hG := good_of_goodFrom _ _ hg
  have hfmt := format_on_chunks (all_wsCh_isSpace hl) (all_wsCh_isSpace ht) hs hG
  -- the canonical rendering, seen as an input again
  have hcanon := canon_none_head 0 c cs
  have hg2 := good_canon hG 0
  have hnl : ([rNL] : List Rune).all wsCh = true := by decide
  have hfmt2 : flatten (canon none 0 (c :: cs)) ++ [rNL]
      = [] ++ (flatten (canon none 0 (c :: cs)) ++ [rNL]) := rfl
  refine ⟨hfmt, ?_, ?_⟩
  · unfold preservesTokens
    rw [hfmt, tokenize_on_chunks hl ht hs hG, hfmt2]
    rw [hcanon] at hg2 ⊢
    rw [tokenize_on_chunks (lead := []) (by rfl) hnl rfl hg2]
    simp only [sameMeaning]
    have h1 := gOf_canon (c :: cs) none 0 true false hG
    rw [hcanon] at h1
    obtain _ | ⟨-, hsh, -, hgt⟩ := hG
    obtain _ | ⟨-, -, -, hgt2⟩ := hg2
    rw [grouping_toksOf _ _ _ _ _ false hsh hgt, grouping_toksOf _ _ _ _ _ false hsh hgt2]
    rw [h1, gOf_true_head cs lead c.sep c.word false false]
    simp
  · unfold idempotentAt
    rw [hfmt, hfmt2]
    rw [hcanon] at hg2 ⊢
    rw [format_on_chunks (lead := []) (by rfl) (all_wsCh_isSpace hnl) rfl hg2, ← hcanon, canon_idem]
    simp

/-- the same for a member of `inW`: what the `W` theorems of Props.lean are the conjuncts of -/
theorem W_core_of_inW {x : List Rune} (h : inW x = true) :
    ∃ (c : Chunk) (cs : List Chunk), goodFrom none (c :: cs) = true ∧
      format x = flatten (canon none 0 (c :: cs)) ++ [rNL] ∧ preservesTokens x = true ∧ idempotentAt x = true := by
  obtain ⟨lead, trail, c, cs, rfl, hl, ht, hs, hg⟩ := inW_decompose h
  exact ⟨c, cs, hg, W_core hl ht hs hg⟩

end CaddyModel.C17
