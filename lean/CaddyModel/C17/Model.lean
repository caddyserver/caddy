/-
C17 — model of `caddyfile.Format` (caddyconfig/caddyfile/formatter.go as it stands in /repo, with the
`fix: caddyfile: …` commits that DESIGN.md §3 lists for C17), transliterated statement by statement: the local variables of the rune loop are the fields of `FState`,
one loop iteration is `step`, `continue` is "return the state".  The output buffer is kept
REVERSED (`rout`, newest rune first) so that `write` is a cons and `last` is its head; the
two `bytes.TrimSpace` calls become `trimSpace` on rune lists (rune boundaries of a Go byte
string are the same from both ends, so trimming commutes with UTF-8 decoding).
Core Lean only; structural recursion only (`List.foldl` over the input: termination of
`Format` is by construction, see `Props.fmt_total`).
-/
import CaddyModel.C17.Lexer

namespace CaddyModel.C17

structure FState where
  rout : List Rune := []          -- out, reversed
  last : Rune := 0                -- the last character that was written to the result
  space : Bool := true
  bol : Bool := true              -- beginningOfLine
  openBrace : Bool := false
  openBraceWritten : Bool := false
  openBraceSpace : Bool := false
  newLines : Nat := 0
  comment : Bool := false
  quoted : Bool := false
  escaped : Bool := false
  heredoc : Nat := 0              -- 0 heredocClosed, 1 heredocOpening, 2 heredocOpened
  heredocStart : Bool := false    -- the previous character was a `<` that begins a token
  heredocEscaped : Bool := false
  marker : List Rune := []        -- heredocMarker
  closing : List Rune := []       -- heredocClosingMarker
  nesting : Nat := 0
  backquoted : Bool := false      -- inside a token that started with a backquote
  tokenEnded : Bool := false      -- the previous character closed a quoted segment (a new token starts here)
  continued : Bool := false       -- the last character written is an escaped newline (the line goes on)
deriving DecidableEq, Repr

/-- `write(ch)` -/
def FState.write (s : FState) (ch : Rune) : FState :=
  { s with rout := ch :: s.rout, last := ch, continued := false }

/-- `for tabs := n; tabs > 0; tabs-- { write('\t') }` -/
def FState.tabs (s : FState) : Nat → FState
  | 0 => s
  | n + 1 => (s.write rTAB).tabs n

/-- `indent()` -/
def FState.indent (s : FState) : FState := s.tabs s.nesting

/-- `nextLine()` -/
def FState.nextLine (s : FState) : FState := { s.write rNL with bol := true }

/-- `for i := 0; i < n; i++ { nextLine() }` -/
def FState.nextLines (s : FState) : Nat → FState
  | 0 => s
  | n + 1 => s.nextLine.nextLines n

/-! The loop body, bottom-up (each def is one stretch of the Go loop body; the Go statement it
mirrors is quoted above it). -/

/-- `write(ch); beginningOfLine = false` (the `heredocStart` update in between is in `stepRegular`) -/
def stepWord6 (s : FState) (_spacePrior : Bool) (ch : Rune) : FState :=
  { s.write ch with bol := false }

/-- `if openBrace && !openBraceWritten { write('{'); openBraceWritten = true }` (291-294) -/
def stepWord5 (s : FState) (spacePrior : Bool) (ch : Rune) : FState :=
  stepWord6 (if s.openBrace && !s.openBraceWritten then { s.write rOpen with openBraceWritten := true } else s) spacePrior ch

/-- `if !beginningOfLine && spacePrior { write(' ') }` (287-289) -/
def stepWord4 (s : FState) (spacePrior : Bool) (ch : Rune) : FState :=
  stepWord5 (if !s.bol && spacePrior then s.write rSP else s) spacePrior ch

/-- `if nesting == 0 && last == '}' && beginningOfLine { nextLine(); nextLine() }` (282-285) -/
def stepWord3 (s : FState) (spacePrior : Bool) (ch : Rune) : FState :=
  stepWord4 (if s.nesting == 0 && s.last == rClose && s.bol then s.nextLine.nextLine else s) spacePrior ch

/-- `if beginningOfLine { indent() }` (279-281) -/
def stepWord2 (s : FState) (spacePrior : Bool) (ch : Rune) : FState :=
  stepWord3 (if s.bol then s.indent else s) spacePrior ch

/-- `if newLines > 2 { newLines = 2 }; for i := 0; i < newLines; i++ { nextLine() }; newLines = 0`
    (272-278), then the rest: an ordinary character of a word (also an opening quote, `#`, a
    glued brace) -/
def stepWord (s : FState) (spacePrior : Bool) (ch : Rune) : FState :=
  stepWord2 ({ s.nextLines (min s.newLines 2) with newLines := 0 }) spacePrior ch

/-- `if nesting == 0 && last == '}' { nextLine(); nextLine() }; openBrace = false` (219-224) -/
def flush1 (s : FState) : FState :=
  { (if s.nesting == 0 && s.last == rClose then s.nextLine.nextLine else s) with openBrace := false }

/-- `if beginningOfLine { indent() } else if !openBraceSpace { write(' ') }` (225-229) -/
def flush2 (s : FState) : FState :=
  if s.bol then s.indent else if !s.openBraceSpace then s.write rSP else s

/-- `write('{'); openBraceWritten = true; nextLine(); newLines = 0` (230-233) -/
def flush3 (s : FState) : FState :=
  { ({ s.write rOpen with openBraceWritten := true }).nextLine with newLines := 0 }

/-- `if nesting < 10 { nesting++ }` — "prevent infinite nesting from ridiculous inputs (issue #4169)" -/
def flush4 (s : FState) : FState :=
  if s.nesting < 10 then { s with nesting := s.nesting + 1 } else s

/-- lines 218-238: the pending `{` is written, followed by a newline, when the next word starts -/
def flushOpen (s : FState) : FState := flush4 (flush3 (flush2 (flush1 s)))

/-- the `switch` on braces, then the ordinary-character tail -/
def stepBrace (s : FState) (spacePrior : Bool) (ch : Rune) : FState :=
  if ch == rOpen then
    -- openBrace = true; openBraceSpace = spacePrior && !beginningOfLine; if openBraceSpace { write(' ') }
    -- openBraceWritten = false; continue
    { (if spacePrior && !s.bol then s.write rSP else s) with
        openBrace := true, openBraceSpace := spacePrior && !s.bol, openBraceWritten := false }
  else if ch == rClose && (spacePrior || !s.openBrace) then
    -- if last != '\n' { nextLine() }; if nesting > 0 { nesting-- }; indent(); write('}'); newLines = 0
    -- (an escaped newline does not end the line: `|| (continued && newLines > 0)`)
    { ((({ (if s.last != rNL || (s.continued && decide (s.newLines > 0)) then s.nextLine else s) with
            nesting := s.nesting - 1 }).indent).write rClose) with newLines := 0 }
  else stepWord s spacePrior ch

/-- `if openBrace && spacePrior && !openBraceWritten { … }` (218) -/
def stepRegular2 (s : FState) (spacePrior : Bool) (ch : Rune) : FState :=
  stepBrace (if s.openBrace && spacePrior && !s.openBraceWritten then flushOpen s else s) spacePrior ch

/-- "we know we are in a regular part of the file".  `tokenStart := spacePrior || tokenEnded`;
    `if ch == '#' && tokenStart { comment = true }`; …; `if tokenStart && ch == '<' { heredocStart = true }`
    (that statement sits just before the final `write(ch)`, which only `<` as an ordinary
    character reaches; nothing reads the flag in between) -/
def stepRegular (s : FState) (spacePrior tokenStart : Bool) (ch : Rune) : FState :=
  if tokenStart && ch == rLT then
    { stepRegular2 s spacePrior ch with heredocStart := true }
  else stepRegular2 (if ch == rHash && tokenStart then { s with comment := true } else s) spacePrior ch

/-- comments, backquoted and quoted segments, escapes, whitespace -/
def stepLiteral (s : FState) (ch : Rune) : FState :=
  if s.comment then
    if ch == rNL then ({ s with comment := false, space := true }).nextLine
    else s.write ch
  else if s.backquoted then
    -- literal up to the closing backquote (no escapes inside); the lexer starts a new token after it
    { s.write ch with backquoted := !(ch == rBQ), tokenEnded := (if ch == rBQ then true else s.tokenEnded) }
  else if s.escaped then
    -- an escaped newline (outside quotes) separates tokens like white space
    { ((if ch == rLT then { s with heredocEscaped := true } else s).write ch) with
        escaped := false, space := (if ch == rNL && !s.quoted then true else s.space),
        continued := ch == rNL && !s.quoted,
        heredocEscaped := (if ch == rNL && !s.quoted then false else (ch == rLT || s.heredocEscaped)) }
  else if ch == rBS && s.quoted then
    { s.write ch with escaped := true }
  else if s.quoted then
    { s.write ch with quoted := !(ch == rDQ), tokenEnded := (if ch == rDQ then true else s.tokenEnded) }
  else if isSpace ch then
    -- CR is ignored altogether, as in the lexer
    if ch == rCR then s
    else { s with space := true, tokenEnded := false, heredocEscaped := false,
                  newLines := s.newLines + (if ch == rNL then 1 else 0) }
  else
    -- if (space || tokenEnded) && ch == '"' { quoted = true }; … '`' { backquoted = true }
    -- spacePrior := space; space = false; tokenStart := spacePrior || tokenEnded; tokenEnded = false
    -- (outside of quotes a backslash sets `escaped` and is then an ordinary character of a word)
    stepRegular { s with quoted := (s.space || s.tokenEnded) && ch == rDQ,
                         backquoted := (s.space || s.tokenEnded) && ch == rBQ, space := false, tokenEnded := false,
                         escaped := ch == rBS }
      s.space (s.space || s.tokenEnded) ch

/-- `heredocClosingMarker = append(…, ch); if len > len(marker) { closing = closing[1:] }` -/
def pushClosing (closing marker : List Rune) (ch : Rune) : List Rune :=
  if (closing ++ [ch]).length > marker.length then (closing ++ [ch]).drop 1 else closing ++ [ch]

/-- heredoc marker collection and heredoc body -/
def stepHeredoc (s : FState) (ch : Rune) : FState :=
  if s.heredoc == 1 then
    if ch == rNL then
      if markerOK s.marker then ({ s with heredoc := 2 }).write ch
      else ({ s with marker := [], heredoc := 0, space := true }).nextLine
    else if ch == rCR then s      -- skip CR, we only care about LF
    else if ch == rSP then
      -- a space means it's just a regular token and not a heredoc
      stepLiteral { s with marker := [], heredoc := 0 } ch
    else ({ s with marker := s.marker ++ [ch] }).write ch
  else if s.heredoc == 2 then
    -- all characters are read&write as-is; like in the lexer the heredoc ends with the first
    -- occurrence of the marker, and a new token may start right after it
    if pushClosing s.closing s.marker ch == s.marker then
      { s.write ch with marker := [], closing := [], heredoc := 0, tokenEnded := true }
    else
      { s.write ch with closing := if ch == rNL then [] else pushClosing s.closing s.marker ch }
  else stepLiteral s ch

/-- one iteration of the `for` loop: "detect whether we have the start of a heredoc"
    (`heredocStart && ch == '<'`), then `if ch != '\\r' { heredocStart = false }` and the rest -/
def step (s : FState) (ch : Rune) : FState :=
  if !s.quoted && !(s.heredoc != 0 || s.heredocEscaped) && s.heredocStart && ch == rLT then
    { s.write ch with heredoc := 1, heredocStart := false }
  else stepHeredoc { s with heredocStart := s.heredocStart && ch == rCR } ch   -- CR is ignored altogether

/-- `bytes.TrimSpace` on runes -/
def trimLeft (l : List Rune) : List Rune := l.dropWhile isSpace
def trimSpace (l : List Rune) : List Rune := ((trimLeft l).reverse.dropWhile isSpace).reverse

/-- the loop over the (trimmed) input -/
def run (inp : List Rune) : FState := inp.foldl step {}

/-- `append(bytes.TrimSpace(out.Bytes()), '\n')` for a reversed buffer -/
def finish (rout : List Rune) : List Rune := (trimLeft (trimLeft rout).reverse) ++ [rNL]

/-- after the loop: "an opening brace at the very end of the input is still waiting for the
    token after it; write it rather than dropping it" -/
def flushEnd (s : FState) : FState :=
  if s.openBrace && !s.openBraceWritten then
    (flush2 (flush1 s)).write rOpen
  else s

/-- `Format` after the empty-input and byte-order-mark prologue -/
def formatCore (inp : List Rune) : List Rune := finish (flushEnd (run (trimSpace inp))).rout

/-- `Format` on runes: the empty input stays empty ("not a Caddyfile; do not turn it into one");
    a byte order mark at the beginning of the trimmed input is kept but is not part of the
    first token (`bytes.TrimSpace`, BOM check, `bytes.TrimSpace` again inside `formatCore`) -/
def format (inp : List Rune) : List Rune :=
  if inp.isEmpty then []
  else match trimSpace inp with
    | [] => formatCore []
    | c :: rest => if c = rBOM then rBOM :: formatCore rest else formatCore (c :: rest)

/-- `Format` on bytes (what `caddy fmt` applies to a file) -/
def formatBytes (b : Bytes) : Bytes := encodeUtf8 (format (decodeUtf8 b))

end CaddyModel.C17
