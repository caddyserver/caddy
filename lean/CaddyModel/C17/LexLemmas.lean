/-
C17 — `Tokenize` on the fragment `W`: one token per word that is not a comment, line = 1 + newlines
before it (`toksOf`, `tokenize_on_chunks`).
-/
import CaddyModel.C17.Chunks

namespace CaddyModel.C17

theorem heredocStart_false {v : List Rune} {tl : Nat} (h : v.all wordCh = true) :
    ({ val := v, tokLine := tl } : NextSt).heredocStart = false := by
  unfold NextSt.heredocStart
  match v, h with
  | [], _ => simp
  | [a], _ => simp
  | a :: b :: r, h =>
    simp only [List.all_cons, Bool.and_eq_true] at h
    have := (wordCh_spec h.1).lt
    simp [rLT, this]

theorem lex_char {c : Rune} {rest v : List Rune} {l : LexSt} {tl : Nat} {acc : List Token}
    (hc : wordCh c = true) (hv : v.all wordCh = true) :
    lexLoop (c :: rest) l { val := v, tokLine := tl } acc =
      lexLoop rest l { val := v ++ [c], tokLine := if v.length == 0 then l.line else tl } acc := by
  obtain ⟨hsp, h34, h35, h60, h92, h96, h10⟩ := wordCh_spec hc
  rw [lexLoop]
  simp [heredocStart_false hv, rBS, rDQ, rBQ, rHash, hsp, h34, h35, h92, h96]

theorem lex_word : ∀ (w rest v : List Rune) (l : LexSt) (tl : Nat) (acc : List Token),
    w.all wordCh = true → v.all wordCh = true → v ≠ [] →
    lexLoop (w ++ rest) l { val := v, tokLine := tl } acc = lexLoop rest l { val := v ++ w, tokLine := tl } acc
  | [], rest, v, l, tl, acc, _, _, _ => by simp
  | c :: w, rest, v, l, tl, acc, hw, hv, hne => by
    simp only [List.all_cons, Bool.and_eq_true] at hw
    have hlen : (v.length == 0) = false := by simpa using hne
    rw [List.cons_append, lex_char hw.1 hv, hlen]
    simp only [Bool.false_eq_true, ↓reduceIte]
    rw [lex_word w rest (v ++ [c]) l tl acc hw.2 (by simp [hv, hw.1]) (by simp)]
    simp

theorem lex_word_fresh {c : Rune} {w rest : List Rune} {l : LexSt} {acc : List Token}
    (hc : wordCh c = true) (hw : w.all wordCh = true) :
    lexLoop (c :: w ++ rest) l {} acc = lexLoop rest l { val := c :: w, tokLine := l.line } acc := by
  have h0 : lexLoop (c :: (w ++ rest)) l { val := [], tokLine := 0 } acc
      = lexLoop (w ++ rest) l { val := [c], tokLine := l.line } acc := by
    rw [lex_char hc (by simp)]; simp
  rw [List.cons_append]
  rw [show ({} : NextSt) = { val := [], tokLine := 0 } from rfl, h0,
    lex_word w rest [c] l l.line acc hw (by simp [hc]) (by simp)]
  simp

theorem lex_ws_fresh : ∀ (ws rest : List Rune) (ln : Nat) (acc : List Token), ws.all wsCh = true →
    lexLoop (ws ++ rest) ⟨ln, 0⟩ {} acc = lexLoop rest ⟨ln + countNL ws, 0⟩ {} acc
  | [], _, _, _, _ => by simp [countNL]
  | c :: ws, rest, ln, acc, h => by
    simp only [List.all_cons, Bool.and_eq_true] at h
    obtain ⟨hsp, h13, h92⟩ := wsCh_spec h.1
    rw [List.cons_append, lexLoop]
    by_cases hnl : c = 10
    · subst hnl
      have := lex_ws_fresh ws rest (ln + 1) acc h.2
      simp [NextSt.heredocStart, rBS, rCR, rNL, isSpace, countNL] at this ⊢
      rw [this]; congr 2; omega
    · have := lex_ws_fresh ws rest ln acc h.2
      simp [NextSt.heredocStart, rBS, rCR, rNL, hsp, h13, h92, hnl, countNL] at this ⊢
      exact this

theorem lex_ws_end {c : Rune} {rest v : List Rune} {ln tl : Nat} {acc : List Token}
    (hc : wsCh c = true) (hv : v.all wordCh = true) (hne : v ≠ []) :
    lexLoop (c :: rest) ⟨ln, 0⟩ { val := v, tokLine := tl } acc =
      lexLoop rest ⟨ln + countNL [c], 0⟩ {} (acc ++ [⟨tl, v, 0, []⟩]) := by
  obtain ⟨hsp, h13, h92⟩ := wsCh_spec hc
  have hlen : 0 < v.length := List.length_pos_iff.mpr hne
  rw [lexLoop]
  by_cases hnl : c = 10
  · subst hnl
    simp [heredocStart_false hv, rBS, rCR, rNL, isSpace, countNL, hlen, NextSt.mk']
  · simp [heredocStart_false hv, rBS, rCR, rNL, hsp, h13, h92, hnl, countNL, hlen, NextSt.mk']

theorem lex_hash {rest : List Rune} {l : LexSt} {acc : List Token} :
    lexLoop (rHash :: rest) l {} acc = lexLoop rest l { comment := true } acc := by
  rw [lexLoop]
  simp [NextSt.heredocStart, rBS, rHash, isSpace]

theorem lex_comment_text : ∀ (t rest : List Rune) (l : LexSt) (acc : List Token), t.all cmtCh = true →
    lexLoop (t ++ rest) l { comment := true } acc = lexLoop rest l { comment := true } acc
  | [], _, _, _, _ => rfl
  | c :: t, rest, l, acc, h => by
    simp only [List.all_cons, Bool.and_eq_true] at h
    obtain ⟨h10, h92⟩ := cmtCh_spec h.1
    rw [List.cons_append, lexLoop]
    have ih := lex_comment_text t rest l acc h.2
    by_cases hsp : isSpace c = true
    · by_cases h13 : c = 13
      · subst h13
        simp [NextSt.heredocStart, rBS, rCR, isSpace]
        exact ih
      · simp [NextSt.heredocStart, rBS, rCR, rNL, hsp, h13, h10, h92]
        exact ih
    · simp [NextSt.heredocStart, rBS, hsp, h92]
      exact ih

theorem lex_comment_nl {rest : List Rune} {ln : Nat} {acc : List Token} :
    lexLoop (rNL :: rest) ⟨ln, 0⟩ { comment := true } acc = lexLoop rest ⟨ln + 1, 0⟩ {} acc := by
  rw [lexLoop]
  simp [NextSt.heredocStart, rBS, rCR, rNL, isSpace]

/-- the text the lexer keeps of the content of a double-quoted string: `\"` becomes `"`, every
    other backslash pair stays -/
def unesc : List Rune → List Rune
  | [] => []
  | c :: t =>
    if c == rBS then
      (match t with
       | [] => [rBS]
       | d :: t' => (if d == rDQ then [d] else [rBS, d]) ++ unesc t')
    else c :: unesc t

theorem unesc_cons_ne (c : Rune) (t : List Rune) (h1 : (c == rBS) = false) : unesc (c :: t) = c :: unesc t := by
  cases t <;> simp [unesc, h1]

theorem lex_dq_content (as rest : List Rune) (l : LexSt) (tl : Nat) (acc : List Token) : ∀ (v : List Rune),
    dqBody as = true →
    lexLoop (as ++ rest) l { val := v, tokLine := tl, quoted := true } acc =
      lexLoop rest l { val := v ++ unesc as, tokLine := tl, quoted := true } acc := by
  fun_induction dqBody as with
  | case1 => intro v _; simp [unesc]
  | case2 c hc => exact fun _ h => nomatch h
  | case3 c hc d t ih =>
    intro v h
    simp only [beq_iff_eq] at hc
    subst hc
    simp only [Bool.and_eq_true, bne_iff_ne, ne_eq] at h
    have h10 : d ≠ 10 := h.1
    have ih := ih (v ++ (if d == rDQ then [d] else [rBS, d])) h.2
    rw [List.cons_append, List.cons_append, lexLoop]
    simp only [NextSt.heredocStart, rBS, rDQ, rNL]
    simp
    rw [lexLoop]
    by_cases hd : d = 34
    · subst hd
      simp [NextSt.heredocStart, rBS, rDQ, rNL, unesc] at ih ⊢
      rw [ih]
    · simp [NextSt.heredocStart, rBS, rDQ, rNL, unesc, hd, h10] at ih ⊢
      rw [ih]
  | case4 c t hc ih =>
    intro v h
    simp only [Bool.and_eq_true, bne_iff_ne, ne_eq, beq_iff_eq] at h hc
    have h34 : c ≠ 34 := h.1.1
    have h10 : c ≠ 10 := h.1.2
    have h92 : c ≠ 92 := hc
    rw [List.cons_append, lexLoop]
    simp [NextSt.heredocStart, rBS, rDQ, rNL, h34, h92, h10]
    rw [ih (v ++ [c]) h.2, unesc_cons_ne c t (by simp [rBS, h92])]
    simp

theorem lex_dq {as rest : List Rune} {l : LexSt} {acc : List Token} (h : dqBody as = true) :
    lexLoop (rDQ :: (as ++ rDQ :: rest)) l {} acc = lexLoop rest l {} (acc ++ [⟨l.line, unesc as, rDQ, []⟩]) := by
  have h1 : lexLoop (rDQ :: (as ++ rDQ :: rest)) l {} acc
      = lexLoop (as ++ rDQ :: rest) l { val := [], tokLine := l.line, quoted := true } acc := by
    rw [lexLoop]; simp [NextSt.heredocStart, rBS, rDQ, rHash, isSpace]
  rw [h1, lex_dq_content as _ l l.line acc [] h, lexLoop]
  simp [NextSt.heredocStart, rBS, rDQ, NextSt.mk']

theorem lex_bq_content : ∀ (as rest v : List Rune) (l : LexSt) (tl : Nat) (acc : List Token), as.all bqCh = true →
    lexLoop (as ++ rest) l { val := v, tokLine := tl, btQuoted := true } acc =
      lexLoop rest l { val := v ++ as, tokLine := tl, btQuoted := true } acc
  | [], _, _, _, _, _, _ => by simp
  | c :: as, rest, v, l, tl, acc, h => by
    simp only [List.all_cons, Bool.and_eq_true] at h
    obtain ⟨h96, h10⟩ := bqCh_spec h.1
    rw [List.cons_append, lexLoop]
    have ih := lex_bq_content as rest (v ++ [c]) l tl acc h.2
    simp [NextSt.heredocStart, rBS, rBQ, rNL, h96, h10]
    rw [ih]; simp

theorem lex_bq {as rest : List Rune} {l : LexSt} {acc : List Token} (h : as.all bqCh = true) :
    lexLoop (rBQ :: (as ++ rBQ :: rest)) l {} acc = lexLoop rest l {} (acc ++ [⟨l.line, as, rBQ, []⟩]) := by
  have h1 : lexLoop (rBQ :: (as ++ rBQ :: rest)) l {} acc
      = lexLoop (as ++ rBQ :: rest) l { val := [], tokLine := l.line, btQuoted := true } acc := by
    rw [lexLoop]; simp [NextSt.heredocStart, rBS, rBQ, rDQ, rHash, isSpace]
  rw [h1, lex_bq_content as _ [] l l.line acc h, lexLoop]
  simp [NextSt.heredocStart, rBS, rBQ, NextSt.mk']

def isCmtW (w : List Rune) : Bool := w.head? == some rHash
def isDqW (w : List Rune) : Bool := w.head? == some rDQ
def isBqW (w : List Rune) : Bool := w.head? == some rBQ

/-- text and quote kind of the token a word gives -/
def tokText (w : List Rune) : List Rune :=
  if isDqW w then unesc (w.drop 1).dropLast else if isBqW w then (w.drop 1).dropLast else w
def tokQuote (w : List Rune) : Rune := if isDqW w then rDQ else if isBqW w then rBQ else 0

/-- the tokens of a chunk list whose first separator starts on line `ln` (comments give none) -/
def toksOf : Nat → List Chunk → List Token
  | _, [] => []
  | ln, c :: cs =>
    if isCmtW c.word then toksOf (ln + c.nl) cs
    else ⟨ln + c.nl, tokText c.word, tokQuote c.word, []⟩ :: toksOf (ln + c.nl) cs

theorem tokText_dq (as : List Rune) : tokText (rDQ :: (as ++ [rDQ])) = unesc as := by
  simp [tokText, isDqW]

theorem tokQuote_dq (t : List Rune) : tokQuote (rDQ :: t) = rDQ := by simp [tokQuote, isDqW]

theorem tokText_bq (as : List Rune) : tokText (rBQ :: (as ++ [rBQ])) = as := by
  simp [tokText, isBqW, isDqW, rBQ, rDQ]

theorem tokQuote_bq (t : List Rune) : tokQuote (rBQ :: t) = rBQ := by simp [tokQuote, isDqW, isBqW, rDQ, rBQ]

theorem shape_unquoted {k : Kind} {w : List Rune} (h : Shape k w) (hc : k ≠ .cmt) (hq : k ≠ .dq) :
    (∃ a as, w = a :: as ∧ wordCh a = true ∧ as.all wordCh = true) ∧ isCmtW w = false ∧
      tokText w = w ∧ tokQuote w = 0 := by
  obtain ⟨a, as, rfl, ha, has⟩ := shape_all_wordCh h hc hq
  have := wordCh_spec ha
  exact ⟨⟨a, as, rfl, ha, has⟩,
    by simp [isCmtW, tokText, tokQuote, isDqW, isBqW, rHash, rDQ, rBQ, this.dq, this.hash, this.bq]⟩

theorem shape_cmt {w : List Rune} (h : Shape .cmt w) : isCmtW w = true := by
  cases h; rfl

theorem wsCh_cmtCh {c : Rune} (h : wsCh c = true) (hnl : c ≠ 10) : cmtCh c = true := by
  obtain ⟨-, -, h92⟩ := wsCh_spec h
  simp [cmtCh, rNL, rBS, hnl, h92]

theorem toksOf_cons (ln : Nat) (sep w : List Rune) (cs : List Chunk) :
    toksOf ln (⟨sep, w⟩ :: cs) =
      if isCmtW w then toksOf (ln + countNL sep) cs
      else ⟨ln + countNL sep, tokText w, tokQuote w, []⟩ :: toksOf (ln + countNL sep) cs := rfl

theorem lex_end (l : LexSt) (acc : List Token) : lexLoop [] l {} acc = .ok acc := by
  rw [lexLoop]; simp

theorem lex_trail_comment : ∀ (trail : List Rune) (ln : Nat) (acc : List Token), trail.all wsCh = true →
    lexLoop trail ⟨ln, 0⟩ { comment := true } acc = .ok acc
  | [], _, _, _ => by rw [lexLoop]; simp
  | c :: ws, ln, acc, h => by
    simp only [List.all_cons, Bool.and_eq_true] at h
    by_cases hnl : c = 10
    · subst hnl
      have := lex_ws_fresh ws [] (ln + 1) acc h.2
      rw [List.append_nil] at this
      rw [show (10 : Rune) = rNL from rfl, lex_comment_nl, this, lex_end]
    · have := lex_comment_text [c] ws ⟨ln, 0⟩ acc (by simp [wsCh_cmtCh h.1 hnl])
      rw [List.singleton_append] at this
      rw [this, lex_trail_comment ws ln acc h.2]

/-- a word is taken with the white space after it because of when its token appears: a comment is
    skipped with the line break that ends it, a string gives its token at the closing quote, any
    other word when the first white-space character is read or the input ends -/
theorem lex_word_ws {w ws rest : List Rune} {k : Kind} (ln : Nat) (acc : List Token)
    (hsh : Shape k w) (hws : ws.all wsCh = true)
    (h : rest = [] ∨ ∃ a ws', ws = a :: ws' ∧ (k = .cmt → a = rNL)) :
    lexLoop (w ++ (ws ++ rest)) ⟨ln, 0⟩ {} acc =
      lexLoop rest ⟨ln + countNL ws, 0⟩ {}
        (if isCmtW w then acc else acc ++ [⟨ln, tokText w, tokQuote w, []⟩]) := by
  by_cases h1 : k = .cmt
  · subst h1
    rw [shape_cmt hsh]
    cases hsh with
    | cmt has _ =>
      simp only [List.cons_append, ↓reduceIte]
      rw [lex_hash, lex_comment_text _ _ _ _ has]
      rcases h with rfl | ⟨a, ws', rfl, ha⟩
      · rw [List.append_nil, lex_trail_comment ws _ _ hws, lex_end]
      · obtain rfl := ha rfl
        simp only [List.all_cons, Bool.and_eq_true] at hws
        rw [List.cons_append, lex_comment_nl, lex_ws_fresh ws' rest _ acc hws.2]
        simp only [countNL, ↓reduceIte, Nat.add_assoc]
  by_cases h2 : k = .dq
  · subst h2
    cases hsh with
    | dq has =>
      simp only [List.cons_append, List.append_assoc, List.nil_append]
      rw [lex_dq has, tokText_dq, tokQuote_dq, lex_ws_fresh ws rest ln _ hws]
      rfl
    | bq has =>
      simp only [List.cons_append, List.append_assoc, List.nil_append]
      rw [lex_bq has, tokText_bq, tokQuote_bq, lex_ws_fresh ws rest ln _ hws]
      rfl
  obtain ⟨⟨a, as, rfl, ha, has⟩, h3, h4, h5⟩ := shape_unquoted hsh h1 h2
  have hv : (a :: as).all wordCh = true := by simp [ha, has]
  rw [h3, h4, h5, lex_word_fresh ha has]
  simp only [Bool.false_eq_true, ↓reduceIte]
  cases ws with
  | nil =>
    obtain rfl : rest = [] := h.elim id fun ⟨_, _, e, _⟩ => nomatch e
    rw [lex_end, List.append_nil, lexLoop]; simp [NextSt.mk']
  | cons b ws' =>
    simp only [List.all_cons, Bool.and_eq_true] at hws
    rw [List.cons_append, lex_ws_end hws.1 hv (by simp), lex_ws_fresh ws' rest _ _ hws.2]
    simp only [countNL, Nat.add_zero, Nat.add_assoc]

theorem toksOf_sep (ln : Nat) (sep w : List Rune) (cs : List Chunk) :
    toksOf (ln + countNL sep) (⟨[], w⟩ :: cs) = toksOf ln (⟨sep, w⟩ :: cs) := rfl

theorem lex_chunks (trail : List Rune) (ht : trail.all wsCh = true) : ∀ (cs : List Chunk) (w : List Rune)
    (k : Kind) (ln : Nat) (acc : List Token), Shape k w → Good (some k) cs →
    lexLoop (w ++ (flatten cs ++ trail)) ⟨ln, 0⟩ {} acc = .ok (acc ++ toksOf ln (⟨[], w⟩ :: cs))
  | [], w, k, ln, acc, hsh, _ => by
    have := lex_word_ws (rest := []) ln acc hsh ht (Or.inl rfl)
    rw [List.append_nil] at this
    rw [flatten, List.nil_append, this, lex_end, toksOf_cons]
    split <;> simp [toksOf, countNL]
  | c :: cs, w, k, ln, acc, hsh, .cons hws hsh' hok hg' => by
    rw [show flatten (c :: cs) ++ trail = c.sep ++ (c.word ++ (flatten cs ++ trail)) by simp [flatten],
      lex_word_ws ln acc hsh hws (Or.inr hok.cons), lex_chunks trail ht cs c.word c.kind _ _ hsh' hg',
      toksOf_sep ln c.sep, toksOf_cons ln []]
    split <;> simp [countNL]

theorem tokenize_on_chunks {lead trail : List Rune} {c : Chunk} {cs : List Chunk}
    (hl : lead.all wsCh = true) (ht : trail.all wsCh = true) (hs : c.sep = [])
    (hg : Good none (c :: cs)) :
    tokenize (lead ++ (flatten (c :: cs) ++ trail)) = .ok (toksOf 1 (⟨lead, c.word⟩ :: cs)) := by
  obtain _ | ⟨-, hsh, -, hg'⟩ := hg
  obtain ⟨a, w, hw, -, habom⟩ := shape_first hsh
  have hx : lead ++ (flatten (c :: cs) ++ trail) = lead ++ (c.word ++ (flatten cs ++ trail)) := by
    simp [flatten, hs, List.append_assoc]
  obtain ⟨b, r, hbr, hb⟩ : ∃ b r, lead ++ (c.word ++ (flatten cs ++ trail)) = b :: r ∧ b ≠ rBOM := by
    cases lead with
    | nil => exact ⟨a, w ++ (flatten cs ++ trail), by simp [hw], habom⟩
    | cons b r =>
      simp only [List.all_cons, Bool.and_eq_true] at hl
      exact ⟨b, _, rfl, fun e => by have := (wsCh_spec hl.1).1; rw [e] at this; exact absurd this (by decide)⟩
  have := lex_chunks trail ht cs c.word c.kind (1 + countNL lead) [] hsh hg'
  rw [← lex_ws_fresh lead _ 1 [] hl, toksOf_sep] at this
  unfold tokenize
  rw [hx]
  rw [hbr] at this ⊢
  simp only [List.isEmpty_cons, Bool.false_eq_true, ↓reduceIte, dropBOM, hb]
  rw [show ({} : LexSt) = ⟨1, 0⟩ from rfl, this]
  simp

end CaddyModel.C17
