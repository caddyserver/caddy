/-
C17 — the formatter on the fragment `W`, chunk by chunk.
Between two words the formatter is in one of five kinds of state (`Inv`, by kind of the previous
word); a chunk — white space, then a word — takes one to the next and appends the canonical
separator and the word to the output (`chunk_step`).  Underneath: `step` in closed form for every
character a word can start or go on with — outside a heredoc it is `stepLiteral` (`step_eq_stepLiteral`); from
there `step_ws_any` (white space), `step_reg` with `stepWord_eq` (a regular state: plain words and braces) and the
literal modes (`foldl_comment`, `step_in_dq`, `step_in_bq`) — and `pending_step`: a `{` that is kept back is written when the next word starts, so
that every word is dealt with once, from a state without pending brace (`chunk_nb`).
-/
import CaddyModel.C17.Canon
import CaddyModel.C17.Lemmas

-- (case-split proofs share one simp set; an argument unused in some branch is not worth a warning that
-- drowns real errors in the build log)
set_option linter.unusedSimpArgs false

namespace CaddyModel.C17

def wBrace (s : FState) : List Rune := if s.openBrace && !s.openBraceWritten then [rOpen] else []

/-- what `stepWord` writes in front of a word character (and of the pending brace) -/
def gap (s : FState) (sp : Bool) : List Rune :=
  if 1 ≤ s.newLines then nlsN (min s.newLines 2) ++ tabsN s.nesting
  else if s.bol then (if s.nesting = 0 ∧ s.last = rClose then [rNL, rNL] else tabsN s.nesting)
  else if sp then [rSP] else []

theorem stepWord5_eq (s : FState) (sp : Bool) (c : Rune) :
    stepWord5 s sp c = { s with rout := c :: (wBrace s ++ s.rout), last := c, bol := false,
                                openBraceWritten := s.openBraceWritten || s.openBrace, continued := false } := by
  match s with
  | { openBrace := ob, openBraceWritten := obw, .. } =>
    cases ob <;> cases obw <;> simp [stepWord5, stepWord6, FState.write, wBrace]

theorem stepWord_eq (s : FState) (sp : Bool) (c : Rune) :
    stepWord s sp c = { s with rout := c :: (wBrace s ++ ((gap s sp).reverse ++ s.rout)), last := c, bol := false,
                               newLines := 0, openBraceWritten := s.openBraceWritten || s.openBrace,
                               continued := false } := by
  unfold stepWord stepWord2 stepWord3 stepWord4
  rw [stepWord5_eq]
  match s with
  | { newLines := nls, nesting := nest, bol := bol, last := last, .. } =>
    by_cases hn : 1 ≤ nls
    · have hm : min nls 2 ≠ 0 := by omega
      by_cases h0 : nest = 0
      · subst h0
        simp [nextLines_eq, tabs_eq, FState.indent, FState.write, wBrace, gap, tabsN, nlsN, hn, hm, rNL, rClose, rTAB]
      · simp [nextLines_eq, tabs_eq, FState.indent, FState.write, wBrace, gap, tabsN, nlsN, hn, hm, h0, rNL, rClose, rTAB]
    · have h0 : nls = 0 := by omega
      subst h0
      cases bol
      · cases sp <;> simp [FState.nextLines, FState.write, wBrace, gap, rSP]
      · by_cases h0 : nest = 0
        · subst h0
          by_cases hl : last = 125
          · subst hl
            simp [FState.nextLines, FState.nextLine, FState.tabs, FState.indent, FState.write, wBrace, gap, tabsN, rNL, rClose]
          · simp [FState.nextLines, FState.nextLine, FState.tabs, FState.indent, FState.write, wBrace, gap, tabsN, rNL, rClose, hl]
        · simp [FState.nextLines, tabs_eq, FState.indent, FState.write, wBrace, gap, tabsN, rNL, rClose, rTAB, h0]

/-- a regular state: no literal mode (comment, quote, escape, heredoc, backquote) is active -/
structure Reg (s : FState) : Prop where
  comment : s.comment = false
  quoted : s.quoted = false
  escaped : s.escaped = false
  heredoc : s.heredoc = 0
  bq : s.backquoted = false
  hst : s.heredocStart = false
  te : s.tokenEnded = false
  cont : s.continued = false
  lastLT : s.last ≠ 60

theorem Reg.update {s : FState} (hr : Reg s) {l : Rune} (hl : l ≠ 60) {ct : Bool} (hct : ct = false)
    {r : List Rune} {sp b ob obw obs he : Bool} {n N : Nat} :
    Reg { s with rout := r, last := l, space := sp, bol := b, openBrace := ob, openBraceWritten := obw,
                 openBraceSpace := obs, newLines := n, heredocEscaped := he, nesting := N, continued := ct } :=
  ⟨hr.comment, hr.quoted, hr.escaped, hr.heredoc, hr.bq, hr.hst, hr.te, hct, hl⟩

def maybeFlush (s : FState) (sp : Bool) : FState :=
  if s.openBrace && sp && !s.openBraceWritten then flushOpen s else s

theorem maybeFlush_false (s : FState) : maybeFlush s false = s := by simp [maybeFlush]

theorem maybeFlush_nb {s : FState} (h : (s.openBrace && !s.openBraceWritten) = false) (sp : Bool) :
    maybeFlush s sp = s := by
  cases sp
  · exact maybeFlush_false s
  · simp [maybeFlush, h]

/-- first character of a word other than a brace: plain, or one that switches a literal mode on -/
def tokCh (c : Rune) : Bool := plainCh c || c == rHash || c == rDQ || c == rBQ

theorem tokCh_spec {c : Rune} (h : tokCh c = true) : RegCh c ∧ c ≠ 123 ∧ c ≠ 125 := by
  simp only [tokCh, Bool.or_eq_true, beq_iff_eq] at h
  rcases h with ((h | rfl) | rfl) | rfl
  · exact ⟨(plainCh_spec h).reg, (plainCh_spec h).opn, (plainCh_spec h).cls⟩
  all_goals exact ⟨⟨by decide, by decide, by decide⟩, by decide, by decide⟩

/-- outside a heredoc and not right after a token-initial `<`, one loop iteration is `stepLiteral` -/
theorem step_eq_stepLiteral {s : FState} (hhd : s.heredoc = 0) (hhs : s.heredocStart = false) (c : Rune) :
    step s c = stepLiteral s c := by
  cases s
  simp only at hhd hhs
  subst hhd hhs
  simp [step, stepHeredoc]

/-- no hypothesis on `tokenEnded`: the white-space branch clears it itself, so this holds right
    after a closing quote as well -/
theorem step_ws_any {s : FState} {c : Rune} (hcm : s.comment = false) (hq : s.quoted = false) (hesc : s.escaped = false)
    (hhd : s.heredoc = 0) (hbq : s.backquoted = false) (hhs : s.heredocStart = false) (hc : wsCh c = true) :
    step s c = { s with space := true, tokenEnded := false, heredocEscaped := false,
                        newLines := s.newLines + (if c == rNL then 1 else 0) } := by
  obtain ⟨hsp, h13, -⟩ := wsCh_spec hc
  rw [step_eq_stepLiteral hhd hhs]
  simp [stepLiteral, hcm, hq, hesc, hbq, hsp, h13, rCR]

theorem step_ws {s : FState} {c : Rune} (hr : Reg s) (hc : wsCh c = true) :
    step s c = { s with space := true, heredocEscaped := false,
                        newLines := s.newLines + (if c == rNL then 1 else 0) } := by
  rw [step_ws_any hr.comment hr.quoted hr.escaped hr.heredoc hr.bq hr.hst hc]
  have := hr.te
  cases s; simp_all

/-- `#`, `"`, backquote switch their mode on if a token starts here (`space`); the rest is the
    brace switch, after the pending `{` has been dealt with -/
theorem step_reg {s : FState} {c : Rune} (hr : Reg s) (hc : RegCh c) :
    step s c = stepBrace (maybeFlush { s with space := false, comment := c == rHash && s.space,
                                              quoted := s.space && c == rDQ, backquoted := s.space && c == rBQ }
                            s.space) s.space c := by
  obtain ⟨hsp, h60, h92⟩ := hc
  rw [step_eq_stepLiteral hr.heredoc hr.hst]
  match s, hr with
  | { space := sp, .. }, ⟨hcm, hq, hesc, hhd, hbq, hhs, hte, hct, _⟩ =>
  simp only at hcm hq hesc hhd hbq hhs hte hct
  subst hcm hq hesc hhd hbq hhs hte hct
  have hbs : (c == 92) = false := by simp [h92]
  by_cases hh : c = 35
  · subst hh
    cases sp <;> simp [stepLiteral, stepRegular, stepRegular2, maybeFlush, rLT, rBS, rHash, isSpace]
  · have hh' : (c == 35) = false := by simp [hh]
    simp [stepLiteral, stepRegular, stepRegular2, maybeFlush, rLT, rBS, rHash, *]

theorem stepBrace_word {s : FState} {sp : Bool} {c : Rune} (h1 : c ≠ 123) (h2 : c ≠ 125 ∨ (sp = false ∧ s.openBrace = true)) :
    stepBrace s sp c = stepWord s sp c := by
  rcases h2 with h2 | ⟨rfl, h2⟩
  · simp [stepBrace, rOpen, rClose, h1, h2]
  · simp [stepBrace, rOpen, h1, h2]

theorem step_tok {s : FState} {c : Rune} (hr : Reg s) (hs : s.space = true) (hc : tokCh c = true) :
    step s c = stepWord (maybeFlush { s with space := false, comment := c == rHash, quoted := c == rDQ,
                                             backquoted := c == rBQ } true) true c := by
  obtain ⟨hc', h123, h125⟩ := tokCh_spec hc
  rw [step_reg hr hc', stepBrace_word h123 (Or.inl h125)]
  simp only [hs, Bool.and_true, Bool.true_and]

theorem glued_spec {c : Rune} (h : plainCh c = true ∨ c = rClose) : RegCh c ∧ c ≠ 123 := by
  rcases h with h | rfl
  · exact ⟨(plainCh_spec h).reg, (plainCh_spec h).opn⟩
  · exact ⟨⟨by decide, by decide, by decide⟩, by decide⟩

theorem step_mid {s : FState} {c : Rune} (hr : Reg s) (hs : s.space = false)
    (hc : plainCh c = true ∨ (c = rClose ∧ s.openBrace = true)) : step s c = stepWord s false c := by
  obtain ⟨hc', h123⟩ := glued_spec (hc.imp_right (·.1))
  have h125 : c ≠ 125 ∨ (false = false ∧ s.openBrace = true) :=
    hc.elim (fun h => Or.inl (plainCh_spec h).cls) (fun h => Or.inr ⟨rfl, h.2⟩)
  have e : ({ s with space := false, comment := c == rHash && false, quoted := false && c == rDQ,
                     backquoted := false && c == rBQ } : FState) = s := by
    obtain ⟨h1, h2, -, -, h5, -, -, -, -⟩ := hr
    cases s
    simp_all
  rw [step_reg hr hc', hs, maybeFlush_false, e, stepBrace_word h123 h125]

theorem stepWord_nb {s : FState} (h : (s.openBrace && !s.openBraceWritten) = false) (sp : Bool) (c : Rune) :
    stepWord s sp c = { s with rout := c :: ((gap s sp).reverse ++ s.rout), last := c, bol := false,
                               newLines := 0, continued := false } := by
  rw [stepWord_eq]
  match s, h with
  | { openBrace := ob, openBraceWritten := obw, .. }, h => cases ob <;> cases obw <;> simp at h <;> rfl

theorem stepWord_pd {s : FState} (h1 : s.openBrace = true) (h2 : s.openBraceWritten = false) (sp : Bool) (c : Rune) :
    stepWord s sp c = { s with rout := c :: rOpen :: ((gap s sp).reverse ++ s.rout), last := c, bol := false,
                               newLines := 0, openBraceWritten := true, continued := false } := by
  rw [stepWord_eq]
  cases s
  simp only at h1 h2
  subst h1 h2
  rfl

/-- the state once a kept-back `{` has been written with its line break, one level deeper -/
def flushed (s : FState) : FState :=
  { s with rout := rNL :: rOpen :: s.rout, last := rNL, bol := true, openBrace := false, openBraceWritten := true,
           newLines := 0, nesting := nextN s.nesting .opn, continued := false }

/-- `hsh`: the brace follows a word on the same line, or is the first word of the file -/
theorem flushOpen_eq {s : FState} (hl : s.last ≠ 125)
    (hsh : (s.bol = false ∧ s.openBraceSpace = true) ∨ (s.bol = true ∧ s.nesting = 0)) :
    flushOpen s = flushed s := by
  match s, hl, hsh with
  | { nesting := nest, .. }, hl, hsh =>
    simp only at hl hsh
    rcases hsh with ⟨rfl, rfl⟩ | ⟨rfl, rfl⟩
    · by_cases hn : nest < 10 <;>
      simp [flushed, flushOpen, flush1, flush2, flush3, flush4, FState.nextLine, FState.write, nextN, hn, hl, rClose]
    · simp [flushed, flushOpen, flush1, flush2, flush3, flush4, FState.indent, FState.tabs, FState.nextLine, FState.write,
        nextN, hl, rClose]

theorem pending_step {t : FState} {c : Rune} (hr : Reg t) (hs : t.space = true) (h1 : t.openBrace = true)
    (h2 : t.openBraceWritten = false) (hl : t.last ≠ 125)
    (hsh : (t.bol = false ∧ t.openBraceSpace = true) ∨ (t.bol = true ∧ t.nesting = 0))
    (hc : RegCh c) : step t c = step (flushed t) c := by
  rw [step_reg hr hc, step_reg (s := flushed t) (hr.update (by decide) rfl) hc, hs,
    show (flushed t).space = true from hs]
  simp only [maybeFlush, h1, h2, Bool.and_self, Bool.not_false, ↓reduceIte]
  -- `by exact`: `hl`, `hsh` speak of `t`, the rewrite is at a record update of `t` that leaves those fields
  -- alone; elaborated after the pattern is found, they are accepted up to that reduction (here and below)
  rw [flushOpen_eq (by exact hl) (by exact hsh)]
  rfl

theorem first_tok {t : FState} {c : Rune} (hr : Reg t) (hs : t.space = true)
    (hnb : (t.openBrace && !t.openBraceWritten) = false) (hc : tokCh c = true) :
    step t c = { t with rout := c :: ((gap t true).reverse ++ t.rout), last := c, space := false, bol := false,
                        newLines := 0, comment := c == rHash, quoted := c == rDQ, backquoted := c == rBQ,
                        continued := false } := by
  rw [step_tok hr hs hc, maybeFlush_nb (by exact hnb), stepWord_nb (by exact hnb)]
  rfl

theorem step_brace {s : FState} {c : Rune} (hc : c = rOpen ∨ c = rClose) (hr : Reg s) (hs : s.space = true) :
    step s c = stepBrace (maybeFlush { s with space := false } true) true c := by
  have h1 := hr.comment; have h2 := hr.quoted; have h3 := hr.bq
  rcases hc with rfl | rfl
  · rw [step_reg hr ⟨by decide, by decide, by decide⟩, hs]
    cases s
    simp_all [rOpen, rHash, rDQ, rBQ]
  · rw [step_reg hr ⟨by decide, by decide, by decide⟩, hs]
    cases s
    simp_all [rClose, rHash, rDQ, rBQ]

theorem stepBrace_open (s : FState) (sp : Bool) :
    stepBrace s sp rOpen = { (if sp && !s.bol then s.write rSP else s) with
      openBrace := true, openBraceSpace := sp && !s.bol, openBraceWritten := false } := rfl

theorem step_lb_mid {s : FState} (hr : Reg s) (hs : s.space = false) :
    step s rOpen = { s with openBrace := true, openBraceSpace := false, openBraceWritten := false } := by
  rw [step_reg hr ⟨by decide, by decide, by decide⟩, hs, maybeFlush_false, stepBrace_open]
  have h1 := hr.comment; have h2 := hr.quoted; have h3 := hr.bq
  cases s; simp_all

theorem first_open_mid {t : FState} (hr : Reg t) (hs : t.space = true)
    (hnb : (t.openBrace && !t.openBraceWritten) = false) (hb : t.bol = false) :
    step t rOpen = { t with rout := rSP :: t.rout, last := rSP, space := false, openBrace := true,
                            openBraceSpace := true, openBraceWritten := false, continued := false } := by
  rw [step_brace (.inl rfl) hr hs, maybeFlush_nb (by exact hnb), stepBrace_open]
  simp [hb, FState.write]

theorem first_open_bol {t : FState} (hr : Reg t) (hs : t.space = true)
    (hnb : (t.openBrace && !t.openBraceWritten) = false) (hb : t.bol = true) :
    step t rOpen = { t with space := false, openBrace := true, openBraceSpace := false, openBraceWritten := false } := by
  rw [step_brace (.inl rfl) hr hs, maybeFlush_nb (by exact hnb), stepBrace_open]
  simp [hb]

theorem step_glued {u : FState} {c : Rune} (hr : Reg u) (hs : u.space = false) (h1 : u.openBrace = true)
    (h2 : u.openBraceWritten = false) (hc : plainCh c = true ∨ c = rClose) :
    step u c = { u with rout := c :: rOpen :: ((gap u false).reverse ++ u.rout), last := c, bol := false,
                        newLines := 0, openBraceWritten := true, continued := false } := by
  rw [step_mid hr hs (hc.imp_right fun h => ⟨h, h1⟩), stepWord_pd h1 h2]

/-- a word that starts with a placeholder: its `{` is kept back like a block brace and written with
    the character `c` glued to it (a plain one, or `}` for `{}`); in the middle of a line the blank
    in front of the brace is written at once, and stays at the end of the line if the word comes on
    a later one -/
theorem first_lb {t : FState} {c : Rune} (hr : Reg t) (hs : t.space = true)
    (hnb : (t.openBrace && !t.openBraceWritten) = false) (hc : plainCh c = true ∨ c = rClose) :
    step (step t rOpen) c =
      { t with rout := c :: rOpen :: ((gap t false).reverse ++ (if t.bol then t.rout else rSP :: t.rout)), last := c,
               space := false, bol := false, openBrace := true, openBraceWritten := true,
               openBraceSpace := !t.bol, newLines := 0, continued := false } := by
  cases hb : t.bol
  · rw [first_open_mid hr hs hnb hb, step_glued (hr.update (by decide) rfl) rfl rfl rfl hc]
    simp [gap, hb]
  · rw [first_open_bol hr hs hnb hb, step_glued (hr.update hr.lastLT hr.cont) rfl rfl rfl hc]
    simp [gap, hb]

theorem stepBrace_close (s : FState) :
    stepBrace s true rClose =
      { ((({ (if s.last != rNL || (s.continued && decide (s.newLines > 0)) then s.nextLine else s) with
            nesting := s.nesting - 1 }).indent).write rClose) with newLines := 0 } := rfl

theorem first_close {t : FState} (hr : Reg t) (hs : t.space = true)
    (hnb : (t.openBrace && !t.openBraceWritten) = false) :
    step t rClose =
      { t with rout := rClose :: (tabsN (t.nesting - 1) ++ (if t.last = rNL then t.rout else rNL :: t.rout)),
               last := rClose, space := false, bol := (if t.last = rNL then t.bol else true), newLines := 0,
               nesting := t.nesting - 1, continued := false } := by
  rw [step_brace (.inr rfl) hr hs, maybeFlush_nb (by exact hnb), stepBrace_close]
  by_cases hl : t.last = rNL <;> simp [tabs_eq, FState.indent, FState.nextLine, FState.write, tabsN, hl, hr.cont]

/-- output so far, including a `{` that is kept back until the next word -/
def outOf (s : FState) : List Rune := s.rout.reverse ++ wBrace s

theorem outOf_nb {s : FState} (h : (s.openBrace && !s.openBraceWritten) = false) : outOf s = s.rout.reverse := by
  simp [outOf, wBrace, h]

/-- inside a word at nesting `N`, the last rune written is part of it; `inB`: inside a placeholder
    group (its `{` may still be kept back), otherwise no brace is pending -/
structure Mid (N : Nat) (inB : Bool) (s : FState) : Prop where
  reg : Reg s
  space : s.space = false
  bol : s.bol = false
  nl : s.newLines = 0
  nest : s.nesting = N
  brace : if inB then s.openBrace = true else (s.openBrace && !s.openBraceWritten) = false
  lastNS : isSpace s.last = false
  head : ∃ r, s.rout = s.last :: r

theorem mid_char {N : Nat} {inB : Bool} {s : FState} {c : Rune} (h : Mid N inB s)
    (hc : plainCh c = true ∨ (c = rClose ∧ inB = true)) :
    Mid N (inB && c != rClose) (step s c) ∧ outOf (step s c) = outOf s ++ [c] := by
  have hob : c = rClose → s.openBrace = true := fun e => by
    have := h.brace
    rcases hc with hc | hc
    · rw [e] at hc; exact absurd hc (by decide)
    · rwa [hc.2] at this
  obtain ⟨⟨hns, hlt, -⟩, -⟩ := glued_spec (hc.imp_right (·.1))
  have hst : step s c =
      { s with rout := c :: (wBrace s ++ s.rout), last := c, bol := false, newLines := 0,
               openBraceWritten := s.openBraceWritten || s.openBrace, continued := false } := by
    rw [step_mid h.reg h.space (hc.imp_right fun h' => ⟨h'.1, hob h'.1⟩), stepWord_eq]
    simp [gap, h.nl, h.bol]
  rw [hst]
  refine ⟨⟨h.reg.update hlt rfl, h.space, rfl, rfl, h.nest, ?_, hns, ⟨_, rfl⟩⟩, ?_⟩
  · have hb := h.brace
    by_cases hi : (inB && c != rClose) = true
    · simp only [Bool.and_eq_true] at hi
      rw [hi.1] at hb
      simpa [hi] using hb
    · rw [if_neg hi]
      cases s.openBrace <;> cases s.openBraceWritten <;> rfl
  · cases hob' : s.openBrace <;> cases hobw : s.openBraceWritten <;> simp [outOf, wBrace, hob', hobw]

theorem pw_tail {N : Nat} (w : List Rune) : ∀ (inB : Bool) (s : FState), Mid N inB s → pwOK inB w = true →
    Mid N false (w.foldl step s) ∧ outOf (w.foldl step s) = outOf s ++ w := by
  induction w with
  | nil =>
    intro inB s h hw
    cases inB
    · exact ⟨h, by simp⟩
    · exact nomatch hw
  | cons c t ih =>
    intro inB s h hw
    rw [List.foldl_cons]
    rcases pwOK_cons hw with ⟨rfl, rfl, ht⟩ | ⟨hc, ht⟩
    · -- a group starts: its `{` is kept back
      have := ih true { s with openBrace := true, openBraceSpace := false, openBraceWritten := false }
        ⟨h.reg.update h.reg.lastLT h.reg.cont, h.space, h.bol, h.nl, h.nest, rfl, h.lastNS, h.head⟩ ht
      rw [step_lb_mid h.reg h.space]
      refine ⟨this.1, ?_⟩
      rw [this.2, outOf_nb h.brace]
      simp [outOf, wBrace]
    · obtain ⟨h1, h2⟩ := mid_char h hc
      have := ih _ _ h1 ht
      exact ⟨this.1, by rw [this.2, h2]; simp⟩

/-- state after a plain word at nesting `N` -/
abbrev InvP (N : Nat) (s : FState) : Prop := Mid N false s

/-- state after a `}` that brought the nesting to `N` -/
structure InvC (N : Nat) (s : FState) : Prop where
  reg : Reg s
  space : s.space = false
  bol : s.bol = true
  nl : s.newLines = 0
  nb : (s.openBrace && !s.openBraceWritten) = false
  nest : s.nesting = N
  last : s.last = 125
  head : ∃ r, s.rout = 125 :: r

/-- state after a `{` that is still kept back; `N` = nesting once it is written -/
structure InvO (N : Nat) (s : FState) : Prop where
  reg : Reg s
  space : s.space = false
  ob : s.openBrace = true
  obw : s.openBraceWritten = false
  last : s.last ≠ 125
  nest : N = nextN s.nesting .opn
  shape : (s.bol = false ∧ s.openBraceSpace = true) ∨ (s.bol = true ∧ s.nesting = 0)

/-- state after the text of a comment (still in comment mode: its newline has not been read) -/
structure InvM (N : Nat) (s : FState) : Prop where
  comment : s.comment = true
  quoted : s.quoted = false
  escaped : s.escaped = false
  heredoc : s.heredoc = 0
  bq : s.backquoted = false
  hst : s.heredocStart = false
  te : s.tokenEnded = false
  cont : s.continued = false
  space : s.space = false
  nl : s.newLines = 0
  nb : (s.openBrace && !s.openBraceWritten) = false
  nest : s.nesting = N
  lastNS : isSpace s.last = false
  head : ∃ r, s.rout = s.last :: r

/-- state right after the closing quote of a simple string: like after a plain word, except that
    `tokenEnded` is still set (the white space that follows clears it) -/
structure InvQ (N : Nat) (s : FState) : Prop where
  comment : s.comment = false
  quoted : s.quoted = false
  escaped : s.escaped = false
  heredoc : s.heredoc = 0
  bq : s.backquoted = false
  hst : s.heredocStart = false
  te : s.tokenEnded = true
  cont : s.continued = false
  space : s.space = false
  bol : s.bol = false
  nl : s.newLines = 0
  nb : (s.openBrace && !s.openBraceWritten) = false
  nest : s.nesting = N
  last : s.last = 34 ∨ s.last = 96
  head : ∃ r, s.rout = s.last :: r

def Inv : Option Kind → Nat → FState → Prop
  | none, N, s => s = {} ∧ N = 0
  | some .plain, N, s => InvP N s
  | some .opn, N, s => InvO N s
  | some .cls, N, s => InvC N s
  | some .cmt, N, s => InvM N s
  | some .dq, N, s => InvQ N s

theorem plain_word {t : FState} {a : Rune} {as : List Rune} (hr : Reg t) (hs : t.space = true)
    (hnb : (t.openBrace && !t.openBraceWritten) = false) (ha : plainCh a = true) (has : pwOK false as = true) :
    InvP t.nesting ((a :: as).foldl step t) ∧
      outOf ((a :: as).foldl step t) = t.rout.reverse ++ (gap t true ++ a :: as) := by
  have hp := plainCh_spec ha
  have hf : (a == rHash) = false ∧ (a == rDQ) = false ∧ (a == rBQ) = false := by
    simp [rHash, rDQ, rBQ, hp.dq, hp.hash, hp.bq]
  have hst := first_tok hr hs hnb (c := a) (by simp [tokCh, ha])
  rw [hf.1, hf.2.1, hf.2.2] at hst
  have := pw_tail (N := t.nesting) as false (step t a)
    (by rw [hst]
        exact ⟨⟨rfl, rfl, hr.escaped, hr.heredoc, rfl, hr.hst, hr.te, rfl, hp.lt⟩, rfl, rfl, rfl, rfl, hnb, hp.ns,
          ⟨_, rfl⟩⟩) has
  rw [List.foldl_cons]
  refine ⟨this.1, ?_⟩
  rw [this.2, hst, outOf_nb (by exact hnb)]
  simp

theorem lb_word {t : FState} {c : Rune} {as : List Rune} (hr : Reg t) (hs : t.space = true)
    (hnb : (t.openBrace && !t.openBraceWritten) = false)
    (hc : plainCh c = true ∨ c = rClose) (has : pwOK (!(c == rClose)) as = true) :
    InvP t.nesting ((rOpen :: c :: as).foldl step t) ∧
      outOf ((rOpen :: c :: as).foldl step t) =
        t.rout.reverse ++ ((if t.bol then [] else [rSP]) ++ gap t false ++ rOpen :: c :: as) := by
  have hst := first_lb hr hs hnb hc
  obtain ⟨⟨hns, hlt, -⟩, -⟩ := glued_spec hc
  have := pw_tail (N := t.nesting) as (!(c == rClose)) (step (step t rOpen) c)
    (by rw [hst]
        exact ⟨hr.update hlt rfl, rfl, rfl, rfl, rfl, by cases (c == rClose) <;> rfl, hns, ⟨_, rfl⟩⟩) has
  rw [List.foldl_cons, List.foldl_cons]
  refine ⟨this.1, ?_⟩
  rw [this.2, hst, outOf_nb rfl]
  cases t.bol <;> simp

theorem foldl_copy (p : Rune → Bool) (s : FState)
    (h : ∀ (r : List Rune) (l c : Rune), p c = true →
      step { s with rout := r, last := l } c = { s with rout := c :: r, last := c }) :
    ∀ (cs r : List Rune) (l : Rune), cs.all p = true →
      cs.foldl step { s with rout := r, last := l } = { s with rout := cs.reverse ++ r, last := lastOf l cs }
  | [], _, _, _ => rfl
  | c :: cs, r, l, hc => by
    simp only [List.all_cons, Bool.and_eq_true] at hc
    rw [List.foldl_cons, h r l c hc.1, foldl_copy p s h cs (c :: r) c hc.2]
    simp [lastOf]

theorem foldl_comment (cs : List Rune) (s : FState) (hcm : s.comment = true) (hhd : s.heredoc = 0)
    (hhs : s.heredocStart = false) (hct : s.continued = false) (hc : cs.all cmtCh = true) :
    cs.foldl step s = { s with rout := cs.reverse ++ s.rout, last := lastOf s.last cs } := by
  refine foldl_copy cmtCh s (fun r l c hc => ?_) cs s.rout s.last hc
  rw [step_eq_stepLiteral (by exact hhd) (by exact hhs)]
  simp [stepLiteral, hcm, hct, FState.write, rNL, (cmtCh_spec hc).1]

theorem cmt_word {t : FState} {as : List Rune} (hr : Reg t) (hs : t.space = true)
    (hnb : (t.openBrace && !t.openBraceWritten) = false)
    (has : as.all cmtCh = true) (hlast : isSpace (lastOf rHash as) = false) :
    InvM t.nesting ((rHash :: as).foldl step t) ∧
      outOf ((rHash :: as).foldl step t) = t.rout.reverse ++ (gap t true ++ rHash :: as) := by
  rw [List.foldl_cons, first_tok hr hs hnb (by decide), foldl_comment as _ rfl (by exact hr.heredoc) (by exact hr.hst) rfl has]
  exact ⟨⟨rfl, rfl, hr.escaped, hr.heredoc, rfl, hr.hst, hr.te, rfl, rfl, rfl, hnb, rfl, hlast,
    reverse_append_lastOf as rHash _⟩, by rw [outOf_nb (by exact hnb)]; simp⟩

theorem step_in_dq {s : FState} (hq : s.quoted = true) (hcm : s.comment = false) (hbq : s.backquoted = false)
    (hesc : s.escaped = false) (hhd : s.heredoc = 0) (hhs : s.heredocStart = false) (hct : s.continued = false) :
    (∀ c, c ≠ 34 → c ≠ 92 → step s c = { s with rout := c :: s.rout, last := c }) ∧
    (∀ d, step (step s rBS) d = { s with rout := d :: rBS :: s.rout, last := d,
                                         heredocEscaped := (d == rLT || s.heredocEscaped) }) ∧
    step s rDQ = { s with rout := rDQ :: s.rout, last := rDQ, quoted := false, tokenEnded := true } := by
  refine ⟨fun c h34 h92 => ?_, fun d => ?_, ?_⟩
  · rw [step_eq_stepLiteral hhd hhs]
    simp [stepLiteral, hq, hcm, hbq, hesc, hct, FState.write, rDQ, rBS, h34, h92]
  · rw [step_eq_stepLiteral hhd hhs, step_eq_stepLiteral (by simp [stepLiteral, hq, hcm, hbq, hesc, hhd, FState.write, rBS])
      (by simp [stepLiteral, hq, hcm, hbq, hesc, hhs, FState.write, rBS])]
    by_cases hlt : d = 60 <;> simp [stepLiteral, hq, hcm, hbq, hesc, hct, FState.write, rDQ, rBS, rLT, rNL, hlt]
  · rw [step_eq_stepLiteral hhd hhs]
    simp [stepLiteral, hq, hcm, hbq, hesc, hct, FState.write, rDQ, rBS]

theorem foldl_dq (cs : List Rune) : ∀ (s : FState), s.quoted = true → s.comment = false → s.backquoted = false →
    s.escaped = false → s.heredoc = 0 → s.heredocStart = false → s.continued = false → dqBody cs = true →
    ∃ he, cs.foldl step s = { s with rout := cs.reverse ++ s.rout, last := lastOf s.last cs, heredocEscaped := he } := by
  fun_induction dqBody cs with
  | case1 => exact fun s _ _ _ _ _ _ _ _ => ⟨s.heredocEscaped, rfl⟩
  | case2 c hc => exact fun _ _ _ _ _ _ _ _ h => nomatch h
  | case3 c hc d t ih =>
    intro s hq hcm hbq hesc hhd hhs hct hb
    simp only [beq_iff_eq] at hc
    subst hc
    simp only [Bool.and_eq_true] at hb
    obtain ⟨he, hfold⟩ := ih { s with rout := d :: rBS :: s.rout, last := d, heredocEscaped := (d == rLT || s.heredocEscaped) }
      hq hcm hbq hesc hhd hhs hct hb.2
    refine ⟨he, ?_⟩
    rw [List.foldl_cons, List.foldl_cons, (step_in_dq hq hcm hbq hesc hhd hhs hct).2.1, hfold]
    simp [lastOf, List.reverse_cons, List.append_assoc]
  | case4 c t hc ih =>
    intro s hq hcm hbq hesc hhd hhs hct hb
    simp only [Bool.and_eq_true, bne_iff_ne, ne_eq, beq_iff_eq] at hb hc
    obtain ⟨he, hfold⟩ := ih { s with rout := c :: s.rout, last := c } hq hcm hbq hesc hhd hhs hct hb.2
    refine ⟨he, ?_⟩
    rw [List.foldl_cons, (step_in_dq hq hcm hbq hesc hhd hhs hct).1 c hb.1.1 hc, hfold]
    simp [lastOf, List.reverse_cons, List.append_assoc]

theorem dq_word {t : FState} {as : List Rune} (hr : Reg t) (hs : t.space = true)
    (hnb : (t.openBrace && !t.openBraceWritten) = false) (has : dqBody as = true) :
    InvQ t.nesting ((rDQ :: (as ++ [rDQ])).foldl step t) ∧
      outOf ((rDQ :: (as ++ [rDQ])).foldl step t) = t.rout.reverse ++ (gap t true ++ rDQ :: (as ++ [rDQ])) := by
  have hst := first_tok hr hs hnb (c := rDQ) (by decide)
  obtain ⟨he, hfold⟩ := foldl_dq as (step t rDQ) (by rw [hst]; rfl) (by rw [hst]; rfl) (by rw [hst]; rfl)
    (by rw [hst]; exact hr.escaped) (by rw [hst]; exact hr.heredoc) (by rw [hst]; exact hr.hst) (by rw [hst]) has
  rw [List.foldl_cons, List.foldl_append, hfold, hst]
  simp only [List.foldl_cons, List.foldl_nil]
  rw [(step_in_dq rfl rfl rfl (by exact hr.escaped) (by exact hr.heredoc) (by exact hr.hst) rfl).2.2]
  exact ⟨⟨rfl, rfl, hr.escaped, hr.heredoc, rfl, hr.hst, rfl, rfl, rfl, rfl, rfl, hnb, rfl, Or.inl rfl, ⟨_, rfl⟩⟩,
    by rw [outOf_nb (by exact hnb)]; simp⟩

theorem step_in_bq {s : FState} (hbq : s.backquoted = true) (hcm : s.comment = false)
    (hhd : s.heredoc = 0) (hhs : s.heredocStart = false) (hct : s.continued = false) :
    (∀ c, c ≠ 96 → step s c = { s with rout := c :: s.rout, last := c }) ∧
    step s rBQ = { s with rout := rBQ :: s.rout, last := rBQ, backquoted := false, tokenEnded := true } := by
  refine ⟨fun c h96 => ?_, ?_⟩ <;> rw [step_eq_stepLiteral hhd hhs]
  · simp [stepLiteral, hbq, hcm, hct, FState.write, rBQ, h96]
  · simp [stepLiteral, hbq, hcm, hct, FState.write, rBQ]

theorem foldl_bq (cs : List Rune) (s : FState) (hbq : s.backquoted = true) (hcm : s.comment = false)
    (hhd : s.heredoc = 0) (hhs : s.heredocStart = false) (hct : s.continued = false) (hc : cs.all bqCh = true) :
    cs.foldl step s = { s with rout := cs.reverse ++ s.rout, last := lastOf s.last cs } :=
  foldl_copy bqCh s (fun r l c hc => (step_in_bq (s := { s with rout := r, last := l }) hbq hcm hhd hhs hct).1 c (bqCh_spec hc).1)
    cs s.rout s.last hc

theorem bq_word {t : FState} {as : List Rune} (hr : Reg t) (hs : t.space = true)
    (hnb : (t.openBrace && !t.openBraceWritten) = false) (has : as.all bqCh = true) :
    InvQ t.nesting ((rBQ :: (as ++ [rBQ])).foldl step t) ∧
      outOf ((rBQ :: (as ++ [rBQ])).foldl step t) = t.rout.reverse ++ (gap t true ++ rBQ :: (as ++ [rBQ])) := by
  have hst := first_tok hr hs hnb (c := rBQ) (by decide)
  have hfold := foldl_bq as (step t rBQ) (by rw [hst]; rfl) (by rw [hst]; rfl)
    (by rw [hst]; exact hr.heredoc) (by rw [hst]; exact hr.hst) (by rw [hst]) has
  rw [List.foldl_cons, List.foldl_append, hfold, hst]
  simp only [List.foldl_cons, List.foldl_nil]
  rw [(step_in_bq rfl rfl (by exact hr.heredoc) (by exact hr.hst) rfl).2]
  exact ⟨⟨rfl, rfl, hr.escaped, hr.heredoc, rfl, hr.hst, rfl, rfl, rfl, rfl, rfl, hnb, rfl, Or.inr rfl, ⟨_, rfl⟩⟩,
    by rw [outOf_nb (by exact hnb)]; simp⟩

theorem flush4_nesting (s : FState) : (flush4 s).nesting = nextN s.nesting .opn := by
  unfold flush4 nextN; split <;> rfl

/-- what the formatter writes between the previous word and a word `w` of kind `k`, from the state
    `t` after the white space in between, when no brace is pending -/
def sepFor (t : FState) (k : Kind) (w : List Rune) : List Rune :=
  match k with
  | .opn => if t.bol then [] else [rSP]
  | .cls => (if t.last = rNL then [] else [rNL]) ++ tabsN (t.nesting - 1)
  | _ => if w.head? = some rOpen then (if t.bol then [] else [rSP]) ++ gap t false else gap t true

theorem chunk_nb {t : FState} {k : Kind} {w : List Rune} (hr : Reg t) (hs : t.space = true)
    (hnb : (t.openBrace && !t.openBraceWritten) = false) (hsh : Shape k w)
    (hopn : k = .opn → t.bol = false ∨ (t.bol = true ∧ t.nesting = 0 ∧ t.last ≠ 125))
    (hcls : k = .cls → t.last = rNL → t.bol = true) :
    Inv (some k) (nextN t.nesting k) (w.foldl step t) ∧
      outOf (w.foldl step t) = t.rout.reverse ++ (sepFor t k w ++ w) := by
  cases hsh with
  | opn =>
    obtain hb | ⟨hb, hn, hl⟩ := hopn rfl
    · simp only [List.foldl_cons, List.foldl_nil]
      rw [first_open_mid hr hs hnb hb]
      exact ⟨⟨hr.update (by decide) rfl, rfl, rfl, rfl, (by decide : rSP ≠ 125), rfl, Or.inl ⟨hb, rfl⟩⟩,
        by simp [outOf, wBrace, sepFor, hb]⟩
    · simp only [List.foldl_cons, List.foldl_nil]
      rw [first_open_bol hr hs hnb hb]
      exact ⟨⟨hr.update hr.lastLT hr.cont, rfl, rfl, rfl, hl, rfl, Or.inr ⟨hb, hn⟩⟩,
        by simp [outOf, wBrace, sepFor, hb]⟩
  | cls =>
    simp only [List.foldl_cons, List.foldl_nil]
    rw [first_close hr hs hnb]
    refine ⟨⟨hr.update (by decide) rfl, rfl, ?_, rfl, hnb, rfl, rfl, ⟨_, rfl⟩⟩, ?_⟩
    · show (if t.last = rNL then t.bol else true) = true
      split
      · exact hcls rfl ‹_›
      · rfl
    · rw [outOf_nb (by exact hnb)]
      by_cases hl : t.last = rNL <;> simp [sepFor, hl, reverse_tabsN]
  | cmt has hlast =>
    have := cmt_word hr hs hnb has hlast
    exact ⟨this.1, by rw [this.2]; simp [sepFor, rHash, rOpen]⟩
  | dq has =>
    have := dq_word hr hs hnb has
    exact ⟨this.1, by rw [this.2]; simp [sepFor, rDQ, rOpen]⟩
  | bq has =>
    have := bq_word hr hs hnb has
    exact ⟨this.1, by rw [this.2]; simp [sepFor, rBQ, rOpen]⟩
  | plain ha has =>
    have := plain_word hr hs hnb ha has
    have h123 := (plainCh_spec ha).opn
    exact ⟨this.1, by rw [this.2]; simp [sepFor, rOpen, h123]⟩
  | lb hc has =>
    have := lb_word hr hs hnb hc has
    exact ⟨this.1, by rw [this.2]; simp [sepFor]⟩

def afterSep (s : FState) (sep : List Rune) : FState :=
  { s with space := true, heredocEscaped := false, newLines := s.newLines + countNL sep }

theorem foldl_ws : ∀ (ws : List Rune) (s : FState), Reg s → ws.all wsCh = true → ws ≠ [] →
    ws.foldl step s = afterSep s ws
  | [], _, _, _, h => absurd rfl h
  | [c], s, hr, hc, _ => by
    simp only [List.all_cons, List.all_nil, Bool.and_true] at hc
    simp [step_ws hr hc, countNL, afterSep]
  | c :: c' :: ws, s, hr, hc, _ => by
    simp only [List.all_cons, Bool.and_eq_true] at hc
    rw [List.foldl_cons, step_ws hr hc.1, foldl_ws (c' :: ws) _ (hr.update hr.lastLT hr.cont) (by simp [hc.2]) (by simp)]
    simp only [countNL, afterSep]
    congr 1
    by_cases h : c = rNL <;> simp [h] <;> omega

theorem reg_init : Reg ({} : FState) := ⟨rfl, rfl, rfl, rfl, rfl, rfl, rfl, rfl, by decide⟩

/-- the newline that ends a comment is written at once; the rest of the separator is counted -/
theorem after_comment_sep {N : Nat} {s : FState} {ws : List Rune} (h : InvM N s) (hws : ws.all wsCh = true) :
    ∃ t, (rNL :: ws).foldl step s = t ∧ Reg t ∧ t.space = true ∧ (t.openBrace && !t.openBraceWritten) = false ∧
      t.nesting = N ∧ t.bol = true ∧ t.last = rNL ∧ t.newLines = countNL ws ∧ t.rout = rNL :: s.rout := by
  have hend : step s rNL = { s with rout := rNL :: s.rout, last := rNL, comment := false, space := true, bol := true,
                                    continued := false } := by
    rw [step_eq_stepLiteral h.heredoc h.hst]
    simp [stepLiteral, h.comment, FState.nextLine, FState.write, rNL]
  have hreg : Reg { s with rout := rNL :: s.rout, last := rNL, comment := false, space := true, bol := true,
                           continued := false } :=
    ⟨rfl, h.quoted, h.escaped, h.heredoc, h.bq, h.hst, h.te, rfl, (by decide : rNL ≠ 60)⟩
  rw [List.foldl_cons, hend]
  cases ws with
  | nil => exact ⟨_, rfl, hreg, rfl, h.nb, h.nest, rfl, rfl, h.nl, rfl⟩
  | cons c ws =>
    rw [foldl_ws (c :: ws) _ hreg hws (by simp)]
    exact ⟨_, rfl, hreg.update (by decide : rNL ≠ 60) rfl, rfl, h.nb, h.nest, rfl, rfl, by simp [afterSep, h.nl], rfl⟩

theorem sepFor_word {t : FState} {c : Chunk} (h1 : c.kind ≠ .opn) (h2 : c.kind ≠ .cls) :
    sepFor t c.kind c.word =
      if c.word.head? = some rOpen then (if t.bol then [] else [rSP]) ++ gap t false else gap t true := by
  cases hk : c.kind <;> simp_all [sepFor]

theorem sepFor_plain {t : FState} {c : Chunk} {N : Nat} (hb : t.bol = false) (hn : t.newLines = c.nl)
    (hN : t.nesting = N) (hl : t.last ≠ rNL) :
    sepFor t c.kind c.word = canonSep (some .plain) N c := by
  by_cases h1 : c.kind = .opn
  · simp [sepFor, canonSep, h1, hb]
  by_cases h2 : c.kind = .cls
  · simp [sepFor, canonSep, h2, hl, hN]
  rw [sepFor_word h1 h2, canonSep_after N c (by simp) (by simp), if_neg h1, if_neg h2, sepW]
  by_cases h0 : c.nl = 0 <;> by_cases hh : c.word.head? = some rOpen <;>
    simp [sameLine, braceLead, gap, hb, hn, hN, h0, hh] <;> omega

theorem sepFor_cls {t : FState} {c : Chunk} {N : Nat} (hb : t.bol = true) (hn : t.newLines = c.nl)
    (hN : t.nesting = N) (hl : t.last = rClose) (h1 : c.kind ≠ .opn) (hnl : c.kind ≠ .cmt → 1 ≤ c.nl)
    (hh : c.kind = .cmt → c.word.head? ≠ some rOpen) :
    sepFor t c.kind c.word = canonSep (some .cls) N c := by
  by_cases h2 : c.kind = .cls
  · simp [sepFor, canonSep, h2, hl, hN, rClose, rNL]
  rw [sepFor_word h1 h2, canonSep_after N c (by simp) (by simp), if_neg h1, if_neg h2, sepW]
  by_cases h0 : c.nl = 0
  · have hk : c.kind = .cmt := Classical.byContradiction fun h => by have := hnl h; omega
    by_cases hN0 : N = 0 <;> simp [sameLine, gap, hb, hn, hN, hl, h0, hh hk, hN0]
  · by_cases hh : c.word.head? = some rOpen <;>
      simp [sameLine, braceLead, gap, hb, hn, hN, h0, hh] <;> omega

theorem sepFor_cmt {t : FState} {c : Chunk} {N : Nat} {ws : List Rune} (hb : t.bol = true)
    (hn : t.newLines = countNL ws) (hN : t.nesting = N) (hl : t.last = rNL) (hs : c.sep = rNL :: ws)
    (h1 : c.kind ≠ .opn) :
    rNL :: sepFor t c.kind c.word = canonSep (some .cmt) N c := by
  have hnl : c.nl - 1 = countNL ws := by simp [Chunk.nl, hs, countNL]
  by_cases h2 : c.kind = .cls
  · simp [sepFor, canonSep, h2, hl, hN]
  rw [sepFor_word h1 h2]
  simp only [canonSep, h2, ↓reduceIte, hnl]
  by_cases h0 : countNL ws = 0 <;> by_cases hh : c.word.head? = some rOpen <;>
    simp [gap, hb, hn, hN, hl, h0, hh, nlsN, rNL, rClose] <;> omega

theorem sepFor_init {c : Chunk} (h2 : c.kind ≠ .cls) : sepFor {} c.kind c.word = canonSep none 0 c := by
  cases hk : c.kind <;> first | exact absurd hk h2 | (simp [sepFor, canonSep, gap, tabsN, rClose])

theorem sepFor_opn {u : FState} {c : Chunk} {N : Nat} (hb : u.bol = true) (hn : u.newLines = 0)
    (hN : u.nesting = N) (hl : u.last = rNL) (h1 : c.kind ≠ .opn) :
    rNL :: sepFor u c.kind c.word = canonSep (some .opn) N c := by
  by_cases h2 : c.kind = .cls
  · simp [sepFor, canonSep, h2, hl, hN]
  rw [sepFor_word h1 h2]
  by_cases hh : c.word.head? = some rOpen <;> simp [canonSep, gap, hb, hn, hN, hl, h2, hh, rNL, rClose]

theorem InvQ.toP {N : Nat} {s : FState} (h : InvQ N s) : InvP N { s with tokenEnded := false } := by
  have hl : s.last ≠ 60 ∧ isSpace s.last = false := by rcases h.last with h | h <;> rw [h] <;> decide
  exact ⟨⟨h.comment, h.quoted, h.escaped, h.heredoc, h.bq, h.hst, rfl, h.cont, hl.1⟩, h.space, h.bol, h.nl, h.nest,
    h.nb, hl.2, h.head⟩

theorem step_ws_te {N : Nat} {s : FState} {c : Rune} (h : InvQ N s) (hc : wsCh c = true) :
    step s c = step { s with tokenEnded := false } c := by
  rw [step_ws_any h.comment h.quoted h.escaped h.heredoc h.bq h.hst hc,
    step_ws_any (s := { s with tokenEnded := false }) h.comment h.quoted h.escaped h.heredoc h.bq h.hst hc]

theorem chunk_step {prev : Option Kind} {N : Nat} {s : FState} {c : Chunk}
    (hws : c.sep.all wsCh = true) (hsh : Shape c.kind c.word) (hsep : SepOK prev c) (hinv : Inv prev N s) :
    Inv (some c.kind) (nextN N c.kind) ((c.sep ++ c.word).foldl step s) ∧
      outOf ((c.sep ++ c.word).foldl step s) = outOf s ++ (canonSep prev N c ++ c.word) := by
  rw [List.foldl_append]
  cases hsep with
  | first hs hk =>
    obtain ⟨rfl, rfl⟩ := hinv
    rw [hs, ← sepFor_init hk]
    exact chunk_nb reg_init rfl rfl hsh (fun _ => Or.inr ⟨rfl, rfl, by decide⟩) (fun h => absurd h hk)
  | @word p _ hp hs =>
    obtain ⟨s', h, hfold, hout, hcan⟩ : ∃ s', InvP N s' ∧ c.sep.foldl step s = c.sep.foldl step s' ∧ outOf s = outOf s' ∧
        canonSep (some p) N c = canonSep (some .plain) N c := by
      rcases hp with rfl | rfl
      · exact ⟨s, hinv, rfl, rfl, rfl⟩
      · have hq : InvQ N s := hinv
        obtain ⟨a, ws, e⟩ := List.exists_cons_of_ne_nil hs
        rw [e] at hws ⊢
        simp only [List.all_cons, Bool.and_eq_true] at hws
        exact ⟨_, hq.toP, by rw [List.foldl_cons, List.foldl_cons, step_ws_te hq hws.1], rfl, canonSep_dq_plain N c⟩
    have hl : s'.last ≠ rNL := fun e => by have := h.lastNS; rw [e] at this; exact absurd this (by decide)
    rw [hfold, hout, hcan, foldl_ws c.sep s' h.reg hws hs, outOf_nb h.brace,
      ← sepFor_plain (t := afterSep s' c.sep) h.bol (by simp [afterSep, h.nl, Chunk.nl]) h.nest hl, ← h.nest]
    exact chunk_nb (h.reg.update h.reg.lastLT h.reg.cont) rfl h.brace hsh (fun _ => Or.inl h.bol) (fun _ e => absurd e hl)
  | @cmt _ ws hs hk =>
    have h : InvM N s := hinv
    rw [hs] at hws
    simp only [List.all_cons, Bool.and_eq_true] at hws
    obtain ⟨t, ht, hreg, hsp, hnb, hnest, hbol, hlast, hnl, hrout⟩ := after_comment_sep h hws.2
    have := chunk_nb hreg hsp hnb hsh (fun hk' => absurd hk' hk) (fun _ _ => hbol)
    rw [hs, ht, outOf_nb h.nb, ← sepFor_cmt hbol hnl hnest hlast hs hk, ← hnest]
    refine ⟨this.1, ?_⟩
    rw [this.2, hrout]
    simp
  | @brace p _ hp hs hk hn =>
    rcases hp with rfl | rfl
    · have h : InvO N s := hinv
      -- the kept-back `{` is written when the word starts: from there on no brace is pending
      obtain ⟨a, r, hw', hc, -⟩ := shape_first hsh
      have hreg : Reg (afterSep s c.sep) := h.reg.update h.reg.lastLT h.reg.cont
      have hu := chunk_nb (t := flushed (afterSep s c.sep)) (hreg.update (by decide) rfl) rfl rfl hsh
        (fun hk' => absurd hk' hk) (fun _ _ => rfl)
      rw [foldl_ws c.sep s h.reg hws hs, hw', List.foldl_cons,
        pending_step (t := afterSep s c.sep) hreg rfl h.ob h.obw h.last h.shape hc, ← List.foldl_cons, ← hw',
        ← sepFor_opn (u := flushed (afterSep s c.sep)) rfl rfl h.nest.symm rfl hk]
      rw [h.nest]
      refine ⟨hu.1, ?_⟩
      rw [hu.2]
      simp [outOf, wBrace, flushed, afterSep, h.ob, h.obw]
    · have h : InvC N s := hinv
      have hl : s.last ≠ rNL := by rw [h.last]; decide
      rw [foldl_ws c.sep s h.reg hws hs, outOf_nb h.nb,
        ← sepFor_cls (t := afterSep s c.sep) h.bol (by simp [afterSep, h.nl, Chunk.nl]) h.nest h.last hk hn
          (fun hk' => cmt_head (hk' ▸ hsh)),
        ← h.nest]
      exact chunk_nb (h.reg.update h.reg.lastLT h.reg.cont) rfl h.nb hsh (fun hk' => absurd hk' hk)
        (fun _ e => absurd e hl)

/-- the buffer ends up holding the canonical rendering; it ends in a non-blank (so `finish` trims
    nothing) and no brace is left for `flushEnd` -/
theorem fmt_chunks {prev : Option Kind} {cs : List Chunk} (hg : Good prev cs) : ∀ (N : Nat) (s : FState), Inv prev N s →
    (∃ c r, ((flatten cs).foldl step s).rout = c :: r ∧ isSpace c = false) ∧
      ((flatten cs).foldl step s).rout.reverse = outOf s ++ flatten (canon prev N cs) ∧
      flushEnd ((flatten cs).foldl step s) = (flatten cs).foldl step s := by
  induction hg with
  | @nil p hp =>
    intro N s hinv
    simp only [flatten, List.foldl_nil, canon, List.append_nil]
    have key : ∀ (hnb : (s.openBrace && !s.openBraceWritten) = false) (hh : ∃ r, s.rout = s.last :: r)
        (hl : isSpace s.last = false), (∃ c r, s.rout = c :: r ∧ isSpace c = false) ∧
          s.rout.reverse = outOf s ∧ flushEnd s = s := fun hnb hh hl =>
      ⟨⟨_, hh.choose, hh.choose_spec, hl⟩, (outOf_nb hnb).symm, by simp [flushEnd, hnb]⟩
    cases p with
    | opn => exact absurd rfl hp
    | plain => have h : InvP N s := hinv; exact key h.brace h.head h.lastNS
    | cls => have h : InvC N s := hinv; exact key h.nb (by rw [h.last]; exact h.head) (by rw [h.last]; decide)
    | cmt => have h : InvM N s := hinv; exact key h.nb h.head h.lastNS
    | dq => have h : InvQ N s := hinv; exact key h.nb h.head h.toP.lastNS
  | @cons prev c cs hws hsh hsep _ ih =>
    intro N s hinv
    have h1 := chunk_step hws hsh hsep hinv
    have h2 := ih _ _ h1.1
    have hfl : (flatten (c :: cs)).foldl step s = (flatten cs).foldl step ((c.sep ++ c.word).foldl step s) := by
      simp only [flatten, List.foldl_append]
    rw [hfl]
    refine ⟨h2.1, ?_, h2.2.2⟩
    rw [h2.2.1, h1.2]
    simp only [canon, flatten, List.append_assoc]

/-- `Format` on the fragment: the white space around is trimmed, the chunks are rendered canonically,
    one newline follows -/
theorem format_on_chunks {lead trail : List Rune} {c : Chunk} {cs : List Chunk}
    (hl : lead.all isSpace = true) (ht : trail.all isSpace = true) (hs : c.sep = [])
    (hg : Good none (c :: cs)) :
    format (lead ++ (flatten (c :: cs) ++ trail)) = flatten (canon none 0 (c :: cs)) ++ [rNL] := by
  obtain ⟨a, r', hw', ⟨ha, -, -⟩, hbom⟩ := shape_first (match hg with | .cons _ hsh _ _ => hsh)
  have hfl : flatten (c :: cs) = a :: (r' ++ flatten cs) := by simp [flatten, hs, hw']
  have hhead : ∃ a r, flatten (c :: cs) = a :: r ∧ isSpace a = false := ⟨a, _, hfl, ha⟩
  have hlast := flatten_last hg (by simp)
  have htrim := trimSpace_sandwich hl ht hhead hlast
  have hne : (lead ++ (flatten (c :: cs) ++ trail)).isEmpty = false := by
    rw [hfl]; cases lead <;> simp
  obtain ⟨hz, hout, hfe⟩ := fmt_chunks hg 0 {} ⟨rfl, rfl⟩
  have hcore : formatCore (flatten (c :: cs)) = flatten (canon none 0 (c :: cs)) ++ [rNL] := by
    have hrev : ((flatten (c :: cs)).foldl step {}).rout.reverse = flatten (canon none 0 (c :: cs)) := by
      rw [hout]; rfl
    have hcan : ∃ a r, flatten (canon none 0 (c :: cs)) = a :: r ∧ isSpace a = false :=
      ⟨a, r' ++ flatten (canon (some c.kind) (nextN 0 c.kind) cs), by simp [canon_none_head, flatten, hw'], ha⟩
    unfold formatCore run
    rw [trimSpace_id hhead hlast, hfe, finish_eq, trimSpace_id hz (by rw [hrev]; exact hcan), hrev]
  unfold format
  rw [hne, htrim, hfl]
  simp only [Bool.false_eq_true, ↓reduceIte, hbom]
  rw [← hfl]; exact hcore
end CaddyModel.C17
