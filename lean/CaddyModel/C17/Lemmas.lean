/-
C17 — facts about Model.lean that hold for every input: how much one loop iteration of `Format` can write
(`G`; the nesting cap `nesting ≤ 10`, formatter.go:288, makes that amount finite), the two write loops in
closed form (`tabs_eq`, `nextLines_eq`), and `TrimSpace` (`trimSpace_length_le`, `trimSpace_sandwich`, `trimSpace_id`,
`finish_eq`, `finish_length_le`).  FragLemmas.lean uses the closed forms and `trimSpace_sandwich` / `trimSpace_id` /
`finish_eq`; Props.lean uses the bounds and the two length lemmas.
-/
import CaddyModel.C17.Model

namespace CaddyModel.C17

def G (k : Nat) (s s' : FState) : Prop :=
  s.nesting ≤ 10 → s'.rout.length ≤ s.rout.length + k ∧ s'.nesting ≤ 10

theorem G.mono {k k' : Nat} {s s' : FState} (h : G k s s') (hk : k ≤ k') : G k' s s' :=
  fun hs => ⟨by have := (h hs).1; omega, (h hs).2⟩

/-- first `h1`, then `h2` (the later step comes first, so that its statement fixes the state in between) -/
theorem G.after {a b : Nat} {s t u : FState} (h2 : G b t u) (h1 : G a s t) : G (a + b) s u :=
  fun hs => ⟨by have := (h1 hs).1; have := (h2 (h1 hs).2).1; omega, (h2 (h1 hs).2).2⟩

theorem G.ite {ka kb : Nat} {s a b : FState} {c : Prop} [Decidable c] (ha : G ka s a) (hb : G kb s b) :
    G (max ka kb) s (if c then a else b) := by
  split
  · exact ha.mono (Nat.le_max_left ka kb)
  · exact hb.mono (Nat.le_max_right ka kb)

theorem G.wrote {s t : FState} (l : List Rune) (hr : t.rout = l ++ s.rout) (hn : t.nesting = s.nesting) :
    G l.length s t :=
  fun hs => ⟨by rw [hr, List.length_append]; omega, by rw [hn]; exact hs⟩

theorem G.same {s t : FState} (hr : t.rout = s.rout) (hn : t.nesting = s.nesting) : G 0 s t := G.wrote [] hr hn

theorem G.one {s t : FState} {c : Rune} (hr : t.rout = c :: s.rout) (hn : t.nesting = s.nesting) : G 1 s t :=
  G.wrote [c] hr hn

theorem G.two {s t : FState} {c d : Rune} (hr : t.rout = c :: d :: s.rout) (hn : t.nesting = s.nesting) : G 2 s t :=
  G.wrote [c, d] hr hn

@[simp] theorem write_rout (s : FState) (c : Rune) : (s.write c).rout = c :: s.rout := rfl
@[simp] theorem write_nesting (s : FState) (c : Rune) : (s.write c).nesting = s.nesting := rfl
@[simp] theorem write_last (s : FState) (c : Rune) : (s.write c).last = c := rfl

theorem tabs_eq (n : Nat) : ∀ s : FState,
    s.tabs n = { s with rout := List.replicate n rTAB ++ s.rout, last := if n = 0 then s.last else rTAB,
                        continued := if n = 0 then s.continued else false } := by
  induction n with
  | zero => intro s; rfl
  | succ n ih =>
    intro s
    simp only [FState.tabs, ih, FState.write, ite_self, Nat.succ_ne_zero, ↓reduceIte, List.replicate_succ',
      List.append_assoc, List.singleton_append]

theorem nextLines_eq (n : Nat) : ∀ s : FState,
    s.nextLines n = { s with rout := List.replicate n rNL ++ s.rout, last := if n = 0 then s.last else rNL,
                             bol := if n = 0 then s.bol else true,
                             continued := if n = 0 then s.continued else false } := by
  induction n with
  | zero => intro s; rfl
  | succ n ih =>
    intro s
    simp only [FState.nextLines, ih, FState.nextLine, FState.write, ite_self, Nat.succ_ne_zero, ↓reduceIte,
      List.replicate_succ', List.append_assoc, List.singleton_append]

theorem G_nextLine {s : FState} : G 1 s s.nextLine := G.one rfl rfl

/-- this is where the cap is used: `indent` writes `nesting ≤ 10` tabs -/
theorem G_indent {s : FState} : G 10 s s.indent := fun hs => by
  simp only [FState.indent, tabs_eq, List.length_append, List.length_replicate]
  exact ⟨by omega, hs⟩

theorem G_nextLines {s : FState} (n : Nat) : G n s (s.nextLines n) := by
  have h := G.wrote (t := s.nextLines n) (List.replicate n rNL) (by rw [nextLines_eq]) (by rw [nextLines_eq])
  rwa [List.length_replicate] at h

/-! The bounds below follow the definitions of Model.lean term by term: `G.ite` for an `if`,
`G.same` / `G.one` / `G.two` for a leaf, `G.after` for "the rest of the loop body, applied to …".
The numbers are added up bottom-up and compared with the claimed bound once, at the root
(`G.mono … (by decide)`); a flag update `{ x with … }` is invisible to `G`, which unfolds to a
statement about `rout` and `nesting`. -/

theorem G_stepWord6 {s : FState} (sp : Bool) (c : Rune) : G 1 s (stepWord6 s sp c) := G.one rfl rfl

theorem G_stepWord5 {s : FState} (sp : Bool) (c : Rune) : G 2 s (stepWord5 s sp c) :=
  G.mono (G.after (G_stepWord6 sp c) (G.ite (G.one rfl rfl) (G.same rfl rfl))) (by decide)

theorem G_stepWord4 {s : FState} (sp : Bool) (c : Rune) : G 3 s (stepWord4 s sp c) :=
  G.mono (G.after (G_stepWord5 sp c) (G.ite (G.one rfl rfl) (G.same rfl rfl))) (by decide)

theorem G_stepWord3 {s : FState} (sp : Bool) (c : Rune) : G 5 s (stepWord3 s sp c) :=
  G.mono (G.after (G_stepWord4 sp c) (G.ite (G.two rfl rfl) (G.same rfl rfl))) (by decide)

theorem G_stepWord2 {s : FState} (sp : Bool) (c : Rune) : G 15 s (stepWord2 s sp c) :=
  G.mono (G.after (G_stepWord3 sp c) (G.ite G_indent (G.same rfl rfl))) (by decide)

-- 17 = 2 line breaks + 10 tabs + 2 line breaks after a top-level `}` + blank + kept-back `{` + the rune
theorem G_stepWord {s : FState} (sp : Bool) (c : Rune) : G 17 s (stepWord s sp c) :=
  G.mono (G.after (G_stepWord2 sp c) ((G_nextLines (min s.newLines 2)).mono (Nat.min_le_right _ 2))) (by decide)

theorem G_flush1 {s : FState} : G 2 s (flush1 s) :=
  G.mono (G.ite (G.two rfl rfl) (G.same rfl rfl)) (by decide)

theorem G_flush2 {s : FState} : G 10 s (flush2 s) :=
  G.mono (G.ite G_indent (G.ite (G.one rfl rfl) (G.same rfl rfl))) (by decide)

theorem G_flush3 {s : FState} : G 2 s (flush3 s) := G.two rfl rfl

theorem G_flush4 {s : FState} : G 0 s (flush4 s) := fun hs => by
  unfold flush4
  split
  · exact ⟨Nat.le_refl _, by simp only; omega⟩
  · exact ⟨Nat.le_refl _, hs⟩

theorem G_flushOpen {s : FState} : G 14 s (flushOpen s) :=
  G.mono (G.after G_flush4 (G.after G_flush3 (G.after G_flush2 G_flush1))) (by decide)

/-- `if nesting > 0 { nesting-- }` -/
theorem G_dedent {k : Nat} {s t : FState} (h : G k s t) : G k s { t with nesting := s.nesting - 1 } := fun hs =>
  ⟨(h hs).1, by simp only; omega⟩

theorem G_stepBrace {s : FState} (sp : Bool) (c : Rune) : G 17 s (stepBrace s sp c) :=
  G.mono
    (G.ite (G.ite (G.one rfl rfl) (G.same rfl rfl))
      (G.ite (G.after (G.one rfl rfl) (G.after G_indent (G_dedent (G.ite G_nextLine (G.same rfl rfl)))))
        (G_stepWord sp c)))
    (by decide)

-- 31 = 14 for a pending brace (`flushOpen`) + 17
theorem G_stepRegular2 {s : FState} (sp : Bool) (c : Rune) : G 31 s (stepRegular2 s sp c) :=
  G.mono (G.after (G_stepBrace sp c) (G.ite G_flushOpen (G.same rfl rfl))) (by decide)

theorem G_stepRegular {s : FState} (sp ts : Bool) (c : Rune) : G 31 s (stepRegular s sp ts c) :=
  G.mono (G.ite (G_stepRegular2 sp c) (G.after (G_stepRegular2 sp c) (G.ite (G.same rfl rfl) (G.same rfl rfl)))) (by decide)

theorem G_stepLiteral {s : FState} (c : Rune) : G 31 s (stepLiteral s c) :=
  G.mono
    (G.ite (G.ite (G.one rfl rfl) (G.one rfl rfl))
      (G.ite (G.one rfl rfl)
        (G.ite (G.after (G.one rfl rfl) (G.ite (G.same rfl rfl) (G.same rfl rfl)))
          (G.ite (G.one rfl rfl)
            (G.ite (G.one rfl rfl)
              (G.ite (G.ite (G.same rfl rfl) (G.same rfl rfl))
                (G.after (G_stepRegular _ _ c) (G.same rfl rfl))))))))
    (by decide)

theorem G_stepHeredoc {s : FState} (c : Rune) : G 31 s (stepHeredoc s c) :=
  G.mono
    (G.ite
      (G.ite (G.ite (G.one rfl rfl) (G.one rfl rfl))
        (G.ite (G.same rfl rfl)
          (G.ite (G.after (G_stepLiteral c) (G.same rfl rfl)) (G.one rfl rfl))))
      (G.ite (G.ite (G.one rfl rfl) (G.one rfl rfl))
        (G_stepLiteral c)))
    (by decide)

theorem G_step {s : FState} (c : Rune) : G 31 s (step s c) :=
  G.mono (G.ite (G.one rfl rfl) (G.after (G_stepHeredoc c) (G.same rfl rfl))) (by decide)

theorem G_flushEnd {s : FState} : G 13 s (flushEnd s) :=
  G.mono (G.ite (G.after (G.one rfl rfl) (G.after G_flush2 G_flush1)) (G.same rfl rfl)) (by decide)

theorem G_foldl (inp : List Rune) : ∀ {s : FState}, G (31 * inp.length) s (inp.foldl step s) := by
  induction inp with
  | nil => intro s; exact G.same rfl rfl
  | cons c cs ih =>
    intro s
    exact (ih.after (G_step c)).mono (by simp only [List.length_cons]; omega)

theorem trimSpace_length_le (l : List Rune) : (trimSpace l).length ≤ l.length := by
  unfold trimSpace trimLeft
  simp only [List.length_reverse]
  exact Nat.le_trans (List.dropWhile_sublist _).length_le (by simpa using (List.dropWhile_sublist isSpace (l := l)).length_le)

theorem trimSpace_sandwich {lead m trail : List Rune} (hl : lead.all isSpace = true) (ht : trail.all isSpace = true)
    (hm1 : ∃ a r, m = a :: r ∧ isSpace a = false) (hm2 : ∃ z r, m.reverse = z :: r ∧ isSpace z = false) :
    trimSpace (lead ++ (m ++ trail)) = m := by
  obtain ⟨a, r, hm, ha⟩ := hm1
  obtain ⟨z, r', hmr, hz⟩ := hm2
  unfold trimSpace trimLeft
  rw [List.dropWhile_append_of_pos (by simpa using hl)]
  have : List.dropWhile isSpace (m ++ trail) = m ++ trail := by
    rw [hm]; exact List.dropWhile_cons_of_neg (by simp [ha])
  rw [this, List.reverse_append, List.dropWhile_append_of_pos (by simpa using ht), hmr,
    List.dropWhile_cons_of_neg (by simp [hz]), ← hmr, List.reverse_reverse]

theorem trimSpace_id {m : List Rune} (hm1 : ∃ a r, m = a :: r ∧ isSpace a = false)
    (hm2 : ∃ z r, m.reverse = z :: r ∧ isSpace z = false) : trimSpace m = m := by
  simpa using trimSpace_sandwich (lead := []) (trail := []) rfl rfl hm1 hm2

theorem finish_eq (r : List Rune) : finish r = (trimSpace r).reverse ++ [rNL] := by
  simp [finish, trimSpace, trimLeft]

theorem finish_length_le (r : List Rune) : (finish r).length ≤ r.length + 1 := by
  have := trimSpace_length_le r
  rw [finish_eq]; simp; omega

end CaddyModel.C17
