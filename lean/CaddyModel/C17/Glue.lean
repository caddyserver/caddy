/-
C17 — the glue between the formatter / lexer pair and what the property promises
("… and therefore adapts to the same JSON or the same rejection"), as definitions:

* `allTokens` (caddyfile/parse.go:63) — the parser does not lex the file but the file AFTER
  `{$NAME:default}` substitution (`replaceEnvVars`, the C16 model), which runs on the raw bytes;
* `formattingDifference` (caddyfile/adapter.go:69) — the lint that `Adapter.Adapt`, `caddy fmt`,
  `caddy adapt` and `caddy validate` report: CR LF → LF on a private copy, then `Format` and a
  byte comparison; the warning carries the line of the first differing byte.

Both are compared with the real functions on every run (ops `ev`, `fd`; `ad` runs the real adapter
on x and Format(x)).  Theorems: without a `{$` the parser sees exactly the lexer's tokens, so the
`W` theorems reach the parser; WITH one they do not — `env_default_breaks_the_consequence` is a
proved counter-example to the property's "therefore" (known finding env-substitution-after-format).
-/
import CaddyModel.C17.Spec
import CaddyModel.C16.ParseGlue
import CaddyModel.C16.GlueProps

namespace CaddyModel.C17

/-- `bytes.Replace(body, "\r\n", "\n", -1)` -/
def normCRLF : Bytes → Bytes
  | [] => []
  | [c] => [c]
  | c :: d :: t => if c = 13 ∧ d = 10 then 10 :: normCRLF t else c :: normCRLF (d :: t)

/-- **`caddyfile.allTokens`** (parse.go:63): `Tokenize(replaceEnvVars(input), filename)` — what `Parse`
    (and so the adapter) and `doImport` lex is the text AFTER environment substitution
    (`none` = the Go code would panic on a slice bound; it never does, C16) -/
def allTokens (env : Bytes → Option Bytes) (b : Bytes) : Option (Except LexErr (List Token)) :=
  match C16.replaceEnvVars env b with
  | .done out => some (tokenize (decodeUtf8 out))
  | _ => none

/-- line of the first byte in which the two texts differ (`FormattingDifference`'s loop) -/
def firstDiffLine : Bytes → Bytes → Nat → Nat
  | [], _, l => l
  | _ :: _, [], l => l
  | c :: n, d :: f, l => if c ≠ d then l else firstDiffLine n f (if c = 10 then l + 1 else l)

/-- **`caddyfile.FormattingDifference`** (adapter.go:69): `none` = formatted, `some line` = the warning -/
def formattingDifference (b : Bytes) : Option Nat :=
  if formatBytes (normCRLF b) = normCRLF b then none
  else some (firstDiffLine (normCRLF b) (formatBytes (normCRLF b)) 1)

/-- a text without `{$` passes the substitution unchanged: the parser sees the lexer's tokens, and
    everything proved about `tokenize` (the `W` theorems) is about what the parser works on -/
theorem allTokens_without_env_span (env : Bytes → Option Bytes) (b : Bytes)
    (h : C16.indexOfB C16.spanOpen b = none) :
    allTokens env b = some (tokenize (decodeUtf8 b)) := by
  rw [allTokens, C16.replaceEnvVars_plain env b h]

theorem normCRLF_of_no_CR : ∀ (b : Bytes), (∀ c ∈ b, c ≠ 13) → normCRLF b = b
  | [], _ => rfl
  | [_], _ => rfl
  | c :: d :: t, h => by
    have hc : c ≠ 13 := h c (by simp)
    have ih := normCRLF_of_no_CR (d :: t) (fun x hx => h x (by simp [hx]))
    simp [normCRLF, hc, ih]

/-- the lint accepts `Format`'s own output wherever `Format` is idempotent and emits no CR
    (so `caddy fmt --overwrite` silences the warning it tells the user to silence that way) -/
theorem fmt_output_is_not_flagged (b : Bytes) (hid : formatBytes (formatBytes b) = formatBytes b)
    (hcr : ∀ c ∈ formatBytes b, c ≠ 13) : formattingDifference (formatBytes b) = none := by
  unfold formattingDifference
  rw [normCRLF_of_no_CR _ hcr, hid]
  simp

/-- the witness of the known finding: `respond {$X:"a  b"}` -/
def envWitness : Bytes :=
  [114, 101, 115, 112, 111, 110, 100, 32, 123, 36, 88, 58, 34, 97, 32, 32, 98, 34, 125]

/-- **the property's "therefore" fails in the glue**: `Format` keeps the lexer's tokens of the witness
    (two words), but it collapses the blanks inside the default of the `{$X:…}` span, and with `X`
    unset the parser — which lexes AFTER substitution — sees the quoted token `a  b` in the original and
    `a b` in the formatted file -/
theorem env_default_breaks_the_consequence :
    sameMeaning (tokenize (decodeUtf8 envWitness)) (tokenize (decodeUtf8 (formatBytes envWitness))) = true ∧
    (match allTokens (fun _ => none) envWitness, allTokens (fun _ => none) (formatBytes envWitness) with
     | some a, some b => sameMeaning a b
     | _, _ => true) = false := by
  decide +kernel

end CaddyModel.C17
