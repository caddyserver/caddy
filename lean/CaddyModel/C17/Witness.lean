/-
C17 — proved counter-examples: the two clauses of the property that the unchanged tree
violates at full strength.  The witness tables are kernel-evaluated (`decide +kernel`) on the models; the same
inputs (`tokenWitnesses`, `idemWitnesses` in Driver.lean, one per known-finding class) are
exported as protocol lines and replayed on the real `caddyfile.Format` / `caddyfile.Tokenize`
on every run.
-/
import CaddyModel.C17.Spec
import CaddyModel.C17.Driver
import CaddyModel.C17.OldModel

namespace CaddyModel.C17

/-- To the kernel a string literal is `String.ofList` of its characters.  Rewriting with this
    lemma reads them off; evaluating `String.toList` on the literal instead makes the kernel encode
    and decode UTF-8, which costs several times as much as running `Format` and `Tokenize` on the
    text. -/
theorem runes_ofList (l : List Char) : runes (String.ofList l) = l.map Char.toNat := by
  rw [runes, String.toList_ofList]

theorem Old.runes_ofList (l : List Char) : Old.runes (String.ofList l) = l.map Char.toNat := by
  rw [Old.runes, String.toList_ofList]

theorem token_witnesses_all_fail : tokenWitnesses.all (fun s => !preservesTokens (runes s)) = true := by
  simp only [tokenWitnesses, List.all_cons, List.all_nil]
  repeat rw [runes_ofList]
  decide +kernel

theorem idem_witnesses_all_fail : idemWitnesses.all (fun s => !idempotentAt (runes s)) = true := by
  simp only [idemWitnesses, List.all_cons, List.all_nil]
  repeat rw [runes_ofList]
  decide +kernel

/-- FULL STATEMENT (false on the unchanged tree):
    `∀ x, preservesTokens x` — "the formatted text tokenizes to the same tokens with the same
    line grouping as the original".  Counter-example: a brace glued to a word is split off
    (`a{⏎b` ↦ `a {⏎⇥b`), the `brace-glued-to-word` entry of the table. -/
theorem fmt_preserves_tokens_full_fails : ∃ x : List Rune, preservesTokens x = false :=
  ⟨runes "a{\nb\n", by
    simpa using List.all_eq_true.mp token_witnesses_all_fail "a{\nb\n" (by simp [tokenWitnesses])⟩

/-- FULL STATEMENT (false on the unchanged tree):
    `∀ x, idempotentAt x` — "formatting is idempotent".
    Counter-example: `{}{`, the `brace-glued-to-word` entry of the table. -/
theorem fmt_idempotent_full_fails : ∃ x : List Rune, idempotentAt x = false :=
  ⟨runes "{}{", by
    simpa using List.all_eq_true.mp idem_witnesses_all_fail "{}{" (by simp [idemWitnesses])⟩

/-! ### the classes retired by the formatter repairs: their witnesses fail in the old code (OldModel.lean) and pass in the repaired one -/

def repairedTokenWitnesses : List String := [
  "# `\n{\n\ta\n}\n"  /- backtick-in-comment -/,
  "\"back`tick\" {\n}\n"  /- backtick-in-dquote -/,
  "a <<EOF\n\t`\n\tEOF\nb {\n}\n"  /- backtick-in-heredoc -/,
  "a`b {\n}\n"  /- backtick-in-word -/,
  "a\rb\n"  /- cr-inside-word -/,
  "a {\n"  /- dangling-open-brace-at-eof -/,
  ""  /- empty-input -/,
  "a#b \"x\n  y\"\n"  /- hash-in-word -/,
  "`a#b` \"x\n  y\"\n"  /- special-in-backquote -/,
  "a \\\n\"b  c\"\n"  /- special-right-after-line-continuation -/,
  "`{ inner }`\n"  /- ws-or-brace-in-backquote -/,
  "\"a\"\"b  c\"\n"  /- glued-after-quote -/,
  "{\n\\\na\n}\n"  /- line-continuation-without-token-before -/,
  "{\n\ta \\\n\n}\n"  /- blank-line-after-line-continuation -/
]

def repairedIdemWitnesses : List String := [
  "#`\n\n{}"  /- backtick-in-comment -/,
  "\"`\"\n{}"  /- backtick-in-dquote -/,
  "<<EOF\n} `\nEOF\n {} \n"  /- backtick-in-heredoc -/,
  "a`\n{}"  /- backtick-in-word -/,
  "{\n{x}\u00a0\\\n\n}\nEOF"  /- blank-line-after-line-continuation -/,
  "a#b \"a\n\tb {\n}\" \t\"tab\there\""  /- hash-in-word -/,
  "`a#b` \"a\n\tb {\n}\"\n<<END\n  \"q\"\n  END"  /- special-in-backquote -/,
  "EOF\\\n\"{x}# \n}}  \""  /- special-right-after-line-continuation -/,
  "} \\\n\t\"}\""  /- token-after-close-brace-on-same-line -/,
  "`\n{}`"  /- ws-or-brace-in-backquote -/,
  "\"\"\"\u00a0\n {{\\\nEOF\""  /- glued-after-quote -/,
  "\\\n\t\"}\""  /- line-continuation-without-token-before -/,
  "b { \\\nb"  /- token-after-open-brace-on-same-line -/
]

/-- non-vacuity of the repairs: each of these inputs changed its token stream under the OLD code -/
theorem repaired_token_witnesses_old_code_fails :
    repairedTokenWitnesses.all (fun s => !Old.preservesTokens (Old.runes s)) = true := by
  simp only [repairedTokenWitnesses, List.all_cons, List.all_nil]
  repeat rw [Old.runes_ofList]
  decide +kernel

/-- … and keeps it under the repaired code -/
theorem repaired_token_witnesses_now_pass :
    repairedTokenWitnesses.all (fun s => preservesTokens (runes s)) = true := by
  simp only [repairedTokenWitnesses, List.all_cons, List.all_nil]
  repeat rw [runes_ofList]
  decide +kernel

theorem repaired_idem_witnesses_old_code_fails :
    repairedIdemWitnesses.all (fun s => !Old.idempotentAt (Old.runes s)) = true := by
  simp only [repairedIdemWitnesses, List.all_cons, List.all_nil]
  repeat rw [Old.runes_ofList]
  decide +kernel

theorem repaired_idem_witnesses_now_pass :
    repairedIdemWitnesses.all (fun s => idempotentAt (runes s)) = true := by
  simp only [repairedIdemWitnesses, List.all_cons, List.all_nil]
  repeat rw [runes_ofList]
  decide +kernel

/-- non-vacuity of the spec predicates: they are TRUE on ordinary inputs -/
example : preservesTokens (runes "a {\n  b\n}\n") = true ∧ idempotentAt (runes "a {\n  b\n}\n") = true := by
  rw [runes_ofList]
  decide +kernel

end CaddyModel.C17
