/-
C17 — the fragment `W` (Fragment.lean) as the proofs use it: what the character classes exclude, what
`wordOK` says about a word by kind (`Shape`), and `goodFrom` read as relations (`SepOK`, `Good`).
Neither machine appears here; the formatter (FragLemmas.lean) and the lexer (LexLemmas.lean) both rest on this.
-/
import CaddyModel.C17.Fragment

namespace CaddyModel.C17

/-- what a character of a word is not (`wordCh_spec`) -/
structure WordChSpec (c : Rune) : Prop where
  ns : isSpace c = false
  dq : c ≠ 34
  hash : c ≠ 35
  lt : c ≠ 60
  bs : c ≠ 92
  bq : c ≠ 96
  nl : c ≠ 10

/-- what one step in a regular state asks of a character (`step_reg`) -/
structure RegCh (c : Rune) : Prop where
  ns : isSpace c = false
  lt : c ≠ 60
  bs : c ≠ 92

theorem WordChSpec.reg {c : Rune} (h : WordChSpec c) : RegCh c := ⟨h.ns, h.lt, h.bs⟩

structure PlainChSpec (c : Rune) : Prop extends WordChSpec c where
  opn : c ≠ 123
  cls : c ≠ 125
  bom : c ≠ 0xFEFF

theorem plainCh_spec {c : Rune} (h : plainCh c = true) : PlainChSpec c := by
  obtain ⟨h1, h2, h3, h4, h5, h6, h7, h8, h9⟩ :
      isSpace c = false ∧ c ≠ 34 ∧ c ≠ 35 ∧ c ≠ 60 ∧ c ≠ 92 ∧ c ≠ 96 ∧ c ≠ 123 ∧ c ≠ 125 ∧ c ≠ 0xFEFF := by
    simpa [plainCh, rDQ, rHash, rLT, rBS, rBQ, rOpen, rClose, rBOM, and_assoc] using h
  exact ⟨⟨h1, h2, h3, h4, h5, h6, fun e => by rw [e] at h1; exact absurd h1 (by decide)⟩, h7, h8, h9⟩

theorem wsCh_spec {c : Rune} (h : wsCh c = true) : isSpace c = true ∧ c ≠ 13 ∧ c ≠ 92 := by
  have h1 : isSpace c = true ∧ c ≠ 13 := by simpa [wsCh, rCR] using h
  exact ⟨h1.1, h1.2, fun hc => by subst hc; exact absurd h1.1 (by decide)⟩

theorem all_wsCh_isSpace {l : List Rune} (h : l.all wsCh = true) : l.all isSpace = true := by
  simp only [List.all_eq_true] at h ⊢
  intro x hx
  exact (wsCh_spec (h x hx)).1

def wordCh (c : Rune) : Bool := plainCh c || c == rOpen || c == rClose

theorem wordCh_spec {c : Rune} (h : wordCh c = true) : WordChSpec c := by
  unfold wordCh at h
  simp only [Bool.or_eq_true, beq_iff_eq] at h
  rcases h with (h | rfl) | rfl
  · exact (plainCh_spec h).toWordChSpec
  · constructor <;> decide
  · constructor <;> decide

/-- `pwOK` by the first character (a group opens; or it is plain, or closes the group); the one place where `pwOK` is unfolded -/
theorem pwOK_cons {inB : Bool} {c : Rune} {t : List Rune} (h : pwOK inB (c :: t) = true) :
    (c = rOpen ∧ inB = false ∧ pwOK true t = true) ∨
      ((plainCh c = true ∨ (c = rClose ∧ inB = true)) ∧ pwOK (inB && c != rClose) t = true) := by
  cases inB <;> simp only [pwOK] at h <;> split at h
  · rename_i hc; exact .inl ⟨by simpa using hc, rfl, h⟩
  · simp only [Bool.and_eq_true] at h; exact .inr ⟨.inl h.1, h.2⟩
  · rename_i hc; exact .inr ⟨.inr ⟨by simpa using hc, rfl⟩, by simpa [bne, hc] using h⟩
  · rename_i hc; simp only [Bool.and_eq_true] at h; exact .inr ⟨.inl h.1, by simpa [bne, hc] using h.2⟩

theorem pw_all : ∀ (w : List Rune) (inB : Bool), pwOK inB w = true → w.all wordCh = true
  | [], _, _ => rfl
  | c :: t, inB, h => by
    rcases pwOK_cons h with ⟨rfl, -, ht⟩ | ⟨hc, ht⟩
    · simp [wordCh, pw_all t _ ht]
    · have hc : wordCh c = true := by
        rcases hc with hc | ⟨rfl, -⟩
        · simp [wordCh, hc]
        · decide
      simp [hc, pw_all t _ ht]

theorem lastOf_all (p : Rune → Bool) : ∀ (l : List Rune) (d : Rune), p d = true → l.all p = true → p (lastOf d l) = true
  | [], _, hd, _ => hd
  | c :: cs, _, _, hl => by
    simp only [List.all_cons, Bool.and_eq_true] at hl
    exact lastOf_all p cs c hl.1 hl.2

theorem lastOf_plain : ∀ (l : List Rune) (d : Rune), plainCh d = true → l.all plainCh = true → plainCh (lastOf d l) = true :=
  lastOf_all plainCh

theorem reverse_append_lastOf : ∀ (l : List Rune) (a : Rune) (r0 : List Rune),
    ∃ r, l.reverse ++ (a :: r0) = lastOf a l :: r
  | [], a, r0 => ⟨r0, rfl⟩
  | b :: bs, a, r0 => by
    obtain ⟨r, hr⟩ := reverse_append_lastOf bs b (a :: r0)
    exact ⟨r, by simp only [List.reverse_cons, List.append_assoc, List.singleton_append, lastOf]; exact hr⟩

theorem cmtCh_spec {c : Rune} (h : cmtCh c = true) : c ≠ 10 ∧ c ≠ 92 := by
  simpa [cmtCh, rNL, rBS] using h

theorem dqCh_spec {c : Rune} (h : dqCh c = true) : c ≠ 34 ∧ c ≠ 92 ∧ c ≠ 10 := by
  simpa [dqCh, rDQ, rBS, rNL, and_assoc] using h

theorem bqCh_spec {c : Rune} (h : bqCh c = true) : c ≠ 96 ∧ c ≠ 10 := by
  simpa [bqCh, rBQ, rNL] using h

theorem dqBody_cons_ne (c : Rune) (t : List Rune) (h1 : (c == rBS) = false) :
    dqBody (c :: t) = (c != rDQ && c != rNL && dqBody t) := by
  cases t <;> simp [dqBody, h1]

/-- `dqTailE` with the flag set: the content goes on after an escaping backslash -/
theorem dqTailE_spec (e : Bool) (t : List Rune) (h : dqTailE e t = true) :
    ∃ content, t = content ++ [rDQ] ∧ dqBody (if e then rBS :: content else content) = true := by
  fun_induction dqTailE e t with
  | case1 => cases h
  | case2 c t ih =>
    simp only [Bool.and_eq_true] at h
    obtain ⟨content, rfl, hb⟩ := ih h.2
    exact ⟨c :: content, rfl, by simpa [dqBody, h.1] using hb⟩
  | case3 c t hc ih =>
    simp only [beq_iff_eq] at hc
    obtain ⟨content, rfl, hb⟩ := ih h
    exact ⟨c :: content, rfl, by simpa [hc] using hb⟩
  | case4 c t hc hq =>
    simp only [beq_iff_eq, List.isEmpty_iff] at hq h
    exact ⟨[], by rw [hq, h]; rfl, rfl⟩
  | case5 c t hc hq ih =>
    simp only [Bool.and_eq_true] at h
    obtain ⟨content, rfl, hb⟩ := ih h.2
    refine ⟨c :: content, rfl, ?_⟩
    simp only [Bool.false_eq_true, ↓reduceIte] at hb ⊢
    rw [dqBody_cons_ne c content (by simpa using hc)]
    simp only [Bool.and_eq_true]
    exact ⟨⟨by simpa using hq, h.1⟩, hb⟩

theorem dqTail_spec (t : List Rune) (h : dqTail t = true) : ∃ content, t = content ++ [rDQ] ∧ dqBody content = true := by
  simpa using dqTailE_spec false t h

theorem bqTail_spec : ∀ (t : List Rune), bqTail t = true → ∃ content, t = content ++ [rBQ] ∧ content.all bqCh = true
  | [], h => by simp [bqTail] at h
  | [c], h => by
    simp only [bqTail, beq_iff_eq] at h
    exact ⟨[], by simp [h], rfl⟩
  | c :: d :: t, h => by
    simp only [bqTail, Bool.and_eq_true] at h
    obtain ⟨content, hc, hall⟩ := bqTail_spec (d :: t) h.2
    exact ⟨c :: content, by simp [hc], by simp [h.1, hall]⟩

theorem plainCh_hash : plainCh rHash = false := by decide

theorem plainCh_dq : plainCh rDQ = false := by decide

inductive Shape : Kind → List Rune → Prop
  | opn : Shape .opn [rOpen]
  | cls : Shape .cls [rClose]
  | cmt {as : List Rune} : as.all cmtCh = true → isSpace (lastOf rHash as) = false → Shape .cmt (rHash :: as)
  | dq {as : List Rune} : dqBody as = true → Shape .dq (rDQ :: (as ++ [rDQ]))
  | bq {as : List Rune} : as.all bqCh = true → Shape .dq (rBQ :: (as ++ [rBQ]))
  | plain {a : Rune} {as : List Rune} : plainCh a = true → pwOK false as = true → Shape .plain (a :: as)
  -- a word that starts with a placeholder; its second rune is named because the formatter writes the kept-back `{` with it
  | lb {c : Rune} {as : List Rune} : (plainCh c = true ∨ c = rClose) → pwOK (!(c == rClose)) as = true →
      Shape .plain (rOpen :: c :: as)

theorem wordOK_shape {c : Chunk} (hw : c.wordOK = true) : Shape c.kind c.word := by
  unfold Chunk.kind
  unfold Chunk.wordOK at hw
  generalize c.word = w at hw ⊢
  simp only [Bool.or_eq_true, beq_iff_eq] at hw
  rcases hw with (rfl | rfl) | hw
  · exact Shape.opn
  · exact Shape.cls
  · cases w with
    | nil => simp at hw
    | cons h t =>
      simp only [Bool.or_eq_true, Bool.and_eq_true, beq_iff_eq, Bool.not_eq_true'] at hw
      rcases hw with ((⟨⟨rfl, h1⟩, h2⟩ | ⟨rfl, h1⟩) | ⟨rfl, h1⟩) | hw
      · simp only [List.head?_cons, rHash, rOpen, rClose]
        exact Shape.cmt h1 h2
      · obtain ⟨as, rfl, has⟩ := dqTail_spec t h1
        exact Shape.dq has
      · obtain ⟨as, rfl, has⟩ := bqTail_spec t h1
        exact Shape.bq has
      · rcases pwOK_cons hw with ⟨rfl, -, ht⟩ | ⟨hp | ⟨-, hf⟩, ht⟩
        · cases t with
          | nil => cases ht
          | cons c as =>
            rcases pwOK_cons ht with ⟨-, hf, -⟩ | ⟨hc, has⟩
            · cases hf
            · exact Shape.lb (hc.imp_right (·.1)) has
        · have hp' := plainCh_spec hp
          simp only [List.cons.injEq, List.head?_cons, Option.some.injEq, rOpen, rClose, rHash, rDQ, rBQ, hp'.dq,
            hp'.hash, hp'.bq, hp'.opn, hp'.cls, false_and, ↓reduceIte]
          exact Shape.plain hp ht
        · cases hf

theorem shape_first {k : Kind} {w : List Rune} (h : Shape k w) :
    ∃ a r, w = a :: r ∧ RegCh a ∧ a ≠ rBOM := by
  cases h with
  | plain ha _ => exact ⟨_, _, rfl, (plainCh_spec ha).reg, (plainCh_spec ha).bom⟩
  | opn | cls | cmt | dq | bq | lb => exact ⟨_, _, rfl, ⟨by decide, by decide, by decide⟩, by decide⟩

theorem cmt_head {w : List Rune} (h : Shape .cmt w) : w.head? ≠ some rOpen := by
  cases h; simp [rHash, rOpen]

theorem shape_all_wordCh {k : Kind} {w : List Rune} (h : Shape k w) (hc : k ≠ .cmt) (hq : k ≠ .dq) :
    ∃ a as, w = a :: as ∧ wordCh a = true ∧ as.all wordCh = true := by
  cases h with
  | opn | cls => exact ⟨_, _, rfl, by decide, rfl⟩
  | cmt => exact absurd rfl hc
  | dq | bq => exact absurd rfl hq
  | plain ha has => exact ⟨_, _, rfl, by simp [wordCh, ha], pw_all _ _ has⟩
  | @lb c as hc' has =>
    have hcw : wordCh c = true := by rcases hc' with h | h <;> simp [wordCh, h]
    exact ⟨_, _, rfl, by decide, by simp [hcw, pw_all _ _ has]⟩

theorem shape_last {k : Kind} {w : List Rune} (h : Shape k w) : ∃ z r, w.reverse = z :: r ∧ isSpace z = false := by
  have hrev : ∀ (a : Rune) (as : List Rune), ∃ r, (a :: as).reverse = lastOf a as :: r := fun a as => by
    rw [List.reverse_cons]; exact reverse_append_lastOf as a []
  by_cases hc : k = .cmt
  · subst hc
    cases h with
    | cmt has hlast => exact ⟨_, (hrev rHash _).choose, (hrev rHash _).choose_spec, hlast⟩
  by_cases hq : k = .dq
  · subst hq
    cases h with
    | @dq as has => exact ⟨rDQ, as.reverse ++ [rDQ], by simp, by decide⟩
    | @bq as has => exact ⟨rBQ, as.reverse ++ [rBQ], by simp, by decide⟩
  obtain ⟨a, as, rfl, ha, has⟩ := shape_all_wordCh h hc hq
  exact ⟨_, (hrev a as).choose, (hrev a as).choose_spec, (wordCh_spec (lastOf_all wordCh as a ha has)).ns⟩

/-- what `goodFrom` lets stand between two words, by the kind of the word before -/
inductive SepOK : Option Kind → Chunk → Prop
  | first {c : Chunk} (hs : c.sep = []) (hk : c.kind ≠ .cls) : SepOK none c
  | word {p : Kind} {c : Chunk} (hp : p = .plain ∨ p = .dq) (hs : c.sep ≠ []) (ho : c.kind = .opn → c.nl = 0)
      (hc : c.kind = .cls → 1 ≤ c.nl) : SepOK (some p) c
  | cmt {c : Chunk} {ws : List Rune} (hs : c.sep = rNL :: ws) (hk : c.kind ≠ .opn) : SepOK (some .cmt) c
  | brace {p : Kind} {c : Chunk} (hp : p = .opn ∨ p = .cls) (hs : c.sep ≠ []) (hk : c.kind ≠ .opn)
      (hn : c.kind ≠ .cmt → 1 ≤ c.nl) : SepOK (some p) c

inductive Good : Option Kind → List Chunk → Prop
  | nil {p : Kind} (h : p ≠ .opn) : Good (some p) []
  | cons {prev : Option Kind} {c : Chunk} {cs : List Chunk} (hws : c.sep.all wsCh = true) (hsh : Shape c.kind c.word)
      (hsep : SepOK prev c) (h : Good (some c.kind) cs) : Good prev (c :: cs)

theorem sepOK_of_good {prev : Option Kind} {c : Chunk} {cs : List Chunk} (hg : goodFrom prev (c :: cs) = true) :
    SepOK prev c := by
  simp only [goodFrom, Bool.and_eq_true] at hg
  obtain ⟨⟨-, hcond⟩, -⟩ := hg
  have hne : (decide (c.nl ≥ 1) || (c.kind == .cmt && !c.sep.isEmpty)) = true → c.sep ≠ [] := by
    intro h e
    simp [Chunk.nl, e, countNL] at h
  cases prev with
  | none =>
    simp only [Bool.and_eq_true, List.isEmpty_iff, bne_iff_ne, ne_eq] at hcond
    exact .first hcond.1 hcond.2
  | some p =>
    cases p with
    | plain | dq =>
      simp only [Bool.and_eq_true, Bool.not_eq_true', List.isEmpty_eq_false_iff] at hcond
      refine .word (by simp) hcond.1 (fun h => ?_) (fun h => ?_) <;> rw [h] at hcond <;> simpa using hcond.2
    | cmt =>
      simp only [Bool.and_eq_true, beq_iff_eq, bne_iff_ne, ne_eq] at hcond
      cases hs : c.sep with
      | nil => simp [hs] at hcond
      | cons a ws =>
        rw [hs] at hcond
        simp only [List.head?_cons, Option.some.injEq] at hcond
        exact .cmt (ws := ws) (by rw [hs, hcond.1]) hcond.2
    | opn | cls =>
      simp only [Bool.and_eq_true, bne_iff_ne, ne_eq] at hcond
      refine .brace (by simp) (hne hcond.1) hcond.2 (fun hk => ?_)
      have := hcond.1
      simp only [Bool.or_eq_true, decide_eq_true_eq, Bool.and_eq_true, beq_iff_eq] at this
      exact this.elim id fun h => absurd h.1 hk

theorem good_of_goodFrom : ∀ (cs : List Chunk) (prev : Option Kind), goodFrom prev cs = true → Good prev cs
  | [], prev, h => by
    simp only [goodFrom, Bool.or_eq_true, beq_iff_eq] at h
    rcases h with ((h | h) | h) | h <;> subst h <;> exact .nil (by simp)
  | c :: cs, prev, h => by
    have h' := h
    simp only [goodFrom, Bool.and_eq_true] at h'
    exact .cons h'.1.1.1 (wordOK_shape h'.1.1.2) (sepOK_of_good h) (good_of_goodFrom cs _ h'.2)

theorem SepOK.cons {k : Kind} {c : Chunk} (h : SepOK (some k) c) : ∃ a ws, c.sep = a :: ws ∧ (k = .cmt → a = rNL) := by
  cases h with
  | @word _ _ hp hs | @brace _ _ hp hs =>
    obtain ⟨a, ws, e⟩ := List.exists_cons_of_ne_nil hs
    exact ⟨a, ws, e, fun hk => by subst hk; simp at hp⟩
  | cmt hs => exact ⟨_, _, hs, fun _ => rfl⟩

theorem flatten_last {prev : Option Kind} {cs : List Chunk} (hg : Good prev cs) : cs ≠ [] →
    ∃ z r, (flatten cs).reverse = z :: r ∧ isSpace z = false := by
  induction hg with
  | nil => exact fun h => absurd rfl h
  | @cons _ c cs _ hsh _ _ ih =>
    intro _
    cases cs with
    | nil =>
      obtain ⟨z, r, hw, hz⟩ := shape_last hsh
      exact ⟨z, r ++ c.sep.reverse, by simp [flatten, hw], hz⟩
    | cons c' cs =>
      obtain ⟨z, r, h, hz⟩ := ih (by simp)
      refine ⟨z, r ++ (c.word.reverse ++ c.sep.reverse), ?_, hz⟩
      rw [show flatten (c :: c' :: cs) = c.sep ++ (c.word ++ flatten (c' :: cs)) from rfl]
      simp only [List.reverse_append, h, List.cons_append, List.append_assoc]

theorem inW_decompose {x : List Rune} (h : inW x = true) :
    ∃ (lead trail : List Rune) (c : Chunk) (cs : List Chunk),
      x = lead ++ (flatten (c :: cs) ++ trail) ∧ lead.all wsCh = true ∧ trail.all wsCh = true ∧ c.sep = [] ∧
        goodFrom none (c :: cs) = true := by
  unfold inW at h
  simp only [Bool.and_eq_true, beq_iff_eq] at h
  obtain ⟨⟨h1, h2⟩, h3⟩ := h
  cases hc : (chunksOf x).1 with
  | nil => rw [hc] at h1; simp at h1
  | cons c cs =>
    rw [hc] at h1 h3
    simp only [Bool.and_eq_true] at h1
    refine ⟨c.sep, (chunksOf x).2, ⟨[], c.word⟩, cs, ?_, h1.1, h2, rfl, h1.2⟩
    have e : flatten (c :: cs) ++ (chunksOf x).2 = c.sep ++ (flatten (⟨[], c.word⟩ :: cs) ++ (chunksOf x).2) := by
      simp [flatten, List.append_assoc]
    rw [← e]; exact h3.symm

end CaddyModel.C17
