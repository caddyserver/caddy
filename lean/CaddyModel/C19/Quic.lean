/-
C19 — the glue that feeds the first-match algorithm over HTTP/3 (listeners.go, package caddy).

One QUIC (UDP) listener per address lives in `listenerPool` across config reloads.  Its tls.Config
forwards every ClientHello to `sharedQUICState.getConfigForClient`, i.e. to
`activeTlsConf.GetConfigForClient` — the first-match loop of ONE config's connection policies.
A starting server calls `ListenQUIC(tlsConf)` (`LoadOrNew` + `addState`), a stopping server calls
`Close` on what it got (`contextCancel` = the wrapping cancel returned by `addState`, then
`listenerPool.Delete`).  Configs are numbered; a history is a list of such calls.
-/
namespace CaddyModel.C19

/-- the pooled listener with its sharedQUICState -/
structure QState where
  /-- usage count in `listenerPool` (0 = there is no listener) -/
  refs : Nat
  /-- keys of `tlsConfs` -/
  confs : List Nat
  /-- `activeTlsConf` -/
  active : Nat
  /-- configs of the fakeCloseQuicListeners that have not been closed -/
  openL : List Nat
  deriving DecidableEq, Repr

def QState.init : QState := ⟨0, [], 0, []⟩

inductive QOp where
  /-- a starting server: `ListenQUIC` with config `k` -/
  | open (k : Nat)
  /-- a stopping server: `Close` of the listener it got for config `k` -/
  | close (k : Nat)
  /-- a QUIC ClientHello arrives -/
  | probe
  deriving DecidableEq, Repr

/-- the wrapping cancel: `delete(tlsConfs, k)`; if `k` was active, "select another tls.Config" -/
def removeConf (s : QState) (k : Nat) : QState :=
  { s with confs := s.confs.erase k,
           active := if s.active = k then (match s.confs.erase k with | c :: _ => c | [] => s.active) else s.active }

/-- `ListenQUIC`: `LoadOrNew` (a new listener starts with `newSharedQUICState(k)`: registered and
    active), then `addState(k)` (registers `k` if it is not; the active config does not change) -/
def openConf (s : QState) (k : Nat) : QState :=
  if s.refs = 0 then ⟨1, [k], k, [k]⟩
  else { s with refs := s.refs + 1, confs := if s.confs.contains k then s.confs else s.confs ++ [k],
                openL := k :: s.openL }

/-- `fakeCloseQuicListener.Close`: the cancel function it holds, then `listenerPool.Delete`
    (the last user destroys the listener).  `wrapped` says whether that cancel function is the
    wrapping one (`addState` returns it on both of its paths). -/
def closeConf (wrapped : Bool) (s : QState) (k : Nat) : QState :=
  if s.refs ≤ 1 then QState.init
  else if wrapped then
    { removeConf s k with refs := s.refs - 1, openL := s.openL.erase k }
  else { s with refs := s.refs - 1, openL := s.openL.erase k }

/-- one call; `none` = outside the protocol (re-opening a config, closing what is not open, more
    than two open listeners — with the wrapping cancel these are the registered configs, and beyond
    two of those the successor of a removed active config depends on Go's map iteration order).
    The last component is what a probe observes. -/
def qstep (wrapped : Nat → Bool) (s : QState) (used : List Nat) : QOp → Option (QState × List Nat × Option (Option Nat))
  | .open k =>
    if used.contains k then none
    else if (openConf s k).openL.length > 2 then none
    else some (openConf s k, k :: used, none)
  | .close k =>
    if !s.openL.contains k then none
    else some (closeConf (wrapped k) s k, used, none)
  | .probe => some (s, used, some (if s.refs = 0 then none else some s.active))

/-- run a history; the answers of its probes -/
def qrun (wrapped : Nat → Bool) : QState → List Nat → List QOp → Option (QState × List (Option Nat))
  | s, _, [] => some (s, [])
  | s, used, op :: ops =>
    match qstep wrapped s used op with
    | none => none
    | some (s', used', obs) =>
      match qrun wrapped s' used' ops with
      | none => none
      | some (sf, answers) => some (sf, (match obs with | some a => [a] | none => []) ++ answers)

/-- the code: every cancel function handed out is the wrapping one -/
def allWrapped : Nat → Bool := fun _ => true

/-- the reload history a running process produces, with a ClientHello after every call: config 1
    starts; each reload starts the next config's server and then stops the previous one -/
def reloadsFrom (k : Nat) : Nat → List QOp
  | 0 => []
  | n + 1 => QOp.open (k + 1) :: QOp.probe :: QOp.close k :: QOp.probe :: reloadsFrom (k + 1) n

def reloads (n : Nat) : List QOp := QOp.open 1 :: QOp.probe :: reloadsFrom 1 n

/-- what those ClientHellos must be answered by: while both servers run, the old config (it is
    still serving); once the old one has stopped, the new config -/
def reloadAnswersFrom (k : Nat) : Nat → List (Option Nat)
  | 0 => []
  | n + 1 => some k :: some (k + 1) :: reloadAnswersFrom (k + 1) n

end CaddyModel.C19
