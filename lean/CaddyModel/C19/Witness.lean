/-
C19 — proved counter-examples (kernel-evaluated) and their protocol lines.
Imports only model files, so that `drv_C19` links independently of the proofs.
-/
import CaddyModel.C19.Spec
import CaddyModel.C19.Driver

namespace CaddyModel.C19

def wATest : Bytes := [97, 46, 116, 101, 115, 116]    -- "a.test"
def wZ : Bytes := [122, 122, 46, 116, 101, 115, 116]  -- "zz.test"

/-- one policy more than the index threshold (31 on the pinned tree): policy 0 has no matchers
    (catch-all), policy 1 is `sni a.test`, every other one `sni zz.test` -/
def trapPolicies : List Policy :=
  (List.range (sniIndexThreshold + 1)).map fun i =>
    if i = 0 then ⟨[], false, false⟩
    else if i = 1 then ⟨[.sni [wATest]], false, false⟩
    else ⟨[.sni [wZ]], false, false⟩

def trapHello : Hello := ⟨wATest, fun _ => false⟩

theorem trap_firstMatch : firstMatch trapPolicies trapHello = .config 0 := by decide
theorem trap_choose_live : choose true trapPolicies trapHello = .config 1 := by decide +kernel

theorem live_index_breaks_first_match : ∃ ps h, choose true ps h ≠ firstMatch ps h :=
  ⟨trapPolicies, trapHello, by rw [trap_choose_live, trap_firstMatch]; decide⟩

example : firstMatch trapPolicies trapHello = .config 0 := trap_firstMatch
example : choose true trapPolicies trapHello = .config 1 := trap_choose_live
example : choose false trapPolicies trapHello = .config 0 := by decide
example : indexHarmless trapPolicies trapHello = false := by decide

/-! ### strict SNI-Host does not bind the routing host when the Host is bracketed without a port -/

def wSecret : Bytes := [115, 101, 99, 114, 101, 116, 46, 116, 101, 115, 116]   -- "secret.test"
def wBracketed : Bytes := 91 :: wSecret ++ [93]                                -- "[secret.test]"

theorem bracketed_host_served : serve true [wSecret] (some wBracketed) wBracketed = .handler (some 0) := by
  decide +kernel

/-- negation of the full statement kept in `strict_binds_routing_host_partial` (Props.lean):
    SNI `[secret.test]`, Host `[secret.test]`, strict checking on — the request is routed to the
    handler of site `secret.test`, which is not the SNI. -/
theorem strict_binds_routing_host_full_fails :
    ¬ ∀ (sites : List Bytes) (sni host : Bytes) (k : Nat),
        serve true sites (some sni) host = .handler (some k) →
        ∃ site, sites[k]? = some site ∧ foldSame sni site := by
  intro hall
  obtain ⟨site, h1, h2⟩ := hall [wSecret] wBracketed wBracketed 0 bracketed_host_served
  simp at h1; subst h1
  revert h2; decide +kernel

example : bracketTrimmed wBracketed = true := by decide
example : serve true [wSecret] (some wBracketed) wBracketed = .handler (some 0) := bracketed_host_served
-- with a port the two computations agree and the request is refused
example : serve true [wSecret] (some wBracketed) (wBracketed ++ [58, 52, 52, 51]) = .misdirected := by decide +kernel

/-! ### regression: before /repo commit 110cdf0 strict SNI-Host (EqualFold alone) did not bind the TLS policy (ToLower) for the SNI `ſecret.test` -/

def wLongSecret : Bytes := symLongS :: [101, 99, 114, 101, 116, 46, 116, 101, 115, 116]   -- "ſecret.test"

def wPolicies : List Policy := [⟨[.sni [wSecret]], false, true⟩, ⟨[], false, false⟩]

/-- `serve` as it was before /repo commit 110cdf0: the strict check is `EqualFold` alone -/
def serveOld (strict : Bool) (sites : List Bytes) (tlsSNI : Option Bytes) (host : Bytes) : Served :=
  match tlsSNI with
  | none => .handler (route sites host)
  | some sni =>
    if strict && !equalFold sni (enforcementHost host) then .misdirected
    else .handler (route sites host)

/-- the old check did not bind the routed site to a name that selects the SNI's policies … -/
theorem strict_unicode_fold_old_code_fails :
    ¬ ∀ (sites : List Bytes) (sni host : Bytes) (k : Nat), noBrackets sni = true →
        serveOld true sites (some sni) host = .handler (some k) →
        ∃ site, sites[k]? = some site ∧ namesSameHost sni site := by
  intro hall
  obtain ⟨site, h1, h2⟩ := hall [wSecret] wLongSecret wSecret 0 (by decide +kernel) (by decide +kernel)
  simp at h1; subst h1
  revert h2; decide +kernel

/-- … so the no-bypass clause failed: strict SNI-Host on by default (client-auth policy present),
    the connection with SNI `ſecret.test` gets the catch-all policy 1, and its request with
    `Host: secret.test` was routed to the site whose own name gets the client-auth policy 0. -/
theorem client_auth_not_bypassed_old_code_fails :
    ∃ (ps : List Policy) (sites : List Bytes) (sni host site : Bytes) (v : Nat → Bool) (k : Nat),
      (∃ p ∈ ps, p.clientAuth = true) ∧ noBrackets sni = true ∧ (∀ s ∈ sites, isAscii s = true) ∧
      serveOld (effectiveStrict none ps) sites (some sni) host = .handler (some k) ∧
      sites[k]? = some site ∧ choose false ps ⟨sni, v⟩ ≠ choose false ps ⟨site, v⟩ :=
  ⟨wPolicies, [wSecret], wLongSecret, wSecret, wSecret, fun _ => false, 0,
    by decide +kernel⟩

-- the code as it is now refuses the same request
example : serve (effectiveStrict none wPolicies) [wSecret] (some wLongSecret) wSecret = .misdirected := by decide
example : choose false wPolicies ⟨wLongSecret, fun _ => false⟩ = .config 1 := by decide
example : choose false wPolicies ⟨wSecret, fun _ => false⟩ = .config 0 := by decide
example : isAscii wLongSecret = false := by decide
-- the Kelvin sign is harmless: `K.t` lowers to `k.t`, so it selects the policy of `k.t`
example : choose false [⟨[.sni [[107, 46, 116]]], false, true⟩, ⟨[], false, false⟩] ⟨[129, 46, 116], fun _ => false⟩ = .config 0 := by decide

/-! ### regression: a wildcard host route used to match an EMPTY label, the TLS wildcard matcher never did -/

def wWildSecret : Bytes := [42, 46] ++ wSecret     -- "*.secret.test"
def wDotSecret : Bytes := 46 :: wSecret            -- ".secret.test"

def wWildPolicies : List Policy := [⟨[.sni [wWildSecret]], false, true⟩, ⟨[], false, false⟩]

/-- the label loop as it was before /repo 7aa47c3: `*` matched ANY label, an empty one too -/
def labelsMatchOld : List Bytes → List Bytes → Bool
  | [], [] => true
  | p :: ps, l :: ls =>
    if p = [cStar] then labelsMatchOld ps ls
    else if equalFold p l then labelsMatchOld ps ls
    else false
  | _, _ => false

def hostMatchOld (rh site : Bytes) : Bool :=
  if site.contains cStar then labelsMatchOld (splitDot site) (splitDot rh) else equalFold rh site

def routeFromOld (k : Nat) (rh : Bytes) : List Bytes → Option Nat
  | [] => none
  | s :: ss => if hostMatchOld rh s then some k else routeFromOld (k + 1) rh ss

def serveWildOld (strict : Bool) (sites : List Bytes) (tlsSNI : Option Bytes) (host : Bytes) : Served :=
  match tlsSNI with
  | none => .handler (routeFromOld 0 (routingHost host) sites)
  | some sni =>
    if strict && !(isAscii sni && equalFold sni (enforcementHost host)) then .misdirected
    else .handler (routeFromOld 0 (routingHost host) sites)

/-- with the old host matcher the no-bypass clause failed for a WILDCARD client-auth site: strict
    SNI-Host on by default, SNI `.secret.test` ASCII, bracket-free and equal to the Host, yet the
    connection gets the catch-all policy 1 (MatchWildcard skips the empty label) while the request
    was routed to the site `*.secret.test`, whose proper instances get the client-auth policy 0.
    Reproduced on that code with a real handshake (wildcard certificate loaded); regression lines in corpus/C19. -/
theorem wildcard_empty_label_old_code_fails :
    ∃ (ps : List Policy) (sites : List Bytes) (sni host : Bytes) (v : Nat → Bool) (k : Nat),
      (∃ p ∈ ps, p.clientAuth = true) ∧ noBrackets sni = true ∧ isAscii sni = true ∧
      serveWildOld (effectiveStrict none ps) sites (some sni) host = .handler (some k) ∧
      sites[k]? = some wWildSecret ∧
      choose false ps ⟨sni, v⟩ = .config 1 ∧
      choose false ps ⟨120 :: sni, v⟩ = .config 0 :=
  ⟨wWildPolicies, [wWildSecret], wDotSecret, wDotSecret, fun _ => false, 0,
    by decide +kernel⟩

-- now the empty label is not matched on either side; a proper instance is matched on both
example : hostMatch wDotSecret wWildSecret = false ∧ matchWildcard wDotSecret wWildSecret = false := by decide
example : hostMatch (120 :: wDotSecret) wWildSecret = true ∧ matchWildcard (120 :: wDotSecret) wWildSecret = true := by decide +kernel
example : serve (effectiveStrict none wWildPolicies) [wWildSecret] (some wDotSecret) wDotSecret = .handler none := by decide +kernel

/-! ### regression: an IDN site written in Unicode form — the sni matcher used to keep the U-label, the host matcher converts -/

def wEacuteTest : Bytes := [symEacute, 46, 116, 101, 115, 116]                       -- "é.test"
def wIdnATest : Bytes := [120, 110, 45, 45, 57, 99, 97, 46, 116, 101, 115, 116]      -- "xn--9ca.test" = idna.ToASCII("é.test")

/-- the config says `é.test` twice: connection policy `sni é.test` with client auth, route
    `host é.test` (converted to `xn--9ca.test` by MatchHost.Provision); then a catch-all policy.
    BEFORE /repo 9e6677f the provisioned policy kept the name as written — this list; now
    MatchServerName.Provision converts it too (`provisionedSniName` in Driver.lean) -/
def wIdnPolicies : List Policy := [⟨[.sni [wEacuteTest]], false, true⟩, ⟨[], false, false⟩]

/-- an ordinary client sends the A-label as SNI and Host: strict SNI-Host is on and passes, the
    request is routed to the site, yet NO client-auth policy accepts the connection — it gets the
    catch-all policy 1.  Reproduced on that code with a real handshake (e2e server 4) and, through the
    Caddyfile adapter, over TCP; regression lines in corpus/C19.  With the converted name
    `strict_binds_site_policy` applies (the provisioned site name is ASCII). -/
theorem idn_site_policy_never_matches_old_code_fails :
    ∃ (ps : List Policy) (sites : List Bytes) (sni host : Bytes) (v : Nat → Bool) (k : Nat),
      (∃ p ∈ ps, p.clientAuth = true) ∧ noBrackets sni = true ∧ isAscii sni = true ∧
      serve (effectiveStrict none ps) sites (some sni) host = .handler (some k) ∧
      sites[k]? = some wIdnATest ∧
      choose false ps ⟨sni, v⟩ = .config 1 ∧
      sniMatch sni [wEacuteTest] = false :=
  ⟨wIdnPolicies, [wIdnATest], wIdnATest, wIdnATest, fun _ => false, 0,
    by decide +kernel⟩

-- had the sni matcher been given the IDNA form, the client-auth policy would be the one chosen
example : choose false [⟨[.sni [wIdnATest]], false, true⟩, ⟨[], false, false⟩] ⟨wIdnATest, fun _ => false⟩ = .config 0 := by decide

/-! ### regression: one site block on two ports — both servers used to get the policy matcher of the last one -/

def wBTest : Bytes := [98, 46, 116, 101, 115, 116]    -- "b.test"

/-- `a.test:443, b.test:8443 { tls { client_auth { mode require } } }`: what the adapter USED to give
    the server on `:443` (the policy object in the block's pile was shared and overwritten; it is
    copied per server now) — the client-auth policy carries `sni b.test` (the other server's name), then
    the catch-all -/
def wAliasedPolicies : List Policy := [⟨[.sni [wBTest]], false, true⟩, ⟨[], false, false⟩]

/-- on that server strict SNI-Host is on and a request for `a.test` reaches the site, yet the
    connection got the catch-all policy 1: the site whose block demands client certificates is
    served without one.  Reproduced on that code through the real adapter (`cf2` cases) and over TCP;
    regression line in corpus/C19. -/
theorem multi_port_block_aliasing_old_code_fails :
    ∃ (ps : List Policy) (sites : List Bytes) (sni host : Bytes) (v : Nat → Bool) (k : Nat),
      (∃ p ∈ ps, p.clientAuth = true) ∧ noBrackets sni = true ∧ isAscii sni = true ∧
      serve (effectiveStrict none ps) sites (some sni) host = .handler (some k) ∧
      sites[k]? = some sni ∧ choose false ps ⟨sni, v⟩ = .config 1 :=
  ⟨wAliasedPolicies, [wATest], wATest, wATest ++ [58, 52, 52, 51], fun _ => false, 0,
    by decide +kernel⟩

-- with its own name in the matcher (what the Caddyfile means) the client-auth policy is chosen
example : choose false [⟨[.sni [wATest]], false, true⟩, ⟨[], false, false⟩] ⟨wATest, fun _ => false⟩ = .config 0 := by decide

/-! ### HTTP/3: a cancel function that does not unregister leaves a CLOSED config active -/

/-- if only the config that created the listener gets the wrapping cancel function and later ones
    the bare `context.CancelFunc` (one return path of `addState` returning `cancel` instead of
    `wrappedCancel`), the first reload still works, but after the second one the ClientHello is
    answered by config 2 — whose server has stopped — although only config 3 runs: the policy list
    consulted over HTTP/3 is a stale one.  (The code hands out the wrapping function on both
    paths: `quic_cancel_paths_match_source` in Props.lean.) -/
theorem bare_cancel_consults_closed_config :
    ∃ s answers, qrun (fun k => k == 1) QState.init [] (reloads 2) = some (s, answers) ∧
      answers = [some 1, some 1, some 2, some 2, some 2] ∧ s.active = 2 ∧ s.openL = [3] :=
  ⟨_, _, rfl, by decide +kernel⟩

example : qrun allWrapped QState.init [] (reloads 2) =
    some (⟨1, [3], 3, [3]⟩, [some 1, some 1, some 2, some 2, some 3]) := by decide

/-- a block with verifier modules only: the built tls.Config requires a certificate, yet `Active()`
    asked after provisioning says false (`VerifiersRaw` was zeroed by LoadModule) -/
theorem active_after_provision_full_fails :
    ∃ c b, provisionPolicyCA (some c) = some b ∧ activeBefore (some c) = true ∧
      b.bits.auth = .requireAnyClientCert ∧ b.activeAfter = false :=
  ⟨⟨.none, .none, .none, .none, true, .empty⟩, _, rfl, by decide, by decide, by decide⟩

/-- observation (client-auth correctness, not this property): `provision` swallows the error of an
    unreadable PEM file / undecodable CA certificate (`return nil`), so the policy demands
    verification (`RequireAndVerifyClientCert`) with `ClientCAs == nil` — crypto/tls then verifies
    against the system roots. -/
theorem swallowed_ca_load_error :
    ∃ c b, c.pemFiles = .bad ∧ provisionPolicyCA (some c) = some b ∧
      b.bits.auth = .requireAndVerifyClientCert ∧ b.bits.clientCAs = false :=
  ⟨⟨.none, .none, .bad, .none, false, .empty⟩, _, rfl, rfl, by decide, by decide⟩

/-- Protocol lines of the counter-examples; replayed on the implementation first on every run.
    Line 1 is `trapPolicies`/`trapHello` (written with the liveness flag 0 that the pinned tree
    shows: there first-match holds, the answer is `c0`; on a tree whose index is populated the
    harness observes live=1, answers `c1`, and the first-match oracle fails on exactly this input).
    Line 2 is the bracketed-Host request of `strict_binds_routing_host_full_fails` (the latent corner). -/
def witnessLines : List String := [
  "C19 pol 0 -/~/~;-/612e74657374/~;-/7a7a2e74657374/~;-/7a7a2e74657374/~;-/7a7a2e74657374/~;-/7a7a2e74657374/~;-/7a7a2e74657374/~;-/7a7a2e74657374/~;-/7a7a2e74657374/~;-/7a7a2e74657374/~;-/7a7a2e74657374/~;-/7a7a2e74657374/~;-/7a7a2e74657374/~;-/7a7a2e74657374/~;-/7a7a2e74657374/~;-/7a7a2e74657374/~;-/7a7a2e74657374/~;-/7a7a2e74657374/~;-/7a7a2e74657374/~;-/7a7a2e74657374/~;-/7a7a2e74657374/~;-/7a7a2e74657374/~;-/7a7a2e74657374/~;-/7a7a2e74657374/~;-/7a7a2e74657374/~;-/7a7a2e74657374/~;-/7a7a2e74657374/~;-/7a7a2e74657374/~;-/7a7a2e74657374/~;-/7a7a2e74657374/~;-/7a7a2e74657374/~ 612e74657374/0/6/1000011010111110",
  "C19 enf t . 7365637265742e74657374 1/5b7365637265742e746573745d/5b7365637265742e746573745d",
  -- three reloads of an HTTP/3 listener, a ClientHello after every step (ready-made failing input for a stale active config)
  "C19 quic o1,p,o2,p,c1,p,o3,p,c2,p,o4,p,c3,p",
  -- verifier-only block (Active() flips with provisioning) and a CA file that does not load
  "C19 ca 1000010",
  "C19 ca 1002000"
]

/-! ### what "compare SNI and Host once per connection" would do

NOT the code (`enforcement_is_per_request`, `enforcement_reads_only_sni_and_host_matches_source`,
`conn_context_values_match_source` in Props.lean): a flag in the connection context set by the first request that
passes the strict check and exempting later requests.  The SNI is constant for a connection, the
Host is not: after one request for the connection's own name, the client-auth site is served on
the same connection, although the connection's policy (catch-all) never asked for a certificate. -/
theorem checked_once_per_connection_fails :
    ∃ (ps : List Policy) (sites : List Bytes) (sni : Bytes) (hosts : List Bytes),
      choose false ps ⟨sni, fun _ => false⟩ = .config 1 ∧ ps[1]?.map (·.clientAuth) = some false ∧
      choose false ps ⟨e2eSecret, fun _ => false⟩ = .config 0 ∧ ps[0]?.map (·.clientAuth) = some true ∧
      serveConnMemoFrom (effectiveStrict none ps) sites ⟨sni, false⟩ hosts = [.handler (some 1), .handler (some 0)] ∧
      serveConn (effectiveStrict none ps) sites sni hosts = [.handler (some 1), .misdirected] :=
  ⟨e2ePolicies, e2eSites, e2ePublic, [e2ePublic, e2eSecret], by decide +kernel⟩

-- a first request is still checked by the memoised variant: single-request probes cannot tell the two apart
example : serveConnMemoFrom true e2eSites ⟨e2ePublic, false⟩ [e2eSecret] = serveConn true e2eSites e2ePublic [e2eSecret] := by decide

end CaddyModel.C19
