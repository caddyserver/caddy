/-
C19 — a connection (Conn.lean) is a `map` of single requests under the handshake's SNI.
-/
import CaddyModel.C19.Conn

namespace CaddyModel.C19

theorem serveConnFrom_eq_map (strict : Bool) (sites : List Bytes) (c : ConnCtx) (hosts : List Bytes) :
    serveConnFrom strict sites c hosts = hosts.map (serve strict sites (some c.sni)) := by
  induction hosts generalizing c with
  | nil => rfl
  | cons h hs ih => simp [serveConnFrom, connStep, ih]

theorem serveConn_eq_map (strict : Bool) (sites : List Bytes) (sni : Bytes) (hosts : List Bytes) :
    serveConn strict sites sni hosts = hosts.map (serve strict sites (some sni)) :=
  serveConnFrom_eq_map strict sites ⟨sni⟩ hosts

theorem serveConn_getElem? (strict : Bool) (sites : List Bytes) (sni : Bytes) (hosts : List Bytes) (i : Nat) :
    (serveConn strict sites sni hosts)[i]? = hosts[i]?.map (serve strict sites (some sni)) := by
  rw [serveConn_eq_map, List.getElem?_map]

end CaddyModel.C19
