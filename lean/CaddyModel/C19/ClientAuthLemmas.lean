/-
C19 — the documented mode table `specAuth` and the excluded region `verifiersOnly` of the client-auth
theorems; then what `ClientAuthentication.provision` / `ConfigureTLSConfig` (ClientAuth.lean) do to a
block, path by path: `Active()` and the mode table through `anyCA`, one lemma per stage, composed in
`provisionPolicyCA_some`.
-/
import CaddyModel.C19.ClientAuth

namespace CaddyModel.C19

/-- the documented table: an explicit mode decides; without a mode any trust material (CA pool,
    CA certificates, PEM files, trusted leaf certificates) means require-and-verify, verifier
    modules alone mean require-any; nothing at all means no client certificate is asked for -/
def specAuth : Option CAConf → AuthType
  | none => .noClientCert
  | some c =>
    match c.mode with
    | .request => .requestClientCert
    | .require => .requireAnyClientCert
    | .verifyIfGiven => .verifyClientCertIfGiven
    | .requireAndVerify => .requireAndVerifyClientCert
    | .other => .noClientCert
    | .empty =>
      if c.caRaw.nonEmpty || c.trustedCACerts.nonEmpty || c.pemFiles.nonEmpty || c.trustedLeaf.nonEmpty
      then .requireAndVerifyClientCert
      else if c.verifiersRaw then .requireAnyClientCert else .noClientCert

/-- the block whose `Active()` flips: verifier modules and nothing else -/
def verifiersOnly (c : CAConf) : Bool :=
  c.verifiersRaw && !c.caRaw.nonEmpty && !c.trustedCACerts.nonEmpty && !c.pemFiles.nonEmpty && !c.trustedLeaf.nonEmpty &&
    c.mode == .empty

namespace CAState

/-- `provision` keeps this disjunction; `Active()` and the mode table see the four fields only through it -/
def anyCA (s : CAState) : Bool := s.trustedCACerts || s.pemFiles || s.caRaw || s.ca

theorem active_eq (s : CAState) :
    s.active = (s.anyCA || s.trustedLeaf || s.verifiersRaw || s.mode != .empty) := by
  unfold active anyCA; ac_rfl

theorem active_congr {s t : CAState} (h1 : s.anyCA = t.anyCA) (h2 : s.trustedLeaf = t.trustedLeaf)
    (h3 : s.verifiersRaw = t.verifiersRaw) (h4 : s.mode = t.mode) : s.active = t.active := by
  rw [active_eq, active_eq, h1, h2, h3, h4]

end CAState

theorem activeBefore_some (c : CAConf) : activeBefore (some c) = c.init.active := rfl

theorem CAConf.init_mode (c : CAConf) : c.init.mode = c.mode := rfl

theorem CAConf.init_trustedLeaf (c : CAConf) : c.init.trustedLeaf = c.trustedLeaf.nonEmpty := rfl

theorem CAConf.init_verifiersRaw (c : CAConf) : c.init.verifiersRaw = c.verifiersRaw := rfl

theorem CAConf.init_anyCA (c : CAConf) :
    c.init.anyCA = (c.caRaw.nonEmpty || c.trustedCACerts.nonEmpty || c.pemFiles.nonEmpty) := by
  simp only [CAConf.init, CAState.anyCA, Bool.or_false]; ac_rfl

theorem CAConf.init_active (c : CAConf) :
    c.init.active = (c.caRaw.nonEmpty || c.trustedCACerts.nonEmpty || c.pemFiles.nonEmpty || c.trustedLeaf.nonEmpty ||
      c.verifiersRaw || c.mode != .empty) := by
  rw [CAState.active_eq, CAConf.init_anyCA]; rfl

theorem modeAuth_eq (s : CAState) :
    modeAuth s =
      match s.mode with
      | .request => some .requestClientCert
      | .require => some .requireAnyClientCert
      | .verifyIfGiven => some .verifyClientCertIfGiven
      | .requireAndVerify => some .requireAndVerifyClientCert
      | .other => none
      | .empty => some (if s.anyCA || s.trustedLeaf then .requireAndVerifyClientCert else .requireAnyClientCert) := by
  unfold modeAuth
  cases s.mode <;> simp only []
  rw [show (s.trustedCACerts || s.pemFiles || s.trustedLeaf || s.caRaw || s.ca) = (s.anyCA || s.trustedLeaf) by
    unfold CAState.anyCA; ac_rfl]
  split <;> rfl

theorem modeAuth_ne_noClientCert (s : CAState) : modeAuth s ≠ some .noClientCert := by
  rw [modeAuth_eq]
  cases s.mode
  case empty => cases s.anyCA || s.trustedLeaf <;> decide
  all_goals exact fun h => nomatch h

theorem provisionCA_some {c : CAConf} {s s1 : CAState} (h : provisionCA c s = some s1) :
    s1.anyCA = s.anyCA ∧ s1.trustedLeaf = s.trustedLeaf ∧ s1.verifiersRaw = s.verifiersRaw ∧
      s1.mode = s.mode ∧ s1.verifiers = s.verifiers := by
  revert h
  fun_cases provisionCA c s <;> rintro ⟨⟩
  case case2 | case5 => exact ⟨rfl, rfl, rfl, rfl, rfl⟩
  case case3 _ _ hc =>
    simp only [Bool.and_eq_true] at hc
    exact ⟨by simp only [CAState.anyCA, hc.1, Bool.true_or], rfl, rfl, rfl, rfl⟩
  case case4 hc => exact ⟨by simp only [CAState.anyCA, hc, Bool.true_or, Bool.or_true], rfl, rfl, rfl, rfl⟩
  case case7 hc _ =>
    simp only [Bool.not_eq_true, Bool.not_eq_false'] at hc
    exact ⟨by simp only [CAState.anyCA, hc, Bool.true_or, Bool.or_true], rfl, rfl, rfl, rfl⟩

theorem configureCA_some {c : CAConf} {s s2 : CAState} {bits : TLSBits} (h : configureCA c s = some (s2, bits)) :
    (s.active = false ∧ s2 = s ∧ bits = ⟨.noClientCert, false, false⟩) ∨
    (s.active = true ∧ modeAuth s = some bits.auth ∧ bits.verifyPeer = true ∧
      s2 = { s with verifiers := if s.trustedLeaf then s.verifiers + 1 else s.verifiers }) := by
  revert h
  fun_cases configureCA c s <;> rintro ⟨⟩
  case case1 ha => exact Or.inl ⟨by simpa using ha, rfl, rfl⟩
  case case4 ha a hm _ => exact Or.inr ⟨by simpa using ha, hm, rfl, rfl⟩

/-- each field of what is built, read on the block as written; `Active()` afterwards is `Active()` of the
    block with `verifiersRaw` emptied: LoadModule zeroes the raw field -/
theorem provisionPolicyCA_some {c : CAConf} {b : Built} (hb : provisionPolicyCA (some c) = some b) :
    b.ticketsOff = true ∧ b.bits.verifyPeer = activeBefore (some c) ∧
    (activeBefore (some c) = true → modeAuth c.init = some b.bits.auth) ∧
    (activeBefore (some c) = false → b.bits.auth = .noClientCert) ∧
    b.hasVerifier = (c.verifiersRaw || c.trustedLeaf.nonEmpty) ∧
    b.activeAfter = activeBefore (some { c with verifiersRaw := false }) := by
  rw [provisionPolicyCA] at hb
  cases h1 : provisionCA c c.init with
  | none => simp only [h1] at hb; cases hb
  | some s1 =>
    obtain ⟨hca, hleaf, hver, hmode, hn⟩ := provisionCA_some h1
    have hact : s1.active = c.init.active := CAState.active_congr hca hleaf hver hmode
    have hauth : modeAuth s1 = modeAuth c.init := by rw [modeAuth_eq, modeAuth_eq, hca, hleaf, hmode]
    cases h2 : configureCA c s1 with
    | none => simp only [h1, h2] at hb; cases hb
    | some r =>
      obtain ⟨s2, bits⟩ := r
      simp only [h1, h2, Option.some.injEq] at hb
      subst hb
      rcases configureCA_some h2 with ⟨ha, rfl, rfl⟩ | ⟨ha, hm, hvp, rfl⟩ <;> rw [hact] at ha
      · refine ⟨rfl, ha.symm, (fun h => nomatch ha.symm.trans h), fun _ => rfl, ?_,
          CAState.active_congr hca hleaf rfl hmode⟩
        rw [CAState.active_eq] at ha
        simp only [Bool.or_eq_false_iff] at ha
        rw [← CAConf.init_verifiersRaw, ← CAConf.init_trustedLeaf, ha.1.2, ha.1.1.2]
        exact Bool.and_false _
      · refine ⟨rfl, hvp.trans ha.symm, fun _ => hauth ▸ hm, (fun h => nomatch ha.symm.trans h), ?_,
          CAState.active_congr hca hleaf rfl hmode⟩
        simp only [hvp, hver, hleaf, hn, CAConf.init]
        cases c.verifiersRaw <;> cases c.trustedLeaf.nonEmpty <;> rfl

end CaddyModel.C19
