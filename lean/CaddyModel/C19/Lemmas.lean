/-
C19 — what the model's functions compute: the two loops of `getConfigForClient` against the
specification, the SNI index (the bucket of a name is `policyHits`), the two case mappings,
`net.SplitHostPort` on plain hosts, the strict check as one `if`, the routes, MatchHost's bracket trimming.
-/
import CaddyModel.C19.SpecDefs

namespace CaddyModel.C19

/-! ### the loops and the SNI index -/

theorem matchersLoop_eq_all (h : Hello) (ms : List Matcher) :
    matchersLoop h ms = ms.all (·.eval h) := by
  fun_induction matchersLoop h ms <;> simp_all

theorem matchersLoop_eq_matches (h : Hello) (p : Policy) : matchersLoop h p.matchers = p.matches h :=
  matchersLoop_eq_all h p.matchers

theorem sniMatch_eq_any (s : Bytes) (names : List Bytes) :
    sniMatch s names = names.any (matchWildcard s) := by
  fun_induction sniMatch s names <;> simp_all

theorem policyLoop_enumFrom (h : Hello) (ps : List Policy) (k : Nat) :
    policyLoop h (enumFrom k ps) = firstMatchFrom k h ps := by
  induction ps generalizing k with
  | nil => rfl
  | cons p ps ih =>
    simp only [enumFrom, policyLoop, firstMatchFrom, matchersLoop_eq_matches, ih]

theorem indexMatchers_dead (v : Nat × Policy) (m : Index) (ms : List Matcher) :
    indexMatchers false v m ms = m := by
  fun_induction indexMatchers false v m ms <;> simp_all

theorem indexPolicies_dead (m : Index) (l : List (Nat × Policy)) : indexPolicies false m l = m := by
  induction l generalizing m with
  | nil => rfl
  | cons v l ih => simp [indexPolicies, indexMatchers_dead, ih]

theorem buildIndex_dead (ps : List Policy) : buildIndex false ps = [] := by
  unfold buildIndex; split
  · exact indexPolicies_dead _ _
  · rfl

theorem buildIndex_small (live : Bool) (ps : List Policy) (h : ps.length ≤ sniIndexThreshold) :
    buildIndex live ps = [] := by
  unfold buildIndex; rw [if_neg (by omega)]

/-- `m[k] = append(m[k], l...)` seen through `idxGet`: an absent key stays absent when nothing is appended -/
def ext {α} (o : Option (List α)) : List α → Option (List α)
  | [] => o
  | x :: l => some (o.getD [] ++ x :: l)

theorem ext_ext {α} (o : Option (List α)) (a b : List α) : ext (ext o a) b = ext o (a ++ b) := by
  cases a <;> cases b <;> simp [ext]

def hitCount (k : Bytes) : List Matcher → Nat
  | [] => 0
  | .sni names :: ms => names.count k + hitCount k ms
  | .other _ :: ms => hitCount k ms

/-- the bucket of `k` in a populated index: every policy once per exact occurrence of `k`
    in its sni matchers, in configured order -/
def policyHits (k : Bytes) : List (Nat × Policy) → List (Nat × Policy)
  | [] => []
  | v :: vs => List.replicate (hitCount k v.2.matchers) v ++ policyHits k vs

theorem idxGet_idxAppend (k n : Bytes) (v : Nat × Policy) (m : Index) :
    idxGet k (idxAppend n v m) = ext (idxGet k m) (if n = k then [v] else []) := by
  fun_induction idxAppend n v m
  case case1 => by_cases h : n = k <;> simp [idxGet, ext, h]
  case case2 => by_cases h : n = k <;> simp [idxGet, ext, h]
  case case3 k' vs rest hk ih =>
    rw [idxGet, idxGet, ih]
    by_cases h : k' = k
    · rw [if_pos h, if_pos h, if_neg (h ▸ Ne.symm hk)]; rfl
    · rw [if_neg h, if_neg h]

theorem idxGet_indexNames (k : Bytes) (v : Nat × Policy) (m : Index) (ns : List Bytes) :
    idxGet k (indexNames v m ns) = ext (idxGet k m) (List.replicate (ns.count k) v) := by
  fun_induction indexNames v m ns
  case case1 => rfl
  case case2 m n ns ih =>
    rw [ih, idxGet_idxAppend, ext_ext]
    by_cases h : n = k
    · rw [if_pos h, h, List.count_cons_self, List.replicate_succ]; rfl
    · rw [if_neg h, List.count_cons_of_ne h]; rfl

theorem idxGet_indexMatchers (k : Bytes) (v : Nat × Policy) (m : Index) (ms : List Matcher) :
    idxGet k (indexMatchers true v m ms) = ext (idxGet k m) (List.replicate (hitCount k ms) v) := by
  fun_induction indexMatchers true v m ms
  case case1 => rfl
  case case2 m names ms ih =>
    rw [ih, if_pos rfl, idxGet_indexNames, ext_ext, hitCount, List.replicate_append_replicate]
  case case3 ih => exact ih

theorem idxGet_indexPolicies (k : Bytes) (m : Index) (l : List (Nat × Policy)) :
    idxGet k (indexPolicies true m l) = ext (idxGet k m) (policyHits k l) := by
  fun_induction indexPolicies true m l
  case case1 => rfl
  case case2 m v ps ih => rw [ih, idxGet_indexMatchers, ext_ext, policyHits]

theorem hitCount_eq_zero (k : Bytes) (ms : List Matcher) :
    hitCount k ms = 0 ↔ ms.any (·.lists k) = false := by
  fun_induction hitCount k ms
  case case1 => simp
  case case2 names ms ih => simp [Matcher.lists, List.count_eq_zero, ih]
  case case3 ih => simpa [Matcher.lists] using ih

theorem policyHits_eq_nil (k : Bytes) (ps : List Policy) (j : Nat) :
    policyHits k (enumFrom j ps) = [] ↔ ps.any (·.lists k) = false := by
  induction ps generalizing j with
  | nil => simp [policyHits, enumFrom]
  | cons p ps ih => simp [policyHits, enumFrom, hitCount_eq_zero, Policy.lists, ih]

theorem choose_of_index_nil {live : Bool} {ps : List Policy} (hb : buildIndex live ps = []) (h : Hello) :
    choose live ps h = firstMatch ps h := by
  unfold choose candidates
  rw [hb]
  exact policyLoop_enumFrom h ps 0

theorem candidates_live (ps : List Policy) (h : Hello) (hsz : ¬ ps.length ≤ sniIndexThreshold) :
    candidates true ps h =
      if policyHits h.sni (enumFrom 0 ps) = [] then enumFrom 0 ps else policyHits h.sni (enumFrom 0 ps) := by
  unfold candidates buildIndex
  rw [if_pos (by omega), idxGet_indexPolicies]
  cases policyHits h.sni (enumFrom 0 ps) <;> simp [ext, idxGet]

theorem verdict_eq_iff (d d' : Bool) (i j : Nat) :
    (if d then Choice.dropped i else .config i) = (if d' then .dropped j else .config j) ↔ d = d' ∧ i = j := by
  cases d <;> cases d' <;> simp

theorem policyLoop_copies (h : Hello) (v : Nat × Policy) (n : Nat) (rest : List (Nat × Policy)) :
    policyLoop h (List.replicate n v ++ rest) =
      if n ≠ 0 ∧ v.2.matches h = true then (if v.2.drop then .dropped v.1 else .config v.1)
      else policyLoop h rest := by
  induction n with
  | zero => simp
  | succ n ih =>
    rw [List.replicate_succ, List.cons_append, policyLoop, matchersLoop_eq_matches, ih]
    cases v.2.matches h <;> simp

theorem policyLoop_hits_cons (h : Hello) (j : Nat) (p : Policy) (rest : List (Nat × Policy)) :
    policyLoop h (List.replicate (hitCount h.sni p.matchers) (j, p) ++ rest) =
      if p.lists h.sni = true ∧ p.matches h = true then (if p.drop then .dropped j else .config j)
      else policyLoop h rest := by
  rw [policyLoop_copies]
  simp [hitCount_eq_zero, Policy.lists]

theorem policyLoop_hits_ge (h : Hello) (ps : List Policy) (j i : Nat) (d : Bool)
    (hr : policyLoop h (policyHits h.sni (enumFrom j ps)) = if d then .dropped i else .config i) : j ≤ i := by
  induction ps generalizing j with
  | nil => cases d <;> cases hr
  | cons p ps ih =>
    rw [enumFrom, policyHits, policyLoop_hits_cons] at hr
    split at hr
    · exact Nat.le_of_eq ((verdict_eq_iff _ _ _ _).mp hr).2
    · exact Nat.le_of_succ_le (ih (j + 1) hr)

theorem policyLoop_hits_iff (h : Hello) (ps : List Policy) (j : Nat) :
    policyLoop h (policyHits h.sni (enumFrom j ps)) = firstMatchFrom j h ps ↔ firstMatchListsName h ps = true := by
  induction ps generalizing j with
  | nil => simp [policyHits, enumFrom, policyLoop, firstMatchFrom, firstMatchListsName]
  | cons p ps ih =>
    rw [enumFrom, policyHits, policyLoop_hits_cons, firstMatchFrom, firstMatchListsName]
    cases hm : p.matches h
    · simpa using ih (j + 1)
    · cases hl : p.lists h.sni
      · -- the first match is not in the bucket: whatever the bucket answers is a later position
        simp only [Bool.false_eq_true, false_and, if_false, if_true, iff_false]
        intro e
        have := policyLoop_hits_ge h ps (j + 1) j p.drop e
        omega
      · simp

theorem firstMatchFrom_ge (h : Hello) (ps : List Policy) (k j : Nat) (d : Bool)
    (hr : firstMatchFrom k h ps = if d then .dropped j else .config j) : k ≤ j := by
  fun_induction firstMatchFrom k h ps
  case case4 ih => exact Nat.le_of_succ_le (ih hr)
  all_goals cases d <;> cases hr <;> exact Nat.le_refl _

theorem forall_mem_take {α} (P : α → Prop) (l : List α) (i : Nat) :
    (∀ q ∈ l.take i, P q) ↔ ∀ j q, j < i → l[j]? = some q → P q := by
  simp only [List.mem_iff_getElem?, List.getElem?_take]
  constructor
  · exact fun H j q hj hq => H q ⟨j, by rw [if_pos hj]; exact hq⟩
  · rintro H q ⟨j, hq⟩
    split at hq
    · exact H j q ‹_› hq
    · cases hq

theorem firstMatchFrom_eq_iff (h : Hello) (d : Bool) (ps : List Policy) (k i : Nat) :
    firstMatchFrom k h ps = (if d then .dropped (k + i) else .config (k + i)) ↔
      ∃ p, ps[i]? = some p ∧ p.matches h = true ∧ p.drop = d ∧ ∀ q ∈ ps.take i, q.matches h = false := by
  induction ps generalizing k i with
  | nil => cases d <;> simp [firstMatchFrom]
  | cons p ps ih =>
    rw [firstMatchFrom]
    cases hm : p.matches h
    · rw [if_neg Bool.false_ne_true]
      cases i with
      | zero =>
        refine ⟨fun e => ?_, fun ⟨q, h1, h2, _⟩ => ?_⟩
        · have := firstMatchFrom_ge h ps (k + 1) (k + 0) d e
          omega
        · cases h1; rw [hm] at h2; cases h2
      | succ i =>
        rw [show k + (i + 1) = k + 1 + i by omega, ih (k + 1) i]
        simp [hm]
    · rw [if_pos rfl, verdict_eq_iff]
      cases i <;> simp [hm]

theorem firstMatchFrom_noMatch_iff (h : Hello) (ps : List Policy) (k : Nat) :
    firstMatchFrom k h ps = .noMatch ↔ ∀ p ∈ ps, p.matches h = false := by
  fun_induction firstMatchFrom k h ps <;> simp_all

/-! ### the two case mappings -/

theorem equalFold_iff {a b : Bytes} : equalFold a b = true ↔ foldKey a = foldKey b := by
  simp [equalFold]

theorem foldByte_ascii (b : UInt8) (h : b < 128) : foldByte b = lowerByte b := by
  unfold foldByte
  split
  · rename_i e; subst e; exact absurd h (by decide)
  · rfl

/-- whatever lower-casing changes lands on `a`–`z` or `é` -/
theorem lowerByte_eq_of_lt (b c : UInt8) (hc : c < 97) (h : lowerByte b = c) : b = c := by
  revert h
  fun_cases lowerByte b <;> rintro rfl
  case case1 hb =>
    have h1 := UInt8.le_iff_toNat_le.mp hb.1
    have h2 := UInt8.le_iff_toNat_le.mp hb.2
    have h3 := UInt8.lt_iff_toNat_lt.mp hc
    simp [UInt8.toNat_add] at h1 h2 h3
    omega
  case case4 => rfl
  all_goals exact absurd hc (by decide)

theorem foldByte_eq_of_lt (b c : UInt8) (hc : c < 97) (h : foldByte b = c) : b = c := by
  unfold foldByte at h
  split at h
  · subst h; exact absurd hc (by decide)
  · exact lowerByte_eq_of_lt b c hc h

theorem foldKey_ascii (s : Bytes) (h : isAscii s = true) : foldKey s = lower s := by
  unfold isAscii at h
  rw [List.all_eq_true] at h
  unfold foldKey lower
  apply List.map_congr_left
  intro b hb
  exact foldByte_ascii b (by simpa using h b hb)

/-- on ASCII names `strings.EqualFold` and equality after `strings.ToLower` coincide -/
theorem namesSameHost_of_foldSame {a b : Bytes} (ha : isAscii a = true) (hb : isAscii b = true)
    (h : foldSame a b) : namesSameHost a b := by
  rw [namesSameHost, ← foldKey_ascii a ha, ← foldKey_ascii b hb]; exact h

theorem matchWildcard_congr (s s' w : Bytes) (e : lower s = lower s') :
    matchWildcard s w = matchWildcard s' w := by
  simp [matchWildcard, e]

theorem matchWildcard_of_lower_eq (s w : Bytes) (e : lower s = lower w) : matchWildcard s w = true := by
  simp [matchWildcard, e]

theorem sniMatch_congr (s s' : Bytes) (names : List Bytes) (e : lower s = lower s') :
    sniMatch s names = sniMatch s' names := by
  rw [sniMatch_eq_any, sniMatch_eq_any, funext (matchWildcard_congr s s' · e)]

theorem eval_congr (h h' : Hello) (m : Matcher) (e : lower h.sni = lower h'.sni)
    (ev : h.verdict = h'.verdict) : m.eval h = m.eval h' := by
  cases m with
  | sni names => exact sniMatch_congr _ _ _ e
  | other id => simp [Matcher.eval, ev]

theorem matches_congr (h h' : Hello) (p : Policy) (e : lower h.sni = lower h'.sni)
    (ev : h.verdict = h'.verdict) : p.matches h = p.matches h' := by
  unfold Policy.matches
  congr 1; funext m; exact eval_congr h h' m e ev

theorem firstMatchFrom_congr (h h' : Hello) (ps : List Policy) (k : Nat) (e : lower h.sni = lower h'.sni)
    (ev : h.verdict = h'.verdict) : firstMatchFrom k h ps = firstMatchFrom k h' ps := by
  induction ps generalizing k with
  | nil => rfl
  | cons p ps ih => simp [firstMatchFrom, matches_congr h h' p e ev, ih]

/-! ### hosts, the strict check, routes -/

theorem noSpecial_not_mem (s : Bytes) (hs : noSpecial s = true) :
    cColon ∉ s ∧ cLbr ∉ s ∧ cRbr ∉ s := by
  unfold noSpecial at hs
  rw [List.all_eq_true] at hs
  refine ⟨fun h => ?_, fun h => ?_, fun h => ?_⟩ <;> have := hs _ h <;> simp at this

theorem lastIndexByte_none (c : UInt8) (s : Bytes) (hc : c ∉ s) : lastIndexByte c s = none := by
  induction s with
  | nil => rfl
  | cons x xs ih =>
    have h1 : c ∉ xs := List.not_mem_of_not_mem_cons hc
    have h2 : ¬ x = c := (List.ne_of_not_mem_cons hc).symm
    simp [lastIndexByte, ih h1, h2]

theorem lastIndexByte_append (c : UInt8) (a b : Bytes) (hb : c ∉ b) :
    lastIndexByte c (a ++ c :: b) = some a.length := by
  induction a with
  | nil => simp [lastIndexByte, lastIndexByte_none c b hb]
  | cons x xs ih => simp [lastIndexByte, ih]

theorem splitHostPort_noColon (s : Bytes) (hc : cColon ∉ s) : splitHostPort s = none := by
  simp [splitHostPort, lastIndexByte_none cColon s hc]

theorem splitHostPort_plain (host port : Bytes) (hh : noSpecial host = true) (hp : noSpecial port = true) :
    splitHostPort (host ++ cColon :: port) = some (host, port) := by
  obtain ⟨h1, h2, h3⟩ := noSpecial_not_mem host hh
  obtain ⟨p1, p2, p3⟩ := noSpecial_not_mem port hp
  have hl : cLbr ∉ host ++ cColon :: port := by simp [h2, p2, show cLbr ≠ cColon by decide]
  have hr : cRbr ∉ host ++ cColon :: port := by simp [h3, p3, show cRbr ≠ cColon by decide]
  have hhead : (host ++ cColon :: port).head? ≠ some cLbr := fun e => hl (List.mem_of_mem_head? e)
  have ht : (host ++ cColon :: port).take host.length = host := by simp
  have hd : (host ++ cColon :: port).drop (host.length + 1) = port := by
    rw [← List.drop_drop]; simp
  unfold splitHostPort
  rw [lastIndexByte_append cColon host port p1]
  simp only [hhead, if_false]
  simp [ht, h1, shpFinish, hl, hr, hd]

theorem enforcementHost_of_none {host : Bytes} (h : splitHostPort host = none) : enforcementHost host = host := by
  simp [enforcementHost, h]

theorem enforcementHost_of_some {hp host port : Bytes} (h : splitHostPort hp = some (host, port)) :
    enforcementHost hp = host := by
  simp [enforcementHost, h]

theorem hostMatch_noStar (rh site : Bytes) (h : noStar site = true) :
    hostMatch rh site = equalFold rh site := by
  unfold hostMatch; rw [show site.contains cStar = false by simpa [noStar] using h]; rfl

theorem serve_strict (sites : List Bytes) (sni host : Bytes) :
    serve true sites (some sni) host =
      if isAscii sni = true ∧ equalFold sni (enforcementHost host) = true then .handler (route sites host)
      else .misdirected := by
  cases ha : isAscii sni <;> cases he : equalFold sni (enforcementHost host) <;> simp [serve, ha, he]

theorem routeFrom_some (rh : Bytes) (sites : List Bytes) (k j : Nat) (hr : routeFrom k rh sites = some j) :
    ∃ i s, j = k + i ∧ sites[i]? = some s ∧ hostMatch rh s = true := by
  fun_induction routeFrom k rh sites
  case case1 => cases hr
  case case2 k s ss hm => cases hr; exact ⟨0, s, rfl, rfl, hm⟩
  case case3 ih =>
    obtain ⟨i, t, rfl, h2, h3⟩ := ih hr
    exact ⟨i + 1, t, by omega, h2, h3⟩

theorem routeFrom_none (rh : Bytes) (sites : List Bytes) (k : Nat) (hr : routeFrom k rh sites = none) :
    ∀ s ∈ sites, hostMatch rh s = false := by
  fun_induction routeFrom k rh sites
  case case1 => simp
  case case2 => cases hr
  case case3 k s ss hm ih => simpa [hm] using ih hr

theorem trimPrefixByte_id (c : UInt8) (s : Bytes) (h : s.head? ≠ some c) : trimPrefixByte c s = s := by
  cases s with
  | nil => rfl
  | cons x xs =>
    have : ¬ x = c := fun e => h (by simp [e])
    simp [trimPrefixByte, this]

theorem trimSuffixByte_id (c : UInt8) (s : Bytes) (h : s.getLast? ≠ some c) : trimSuffixByte c s = s := by
  simp [trimSuffixByte, h]

theorem routingHost_of_not_bracketTrimmed {host : Bytes} (h : bracketTrimmed host = false) :
    routingHost host = enforcementHost host := by
  simpa [bracketTrimmed] using h

/-- MatchHost's trimming changes the routing host only if SplitHostPort failed and the raw Host
    begins with `[` or ends with `]` -/
theorem bracketTrimmed_shape (host : Bytes) (h : bracketTrimmed host = true) :
    enforcementHost host = host ∧ (cLbr ∈ host ∨ cRbr ∈ host) := by
  unfold bracketTrimmed routingHost enforcementHost at h
  cases hs : splitHostPort host with
  | some r => rw [hs] at h; simp at h
  | none =>
    rw [hs] at h
    refine ⟨enforcementHost_of_none hs, ?_⟩
    by_cases h1 : host.head? = some cLbr
    · exact Or.inl (List.mem_of_mem_head? h1)
    · by_cases h2 : host.getLast? = some cRbr
      · exact Or.inr (List.mem_of_getLast? h2)
      · rw [trimPrefixByte_id cLbr host h1, trimSuffixByte_id cRbr host h2] at h
        simp at h

theorem noBrackets_of_fold (sni host : Bytes) (e : foldKey sni = foldKey host)
    (hb : cLbr ∈ host ∨ cRbr ∈ host) : noBrackets sni = false := by
  -- a bracket is its own fold key, and nothing else folds to it
  have key : ∀ c : UInt8, c < 97 → foldByte c = c → c ∈ host → c ∈ sni := by
    intro c hc hcc hm
    have : c ∈ foldKey sni := e ▸ List.mem_map.mpr ⟨c, hm, hcc⟩
    obtain ⟨b, hb1, hb2⟩ := List.mem_map.mp this
    exact foldByte_eq_of_lt b c hc hb2 ▸ hb1
  rw [noBrackets, List.all_eq_false]
  rcases hb with hb | hb
  · exact ⟨cLbr, key cLbr (by decide) (by decide) hb, by decide⟩
  · exact ⟨cRbr, key cRbr (by decide) (by decide) hb, by decide⟩

end CaddyModel.C19
