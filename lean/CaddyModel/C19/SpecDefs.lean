/-
C19 — what the statements of Props.lean are written with beside Spec.lean: the name shapes
`noSpecial` and `leftmostWildcard`, the order test `calledBefore` on the regenerated call list.
(`specAuth`, `verifiersOnly`, `QInv`, `CFState.nonTrivial` stand with the lemmas of their model files.)
-/
import CaddyModel.C19.Spec

namespace CaddyModel.C19

def noSpecial (s : Bytes) : Bool := s.all fun x => x != cColon && x != cLbr && x != cRbr

def leftmostL : List Bytes → Bool
  | [] => true
  | l :: ls => if l = [cStar] then leftmostL ls else (l :: ls).all fun x => !x.contains cStar

/-- `*.example.com`, `*.*.test`, `*` … (what certmagic.MatchWildcard can match) -/
def leftmostWildcard (p : Bytes) : Bool := leftmostL (splitDot p)

def posOf (a : String) : List String → Option Nat
  | [] => none
  | x :: xs => if x == a then some 0 else (posOf a xs).map (· + 1)

/-- both are called, `a` first -/
def calledBefore (a b : String) (l : List String) : Bool :=
  match posOf a l, posOf b l with
  | some i, some j => decide (i < j)
  | _, _ => false

end CaddyModel.C19
