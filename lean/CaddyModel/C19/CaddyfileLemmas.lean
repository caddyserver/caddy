/-
C19 — the Caddyfile glue (Caddyfile.lean): every subdirective the parser accepts leaves its state
`nonTrivial`; the policy `adaptPolicies` writes for a site block with a `client_auth` block.
-/
import CaddyModel.C19.Caddyfile

namespace CaddyModel.C19

def CFState.nonTrivial (s : CFState) : Bool :=
  s.mode != .empty || s.caRaw.nonEmpty || s.tca.nonEmpty || s.leaf.nonEmpty || s.ver

theorem Listed.add_nonEmpty (a : Listed) (ok : Bool) : (a.add ok).nonEmpty = true := by
  cases a <;> cases ok <;> rfl

theorem parseSub_nonTrivial (s s' : CFState) (x : Sub) (hx : ∀ m, x = .mode m → m ≠ .empty)
    (h : parseSub s x = some s') : s'.nonTrivial = true := by
  unfold CFState.nonTrivial
  revert h
  fun_cases parseSub s x <;> rintro ⟨⟩
  case case1 m => simp [hx m rfl]
  case case11 ok _ => cases ok <;> simp [Listed.nonEmpty]
  all_goals simp [Listed.add_nonEmpty]

theorem parseSubs_nonTrivial (s s' : CFState) (subs : List Sub)
    (hx : ∀ m, Sub.mode m ∈ subs → m ≠ .empty)
    (hne : subs ≠ [] ∨ s.nonTrivial = true) (h : parseSubs s subs = some s') : s'.nonTrivial = true := by
  fun_induction parseSubs s subs
  case case1 => cases h; exact hne.resolve_left (fun h => h rfl)
  case case2 => cases h
  case case3 s x xs s1 hs1 ih =>
    exact ih (fun m hm => hx m (List.mem_cons_of_mem _ hm))
      (Or.inr (parseSub_nonTrivial s s1 x (fun m e => hx m (e ▸ List.mem_cons_self ..)) hs1)) h

theorem mem_adaptPolicies {sites : List Site} {name : Bytes} {conf : CAConf} (hmem : (name, some conf) ∈ sites) :
    (⟨[.sni [name]], false, activeBefore (some conf)⟩ : Policy) ∈ (adaptPolicies sites).map (·.1) :=
  List.mem_map.mpr ⟨(⟨[.sni [name]], false, activeBefore (some conf)⟩, some conf),
    List.mem_append_left _ (List.mem_filterMap.mpr ⟨(name, some conf), hmem, rfl⟩), rfl⟩

end CaddyModel.C19
