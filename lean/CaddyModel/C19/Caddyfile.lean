/-
C19 — Caddyfile glue: how `tls { client_auth { … } }` of a site block and the `servers
{ strict_sni_host … }` option become connection policies and the server's strict setting.

* `parseClientAuth`: `ClientAuthentication.UnmarshalCaddyfile` (modules/caddytls/connpolicy.go),
  transliterated at the abstraction of `ClientAuth.lean` (fields empty / loadable / not loadable):
  the order-dependent "cannot specify both" errors, files read at parse time, the final
  conversion of `trusted_ca_cert*` into an inline `ca` module.
* `strictOption`: `strict_sni_host [on|insecure_off]` (httpcaddyfile/serveroptions.go).
* `adaptPolicies`: what httpcaddyfile's server assembly yields for the fragment the harness
  generates (distinct exact host names, `auto_https off`): one policy `sni [host]` per site block
  that has a `tls` directive with a `client_auth` block, then the catch-all policy the adapter
  appends.  This one is a specification of the adapter's output, not a transliteration of
  `serversFromPairings`/`consolidateConnPolicies`; it is compared with the real adapter + real
  provisioning on behaviour (policy chosen per SNI, strict flag, routing), not on JSON.
-/
import CaddyModel.C19.Model
import CaddyModel.C19.ClientAuth

namespace CaddyModel.C19

/-- one subdirective of `client_auth { … }`, as far as the parser and provisioning distinguish -/
inductive Sub where
  /-- `mode <m>` (`m` ≠ empty) -/
  | mode (m : Mode)
  /-- `trusted_ca_cert <base64 DER>`; `ok` = decodable (the parser does not look) -/
  | trustedCACert (ok : Bool)
  /-- `trusted_ca_cert_file <path>`; read at parse time -/
  | trustedCACertFile (readable : Bool)
  | trustedLeafCert (ok : Bool)
  | trustedLeafCertFile (readable : Bool)
  /-- `trust_pool inline { trust_der <base64 DER> }` -/
  | trustPool (ok : Bool)
  /-- `verifier <module> { … }` -/
  | verifier
  deriving DecidableEq, Repr

def Listed.add (a : Listed) (ok : Bool) : Listed :=
  if a = .bad then .bad else if ok then .good else .bad

structure CFState where
  mode : Mode
  caRaw : Listed
  tca : Listed
  leaf : Listed
  ver : Bool

/-- one iteration of the `for d.NextBlock` loop; `none` = the parser returns an error -/
def parseSub (s : CFState) : Sub → Option CFState
  | .mode m => some { s with mode := m }
  | .trustedCACert ok => if s.caRaw.nonEmpty then none else some { s with tca := s.tca.add ok }
  | .trustedCACertFile r =>
    if s.caRaw.nonEmpty then none else if !r then none else some { s with tca := s.tca.add true }
  | .trustedLeafCert ok => some { s with leaf := s.leaf.add ok }
  | .trustedLeafCertFile r => if !r then none else some { s with leaf := s.leaf.add true }
  | .trustPool ok => if s.tca.nonEmpty then none else some { s with caRaw := if ok then .good else .bad }
  | .verifier => some { s with ver := true }

def parseSubs (s : CFState) : List Sub → Option CFState
  | [] => some s
  | x :: xs =>
    match parseSub s x with
    | none => none
    | some s' => parseSubs s' xs

/-- `ClientAuthentication.UnmarshalCaddyfile`: the block the JSON config will contain -/
def parseClientAuth (subs : List Sub) : Option CAConf :=
  match parseSubs ⟨.empty, .none, .none, .none, false⟩ subs with
  | none => none
  | some s =>
    -- "only trust_ca_cert or trust_ca_cert_file was specified": they become an inline `ca` module
    if s.tca.nonEmpty then some ⟨s.tca, .none, .none, s.leaf, s.ver, s.mode⟩
    else some ⟨s.caRaw, .none, .none, s.leaf, s.ver, s.mode⟩

/-- `servers { strict_sni_host [arg] }` as written; `strictOption` below answers `some none` = option
    absent, `none` = rejected argument -/
inductive StrictOpt where
  | absent | bare | on | insecureOff | otherArg
  deriving DecidableEq, Repr

def strictOption : StrictOpt → Option (Option Bool)
  | .absent => some none
  | .bare => some (some true)
  | .on => some (some true)
  | .insecureOff => some (some false)
  | .otherArg => none

/-- a site block: its host name and, if it has `tls { client_auth { … } }`, the parsed block -/
abbrev Site := Bytes × Option CAConf

/-- the connection policies of the server (with the block each carries) -/
def adaptPolicies (sites : List Site) : List (Policy × Option CAConf) :=
  (sites.filterMap fun (name, c) =>
      c.map fun conf => (⟨[.sni [name]], false, activeBefore (some conf)⟩, some conf)) ++
    [(⟨[], false, false⟩, none)]

end CaddyModel.C19
