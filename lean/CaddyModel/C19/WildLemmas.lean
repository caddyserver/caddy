/-
C19 — `splitDot` / `joinDot` as Go's `strings.Split` / `strings.Join` on `.` and how they commute with
the two case mappings; then the HTTP host matcher's label loop (`labelsMatch`) against certmagic's
wildcard loop (`wildLoop`) for patterns whose `*` labels form a left-most prefix, through `covers`.
-/
import CaddyModel.C19.Lemmas
import CaddyModel.Util.GoStrings

namespace CaddyModel.C19

theorem splitDot_eq : splitDot = Go.split cDot := Go.split_unique rfl fun _ _ => rfl

theorem joinDot_eq : joinDot = Go.join cDot := Go.join_unique rfl (fun _ => rfl) fun _ _ _ => rfl

theorem joinDot_cons_of_cons (l : Bytes) (t : List Bytes) (x : Bytes) (xs : List Bytes) (ht : t = x :: xs) :
    joinDot (l :: t) = l ++ cDot :: joinDot t := by
  subst ht; rfl

theorem joinDot_splitDot (s : Bytes) : joinDot (splitDot s) = s := by
  rw [splitDot_eq, joinDot_eq]; exact Go.join_split cDot s

theorem lowerByte_dot (b : UInt8) : lowerByte b = cDot ↔ b = cDot :=
  ⟨lowerByte_eq_of_lt b cDot (by decide), fun e => e.symm ▸ rfl⟩

theorem foldByte_dot (b : UInt8) : foldByte b = cDot ↔ b = cDot :=
  ⟨foldByte_eq_of_lt b cDot (by decide), fun e => e.symm ▸ rfl⟩

theorem splitDot_lower (s : Bytes) : splitDot (lower s) = (splitDot s).map lower :=
  splitDot_eq ▸ Go.split_map lowerByte_dot s

theorem splitDot_foldKey (s : Bytes) : splitDot (foldKey s) = (splitDot s).map foldKey :=
  splitDot_eq ▸ Go.split_map foldByte_dot s

theorem leftmostL_decomp (pl : List Bytes) (h : leftmostL pl = true) :
    ∃ m R, pl = List.replicate m [cStar] ++ R ∧ ∀ p ∈ R, p ≠ [cStar] := by
  fun_induction leftmostL pl
  case case1 => exact ⟨0, [], rfl, by simp⟩
  case case2 ls ih =>
    obtain ⟨m, R, h1, h2⟩ := ih h
    exact ⟨m + 1, R, by rw [h1]; rfl, h2⟩
  case case3 l ls _ => exact ⟨0, l :: ls, rfl, fun p hp e => by simpa [e] using List.all_eq_true.mp h p hp⟩

/-- the labels of the (lower-cased) server name are covered by the pattern labels the way
    certmagic reads them: a `*` label ↔ a non-empty label, any other label ↔ equal after lower-casing -/
def covers : List Bytes → List Bytes → Bool
  | [], [] => true
  | p :: ps, s :: ss => (if p = [cStar] then !s.isEmpty else lower p == s) && covers ps ss
  | _, _ => false

theorem covers_noStar (R S : List Bytes) (hR : ∀ p ∈ R, p ≠ [cStar]) (h : covers R S = true) :
    R.map lower = S := by
  fun_induction covers R S
  case case1 => rfl
  case case2 p ps s ss ih =>
    rw [if_neg (hR p (List.mem_cons_self ..)), Bool.and_eq_true, beq_iff_eq] at h
    rw [List.map_cons, h.1, ih (fun q hq => hR q (List.mem_cons_of_mem _ hq)) h.2]
  case case3 => cases h

theorem covers_star_cons (X : List Bytes) (s : Bytes) (ss : List Bytes)
    (h : covers ([cStar] :: X) (s :: ss) = true) : s.isEmpty = false ∧ covers X ss = true := by
  simpa [covers] using h

/-- induction on the labels the Go loop has still to visit, the first `m + 1` of them under the leading `*` labels
    of the pattern: `done` is the prefix the loop has already overwritten with `*` (and leaves overwritten), so the
    candidate equals the pattern at the last leading star (`m = 0`), where `covers_noStar` makes the remaining labels equal -/
theorem wildLoop_covers (R : List Bytes) (hR : ∀ p ∈ R, p ≠ [cStar]) (m : Nat) (done SL : List Bytes)
    (h : covers (List.replicate (m + 1) [cStar] ++ R) SL = true) :
    wildLoop (joinDot (done ++ (List.replicate (m + 1) [cStar] ++ R).map lower)) done SL = true := by
  induction SL generalizing m done with
  | nil => cases h
  | cons s ss ih =>
    obtain ⟨hs, hc⟩ := covers_star_cons _ _ _ h
    rw [wildLoop, hs, if_neg Bool.false_ne_true]
    cases m with
    | zero =>
      rw [if_pos]
      rw [← covers_noStar R ss hR hc]
      rfl
    | succ m =>
      split
      · rfl
      · have := ih m (done ++ [[cStar]]) hc
        rw [List.append_assoc] at this
        exact this

/-- an ASCII pattern label that is EqualFold-equal to a host label lower-cases to that label's fold key -/
theorem covers_of_labelsMatch (PL RL : List Bytes) (hP : ∀ p ∈ PL, foldKey p = lower p)
    (h : labelsMatch PL RL = true) : covers PL (RL.map foldKey) = true := by
  fun_induction labelsMatch PL RL
  case case1 => rfl
  case case3 ps l ls hl ih =>
    have ih := ih (fun q hq => hP q (List.mem_cons_of_mem _ hq)) h
    cases l with
    | nil => exact absurd rfl hl
    | cons _ _ => simpa [covers, foldKey] using ih
  case case4 p ps l ls hp he ih =>
    have ih := ih (fun q hq => hP q (List.mem_cons_of_mem _ hq)) h
    rw [List.map_cons, covers, if_neg hp, ← hP p (List.mem_cons_self ..), equalFold_iff.mp he]
    simpa using ih
  all_goals cases h

theorem matchWildcard_of_hostMatch (sni rh P : Bytes)
    (hP : leftmostWildcard P = true) (hstarP : P.contains cStar = true)
    (hasciiP : isAscii P = true) (hascii : isAscii sni = true)
    (hfold : foldKey sni = foldKey rh) (hm : hostMatch rh P = true) : matchWildcard sni P = true := by
  unfold hostMatch at hm
  rw [if_pos hstarP] at hm
  obtain ⟨m, R, hPL, hRne⟩ := leftmostL_decomp (splitDot P) hP
  have hcov : covers (splitDot P) (splitDot (lower sni)) = true := by
    rw [← foldKey_ascii sni hascii, hfold, splitDot_foldKey]
    refine covers_of_labelsMatch _ _ (List.map_inj_left.mp ?_) hm
    -- the two case mappings agree on the ASCII pattern, hence on each of its labels
    rw [← splitDot_foldKey, ← splitDot_lower, foldKey_ascii P hasciiP]
  have hw : lower P = joinDot ((List.replicate m [cStar] ++ R).map lower) := by
    rw [← hPL, ← splitDot_lower, joinDot_splitDot]
  rw [hPL] at hcov
  cases m with
  | zero =>
    apply matchWildcard_of_lower_eq
    rw [hw, ← joinDot_splitDot (lower sni), ← covers_noStar R _ hRne hcov]; rfl
  | succ m =>
    unfold matchWildcard
    split
    · rfl
    · have hc : (lower P).contains cStar = true := by
        simpa [lower] using ⟨cStar, by simpa using hstarP, by decide⟩
      rw [hc, hw]
      exact wildLoop_covers R hRne m [] _ hcov

/-- if the HTTP host matcher accepts the routing host for an exact name or a left-most-wildcard pattern,
    certmagic.MatchWildcard accepts every ASCII server name that is EqualFold-equal to that routing host -/
theorem wildcard_readings_agree (sni rh P : Bytes)
    (hshape : noStar P = true ∨ leftmostWildcard P = true) (hasciiP : isAscii P = true) (hascii : isAscii sni = true)
    (hfold : foldKey sni = foldKey rh) (hm : hostMatch rh P = true) : matchWildcard sni P = true := by
  cases hn : noStar P with
  | false =>
    exact matchWildcard_of_hostMatch sni rh P (hshape.resolve_left (by simp [hn])) (by simpa [noStar] using hn)
      hasciiP hascii hfold hm
  | true =>
    rw [hostMatch_noStar _ _ hn, equalFold_iff] at hm
    exact matchWildcard_of_lower_eq sni P (namesSameHost_of_foldSame hascii hasciiP (hfold.trans hm))

end CaddyModel.C19
