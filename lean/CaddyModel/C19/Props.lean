/-
C19 — property theorems; proved counter-examples in Witness.lean.

Statement: for every ClientHello, the TLS settings applied are those of the first connection
policy in configured order whose matchers all match, however many policies exist, and the
handshake is refused if none matches or the matching policy says drop.  Where strict SNI-Host
checking is in effect — by default on every server that has a policy requiring client
certificates — a request whose Host header names a different host than the SNI of its
connection is never routed to a handler, so such a policy cannot be bypassed by connecting
under another name.

`choose live ps h` is the code (`TLSConfig` + `getConfigForClient`, with the `indexedBySNI` map);
`live` says whether the type assertion that guards insertion into that map can succeed.  The
harness observes `live` on the real code on every run (it is `false` on the pinned tree: the
assertion names the value type, provisioned matchers are pointers).  The first-match theorems
are proved for both values; whatever else mentions `choose` (`refused_iff`, the no-bypass family,
HTTP/3, Caddyfile, connections) speaks of `choose false`, the pinned tree.
-/
import CaddyModel.C19.WildLemmas
import CaddyModel.C19.ClientAuthLemmas
import CaddyModel.C19.CaddyfileLemmas
import CaddyModel.C19.QuicLemmas
import CaddyModel.C19.ConnLemmas
import CaddyModel.Gen.Glue
import CaddyModel.Gen.Enforcement

namespace CaddyModel.C19

/-- The specification is not just another program: each of its three verdicts is characterised
    by what the policies say about the hello. -/
theorem firstMatch_config_iff (ps : List Policy) (h : Hello) (i : Nat) :
    firstMatch ps h = .config i ↔
      ∃ p, ps[i]? = some p ∧ p.matches h = true ∧ p.drop = false ∧
        ∀ j q, j < i → ps[j]? = some q → q.matches h = false := by
  have := firstMatchFrom_eq_iff h false ps 0 i
  rwa [Nat.zero_add, forall_mem_take] at this

theorem firstMatch_dropped_iff (ps : List Policy) (h : Hello) (i : Nat) :
    firstMatch ps h = .dropped i ↔
      ∃ p, ps[i]? = some p ∧ p.matches h = true ∧ p.drop = true ∧
        ∀ j q, j < i → ps[j]? = some q → q.matches h = false := by
  have := firstMatchFrom_eq_iff h true ps 0 i
  rwa [Nat.zero_add, forall_mem_take] at this

theorem firstMatch_noMatch_iff (ps : List Policy) (h : Hello) :
    firstMatch ps h = .noMatch ↔ ∀ p ∈ ps, p.matches h = false :=
  firstMatchFrom_noMatch_iff h ps 0

/-- Matchers of one policy live in a Go map: the order in which the loop asks them is arbitrary
    and does not matter. -/
theorem matcher_order_irrelevant (h : Hello) (ms ms' : List Matcher) (hp : ms.Perm ms') :
    matchersLoop h ms = matchersLoop h ms' := by
  rw [matchersLoop_eq_all, matchersLoop_eq_all]
  exact hp.all_eq

/-- Up to the index threshold (30 policies) the code is first-match, whatever the index does. -/
theorem first_match_small (live : Bool) (ps : List Policy) (h : Hello)
    (hsz : ps.length ≤ sniIndexThreshold) : choose live ps h = firstMatch ps h :=
  choose_of_index_nil (buildIndex_small live ps hsz) h

/-- **At every list size**, if the index is never populated (the pinned tree), the code is first-match. -/
theorem first_match_dead_index (ps : List Policy) (h : Hello) : choose false ps h = firstMatch ps h :=
  choose_of_index_nil (buildIndex_dead ps) h

/-- FULL STATEMENT for a populated index — `∀ ps h, choose true ps h = firstMatch ps h` — is FALSE:
    see `live_index_breaks_first_match` (Witness.lean).  What holds, exactly: a populated index returns
    the first match **iff** the list is small, or no policy lists the hello's name byte for byte,
    or the first matching policy is itself one that lists it. -/
theorem live_index_first_match_iff (ps : List Policy) (h : Hello) :
    choose true ps h = firstMatch ps h ↔ indexHarmless ps h = true := by
  unfold indexHarmless
  by_cases hsz : ps.length ≤ sniIndexThreshold
  · simp [hsz, first_match_small true ps h hsz]
  · unfold choose
    rw [candidates_live ps h hsz]
    simp only [policyHits_eq_nil]
    cases hl : ps.any (·.lists h.sni)
    · simpa [firstMatch] using policyLoop_enumFrom h ps 0
    · simpa [hsz, firstMatch] using policyLoop_hits_iff h ps 0

theorem live_index_partial (ps : List Policy) (h : Hello) (hh : indexHarmless ps h = true) :
    choose true ps h = firstMatch ps h :=
  (live_index_first_match_iff ps h).mpr hh

/-- **first match** — the clause of the property, for whatever liveness the harness observes:
    with a dead index unconditionally, with a live one in the harmless region. -/
theorem first_match (live : Bool) (ps : List Policy) (h : Hello)
    (hh : live = false ∨ indexHarmless ps h = true) : choose live ps h = firstMatch ps h := by
  cases live with
  | false => exact first_match_dead_index ps h
  | true =>
    rcases hh with hh | hh
    · cases hh
    · exact live_index_partial ps h hh

theorem refused_iff (ps : List Policy) (h : Hello) :
    (choose false ps h).refused = true ↔
      (∀ p ∈ ps, p.matches h = false) ∨ ∃ i, firstMatch ps h = .dropped i := by
  rw [first_match_dead_index, ← firstMatch_noMatch_iff]
  cases firstMatch ps h <;> simp [Choice.refused]

theorem sni_match_case_insensitive (s s' : Bytes) (names : List Bytes) (e : namesSameHost s s') :
    sniMatch s names = sniMatch s' names :=
  sniMatch_congr s s' names e

theorem listed_name_matches (s n : Bytes) (names : List Bytes) (hn : n ∈ names) (e : namesSameHost n s) :
    sniMatch s names = true := by
  rw [sniMatch_eq_any]
  exact List.any_eq_true.mpr ⟨n, hn, matchWildcard_of_lower_eq s n e.symm⟩

/-- The check is in effect iff it is configured on, or it is not configured at all and some
    policy requires client certificates (the default the property speaks of). -/
theorem strict_auto_enabled_iff (cfg : Option Bool) (ps : List Policy) :
    effectiveStrict cfg ps = true ↔ cfg = some true ∨ (cfg = none ∧ ∃ p ∈ ps, p.clientAuth = true) := by
  cases cfg with
  | none => simp [effectiveStrict, hasTLSClientAuth]
  | some b => cases b <;> simp [effectiveStrict]

theorem serve_strict_handler (sites : List Bytes) (sni host : Bytes) (site : Option Nat)
    (hs : serve true sites (some sni) host = .handler site) :
    isAscii sni = true ∧ equalFold sni (enforcementHost host) = true ∧ site = route sites host := by
  rw [serve_strict] at hs
  split at hs
  · next h => exact ⟨h.1, h.2, (Served.handler.inj hs).symm⟩
  · cases hs

theorem serve_strict_site (sites : List Bytes) (sni host : Bytes) (k : Nat)
    (hs : serve true sites (some sni) host = .handler (some k)) :
    ∃ site, sites[k]? = some site ∧ hostMatch (routingHost host) site = true := by
  obtain ⟨_, _, hr⟩ := serve_strict_handler sites sni host _ hs
  obtain ⟨i, site, hk, h1, h2⟩ := routeFrom_some (routingHost host) sites 0 k hr.symm
  exact ⟨site, by rwa [hk, Nat.zero_add], h2⟩

/-- Under strict checking a TLS request enters the handler chain iff its SNI is ASCII and equal,
    for `strings.EqualFold`, to the host part of its Host header (as the enforcement handler
    computes it). -/
theorem strict_421 (sites : List Bytes) (sni host : Bytes) :
    serve true sites (some sni) host = .misdirected ↔
      ¬ (isAscii sni = true ∧ foldSame sni (enforcementHost host)) := by
  rw [serve_strict, foldSame, ← equalFold_iff]
  split <;> simp [*]

theorem strict_case_port_insensitive (sites : List Bytes) (sni name host port : Bytes)
    (hplain : noSpecial host = true) (hport : noSpecial port = true) (hcase : foldKey host = foldKey name) :
    (serve true sites (some sni) (host ++ cColon :: port) = .misdirected ↔
        ¬ (isAscii sni = true ∧ foldSame sni name)) ∧
    (serve true sites (some sni) host = .misdirected ↔ ¬ (isAscii sni = true ∧ foldSame sni name)) := by
  have e1 := enforcementHost_of_some (splitHostPort_plain host port hplain hport)
  have e2 := enforcementHost_of_none (splitHostPort_noColon host (noSpecial_not_mem host hplain).1)
  rw [strict_421, strict_421, e1, e2]
  unfold foldSame
  rw [hcase]
  exact ⟨Iff.rfl, Iff.rfl⟩

theorem strict_refuses_non_ascii_sni (sites : List Bytes) (sni host : Bytes) (h : isAscii sni = false) :
    serve true sites (some sni) host = .misdirected := by
  rw [strict_421]; rintro ⟨ha, _⟩; rw [h] at ha; cases ha

/-! ### the routed site is EqualFold-equal to the SNI

FULL STATEMENT — "under strict checking a TLS request is only ever routed to the handler of a
site whose name is (EqualFold-)the connection's SNI":
  `∀ sites sni host k, serve true sites (some sni) host = .handler (some k) →
     ∃ site, sites[k]? = some site ∧ foldSame sni site`
is FALSE for the code as written, even for exact site names (`strict_binds_routing_host_full_fails`
in Witness.lean: SNI `[secret.test]`, Host `[secret.test]`): the enforcement handler compares the
SNI with the raw Host when SplitHostPort fails, the host matcher additionally strips one `[` / `]`.
Such an SNI cannot establish a connection on the pinned tree (certmagic rejects it; checked with
real handshakes), so this corner is latent.  For exact site names (`hstar`; a wildcard site is
not EqualFold-equal to what it matches, see `strict_binds_site_policy` below) it holds outside
that decidable region, and for every bracket-free SNI: -/

/-- whichever route takes the request, the host it is routed by is the SNI -/
theorem strict_binds_catch_all_partial (sites : List Bytes) (sni host : Bytes) (site : Option Nat)
    (hx : bracketTrimmed host = false)
    (hs : serve true sites (some sni) host = .handler site) :
    foldSame sni (routingHost host) := by
  obtain ⟨_, he, _⟩ := serve_strict_handler sites sni host _ hs
  rw [routingHost_of_not_bracketTrimmed hx]; exact equalFold_iff.mp he

/-- … and an exact site's route takes only what is EqualFold-equal to the site's name -/
theorem strict_binds_routing_host_partial (sites : List Bytes) (sni host : Bytes) (k : Nat)
    (hx : bracketTrimmed host = false) (hstar : ∀ s ∈ sites, noStar s = true)
    (hs : serve true sites (some sni) host = .handler (some k)) :
    ∃ site, sites[k]? = some site ∧ foldSame sni site := by
  obtain ⟨site, h1, h2⟩ := serve_strict_site sites sni host k hs
  rw [hostMatch_noStar _ _ (hstar site (List.mem_of_getElem? h1))] at h2
  exact ⟨site, h1, Eq.trans (strict_binds_catch_all_partial sites sni host _ hx hs) (equalFold_iff.mp h2)⟩

/-- a bracket-free SNI that passes the strict check forces the Host out of the excluded region -/
theorem strict_pass_not_bracketTrimmed (sites : List Bytes) (sni host : Bytes) (site : Option Nat)
    (hsni : noBrackets sni = true)
    (hs : serve true sites (some sni) host = .handler site) : bracketTrimmed host = false := by
  refine Bool.eq_false_iff.mpr fun hb => ?_
  obtain ⟨h1, h2⟩ := bracketTrimmed_shape host hb
  obtain ⟨_, he, _⟩ := serve_strict_handler sites sni host _ hs
  rw [h1] at he
  have := noBrackets_of_fold sni host (equalFold_iff.mp he) h2
  rw [hsni] at this; cases this

/-- strict SNI-Host binds the routed site to the SNI up to EqualFold (every SNI without brackets) -/
theorem strict_binds_routing_host (sites : List Bytes) (sni host : Bytes) (k : Nat)
    (hsni : noBrackets sni = true) (hstar : ∀ s ∈ sites, noStar s = true)
    (hs : serve true sites (some sni) host = .handler (some k)) :
    ∃ site, sites[k]? = some site ∧ foldSame sni site :=
  strict_binds_routing_host_partial sites sni host k
    (strict_pass_not_bracketTrimmed sites sni host _ hsni hs) hstar hs

theorem strict_binds_catch_all (sites : List Bytes) (sni host : Bytes) (site : Option Nat)
    (hsni : noBrackets sni = true)
    (hs : serve true sites (some sni) host = .handler site) :
    foldSame sni (routingHost host) :=
  strict_binds_catch_all_partial sites sni host site
    (strict_pass_not_bracketTrimmed sites sni host _ hsni hs) hs

/-! ### from "EqualFold-equal" to "same TLS policy"

The TLS side (MatchServerName → certmagic.MatchWildcard) compares names after `strings.ToLower`;
the HTTP side (strict check, host matcher) with `strings.EqualFold`.  The two differ on `ſ`
(U+017F): `EqualFold("ſecret.test", "secret.test")` holds, the lower-cased strings differ.
Before /repo commit 110cdf0 the strict check was `EqualFold` alone and the no-bypass clause was
FALSE (`strict_unicode_fold_old_code_fails`, `client_auth_not_bypassed_old_code_fails` in Witness.lean,
reproduced on that code with a real handshake; regression lines in corpus/C19).  The check now also
refuses non-ASCII server names, and on ASCII names the two equivalences coincide: -/

theorem strict_binds_policy_name (sites : List Bytes) (sni host : Bytes) (k : Nat)
    (hsni : noBrackets sni = true) (hstar : ∀ s ∈ sites, noStar s = true)
    (hsites : ∀ s ∈ sites, isAscii s = true)
    (hs : serve true sites (some sni) host = .handler (some k)) :
    ∃ site, sites[k]? = some site ∧ namesSameHost sni site := by
  obtain ⟨hascii, _, _⟩ := serve_strict_handler sites sni host _ hs
  obtain ⟨site, h1, h2⟩ := strict_binds_routing_host sites sni host k hsni hstar hs
  exact ⟨site, h1, namesSameHost_of_foldSame hascii (hsites site (List.mem_of_getElem? h1)) h2⟩

/-- the core of the no-bypass argument, for any way strict checking came to be in effect -/
theorem strict_binds_policy (ps : List Policy) (sites : List Bytes) (sni host site : Bytes)
    (v : Nat → Bool) (k : Nat)
    (hsni : noBrackets sni = true) (hstar : ∀ s ∈ sites, noStar s = true)
    (hsites : ∀ s ∈ sites, isAscii s = true)
    (hs : serve true sites (some sni) host = .handler (some k))
    (hk : sites[k]? = some site) :
    choose false ps ⟨sni, v⟩ = choose false ps ⟨site, v⟩ := by
  obtain ⟨site', h1, h2⟩ := strict_binds_policy_name sites sni host k hsni hstar hsites hs
  rw [hk] at h1; cases h1
  rw [first_match_dead_index, first_match_dead_index]
  exact firstMatchFrom_congr ⟨sni, v⟩ ⟨site, v⟩ ps 0 h2 rfl

/-- **no bypass** (every bracket-free SNI; ASCII site names).  A server with a client-auth policy
    and no explicit `strict_sni_host`: whenever a TLS request is routed to the handler of a site,
    the policy that first-match assigned to the connection (by its SNI) is the very policy
    first-match assigns to that site's name — so a site behind a client-auth policy cannot be
    reached over a connection negotiated under another policy.  (ip matchers do not look at the
    name; a regexp matcher's verdict is assumed equal for the two spellings, which differ at most
    in ASCII case.) -/
theorem client_auth_not_bypassed (ps : List Policy) (sites : List Bytes) (sni host site : Bytes)
    (v : Nat → Bool) (k : Nat)
    (hauth : ∃ p ∈ ps, p.clientAuth = true)
    (hsni : noBrackets sni = true) (hstar : ∀ s ∈ sites, noStar s = true)
    (hsites : ∀ s ∈ sites, isAscii s = true)
    (hs : serve (effectiveStrict none ps) sites (some sni) host = .handler (some k))
    (hk : sites[k]? = some site) :
    choose false ps ⟨sni, v⟩ = choose false ps ⟨site, v⟩ := by
  rw [(strict_auto_enabled_iff none ps).mpr (Or.inr ⟨rfl, hauth⟩)] at hs
  exact strict_binds_policy ps sites sni host site v k hsni hstar hsites hs hk

/-! ### wildcard sites: the HTTP and the TLS reading of a pattern agree

Since /repo 7aa47c3 a `*` label of the host matcher stands for exactly one non-empty label, as in
certmagic.MatchWildcard (before, it also matched an empty label:
`wildcard_empty_label_old_code_fails` in Witness.lean).  For every site whose name is exact or whose `*`
labels form a left-most prefix (`*.example.com`, `*.*.test`, `*` — the only wildcard shape the
TLS side can match at all; `x.*.test` as an sni name matches nothing, see props.d observation): -/

/-- **strict SNI-Host binds every site to its own connection policy**: if a TLS request is routed
    to the handler of site `site`, then the sni matcher of a connection policy `sni [site]`
    accepts the connection's server name — the policy written for the site (client auth!) is one
    that applies to the connection. -/
theorem strict_binds_site_policy (sites : List Bytes) (sni host site : Bytes) (k : Nat)
    (hsni : noBrackets sni = true)
    (hk : sites[k]? = some site) (hok : isAscii site = true)
    (hshape : noStar site = true ∨ leftmostWildcard site = true)
    (hs : serve true sites (some sni) host = .handler (some k)) :
    sniMatch sni [site] = true := by
  obtain ⟨hascii, _, _⟩ := serve_strict_handler sites sni host _ hs
  obtain ⟨site', h1, h2⟩ := serve_strict_site sites sni host k hs
  rw [hk] at h1; cases h1
  have hmw := wildcard_readings_agree sni (routingHost host) site hshape hok hascii
    (strict_binds_catch_all sites sni host _ hsni hs) h2
  simp [sniMatch_eq_any, hmw]

theorem site_policy_accepts_connection (sites : List Bytes) (sni host site : Bytes) (k : Nat)
    (v : Nat → Bool) (drop ca : Bool)
    (hsni : noBrackets sni = true)
    (hk : sites[k]? = some site) (hok : isAscii site = true)
    (hshape : noStar site = true ∨ leftmostWildcard site = true)
    (hs : serve true sites (some sni) host = .handler (some k)) :
    (⟨[.sni [site]], drop, ca⟩ : Policy).matches ⟨sni, v⟩ = true := by
  have := strict_binds_site_policy sites sni host site k hsni hk hok hshape hs
  simp [Policy.matches, Matcher.eval, this]

/-! ## which policies "require client certificates": every `client_authentication` block

`Server.hasTLSClientAuth` asks `ClientAuthentication.Active()`, and App.Provision asks it before
the connection policies are provisioned.  The theorems below range over ALL combinations of the
block's fields (`ca`, `trusted_ca_certs`, `trusted_ca_certs_pem_files`, `trusted_leaf_certs`,
`verifiers`, `mode`; list fields absent / loadable / not loadable) — 972 blocks and "no block" —
and are read off `provisionPolicyCA_some` (ClientAuthLemmas.lean), which follows the executable model
(`ClientAuth.lean`) path by path; the harness compares that model with the real
`ConnectionPolicies.Provision` on every one of the blocks on every run. -/

/-- **ClientAuth mode derivation, all field combinations**: the built `tls.Config.ClientAuth`
    is the documented table. -/
theorem built_auth_eq_spec (c : Option CAConf) (b : Built) (hb : provisionPolicyCA c = some b) :
    b.bits.auth = specAuth c := by
  cases c with
  | none => cases hb; rfl
  | some c =>
    -- the documented table is the code's mode table read on the block as written
    -- (an unknown mode, where the documented table says nothing, never provisions)
    obtain ⟨_, _, h1, h0, _⟩ := provisionPolicyCA_some hb
    symm
    cases ha : activeBefore (some c)
    · rw [h0 ha]
      simp [activeBefore_some, CAConf.init_active] at ha
      simp [specAuth, ha]
    · have hm := h1 ha
      rw [modeAuth_eq] at hm
      cases hmode : c.mode <;>
        simp only [CAConf.init_mode, hmode, Option.some.injEq, reduceCtorEq] at hm <;>
        simp only [specAuth, hmode]
      case empty =>
        -- no explicit mode: trust material decides; without any, the block is active through its verifiers
        have e : (c.caRaw.nonEmpty || c.trustedCACerts.nonEmpty || c.pemFiles.nonEmpty || c.trustedLeaf.nonEmpty) =
            (c.init.anyCA || c.init.trustedLeaf) := by rw [CAConf.init_anyCA, CAConf.init_trustedLeaf]
        rw [activeBefore_some, CAState.active_eq, CAConf.init_mode, hmode] at ha
        rw [e]
        cases ht : (c.init.anyCA || c.init.trustedLeaf) <;> rw [ht] at hm ha
        · have hv : c.verifiersRaw = true := by simpa [CAConf.init_verifiersRaw] using ha
          simpa [hv] using hm
        · simpa using hm
      all_goals exact hm

/-- **the strict default looks at the right thing**: what `hasTLSClientAuth` sees before
    provisioning (`Active()`) is true exactly when the provisioned policy's `tls.Config` asks
    clients for a certificate. -/
theorem active_iff_requests_client_cert (c : Option CAConf) (b : Built) (hb : provisionPolicyCA c = some b) :
    activeBefore c = true ↔ b.bits.auth ≠ .noClientCert := by
  cases c with
  | none => cases hb; decide
  | some c =>
    obtain ⟨_, _, h1, h0, _⟩ := provisionPolicyCA_some hb
    cases ha : activeBefore (some c)
    · simp [h0 ha]
    · exact ⟨fun _ e => modeAuth_ne_noClientCert _ (e ▸ h1 ha), fun _ => rfl⟩

theorem no_mode_requires_certificate (c : CAConf) (b : Built) (hb : provisionPolicyCA (some c) = some b)
    (hm : c.mode = .empty) (ha : activeBefore (some c) = true) :
    b.bits.auth = .requireAnyClientCert ∨ b.bits.auth = .requireAndVerifyClientCert := by
  obtain ⟨_, _, h1, _⟩ := provisionPolicyCA_some hb
  have h := h1 ha
  rw [modeAuth_eq, CAConf.init_mode, hm] at h
  injection h with h
  rw [← h]
  split
  · exact Or.inr rfl
  · exact Or.inl rfl

theorem verifier_installed_iff (c : CAConf) (b : Built) (hb : provisionPolicyCA (some c) = some b) :
    b.hasVerifier = true ↔ (c.verifiersRaw = true ∨ c.trustedLeaf ≠ .none) := by
  obtain ⟨_, _, _, _, hv, _⟩ := provisionPolicyCA_some hb
  rw [hv]
  cases c.verifiersRaw <;> cases c.trustedLeaf <;> decide

/-- FULL STATEMENT — "`Active()` answers the same after provisioning as before" — is FALSE
    (`active_after_provision_full_fails` in Witness.lean: LoadModule zeroes `VerifiersRaw`), which is why the
    default must be decided before `TLSConnPolicies.Provision` (seeded mutant
    `C19-strict-sni-default-after-policy-provision`).  Exactly one kind of block is affected: -/
theorem active_after_provision_partial (c : CAConf) (b : Built) (hb : provisionPolicyCA (some c) = some b)
    (hx : verifiersOnly c = false) : b.activeAfter = activeBefore (some c) := by
  obtain ⟨_, _, _, _, _, hafter⟩ := provisionPolicyCA_some hb
  rw [hafter, activeBefore_some, activeBefore_some, CAConf.init_active, CAConf.init_active]
  cases hv : c.verifiersRaw
  · rfl
  · -- `Active()` before is true; were it false afterwards, the block would be verifiers only
    rw [Bool.or_true, Bool.true_or, Bool.or_false]
    cases hE : (c.caRaw.nonEmpty || c.trustedCACerts.nonEmpty || c.pemFiles.nonEmpty || c.trustedLeaf.nonEmpty ||
        c.mode != .empty)
    · simp at hE
      simp [verifiersOnly, hv, hE] at hx
    · rfl

/-- **no session resumption into or out of a client-auth policy, for ALL blocks**: whatever the
    `client_authentication` block contains (even an empty one), the policy's tls.Config has session
    tickets switched off — so with the session ticket keys shared by all policies (tls app
    `session_tickets`) a session established under another policy, whose client certificate
    crypto/tls would NOT re-verify against this policy's trust settings nor pass to its verifiers,
    can never be resumed here; and a policy without the block keeps them on. -/
theorem client_auth_policy_never_resumes (c : Option CAConf) (b : Built) (hb : provisionPolicyCA c = some b) :
    b.ticketsOff = true ↔ c ≠ none := by
  cases c with
  | none => cases hb; decide
  | some c => simp [(provisionPolicyCA_some hb).1]

/-- **the default, end to end of the glue**: for a server whose policies carry arbitrary
    `client_authentication` blocks (all of which provision), and no explicit `strict_sni_host`,
    strict SNI-Host is in effect iff some policy's built `tls.Config` asks clients for a
    certificate. -/
theorem strict_default_iff_some_policy_requests_cert (pcs : List (Policy × Option CAConf × Built))
    (hwf : ∀ x ∈ pcs, x.1.clientAuth = activeBefore x.2.1 ∧ provisionPolicyCA x.2.1 = some x.2.2) :
    effectiveStrict none (pcs.map (·.1)) = true ↔ ∃ x ∈ pcs, x.2.2.bits.auth ≠ .noClientCert := by
  rw [effectiveStrict, hasTLSClientAuth, List.any_map, List.any_eq_true]
  refine exists_congr fun x => and_congr_right fun hx => ?_
  obtain ⟨h1, h2⟩ := hwf x hx
  rw [← active_iff_requests_client_cert _ _ h2, ← h1]
  rfl

/-! ## the order of App.Provision, tied to the source

`active_iff_requests_client_cert` is about `Active()` asked BEFORE the policies are provisioned
(`active_after_provision_full_fails` shows it is wrong afterwards), and `serve` assumes the
enforcement handler wraps the primary route of a server whose strict flag is already decided.
Both are facts about statement order in `(*App).Provision`; `Gen.httpProvisionOrder` is
regenerated from modules/caddyhttp/app.go on every run, so moving the strict-default block
behind either call breaks this theorem. -/

theorem strict_default_order_matches_source :
    calledBefore "hasTLSClientAuth" "TLSConnPolicies.Provision" Gen.httpProvisionOrder = true ∧
    calledBefore "hasTLSClientAuth" "wrapPrimaryRoute" Gen.httpProvisionOrder = true := by decide +kernel

example : calledBefore "b" "a" ["a", "b"] = false ∧ calledBefore "a" "c" ["a", "b"] = false ∧
    calledBefore "a" "b" ["a", "b"] = true := by decide

/-! ## HTTP/3: which config's policy list a QUIC ClientHello is matched against

The QUIC listener outlives config reloads; `sharedQUICState` decides whose `GetConfigForClient`
(whose first-match loop) answers.  `Quic.lean` models it as a state machine over reload histories;
the harness drives the real `ListenQUIC` / `Close` through such histories and asks with real QUIC
handshakes which config answers. -/

/-- **over HTTP/3 the current config's policies are consulted**: through any number of reloads,
    a ClientHello that arrives after a reload has completed is answered by the NEWEST config, one
    that arrives while old and new server both run by the old one (which is still serving), and
    at the end exactly the newest config is registered and active. -/
theorem quic_reloads_consult_newest (n : Nat) :
    qrun allWrapped QState.init [] (reloads n) =
      some (⟨1, [1 + n], 1 + n, [1 + n]⟩, some 1 :: reloadAnswersFrom 1 n) := by
  have h := reloadsFrom_run n 1 [1] (by intro u hu; simp at hu; omega)
  simp [reloads, qrun, qstep, openConf, QState.init, h]

/-- … hence the policy chosen for a QUIC ClientHello after `n` reloads is the first match of the
    CURRENT config's policy list (composition with `first_match_dead_index`) -/
theorem quic_first_match_of_current_config (n : Nat) (cfgs : Nat → List Policy) (h : Hello)
    (s : QState) (answers : List (Option Nat))
    (hr : qrun allWrapped QState.init [] (reloads n) = some (s, answers)) :
    choose false (cfgs s.active) h = firstMatch (cfgs (1 + n)) h := by
  rw [quic_reloads_consult_newest n] at hr
  cases hr
  exact first_match_dead_index _ _

/-- second line of defence, regenerated from listeners.go on every run: `addState` has its two
    return paths and neither hands out the bare `context.CancelFunc` — the premise `allWrapped` of
    the theorems above (`bare_cancel_consults_closed_config` in Witness.lean shows what happens otherwise) -/
theorem quic_cancel_paths_match_source :
    Gen.quicAddStateReturns = 2 ∧ Gen.quicAddStateReturnsBareCancel = false := ⟨rfl, rfl⟩

/-- **for EVERY history within the protocol** (not only the reload shape): whenever a QUIC
    ClientHello can be answered at all, the config whose policy list is consulted is one whose
    server is still running — never a config that has been closed -/
theorem quic_active_config_is_live (ops : List QOp) :
    ∀ (s : QState) (used : List Nat), QInv s used →
      ∀ sf answers, qrun allWrapped s used ops = some (sf, answers) →
        sf.refs > 0 → sf.active ∈ sf.openL := by
  intro s used hi sf answers h
  obtain ⟨_, hf⟩ := qinv_run ops s used hi sf answers h
  exact hf.active_live

theorem quic_active_config_is_live_from_start (ops : List QOp) (sf : QState) (answers : List (Option Nat))
    (h : qrun allWrapped QState.init [] ops = some (sf, answers)) (hl : sf.refs > 0) :
    sf.active ∈ sf.openL :=
  quic_active_config_is_live ops QState.init [] (qinv_init []) sf answers h hl

example : qrun allWrapped QState.init [] [.open 1, .open 2, .close 2, .probe, .open 3, .close 1, .probe] =
    some (⟨1, [3], 3, [3]⟩, [some 1, some 3]) := by decide

/-! ## Caddyfile glue -/

theorem parseSub_keeps_nonTrivial (s s' : CFState) (x : Sub) (hx : ∀ m, x = .mode m → m ≠ .empty)
    (_hs : s.nonTrivial = true) (h : parseSub s x = some s') : s'.nonTrivial = true :=
  parseSub_nonTrivial s s' x hx h

/-- **a non-empty `client_auth { … }` block that the Caddyfile parser accepts is `Active()`**, so the
    server it lands on gets strict SNI-Host by default (whatever subdirectives, in whatever order) -/
theorem caddyfile_block_active (subs : List Sub) (c : CAConf)
    (hx : ∀ m, Sub.mode m ∈ subs → m ≠ .empty) (hne : subs ≠ [])
    (h : parseClientAuth subs = some c) : activeBefore (some c) = true := by
  revert h
  fun_cases parseClientAuth subs <;> rintro ⟨⟩
  -- the block's `Active()` is the parser state's `nonTrivial`, with `tca` moved into `ca` if set
  case case2 s hs htca => simp [activeBefore_some, CAConf.init_active, htca]
  case case3 s hs htca =>
    have hnt := parseSubs_nonTrivial _ s subs hx (Or.inl hne) hs
    simp only [Bool.not_eq_true] at htca
    simp only [CFState.nonTrivial, htca, Bool.or_false] at hnt
    simp only [activeBefore_some, CAConf.init_active, show Listed.none.nonEmpty = false from rfl, Bool.or_false]
    rw [← hnt]; ac_rfl

/-- only `insecure_off` switches the check off; `on` and the bare option switch it on -/
theorem strict_option_spec (o : StrictOpt) (cfg : Option Bool) (h : strictOption o = some cfg) :
    (cfg = some false ↔ o = .insecureOff) ∧ (cfg = none ↔ o = .absent) := by
  cases o <;> simp_all [strictOption] <;> (cases h; simp)

theorem adaptPolicies_strict {sites : List Site} {name : Bytes} {conf : CAConf} {cfg : Option Bool}
    (hmem : (name, some conf) ∈ sites) (hact : activeBefore (some conf) = true) (hcfg : cfg ≠ some false) :
    effectiveStrict cfg ((adaptPolicies sites).map (·.1)) = true :=
  (strict_auto_enabled_iff cfg _).mpr <| match cfg with
    | some true => Or.inl rfl
    | some false => absurd rfl hcfg
    | none => Or.inr ⟨rfl, _, mem_adaptPolicies hmem, hact⟩

/-- **through the Caddyfile**: a server assembled from site blocks, strict checking not switched
    off.  If a TLS request (bracket-free SNI) is routed to the handler of a site whose
    `client_auth` block makes its connection policy ask for a client certificate, then the
    connection's policy is the one first-match gives that site's own name. -/
theorem caddyfile_client_auth_site_bound (sites : List Site) (cfg : Option Bool) (sni host name : Bytes)
    (v : Nat → Bool) (k : Nat) (conf : CAConf) (b : Built)
    (hcfg : cfg ≠ some false)
    (hk : sites[k]? = some (name, some conf))
    (hb : provisionPolicyCA (some conf) = some b) (hreq : b.bits.auth ≠ .noClientCert)
    (hsni : noBrackets sni = true) (hstar : ∀ s ∈ sites, noStar s.1 = true)
    (hnames : ∀ s ∈ sites, isAscii s.1 = true)
    (hs : serve (effectiveStrict cfg ((adaptPolicies sites).map (·.1))) (sites.map (·.1)) (some sni) host
            = .handler (some k)) :
    choose false ((adaptPolicies sites).map (·.1)) ⟨sni, v⟩ =
      choose false ((adaptPolicies sites).map (·.1)) ⟨name, v⟩ := by
  rw [adaptPolicies_strict (List.mem_of_getElem? hk) ((active_iff_requests_client_cert _ _ hb).mpr hreq) hcfg] at hs
  exact strict_binds_policy _ (sites.map (·.1)) sni host name v k hsni
    (List.forall_mem_map.mpr hstar) (List.forall_mem_map.mpr hnames) hs (by simp [List.getElem?_map, hk])

/-- the same for EVERY site shape the TLS side can express (exact name or left-most wildcard, e.g.
    `*.example.com { tls { client_auth … } }`): the site's own client-auth policy is in the server's
    policy list and accepts the connection on which the request arrived. -/
theorem caddyfile_site_policy_accepts (sites : List Site) (cfg : Option Bool) (sni host name : Bytes)
    (v : Nat → Bool) (k : Nat) (conf : CAConf) (b : Built)
    (hcfg : cfg ≠ some false)
    (hk : sites[k]? = some (name, some conf))
    (hb : provisionPolicyCA (some conf) = some b) (hreq : b.bits.auth ≠ .noClientCert)
    (hsni : noBrackets sni = true) (hok : isAscii name = true)
    (hshape : noStar name = true ∨ leftmostWildcard name = true)
    (hs : serve (effectiveStrict cfg ((adaptPolicies sites).map (·.1))) (sites.map (·.1)) (some sni) host
            = .handler (some k)) :
    ∃ p ∈ (adaptPolicies sites).map (·.1), p.clientAuth = true ∧ p.matches ⟨sni, v⟩ = true := by
  have hact : activeBefore (some conf) = true := (active_iff_requests_client_cert _ _ hb).mpr hreq
  have hmem : (name, some conf) ∈ sites := List.mem_of_getElem? hk
  rw [adaptPolicies_strict hmem hact hcfg] at hs
  exact ⟨_, mem_adaptPolicies hmem, hact,
    site_policy_accepts_connection (sites.map (·.1)) sni host name k v false _ hsni
      (by simp [List.getElem?_map, hk]) hok hshape hs⟩

-- client_authentication blocks: verifier only / CA file that fails to load / unknown mode / ca + certs
example : provisionPolicyCA (some ⟨.none, .none, .none, .none, true, .empty⟩) =
    some ⟨⟨.requireAnyClientCert, false, true⟩, true, true, false⟩ := by decide
example : provisionPolicyCA (some ⟨.none, .none, .bad, .none, false, .empty⟩) =
    some ⟨⟨.requireAndVerifyClientCert, false, true⟩, true, false, true⟩ := by decide
example : provisionPolicyCA (some ⟨.none, .none, .none, .none, false, .other⟩) = none ∧
    provisionPolicyCA (some ⟨.good, .good, .none, .none, false, .empty⟩) = none := by decide
example : verifiersOnly ⟨.none, .none, .none, .none, true, .empty⟩ = true ∧
    verifiersOnly ⟨.none, .none, .none, .good, true, .empty⟩ = false := by decide


def nA : Bytes := [97, 46, 116]            -- "a.t"
def nAup : Bytes := [65, 46, 84]           -- "A.T"
def nWild : Bytes := [42, 46, 116]         -- "*.t"
def nB : Bytes := [98, 46, 116]            -- "b.t"

def exPolicies : List Policy :=
  [ ⟨[.sni [nB], .other 0], false, false⟩,      -- sni b.t ∧ remote_ip
    ⟨[.sni [nWild]], true, false⟩,              -- sni *.t, drop
    ⟨[.sni [nA]], false, true⟩,                 -- sni a.t, client auth
    ⟨[], false, false⟩ ]                        -- catch-all

def exHello (s : Bytes) (b : Bool) : Hello := ⟨s, fun _ => b⟩

-- b.t from an allowed address: policy 0; from elsewhere the wildcard policy (drop) is first
example : firstMatch exPolicies (exHello nB true) = .config 0 := by decide
example : firstMatch exPolicies (exHello nB false) = .dropped 1 := by decide
example : choose false exPolicies (exHello nB false) = .dropped 1 := by decide
-- "t" (one label) is matched by nobody but the catch-all
example : choose true exPolicies (exHello [116] false) = .config 3 := by decide
example : choose false [⟨[.sni [nA]], false, false⟩] (exHello nB true) = .noMatch := by decide
example : ∃ p, exPolicies[1]? = some p ∧ p.matches (exHello nB false) = true ∧ p.drop = true := by decide
example : indexHarmless exPolicies (exHello nA true) = true := by decide
example : [Matcher.sni [nB], Matcher.other 0].Perm [Matcher.other 0, Matcher.sni [nB]] := List.Perm.swap ..
example : sniMatch nAup [nA] = true ∧ sniMatch nAup [nWild] = true ∧ namesSameHost nAup nA := by decide
-- strict: auto-enabled by the client-auth policy, not when configured off
example : effectiveStrict none exPolicies = true ∧ effectiveStrict (some false) exPolicies = false ∧
    effectiveStrict none [⟨[], false, false⟩] = false := by decide
-- SNI a.t: a Host that is not a.t (every symbol of b.t less 32, then ":443") → 421; Host "A.T:443" → site 0
example : serve true [nA, nB] (some nA) (nB.map (· - 32) ++ cColon :: [52, 52, 51]) = .misdirected := by decide
example : serve true [nA, nB] (some nA) (nAup ++ cColon :: [52, 52, 51]) = .handler (some 0) := by decide +kernel
example : noSpecial nAup = true ∧ noSpecial [52, 52, 51] = true ∧ foldKey nAup = foldKey nA := by decide
example : noBrackets nAup = true ∧ noBrackets [91, 97, 93] = false := by decide
example : bracketTrimmed (nAup ++ cColon :: [52, 52, 51]) = false ∧ bracketTrimmed [91, 58, 58, 49, 93, 58, 56, 48] = false := by decide +kernel
example : (∃ p ∈ exPolicies, p.clientAuth = true) ∧ noBrackets nAup = true ∧
    (∀ s ∈ [nA], noStar s = true) ∧ (∀ s ∈ [nA], isAscii s = true) ∧
    serve (effectiveStrict none exPolicies) [nA] (some nAup) (nA ++ cColon :: [56, 48]) = .handler (some 0) := by
  decide +kernel
-- wildcard sites: *.t routes x.t (and X.T:443) when the SNI is x.t; `.t` is routed by neither reading
example : leftmostWildcard nWild = true ∧ noStar nWild = false ∧ leftmostWildcard [120, 46, 42, 46, 116] = false := by decide
example : serve true [nWild] (some [120, 46, 116]) ([88, 46, 84] ++ cColon :: [52, 52, 51]) = .handler (some 0) ∧
    sniMatch [120, 46, 116] [nWild] = true := by decide +kernel
example : serve true [nWild] (some [46, 116]) [46, 116] = .handler none ∧ sniMatch [46, 116] [nWild] = false := by decide
example : serve true [[115, 46, 116]] (some [128, 46, 116]) [115, 46, 116] = .misdirected ∧
    serve true [[115, 46, 116]] (some [128, 46, 116]) [128, 46, 116] = .misdirected := by decide
-- the two equivalences: ſ.t is EqualFold-equal to s.t but does not lower to it; K.t lowers to k.t
example : foldSame [128, 46, 116] [115, 46, 116] ∧ ¬ namesSameHost [128, 46, 116] [115, 46, 116] ∧
    namesSameHost [129, 46, 116] [107, 46, 116] ∧ namesSameHost [130] [131] ∧ isAscii [128] = false := by decide +kernel

/-! ## a connection carries MANY requests: the strict check is per request

The SNI is fixed by the handshake, the Host header (`:authority`) is chosen by the client for every
request of the connection (HTTP/1.1 keep-alive, HTTP/2 / HTTP/3 streams).  `serveConn` threads the
connection context through the requests as net/http does; the request path never writes to it.
The harness's `conn` op is ONE real connection (h1 / h2 / h3) to a running caddy server with a
sequence of requests. -/

theorem request_leaves_connection_context (strict : Bool) (sites : List Bytes) (c : ConnCtx) (host : Bytes) :
    (connStep strict sites c host).1 = c := rfl

/-- **the verdict on request k of a connection is the verdict on that request alone** — on a fresh
    connection under the same SNI — whatever was sent before it (every prefix `pre`) and after it;
    and extending a connection by one request never changes the verdicts already given. -/
theorem enforcement_is_per_request (strict : Bool) (sites : List Bytes) (sni : Bytes)
    (pre post : List Bytes) (h : Bytes) :
    (serveConn strict sites sni (pre ++ h :: post))[pre.length]? = some (serve strict sites (some sni) h) ∧
    (serveConn strict sites sni (pre ++ h :: post))[pre.length]? = (serveConn strict sites sni [h])[0]? ∧
    serveConn strict sites sni (pre ++ [h]) = serveConn strict sites sni pre ++ serveConn strict sites sni [h] := by
  simp [serveConn_eq_map]

theorem conn_request_verdict (strict : Bool) (sites : List Bytes) (sni : Bytes) (hosts : List Bytes)
    (i : Nat) (v : Served) (hi : (serveConn strict sites sni hosts)[i]? = some v) :
    ∃ h, hosts[i]? = some h ∧ v = serve strict sites (some sni) h := by
  rw [serveConn_getElem?, Option.map_eq_some_iff] at hi
  obtain ⟨h, hh, rfl⟩ := hi
  exact ⟨h, hh, rfl⟩

theorem strict_421_on_every_request (sites : List Bytes) (sni : Bytes) (hosts : List Bytes) (i : Nat) (h : Bytes)
    (hh : hosts[i]? = some h) :
    (serveConn true sites sni hosts)[i]? = some .misdirected ↔
      ¬ (isAscii sni = true ∧ foldSame sni (enforcementHost h)) := by
  rw [serveConn_getElem?, hh, Option.map_some, Option.some.injEq]
  exact strict_421 sites sni h

/-- `client_auth_not_bypassed` for every request of every connection: whichever requests preceded
    it, a request routed to a site's handler travels on a connection whose first-match policy is
    that site's first-match policy -/
theorem client_auth_not_bypassed_on_connection (ps : List Policy) (sites : List Bytes) (sni site : Bytes)
    (v : Nat → Bool) (k : Nat) (hosts : List Bytes) (i : Nat)
    (hauth : ∃ p ∈ ps, p.clientAuth = true)
    (hsni : noBrackets sni = true) (hstar : ∀ s ∈ sites, noStar s = true)
    (hsites : ∀ s ∈ sites, isAscii s = true)
    (hs : (serveConn (effectiveStrict none ps) sites sni hosts)[i]? = some (.handler (some k)))
    (hk : sites[k]? = some site) :
    choose false ps ⟨sni, v⟩ = choose false ps ⟨site, v⟩ := by
  obtain ⟨h, _, hv⟩ := conn_request_verdict _ _ _ _ _ _ hs
  exact client_auth_not_bypassed ps sites sni h site v k hauth hsni hstar hsites hv.symm hk

/-- **a client-auth site is unreachable under another SNI, on every request of the connection**:
    if the connection's SNI selected a policy WITHOUT client authentication while the site's name
    selects one WITH it, then no request of any sequence on that connection — first or later — is
    served by that site (strict_sni_host left to its default). -/
theorem client_auth_site_unreachable_under_other_sni (ps : List Policy) (sites : List Bytes) (sni site : Bytes)
    (v : Nat → Bool) (k j j' : Nat) (p p' : Policy) (hosts : List Bytes)
    (hsni : noBrackets sni = true) (hstar : ∀ s ∈ sites, noStar s = true)
    (hsites : ∀ s ∈ sites, isAscii s = true)
    (hk : sites[k]? = some site)
    (hsel : choose false ps ⟨sni, v⟩ = .config j) (hj : ps[j]? = some p) (hp : p.clientAuth = false)
    (hsite : choose false ps ⟨site, v⟩ = .config j') (hj' : ps[j']? = some p') (hp' : p'.clientAuth = true) :
    ∀ i : Nat, (serveConn (effectiveStrict none ps) sites sni hosts)[i]? ≠ some (Served.handler (some k)) := by
  intro i hs
  have hauth : ∃ q ∈ ps, q.clientAuth = true := ⟨p', List.mem_of_getElem? hj', hp'⟩
  have e := client_auth_not_bypassed_on_connection ps sites sni site v k hosts i hauth hsni hstar hsites hs hk
  rw [hsel, hsite] at e
  cases e
  rw [hj] at hj'
  cases hj'
  rw [hp] at hp'
  cases hp'

/-- tie to the source, regenerated on every run, as SETS over `enforcementHandler` and every
    same-package function it statically calls (so helpers / renamed locals do not matter): on the
    request it reads `TLS` (`.ServerName`) and `Host` only, on the server `StrictSNIHost` only, no
    context value, no package-level variable; the only field it writes is `r.Close`. -/
theorem enforcement_reads_only_sni_and_host_matches_source :
    Gen.enforcementRequestReads = ["Request.Host", "Request.TLS", "Request.TLS.ServerName"] ∧
    Gen.enforcementServerReads = ["Server.StrictSNIHost"] ∧
    Gen.enforcementContextReads = [] ∧
    Gen.enforcementPackageVars = [] ∧
    Gen.enforcementWrites = ["Request.Close"] := ⟨rfl, rfl, rfl, rfl, rfl⟩

/-- … and the only per-connection value caddy's http.Server puts into a request's context is the
    `net.Conn` itself (`ConnCtxKey`; `ServeHTTP` reads r.TLS from it when net/http left it nil):
    one `ConnContext` literal, one key, no `BaseContext` -/
theorem conn_context_values_match_source :
    Gen.httpConnContextKeys = ["ConnCtxKey"] ∧ Gen.httpConnContextLiterals = 1 ∧
    Gen.httpBaseContextSet = false := ⟨rfl, rfl, rfl⟩

-- connections: SNI c.t (catch-all policy 1, no client auth); a request for c.t passes, the next one for the
-- client-auth site a.t is refused, the one after that passes again
def nC : Bytes := [99, 46, 116]            -- "c.t"
def exConnPolicies : List Policy := [⟨[.sni [nA]], false, true⟩, ⟨[], false, false⟩]   -- sni a.t + client auth; catch-all
example : serveConn (effectiveStrict none exConnPolicies) [nA, nC] nC [nC, nA, nC ++ cColon :: [56, 48], [], nAup] =
    [.handler (some 1), .misdirected, .handler (some 1), .misdirected, .misdirected] := by decide +kernel
example : choose false exConnPolicies ⟨nC, fun _ => false⟩ = .config 1 ∧ choose false exConnPolicies ⟨nA, fun _ => false⟩ = .config 0 ∧
    noBrackets nC = true ∧ [nA, nC][0]? = some nA := by decide
example : (serveConn true [nA] nC [nC, nA])[1]? = some .misdirected ∧ (serveConn false [nA] nC [nC, nA])[1]? = some (.handler (some 0)) := by decide +kernel

end CaddyModel.C19
