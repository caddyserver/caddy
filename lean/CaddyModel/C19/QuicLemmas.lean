/-
C19 — the QUIC listener state machine (Quic.lean): the reload history in closed form and the
invariant `QInv` of every state a history within the protocol reaches.
-/
import CaddyModel.C19.Quic

namespace CaddyModel.C19

theorem reloadsFrom_run (n : Nat) : ∀ (k : Nat) (used : List Nat), (∀ u ∈ used, u ≤ k) →
    qrun allWrapped ⟨1, [k], k, [k]⟩ used (reloadsFrom k n) =
      some (⟨1, [k + n], k + n, [k + n]⟩, reloadAnswersFrom k n) := by
  induction n with
  | zero => intro k used _; simp [reloadsFrom, qrun, reloadAnswersFrom]
  | succ n ih =>
    intro k used hu
    have hmem : k + 1 ∉ used := fun hm => by have := hu (k + 1) hm; omega
    have ih' := ih (k + 1) ((k + 1) :: used)
      (List.forall_mem_cons.mpr ⟨Nat.le_refl _, fun u e => Nat.le_succ_of_le (hu u e)⟩)
    rw [show k + 1 + n = k + (n + 1) by omega] at ih'
    simp [reloadsFrom, qrun, qstep, hmem, openConf, closeConf, removeConf, allWrapped, reloadAnswersFrom, ih']

/-- what holds in EVERY state a history within the protocol can reach -/
structure QInv (s : QState) (used : List Nat) : Prop where
  refs_open : s.refs = s.openL.length
  refs_confs : s.refs = s.confs.length
  nodup_open : s.openL.Nodup
  nodup_confs : s.confs.Nodup
  same : ∀ k, k ∈ s.confs ↔ k ∈ s.openL
  used_open : ∀ k ∈ s.openL, k ∈ used
  active_live : s.refs > 0 → s.active ∈ s.openL

theorem qinv_init (used : List Nat) : QInv QState.init used := by
  constructor <;> simp [QState.init]

theorem qinv_open (s : QState) (used : List Nat) (k : Nat) (hi : QInv s used) (hk : k ∉ used) :
    QInv (openConf s k) (k :: used) := by
  have hko : k ∉ s.openL := fun hm => hk (hi.used_open k hm)
  have hkc : k ∉ s.confs := fun hm => hko ((hi.same k).mp hm)
  unfold openConf
  split
  · -- a new listener: `k` is its only config, registered, active and open
    constructor <;> simp
  · rename_i hr
    have hcont : s.confs.contains k = false := by simpa using hkc
    simp only [hcont, Bool.false_eq_true, if_false]
    exact
      { refs_open := by simp [hi.refs_open]
        refs_confs := by simp [hi.refs_confs]
        nodup_open := List.nodup_cons.mpr ⟨hko, hi.nodup_open⟩
        nodup_confs := by
          refine List.nodup_append.mpr ⟨hi.nodup_confs, by simp, ?_⟩
          intro a ha b hb; simp at hb; subst hb; exact fun e => hkc (e ▸ ha)
        same := by
          intro x
          simp only [List.mem_append, List.mem_cons, List.not_mem_nil, or_false]
          rw [hi.same x]; exact Or.comm
        used_open := List.cons_subset_cons k hi.used_open
        active_live := fun _ => List.mem_cons_of_mem _ (hi.active_live (Nat.pos_of_ne_zero hr)) }

theorem qinv_close (s : QState) (used : List Nat) (k : Nat) (hi : QInv s used) (hko : k ∈ s.openL) :
    QInv (closeConf true s k) used := by
  have hkc : k ∈ s.confs := (hi.same k).mpr hko
  unfold closeConf
  split
  · exact qinv_init used
  · rename_i hr
    simp only [if_true, removeConf]
    have hlenc : (s.confs.erase k).length = s.refs - 1 := by
      rw [List.length_erase_of_mem hkc, ← hi.refs_confs]
    have hleno : (s.openL.erase k).length = s.refs - 1 := by
      rw [List.length_erase_of_mem hko, ← hi.refs_open]
    have hsame : ∀ x, x ∈ s.confs.erase k ↔ x ∈ s.openL.erase k := by
      intro x
      rw [hi.nodup_confs.mem_erase_iff, hi.nodup_open.mem_erase_iff, hi.same x]
    exact
      { refs_open := hleno.symm
        refs_confs := hlenc.symm
        nodup_open := hi.nodup_open.erase k
        nodup_confs := hi.nodup_confs.erase k
        same := hsame
        used_open := fun x hx => hi.used_open x (List.mem_of_mem_erase hx)
        active_live := by
          intro _
          show (if s.active = k then (match s.confs.erase k with | c :: _ => c | [] => s.active) else s.active)
            ∈ s.openL.erase k
          rw [← hsame]
          by_cases ha : s.active = k
          · simp only [ha, if_true]
            cases hc : s.confs.erase k with
            | nil => rw [hc] at hlenc; simp at hlenc; omega
            | cons c cs => exact List.mem_cons_self ..
          · simp only [ha, if_false]
            have : s.active ∈ s.confs := (hi.same _).mpr (hi.active_live (by omega))
            exact hi.nodup_confs.mem_erase_iff.mpr ⟨ha, this⟩ }

theorem qinv_step (s : QState) (used : List Nat) (op : QOp) (s' : QState) (used' : List Nat)
    (obs : Option (Option Nat)) (hi : QInv s used)
    (h : qstep allWrapped s used op = some (s', used', obs)) : QInv s' used' := by
  revert h
  fun_cases qstep allWrapped s used op <;> rintro ⟨⟩
  case case3 k hused _ => exact qinv_open s used k hi (by simpa using hused)
  case case5 k hopen => exact qinv_close s used k hi (by simpa using hopen)
  case case6 => exact hi

theorem qinv_run (ops : List QOp) : ∀ (s : QState) (used : List Nat), QInv s used →
    ∀ sf answers, qrun allWrapped s used ops = some (sf, answers) → ∃ used', QInv sf used' := by
  intro s used hi sf answers h
  fun_induction qrun allWrapped s used ops generalizing answers
  case case1 used => cases h; exact ⟨used, hi⟩
  case case4 s used op ops s' used' obs hs sf' answers' hr ih =>
    cases h
    exact ih (qinv_step s used op s' used' obs hi hs) _ hr
  all_goals cases h

end CaddyModel.C19
