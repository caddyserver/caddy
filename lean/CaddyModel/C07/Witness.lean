/-
C07 — kernel-checked concrete facts next to the theorems, and the tactic `decide_bytes` that closes them.

1. *The old listing filter.*  Before /repo cfacd08 `directoryListing` called
   `fileHidden(entry.Name(), …)` with the bare entry name only (`listingNamesOld`), which
   `FastAbs` resolves against the working directory — a hide rule that is a path never hid a
   listing entry.  `listing_omits_hidden_full_fails` shows the clause is not vacuous: the old
   filter violates it; the current one (`listingNames`) does not, on the same input (`witness_listing_now_filtered`).
2. *The filter of cfacd08.*  It built the entry's path from the request URL (`listingNamesUrl`);
   when the listed directory was reached through an index name that is itself a directory, URL
   and directory differ and a path rule was still missed
   (`listing_omits_hidden_old_code_fails`).  The current filter joins the listed directory with
   the entry name.
3. *Glob syntax from the request* (a model fact, not a C07 violation: the match stays below the
   root).  `globSafeRepl` escapes `*`, `[`, `?` but not `\`, so the request `/\*` becomes the
   pattern `/\\*` (escaped backslash, live star).
-/
import CaddyModel.C07.Spec
import CaddyModel.Util.StrLemmas

namespace CaddyModel.C07

/-- kernel evaluation after every `str "…"` is replaced by its explicit character list: `String.toList`
    on a literal is what the kernel evaluates slowest.  Fixtures that hold literals are unfolded first. -/
macro "decide_bytes" : tactic => `(tactic| ((repeat rw [str_ofList]); decide +kernel))

/-- `/srv` with `a.txt` and `secret.txt` -/
def wFS : FS := fun n =>
  if n = str "/srv" then .dir [⟨str "a.txt", false⟩, ⟨str "secret.txt", false⟩]
  else if n = str "/srv/a.txt" then .file 1
  else if n = str "/srv/secret.txt" then .file 2
  else .missing

/-- root `/srv`, hide `/srv/secret.txt`, browse on -/
def wCfg : Cfg := ⟨str "/w", str "/srv", [str "/srv/secret.txt"], [], true, false, true, [], [], [], []⟩

theorem witness_file_is_hidden : (serve wFS wCfg (str "/secret.txt") (str "/secret.txt")).1 = .notFound := by
  unfold wFS wCfg; decide_bytes

theorem old_filter_shows_secret :
    (⟨str "secret.txt", false⟩ : Entry) ∈ [⟨str "a.txt", false⟩, ⟨str "secret.txt", false⟩] ∧
      showEntry ⟨str "secret.txt", false⟩ ∈ listingNamesOld wCfg [⟨str "a.txt", false⟩, ⟨str "secret.txt", false⟩] ∧
      entryHiddenByPath wCfg (str "/srv") ⟨str "secret.txt", false⟩ = true := by
  unfold wCfg; decide_bytes

/-- the OLD filter shows `secret.txt` in the listing of `/srv` although its path is hidden -/
theorem listing_omits_hidden_full_fails :
    ∃ (c : Cfg) (dir : Bytes) (es : List Entry) (e : Entry),
      e ∈ es ∧ showEntry e ∈ listingNamesOld c es ∧ entryHiddenByPath c dir e = true :=
  ⟨wCfg, str "/srv", _, _, old_filter_shows_secret⟩

theorem serve_wFS_root :
    serve wFS wCfg (str "/") (str "/") = (.listing (str "/srv") [str "a.txt"], [str "/srv", str "/srv"]) := by
  unfold wFS wCfg; decide_bytes

theorem witness_listing_now_filtered :
    (serve wFS wCfg (str "/") (str "/")).1 = .listing (str "/srv") [str "a.txt"] :=
  congrArg Prod.fst serve_wFS_root

/-- `/srv/sub` with `a.txt` and `secret.txt` -/
def wFS2 : FS := fun n =>
  if n = str "/srv" then .dir [⟨str "sub", true⟩]
  else if n = str "/srv/sub" then .dir [⟨str "a.txt", false⟩, ⟨str "secret.txt", false⟩]
  else if n = str "/srv/sub/a.txt" then .file 1
  else if n = str "/srv/sub/secret.txt" then .file 2
  else .missing

/-- root `/srv`, index name `sub`, hide `/srv/sub/secret.txt`, browse on -/
def wCfg2 : Cfg := ⟨str "/w", str "/srv", [str "/srv/sub/secret.txt"], [str "sub"], true, false, true, [], [], [], []⟩

/-- the filter of cfacd08 on `GET /`, which lists `/srv/sub` (the index name is a directory):
    it shows `secret.txt`, whose path is hidden -/
theorem listing_omits_hidden_old_code_fails :
    ∃ (c : Cfg) (path dir : Bytes) (es : List Entry) (e : Entry),
      e ∈ es ∧ showEntry e ∈ listingNamesUrl c path es ∧ entryHiddenByPath c dir e = true :=
  ⟨wCfg2, str "/", str "/srv/sub", [⟨str "a.txt", false⟩, ⟨str "secret.txt", false⟩],
    ⟨str "secret.txt", false⟩, by unfold wCfg2; decide_bytes⟩

theorem witness_index_dir_listing_now_filtered :
    (serve wFS2 wCfg2 (str "/") (str "/")).1 = .listing (str "/srv/sub") [str "a.txt"] := by
  unfold wFS2 wCfg2; decide_bytes

/-- request `/\*`: the escaped pattern still matches a different name -/
theorem glob_from_request_full_fails :
    ∃ (p name : Bytes), name ≠ p ∧ globMatch (globSafe p) name = some true :=
  ⟨[92, 42], [92, 120], by decide⟩

end CaddyModel.C07
