/-
C07 — helper lemmas about `MatchFile.selectFile`: the `first_exist` loop and the scanning policies select
among what `fs.Glob` returned for the entries (`Globbed`); a glob-free candidate pattern finds at most itself.
-/
import CaddyModel.C07.Model

namespace CaddyModel.C07

theorem fsGlob_nometa (fs : FS) (p : Bytes) (h : hasMeta p = false) (ms : List Bytes)
    (hm : (fsGlob fs (globFuel p) p).1 = some ms) : ∀ a ∈ ms, a = p := by
  by_cases hg : globMatch p [] = none
  · simp [fsGlob, globFuel, hg] at hm
  · by_cases he : (fs p).isErr = true <;> simp [fsGlob, globFuel, hg, h, he] at hm <;> subst hm <;> simp

theorem firstExisting_matched (fs : FS) (rc : Bytes) (cs : List Bytes) (a r : Bytes) (d : Bool)
    (h : (firstExisting fs rc cs).1 = .matched a r d) : a ∈ cs := by
  induction cs with
  | nil => simp [firstExisting] at h
  | cons c rest ih =>
    unfold firstExisting at h
    simp only [withTrace] at h
    split at h
    · split at h
      · simp [ih h]
      · simp at h; simp [h.1]
    · split at h
      · simp at h; simp [h.1]
      · simp [ih h]
    · simp [ih h]

/-- what `fs.Glob` found for some entry of the list -/
def Globbed (fs : FS) (rc path : Bytes) (ts : List TryFile) (a : Bytes) : Prop :=
  ∃ t ∈ ts, ∃ ms, (fsGlob fs (globFuel (candidatePattern rc t path)) (candidatePattern rc t path)).1 = some ms ∧ a ∈ ms

theorem Globbed.tail {fs : FS} {rc path : Bytes} {t : TryFile} {ts : List TryFile} {a : Bytes}
    (h : Globbed fs rc path ts a) : Globbed fs rc path (t :: ts) a :=
  h.imp fun _ ⟨ht, r⟩ => ⟨List.mem_cons_of_mem _ ht, r⟩

theorem Globbed.head {fs : FS} {rc path : Bytes} {t : TryFile} {ts : List TryFile} {a : Bytes} {ms tr}
    (hg : fsGlob fs (globFuel (candidatePattern rc t path)) (candidatePattern rc t path) = (some ms, tr)) (ha : a ∈ ms) :
    Globbed fs rc path (t :: ts) a :=
  ⟨t, List.mem_cons_self, ms, by rw [hg], ha⟩

/-- the only place where the glob-free restriction enters: such a pattern finds at most itself -/
theorem Globbed.nometa {fs : FS} {rc path : Bytes} {ts : List TryFile} {a : Bytes} (h : Globbed fs rc path ts a)
    (hm : ∀ t ∈ ts, hasMeta (candidatePattern rc t path) = false) : ∃ t ∈ ts, a = candidatePattern rc t path := by
  obtain ⟨t, ht, ms, hg, ha⟩ := h
  exact ⟨t, ht, fsGlob_nometa fs _ (hm t ht) ms hg a ha⟩

theorem tryLoop_globbed (fs : FS) (rc path : Bytes) (fb : Bool) (ts : List TryFile) (a r : Bytes) (d : Bool)
    (h : (tryLoop fs rc path fb ts).1 = .matched a r d) : Globbed fs rc path ts a := by
  revert h
  fun_induction tryLoop fs rc path fb ts <;> intro h
  case case1 => cases h
  case case2 hgl _ => cases h; exact .head hgl List.mem_cons_self
  case case4 hgl _ r2 tr2 _ hfe => exact .head hgl (firstExisting_matched fs rc _ a r d (by rw [hfe]; exact h))
  all_goals
    rename_i ih
    exact (ih h).tail

theorem scanStep_cases (pol : ScanPolicy) (best : Option (Bytes × Bool × Nat)) (c : Bytes) (n : Node) :
    scanStep pol best c n = best ∨ ∃ d k, scanStep pol best c n = some (c, d, k) := by
  fun_cases scanStep pol best c n <;> first | exact Or.inl rfl | exact Or.inr ⟨_, _, rfl⟩

theorem scanCandidates_mem (fs : FS) (pol : ScanPolicy) (cs : List Bytes) (best : Option (Bytes × Bool × Nat))
    (a : Bytes) (d : Bool) (k : Nat) (h : (scanCandidates fs pol cs best).1 = some (a, d, k)) :
    a ∈ cs ∨ ∃ d' k', best = some (a, d', k') := by
  revert h
  fun_induction scanCandidates fs pol cs best <;> intro h
  case case1 => exact Or.inr ⟨d, k, h⟩
  case case2 c cs best ih =>
    rcases ih h with hm | ⟨d', k', hb⟩
    · exact Or.inl (List.mem_cons_of_mem _ hm)
    · rcases scanStep_cases pol best c (fs c) with e | ⟨d2, k2, e⟩
      · exact Or.inr ⟨d', k', e ▸ hb⟩
      · rw [e] at hb; cases hb; exact Or.inl List.mem_cons_self

theorem scanLoop_globbed (fs : FS) (rc path : Bytes) (pol : ScanPolicy) (ts : List TryFile) (best : Option (Bytes × Bool × Nat))
    (a : Bytes) (d : Bool) (k : Nat) (h : (scanLoop fs rc path pol ts best).1 = some (a, d, k)) :
      Globbed fs rc path ts a ∨ ∃ d' k', best = some (a, d', k') := by
  revert h
  fun_induction scanLoop fs rc path pol ts best <;> intro h
  case case1 => exact Or.inr ⟨d, k, h⟩
  case case2 hgl best' tr2 hsc ih =>
    rcases ih h with hg | ⟨d', k', hb⟩
    · exact Or.inl hg.tail
    · exact (scanCandidates_mem fs pol _ _ a d' k' (by rw [hsc]; exact hb)).imp_left (.head hgl)
  case case3 ih => exact (ih h).imp_left .tail

theorem matchFileScan_globbed (fs : FS) (root : Bytes) (tries : List TryFile) (pol : ScanPolicy) (path a r : Bytes) (d : Bool)
    (h : (matchFileScan fs root tries pol path).1 = .matched a r d) :
    Globbed fs (pathClean (rootOrDot root)) path tries a := by
  revert h
  fun_cases matchFileScan fs root tries pol path <;> intro h <;> cases h
  rename_i k tr hs
  exact (scanLoop_globbed fs _ path pol tries none a d k (by rw [hs])).resolve_right fun ⟨_, _, hb⟩ => by cases hb

end CaddyModel.C07
