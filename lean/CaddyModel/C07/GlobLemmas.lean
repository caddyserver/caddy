/-
C07 — `globSafeRepl` does its job for request paths without a backslash: the escaped text,
used as a `path.Match` pattern, matches exactly the original text and nothing else.  A text without glob characters is its own
escaped form, so as a pattern it matches itself (`globMatch_self`: what makes a hide entry hide the path it denotes).
-/
import CaddyModel.C07.Model

namespace CaddyModel.C07

theorem scanSplit_globSafe (p : Bytes) (inr : Bool) (h : (92 : UInt8) ∉ p) :
    scanSplit (globSafe p) inr = (globSafe p, []) := by
  fun_induction globSafe p generalizing inr
  case case1 => rfl
  case case2 c cs hs ih =>
    rw [scanSplit]
    simp only [cEsc, if_true, pair1, ih inr (fun e => h (List.mem_cons_of_mem _ e))]
  case case3 c cs hs ih =>
    have hc : c ≠ 92 := fun e => h (e ▸ List.mem_cons_self)
    have ih := fun b => ih b (fun e => h (List.mem_cons_of_mem _ e))
    have h42 : c ≠ 42 := fun e => hs (Or.inl e)
    have h91 : c ≠ 91 := fun e => hs (Or.inr (Or.inl e))
    cases hg : globSafe cs with
    | nil => simp [scanSplit, cStar, h42]
    | cons d ds =>
      simp only [hg] at ih
      rw [scanSplit]
      simp only [cEsc, cOpen, cStar, cClose, hc, h91, h42, if_false, false_and, pair1, ih, ite_self]

theorem globSafe_head (p : Bytes) : (globSafe p).head? ≠ some cStar := by
  fun_cases globSafe p
  · simp
  · simp [cStar]
  · rename_i hs; simp [cStar]; exact fun e => hs (Or.inl e)

theorem scanChunk_globSafe (p : Bytes) (h : (92 : UInt8) ∉ p) : scanChunk (globSafe p) = (false, globSafe p, []) := by
  have hd : dropStars (globSafe p) = globSafe p := by
    have := globSafe_head p
    cases hg : globSafe p with
    | nil => rfl
    | cons x xs => rw [hg] at this; simp at this; simp [dropStars, this]
  unfold scanChunk
  rw [hd, scanSplit_globSafe p false h]
  simp [globSafe_head p]

theorem matchChunk_esc (f : Nat) (c : UInt8) (ct s : Bytes) (failed : Bool) :
    matchChunk (f + 1) (cEsc :: c :: ct) s failed =
      if (failed || s.isEmpty) = true then matchChunk f ct s true
      else matchChunk f ct (s.drop 1) (decide (s.head? ≠ some c)) := by
  simp only [matchChunk, cOpen, cQuest, cEsc, show (92 : UInt8) ≠ 91 by decide, show (92 : UInt8) ≠ 63 by decide, if_false, if_true]

theorem matchChunk_byte (f : Nat) (c : UInt8) (ct s : Bytes) (failed : Bool)
    (h1 : c ≠ cOpen) (h2 : c ≠ cQuest) (h3 : c ≠ cEsc) :
    matchChunk (f + 1) (c :: ct) s failed =
      if (failed || s.isEmpty) = true then matchChunk f ct s true
      else matchChunk f ct (s.drop 1) (decide (s.head? ≠ some c)) := by
  simp only [matchChunk, h1, h2, h3, if_false]

/-- what `matchChunk` computes on an escaped literal: a prefix test -/
def litResult (p s : Bytes) (failed : Bool) : Option Bytes :=
  if failed then none else if p.isPrefixOf s then some (s.drop p.length) else none

theorem litResult_cons (c : UInt8) (cs s : Bytes) (failed : Bool) (k : Bytes → Bool → Option (Option Bytes))
    (hk : ∀ s failed, k s failed = some (litResult cs s failed)) :
    (if (failed || s.isEmpty) = true then k s true else k (s.drop 1) (decide (s.head? ≠ some c)))
      = some (litResult (c :: cs) s failed) := by
  cases failed with
  | true => simp [hk, litResult]
  | false =>
    cases s with
    | nil => simp [hk, litResult]
    | cons x xs =>
      simp only [Bool.false_or, List.isEmpty_cons, Bool.false_eq_true, if_false, List.drop_one, List.tail_cons,
        List.head?_cons, hk]
      by_cases hx : x = c
      · subst hx; simp [litResult]
      · have : c ≠ x := fun e => hx e.symm
        simp [litResult, hx, this]

theorem matchChunk_globSafe : ∀ (p s : Bytes) (fuel : Nat) (failed : Bool), (92 : UInt8) ∉ p →
    (globSafe p).length < fuel → matchChunk fuel (globSafe p) s failed = some (litResult p s failed)
  | [], s, f + 1, failed, _, _ => by simp [globSafe, matchChunk, litResult]
  | c :: cs, s, f + 1, failed, h, hf => by
    have ih := fun hf s failed => matchChunk_globSafe cs s f failed (fun e => h (List.mem_cons_of_mem _ e)) hf
    rw [globSafe] at hf ⊢
    by_cases hs : c = 42 ∨ c = 91 ∨ c = 63
    · rw [if_pos hs] at hf ⊢
      exact (matchChunk_esc f c _ s failed).trans
        (litResult_cons c cs s failed _ (ih (by simp only [List.length_cons] at hf; omega)))
    · rw [if_neg hs] at hf ⊢
      exact (matchChunk_byte f c _ s failed (fun e => hs (Or.inr (Or.inl e))) (fun e => hs (Or.inr (Or.inr e)))
        (fun e => h (e ▸ List.mem_cons_self))).trans
        (litResult_cons c cs s failed _ (ih (by simp only [List.length_cons] at hf; omega)))

theorem litResult_eq_some_nil (p n : Bytes) : litResult p n false = some [] ↔ n = p := by
  simp only [litResult, Bool.false_eq_true, if_false]
  constructor
  · intro h
    split at h
    · rename_i hpre
      obtain ⟨t, rfl⟩ := List.isPrefixOf_iff_prefix.mp hpre
      simp at h; simp [h]
    · cases h
  · rintro rfl; simp

theorem globMatch_globSafe (p n : Bytes) (h : (92 : UInt8) ∉ p) :
    globMatch (globSafe p) n = some (decide (n = p)) := by
  unfold globMatch matchFuel
  by_cases hp : p = []
  · subst hp; simp [globSafe, matchLoop]
  · have hq : globSafe p ≠ [] := by fun_cases globSafe p <;> simp_all
    obtain ⟨m, hm⟩ : ∃ m, (globSafe p).length = m + 1 :=
      Nat.exists_eq_succ_of_ne_zero (by simpa using hq)
    rw [matchLoop]
    simp only [hq, if_false, scanChunk_globSafe p h, Bool.false_eq_true, false_and]
    unfold chunkMatch
    rw [matchChunk_globSafe p n _ false h (Nat.lt_succ_self _), hm]
    have key := litResult_eq_some_nil p n
    cases hl : litResult p n false with
    | none =>
      rw [hl] at key
      simpa [failPath, validateRest] using key
    | some t =>
      rw [hl] at key
      simp only [Option.some.injEq] at key
      by_cases ht : t = [] <;> simp [failPath, validateRest, matchLoop, ht, ← key]

theorem globSafe_id (p : Bytes) (h : hasMeta p = false) : globSafe p = p := by
  simp only [hasMeta, List.any_eq_false, decide_eq_true_eq] at h
  fun_induction globSafe p
  case case1 => rfl
  case case2 c cs hs _ => exact absurd (by rcases hs with e | e | e <;> simp [e]) (h c List.mem_cons_self)
  case case3 c cs _ ih => rw [ih fun x hx => h x (List.mem_cons_of_mem _ hx)]

theorem globMatch_self (p : Bytes) (h : hasMeta p = false) : globMatch p p = some true := by
  have hbs : (92 : UInt8) ∉ p := by
    simp only [hasMeta, List.any_eq_false, decide_eq_true_eq] at h
    exact fun hm => h 92 hm (by simp)
  simpa [globSafe_id p h] using globMatch_globSafe p p hbs

end CaddyModel.C07
