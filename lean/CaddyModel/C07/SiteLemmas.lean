/-
C07 — helper lemmas for the Caddyfile-site glue (Site.lean): what `rewrite` does to a path without `%` and `?`.
-/
import CaddyModel.C07.Site

namespace CaddyModel.C07

theorem cutAt_none (c : UInt8) (s : Bytes) (h : c ∉ s) : cutAt c s = (s, []) := by
  fun_induction cutAt c s <;> simp_all

theorem validEsc_noPercent (s : Bytes) (h : (37 : UInt8) ∉ s) : validEsc s = true := by
  fun_induction validEsc s <;> simp_all

theorem unescapeAll_noPercent (s : Bytes) (h : (37 : UInt8) ∉ s) : unescapeAll s = s := by
  fun_induction unescapeAll s <;> simp_all

end CaddyModel.C07
