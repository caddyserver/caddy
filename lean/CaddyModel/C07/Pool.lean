/-
C07 — the render buffer of `serveBrowse` (browse.go): listings are rendered into a `bytes.Buffer`
taken from the package-level `bufPool` (a `sync.Pool` shared by every file_server instance of
the process) and then copied to the client with `buf.WriteTo(w)`.

    buf := bufPool.Get().(*bytes.Buffer)
    buf.Reset()
    defer bufPool.Put(buf)
    … render the listing into buf …          (may return early with an error)
    _, _ = buf.WriteTo(w)                     (stops at the first write error, keeps the rest)

`WriteTo` empties the buffer only when the client took everything; a listing that was rendered
but not (completely) delivered goes back into the pool.  What `Get` hands out next is any buffer
that was ever put back — the model takes it as an arbitrary byte string.  `Reset` is what makes
the response a function of the request alone.
-/
import CaddyModel.C07.Model

namespace CaddyModel.C07

/-- one browse request as the buffer sees it -/
structure BufUse where
  rendered : Bytes      -- what the request renders: a function of its own configuration and directory
  deliver : Nat         -- how many bytes the client takes before its connection fails (≥ length: all;
                        -- 0 also stands for an early return before `WriteTo`)

/-- one use of a pooled buffer `got`: (bytes sent to the client, buffer put back).
    `reset = true` is the code; `reset = false` is the code without `buf.Reset()`. -/
def bufStep (reset : Bool) (got : Bytes) (u : BufUse) : Bytes × Bytes :=
  (((if reset then [] else got) ++ u.rendered).take u.deliver,
   ((if reset then [] else got) ++ u.rendered).drop u.deliver)

/-- a request of a sequence: its filesystem, instance configuration, paths, and the client's fault -/
structure SeqReq where
  fs : FS
  cfg : Cfg
  path : Bytes
  orig : Bytes
  deliver : Nat

/-- the body a browse request renders (`render` = JSON / text / template rendering of the listing) -/
def listingBody (render : Bytes → List Bytes → Bytes) (q : SeqReq) : Option Bytes :=
  match (serve q.fs q.cfg q.path q.orig).1 with
  | .listing d ns => some (render d ns)
  | _ => none

/-- a sequence of requests served by one process.  `pool` is the buffer the pool holds (what the
    next `Get` returns); requests that do not end in a listing do not touch it. -/
def serveSeq (reset : Bool) (render : Bytes → List Bytes → Bytes) : Bytes → List SeqReq → List (Option Bytes)
  | _, [] => []
  | pool, q :: qs =>
    match listingBody render q with
    | none => none :: serveSeq reset render pool qs
    | some b => some (bufStep reset pool ⟨b, q.deliver⟩).1 :: serveSeq reset render (bufStep reset pool ⟨b, q.deliver⟩).2 qs

theorem bufStep_reset (got : Bytes) (u : BufUse) : (bufStep true got u).1 = u.rendered.take u.deliver := by
  simp [bufStep]

/-- the answer each request gets when served alone by a fresh process -/
def aloneAnswers (render : Bytes → List Bytes → Bytes) (qs : List SeqReq) : List (Option Bytes) :=
  qs.map fun q => (listingBody render q).map (·.take q.deliver)

theorem serveSeq_reset (render : Bytes → List Bytes → Bytes) : ∀ (qs : List SeqReq) (pool : Bytes),
    serveSeq true render pool qs = aloneAnswers render qs := by
  intro qs
  induction qs with
  | nil => intro _; rfl
  | cons q rest ih =>
    intro pool
    unfold serveSeq aloneAnswers
    cases h : listingBody render q with
    | none => simp [h]; exact ih pool
    | some b => simp [h, bufStep_reset]; exact ih _

end CaddyModel.C07
