/-
C07 — property theorems.

Statement: for every request path, however encoded or malformed, the file server returns only
the contents or listing of files located under the configured site root, and never the contents
or a listing entry of anything matching a hide rule; every other request ends in not-found (or
is passed on when pass-through is set).  The same containment holds for the file-existence
matcher used by try_files.

All theorems quantify over ALL byte strings (NUL, `\`, `%`, invalid UTF-8 …), all
configurations and all filesystems `fs : Bytes → Node`; nothing is bounded.  Containment is
lexical (`Under`): symlinks, `net/http`'s URL decoding and `http.ServeContent` are outside the
model.  `Witness.lean` holds the concrete counter-examples about the two earlier listing filters and about glob syntax
surviving `globSafeRepl`; those about the old etag and sidecar lookups and
about a pool without reset stand here, next to the theorems they belong to.
-/
import CaddyModel.C07.ServeLemmas
import CaddyModel.C07.MatchLemmas
import CaddyModel.C07.ListingLemmas
import CaddyModel.C07.GlobLemmas
import CaddyModel.C07.GlobFuel
import CaddyModel.C07.Pool
import CaddyModel.C07.RedirectLemmas
import CaddyModel.C07.SiteLemmas
import CaddyModel.C07.Witness

namespace CaddyModel.C07

/-- Whatever the request path is, `SanitizedPathJoin(root, req)` is the
    cleaned root followed by `Normal` elements only (plus possibly one trailing `/`). -/
theorem join_contained (root req : Bytes) : UnderS (pathClean (rootOrDot root)) (sanitizedPathJoin root req) :=
  sanitizedPathJoin_underS root req

example : sanitizedPathJoin (str "/srv/site/") (str "/a/../../..\\/%2e%2e/\x00/../../etc/passwd/")
    = str "/srv/site/..\\/etc/passwd/" := by decide_bytes
example : sanitizedPathJoin (str "") (str "/../../x") = str "x" := by decide_bytes

/-- the same, in the familiar prefix form, for a root that is neither `/` nor `.` -/
theorem join_contained_prefix (root req : Bytes)
    (h1 : pathClean (rootOrDot root) ≠ [slash]) (h2 : pathClean (rootOrDot root) ≠ dotB) :
    sanitizedPathJoin root req = pathClean (rootOrDot root) ∨
      (pathClean (rootOrDot root) ++ [slash]) <+: sanitizedPathJoin root req := by
  rcases join_contained root req with h | ⟨q, hq, h⟩
  · exact under_prefix h h1 h2
  · rw [h]
    exact Or.inr ((under_prefix hq h1 h2).elim (fun e => e ▸ List.prefix_refl _) fun hp => hp.trans (List.prefix_append _ _))

example : pathClean (rootOrDot (str "/srv/site/")) ≠ [slash] ∧ pathClean (rootOrDot (str "/srv/site/")) ≠ dotB := by
  decide_bytes

/-- root `/`, which `join_contained_prefix` leaves out: the result is absolute (for root `.`, left out as well, nothing is stated) -/
theorem join_contained_slash_root (root req : Bytes) (h : pathClean (rootOrDot root) = [slash]) :
    [slash] <+: sanitizedPathJoin root req := by
  rcases join_contained root req with ⟨l, _, hs⟩ | ⟨_, ⟨l, _, rfl⟩, hs⟩ <;> rw [hs, h] <;> unfold attach <;>
    by_cases hl : l = [] <;> simp [hl]

example : pathClean (rootOrDot (str "//")) = [slash] := by decide

/-- Below a root without `..` elements the result has no `..` element:
    no request can make the joined path step upwards. -/
theorem join_no_dotdot (root req : Bytes) (hroot : dotdot ∉ splitSlash (pathClean (rootOrDot root))) :
    dotdot ∉ splitSlash (sanitizedPathJoin root req) := by
  rcases join_contained root req with h | ⟨q, hq, h⟩
  · exact under_no_dotdot h hroot
  · -- the trailing slash adds an empty piece
    rw [h, splitSlash_append _ []]
    exact fun hm => (List.mem_append.mp hm).elim (under_no_dotdot hq hroot) (by decide)

example : dotdot ∉ splitSlash (pathClean (rootOrDot (str "/srv/x/../site"))) := by decide_bytes

/-- the `filepath.IsLocal` rejection inside `SanitizedPathJoin` is dead code on unix: the
    cleaned request is always local -/
theorem isLocal_rejection_never_fires (req : Bytes) : rejectedAsNonLocal req = false := never_rejected req

example : relOf (str "/../..//a/./../b") = str "b" := by decide_bytes

/-- If the handler answers with the bytes of a file, that file was
    opened under a name below the site root, the name is not hidden, and the bytes are those the
    filesystem holds for exactly that name.  (`fs [] = .missing`: the empty name does not exist,
    as on POSIX.) -/
theorem served_path_under_root (fs : FS) (c : Cfg) (path orig p : Bytes) (id : Nat) (hfs : fs [] = .missing)
    (h : (serve fs c path orig).1 = .file p id) :
    UnderS c.rootC p ∧ c.hidden p = false ∧ fs p = .file id :=
  serve_eq_justified hfs h

/-- a directory listing is the listing of a non-hidden directory below the site root, and its
    names are the directory's entries filtered by `listingNames` -/
theorem listed_dir_under_root (fs : FS) (c : Cfg) (path orig p : Bytes) (ns : List Bytes) (hfs : fs [] = .missing)
    (h : (serve fs c path orig).1 = .listing p ns) :
    UnderS c.rootC p ∧ c.hidden p = false ∧ ∃ es, fs p = .dir es ∧ ns = listingNames c p es :=
  serve_eq_justified hfs h

example : (serve wFS wCfg (str "/a.txt") (str "/a.txt")).1 = .file (str "/srv/a.txt") 1 := by
  unfold wFS wCfg; decide_bytes
example : (serve wFS wCfg (str "/sub/..\\/../../.././a.txt") (str "/x")).1 = .file (str "/srv/a.txt") 1 := by
  unfold wFS wCfg; decide_bytes
example : wFS [] = .missing := by unfold wFS; decide_bytes

/-- A listing shows exactly the entries of the listed
    directory that are hidden neither as a bare name nor by their path `dir/name` (nothing else is
    dropped) — for every request, every index configuration (also when an index name that is itself
    a directory led to the listed directory; the two earlier filters fail there or everywhere, see
    `listing_omits_hidden_old_code_fails` (Witness.lean)) and every entry name.  The only hypothesis: the
    empty name does not exist. -/
theorem listing_is_exactly_the_unhidden_entries (fs : FS) (c : Cfg) (path orig dir : Bytes) (names : List Bytes)
    (hfs : fs [] = .missing) (h : (serve fs c path orig).1 = .listing dir names) :
    ∃ es, fs dir = .dir es ∧
      names = (es.filter fun e => !(c.hidden e.name || entryHiddenByPath c dir e)).map showEntry := by
  obtain ⟨hu, _, es, hes, hn⟩ := listed_dir_under_root fs c path orig dir names hfs h
  refine ⟨es, hes, ?_⟩
  rw [hn, listingNames]
  congr 1
  apply List.filter_congr
  intro e _
  unfold entryHiddenByPath
  rw [entry_hidden_eq c dir e.name (underS_ne_nil hu)]

/-- In particular every name a listing shows belongs to an entry of the
    listed directory that is hidden neither as a bare name nor by its path `dir/name`. -/
theorem listing_omits_hidden (fs : FS) (c : Cfg) (path orig dir : Bytes) (names : List Bytes)
    (hfs : fs [] = .missing) (h : (serve fs c path orig).1 = .listing dir names) :
    ∃ es, fs dir = .dir es ∧
      ∀ n ∈ names, ∃ e ∈ es, n = showEntry e ∧ c.hidden e.name = false ∧ entryHiddenByPath c dir e = false := by
  obtain ⟨es, hes, hn⟩ := listing_is_exactly_the_unhidden_entries fs c path orig dir names hfs h
  refine ⟨es, hes, fun n hmem => ?_⟩
  rw [hn] at hmem
  simp only [List.mem_map, List.mem_filter, Bool.not_eq_true', Bool.or_eq_false_iff] at hmem
  obtain ⟨e, ⟨he, hh⟩, rfl⟩ := hmem
  exact ⟨e, he, rfl, hh⟩

-- a path rule and a component rule both filter the listing
example : (serve wFS wCfg (str "/") (str "/")).1 = .listing (str "/srv") [str "a.txt"] := witness_listing_now_filtered
example : (serve wFS { wCfg with hide := [str "secret.txt"] } (str "//./x/..") (str "/")).1
    = .listing (str "/srv") [str "a.txt"] := by unfold wFS wCfg; decide_bytes
-- also when the listed directory was reached through an index name that is a directory
example : (serve wFS2 wCfg2 (str "/") (str "/")).1 = .listing (str "/srv/sub") [str "a.txt"] :=
  witness_index_dir_listing_now_filtered
example : entryHiddenByPath wCfg (str "/srv") ⟨str "secret.txt", false⟩ = true := old_filter_shows_secret.2.2

/-- On a filesystem that answers every name with "missing",
    a file or a directory, a request ends in exactly one of: the bytes of a non-hidden file below
    the root (or of its precompressed sidecar, see `sidecar_only_for_servable_file`), the listing
    of a non-hidden directory below the root, the canonical-URI redirect, or — every other
    request — 404 when pass-thru is off and the next handler when it is on.  (With
    `etag_file_extensions`: such a file or sidecar with the Etag of its etag file, see
    `etag_only_from_the_served_files_etag_file`, or 500 when an etag file exists but cannot be read.) -/
theorem otherwise_not_found_or_passthru (fs : FS) (c : Cfg) (path orig : Bytes) (hfs : fs [] = .missing)
    (hne : NoErrors fs) :
    (∃ p id, (serve fs c path orig).1 = .file p id ∧ UnderS c.rootC p ∧ c.hidden p = false ∧ fs p = .file id) ∨
    (∃ p id enc, (serve fs c path orig).1 = .sidecar p id enc) ∨
    (∃ o n id, (serve fs c path orig).1 = .withEtag o n id) ∨
    ((serve fs c path orig).1 = .serverError ∧ c.etagExt ≠ []) ∨
    (∃ p ns, (serve fs c path orig).1 = .listing p ns ∧ UnderS c.rootC p ∧ c.hidden p = false) ∨
    (∃ l, (serve fs c path orig).1 = .redirect l) ∨
    ((serve fs c path orig).1 = .notFound ∧ c.passThru = false) ∨
    ((serve fs c path orig).1 = .passThru ∧ c.passThru = true) := by
  have hj := serve_justified fs c path orig hfs
  cases ho : (serve fs c path orig).1 with
  | file p id => rw [ho] at hj; exact Or.inl ⟨p, id, rfl, hj⟩
  | sidecar p id enc => exact Or.inr (Or.inl ⟨p, id, enc, rfl⟩)
  | withEtag o n id => exact Or.inr (Or.inr (Or.inl ⟨o, n, id, rfl⟩))
  | listing p ns => rw [ho] at hj; exact Or.inr (Or.inr (Or.inr (Or.inr (Or.inl ⟨p, ns, rfl, hj.1, hj.2.1⟩))))
  | redirect l => exact Or.inr (Or.inr (Or.inr (Or.inr (Or.inr (Or.inl ⟨l, rfl⟩)))))
  | notFound => rw [ho] at hj; exact Or.inr (Or.inr (Or.inr (Or.inr (Or.inr (Or.inr (Or.inl ⟨rfl, hj⟩))))))
  | passThru => rw [ho] at hj; exact Or.inr (Or.inr (Or.inr (Or.inr (Or.inr (Or.inr (Or.inr ⟨rfl, hj⟩))))))
  | forbidden =>
    rw [ho] at hj; obtain ⟨n, hn⟩ := hj
    rcases hne n with h | ⟨_, h⟩ | ⟨_, h⟩ <;> rw [h] at hn <;> cases hn
  | serverError =>
    rw [ho] at hj; obtain ⟨n, hn | ⟨he, _⟩⟩ := hj
    · rcases hne n with h | ⟨_, h⟩ | ⟨_, h⟩ <;> rw [h] at hn <;> cases hn
    · exact Or.inr (Or.inr (Or.inr (Or.inl ⟨rfl, he⟩)))
  | unavailable => rw [ho] at hj; exact absurd hj id

/-- with filesystem errors: 403 only if some name answered "permission", 500 only if some name
    answered with an unclassified error (or an etag file exists and cannot be read), 503 never
    (static filesystem) -/
theorem error_outcomes_come_from_the_filesystem (fs : FS) (c : Cfg) (path orig : Bytes) (hfs : fs [] = .missing) :
    ((serve fs c path orig).1 = .forbidden → ∃ n, fs n = .perm) ∧
    ((serve fs c path orig).1 = .serverError →
      ∃ n, fs n = .other ∨ (c.etagExt ≠ [] ∧ fs n ≠ .missing ∧ ∀ id, fs n ≠ .file id)) ∧
    (serve fs c path orig).1 ≠ .unavailable :=
  ⟨serve_eq_justified hfs, serve_eq_justified hfs, fun h => serve_eq_justified hfs h⟩

example : NoErrors wFS := fun n => by
  by_cases h1 : n = str "/srv"
  · exact Or.inr (Or.inr ⟨_, if_pos h1⟩)
  by_cases h2 : n = str "/srv/a.txt"
  · exact Or.inr (Or.inl ⟨1, (if_neg h1).trans (if_pos h2)⟩)
  by_cases h3 : n = str "/srv/secret.txt"
  · exact Or.inr (Or.inl ⟨2, (if_neg h1).trans ((if_neg h2).trans (if_pos h3))⟩)
  · exact Or.inl ((if_neg h1).trans ((if_neg h2).trans (if_neg h3)))
example : (serve wFS wCfg (str "/../etc/passwd") (str "/")).1 = .notFound := by unfold wFS wCfg; decide_bytes
example : (serve wFS { wCfg with passThru := true } (str "/secret.txt") (str "/")).1 = .passThru := by
  unfold wFS wCfg; decide_bytes

/-- Every name the handler hands to the filesystem is the empty name,
    a name below the site root, such a name extended by the suffix of a configured precompressor
    and / or a configured etag extension (`SidecarName`), or a `/`-boundary prefix of the requested file (stat'ed only, by
    `mapDirOpenError`, to turn ENOTDIR into not-found). -/
theorem fs_accesses_contained (fs : FS) (c : Cfg) (path orig : Bytes) (hfs : fs [] = .missing) :
    ∀ n ∈ (serve fs c path orig).2,
      n = [] ∨ UnderS c.rootC n ∨ (∃ f, UnderS c.rootC f ∧ SidecarName c f n) ∨
        SlashPrefix (requestFile c path) n :=
  (serve_spec fs c path orig).2.1 hfs

/-- When the `Etag` header is taken from a file, that
    file is `name ++ ext` for a configured `etag_file_extensions` entry, where `name` is exactly
    the name under which the served bytes were opened (the file, or its sidecar), the etag file is
    not hidden, and the served outcome itself is justified as without the etag. -/
theorem etag_only_from_the_served_files_etag_file (fs : FS) (c : Cfg) (path orig n : Bytes) (o : Outcome) (id : Nat)
    (hfs : fs [] = .missing) (h : (serve fs c path orig).1 = .withEtag o n id) :
    Justified fs c path o ∧
      ∃ f ext, o.servedName = some f ∧ ext ∈ c.etagExt ∧ n = f ++ ext ∧ fs n = .file id ∧ c.hidden n = false :=
  serve_eq_justified hfs h

/-- The content of an etag file that matches a hide rule is never sent. -/
theorem etag_honours_hide (fs : FS) (c : Cfg) (path orig n : Bytes) (o : Outcome) (id : Nat)
    (hfs : fs [] = .missing) (h : (serve fs c path orig).1 = .withEtag o n id) : c.hidden n = false := by
  obtain ⟨_, _, _, _, _, _, _, hh⟩ := etag_only_from_the_served_files_etag_file fs c path orig n o id hfs h
  exact hh

/-- `/srv/a.txt` with its etag file -/
def etFS : FS := fun n =>
  if n = str "/srv" then .dir [⟨str "a.txt", false⟩, ⟨str "a.txt.etag", false⟩]
  else if n = str "/srv/a.txt" then .file 1
  else if n = str "/srv/a.txt.etag" then .file 2
  else .missing

def etCfg : Cfg :=
  { cwd := str "/w", root := str "/srv", hide := [str "*.etag"], index := [], browse := true, passThru := false,
    canonical := true, etagExt := [str ".md5", str ".etag"] }

example : (serve etFS { etCfg with hide := [] } (str "/a.txt") (str "/a.txt")).1
    = .withEtag (.file (str "/srv/a.txt") 1) (str "/srv/a.txt.etag") 2 := by unfold etFS etCfg; decide_bytes

-- hidden by `*.etag`: no etag file is used
example : (serve etFS etCfg (str "/a.txt") (str "/a.txt")).1 = .file (str "/srv/a.txt") 1 := by
  unfold etFS etCfg; decide_bytes

/-- The lookup as it was (`findEtagOld`): the etag file
    matches the hide rule `*.etag` — requested directly it is 404, it is not listed — and its
    content was still chosen for the `Etag` header of `/a.txt`. -/
theorem etag_honours_hide_old_code_fails :
    etCfg.hidden (str "/srv/a.txt.etag") = true ∧
    (serve etFS etCfg (str "/a.txt.etag") (str "/a.txt.etag")).1 = .notFound ∧
    (serve etFS etCfg (str "/") (str "/")).1 = .listing (str "/srv") [str "a.txt"] ∧
    (findEtagOld etFS (str "/srv/a.txt") etCfg.etagExt).1 = some (some (str "/srv/a.txt.etag", 2)) := by
  unfold etFS etCfg; decide_bytes

/-- A precompressed sidecar is served only in place of a file
    that would itself be served: its name is `f ++ suffix` for a configured precompressor whose
    encoding `AcceptedEncodings` returned, where `f` is below the root, not hidden and an existing
    file; the sidecar itself is not hidden, and the bytes are what the filesystem holds under
    exactly that name. -/
theorem sidecar_only_for_servable_file (fs : FS) (c : Cfg) (path orig p : Bytes) (id : Nat) (enc : Bytes)
    (hfs : fs [] = .missing) (h : (serve fs c path orig).1 = .sidecar p id enc) :
    ∃ f suf, p = f ++ suf ∧ (enc, suf) ∈ c.pre ∧ enc ∈ c.accepted ∧
      UnderS c.rootC f ∧ c.hidden f = false ∧ (∃ id0, fs f = .file id0) ∧ fs p = .file id ∧ c.hidden p = false :=
  serve_eq_justified hfs h

/-- The bytes of a precompressed sidecar that matches a hide rule are
    never sent. -/
theorem sidecar_honours_hide (fs : FS) (c : Cfg) (path orig p : Bytes) (id : Nat) (enc : Bytes)
    (hfs : fs [] = .missing) (h : (serve fs c path orig).1 = .sidecar p id enc) : c.hidden p = false := by
  obtain ⟨_, _, _, _, _, _, _, _, _, hh⟩ := sidecar_only_for_servable_file fs c path orig p id enc hfs h
  exact hh

/-- without a configured precompressor, or without an accepted encoding, no sidecar is served -/
theorem no_sidecar_unless_negotiated (fs : FS) (c : Cfg) (path orig p : Bytes) (id : Nat) (enc : Bytes)
    (hfs : fs [] = .missing) (h : c.pre = [] ∨ c.accepted = []) : (serve fs c path orig).1 ≠ .sidecar p id enc := by
  intro hs
  obtain ⟨_, suf, _, h1, h2, _⟩ := sidecar_only_for_servable_file fs c path orig p id enc hfs hs
  rcases h with h | h
  · rw [h] at h1; cases h1
  · rw [h] at h2; cases h2

/-- `/srv` with `a.txt` and its gzip sidecar -/
def gzFS : FS := fun n =>
  if n = str "/srv" then .dir [⟨str "a.txt", false⟩, ⟨str "a.txt.gz", false⟩]
  else if n = str "/srv/a.txt" then .file 1
  else if n = str "/srv/a.txt.gz" then .file 2
  else .missing

def gzCfg : Cfg :=
  { cwd := str "/w", root := str "/srv", hide := [str "*.gz"], index := [], browse := true, passThru := false,
    canonical := true, pre := [(str "gzip", str ".gz")], accepted := [str "br", str "gzip"] }

-- not hidden: the sidecar is served
example : (serve gzFS { gzCfg with hide := [] } (str "/a.txt") (str "/a.txt")).1
    = .sidecar (str "/srv/a.txt.gz") 2 (str "gzip") := by unfold gzFS gzCfg; decide_bytes
-- hidden by `*.gz`: the file itself is served
example : (serve gzFS gzCfg (str "/a.txt") (str "/a.txt")).1 = .file (str "/srv/a.txt") 1 := by
  unfold gzFS gzCfg; decide_bytes

/-- The lookup as it was (`findSidecarOld`): the sidecar
    matches the hide rule `*.gz` — requested directly it is 404, it is not listed — and it was
    still chosen as what a gzip-accepting client gets for `/a.txt`. -/
theorem sidecar_honours_hide_old_code_fails :
    gzCfg.hidden (str "/srv/a.txt.gz") = true ∧
    (serve gzFS gzCfg (str "/a.txt.gz") (str "/a.txt.gz")).1 = .notFound ∧
    (serve gzFS gzCfg (str "/") (str "/")).1 = .listing (str "/srv") [str "a.txt"] ∧
    (findSidecarOld gzFS gzCfg (str "/srv/a.txt") gzCfg.accepted).1 = some (str "/srv/a.txt.gz", 2, str "gzip") := by
  unfold gzFS gzCfg; decide_bytes
example : (serve gzFS { gzCfg with accepted := [] } (str "/a.txt") (str "/a.txt")).1 = .file (str "/srv/a.txt") 1 := by
  unfold gzFS gzCfg; decide_bytes

example : (serve wFS wCfg (str "/") (str "/")).2 = [str "/srv", str "/srv"] := congrArg Prod.snd serve_wFS_root

/-- Every pattern the matcher builds from a `try_files` entry
    and the request path is below the (cleaned) root. -/
theorem matcher_candidates_contained (root : Bytes) (t : TryFile) (path : Bytes) :
    UnderS (pathClean (rootOrDot root)) (candidatePattern (pathClean (rootOrDot root)) t path) :=
  sanitizedPathJoin_under (rootOrDot root) (pathClean (rootOrDot root)) (candidateRel t path) (under_refl _)

example : candidatePattern (pathClean (rootOrDot (str "/srv/"))) ⟨[], true, str ".html", []⟩ (str "/../../etc/x*")
    = str "/srv/etc/x\\*.html" := by decide_bytes

/-- when no candidate pattern contains a glob character, a match is one of the candidates
    themselves — in particular it is below the root -/
theorem matcher_result_contained (fs : FS) (root : Bytes) (tries : List TryFile) (fb : Bool) (path a r : Bytes) (d : Bool)
    (hm : ∀ t ∈ tries, hasMeta (candidatePattern (pathClean (rootOrDot root)) t path) = false)
    (h : (matchFile fs root tries fb path).1 = .matched a r d) :
    UnderS (pathClean (rootOrDot root)) a := by
  obtain ⟨t, _, rfl⟩ := (tryLoop_globbed fs _ path fb tries a r d h).nometa hm
  exact matcher_candidates_contained root t path

example : (matchFile wFS (str "/srv") [⟨[], true, [], []⟩] false (str "/x/../a.txt")).1
    = .matched (str "/srv/a.txt") (str "/a.txt") false := by unfold wFS; decide_bytes

/-- The same for the scanning policies (`largest_size`,
    `smallest_size`, `most_recently_modified`) and with any `split_path`: the selected file is one
    of the candidates, hence below the root. -/
theorem matcher_scan_result_contained (fs : FS) (root : Bytes) (tries : List TryFile) (pol : ScanPolicy) (path a r : Bytes) (d : Bool)
    (hm : ∀ t ∈ tries, hasMeta (candidatePattern (pathClean (rootOrDot root)) t path) = false)
    (h : (matchFileScan fs root tries pol path).1 = .matched a r d) :
    UnderS (pathClean (rootOrDot root)) a := by
  obtain ⟨t, _, rfl⟩ := (matchFileScan_globbed fs root tries pol path a r d h).nometa hm
  exact matcher_candidates_contained root t path

example : (matchFileScan wFS (str "/srv") [⟨str "/secret.txt", false, [], []⟩, ⟨str "/a.txt", false, [], []⟩] .recent (str "/")).1
    = .matched (str "/srv/secret.txt") (str "/secret.txt") false := by unfold wFS; decide_bytes
-- split_path: `/a.txt/more` is tried as `/a.txt`; a split at the very end of the path is not found
example : candidateRel ⟨[], true, [], [str ".txt"]⟩ (str "/a.txt/more") = str "/a.txt" ∧
    candidateRel ⟨[], true, [], [str ".TXT"]⟩ (str "/x/a.txt") = str "/x/a.txt" := by decide_bytes

/-
**glob_from_request** — full statement (violated, see `glob_from_request_full_fails` (Witness.lean)):
    globMatch (globSafe p) name = some true → name = p
The containment clause of the property does not depend on it (`matcher_candidates_contained`).
-/

/-- For a request text without a backslash (decidable exclusion),
    the text escaped by `globSafeRepl` is a pattern that matches exactly that text: no `*`, `?`
    or `[…]` of the request is ever live, and the pattern is never malformed. -/
theorem glob_from_request_partial (p name : Bytes) (h : (92 : UInt8) ∉ p) :
    globMatch (globSafe p) name = some (decide (name = p)) := globMatch_globSafe p name h

example : (92 : UInt8) ∉ str "a*b[c-d]?^-]" := by decide_bytes
example : globMatch (globSafe (str "a*b[c-d]?")) (str "a*b[c-d]?") = some true := by decide_bytes
example : globMatch (globSafe (str "a*")) (str "ab") = some false := by decide
example : globMatch (str "a*") (str "ab") = some true := by decide

/-- The index names the examples and the driver use for an
    omitted `index_names` are the literals of `var defaultIndexNames` in staticfiles.go, regenerated
    from the source on every run: if the source changes, this theorem (and whatever depends on
    the two names) is re-examined. -/
theorem default_index_names_match_source : defaultIndexNames = [str "index.html", str "index.txt"] := rfl

example : (serve wFS2 { wCfg2 with index := defaultIndexNames, browse := false } (str "/") (str "/")).1 = .notFound := by
  unfold wFS2 wCfg2; decide_bytes

/-- What `FileServer.Provision` and `MatchFile.Provision` put in
    place of empty fields, read off the source on every run: both read the filesystem and the root
    from the SAME request variables (`{http.vars.fs}`, `{http.vars.root}` — what the `fs` and `root`
    directives set), which is what makes `try_files` and `file_server` agree on the root (op `site`
    exercises it dynamically). -/
theorem provision_defaults_match_source :
    CaddyModel.Gen.fileserverProvisionDefaults =
      [("FileServer", "FileSystem", "\"{http.vars.fs}\""), ("FileServer", "Root", "\"{http.vars.root}\""),
       ("FileServer", "IndexNames", "defaultIndexNames"),
       ("MatchFile", "Root", "\"{http.vars.root}\""), ("MatchFile", "FileSystem", "\"{http.vars.fs}\""),
       ("MatchFile", "TryFiles", "[{http.request.uri.path}]")] := rfl

/-- walks the calls of `ServeHTTP` in source order, remembering which variables have been handed
    to `fileHidden`: every `openFile x`, `serveBrowse x` and every `fs.Stat` of a derived name
    (index file, sidecar) needs an earlier `fileHidden x` -/
def guardedCalls : List (String × String) → List String → Bool
  | [], _ => true
  | (f, x) :: rest, seen =>
    if f = "fileHidden" then guardedCalls rest (x :: seen)
    else if f = "fsrv.openFile" ∨ f = "fsrv.serveBrowse" ∨ (f = "fs.Stat" ∧ x ≠ "filename") then
      seen.contains x && guardedCalls rest seen
    else guardedCalls rest seen

/-- A static second line behind the dynamic checks: in the
    source of `FileServer.ServeHTTP` (regenerated call list) no file is opened, no directory
    listed and no derived name stat'ed without an earlier `fileHidden` on the same variable. -/
theorem serve_http_hide_checks_precede_opens : guardedCalls CaddyModel.Gen.serveHTTPCalls [] = true := by decide +kernel

example : guardedCalls [("fs.Stat", "filename"), ("fsrv.openFile", "filename")] [] = false := by decide +kernel

/-- The `Location` of every canonical redirect (trailing slash
    added for a directory or an index file, removed for a file; from `ServeHTTP` and from
    `serveBrowse`) starts with exactly one `/`: whatever the original request path and query are
    (`//evil.example/dir`, bytes `url.Parse` rejects, `#`, `?`, non-ASCII), the client is sent to a
    path on the same origin, never to a scheme-relative `//host` reference.  `some l`: the
    original path is rooted, as every origin-form request target is; `orig ≠ "/"`: removing the
    slash of `/` itself (the site root being a regular file) yields a relative reference that
    depends on the rewritten path — not covered. -/
theorem redirect_location_same_origin (fs : FS) (c : Cfg) (path orig l : Bytes)
    (h : (serve fs c path orig).1 = .redirect (some l)) (hne : orig ≠ [slash]) : SingleSlashStart l := by
  rcases serve_redirect fs c path orig (some l) h with e | ⟨e, _⟩ <;>
    obtain ⟨t, rfl, rfl⟩ := locationOf_eq_some e <;> apply goRedirect_single
  · rfl
  · cases t with
    | nil => exact absurd rfl hne
    | cons a t' => rfl

-- a directory requested as `//evil.example/sub` (original path), no trailing slash
example : (serve wFS2 { wCfg2 with index := [], query := str "a=//x" } (str "/sub") (str "//evil.example/sub")).1
    = .redirect (some (str "/evil.example/sub/?a=//x")) := by unfold wFS2 wCfg2; decide_bytes
-- bytes `url.Parse` rejects: the target is passed through, minus the doubled slash
example : goRedirect (str "/") (redirectTo (str "//%zz/") []) = str "/%zz/" := by decide_bytes
example : stripDoubleSlash (str "////a//b") = str "/a//b" := by decide_bytes

/-- Whatever the process served before — whichever instances,
    roots, hide lists, and however those responses failed to be delivered — and whatever buffer
    the shared pool therefore hands out, every request of a sequence gets exactly the answer it
    gets when served alone: the listing of its own directory under its own hide rules, cut where
    its own client stopped reading. -/
theorem browse_history_independent (render : Bytes → List Bytes → Bytes) (pool : Bytes) (qs : List SeqReq) :
    serveSeq true render pool qs = aloneAnswers render qs :=
  serveSeq_reset render qs pool

/-- in particular a probe request's answer does not depend on the faulted request before it -/
theorem probe_after_fault_unchanged (render : Bytes → List Bytes → Bytes) (pool pool' : Bytes) (a b : SeqReq) :
    (serveSeq true render pool [a, b])[1]? = (serveSeq true render pool' [b])[0]? := by
  rw [browse_history_independent, browse_history_independent]
  simp [aloneAnswers]

/-- a toy renderer for the examples: the names, each followed by `;` -/
def toyRender (_ : Bytes) (ns : List Bytes) : Bytes := (ns.map (· ++ [59])).flatten

/-- instance A shows everything of `/srv`, its client hangs up after 2 bytes; instance B hides
    `secret.txt` -/
def seqA : SeqReq := ⟨wFS, { wCfg with hide := [] }, str "/", str "/", 2⟩
def seqB : SeqReq := ⟨wFS, wCfg, str "/", str "/", 1000⟩

example : serveSeq true toyRender [] [seqA, seqB] = [some (str "a."), some (str "a.txt;")] := by
  unfold seqA seqB wFS wCfg; decide_bytes
/-- **the `Reset` is what the theorem rests on**: without it B's response carries the rest of A's
    listing — `secret.txt`, which B hides -/
theorem pool_without_reset_leaks :
    serveSeq false toyRender [] [seqA, seqB] = [some (str "a."), some (str "txt;secret.txt;a.txt;")] := by
  unfold seqA seqB wFS wCfg; decide_bytes

/-- Whatever `try_files` matched and whatever `rewrite` made of the
    matched relative path, the answer of the site is justified as every answer of the file server
    is (`Justified`, in which the path `p'` plays no part): a non-hidden file / listing below the root,
    a redirect, 404 / pass-thru … — the matcher and the rewrite can change WHICH file is served, never
    widen what may be served. -/
theorem site_outcome_justified (fs : FS) (c : Cfg) (tries : Option (List TryFile)) (path : Bytes)
    (pol : Option ScanPolicy) (fb : Bool)
    (hfs : fs [] = .missing) : ∃ p', Justified fs c p' (siteServe fs c tries path pol fb).1 := by
  fun_cases siteServe fs c tries path pol fb <;> exact ⟨_, serve_justified fs c _ path hfs⟩

/-- … in particular the bytes the site sends are never those of a
    hidden file or of a file outside the root. -/
theorem site_serves_no_hidden_file (fs : FS) (c : Cfg) (tries : Option (List TryFile)) (path p : Bytes) (id : Nat)
    (pol : Option ScanPolicy) (fb : Bool)
    (hfs : fs [] = .missing) (h : (siteServe fs c tries path pol fb).1 = .file p id) :
    UnderS c.rootC p ∧ c.hidden p = false ∧ fs p = .file id := by
  obtain ⟨_, this⟩ := site_outcome_justified fs c tries path pol fb hfs
  rw [h] at this
  exact this

/-- The entry `FinalizeUnmarshalCaddyfile` appends for the site's
    Caddyfile hides exactly that file once `Provision` has made it absolute — for a Caddyfile
    name that is a plain name (it gets `./` in front) or contains a separator, and whose absolute
    path has no glob character (the entry is also a pattern). -/
theorem caddyfile_entry_hides_it (cwd f : Bytes) (hide : List Bytes)
    (hf : Normal (pathClean f) ∨ hasSlash (pathClean f) = true)
    (hm : hasMeta (fastAbs cwd (pathClean f)) = false) :
    fileHidden cwd (pathClean f) (transformHide cwd (hide ++ [cfHideEntry (pathClean f)])) = true := by
  refine fileHidden_of_entry (h := cfHideEntry (pathClean f)) (by simp) ?_ ?_ hm <;> unfold cfHideEntry <;> split
  · assumption
  · simp [hasSlash, slash]
  · rfl
  · exact fastAbs_dotSlash cwd _ (hf.resolve_right (by assumption))

/-- the hide list of a site: either the Caddyfile was already hidden by the list as written, or
    the entry of `caddyfile_entry_hides_it` is in it -/
theorem siteHide_cases (cwd f : Bytes) (hide : List Bytes) :
    (fileHidden cwd (pathClean f) hide = true ∧ siteHide cwd hide (some f) = hide) ∨
    siteHide cwd hide (some f) = hide ++ [cfHideEntry (pathClean f)] := by
  simp only [siteHide]
  split
  · left; exact ⟨by assumption, rfl⟩
  · right; rfl

/-- For a matched relative path without `%` and `?` the rewrite hands the
    file server exactly that path (otherwise `url.PathUnescape` / the query cut change it — the
    file server then decides about the changed path, see `site_outcome_justified`). -/
theorem rewrite_target_plain (rel : Bytes) (h1 : (37 : UInt8) ∉ rel) (h2 : (63 : UInt8) ∉ rel) : rewriteTarget rel = rel := by
  unfold rewriteTarget
  rw [cutAt_none 63 rel h2]
  simp only [validEsc_noPercent rel h1, if_true]
  exact unescapeAll_noPercent rel h1

-- the site of `wFS`: with `/srv/a.txt` as its Caddyfile the site hides it; `try_files {path} /a.txt` rewrites `/nope` to `/a.txt`
example : (siteServe wFS { wCfg with hide := siteHide (str "/w") [] (some (str "/srv/a.txt")) }
    (some [⟨[], true, [], []⟩]) (str "/a.txt")).1 = .notFound := by unfold wFS wCfg; decide_bytes
example : (siteServe wFS wCfg (some [⟨[], true, [], []⟩, ⟨str "/a.txt", false, [], []⟩]) (str "/nope")).1
    = .file (str "/srv/a.txt") 1 := by unfold wFS wCfg; decide_bytes
example : rewriteTarget (str "/a%41?x") = str "/aA" := by decide_bytes
example : siteHide (str "/w") [str "*.txt"] (some (str "Caddyfile")) = [str "*.txt", str "./Caddyfile"] := by
  decide_bytes
example : Normal (pathClean (str "Caddyfile")) ∧ hasMeta (fastAbs (str "/w") (pathClean (str "Caddyfile"))) = false := by
  decide_bytes

/-- the answer of a pass_thru chain is the answer one of its handlers gives ALONE (or every
    handler passed the request on) -/
theorem chainServe_outcome (fs : FS) (path : Bytes) : ∀ (cs : List Cfg),
    (chainServe fs cs path).1 = .passThru ∨ ∃ c ∈ cs, (serve fs c path path).1 = (chainServe fs cs path).1 := by
  intro cs
  fun_induction chainServe fs cs path
  case case1 => exact Or.inl rfl
  case case2 ih => exact ih.imp id fun ⟨c', hc', e⟩ => ⟨c', List.mem_cons_of_mem _ hc', e⟩
  case case3 => exact Or.inr ⟨_, List.mem_cons_self, rfl⟩

/-- Through any number of `file_server`
    handlers on one request (an overlay of roots joined by pass_thru), the bytes of a file are sent
    only by a handler below whose OWN root the file lies and whose OWN hide list does not hide it —
    whatever handlers ran before on the same request, with whatever roots and hide lists; the
    answer is exactly what that handler gives when it is the only one. -/
theorem chain_serves_by_the_serving_handlers_own_rules (fs : FS) (cs : List Cfg) (path p : Bytes) (id : Nat)
    (hfs : fs [] = .missing) (h : (chainServe fs cs path).1 = .file p id) :
    ∃ c ∈ cs, (serve fs c path path).1 = .file p id ∧ UnderS c.rootC p ∧ c.hidden p = false ∧ fs p = .file id := by
  rcases chainServe_outcome fs path cs with e | ⟨c, hc, e⟩
  · rw [h] at e; cases e
  · rw [h] at e
    exact ⟨c, hc, e, served_path_under_root fs c path path p id hfs e⟩

/-- … and a listing is the listing of a directory that handler may list, filtered by that handler's
    own hide list -/
theorem chain_lists_by_the_serving_handlers_own_rules (fs : FS) (cs : List Cfg) (path p : Bytes) (ns : List Bytes)
    (hfs : fs [] = .missing) (h : (chainServe fs cs path).1 = .listing p ns) :
    ∃ c ∈ cs, UnderS c.rootC p ∧ c.hidden p = false ∧
      ∃ es, fs p = .dir es ∧ ns = (es.filter fun e => !(c.hidden e.name || entryHiddenByPath c p e)).map showEntry := by
  rcases chainServe_outcome fs path cs with e | ⟨c, hc, e⟩
  · rw [h] at e; cases e
  · rw [h] at e
    obtain ⟨hu, hh, _⟩ := listed_dir_under_root fs c path path p ns hfs e
    obtain ⟨es, hes, hn⟩ := listing_is_exactly_the_unhidden_entries fs c path path p ns hfs e
    exact ⟨c, hc, hu, hh, es, hes, hn⟩

/-- the same for a `file_server` inside `handle_errors`: the answer is the answer of the site's
    handler alone or of the error route's handler alone -/
theorem errServe_outcome (fs : FS) (c1 c2 : Cfg) (path : Bytes) :
    (errServe fs c1 c2 path).1 = (serve fs c1 path path).1 ∨ (errServe fs c1 c2 path).1 = (serve fs c2 path path).1 := by
  fun_cases errServe fs c1 c2 path
  case case1 h1 _ _ _ _ _ => exact Or.inl (by rw [h1])
  case case2 h2 _ => exact Or.inr (by rw [h2])
  case case3 h1 _ => exact Or.inl (by rw [h1])

theorem error_route_serves_by_its_own_rules (fs : FS) (c1 c2 : Cfg) (path p : Bytes) (id : Nat)
    (hfs : fs [] = .missing) (h : (errServe fs c1 c2 path).1 = .file p id) :
    ∃ c, (c = c1 ∨ c = c2) ∧ UnderS c.rootC p ∧ c.hidden p = false ∧ fs p = .file id := by
  rcases errServe_outcome fs c1 c2 path with e | e <;> rw [h] at e
  · exact ⟨c1, Or.inl rfl, served_path_under_root fs c1 path path p id hfs e.symm⟩
  · exact ⟨c2, Or.inr rfl, served_path_under_root fs c2 path path p id hfs e.symm⟩

/-- A static second line behind op `two`: the only
    write of the fileserver package into the request's variable table (which every handler of the
    request shares) is the matcher's error slot — no hide list, root or other per-handler value is
    parked there under a key that does not name the handler. Regenerated from the source. -/
theorem fileserver_keeps_no_state_in_request_vars :
    CaddyModel.Gen.fileserverVarWrites = [("matcher.go", "Match", "caddyhttp.MatcherErrorVarKey")] := rfl

/-- root A (`/w`, no hide rules, pass_thru) in front of the site of `wCfg` (hide `/srv/secret.txt`) -/
def overlayA : Cfg := { wCfg with root := str "/w", hide := [], passThru := true, browse := false }

example : (chainServe wFS [overlayA, wCfg] (str "/a.txt")).1 = .file (str "/srv/a.txt") 1 := by
  unfold overlayA wFS wCfg; decide_bytes
-- the second handler still hides what ITS list hides, although the first one has no hide rules
example : (chainServe wFS [overlayA, wCfg] (str "/secret.txt")).1 = .notFound := by
  unfold overlayA wFS wCfg; decide_bytes
example : (chainServe wFS [overlayA, wCfg] (str "/")).1 = .listing (str "/srv") [str "a.txt"] := by
  unfold overlayA wFS wCfg; decide_bytes
example : (errServe wFS { overlayA with passThru := false } wCfg (str "/secret.txt")).1 = .notFound := by
  unfold overlayA wFS wCfg; decide_bytes
example : (errServe wFS { overlayA with passThru := false } wCfg (str "/a.txt")).1 = .file (str "/srv/a.txt") 1 := by
  unfold overlayA wFS wCfg; decide_bytes

-- `none` is `ErrBadPattern`, never "out of fuel": GlobFuel.lean, imported here so that its three theorems are in the build
example : globMatch (str "[a-") (str "a") = none ∧ matchLoop 1000 (str "[a-") (str "a") = none := by decide

end CaddyModel.C07
