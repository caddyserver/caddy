/-
C07 — the fuel of the glob model is never the limiting factor: above the initial budget the
result does not depend on the fuel (so `none` always means `ErrBadPattern`, never "out of fuel").
Every fuelled loop recurses on a strictly shorter pattern (`fuel_irrelevant`).
-/
import CaddyModel.C07.Model

namespace CaddyModel.C07

theorem decodeRune_size_pos (s : Bytes) (h : s ≠ []) : 1 ≤ (decodeRune s).2 := by
  fun_cases decodeRune s
  · exact absurd rfl h
  all_goals simp

theorem getEscBody_length {body : Bytes} {r : Nat} {c' : Bytes} (h : getEscBody body = some (r, c')) :
    c'.length < body.length := by
  revert h
  fun_cases getEscBody body <;> intro h <;> cases h
  rename_i hb _ _
  have := decodeRune_size_pos body hb
  have := List.length_pos_iff.mpr hb
  simp only [List.length_drop]
  omega

theorem getEsc_length {chunk : Bytes} {r : Nat} {c' : Bytes} (h : getEsc chunk = some (r, c')) :
    c'.length < chunk.length := by
  revert h
  fun_cases getEsc chunk <;> intro h
  · cases h
  · cases h
  · have := getEscBody_length h
    split at this <;> simp <;> omega

theorem classLoop_length {fuel : Nat} {chunk : Bytes} {r : Nat} {m : Bool} {nr : Nat} {rest : Bytes} {m' : Bool}
    (h : classLoop fuel chunk r m nr = some (rest, m')) : rest.length < chunk.length := by
  revert h
  fun_induction classLoop fuel chunk r m nr <;> intro h
  case case2 chunk _ _ _ hc =>
    cases h
    cases chunk with
    | nil => simp at hc
    | cons x xs => simp
  case case5 hg _ _ _ hg2 ih =>
    have := getEsc_length hg
    have := getEsc_length hg2
    have := ih h
    simp only [List.length_drop] at *
    omega
  case case6 hg _ ih =>
    have := getEsc_length hg
    have := ih h
    omega
  all_goals cases h

theorem scanSplit_append (l : Bytes) (inr : Bool) : (scanSplit l inr).1 ++ (scanSplit l inr).2 = l := by
  fun_induction scanSplit l inr <;> simp_all [pair1]

theorem dropStars_length (p : Bytes) : (dropStars p).length ≤ p.length := by
  fun_induction dropStars p <;> simp <;> omega

theorem scanSplit_fst_pos (c : UInt8) (cs : Bytes) (h : c ≠ cStar) : 1 ≤ (scanSplit (c :: cs) false).1.length := by
  generalize hl : c :: cs = l
  fun_cases scanSplit l false <;> simp_all [pair1]

theorem scanChunk_rest_lt (p : Bytes) (hp : p ≠ []) : (scanChunk p).2.2.length < p.length := by
  unfold scanChunk
  have hsum := congrArg List.length (scanSplit_append (dropStars p) false)
  rw [List.length_append] at hsum
  cases p with
  | nil => exact absurd rfl hp
  | cons c cs =>
    by_cases hc : c = cStar
    · have : (dropStars (c :: cs)).length ≤ cs.length := by
        simp only [dropStars, hc, if_true]; exact dropStars_length cs
      simp only [List.length_cons] at hsum ⊢
      omega
    · have hd : dropStars (c :: cs) = c :: cs := by simp [dropStars, hc]
      rw [hd] at hsum ⊢
      have := scanSplit_fst_pos c cs hc
      simp only [List.length_cons] at hsum ⊢
      omega

/-- `step`: one unfolding of `F`, at any two fuels that suffice for `x`, gives the same result once the results on all strictly
    shorter strings agree — which each fuelled loop shows by unfolding itself once -/
theorem fuel_irrelevant {β : Type} (F : Nat → Bytes → β)
    (step : ∀ n m x, x.length ≤ n → x.length ≤ m →
      (∀ y : Bytes, y.length < x.length → F n y = F m y) → F (n + 1) x = F (m + 1) x)
    (f1 f2 : Nat) (x : Bytes) (h1 : x.length < f1) (h2 : x.length < f2) : F f1 x = F f2 x := by
  induction f1 generalizing f2 x with
  | zero => exact absurd h1 (Nat.not_lt_zero _)
  | succ n ih =>
    cases f2 with
    | zero => exact absurd h2 (Nat.not_lt_zero _)
    | succ m =>
      have hn := Nat.le_of_lt_succ h1
      have hm := Nat.le_of_lt_succ h2
      exact step n m x hn hm fun y hy => ih m y (Nat.lt_of_lt_of_le hy hn) (Nat.lt_of_lt_of_le hy hm)

theorem classLoop_stable (f1 f2 : Nat) (chunk : Bytes) (h1 : chunk.length < f1) (h2 : chunk.length < f2) :
    classLoop f1 chunk = classLoop f2 chunk := by
  refine fuel_irrelevant classLoop (fun n m x _ _ hrec => ?_) f1 f2 chunk h1 h2
  funext r b nr
  simp only [classLoop]
  cases hg : getEsc x with
  | none => rfl
  | some p =>
    obtain ⟨lo, c1⟩ := p
    have l1 := getEsc_length hg
    simp only [hrec c1 l1]
    cases hg2 : getEsc (c1.drop 1) with
    | none => rfl
    | some q =>
      obtain ⟨hi, c2⟩ := q
      have l2 := getEsc_length hg2
      simp only [List.length_drop] at l2
      simp only [hrec c2 (by omega)]

theorem matchChunk_stable (f1 f2 : Nat) (chunk : Bytes) (h1 : chunk.length < f1) (h2 : chunk.length < f2) :
    matchChunk f1 chunk = matchChunk f2 chunk := by
  refine fuel_irrelevant matchChunk (fun n m x hn hm hrec => ?_) f1 f2 chunk h1 h2
  funext s failed
  cases x with
  | nil => simp only [matchChunk]
  | cons c ct =>
    have hct : matchChunk n ct = matchChunk m ct := hrec ct (Nat.lt_succ_self _)
    simp only [matchChunk]
    by_cases hO : c = cOpen
    · have hd : (if ct.head? = some cCaret then ct.drop 1 else ct).length ≤ ct.length := by
        split <;> simp
      simp only [List.length_cons] at hn hm hrec
      have hcl := classLoop_stable n m (if ct.head? = some cCaret then ct.drop 1 else ct) (by omega) (by omega)
      simp only [if_pos hO, hcl]
      split
      · rename_i h0; rw [h0]
      · rename_i rest _ h0
        have := classLoop_length h0
        rw [h0, hrec rest (by omega)]
    · simp only [if_neg hO]
      by_cases hQ : c = cQuest
      · simp only [if_pos hQ, hct]
      · simp only [if_neg hQ]
        by_cases hE : c = cEsc
        · cases ct with
          | nil => simp only [if_pos hE]
          | cons c2 ct2 => simp only [if_pos hE, hrec ct2 (by simp only [List.length_cons]; omega)]
        · simp only [if_neg hE, hct]

theorem validateRest_stable (f1 f2 : Nat) (p : Bytes) (h1 : p.length < f1) (h2 : p.length < f2) :
    validateRest f1 p = validateRest f2 p := by
  refine fuel_irrelevant validateRest (fun n m x _ _ hrec => ?_) f1 f2 p h1 h2
  simp only [validateRest]
  split
  · rfl
  · rename_i hp
    rw [hrec _ (scanChunk_rest_lt x hp)]

theorem matchLoop_stable (f1 f2 : Nat) (pattern : Bytes) (h1 : pattern.length < f1) (h2 : pattern.length < f2) :
    matchLoop f1 pattern = matchLoop f2 pattern := by
  refine fuel_irrelevant matchLoop (fun n m x hn hm hrec => ?_) f1 f2 pattern h1 h2
  funext name
  simp only [matchLoop]
  by_cases hp : x = []
  · simp only [hp, if_true]
  · have hlt := scanChunk_rest_lt x hp
    have hf : ∀ k, failPath (scanChunk x).1 (scanChunk x).2.1 (scanChunk x).2.2 name k n
        = failPath (scanChunk x).1 (scanChunk x).2.1 (scanChunk x).2.2 name k m := fun k => by
      simp only [failPath, validateRest_stable n m (scanChunk x).2.2 (by omega) (by omega)]
    simp only [hrec _ hlt, hf]

theorem globMatch_never_runs_out_of_fuel (pattern name : Bytes) (extra : Nat) :
    matchLoop (matchFuel pattern + extra) pattern name = globMatch pattern name :=
  congrFun (matchLoop_stable _ _ pattern (by unfold matchFuel; omega) (Nat.lt_succ_self _)) name

theorem chunkMatch_never_runs_out_of_fuel (chunk s : Bytes) (extra : Nat) :
    matchChunk (chunk.length + 1 + extra) chunk s false = chunkMatch chunk s :=
  congrFun (congrFun (matchChunk_stable _ _ chunk (by omega) (Nat.lt_succ_self _)) s) false

theorem pathSplit_append (p : Bytes) : (pathSplit p).1 ++ (pathSplit p).2 = p := by
  fun_induction pathSplit p <;> simp_all

theorem globDir_length (p : Bytes) (h : hasMeta (cleanGlobPath (pathSplit p).1) = true) :
    (cleanGlobPath (pathSplit p).1).length < p.length := by
  have hs := congrArg List.length (pathSplit_append p)
  rw [List.length_append] at hs
  unfold cleanGlobPath at h ⊢
  split
  · rename_i hd; rw [if_pos hd] at h; exact absurd h (by decide)
  · rename_i hd
    have := List.length_pos_iff.mpr hd
    simp only [List.length_dropLast]
    omega

theorem fsGlob_stable (fs : FS) (f1 f2 : Nat) (p : Bytes) (h1 : p.length < f1) (h2 : p.length < f2) :
    fsGlob fs f1 p = fsGlob fs f2 p := by
  refine fuel_irrelevant (fsGlob fs) (fun n m x _ _ hrec => ?_) f1 f2 p h1 h2
  simp only [fsGlob]
  by_cases hm : hasMeta (cleanGlobPath (pathSplit x).1) = true
  · rw [hrec _ (globDir_length x hm)]
  · simp only [hm, Bool.not_false, if_true]

theorem fsGlob_never_runs_out_of_fuel (fs : FS) (p : Bytes) (extra : Nat) :
    fsGlob fs (globFuel p + extra) p = fsGlob fs (globFuel p) p :=
  fsGlob_stable fs _ _ p (by unfold globFuel; omega) (by unfold globFuel; omega)

end CaddyModel.C07
