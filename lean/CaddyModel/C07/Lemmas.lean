/-
C07 — `path.Clean` through its element stack.  The elements of every path summarise to "`k` steps
up, then normal elements" (`clean_congruence`), so a clean path is the rendering of such a stack
(`pathClean_shape`), and what normal elements attach below a clean path is clean again
(`pathClean_attach`; idempotence is the empty case), and cleaning a part of a path first changes nothing
(`foldl_splitSlash_pathClean`, `pathClean_join_pathClean`).  From this: the exact value of
`SanitizedPathJoin` (`sanitizedPathJoin_eq`; the `filepath.IsLocal` rejection never fires, `never_rejected`), hence that the
join is below the root (`sanitizedPathJoin_underS`, `sanitizedPathJoin_under`), the laws of `Under`, and the first name
`ServeHTTP` stats (`requestFile_cases`).
-/
import CaddyModel.C07.Spec
import CaddyModel.Util.GoStrings

namespace CaddyModel.C07

theorem splitSlash_eq : splitSlash = Go.split slash :=
  Go.split_unique rfl fun x xs => by rw [splitSlash]; cases splitSlash xs <;> rfl

theorem joinSlash_eq : joinSlash = Go.join slash := Go.join_unique rfl (fun _ => rfl) fun _ _ _ => rfl

theorem splitSlash_append (a b : Bytes) : splitSlash (a ++ slash :: b) = splitSlash a ++ splitSlash b :=
  splitSlash_eq ▸ Go.split_append_sep slash a b

theorem mem_splitSlash_noSlash (p : Bytes) : ∀ c ∈ splitSlash p, slash ∉ c :=
  fun _ hc => Go.not_mem_of_mem_split (splitSlash_eq ▸ hc)

theorem splitSlash_join (l : List Bytes) (hl : l ≠ []) (hall : ∀ c ∈ l, slash ∉ c) : splitSlash (joinSlash l) = l := by
  rw [splitSlash_eq, joinSlash_eq]; exact Go.split_join slash hl hall

theorem joinSlash_append (l1 l2 : List Bytes) (h1 : l1 ≠ []) (h2 : l2 ≠ []) :
    joinSlash (l1 ++ l2) = joinSlash l1 ++ slash :: joinSlash l2 := joinSlash_eq ▸ Go.join_append slash h1 h2

/-- a path element as `Clean` keeps it (`..` included, unlike `Normal`) -/
def Comp (c : Bytes) : Prop := c ≠ [] ∧ c ≠ dotB ∧ slash ∉ c

theorem Normal.comp {c : Bytes} (h : Normal c) : Comp c := ⟨h.1, h.2.1, h.2.2.2⟩

theorem joinSlash_ne_nil (l : List Bytes) (hl : l ≠ []) (hall : ∀ c ∈ l, Comp c) : joinSlash l ≠ [] := by
  obtain ⟨a, t, rfl⟩ := List.exists_cons_of_ne_nil hl
  exact joinSlash_eq ▸ Go.join_ne_nil slash t (hall a List.mem_cons_self).1

/-- why a join of elements that `Clean` keeps cannot start or end with `/`, nor be `/` or `.`: a `/`-piece would be empty, or `.` -/
theorem split_join {P : Bytes → Prop} {l : List Bytes} (hl : l ≠ []) (hs : ∀ c ∈ l, slash ∉ c)
    (hall : ∀ c ∈ l, P c) {s : Bytes} (h : joinSlash l = s) : ∀ c ∈ splitSlash s, P c := by
  rw [← h, splitSlash_join l hl hs]; exact hall

theorem split_join_comps {l : List Bytes} (hl : l ≠ []) (hall : ∀ c ∈ l, Comp c) {s : Bytes} (h : joinSlash l = s) :
    ∀ c ∈ splitSlash s, Comp c :=
  split_join hl (fun c hc => (hall c hc).2.2) hall h

theorem joinSlash_head (l : List Bytes) (hl : l ≠ []) (hall : ∀ c ∈ l, Comp c) : (joinSlash l).head? ≠ some slash := by
  intro hx
  obtain ⟨rest, h⟩ := List.head?_eq_some_iff.mp hx
  exact (split_join_comps hl hall h [] List.mem_cons_self).1 rfl

theorem attach_nil (rc : Bytes) : attach rc [] = rc := rfl

theorem attach_of_ne_nil {rc : Bytes} {l : List Bytes} (hl : l ≠ []) (h1 : rc ≠ [slash]) (h2 : rc ≠ dotB) :
    attach rc l = rc ++ slash :: joinSlash l := by
  simp [attach, hl, h1, h2]

theorem mem_splitSlash_attach {rc : Bytes} {l : List Bytes} (hs : ∀ c ∈ l, slash ∉ c) {c : Bytes}
    (h : c ∈ splitSlash (attach rc l)) : c ∈ splitSlash rc ∨ c ∈ l := by
  revert h
  fun_cases attach rc l <;> intro h
  case case1 => exact Or.inl h
  case case2 hl hrc =>
    rw [← List.nil_append (slash :: _), splitSlash_append, splitSlash_join l hl hs] at h
    exact (List.mem_cons.mp h).imp_left fun e => by rw [e, hrc]; decide
  case case3 hl _ _ => rw [splitSlash_join l hl hs] at h; exact Or.inr h
  case case4 hl _ _ => rw [splitSlash_append, splitSlash_join l hl hs] at h; exact List.mem_append.mp h

theorem cleanStep_normal (r : Bool) (st : List Bytes) (c : Bytes) (h : Normal c) : cleanStep r st c = c :: st := by
  simp [cleanStep, h.1, h.2.1, h.2.2.1]

theorem foldl_cleanStep_normals (r : Bool) (l st : List Bytes) (h : ∀ c ∈ l, Normal c) :
    l.foldl (cleanStep r) st = l.reverse ++ st := by
  induction l generalizing st with
  | nil => rfl
  | cons a t ih =>
    rw [List.foldl_cons, cleanStep_normal r st a (h a (by simp)), ih _ fun c hc => h c (by simp [hc])]
    simp

theorem foldl_cleanStep_dotdots (r : Bool) (k : Nat) :
    (List.replicate k dotdot).foldl (cleanStep r) [] = if r then [] else List.replicate k dotdot := by
  induction k with
  | zero => simp
  | succ n ih =>
    rw [List.replicate_succ', List.foldl_append, ih]
    cases r
    · cases n <;> simp [cleanStep, dotdot, dotB, List.replicate_succ, ← List.replicate_succ']
    · rfl

theorem foldl_summary (r : Bool) (k : Nat) (ns : List Bytes) (hns : ∀ c ∈ ns, Normal c) :
    (List.replicate k dotdot ++ ns).foldl (cleanStep r) [] =
      ns.reverse ++ (if r then [] else List.replicate k dotdot) := by
  rw [List.foldl_append, foldl_cleanStep_dotdots, foldl_cleanStep_normals _ _ _ hns]

theorem snoc_induction {α : Type} {P : List α → Prop} (nil : P []) (snoc : ∀ l a, P l → P (l ++ [a])) :
    ∀ l, P l := by
  intro l
  rw [← List.reverse_reverse l]
  induction l.reverse with
  | nil => exact nil
  | cons a t ih => rw [List.reverse_cons]; exact snoc _ _ ih

theorem clean_congruence : ∀ (l : List Bytes), (∀ c ∈ l, slash ∉ c) →
    ∃ (k : Nat) (ns : List Bytes), (∀ c ∈ ns, Normal c) ∧
      ∀ (r : Bool) (st : List Bytes),
        l.foldl (cleanStep r) st = (List.replicate k dotdot ++ ns).foldl (cleanStep r) st := by
  refine snoc_induction (fun _ => ⟨0, [], by simp, by simp⟩) fun l' c ih hl => ?_
  obtain ⟨k, ns, hns, hcong⟩ := ih (fun x hx => hl x (by simp [hx]))
  have hc : slash ∉ c := hl c (by simp)
  by_cases h1 : c = []
  · exact ⟨k, ns, hns, fun r st => by simp [List.foldl_append, hcong, cleanStep, h1]⟩
  by_cases h2 : c = dotB
  · exact ⟨k, ns, hns, fun r st => by simp [List.foldl_append, hcong, cleanStep, h2, dotB]⟩
  by_cases h3 : c = dotdot
  · subst h3
    -- `..` after the summary: one more step up, or the last real element goes
    rcases List.eq_nil_or_concat ns with hnil | ⟨ns', t, hcat⟩
    · subst hnil
      refine ⟨k + 1, [], by simp, fun r st => ?_⟩
      simp [List.foldl_append, hcong, List.replicate_succ']
    · rw [List.concat_eq_append] at hcat
      subst hcat
      have ht : Normal t := hns t (by simp)
      refine ⟨k, ns', fun x hx => hns x (by simp [hx]), fun r st => ?_⟩
      simp only [List.foldl_append, hcong, List.foldl_cons, List.foldl_nil]
      rw [foldl_cleanStep_normals r ns' _ (fun x hx => hns x (by simp [hx])), cleanStep_normal r _ t ht]
      have hne : ¬ t = [46, 46] := ht.2.2.1
      simp [cleanStep, dotdot, dotB, hne]
  · exact ⟨k, ns ++ [c], List.forall_mem_append.mpr ⟨hns, List.forall_mem_singleton.mpr ⟨h1, h2, h3, hc⟩⟩,
      fun r st => by simp only [List.foldl_append, hcong, List.foldl_cons, List.foldl_nil]⟩

theorem cleanStack_shape (p : Bytes) :
    ∃ (k : Nat) (ns : List Bytes), cleanStack p = List.replicate k dotdot ++ ns ∧ (∀ c ∈ ns, Normal c)
      ∧ (isRooted p = true → k = 0) := by
  obtain ⟨k, ns, hns, hcong⟩ := clean_congruence (splitSlash p) (mem_splitSlash_noSlash p)
  unfold cleanStack
  rw [hcong, foldl_summary _ k ns hns]
  cases isRooted p with
  | true => exact ⟨0, ns, by simp, hns, fun _ => rfl⟩
  | false => exact ⟨k, ns, by simp, hns, by simp⟩

theorem shape_comp (k : Nat) (ns : List Bytes) (hns : ∀ c ∈ ns, Normal c) :
    ∀ c ∈ List.replicate k dotdot ++ ns, Comp c := by
  refine List.forall_mem_append.mpr ⟨fun c hc => ?_, fun c hc => (hns c hc).comp⟩
  rw [List.eq_of_mem_replicate hc]; exact ⟨by decide, by decide, by decide⟩

theorem cleanStack_comp (p : Bytes) : ∀ c ∈ cleanStack p, Comp c := by
  obtain ⟨k, ns, h, hns, _⟩ := cleanStack_shape p
  rw [h]; exact shape_comp k ns hns

theorem cleanStack_rooted_normal (p : Bytes) (h : isRooted p = true) : ∀ c ∈ cleanStack p, Normal c := by
  obtain ⟨k, ns, hs, hns, hk⟩ := cleanStack_shape p
  have := hk h
  subst this
  simp at hs
  rw [hs]; exact hns

theorem isRooted_append (x y : Bytes) (hx : x ≠ []) : isRooted (x ++ y) = isRooted x := by
  cases x with
  | nil => exact absurd rfl hx
  | cons a t => simp [isRooted]

theorem cleanStack_join (x : Bytes) (hx : x ≠ []) (l : List Bytes) (hl : ∀ c ∈ l, Normal c) :
    cleanStack (x ++ slash :: joinSlash l) = cleanStack x ++ l := by
  unfold cleanStack
  rw [isRooted_append x _ hx, splitSlash_append, List.foldl_append]
  by_cases hnil : l = []
  · subst hnil
    simp [joinSlash, splitSlash, cleanStep]
  · rw [splitSlash_join l hnil (fun c hc => (hl c hc).2.2.2), foldl_cleanStep_normals _ _ _ hl]
    simp

theorem pathClean_eq_render (x : Bytes) (hx : x ≠ []) : pathClean x = render (isRooted x) (cleanStack x) := by
  simp [pathClean, hx]

theorem render_append (r : Bool) (S l : List Bytes) (hS : ∀ c ∈ S, Comp c) :
    render r (S ++ l) = attach (render r S) l := by
  by_cases hlnil : l = []
  · rw [hlnil, List.append_nil, attach_nil]
  · by_cases hSnil : S = []
    · subst hSnil
      cases r with
      | true => simp [render, attach, hlnil, joinSlash]
      | false =>
        have : dotB ≠ [slash] := by decide
        simp [render, attach, hlnil, this]
    · have hj := joinSlash_append S l hSnil hlnil
      cases r with
      | true =>
        have h1 : slash :: joinSlash S ≠ [slash] := by
          intro e; simp at e; exact joinSlash_ne_nil S hSnil hS e
        have h2 : slash :: joinSlash S ≠ dotB := by
          intro e; simp [dotB, slash] at e
        simp [render, attach_of_ne_nil hlnil h1 h2, hj]
      | false =>
        -- `/` would have an empty piece, `.` is the piece `.`
        have h1 : joinSlash S ≠ [slash] := fun h => (split_join_comps hSnil hS h [] List.mem_cons_self).1 rfl
        have h2 : joinSlash S ≠ dotB := fun h => (split_join_comps hSnil hS h dotB List.mem_cons_self).2.1 rfl
        simp [render, attach_of_ne_nil hlnil h1 h2, hSnil, hj]

/-- `filepath.Join(x, rel)` for a cleaned relative `rel`: the clean root followed by `rel`'s elements -/
theorem pathClean_join (x : Bytes) (hx : x ≠ []) (l : List Bytes) (hl : ∀ c ∈ l, Normal c) :
    pathClean (x ++ slash :: joinSlash l) = attach (pathClean x) l := by
  rw [pathClean_eq_render _ (by simp), pathClean_eq_render x hx, isRooted_append x _ hx, cleanStack_join x hx l hl]
  exact render_append _ _ _ (cleanStack_comp x)

theorem pathClean_join_one (x : Bytes) (hx : x ≠ []) (name : Bytes) (hn : Normal name) :
    pathClean (x ++ slash :: name) = attach (pathClean x) [name] :=
  pathClean_join x hx [name] (by simpa using hn)

theorem render_ne_nil (r : Bool) (S : List Bytes) (hS : ∀ c ∈ S, Comp c) : render r S ≠ [] := by
  cases r with
  | true => simp [render]
  | false =>
    by_cases h : S = []
    · simp [render, h, dotB]
    · simp [render, h]; exact joinSlash_ne_nil S h hS

theorem pathClean_ne_nil (x : Bytes) : pathClean x ≠ [] := by
  by_cases hx : x = []
  · simp [pathClean, hx, dotB]
  · rw [pathClean_eq_render x hx]; exact render_ne_nil _ _ (cleanStack_comp x)

theorem foldl_splitSlash_render (r : Bool) (S : List Bytes) (hS : ∀ c ∈ S, Comp c) (q : Bool) (st : List Bytes) :
    (splitSlash (render r S)).foldl (cleanStep q) st = S.foldl (cleanStep q) st := by
  by_cases hnil : S = []
  · subst hnil; cases r <;> simp [render, splitSlash, consHead, cleanStep, dotB, joinSlash, slash]
  · have hsp := splitSlash_join S hnil (fun c hc => (hS c hc).2.2)
    cases r with
    | true => simp [render, splitSlash, hsp, cleanStep]
    | false => simp [render, hnil, hsp]

theorem cleanStack_render (r : Bool) (k : Nat) (ns : List Bytes) (hns : ∀ c ∈ ns, Normal c) (hk : r = true → k = 0) :
    isRooted (render r (List.replicate k dotdot ++ ns)) = r ∧
    cleanStack (render r (List.replicate k dotdot ++ ns)) = List.replicate k dotdot ++ ns := by
  have hcomp := shape_comp k ns hns
  have hroot : isRooted (render r (List.replicate k dotdot ++ ns)) = r := by
    cases r with
    | true => simp [render, isRooted]
    | false =>
      by_cases hnil : List.replicate k dotdot ++ ns = []
      · rw [hnil]; decide
      · simpa [render, hnil, isRooted] using joinSlash_head _ hnil hcomp
  refine ⟨hroot, ?_⟩
  unfold cleanStack
  rw [hroot, foldl_splitSlash_render r _ hcomp, foldl_summary r k ns hns]
  cases r with
  | true => simp [hk rfl]
  | false => simp

theorem pathClean_shape (x : Bytes) :
    ∃ (r : Bool) (k : Nat) (ns : List Bytes), (∀ c ∈ ns, Normal c) ∧ (r = true → k = 0) ∧
      pathClean x = render r (List.replicate k dotdot ++ ns) := by
  by_cases hx : x = []
  · subst hx
    exact ⟨false, 0, [], by simp, by simp, by decide⟩
  · obtain ⟨k, ns, hs, hns, hk⟩ := cleanStack_shape x
    exact ⟨isRooted x, k, ns, hns, hk, by rw [pathClean_eq_render x hx, hs]⟩

theorem attach_render (r : Bool) (k : Nat) (ns l : List Bytes) (hns : ∀ c ∈ ns, Normal c) :
    attach (render r (List.replicate k dotdot ++ ns)) l = render r (List.replicate k dotdot ++ (ns ++ l)) := by
  rw [← List.append_assoc]
  exact (render_append r _ l (shape_comp k ns hns)).symm

theorem attach_attach (x : Bytes) (l1 l2 : List Bytes) (h1 : ∀ c ∈ l1, Normal c) :
    attach (attach (pathClean x) l1) l2 = attach (pathClean x) (l1 ++ l2) := by
  obtain ⟨r, k, ns, hns, _, hp⟩ := pathClean_shape x
  rw [hp, attach_render r k ns l1 hns, attach_render r k (ns ++ l1) l2 (List.forall_mem_append.mpr ⟨hns, h1⟩),
    attach_render r k ns (l1 ++ l2) hns, List.append_assoc]

theorem pathClean_attach (x : Bytes) (l : List Bytes) (hl : ∀ c ∈ l, Normal c) :
    pathClean (attach (pathClean x) l) = attach (pathClean x) l := by
  obtain ⟨r, k, ns, hns, hk, hp⟩ := pathClean_shape x
  rw [hp, attach_render r k ns l hns]
  have hn := List.forall_mem_append.mpr ⟨hns, hl⟩
  obtain ⟨hr, hc⟩ := cleanStack_render r k (ns ++ l) hn hk
  rw [pathClean_eq_render _ (render_ne_nil _ _ (shape_comp k _ hn)), hr, hc]

theorem pathClean_idem (x : Bytes) : pathClean (pathClean x) = pathClean x := by
  simpa [attach_nil] using pathClean_attach x [] (by simp)

theorem pathClean_nil_eq : pathClean [] = pathClean dotB := by decide

theorem attach_ne_nil (x : Bytes) (l : List Bytes) (hl : ∀ c ∈ l, Normal c) : attach (pathClean x) l ≠ [] := by
  rw [← pathClean_attach x l hl]; exact pathClean_ne_nil _

theorem cleanStack_slash (y : Bytes) : cleanStack (slash :: y) = ((splitSlash y).foldl (cleanStep true) []).reverse := by
  unfold cleanStack
  simp [isRooted, splitSlash, cleanStep]

/-- `Clean` sees the same elements in `x` and in `Clean(x)`: for a relative `x` whatever the flag and
    the stack so far are, for a rooted `x` when it is processed as a rooted path from the start -/
theorem foldl_splitSlash_pathClean (x : Bytes) (hx : x ≠ []) (q : Bool) (st : List Bytes)
    (h : isRooted x = false ∨ (q = true ∧ st = [])) :
    (splitSlash (pathClean x)).foldl (cleanStep q) st = (splitSlash x).foldl (cleanStep q) st := by
  obtain ⟨k, ns, hns, hcong⟩ := clean_congruence (splitSlash x) (mem_splitSlash_noSlash x)
  have hS : cleanStack x = (if isRooted x then [] else List.replicate k dotdot) ++ ns := by
    unfold cleanStack; rw [hcong, foldl_summary _ k ns hns]; cases isRooted x <;> simp
  rw [pathClean_eq_render x hx, foldl_splitSlash_render _ _ (cleanStack_comp x), hS, hcong]
  rcases h with h | ⟨rfl, rfl⟩
  · simp [h]
  · cases isRooted x
    · rfl
    · have := foldl_summary true k ns hns
      simp only [if_true, List.nil_append, List.append_nil] at this ⊢
      rw [this, foldl_cleanStep_normals _ _ _ hns]; simp

theorem cleanStack_slash_pathClean (x : Bytes) : cleanStack (slash :: pathClean x) = cleanStack (slash :: x) := by
  by_cases hx : x = []
  · subst hx; decide
  · rw [cleanStack_slash, cleanStack_slash, foldl_splitSlash_pathClean x hx true [] (Or.inr ⟨rfl, rfl⟩)]

theorem pathClean_join_pathClean (w x : Bytes) (hx : x ≠ []) (hr : isRooted x = false) :
    pathClean (w ++ slash :: pathClean x) = pathClean (w ++ slash :: x) := by
  have hroot : isRooted (w ++ slash :: pathClean x) = isRooted (w ++ slash :: x) := by
    cases w <;> simp [isRooted]
  rw [pathClean_eq_render (w ++ slash :: pathClean x) (by simp), pathClean_eq_render (w ++ slash :: x) (by simp), hroot]
  congr 1
  unfold cleanStack
  rw [hroot, splitSlash_append, splitSlash_append, List.foldl_append, List.foldl_append,
    foldl_splitSlash_pathClean x hx _ _ (Or.inl hr)]

theorem isRooted_pathClean (x : Bytes) (hx : x ≠ []) : isRooted (pathClean x) = isRooted x := by
  obtain ⟨k, ns, hs, hns, hk⟩ := cleanStack_shape x
  rw [pathClean_eq_render x hx, hs]
  exact (cleanStack_render (isRooted x) k ns hns hk).1

theorem render_endsWithSlash (r : Bool) (S : List Bytes) (hS : ∀ c ∈ S, Comp c)
    (h : endsWithSlash (render r S) = true) : render r S = [slash] := by
  by_cases hne : S = []
  · subst hne
    cases r with
    | true => rfl
    | false => revert h; decide
  · -- the last piece of the joined elements would be empty
    obtain ⟨x, rest, hj⟩ := List.exists_cons_of_ne_nil (joinSlash_ne_nil S hne hS)
    have hlast : (joinSlash S).getLast? = some slash := by
      cases r <;> simpa [render, hne, hj, endsWithSlash] using h
    obtain ⟨ys, e⟩ := List.getLast?_eq_some_iff.mp hlast
    exact absurd rfl (split_join_comps hne hS e [] (by rw [splitSlash_append]; simp [splitSlash])).1

theorem attach_endsWithSlash (x : Bytes) (l : List Bytes) (hl : ∀ c ∈ l, Normal c)
    (h : endsWithSlash (attach (pathClean x) l) = true) : attach (pathClean x) l = [slash] := by
  obtain ⟨r, k, ns, hns, _, hp⟩ := pathClean_shape x
  rw [hp, attach_render r k ns l hns] at h ⊢
  exact render_endsWithSlash _ _ (shape_comp k _ (List.forall_mem_append.mpr ⟨hns, hl⟩)) h

theorem pathClean_slash (p : Bytes) : pathClean (slash :: p) = slash :: joinSlash (cleanStack (slash :: p)) := by
  simp [pathClean, render, isRooted]

theorem relOf_eq (req : Bytes) : relOf req = joinSlash (cleanStack (slash :: req)) := by
  rw [relOf, pathClean_slash]; rfl

theorem relOf_normal (req : Bytes) : ∀ c ∈ cleanStack (slash :: req), Normal c :=
  cleanStack_rooted_normal _ (by simp [isRooted])

theorem isLocal_of_normals (l : List Bytes) (hl : l ≠ []) (hn : ∀ c ∈ l, Normal c) : isLocal (joinSlash l) = true := by
  have hs : ∀ c ∈ l, slash ∉ c := fun c hc => (hn c hc).2.2.2
  have hroot : isRooted (joinSlash l) = false := by simpa [isRooted] using joinSlash_head l hl fun c hc => (hn c hc).comp
  have hne := joinSlash_ne_nil l hl fun c hc => (hn c hc).comp
  have hdots : hasDots (joinSlash l) = false := by
    unfold hasDots; rw [splitSlash_join l hl hs, List.any_eq_false]
    intro c hc
    simp [(hn c hc).2.1, (hn c hc).2.2.1]
  -- neither `..` nor `../…`: `..` would be one of the pieces
  have h1 : joinSlash l ≠ dotdot := fun e => (split_join hl hs hn e dotdot List.mem_cons_self).2.2.1 rfl
  have h2 : dotdotSlash.isPrefixOf (joinSlash l) = false := Bool.eq_false_iff.mpr fun hh => by
    obtain ⟨t, ht⟩ := List.isPrefixOf_iff_prefix.mp hh
    have e : joinSlash l = dotdot ++ slash :: t := by rw [← ht]; rfl
    exact (split_join hl hs hn e dotdot (by rw [splitSlash_append]; exact List.mem_cons_self)).2.2.1 rfl
  simp [isLocal, hroot, hne, hdots, h1, h2]

theorem never_rejected (req : Bytes) : rejectedAsNonLocal req = false := by
  unfold rejectedAsNonLocal
  rw [relOf_eq]
  by_cases h : cleanStack (slash :: req) = []
  · simp [h, joinSlash]
  · rw [isLocal_of_normals _ h (relOf_normal req)]; simp

theorem rootOrDot_ne_nil (root : Bytes) : rootOrDot root ≠ [] := by
  unfold rootOrDot; split <;> simp_all [dotB]

theorem sanitizedPathJoin_eq (root req : Bytes) :
    sanitizedPathJoin root req =
      attach (pathClean (rootOrDot root)) (cleanStack (slash :: req)) ++ (if wantsTrailingSlash req then [slash] else []) := by
  have hj : joinUnder (rootOrDot root) (relOf req) = attach (pathClean (rootOrDot root)) (cleanStack (slash :: req)) := by
    unfold joinUnder; rw [relOf_eq]
    exact pathClean_join _ (rootOrDot_ne_nil root) _ (relOf_normal req)
  unfold sanitizedPathJoin
  rw [never_rejected]
  simp only [Bool.false_eq_true, if_false]
  split <;> simp [hj]

theorem sanitizedPathJoin_underS (root req : Bytes) :
    UnderS (pathClean (rootOrDot root)) (sanitizedPathJoin root req) := by
  rw [sanitizedPathJoin_eq]
  split
  · exact Or.inr ⟨_, ⟨_, relOf_normal req, rfl⟩, rfl⟩
  · exact Or.inl ⟨_, relOf_normal req, List.append_nil _⟩

/-! `Under` / `UnderS` (Spec.lean) through their laws.  Where the root has to be a clean path it is written `pathClean x`: only below
such a root do attached elements stay elements (`attach_attach`, `pathClean_attach`). -/

theorem under_refl (x : Bytes) : Under (pathClean x) (pathClean x) := ⟨[], by simp, (attach_nil _).symm⟩

theorem under_trans {x f p : Bytes} (hf : Under (pathClean x) f) (hp : Under f p) : Under (pathClean x) p := by
  obtain ⟨l1, h1, rfl⟩ := hf
  obtain ⟨l2, h2, rfl⟩ := hp
  exact ⟨l1 ++ l2, List.forall_mem_append.mpr ⟨h1, h2⟩, attach_attach x l1 l2 h1⟩

theorem under_prefix {rc p : Bytes} (h : Under rc p) (h1 : rc ≠ [slash]) (h2 : rc ≠ dotB) : p = rc ∨ (rc ++ [slash]) <+: p := by
  obtain ⟨l, _, rfl⟩ := h
  by_cases hl : l = []
  · exact Or.inl (hl ▸ attach_nil rc)
  · exact Or.inr ⟨joinSlash l, by rw [attach_of_ne_nil hl h1 h2]; simp⟩

theorem under_no_dotdot {rc p : Bytes} (h : Under rc p) (hroot : dotdot ∉ splitSlash rc) : dotdot ∉ splitSlash p := by
  obtain ⟨l, hl, rfl⟩ := h
  exact fun hm => (mem_splitSlash_attach (fun c hc => (hl c hc).2.2.2) hm).elim hroot fun h => (hl _ h).2.2.1 rfl

theorem underS_ne_nil {x p : Bytes} (h : UnderS (pathClean x) p) : p ≠ [] := by
  rcases h with ⟨l, hl, rfl⟩ | ⟨q, _, rfl⟩
  · exact attach_ne_nil x l hl
  · simp

theorem sanitizedPathJoin_under (x f req : Bytes) (hf : Under (pathClean x) f) :
    UnderS (pathClean x) (sanitizedPathJoin f req) := by
  have hs := sanitizedPathJoin_underS f req
  -- `f` is its own clean root
  obtain ⟨l, hl, e⟩ := id hf
  rw [e, rootOrDot, if_neg (attach_ne_nil x l hl), pathClean_attach x l hl, ← e] at hs
  exact hs.imp (under_trans hf) fun ⟨q, hq, e⟩ => ⟨q, under_trans hf hq, e⟩

/-- `requestFile` hands `c.rootE` to `sanitizedPathJoin`, which applies `rootOrDot` once more -/
theorem rootE_fix (c : Cfg) : pathClean (rootOrDot c.rootE) = c.rootC := by
  have h := rootOrDot_ne_nil c.root
  show pathClean (rootOrDot (rootOrDot c.root)) = pathClean (rootOrDot c.root)
  generalize rootOrDot c.root = y at h
  simp [rootOrDot, h]

/-- the first name ServeHTTP stats; empty for root `/`, request `/` (the slash is trimmed) -/
theorem requestFile_eq_or_nil (c : Cfg) (path : Bytes) :
    requestFile c path = [] ∨ requestFile c path = attach c.rootC (cleanStack (slash :: path)) := by
  unfold requestFile trimSlashSuffix
  rw [sanitizedPathJoin_eq, rootE_fix]
  by_cases hw : wantsTrailingSlash path = true
  · have : endsWithSlash (attach c.rootC (cleanStack (slash :: path)) ++ [slash]) = true := by simp [endsWithSlash]
    simp only [hw, if_true, this]
    exact Or.inr (by simp)
  · simp only [hw, Bool.false_eq_true, if_false, List.append_nil]
    split
    · rename_i he
      have e : attach c.rootC (cleanStack (slash :: path)) = [slash] :=
        attach_endsWithSlash c.rootE _ (relOf_normal path) he
      rw [e]
      exact Or.inl rfl
    · exact Or.inr rfl

theorem requestFile_cases (c : Cfg) (path : Bytes) :
    requestFile c path = [] ∨ Under c.rootC (requestFile c path) :=
  (requestFile_eq_or_nil c path).imp id fun e => ⟨_, relOf_normal path, e⟩

end CaddyModel.C07
