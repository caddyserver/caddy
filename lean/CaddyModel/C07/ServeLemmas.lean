/-
C07 — the ServeHTTP skeleton.  `Justified`: what has to hold of the filesystem and the configuration for an outcome.
`serve_cases`: the first stat either ends the request with an error answer, having probed the request file (possibly the empty
name) and `/`-boundary prefixes of it, or leads, possibly through index probes, all of names below the root, to `serveNode` on a
name `f` that exists.  `serveNode_spec`: the outcome is justified if `f` is below the root, the names opened are `f` or `f` plus
a configured precompressor suffix and / or etag extension (`SidecarName`), a redirect has one of the two canonical shapes
(`RedirShape`).  Read off the two: `serve_spec`, the same three clauses for `serve` (`serve_justified`, `serve_redirect`).
-/
import CaddyModel.C07.Lemmas

namespace CaddyModel.C07

/-- the name under which the bytes of a served file / sidecar were opened -/
def Outcome.servedName : Outcome → Option Bytes
  | .file p _ => some p
  | .sidecar p _ _ => some p
  | _ => none

/-- what has to be true of the filesystem and the configuration for an outcome to be produced.  500: the first stat answered
    with an unclassified error, or `findEtag` met an etag file it cannot read; 503 never: `openAndServe` runs only on a name
    whose stat said "file". -/
def Justified (fs : FS) (c : Cfg) (_path : Bytes) : Outcome → Prop
  | .file p id => UnderS c.rootC p ∧ c.hidden p = false ∧ fs p = .file id
  | .listing p ns => UnderS c.rootC p ∧ c.hidden p = false ∧ ∃ es, fs p = .dir es ∧ ns = listingNames c p es
  | .redirect _ => True
  | .notFound => c.passThru = false
  | .passThru => c.passThru = true
  | .forbidden => ∃ n, fs n = .perm
  | .serverError => ∃ n, fs n = .other ∨ (c.etagExt ≠ [] ∧ fs n ≠ .missing ∧ ∀ id, fs n ≠ .file id)
  | .unavailable => False
  | .sidecar p id enc =>
    ∃ f suf, p = f ++ suf ∧ (enc, suf) ∈ c.pre ∧ enc ∈ c.accepted ∧
      UnderS c.rootC f ∧ c.hidden f = false ∧ (∃ id0, fs f = .file id0) ∧ fs p = .file id ∧ c.hidden p = false
  | .withEtag o n id =>
    Justified fs c _path o ∧
      ∃ f ext, o.servedName = some f ∧ ext ∈ c.etagExt ∧ n = f ++ ext ∧ fs n = .file id ∧ c.hidden n = false

def Node.Present (n : Node) : Prop := (∃ id, n = .file id) ∨ (∃ es, n = .dir es)

theorem notFoundOut_justified (fs : FS) (c : Cfg) (path : Bytes) : Justified fs c path (notFoundOut c) := by
  unfold notFoundOut
  cases h : c.passThru <;> simp [Justified, h]

theorem openAndServe_of_file {fs : FS} {c : Cfg} {f : Bytes} {id : Nat} (h : fs f = .file id) :
    openAndServe fs c f = (.file f id, [f]) := by
  simp [openAndServe, h]

theorem sidecarSuffix_mem {c : Cfg} {ae suf : Bytes} (h : sidecarSuffix c ae = some suf) : (ae, suf) ∈ c.pre := by
  simp only [sidecarSuffix, Option.map_eq_some_iff] at h
  obtain ⟨⟨a, b⟩, hf, rfl⟩ := h
  have ha : a = ae := by simpa using List.find?_some hf
  exact ha ▸ List.mem_of_find?_eq_some hf

/-- `n` is `f` plus the suffix of a configured precompressor and / or a configured etag extension -/
def SidecarName (c : Cfg) (f n : Bytes) : Prop :=
  (∃ ae suf, (ae, suf) ∈ c.pre ∧ n = f ++ suf) ∨ (∃ ext, ext ∈ c.etagExt ∧ n = f ++ ext) ∨
  (∃ ae suf ext, (ae, suf) ∈ c.pre ∧ ext ∈ c.etagExt ∧ n = f ++ suf ++ ext)

theorem findSidecar_some {fs : FS} {c : Cfg} {f p ae : Bytes} {l : List Bytes} {id : Nat}
    (h : (findSidecar fs c f l).1 = some (p, id, ae)) :
      ∃ suf, p = f ++ suf ∧ (ae, suf) ∈ c.pre ∧ ae ∈ l ∧ fs p = .file id ∧ c.hidden p = false := by
  revert h
  fun_induction findSidecar fs c f l <;> intro h
  case case1 => cases h
  case case4 a _ suf hs hh id' hf =>
    cases h
    exact ⟨suf, rfl, sidecarSuffix_mem hs, List.mem_cons_self, hf, by simpa using hh⟩
  all_goals
    rename_i ih
    exact (ih h).imp fun _ ⟨h1, h2, h3, h4⟩ => ⟨h1, h2, List.mem_cons_of_mem _ h3, h4⟩

theorem findSidecar_trace (fs : FS) (c : Cfg) (f : Bytes) (l : List Bytes) (n : Bytes)
    (h : n ∈ (findSidecar fs c f l).2) : SidecarName c f n := by
  revert h
  fun_induction findSidecar fs c f l <;> intro h
  case case1 => cases h
  case case2 ih => exact ih h
  case case3 ih => exact ih h
  case case4 a _ suf hs _ _ _ => exact Or.inl ⟨a, suf, sidecarSuffix_mem hs, by simpa using h⟩
  case case5 a _ suf hs _ _ ih =>
    rcases List.mem_cons.mp h with h | h
    · exact Or.inl ⟨a, suf, sidecarSuffix_mem hs, h⟩
    · exact ih h

theorem findEtag_some {fs : FS} {c : Cfg} {name n : Bytes} {exts : List Bytes} {id : Nat}
    (h : (findEtag fs c name exts).1 = some (some (n, id))) :
      ∃ ext, ext ∈ exts ∧ n = name ++ ext ∧ fs n = .file id ∧ c.hidden n = false := by
  revert h
  fun_induction findEtag fs c name exts <;> intro h
  case case2 ih => exact (ih h).imp fun _ => And.imp_left (List.mem_cons_of_mem _)
  case case3 ih => exact (ih h).imp fun _ => And.imp_left (List.mem_cons_of_mem _)
  case case4 e _ hh id' hf => cases h; exact ⟨e, List.mem_cons_self, rfl, hf, by simpa using hh⟩
  all_goals cases h

theorem findEtag_none {fs : FS} {c : Cfg} {name : Bytes} {exts : List Bytes}
    (h : (findEtag fs c name exts).1 = none) : exts ≠ [] ∧ ∃ n, fs n ≠ .missing ∧ ∀ id, fs n ≠ .file id := by
  revert h
  fun_induction findEtag fs c name exts <;> intro h
  case case2 ih => exact ⟨List.cons_ne_nil _ _, (ih h).2⟩
  case case3 ih => exact ⟨List.cons_ne_nil _ _, (ih h).2⟩
  case case5 e _ _ h1 h2 => exact ⟨List.cons_ne_nil _ _, name ++ e, h1, h2⟩
  all_goals cases h

theorem findEtag_trace (fs : FS) (c : Cfg) (name : Bytes) (exts : List Bytes) (n : Bytes)
    (h : n ∈ (findEtag fs c name exts).2) : ∃ ext, ext ∈ exts ∧ n = name ++ ext := by
  revert h
  fun_induction findEtag fs c name exts <;> intro h
  case case1 => cases h
  case case2 ih => exact (ih h).imp fun _ => And.imp_left (List.mem_cons_of_mem _)
  case case3 e _ _ _ ih =>
    rcases List.mem_cons.mp h with h | h
    · exact ⟨e, List.mem_cons_self, h⟩
    · exact (ih h).imp fun _ => And.imp_left (List.mem_cons_of_mem _)
  all_goals exact ⟨_, List.mem_cons_self, List.mem_singleton.mp h⟩

theorem findIndex_some {fs : FS} {c : Cfg} {f ip : Bytes} {ixs : List Bytes} {inode : Node}
    (h : (findIndex fs c f ixs).1 = some (ip, inode)) :
      fs ip = inode ∧ inode.Present ∧ ∃ ix ∈ ixs, ip = sanitizedPathJoin f ix := by
  revert h
  fun_induction findIndex fs c f ixs <;> intro h
  case case1 => cases h
  case case3 ix _ _ id hf => cases h; exact ⟨hf, Or.inl ⟨id, rfl⟩, ix, List.mem_cons_self, rfl⟩
  case case4 ix _ _ es hf => cases h; exact ⟨hf, Or.inr ⟨es, rfl⟩, ix, List.mem_cons_self, rfl⟩
  all_goals
    rename_i ih
    obtain ⟨h1, h2, ix', hm, e⟩ := ih h
    exact ⟨h1, h2, ix', List.mem_cons_of_mem _ hm, e⟩

theorem findIndex_trace (fs : FS) (c : Cfg) (f : Bytes) (ixs : List Bytes) (n : Bytes)
    (h : n ∈ (findIndex fs c f ixs).2) : ∃ ix, n = sanitizedPathJoin f ix := by
  revert h
  fun_induction findIndex fs c f ixs <;> intro h
  case case1 => cases h
  case case2 ih => exact ih h
  case case5 ix _ _ _ _ ih => exact (List.mem_cons.mp h).elim (fun e => ⟨ix, e⟩) ih
  all_goals exact ⟨_, List.mem_singleton.mp h⟩

theorem prefixNames_mem (parts : List Bytes) (n : Bytes) (h : n ∈ prefixNames parts) :
    ∃ k, n = joinSlash (parts.take k) := by
  unfold prefixNames at h
  rw [List.mem_filterMap] at h
  obtain ⟨i, _, hi⟩ := h
  split at hi
  · cases hi
  · simp at hi; exact ⟨i + 1, hi.symm⟩

theorem walkPrefixes_spec (fs : FS) (orig : Node) (ps : List Bytes) :
    ((walkPrefixes fs orig ps).1 = orig ∨ (walkPrefixes fs orig ps).1 = .missing) ∧
      ∀ n ∈ (walkPrefixes fs orig ps).2, n ∈ ps := by
  fun_induction walkPrefixes fs orig ps
  case case1 => exact ⟨Or.inl rfl, fun _ h => h⟩
  case case2 p _ _ _ ih => exact ⟨ih.1, List.cons_subset_cons p ih.2⟩
  case case3 => exact ⟨Or.inr rfl, by simp⟩
  case case4 => exact ⟨Or.inl rfl, by simp⟩

theorem mapDirOpenError_spec (fs : FS) (orig : Node) (name : Bytes) :
    ((mapDirOpenError fs orig name).1 = orig ∨ (mapDirOpenError fs orig name).1 = .missing) ∧
      ∀ n ∈ (mapDirOpenError fs orig name).2, SlashPrefix name n := by
  unfold mapDirOpenError
  split
  · exact ⟨Or.inl rfl, by simp⟩
  · exact ⟨Or.inl rfl, by simp⟩
  · exact ⟨(walkPrefixes_spec fs orig _).1, fun n hn => prefixNames_mem _ n ((walkPrefixes_spec fs orig _).2 n hn)⟩

theorem withEtagOf_spec (fs : FS) (c : Cfg) (path name : Bytes) (o : Outcome) (hn : o.servedName = some name) :
    (Justified fs c path o → Justified fs c path (withEtagOf fs c name o).1) ∧
    (∀ n ∈ (withEtagOf fs c name o).2, ∃ ext, ext ∈ c.etagExt ∧ n = name ++ ext) ∧
    ∀ x, (withEtagOf fs c name o).1 ≠ .redirect x := by
  unfold withEtagOf
  split <;> rename_i he <;>
    refine ⟨fun ho => ?_, fun n hm => findEtag_trace fs c name c.etagExt n (he ▸ hm), fun x e => ?_⟩
  · obtain ⟨h1, n, h2, h3⟩ := findEtag_none (congrArg Prod.fst he)
    exact ⟨n, Or.inr ⟨h1, h2, h3⟩⟩
  · cases e
  · exact ho
  · obtain rfl : o = .redirect x := e
    cases hn
  · rename_i n id _
    obtain ⟨ext, h1, h2, h3, h4⟩ := findEtag_some (congrArg Prod.fst he)
    exact ⟨ho, name, ext, hn, h1, h2, h3, h4⟩
  · cases e

theorem serveContent_eq {fs : FS} (c : Cfg) {f : Bytes} {id : Nat} (h : fs f = .file id) :
    (∃ p id' ae t, (findSidecar fs c f c.accepted) = (some (p, id', ae), t) ∧
      serveContent fs c f = appendTrace t (withEtagOf fs c p (.sidecar p id' ae))) ∨
    (∃ t, (findSidecar fs c f c.accepted) = (none, t) ∧
      serveContent fs c f = appendTrace (t ++ [f]) (withEtagOf fs c f (.file f id))) := by
  unfold serveContent
  split
  · rename_i p id' ae t hs
    exact Or.inl ⟨p, id', ae, t, hs, rfl⟩
  · rename_i t hs
    refine Or.inr ⟨t, hs, ?_⟩
    rw [openAndServe_of_file h]
    simp [appendTrace]

theorem serveContent_spec {fs : FS} (c : Cfg) {f : Bytes} {id : Nat} (path : Bytes) (h : fs f = .file id) :
    (UnderS c.rootC f → c.hidden f = false → Justified fs c path (serveContent fs c f).1) ∧
    (∀ n ∈ (serveContent fs c f).2, n = f ∨ SidecarName c f n) ∧
    ∀ x, (serveContent fs c f).1 ≠ .redirect x := by
  rcases serveContent_eq c h with ⟨p, id', ae, t, hs, e⟩ | ⟨t, hs, e⟩ <;> rw [e]
  · obtain ⟨suf, h1, h2, h3, h4, h5⟩ := findSidecar_some (congrArg Prod.fst hs)
    obtain ⟨hj, ht, hr⟩ := withEtagOf_spec fs c path p (.sidecar p id' ae) rfl
    refine ⟨fun hu hh => hj ⟨f, suf, h1, h2, h3, hu, hh, ⟨id, h⟩, h4, h5⟩, fun n hn => Or.inr ?_, hr⟩
    rcases List.mem_append.mp hn with hn | hn
    · exact findSidecar_trace fs c f c.accepted n (hs ▸ hn)
    · obtain ⟨ext, he, e⟩ := ht n hn
      exact Or.inr (Or.inr ⟨ae, suf, ext, h2, he, by rw [e, h1]⟩)
  · obtain ⟨hj, ht, hr⟩ := withEtagOf_spec fs c path f (.file f id) rfl
    refine ⟨fun hu hh => hj ⟨hu, hh, h⟩, fun n hn => ?_, hr⟩
    rcases List.mem_append.mp hn with hn | hn
    · rcases List.mem_append.mp hn with hn | hn
      · exact Or.inr (findSidecar_trace fs c f c.accepted n (hs ▸ hn))
      · exact Or.inl (List.mem_singleton.mp hn)
    · exact Or.inr (Or.inr (Or.inl (ht n hn)))

theorem notFoundOut_ne_redirect (c : Cfg) (x : Option Bytes) : notFoundOut c ≠ .redirect x := by
  unfold notFoundOut; split <;> simp

/-- the two canonical redirects: add a trailing slash, or remove the one that is there -/
def RedirShape (c : Cfg) (path orig : Bytes) (x : Option Bytes) : Prop :=
  x = locationOf c path orig (orig ++ [slash]) ∨
  (x = locationOf c path orig orig.dropLast ∧ endsWithSlash orig = true)

theorem serveNode_cases {fs : FS} (c : Cfg) {f : Bytes} {info : Node} (imp : Bool) (path orig : Bytes)
    (h : fs f = info) (hk : info.Present) :
    ∃ r, serveNode fs c f info imp path orig = r ∧
      (r = (notFoundOut c, []) ∨ (∃ x, RedirShape c path orig x ∧ r = (.redirect x, [])) ∨
       (c.hidden f = false ∧
        ((∃ id, fs f = .file id ∧ r = serveContent fs c f) ∨
         (∃ es, fs f = .dir es ∧ r = (.listing f (listingNames c f es), [f]))))) := by
  rcases hk with ⟨id, rfl⟩ | ⟨es, rfl⟩
  · refine ⟨serveFile fs c f imp path orig, rfl, ?_⟩
    fun_cases serveFile fs c f imp path orig
    case case1 => exact Or.inl rfl
    case case2 => exact Or.inr (Or.inl ⟨_, Or.inl rfl, rfl⟩)
    case case3 hc =>
      simp only [Bool.and_eq_true] at hc
      exact Or.inr (Or.inl ⟨_, Or.inr ⟨rfl, hc.2⟩, rfl⟩)
    case case4 hh _ _ => exact Or.inr (Or.inr ⟨by simpa using hh, Or.inl ⟨id, h, rfl⟩⟩)
  · by_cases hb : (c.browse && !c.hidden f) = true
    · refine ⟨serveBrowse c f es path orig, by simp only [serveNode, hb, if_true], ?_⟩
      simp only [Bool.and_eq_true, Bool.not_eq_true'] at hb
      fun_cases serveBrowse c f es path orig
      · exact Or.inr (Or.inl ⟨_, Or.inl rfl, rfl⟩)
      · exact Or.inr (Or.inr ⟨hb.2, Or.inr ⟨es, h, rfl⟩⟩)
    · exact ⟨_, by simp only [serveNode, hb]; rfl, Or.inl rfl⟩

theorem serveNode_spec {fs : FS} (c : Cfg) {f : Bytes} {info : Node} (imp : Bool) (path orig : Bytes)
    (h : fs f = info) (hk : info.Present) :
    (UnderS c.rootC f → Justified fs c path (serveNode fs c f info imp path orig).1) ∧
    (∀ n ∈ (serveNode fs c f info imp path orig).2, n = f ∨ SidecarName c f n) ∧
    (∀ x, (serveNode fs c f info imp path orig).1 = .redirect x → RedirShape c path orig x) := by
  obtain ⟨r, e, hr⟩ := serveNode_cases c imp path orig h hk
  rw [e]
  rcases hr with rfl | ⟨x, hx, rfl⟩ | ⟨hh, ⟨id, hf, rfl⟩ | ⟨es, hf, rfl⟩⟩
  · exact ⟨fun _ => notFoundOut_justified fs c path, by simp, fun x hx => absurd hx (notFoundOut_ne_redirect c x)⟩
  · exact ⟨fun _ => trivial, by simp, fun y hy => by cases hy; exact hx⟩
  · obtain ⟨hj, ht, hr⟩ := serveContent_spec c path hf
    exact ⟨fun hu => hj hu hh, ht, fun x hx => absurd hx (hr x)⟩
  · exact ⟨fun hu => ⟨hu, hh, es, hf, rfl⟩, by simp, fun x hx => by cases hx⟩

theorem serveStatOk_eq (fs : FS) (c : Cfg) (f : Bytes) (info : Node) (path orig : Bytes)
    (h : fs f = info) (hk : info.Present) :
    ∃ t f' info' imp, serveStatOk fs c f info path orig = appendTrace t (serveNode fs c f' info' imp path orig) ∧
      fs f' = info' ∧ info'.Present ∧ (Under c.rootC f → UnderS c.rootC f' ∧ ∀ n ∈ t, UnderS c.rootC n) := by
  have ix : Under c.rootC f → ∀ n ∈ (findIndex fs c f c.index).2, UnderS c.rootC n := fun hu n hn => by
    obtain ⟨ix, rfl⟩ := findIndex_trace fs c f c.index n hn
    exact sanitizedPathJoin_under c.rootE f ix hu
  fun_cases serveStatOk fs c f info path orig
  case case1 ip inode t hfi =>
    obtain ⟨h1, h2, ix', _, rfl⟩ := findIndex_some (congrArg Prod.fst hfi)
    exact ⟨t, _, inode, true, rfl, h1, h2, fun hu => ⟨sanitizedPathJoin_under c.rootE f ix' hu, fun n hn => ix hu n (hfi ▸ hn)⟩⟩
  case case2 t hfi =>
    exact ⟨t, f, info, false, rfl, h, hk, fun hu => ⟨Or.inl hu, fun n hn => ix hu n (hfi ▸ hn)⟩⟩
  case case3 => exact ⟨[], f, info, false, rfl, h, hk, fun hu => ⟨Or.inl hu, List.forall_mem_nil _⟩⟩

theorem serve_cases (fs : FS) (c : Cfg) (path orig : Bytes) :
    (∃ t f info imp, serve fs c path orig = appendTrace t (serveNode fs c f info imp path orig) ∧
      fs f = info ∧ info.Present ∧ (fs [] = .missing → UnderS c.rootC f ∧ ∀ n ∈ t, UnderS c.rootC n)) ∨
    (((serve fs c path orig).1 = notFoundOut c ∨
      ((serve fs c path orig).1 = .forbidden ∧ fs (requestFile c path) = .perm) ∨
      ((serve fs c path orig).1 = .serverError ∧ fs (requestFile c path) = .other)) ∧
     ∀ n ∈ (serve fs c path orig).2, n = requestFile c path ∨ SlashPrefix (requestFile c path) n) := by
  have ok : ∀ info, fs (requestFile c path) = info → info.Present →
      ∃ t f info' imp, withTrace (requestFile c path) (serveStatOk fs c (requestFile c path) info path orig) =
          appendTrace t (serveNode fs c f info' imp path orig) ∧
        fs f = info' ∧ info'.Present ∧ (fs [] = .missing → UnderS c.rootC f ∧ ∀ n ∈ t, UnderS c.rootC n) := fun info h hk => by
    obtain ⟨t, f', info', imp, e', h', hk', hm⟩ := serveStatOk_eq fs c _ info path orig h hk
    refine ⟨requestFile c path :: t, f', info', imp, by rw [e']; rfl, h', hk', fun hfs => ?_⟩
    -- a name that exists is not the empty name, so the request file is below the root
    have hu : Under c.rootC (requestFile c path) := (requestFile_cases c path).resolve_left fun hnil => by
      rw [hnil, hfs] at h
      rcases hk with ⟨_, e⟩ | ⟨_, e⟩ <;> rw [e] at h <;> cases h
    exact ⟨(hm hu).1, List.forall_mem_cons.mpr ⟨Or.inl hu, (hm hu).2⟩⟩
  unfold serve
  split
  · rename_i id hf; exact Or.inl (ok _ hf (Or.inl ⟨id, rfl⟩))
  · rename_i es hf; exact Or.inl (ok _ hf (Or.inr ⟨es, rfl⟩))
  · rename_i hnf hnd
    right
    obtain ⟨hres, htr⟩ := mapDirOpenError_spec fs (fs (requestFile c path)) (requestFile c path)
    generalize mapDirOpenError fs (fs (requestFile c path)) (requestFile c path) = r at hres htr
    obtain ⟨o, t⟩ := r
    have tr : ∀ out : Outcome, ∀ n ∈ (withTrace (requestFile c path) (out, t)).2,
        n = requestFile c path ∨ SlashPrefix (requestFile c path) n :=
      fun out n hn => (List.mem_cons.mp hn).imp id (htr n)
    cases o with
    | missing => exact ⟨Or.inl rfl, tr _⟩
    | invalid => exact ⟨Or.inl rfl, tr _⟩
    | perm => exact ⟨Or.inr (Or.inl ⟨rfl, (hres.resolve_right (by simp)).symm⟩), tr _⟩
    | other => exact ⟨Or.inr (Or.inr ⟨rfl, (hres.resolve_right (by simp)).symm⟩), tr _⟩
    | file id => exact absurd (hres.resolve_right (by simp)).symm (hnf id)
    | dir es => exact absurd (hres.resolve_right (by simp)).symm (hnd es)

theorem serve_spec (fs : FS) (c : Cfg) (path orig : Bytes) :
    (fs [] = .missing → Justified fs c path (serve fs c path orig).1) ∧
    (fs [] = .missing → ∀ n ∈ (serve fs c path orig).2,
      n = [] ∨ UnderS c.rootC n ∨ (∃ f, UnderS c.rootC f ∧ SidecarName c f n) ∨ SlashPrefix (requestFile c path) n) ∧
    (∀ x, (serve fs c path orig).1 = .redirect x → RedirShape c path orig x) := by
  rcases serve_cases fs c path orig with ⟨t, f, info, imp, e, h, hk, hu⟩ | ⟨ho, ht⟩
  · obtain ⟨hj, htr, hr⟩ := serveNode_spec c imp path orig h hk
    rw [e]
    refine ⟨fun hfs => hj (hu hfs).1, fun hfs n hn => ?_, hr⟩
    rcases List.mem_append.mp hn with hn | hn
    · exact Or.inr (Or.inl ((hu hfs).2 n hn))
    · rcases htr n hn with rfl | hs
      · exact Or.inr (Or.inl (hu hfs).1)
      · exact Or.inr (Or.inr (Or.inl ⟨f, (hu hfs).1, hs⟩))
  · refine ⟨fun _ => ?_, fun _ n hn => ?_, fun x hx => ?_⟩
    · rcases ho with e | ⟨e, hp⟩ | ⟨e, hp⟩ <;> rw [e]
      · exact notFoundOut_justified fs c path
      · exact ⟨_, hp⟩
      · exact ⟨_, Or.inl hp⟩
    · rcases ht n hn with rfl | hp
      · exact (requestFile_cases c path).imp id fun hu => Or.inl (Or.inl hu)
      · exact Or.inr (Or.inr (Or.inr hp))
    · rcases ho with e | ⟨e, _⟩ | ⟨e, _⟩ <;> rw [e] at hx
      · exact absurd hx (notFoundOut_ne_redirect c x)
      · cases hx
      · cases hx

theorem serve_justified (fs : FS) (c : Cfg) (path orig : Bytes) (hfs : fs [] = .missing) :
    Justified fs c path (serve fs c path orig).1 :=
  (serve_spec fs c path orig).1 hfs

theorem serve_eq_justified {fs : FS} {c : Cfg} {path orig : Bytes} {o : Outcome} (hfs : fs [] = .missing)
    (h : (serve fs c path orig).1 = o) : Justified fs c path o :=
  h ▸ serve_justified fs c path orig hfs

theorem serve_redirect (fs : FS) (c : Cfg) (path orig : Bytes) (x : Option Bytes)
    (hx : (serve fs c path orig).1 = .redirect x) : RedirShape c path orig x :=
  (serve_spec fs c path orig).2.2 x hx

end CaddyModel.C07
