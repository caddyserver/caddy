/-
C07 — the `Location` of a canonical-URI redirect starts with exactly one `/`: it is a path on
the same origin, never a scheme-relative `//host/…` reference.
-/
import CaddyModel.C07.Lemmas

namespace CaddyModel.C07

/-- starts with `/`, and the next byte (if any) is not `/` -/
def SingleSlashStart (s : Bytes) : Prop := ∃ rest, s = slash :: rest ∧ rest.head? ≠ some slash

theorem stripDoubleSlash_single (t : Bytes) : SingleSlashStart (stripDoubleSlash (slash :: t)) := by
  generalize hp : slash :: t = p
  fun_induction stripDoubleSlash p generalizing t
  case case1 rest ih => exact ih rest rfl
  case case2 p hx =>
    subst hp
    refine ⟨t, rfl, fun h => ?_⟩
    obtain ⟨t', rfl⟩ := List.head?_eq_some_iff.mp h
    exact hx t' rfl

theorem single_append {s q : Bytes} (h : SingleSlashStart s) (hq : q.head? ≠ some slash) :
    SingleSlashStart (s ++ q) := by
  obtain ⟨rest, rfl, hr⟩ := h
  refine ⟨rest ++ q, by simp, ?_⟩
  cases rest with
  | nil => simpa using hq
  | cons a t => simpa using hr

theorem hexEscape_single {s : Bytes} (h : SingleSlashStart s) : SingleSlashStart (hexEscapeNonASCII s) := by
  obtain ⟨rest, rfl, hr⟩ := h
  refine ⟨hexEscapeNonASCII rest, by simp [hexEscapeNonASCII, slash], ?_⟩
  fun_cases hexEscapeNonASCII rest <;> simp_all [slash]

theorem splitQuery_slash (rest : Bytes) :
    splitQuery (slash :: rest) = (slash :: (splitQuery rest).1, (splitQuery rest).2) := by
  simp [splitQuery, slash]

theorem splitQuery_snd_head (s : Bytes) : (splitQuery s).2.head? ≠ some slash := by
  fun_induction splitQuery s <;> simp_all [slash]

theorem pathClean_rooted_single (p : Bytes) : SingleSlashStart (pathClean (slash :: p)) := by
  refine ⟨_, pathClean_slash p, ?_⟩
  by_cases hnil : cleanStack (slash :: p) = []
  · simp [hnil, joinSlash]
  · exact joinSlash_head _ hnil (cleanStack_comp _)

theorem cleanKeepSlash_single (p : Bytes) : SingleSlashStart (cleanKeepSlash (slash :: p)) := by
  obtain ⟨rest, e, hr⟩ := pathClean_rooted_single p
  unfold cleanKeepSlash
  split
  · rename_i hc
    refine ⟨rest ++ [slash], by rw [e]; simp, ?_⟩
    cases rest with
    | nil => rw [e] at hc; simp [endsWithSlash] at hc   -- `/` ends with a slash: this branch is not taken
    | cons a t => simpa using hr
  · exact ⟨rest, e, hr⟩

theorem goRedirect_single (oldpath to query : Bytes) (h : to.head? = some slash) :
    SingleSlashStart (goRedirect oldpath (redirectTo to query)) := by
  obtain ⟨t, rfl⟩ := List.head?_eq_some_iff.mp h
  have hu : SingleSlashStart (redirectTo (slash :: t) query) := by
    unfold redirectTo
    apply single_append (stripDoubleSlash_single t)
    split <;> simp [slash]
  unfold goRedirect
  split
  · apply hexEscape_single
    obtain ⟨rest, e, _⟩ := hu
    have hh : (redirectTo (slash :: t) query).head? = some slash := by rw [e]; rfl
    simp only [hh, if_true]
    rw [e, splitQuery_slash]
    exact single_append (cleanKeepSlash_single _) (splitQuery_snd_head rest)
  · exact hexEscape_single hu

theorem locationOf_eq_some {c : Cfg} {path orig to l : Bytes} (h : some l = locationOf c path orig to) :
    ∃ t, orig = slash :: t ∧ l = goRedirect path (redirectTo to c.query) := by
  unfold locationOf at h
  split at h
  · rename_i hr
    obtain ⟨t, rfl⟩ := List.head?_eq_some_iff.mp (of_decide_eq_true hr)
    exact ⟨t, rfl, Option.some.inj h⟩
  · cases h

end CaddyModel.C07
