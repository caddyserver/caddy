/-
C07 — model of the static file server's path handling, as the code is (unix build):

* `pathClean`            Go `path.Clean` / `filepath.Clean` (identical on unix)
* `isLocal`              `filepath.IsLocal` (unix)
* `sanitizedPathJoin`    `caddyhttp.SanitizedPathJoin`            (caddyhttp.go)
* `fastAbs`              `caddy.FastAbs` against the cached working directory `cwd`
* `fileHidden`           `fileserver.fileHidden` + `transformHidePaths` (staticfiles.go)
* `serve`                decision skeleton of `FileServer.ServeHTTP` + `serveBrowse` +
                         `directoryListing` over an abstract filesystem `FS`
* `matchFile`            `MatchFile.selectFile` (first_exist / first_exist_fallback): candidate
                         construction, `fs.Glob`, `strictFileExists`

Byte strings are `List UInt8`.  The filesystem is a parameter `fs : Bytes → Node`: what
`Open(name)` answers for the exact string handed to it.  Every function that touches the
filesystem also returns the list of names it handed to `Open`, in order (the *trace*).
The glob matcher (`path.Match`) lives in `Glob.lean`.
-/
import CaddyModel.Util.Hex
import CaddyModel.C07.Glob
import CaddyModel.Gen.Glue

namespace CaddyModel.C07

/-! ### path.Clean -/

def consHead (c : UInt8) : List Bytes → List Bytes
  | [] => [[c]]
  | h :: t => (c :: h) :: t

/-- `strings.Split(s, "/")` -/
def splitSlash : Bytes → List Bytes
  | [] => [[]]
  | c :: cs => if c = slash then [] :: splitSlash cs else consHead c (splitSlash cs)

/-- `strings.Join(l, "/")` -/
def joinSlash : List Bytes → Bytes
  | [] => []
  | [a] => a
  | a :: b :: t => a ++ slash :: joinSlash (b :: t)

def dotB : Bytes := [46]
def dotdot : Bytes := [46, 46]

/-- one path element processed by `Clean`; `st` is the output so far as a stack of elements,
    top first.  `..` pops a real element, is dropped at the root of a rooted path and is kept
    at the front of a relative one. -/
def cleanStep (rooted : Bool) (st : List Bytes) (c : Bytes) : List Bytes :=
  if c = [] then st
  else if c = dotB then st
  else if c = dotdot then
    match st with
    | [] => if rooted then [] else [dotdot]
    | t :: r => if t = dotdot then dotdot :: t :: r else r
  else c :: st

def isRooted (p : Bytes) : Bool := p.head? = some slash

def cleanStack (p : Bytes) : List Bytes :=
  ((splitSlash p).foldl (cleanStep (isRooted p)) []).reverse

/-- the cleaned path for a given element list -/
def render (rooted : Bool) (st : List Bytes) : Bytes :=
  if rooted then slash :: joinSlash st
  else if st = [] then dotB else joinSlash st

def pathClean (p : Bytes) : Bytes :=
  if p = [] then dotB else render (isRooted p) (cleanStack p)

/-! ### filepath.IsLocal (unix), filepath.Join, SanitizedPathJoin -/

def hasDots (p : Bytes) : Bool := (splitSlash p).any (fun c => c = dotB ∨ c = dotdot)

def dotdotSlash : Bytes := [46, 46, 47]

def isLocal (p : Bytes) : Bool :=
  if isRooted p ∨ p = [] then false
  else if hasDots p then
    !(pathClean p = dotdot ∨ dotdotSlash.isPrefixOf (pathClean p))
  else !(p = dotdot ∨ dotdotSlash.isPrefixOf p)

/-- `root == "" → "."` -/
def rootOrDot (root : Bytes) : Bytes := if root = [] then dotB else root

/-- `path.Clean("/" + reqPath)[1:]` -/
def relOf (req : Bytes) : Bytes := (pathClean (slash :: req)).drop 1

def endsWithSlash (p : Bytes) : Bool := p.getLast? = some slash

/-- `strings.HasSuffix(reqPath, "/") && len(reqPath) > 1` -/
def wantsTrailingSlash (req : Bytes) : Bool := endsWithSlash req && decide (req.length > 1)

/-- `filepath.Join(root, rel)` for a non-empty `root` -/
def joinUnder (root rel : Bytes) : Bytes := pathClean (root ++ slash :: rel)

def rejectedAsNonLocal (req : Bytes) : Bool := relOf req ≠ [] && !isLocal (relOf req)

def sanitizedPathJoin (root req : Bytes) : Bytes :=
  if rejectedAsNonLocal req then rootOrDot root
  else if wantsTrailingSlash req then joinUnder (rootOrDot root) (relOf req) ++ [slash]
  else joinUnder (rootOrDot root) (relOf req)

/-! ### FastAbs, fileHidden -/

/-- `caddy.FastAbs` with `wd = cwd`, `wderr = nil` -/
def fastAbs (cwd p : Bytes) : Bytes :=
  if isRooted p then pathClean p else pathClean (cwd ++ slash :: p)

def hasSlash (p : Bytes) : Bool := p.contains slash

/-- `Provision` / `transformHidePaths`: entries with a separator are made absolute -/
def transformHide (cwd : Bytes) (hide : List Bytes) : List Bytes :=
  hide.map fun h => if hasSlash h then fastAbs cwd h else h

/-- `filepath.Match(h, s)` with the error dropped -/
def fmatch (h s : Bytes) : Bool := globMatch h s = some true

/-- `strings.HasPrefix(fn, h) && strings.HasPrefix(strings.TrimPrefix(fn, h), "/")` -/
def prefixRule (h fn : Bytes) : Bool := h.isPrefixOf fn && (fn.drop h.length).head? = some slash

/-- one hide entry against an (absolute) file name -/
def hiddenBy (fn h : Bytes) : Bool :=
  (if hasSlash h then prefixRule h fn else (splitSlash fn).any (fmatch h)) || fmatch h fn

/-- `fileHidden(filename, hide)`; `hide` is the already transformed list -/
def fileHidden (cwd filename : Bytes) (hide : List Bytes) : Bool :=
  if hide = [] then false else hide.any (hiddenBy (fastAbs cwd filename))

/-! ### the abstract filesystem -/

structure Entry where
  name : Bytes
  isDir : Bool
deriving DecidableEq, Repr

/-- what `Open(name)` (and hence `fs.Stat`) answers -/
inductive Node where
  | missing                       -- fs.ErrNotExist
  | perm                          -- fs.ErrPermission
  | invalid                       -- fs.ErrInvalid
  | other                         -- any other error (ENOTDIR, EIO, …)
  | file (id : Nat)
  | dir (entries : List Entry)
deriving DecidableEq, Repr

abbrev FS := Bytes → Node

def Node.isDirB : Node → Bool
  | .dir _ => true
  | _ => false

def Node.isErr : Node → Bool
  | .file _ => false
  | .dir _ => false
  | _ => true

/-- result paired with the names handed to the filesystem -/
abbrev Traced (α : Type) := α × List Bytes

def withTrace {α : Type} (p : Bytes) (r : Traced α) : Traced α := (r.1, p :: r.2)

def appendTrace {α : Type} (t : List Bytes) (r : Traced α) : Traced α := (r.1, t ++ r.2)

/-! ### mapDirOpenError -/

/-- the names `mapDirOpenError` stats: for every non-empty part `i`, `parts[:i+1]` joined -/
def prefixNames (parts : List Bytes) : List Bytes :=
  (List.range parts.length).filterMap fun i =>
    if parts.getD i [] = [] then none else some (joinSlash (parts.take (i + 1)))

def walkPrefixes (fs : FS) (orig : Node) : List Bytes → Traced Node
  | [] => (orig, [])
  | p :: ps =>
    match fs p with
    | .dir _ => withTrace p (walkPrefixes fs orig ps)
    | .file _ => (.missing, [p])
    | _ => (orig, [p])

/-- `mapDirOpenError(fs, err, name)`; `orig` is an error node -/
def mapDirOpenError (fs : FS) (orig : Node) (name : Bytes) : Traced Node :=
  match orig with
  | .missing => (.missing, [])
  | .perm => (.perm, [])
  | _ => walkPrefixes fs orig (prefixNames (splitSlash name))

/-! ### FileServer.ServeHTTP -/

structure Cfg where
  cwd : Bytes
  root : Bytes              -- after placeholder expansion; "" means "."
  hide : List Bytes         -- as configured
  index : List Bytes
  browse : Bool
  passThru : Bool
  canonical : Bool
  pre : List (Bytes × Bytes) := []   -- precompressed: Accept-Encoding name ↦ file suffix (a Go map: keys unique)
  accepted : List Bytes := []        -- what `encode.AcceptedEncodings(r, order)` returned, in order
  etagExt : List Bytes := []         -- `etag_file_extensions`
  query : Bytes := []                -- request data: `r.URL.RawQuery` (kept here so that `serve` keeps its signature)
deriving Repr

inductive Outcome where
  | notFound                                  -- 404
  | passThru                                  -- next handler invoked
  | forbidden                                 -- 403
  | serverError                               -- 500
  | unavailable                               -- 503 (open failed with an unclassified error)
  | redirect (location : Option Bytes)        -- 308 canonical-URI redirect; the `Location` header value
                                              -- (`none`: original path not rooted, outside `locationOf`)
  | file (path : Bytes) (id : Nat)            -- bytes of file `id`, opened as `path`
  | listing (path : Bytes) (names : List Bytes)  -- directory listing of `path`
  | sidecar (path : Bytes) (id : Nat) (enc : Bytes)  -- bytes of precompressed file `id`, opened as `path`,
                                                     -- sent with `Content-Encoding: enc`
  | withEtag (o : Outcome) (name : Bytes) (id : Nat)   -- `o` (a file or a sidecar), with the `Etag` header taken
                                                     -- from the content of file `id`, read as `name`
deriving DecidableEq, Repr

def Cfg.rootE (c : Cfg) : Bytes := rootOrDot c.root
def Cfg.hideT (c : Cfg) : List Bytes := transformHide c.cwd c.hide
def Cfg.hidden (c : Cfg) (p : Bytes) : Bool := fileHidden c.cwd p c.hideT

/-- `defaultIndexNames` (staticfiles.go), what `Provision` puts in place of an omitted `index_names`;
    read off the source on every run (`Gen.defaultIndexNames`) -/
def defaultIndexNames : List Bytes := CaddyModel.Gen.defaultIndexNames.map str

def notFoundOut (c : Cfg) : Outcome := if c.passThru then .passThru else .notFound

def trimSlashSuffix (p : Bytes) : Bytes := if endsWithSlash p then p.dropLast else p

/-- the name ServeHTTP stats first -/
def requestFile (c : Cfg) (path : Bytes) : Bytes := trimSlashSuffix (sanitizedPathJoin c.rootE path)

/-- index lookup: the first index name that is not hidden and can be stat'ed -/
def findIndex (fs : FS) (c : Cfg) (filename : Bytes) : List Bytes → Traced (Option (Bytes × Node))
  | [] => (none, [])
  | ix :: rest =>
    if c.hidden (sanitizedPathJoin filename ix) then findIndex fs c filename rest
    else match fs (sanitizedPathJoin filename ix) with
      | .file id => (some (sanitizedPathJoin filename ix, .file id), [sanitizedPathJoin filename ix])
      | .dir es => (some (sanitizedPathJoin filename ix, .dir es), [sanitizedPathJoin filename ix])
      | _ => withTrace (sanitizedPathJoin filename ix) (findIndex fs c filename rest)

/-- `path.Base` -/
def pathBase (p : Bytes) : Bytes :=
  if p = [] then dotB
  else match ((splitSlash p).filter (· ≠ [])).getLast? with
    | none => [slash]
    | some b => b

def sameBase (orig path : Bytes) : Bool := pathBase orig = pathBase path

/-- `path.Join(dir, n)` -/
def pathJoin2 (d n : Bytes) : Bytes :=
  if d = [] then (if n = [] then [] else pathClean n) else pathClean (d ++ slash :: n)

def showEntry (e : Entry) : Bytes := if e.isDir then e.name ++ [slash] else e.name

/-- the filter `directoryListing` applied before the fix cfacd08: `fileHidden(entry.Name(), …)`
    on the bare name only (resolved against the working directory).  Kept for `Witness.lean`. -/
def listingNamesOld (c : Cfg) (es : List Entry) : List Bytes :=
  (es.filter fun e => !c.hidden e.name).map showEntry

/-- the entry path of the filter of /repo cfacd08 (before the fix that hands `dirPath` down):
    `SanitizedPathJoin(root, path.Join(dirURLPath, name))`, `dirURLPath` = the cleaned request
    path.  Kept for `Witness.lean`. -/
def entryPathUrl (c : Cfg) (path name : Bytes) : Bytes :=
  sanitizedPathJoin c.rootE (pathJoin2 (pathClean path) name)

/-- the filter of /repo cfacd08.  Kept for `Witness.lean`. -/
def listingNamesUrl (c : Cfg) (path : Bytes) (es : List Entry) : List Bytes :=
  (es.filter fun e => !(c.hidden e.name || c.hidden (entryPathUrl c path e.name))).map showEntry

/-- the entry names a listing shows: an entry is skipped if
    `fileHidden(name, hide) || fileHidden(filepath.Join(dirPath, name), hide)`, `dirPath` being the
    directory `serveBrowse` opened -/
def listingNames (c : Cfg) (dirPath : Bytes) (es : List Entry) : List Bytes :=
  (es.filter fun e => !(c.hidden e.name || c.hidden (pathJoin2 dirPath e.name))).map showEntry

/-- `path.Split`: everything up to and including the last slash, and the rest -/
def pathSplit : Bytes → Bytes × Bytes
  | [] => ([], [])
  | c :: cs =>
    if hasSlash (c :: cs) then (c :: (pathSplit cs).1, (pathSplit cs).2)
    else ([], c :: cs)

/-! ### the canonical-URI redirect: `redirect` (staticfiles.go) + `http.Redirect` -/

/-- `for strings.HasPrefix(toPath, "//") { toPath = strings.TrimPrefix(toPath, "/") }` -/
def stripDoubleSlash : Bytes → Bytes
  | 47 :: 47 :: rest => stripDoubleSlash (47 :: rest)
  | p => p

/-- `toPath` as handed to `http.Redirect`: leading double slashes collapsed, query re-attached -/
def redirectTo (to query : Bytes) : Bytes :=
  stripDoubleSlash to ++ (if query = [] then [] else 63 :: query)

def isCTL (c : UInt8) : Bool := c < 32 || c = 127
def isHex (c : UInt8) : Bool := (48 ≤ c && c ≤ 57) || (97 ≤ c && c ≤ 102) || (65 ≤ c && c ≤ 70)

/-- `url.unescape` accepts the string: every `%` is followed by two hex digits -/
def validEsc : Bytes → Bool
  | [] => true
  | 37 :: a :: b :: rest => isHex a && isHex b && validEsc rest
  | 37 :: _ => false
  | _ :: rest => validEsc rest

/-- `strings.Cut(s, c)`: before, after (after = [] also when `c` does not occur) -/
def cutAt (c : UInt8) : Bytes → Bytes × Bytes
  | [] => ([], [])
  | x :: xs => if x = c then ([], xs) else ((cutAt c xs).1.cons x, (cutAt c xs).2)

/-- `url.Parse(u)` succeeds — for `u` empty or starting with `?` or with a single `/` (then no
    scheme and no authority can be found): no control byte before `#`, valid escapes in the path
    and in the fragment -/
def urlParseOK (u : Bytes) : Bool :=
  !(cutAt 35 u).1.any isCTL && validEsc (cutAt 63 (cutAt 35 u).1).1 && validEsc (cutAt 35 u).2

/-- `strings.Index(url, "?")` split: the part before, and the rest including the `?` -/
def splitQuery : Bytes → Bytes × Bytes
  | [] => ([], [])
  | x :: xs => if x = 63 then ([], x :: xs) else ((splitQuery xs).1.cons x, (splitQuery xs).2)

/-- "clean up but preserve trailing slash" -/
def cleanKeepSlash (p : Bytes) : Bytes :=
  if endsWithSlash p && !endsWithSlash (pathClean p) then pathClean p ++ [slash] else pathClean p

def hexDigitLower (n : UInt8) : UInt8 := if n < 10 then 48 + n else 87 + n

/-- `hexEscapeNonASCII` -/
def hexEscapeNonASCII : Bytes → Bytes
  | [] => []
  | c :: cs => if c ≥ 128 then 37 :: hexDigitLower (c / 16) :: hexDigitLower (c % 16) :: hexEscapeNonASCII cs
               else c :: hexEscapeNonASCII cs

/-- `path.Split(p)`'s directory part -/
def dirOf (p : Bytes) : Bytes := (pathSplit p).1

/-- the `Location` header `http.Redirect(w, r, url, 308)` sets (`oldpath` = `r.URL.Path`) -/
def goRedirect (oldpath url : Bytes) : Bytes :=
  if urlParseOK url then
    hexEscapeNonASCII
      (cleanKeepSlash (splitQuery (if url.head? = some slash then url
                                    else dirOf (if oldpath = [] then [slash] else oldpath) ++ url)).1 ++
       (splitQuery (if url.head? = some slash then url
                    else dirOf (if oldpath = [] then [slash] else oldpath) ++ url)).2)
  else hexEscapeNonASCII url

/-- the `Location` of a canonical redirect to `to`; defined when the original request path is
    rooted (every origin-form request target is) -/
def locationOf (c : Cfg) (path orig to : Bytes) : Option Bytes :=
  if isRooted orig then some (goRedirect path (redirectTo to c.query)) else none

/-- `serveBrowse` -/
def serveBrowse (c : Cfg) (dirPath : Bytes) (es : List Entry) (path orig : Bytes) : Traced Outcome :=
  if (path = [] || sameBase orig path) && !endsWithSlash orig then (.redirect (locationOf c path orig (orig ++ [slash])), [])
  else (.listing dirPath (listingNames c dirPath es), [dirPath])

/-- `openFile` + `http.ServeContent` on the chosen file -/
def openAndServe (fs : FS) (c : Cfg) (filename : Bytes) : Traced Outcome :=
  match fs filename with
  | .file id => (.file filename id, [filename])
  | .dir _ => (.serverError, [filename])      -- cannot happen on a static filesystem: stat said "file"
  | e =>
    withTrace filename <|
      match mapDirOpenError fs e filename with
      | (.missing, t) => (notFoundOut c, t)
      | (.perm, t) => (.forbidden, t)
      | (_, t) => (.unavailable, t)

/-- `fsrv.precompressors[ae]` -/
def sidecarSuffix (c : Cfg) (ae : Bytes) : Option Bytes := (c.pre.find? (·.1 = ae)).map (·.2)

/-- the sidecar lookup before the sidecar's own name was tested against the hide list.
    Kept for `Props.sidecar_honours_hide_old_code_fails`. -/
def findSidecarOld (fs : FS) (c : Cfg) (filename : Bytes) : List Bytes → Traced (Option (Bytes × Nat × Bytes))
  | [] => (none, [])
  | ae :: rest =>
    match sidecarSuffix c ae with
    | none => findSidecarOld fs c filename rest
    | some suf =>
      match fs (filename ++ suf) with
      | .file id => (some (filename ++ suf, id, ae), [filename ++ suf, filename ++ suf])
      | _ => withTrace (filename ++ suf) (findSidecarOld fs c filename rest)

/-- "check for precompressed files": the first accepted encoding with a configured precompressor
    whose sidecar `filename + suffix` is not hidden, can be stat'ed and is not a directory -/
def findSidecar (fs : FS) (c : Cfg) (filename : Bytes) : List Bytes → Traced (Option (Bytes × Nat × Bytes))
  | [] => (none, [])
  | ae :: rest =>
    match sidecarSuffix c ae with
    | none => findSidecar fs c filename rest
    | some suf =>
      if c.hidden (filename ++ suf) then findSidecar fs c filename rest
      else
        match fs (filename ++ suf) with
        | .file id => (some (filename ++ suf, id, ae), [filename ++ suf, filename ++ suf])
        | _ => withTrace (filename ++ suf) (findSidecar fs c filename rest)

/-- the etag-file lookup before the etag file's own name was tested against the hide list.
    Kept for `Props.etag_honours_hide_old_code_fails`. -/
def findEtagOld (fs : FS) (name : Bytes) : List Bytes → Traced (Option (Option (Bytes × Nat)))
  | [] => (some none, [])
  | ext :: rest =>
    match fs (name ++ ext) with
    | .missing => withTrace (name ++ ext) (findEtagOld fs name rest)
    | .file id => (some (some (name ++ ext, id)), [name ++ ext])
    | _ => (none, [name ++ ext])

/-- `getEtagFromFile(fileSystem, name, filesToHide)`: the first of `name + ext` that is not hidden
    and can be read; `none` = a read error other than "does not exist" (ServeHTTP returns it:
    500); `some none` = no etag file -/
def findEtag (fs : FS) (c : Cfg) (name : Bytes) : List Bytes → Traced (Option (Option (Bytes × Nat)))
  | [] => (some none, [])
  | ext :: rest =>
    if c.hidden (name ++ ext) then findEtag fs c name rest
    else
      match fs (name ++ ext) with
      | .missing => withTrace (name ++ ext) (findEtag fs c name rest)
      | .file id => (some (some (name ++ ext, id)), [name ++ ext])
      | _ => (none, [name ++ ext])

/-- "try to get the etag from pre computed files if an etag suffix list was provided" -/
def withEtagOf (fs : FS) (c : Cfg) (name : Bytes) (o : Outcome) : Traced Outcome :=
  match findEtag fs c name c.etagExt with
  | (none, t) => (.serverError, t)
  | (some none, t) => (o, t)
  | (some (some (n, id)), t) => (.withEtag o n id, t)

/-- sidecar or the file itself, then the etag file of whichever was opened -/
def serveContent (fs : FS) (c : Cfg) (filename : Bytes) : Traced Outcome :=
  match findSidecar fs c filename c.accepted with
  | (some (p, id, ae), t) => appendTrace t (withEtagOf fs c p (.sidecar p id ae))
  | (none, t) =>
    appendTrace t <|
      match openAndServe fs c filename with
      | (.file f id, t2) => appendTrace t2 (withEtagOf fs c f (.file f id))
      | r => r

/-- hidden check, canonical-URI redirect, open (everything after the directory branch) -/
def serveFile (fs : FS) (c : Cfg) (filename : Bytes) (implicitIndex : Bool) (path orig : Bytes) : Traced Outcome :=
  if c.hidden filename then (notFoundOut c, [])
  else if c.canonical && sameBase orig path && implicitIndex && !endsWithSlash orig then
    (.redirect (locationOf c path orig (orig ++ [slash])), [])
  else if c.canonical && sameBase orig path && !implicitIndex && endsWithSlash orig then
    (.redirect (locationOf c path orig orig.dropLast), [])
  else serveContent fs c filename

/-- directory or file? -/
def serveNode (fs : FS) (c : Cfg) (filename : Bytes) (info : Node) (implicitIndex : Bool)
    (path orig : Bytes) : Traced Outcome :=
  match info with
  | .dir es =>
    if c.browse && !c.hidden filename then serveBrowse c filename es path orig
    else (notFoundOut c, [])
  | _ => serveFile fs c filename implicitIndex path orig


/-- after a successful first stat -/
def serveStatOk (fs : FS) (c : Cfg) (filename : Bytes) (info : Node) (path orig : Bytes) : Traced Outcome :=
  if info.isDirB && c.index ≠ [] then
    match findIndex fs c filename c.index with
    | (some (ip, inode), t) => appendTrace t (serveNode fs c ip inode true path orig)
    | (none, t) => appendTrace t (serveNode fs c filename info false path orig)
  else serveNode fs c filename info false path orig

/-- `FileServer.ServeHTTP`: `path` = `r.URL.Path`, `orig` = the original request's path -/
def serve (fs : FS) (c : Cfg) (path orig : Bytes) : Traced Outcome :=
  withTrace (requestFile c path) <|
    match fs (requestFile c path) with
    | .file id => serveStatOk fs c (requestFile c path) (.file id) path orig
    | .dir es => serveStatOk fs c (requestFile c path) (.dir es) path orig
    | e =>
      match mapDirOpenError fs e (requestFile c path) with
      | (.missing, t) => (notFoundOut c, t)
      | (.invalid, t) => (notFoundOut c, t)
      | (.perm, t) => (.forbidden, t)
      | (_, t) => (.serverError, t)

/-! ### MatchFile.selectFile -/

/-- `globSafeRepl`: `*`, `[`, `?` from a placeholder value get a backslash -/
def globSafe : Bytes → Bytes
  | [] => []
  | c :: cs => if c = 42 ∨ c = 91 ∨ c = 63 then 92 :: c :: globSafe cs else c :: globSafe cs

/-- a `try_files` entry: literal prefix, optionally `{http.request.uri.path}`, literal suffix -/
structure TryFile where
  pre : Bytes
  usePath : Bool
  suf : Bytes
  splits : List Bytes   -- the matcher's `split_path` (the same list in every entry of one matcher)
deriving Repr

def TryFile.raw (t : TryFile) : Bytes := t.pre ++ (if t.usePath then str "{http.request.uri.path}" else []) ++ t.suf

def TryFile.expand (t : TryFile) (path : Bytes) : Bytes :=
  t.pre ++ (if t.usePath then globSafe path else []) ++ t.suf

def asciiLower (c : UInt8) : UInt8 := if 65 ≤ c ∧ c ≤ 90 then c + 32 else c

/-- `strings.EqualFold(a, needle)` for an ASCII `needle` and `a` of the same byte length -/
def eqFoldAscii (a needle : Bytes) : Bool := a.map asciiLower == needle.map asciiLower

/-- `indexFold(haystack, needle)`: note the loop condition `i+nlen < len(haystack)` — a needle
    at the very end of the haystack is not found -/
def indexFold (needle : Bytes) : Bytes → Option Nat
  | [] => none
  | c :: cs =>
    if needle.length < (c :: cs).length ∧ eqFoldAscii ((c :: cs).take needle.length) needle then some 0
    else (indexFold needle cs).map (· + 1)

/-- `firstSplit(path)`'s first result: the path up to and including the first usable split -/
def firstSplit (p : Bytes) : List Bytes → Bytes
  | [] => p
  | sp :: rest =>
    match indexFold sp p with
    | some idx =>
      if idx + sp.length ≠ p.length ∧ (p.drop (idx + sp.length)).head? ≠ some slash then firstSplit p rest
      else p.take (idx + sp.length)
    | none => firstSplit p rest

/-- `beforeSplit` (+ restored trailing slash) -/
def candidateRel (t : TryFile) (path : Bytes) : Bytes :=
  if endsWithSlash t.raw then firstSplit (pathClean (t.expand path)) t.splits ++ [slash]
  else firstSplit (pathClean (t.expand path)) t.splits

/-- `fullPattern` -/
def candidatePattern (rootC : Bytes) (t : TryFile) (path : Bytes) : Bytes :=
  sanitizedPathJoin rootC (candidateRel t path)

def hasMeta (p : Bytes) : Bool := p.any fun c => c = 42 ∨ c = 63 ∨ c = 91 ∨ c = 92

def cleanGlobPath (d : Bytes) : Bytes := if d = [] then dotB else d.dropLast

/-- the loop of `fs.glob` over the sorted entries; `none` = `path.Match` reported an error -/
def globEntries (d pat : Bytes) : List Entry → List Bytes → Option (List Bytes)
  | [], acc => some acc
  | e :: es, acc =>
    match globMatch pat e.name with
    | none => none
    | some true => globEntries d pat es (acc ++ [pathJoin2 d e.name])
    | some false => globEntries d pat es acc

/-- `fs.glob(fs, dir, pattern, matches)` -/
def globDir (fs : FS) (d pat : Bytes) (acc : List Bytes) : Traced (Option (List Bytes)) :=
  match fs d with
  | .dir es => (globEntries d pat es acc, [d])
  | _ => (some acc, [d])

def globDirs (fs : FS) (pat : Bytes) : List Bytes → List Bytes → Traced (Option (List Bytes))
  | [], acc => (some acc, [])
  | d :: ds, acc =>
    match globDir fs d pat acc with
    | (some acc', t) => appendTrace t (globDirs fs pat ds acc')
    | (none, t) => (none, t)

/-- `fs.Glob(fs, pattern)`; `none` = error (caddy then has no candidates) -/
def fsGlob (fs : FS) : Nat → Bytes → Traced (Option (List Bytes))
  | 0, _ => (none, [])
  | fuel + 1, pattern =>
    if globMatch pattern [] = none then (none, [])
    else if !hasMeta pattern then
      (if (fs pattern).isErr then some [] else some [pattern], [pattern])
    else if !hasMeta (cleanGlobPath (pathSplit pattern).1) then
      globDir fs (cleanGlobPath (pathSplit pattern).1) (pathSplit pattern).2 []
    else if cleanGlobPath (pathSplit pattern).1 = pattern then (none, [])
    else
      match fsGlob fs fuel (cleanGlobPath (pathSplit pattern).1) with
      | (some m, t) => appendTrace t (globDirs fs (pathSplit pattern).2 m [])
      | (none, t) => (none, t)

inductive MatchRes where
  | noMatch
  | matched (abs rel : Bytes) (isDir : Bool)
deriving DecidableEq, Repr

/-- `strings.TrimPrefix` -/
def trimPrefix (pre s : Bytes) : Bytes := if pre.isPrefixOf s then s.drop pre.length else s

/-- `strictFileExists` over the candidates of one pattern -/
def firstExisting (fs : FS) (rootC : Bytes) : List Bytes → Traced MatchRes
  | [] => (.noMatch, [])
  | c :: cs =>
    withTrace c <|
      match fs c with
      | .file _ => if endsWithSlash c then firstExisting fs rootC cs else (.matched c (trimPrefix rootC c) false, [])
      | .dir _ => if endsWithSlash c then (.matched c (trimPrefix rootC c) true, []) else firstExisting fs rootC cs
      | _ => firstExisting fs rootC cs

def globFuel (p : Bytes) : Nat := p.length + 2

/-- the `first_exist` loop; `fallback`: policy `first_exist_fallback` -/
def tryLoop (fs : FS) (rootC path : Bytes) (fallback : Bool) : List TryFile → Traced MatchRes
  | [] => (.noMatch, [])
  | t :: ts =>
    match fsGlob fs (globFuel (candidatePattern rootC t path)) (candidatePattern rootC t path) with
    | (some (c :: cs), tr) =>
      if fallback && ts.isEmpty then (.matched c (trimPrefix rootC c) false, tr)
      else
        match firstExisting fs rootC (c :: cs) with
        | (.noMatch, tr2) => appendTrace (tr ++ tr2) (tryLoop fs rootC path fallback ts)
        | (r, tr2) => (r, tr ++ tr2)
    | (_, tr) => appendTrace tr (tryLoop fs rootC path fallback ts)

/-! ### the scanning policies: largest_size, smallest_size, most_recently_modified -/

inductive ScanPolicy where
  | largest | smallest | recent
deriving DecidableEq, Repr

def digits : Nat → Nat → Nat
  | 0, _ => 1
  | fuel + 1, n => if n < 10 then 1 else 1 + digits fuel (n / 10)

/-- `info.Size()` as the harness' filesystem reports it: the marker `FILE:<id>:END\n` of a file, 0
    for a directory -/
def nodeSize : Node → Nat
  | .file id => 10 + digits id id
  | _ => 0

/-- `info.ModTime()` in seconds after the filesystem's epoch: the file id; 0 for a directory -/
def nodeTime : Node → Nat
  | .file id => id
  | _ => 0

/-- the loop body of the three policies; `best = (candidate, isDir, key)`:
      largest   `err == nil && info.Size() > largestSize`                       (largestSize starts at 0)
      smallest  `err == nil && (smallestSize == 0 || info.Size() < smallestSize)`
      recent    `err == nil && (recentInfo == nil || info.ModTime().After(recentInfo.ModTime()))` -/
def scanStep (pol : ScanPolicy) (best : Option (Bytes × Bool × Nat)) (c : Bytes) (n : Node) : Option (Bytes × Bool × Nat) :=
  if n.isErr then best
  else match pol, best with
    | .largest, none => if nodeSize n > 0 then some (c, n.isDirB, nodeSize n) else none
    | .largest, some (b, d, k) => if nodeSize n > k then some (c, n.isDirB, nodeSize n) else some (b, d, k)
    | .smallest, none => some (c, n.isDirB, nodeSize n)
    | .smallest, some (b, d, k) => if k = 0 ∨ nodeSize n < k then some (c, n.isDirB, nodeSize n) else some (b, d, k)
    | .recent, none => some (c, n.isDirB, nodeTime n)
    | .recent, some (b, d, k) => if nodeTime n > k then some (c, n.isDirB, nodeTime n) else some (b, d, k)

def scanCandidates (fs : FS) (pol : ScanPolicy) : List Bytes → Option (Bytes × Bool × Nat) → Traced (Option (Bytes × Bool × Nat))
  | [], best => (best, [])
  | c :: cs, best => withTrace c (scanCandidates fs pol cs (scanStep pol best c (fs c)))

def scanLoop (fs : FS) (rootC path : Bytes) (pol : ScanPolicy) : List TryFile → Option (Bytes × Bool × Nat) → Traced (Option (Bytes × Bool × Nat))
  | [], best => (best, [])
  | t :: ts, best =>
    match fsGlob fs (globFuel (candidatePattern rootC t path)) (candidatePattern rootC t path) with
    | (some cs, tr) =>
      match scanCandidates fs pol cs best with
      | (best', tr2) => appendTrace (tr ++ tr2) (scanLoop fs rootC path pol ts best')
    | (none, tr) => appendTrace tr (scanLoop fs rootC path pol ts best)

/-- `MatchFile.selectFile` with one of the scanning policies -/
def matchFileScan (fs : FS) (root : Bytes) (tries : List TryFile) (pol : ScanPolicy) (path : Bytes) : Traced MatchRes :=
  match scanLoop fs (pathClean (rootOrDot root)) path pol tries none with
  | (some (c, d, _), tr) => (.matched c (trimPrefix (pathClean (rootOrDot root)) c) d, tr)
  | (none, tr) => (.noMatch, tr)

/-- `MatchFile.selectFile`: `root` after placeholder expansion (`""` → `"."`) -/
def matchFile (fs : FS) (root : Bytes) (tries : List TryFile) (fallback : Bool) (path : Bytes) : Traced MatchRes :=
  tryLoop fs (pathClean (rootOrDot root)) path fallback tries

end CaddyModel.C07
