/-
C07 — the hide rules see a name only through its absolute clean form (`fastAbs_pathClean`, `hidden_pathClean`,
`fastAbs_dotSlash`).  So the listing filter, which tests `filepath.Join(dirPath, name)`, tests the entry's real path
`dirPath/name` (`entry_hidden_eq`: what the listing theorems use), and the filter of cfacd08, which built the entry path from
the URL (`SanitizedPathJoin(root, path.Join(Clean(urlPath), name))`, `entryPathUrl_eq`), did so too whenever the listed
directory is the file the request itself mapped to (`entry_hidden_url_eq`).  Apart from these: an entry with a separator hides
the glob-free path it denotes (`fileHidden_of_entry`, by `globMatch_self`).
-/
import CaddyModel.C07.Lemmas
import CaddyModel.C07.GlobLemmas

namespace CaddyModel.C07

theorem fastAbs_pathClean (cwd x : Bytes) (hx : x ≠ []) : fastAbs cwd (pathClean x) = fastAbs cwd x := by
  unfold fastAbs
  rw [isRooted_pathClean x hx]
  cases hr : isRooted x with
  | true => simp [pathClean_idem]
  | false => simp; exact pathClean_join_pathClean cwd x hx hr

theorem hidden_pathClean (c : Cfg) (x : Bytes) (hx : x ≠ []) : c.hidden (pathClean x) = c.hidden x := by
  unfold Cfg.hidden fileHidden
  rw [fastAbs_pathClean c.cwd x hx]

theorem fastAbs_dotSlash (cwd f : Bytes) (hf : Normal f) : fastAbs cwd ([46, 47] ++ f) = fastAbs cwd f := by
  have hclean : pathClean ([46, 47] ++ f) = f := by
    have e : ([46, 47] ++ f : Bytes) = dotB ++ slash :: f := rfl
    rw [e, pathClean_join_one dotB (by decide) f hf, show pathClean dotB = dotB by decide]
    simp [attach, dotB, slash, joinSlash]
  rw [← fastAbs_pathClean cwd ([46, 47] ++ f) (by simp), hclean]

theorem fileHidden_of_entry {cwd p h : Bytes} {hide : List Bytes} (hmem : h ∈ hide) (hs : hasSlash h = true)
    (habs : fastAbs cwd h = fastAbs cwd p) (hm : hasMeta (fastAbs cwd p) = false) :
    fileHidden cwd p (transformHide cwd hide) = true := by
  have hin : fastAbs cwd p ∈ transformHide cwd hide := List.mem_map.mpr ⟨h, hmem, by rw [if_pos hs, habs]⟩
  unfold fileHidden
  rw [if_neg (List.ne_nil_of_mem hin), List.any_eq_true]
  exact ⟨_, hin, by simp [hiddenBy, fmatch, globMatch_self _ hm]⟩

theorem entryPathUrl_eq (c : Cfg) (path name : Bytes) (hn : Normal name) :
    entryPathUrl c path name = attach c.rootC (cleanStack (slash :: path) ++ [name]) := by
  have hq : pathClean path ≠ [] := pathClean_ne_nil path
  have h1 : ∀ x ∈ [name], Normal x := by simpa using hn
  have hJ : pathJoin2 (pathClean path) name = attach (pathClean path) [name] := by
    simp only [pathJoin2, hq, if_false]
    rw [pathClean_join_one _ hq name hn, pathClean_idem]
  have hnots : wantsTrailingSlash (pathJoin2 (pathClean path) name) = false := by
    rw [hJ]; unfold wantsTrailingSlash
    cases he : endsWithSlash (attach (pathClean path) [name]) with
    | false => rfl
    | true => rw [attach_endsWithSlash path [name] h1 he]; rfl
  have hstack : cleanStack (slash :: pathJoin2 (pathClean path) name) = cleanStack (slash :: path) ++ [name] := by
    simp only [pathJoin2, hq, if_false]
    rw [cleanStack_slash_pathClean]
    have := cleanStack_join (slash :: pathClean path) (by simp) [name] h1
    simp only [joinSlash, List.cons_append] at this
    rw [this, cleanStack_slash_pathClean]
  unfold entryPathUrl
  rw [sanitizedPathJoin_eq, rootE_fix, hnots, hstack]
  simp

theorem entry_hidden_url_eq (c : Cfg) (path name : Bytes) (hn : Normal name) (hne : requestFile c path ≠ []) :
    c.hidden (entryPathUrl c path name) = c.hidden (requestFile c path ++ slash :: name) := by
  have hl := relOf_normal path
  have hB : pathClean (requestFile c path ++ slash :: name) = entryPathUrl c path name := by
    rw [pathClean_join_one _ hne name hn, (requestFile_eq_or_nil c path).resolve_left hne, entryPathUrl_eq c path name hn]
    unfold Cfg.rootC
    rw [pathClean_attach c.rootE _ hl, attach_attach c.rootE _ [name] hl]
  rw [← hB]; exact hidden_pathClean c _ (by simp)

theorem entry_hidden_eq (c : Cfg) (dir name : Bytes) (hne : dir ≠ []) :
    c.hidden (pathJoin2 dir name) = c.hidden (dir ++ slash :: name) := by
  rw [pathJoin2, if_neg hne]; exact hidden_pathClean c _ (by simp)

end CaddyModel.C07
