/-
C01 / C03 — the standard apps on the load path (model: StdApps.lean): what the all-or-nothing and the
released-exactly-once arguments need from the events app and from the tls app's certificate cache,
with the two counter-examples about the certificate cache of the code before /repo commit 985d095
(`…_old_code_fails`).
-/
import CaddyModel.C01.StdApps

namespace CaddyModel.C01.Std

/-- the certificates the running configuration loads (nothing runs: none) -/
def wantCache (r : Option (Nat × SCfg)) : List Nat :=
  match r with
  | some (_, c) => certsOf c
  | none => []

/-- the process-wide certificate cache is a function of the running configuration -/
def Inv (s : St) : Prop := ∀ x, x ∈ s.cache ↔ x ∈ wantCache s.running

def cidOf : Out → Nat
  | .started c => c | .stopping c => c | .hprov c => c | .hclean c => c

def isDelivery : Out → Bool
  | .started _ => true | .stopping _ => true | _ => false

theorem mem_cacheAdd (cache certs : List Nat) (x : Nat) :
    x ∈ cacheAdd cache certs ↔ x ∈ cache ∨ x ∈ certs := by
  unfold cacheAdd
  simp only [List.mem_append, List.mem_filter, List.contains_eq_mem, Bool.not_eq_true', decide_eq_false_iff_not]
  constructor
  · rintro (h | ⟨h, _⟩)
    · exact Or.inl h
    · exact Or.inr h
  · rintro (h | h)
    · exact Or.inl h
    · by_cases hc : x ∈ cache
      · exact Or.inl hc
      · exact Or.inr ⟨h, hc⟩

theorem mem_certsOf (c : SCfg) (x : Nat) : x ∈ certsOf c ↔ ∃ l, c.tls = some l ∧ x ∈ l := by
  unfold certsOf; cases c.tls <;> simp

theorem wantCache_eq (r : Option (Nat × SCfg)) : wantCache r = (activeCerts r).getD [] := by
  unfold wantCache activeCerts certsOf
  cases r with
  | none => rfl
  | some p => obtain ⟨j, c⟩ := p; cases h : c.tls <;> simp [h]

theorem mem_cleanupTls (c : SCfg) (active : Option (Nat × SCfg)) (cache : List Nat) (x : Nat) :
    x ∈ cleanupTls c active cache ↔
      x ∈ cache ∧ (c.tls = none ∨ ∃ rc, activeCerts active = some rc ∧ (x ∈ certsOf c → x ∈ rc)) := by
  unfold cleanupTls tlsCleanup certsOf
  cases c.tls with
  | none => simp
  | some l =>
    cases activeCerts active with
    | none => simp
    | some rc => by_cases h1 : x ∈ l <;> by_cases h2 : x ∈ rc <;> simp [h1, h2]

/-- every end of a configuration (rejected or only validated: the running one is active; replaced: its successor
    is; stopped: none): the cache holds what the two have loaded, the tls app's Cleanup leaves what the active one has -/
theorem cleanupTls_leaves_active (c : SCfg) (active : Option (Nat × SCfg)) (cache : List Nat)
    (h : ∀ x, x ∈ cache ↔ x ∈ certsOf c ∨ x ∈ wantCache active) :
    ∀ x, x ∈ cleanupTls c active cache ↔ x ∈ wantCache active := by
  intro x
  rw [mem_cleanupTls, h x, wantCache_eq]
  constructor
  · rintro ⟨h1 | h1, h2 | ⟨rc, ha, h2⟩⟩
    · obtain ⟨l, hl, _⟩ := (mem_certsOf c x).mp h1
      rw [h2] at hl; cases hl
    · rw [ha]; exact h2 h1
    · exact h1
    · exact h1
  · intro hw
    refine ⟨Or.inr hw, Or.inr ?_⟩
    cases ha : activeCerts active with
    | none => rw [ha] at hw; cases hw
    | some rc => rw [ha] at hw; exact ⟨rc, rfl, fun _ => hw⟩

/-- the cache after an attempt that does not install its configuration (rejected load, Validate):
    what the tls app's Cleanup leaves of cache ∪ its own certificates, the running one being active -/
theorem unused_config_keeps_cache (s : St) (c : SCfg) (hI : Inv s) :
    ∀ x, x ∈ cleanupTls c s.running (cacheAdd s.cache (certsOf c)) ↔ x ∈ s.cache := fun x =>
  (cleanupTls_leaves_active c s.running _ (fun y => by rw [mem_cacheAdd, hI y, or_comm]) x).trans (hI x).symm

theorem load_rejected_state {s : St} {cid : Nat} {c : SCfg} (hf : c.fault ≠ 0) :
    (load s cid c).1 = (validate s cid c).1 := by
  unfold load validate
  rw [if_neg hf]
  split <;> rfl

theorem load_accepted_running {s : St} {cid : Nat} {c : SCfg} (hf : c.fault = 0) :
    (load s cid c).1.running = some (cid, c) := by unfold load; rw [if_pos hf]

theorem stopW_running (s : St) : (stopW s).1.running = none := by
  unfold stopW; split
  · rfl
  · assumption

/-- C01: a REJECTED load — whichever of the modelled points it fails at: the events app, its handler,
    another app's Provision, the tls app's own Provision after it cached its certificates, the tls
    app's Start, another app's Start, post-start — leaves the running configuration running and the
    process-wide certificate cache with exactly the certificates it had -/
theorem rejected_keeps_cert_cache (s : St) (cid : Nat) (c : SCfg) (hI : Inv s) (hf : c.fault ≠ 0) :
    (load s cid c).1.running = s.running ∧ ∀ x, x ∈ (load s cid c).1.cache ↔ x ∈ s.cache := by
  rw [load_rejected_state hf]
  exact ⟨rfl, unused_config_keeps_cache s c hI⟩

example : (load ⟨some (0, ⟨3, 0, some [0, 1]⟩), [0, 1]⟩ 1 ⟨3, 4, some [1, 2]⟩).1 = ⟨some (0, ⟨3, 0, some [0, 1]⟩), [0, 1]⟩ := by decide

/-- … and so does every Validate, accepted or not -/
theorem validate_keeps_cert_cache (s : St) (cid : Nat) (c : SCfg) (hI : Inv s) :
    (validate s cid c).1.running = s.running ∧ ∀ x, x ∈ (validate s cid c).1.cache ↔ x ∈ s.cache :=
  ⟨rfl, unused_config_keeps_cache s c hI⟩

example : (validate ⟨some (0, ⟨0, 0, some [0]⟩), [0]⟩ 1 ⟨0, 7, some [0, 3]⟩).1 = ⟨some (0, ⟨0, 0, some [0]⟩), [0]⟩ := by decide

/-- C01 / C03: an ACCEPTED load leaves in the cache exactly the certificates of the new configuration:
    the old tls app's Cleanup (the new one being active) takes out what only the old one loaded -/
theorem accepted_cert_cache (s : St) (cid : Nat) (c : SCfg) (hI : Inv s) (hf : c.fault = 0) :
    Inv (load s cid c).1 := by
  intro x
  have hx := hI x
  unfold load
  rw [if_pos hf]
  show _ ↔ x ∈ certsOf c
  cases hr : s.running with
  | none =>
    rw [hr] at hx
    simp only [mem_cacheAdd]
    exact ⟨fun h => h.elim (fun h => nomatch hx.1 h) id, Or.inr⟩
  | some p =>
    exact cleanupTls_leaves_active p.2 (some (cid, c)) _ (fun y => by rw [mem_cacheAdd, hI y, hr]; rfl) x

example : (load ⟨some (0, ⟨3, 0, some [0, 1]⟩), [0, 1]⟩ 1 ⟨3, 0, some [1, 2]⟩).1.cache = [1, 2] := by decide

/-- caddy.Stop (as it is since 985d095: the stopped tls app has no successor) empties the cache -/
theorem stopW_clears_cert_cache (s : St) (hI : Inv s) : Inv (stopW s).1 := by
  intro x
  have hx := hI x
  unfold stopW
  cases hr : s.running with
  | none => simp only; rw [hr]; rw [hr] at hx; exact hx
  | some p =>
    exact cleanupTls_leaves_active p.2 none _ (fun y => by rw [hI y, hr]; exact (or_iff_left List.not_mem_nil).symm) x

example : (stopW ⟨some (0, ⟨3, 0, some [0, 1]⟩), [0, 1]⟩).1 = ⟨none, []⟩ ∧
    (stop ⟨some (0, ⟨3, 0, some [0, 1]⟩), [0, 1]⟩).1 = ⟨none, [0, 1]⟩ := by decide

theorem step_inv (s : St) (cid : Nat) (x : Step) (hI : Inv s) : Inv (step s cid x).1 := by
  have unused : ∀ c, Inv (validate s cid c).1 := fun c y => by
    have h := validate_keeps_cert_cache s cid c hI
    rw [h.1, h.2 y]; exact hI y
  cases x with
  | load c =>
    by_cases hf : c.fault = 0
    · exact accepted_cert_cache s cid c hI hf
    · show Inv (load s cid c).1
      rw [load_rejected_state hf]; exact unused c
  | validate c => exact unused c
  | stop => exact stopW_clears_cert_cache s hI

/-- C03 / C01 (with /repo 985d095): over EVERY history of loads (accepted, or rejected
    at any of the modelled points), dry runs and stops, from every state in which it holds, the
    process-wide certificate cache holds exactly the certificates of the running configuration -/
theorem cert_cache_function_of_running (steps : List Step) :
    ∀ (s : St) (cid : Nat), Inv s → Inv (run s cid steps) := by
  induction steps with
  | nil => intro s _ h; exact h
  | cons x xs ih => intro s cid h; exact ih _ _ (step_inv s cid x h)

example : run St.init 0 [.load ⟨3, 0, some [0, 1]⟩, .load ⟨0, 5, some [2]⟩, .stop, .load ⟨1, 0, some [3]⟩] =
    ⟨some (3, ⟨1, 0, some [3]⟩), [3]⟩ := by decide

/-- the statement is not vacuous — the code BEFORE 985d095 (caddy.Stop cleaned the modules up while the
    stopping context was still caddy.ActiveContext(), the tls app found itself as its successor) broke
    it: the stopped configuration's certificate stayed in the cache … -/
theorem cert_cache_function_of_running_old_code_fails :
    ∃ steps, (runOld St.init 0 steps).running = none ∧ 0 ∈ (runOld St.init 0 steps).cache :=
  ⟨[.load ⟨0, 0, some [0]⟩, .stop], by decide⟩

/-- … where the next configuration found it: it ran with a certificate it never loaded -/
theorem stopped_configs_certificate_served_by_next_old_code_fails :
    ∃ steps c, (runOld St.init 0 steps).running = some (2, c) ∧ 0 ∉ certsOf c ∧ 0 ∈ (runOld St.init 0 steps).cache :=
  ⟨[.load ⟨0, 0, some [0]⟩, .stop, .load ⟨0, 0, some [1]⟩], ⟨0, 0, some [1]⟩, by decide⟩

theorem mem_optOut {b : Bool} {o x : Out} (h : x ∈ optOut b o) : x = o := by
  unfold optOut at h
  cases b <;> simp at h
  exact h

theorem count_optOut (b : Bool) (o x : Out) : (optOut b o).count x = if b = true ∧ o = x then 1 else 0 := by
  cases b <;> simp [optOut, List.count_cons]

theorem filter_optOut (b : Bool) (o : Out) :
    (optOut b o).filter isDelivery = if isDelivery o = true then optOut b o else [] := by
  cases b <;> cases h : isDelivery o <;> simp [optOut, h]

/-- what the probes see of a load that is rejected (a dry run: the `else` branch, by `rfl`) -/
theorem load_rejected_outs {s : St} {cid : Nat} {c : SCfg} (hf : c.fault ≠ 0) :
    (load s cid c).2.2 = provOuts cid c ++
      if c.fault = 6 then optOut (subStarted c) (.started cid) ++ endOuts cid c else optOut (hasHandler c) (.hclean cid) := by
  unfold load
  rw [if_neg hf]
  split <;> simp

/-- C01: whatever a rejected load makes the probes see concerns the rejected configuration's OWN
    handler: the running configuration's handler is not called, not cleaned up, not provisioned again -/
theorem rejected_touches_only_its_own_handler (s : St) (cid : Nat) (c : SCfg) (hf : c.fault ≠ 0) :
    ∀ o ∈ (load s cid c).2.2, cidOf o = cid := by
  intro o ho
  rw [load_rejected_outs hf] at ho
  by_cases h6 : c.fault = 6
  · simp only [if_pos h6, provOuts, endOuts, List.mem_append] at ho
    rcases ho with h | (h | (h | h)) <;> (rw [mem_optOut h]; rfl)
  · simp only [if_neg h6, provOuts, List.mem_append] at ho
    rcases ho with h | h <;> (rw [mem_optOut h]; rfl)

example : (load ⟨some (0, ⟨3, 0, none⟩), []⟩ 1 ⟨3, 6, none⟩).2.2 = [.hprov 1, .started 1, .stopping 1, .hclean 1] := by decide

/-- C01: a load rejected before all its apps were started (provisioning, start loop) delivers no event at all -/
theorem rejected_before_started_delivers_nothing (s : St) (cid : Nat) (c : SCfg) (hf : c.fault ≠ 0) (h6 : c.fault ≠ 6) :
    (load s cid c).2.2.filter isDelivery = [] := by
  rw [load_rejected_outs hf, if_neg h6]
  simp [provOuts, filter_optOut, isDelivery]

example : (load ⟨some (0, ⟨3, 0, none⟩), []⟩ 1 ⟨3, 5, none⟩).2.2 = [.hprov 1, .hclean 1] := by decide

/-- C03: a load rejected post-start has told its handler "started" (the core emits it before
    finishSettingUp) — and then tells it "stopping": each at most once, in this order, "stopping"
    whenever it subscribed to it -/
theorem post_start_rejected_started_then_stopping (s : St) (cid : Nat) (c : SCfg) (h6 : c.fault = 6) :
    (load s cid c).2.2.filter isDelivery =
      optOut (subStarted c) (.started cid) ++ optOut (subStopping c) (.stopping cid) := by
  rw [load_rejected_outs (by omega), if_pos h6]
  simp [provOuts, endOuts, filter_optOut, isDelivery]

example : (load ⟨some (0, ⟨3, 0, none⟩), []⟩ 1 ⟨2, 6, none⟩).2.2.filter isDelivery = [.stopping 1] := by decide

/-- C03: the handler of a configuration that is rejected (anywhere) or only validated is cleaned up
    exactly as often as it was provisioned — once or never — within the same operation -/
theorem unused_config_handler_cleaned_exactly_once (s : St) (cid : Nat) (c : SCfg) (hf : c.fault ≠ 0) :
    ((load s cid c).2.2.count (.hprov cid) = (load s cid c).2.2.count (.hclean cid) ∧
      (load s cid c).2.2.count (.hclean cid) ≤ 1) ∧
    ((validate s cid c).2.2.count (.hprov cid) = (validate s cid c).2.2.count (.hclean cid) ∧
      (validate s cid c).2.2.count (.hclean cid) ≤ 1) := by
  rw [load_rejected_outs hf]
  unfold validate
  by_cases h6 : c.fault = 6
  · simp only [if_pos h6, provOuts, endOuts, List.count_append, count_optOut]
    cases hasHandler c <;> simp
  · simp only [if_neg h6, provOuts, List.count_append, count_optOut]
    cases hasHandler c <;> simp

example : (validate St.init 4 ⟨2, 3, none⟩).2.2 = [.hprov 4, .hclean 4] := by decide

/-- C03: a configuration that ends — replaced by an accepted load, or stopped — is told "stopping"
    iff it subscribed, once, and its handler is cleaned up after that, once -/
theorem ended_config_stopping_then_cleanup (j : Nat) (o : SCfg) :
    endOuts j o = optOut (subStopping o) (.stopping j) ++ optOut (hasHandler o) (.hclean j) ∧
    (stopW ⟨some (j, o), cache⟩).2.2 = endOuts j o ∧
    (∀ cid c, c.fault = 0 → (load ⟨some (j, o), cache⟩ cid c).2.2 =
      provOuts cid c ++ optOut (subStarted c) (.started cid) ++ endOuts j o) := by
  refine ⟨rfl, rfl, ?_⟩
  intro cid c hf
  unfold load
  rw [if_pos hf]

example : (load ⟨some (0, ⟨3, 0, none⟩), []⟩ 1 ⟨1, 0, none⟩).2.2 = [.hprov 1, .started 1, .stopping 0, .hclean 0] := by decide

end CaddyModel.C01.Std
