/-
C01 — property theorems.

Statement: every attempt to load or change the configuration either takes effect completely
or has no effect: after a rejected attempt the server keeps serving exactly the previously
running configuration on exactly its previous sockets, nothing belonging to the rejected
configuration is left listening or answering, and reading the configuration back returns the
previously running one. After an accepted attempt the configuration read back equals what was
submitted and it is the one answering requests.

Quantifiers: every state reachable by any history, every configuration, every fault position
(decode, unknown module, provision, validate, start of the k-th app, bind of the k-th listener,
post-start), every map order `pp`/`ps`, every set of blocked addresses — no bound on anything.

The model's provisionContext rolls back on EVERY error outcome; that this is what the Go
function does (its deferred rollback reads the function-level `err`, and every error-reporting
return leaves it non-nil) is the regenerated fact `provision_rollback_sees_every_error`
(GenTie.lean, rebuilt from /repo's source on every run).

`changeTo c e s` is the tail of changeConfig once the raw tree has been mutated to `c`
(load, or the result of a partial change); `step` wraps it for every operation kind.
All clauses hold because the HTTP app's Start releases what it bound when it
fails (finding F2); the old Start is kept as `startAppOld` and shown to break the
statement in Witness.lean (`load_atomic_old_code_fails`).
-/
import CaddyModel.C01.Lemmas
import CaddyModel.C03.Lemmas
-- not used below: imported so that building this module (the target `./check` builds) builds everything
-- `Audit.lean` and `C03/Audit.lean` ask about
import CaddyModel.C01.Witness
import CaddyModel.C01.GenTie
import CaddyModel.C01.StdProps
import CaddyModel.C01.StdHistory
import CaddyModel.C01.ListenProtocols

namespace CaddyModel.C01
open CaddyModel.Lifecycle

/-- **all-or-nothing, rejected half.** For every state whose raw tree is in sync,
    every configuration, fault, order and environment: if the attempt is rejected, the config read
    back is the previous one, the current context is untouched, and the sockets are exactly the
    previous ones, in place — nothing of the rejected configuration is left bound. -/
theorem rejected_changes_nothing (s : State) (c : Cfg) (e : Env)
    (hw : s.raw = s.rawJSON) (hs : ∀ k ∈ s.socks, k.cid < s.next)
    (hr : (changeTo c e s).2.accepted = false) :
    (changeTo c e s).1.raw = s.raw ∧ (changeTo c e s).1.rawJSON = s.rawJSON ∧
    (changeTo c e s).1.cur = s.cur ∧ (changeTo c e s).1.next = s.next ∧
    (changeTo c e s).1.socks = s.socks := by
  obtain ⟨hn, k⟩ := changeTo_kept s c e (ne_ok_of_rejected hr)
  exact ⟨k.raw.elim id fun e => e.trans hw.symm, k.rawJSON, k.cur, hn, k.socks fun x hx => Nat.ne_of_lt (hs x hx)⟩

/-- A rejected attempt leaves the observable state (config read
    back, who answers where) exactly as it was — including when the HTTP app's own Start fails at
    its k-th listener after binding the earlier ones. -/
theorem load_atomic (s : State) (c : Cfg) (e : Env)
    (hw : s.raw = s.rawJSON) (hs : ∀ k ∈ s.socks, k.cid < s.next)
    (hr : (changeTo c e s).2.accepted = false) :
    obs (changeTo c e s).1 = obs s := by
  obtain ⟨h1, _, _, _, h5⟩ := rejected_changes_nothing s c e hw hs hr
  simp [obs, answers, h1, h5]

/-- **accepted ⇒ installed** (no hypothesis on the state): the config read back is
    the submitted one, the current context is the new one with exactly the submitted apps, and
    the sockets are: the old context's closed, every listener of every app of the new config
    bound. -/
theorem accepted_installs (s : State) (c : Cfg) (e : Env) (h : (changeTo c e s).2 = .ok) :
    (changeTo c e s).1.raw = some c ∧ (changeTo c e s).1.rawJSON = some c ∧
    (∃ ctx, (changeTo c e s).1.cur = some ctx ∧ ctx.cid = s.next ∧ ctx.apps = c.apps) ∧
    (changeTo c e s).1.socks = closeOld s.cur (s.socks ++ (order e.ps c.apps).flatMap (appSocks s.next)) := by
  obtain ⟨_, ctx, r, i⟩ := changeTo_installed h
  exact ⟨r.raw, r.rawJSON, ⟨ctx, r.cur, i.cid, i.apps⟩, i.socks⟩

/-- `rejected_leaves_no_module` below without the two hypotheses its proof does not use (raw tree in sync,
    sockets older than the attempt) -/
theorem rejected_leaves_no_module_of (s : State) (c : Cfg) (e : Env) (h3 : C03.Inv3 s) (h5 : C03.Inv5 s)
    (hr : (changeTo c e s).2.accepted = false) :
    C03.curLive (changeTo c e s).1 = C03.curLive s ∧
    (∀ i, i ∉ C03.curLive s →
      (changeTo c e s).1.events.count (.clean i) = (changeTo c e s).1.events.count (.prov i) ∧
      (changeTo c e s).1.events.count (.prov i) ≤ 1) ∧
    (∀ k, (changeTo c e s).1.mpool k = s.mpool k) := by
  obtain ⟨_, k⟩ := changeTo_kept s c e (ne_ok_of_rejected hr)
  have hl : C03.curLive (changeTo c e s).1 = C03.curLive s := by rw [C03.curLive_eq, k.cur, ← C03.curLive_eq]
  have a3 := (C03.inv35_kept h3 h5 k).1
  exact ⟨hl, fun i hi => ⟨a3.bal.dead i (by rw [hl]; exact hi), a3.bal.prov1 i⟩, fun x => by rw [k.mpool]⟩

/-- **a rejected attempt leaves no module and no pool reference behind** (the
    clause seeded mutant C01-provision-rollback-shadowed-err breaks). In any state satisfying the
    module-balance and pool invariants of reachable states (`C03.Inv3`, `C03.Inv5`; every
    `runOps State.init ops` does — `reachable_invariants`), after a rejected attempt: the set of
    live module instances is the one of the configuration that keeps running, every other
    instance — in particular every module provisioned for the rejected configuration, wherever the
    failure occurred — has been cleaned up exactly as often as it was provisioned (once), and the
    guest / hosts usage pool is unchanged. -/
theorem rejected_leaves_no_module (s : State) (c : Cfg) (e : Env)
    (h3 : C03.Inv3 s) (h5 : C03.Inv5 s)
    (hw : s.raw = s.rawJSON) (hs : ∀ k ∈ s.socks, k.cid < s.next)
    (hr : (changeTo c e s).2.accepted = false) :
    C03.curLive (changeTo c e s).1 = C03.curLive s ∧
    (∀ i, i ∉ C03.curLive s →
      (changeTo c e s).1.events.count (.clean i) = (changeTo c e s).1.events.count (.prov i) ∧
      (changeTo c e s).1.events.count (.prov i) ≤ 1) ∧
    (∀ k, (changeTo c e s).1.mpool k = s.mpool k) :=
  rejected_leaves_no_module_of s c e h3 h5 hr

theorem changeTo_before_run {s : State} {c : Cfg} {e : Env} (h : c.top = 1 ∨ c.top = 2) :
    Kept (.load c e) (changeTo c e s).2 s (changeTo c e s).1 ∧
    Spec.reachedRun s.raw (.load c e) (changeTo c e s).2 = false := by
  refine ⟨(changeTo_kept s c e fun hok => ?_).2, ?_⟩
  · obtain ⟨_, _, _, i⟩ := changeTo_installed hok
    exact h.elim i.top.1 i.top.2
  · rw [Spec.reachedRun_attempted rfl rfl]; rcases h with h | h <;> simp [h]

/-- **accepted ⇒ the default storage is the new configuration's** -/
theorem accepted_sets_default_storage (s : State) (c : Cfg) (e : Env) (h : (changeTo c e s).2 = .ok) :
    (changeTo c e s).1.dstor = c.stor.key ∧
    ∃ ctx, (changeTo c e s).1.cur = some ctx ∧ ctx.stor = c.stor.key := by
  obtain ⟨_, ctx, r, i⟩ := changeTo_installed h
  exact ⟨i.dstor, ctx, r.cur, i.stor⟩

/-- an attempt that is answered before anything runs (unknown top-level field, `"@id"` of the wrong
    type) does not touch the default storage -/
theorem default_storage_untouched_before_run (s : State) (c : Cfg) (e : Env) (h : c.top = 1 ∨ c.top = 2) :
    (changeTo c e s).1.dstor = s.dstor := by
  obtain ⟨k, hr⟩ := changeTo_before_run (s := s) (e := e) h
  rw [k.dstor, hr]; rfl

/-- Every attempt that is
    rejected after run() was entered — in provisionContext (logging, storage module, any app or
    guest module), while provisioning the admin routers, at Start, or in the post-start step —
    leaves the process-wide default storage at the storage of the configuration that is current,
    or at caddy's DefaultStorage if none is. -/
theorem default_storage_after_rejected (s : State) (c : Cfg) (e : Env)
    (hr : (changeTo c e s).2.accepted = false) (ht1 : c.top ≠ 1) (ht2 : c.top ≠ 2) :
    (changeTo c e s).1.dstor = storOf s.cur := by
  obtain ⟨_, k⟩ := changeTo_kept s c e (ne_ok_of_rejected hr)
  rw [k.dstor, Spec.reachedRun_attempted rfl rfl, hr]; simp [ht1, ht2]

/-- **Validate leaves the default storage alone**: after a dry run, successful or
    not, it is the current configuration's storage (caddy's DefaultStorage if none is current) -/
theorem default_storage_after_validate (s : State) (c : Cfg) (e : Env) :
    (validate c e s).1.dstor = storOf s.cur :=
  (validate_spec True c e s).dstor

/-- **accepted ⇒ the process default logger (caddy.Log()) is the new configuration's default log** -/
theorem accepted_sets_default_logger (s : State) (c : Cfg) (e : Env) (h : (changeTo c e s).2 = .ok) :
    (changeTo c e s).1.dlogger = s.next + 1 :=
  let ⟨_, _, _, i⟩ := changeTo_installed h
  i.dlogger

/-- an attempt that is answered before anything runs (unknown top-level field, `"@id"` of the wrong
    type) does not touch the process default logger -/
theorem default_logger_untouched_before_run (s : State) (c : Cfg) (e : Env) (h : c.top = 1 ∨ c.top = 2) :
    (changeTo c e s).1.dlogger = s.dlogger :=
  (changeTo_before_run h).1.dlogger

/-- EVERY
    attempt that is not accepted — answered before anything runs, or rejected in provisionContext
    (logging, storage module, any app or guest module), while provisioning the admin routers, at
    Start, or in the post-start step — leaves the process default logger (caddy.Log()) exactly
    what it was. -/
theorem default_logger_after_rejected (s : State) (c : Cfg) (e : Env)
    (hr : (changeTo c e s).2.accepted = false) :
    (changeTo c e s).1.dlogger = s.dlogger :=
  (changeTo_kept s c e (ne_ok_of_rejected hr)).2.dlogger

/-- **Validate leaves the default logger alone**: after a dry run, successful or
    not, caddy.Log() is what it was -/
theorem default_logger_after_validate (s : State) (c : Cfg) (e : Env) :
    (validate c e s).1.dlogger = s.dlogger :=
  (validate_spec True c e s).dlogger

/-- For EVERY history of load / partial-change / malformed /
    validate / stop operations, with every fault and every map order at every step: what the admin
    API reads back is the spec's running configuration (the last accepted one), exactly its
    listeners answer, each with its own tag (as a multiset), and when nothing runs no socket
    exists. -/
theorem history_atomic (ops : List Op) :
    (runBoth State.init none ops).1.raw = (runBoth State.init none ops).2 ∧
    (answers (runBoth State.init none ops).1).Perm (Spec.cfgAnswers (runBoth State.init none ops).2) ∧
    ((runBoth State.init none ops).2 = none → (runBoth State.init none ops).1.socks = []) := by
  have h := inv_runBoth ops State.init none inv_init
  refine ⟨h.raw, ?_, ?_⟩
  · generalize (runBoth State.init none ops).2 = r at h
    cases r with
    | none => rw [answers, h.run.2]; exact List.Perm.refl _
    | some c => obtain ⟨_, _, _, _, _, h5⟩ := h.run; exact h5
  · intro hn
    rw [hn] at h
    exact h.run.2

theorem step_atomic (s : State) (r : Option Cfg) (op : Op) (h : Inv s r) :
    Inv (step s op).1 (Spec.step r op (step s op).2.accepted) :=
  inv_step h op

theorem stop_leaves_nothing (s : State) (r : Option Cfg) (h : Inv s r) :
    (step s .stop).1.socks = [] ∧ (step s .stop).1.raw = none ∧ (step s .stop).1.cur = none := by
  have := inv_step h .stop
  exact ⟨this.run.2, rfl, rfl⟩

/-! ### non-vacuity: concrete instances (kernel-evaluated) -/

/-- a running config: probe app 0 on address 0, HTTP app on address 1 -/
def exOld : Cfg := ⟨0, [], [⟨0, 1, 0, [0], [⟨0, 0⟩]⟩, ⟨3, 2, 0, [1], []⟩], ⟨0, 0⟩⟩
/-- a new config whose second started app (probe app 1) fails in Start after the first (probe app
    0, address 2) has started -/
def exNew : Cfg := ⟨0, [], [⟨0, 5, 0, [2], []⟩, ⟨1, 6, 5, [3], []⟩], ⟨0, 0⟩⟩
def exEnv : Env := ⟨true, false, 0, [], [0, 1], [0, 1]⟩
def exState : State := (step State.init (.load exOld ⟨true, false, 0, [], [0, 3], [0, 3]⟩)).1

-- the hypotheses of the rejected-attempt theorems hold in a non-trivial state …
example : exState.raw = exState.rawJSON ∧ (∀ k ∈ exState.socks, k.cid < exState.next) ∧
    (changeTo exNew exEnv exState).2 = .errStart ∧
    answers exState = [(0, 1), (1, 2)] := by decide +kernel
-- … and the failing attempt really started (and stopped) an app before being rejected
example : ((changeTo exNew exEnv exState).1.aevents.filter
    (fun ev => ev = .started 1 0 ∨ ev = .stop 1 0 ∨ ev = .startFail 1 1)).length = 3 := by decide +kernel
-- an accepted attempt over a running config
example : (changeTo ⟨0, [], [⟨0, 5, 0, [2], []⟩], ⟨0, 0⟩⟩ exEnv exState).2 = .ok ∧
    answers (changeTo ⟨0, [], [⟨0, 5, 0, [2], []⟩], ⟨0, 0⟩⟩ exEnv exState).1 = [(2, 5)] := by decide +kernel
-- the admin routers cannot be provisioned: rejected before anything starts, nothing moves
example : (changeTo ⟨0, [], [⟨0, 5, 0, [2], []⟩], ⟨0, 0⟩⟩ ⟨true, false, 2, [], [0], [0]⟩ exState).2 = .errAdmin ∧
    answers (changeTo ⟨0, [], [⟨0, 5, 0, [2], []⟩], ⟨0, 0⟩⟩ ⟨true, false, 2, [], [0], [0]⟩ exState).1 = [(0, 1), (1, 2)] := by decide +kernel
-- rejected_leaves_no_module: a config whose SECOND app fails to validate after the first app and
-- its guests were provisioned — its four instances (app 0, its two guests, app 1) are provisioned and cleaned, the pool is back
example : (changeTo ⟨0, [], [⟨0, 5, 0, [2], [⟨0, 1⟩, ⟨0, 2⟩]⟩, ⟨1, 6, 4, [], []⟩], ⟨0, 0⟩⟩ exEnv exState).2 = .errValidate ∧
    ((changeTo ⟨0, [], [⟨0, 5, 0, [2], [⟨0, 1⟩, ⟨0, 2⟩]⟩, ⟨1, 6, 4, [], []⟩], ⟨0, 0⟩⟩ exEnv exState).1.events.filter
      (fun ev => match ev with | .clean i => i.cid = 1 | _ => false)).length = 4 ∧
    (changeTo ⟨0, [], [⟨0, 5, 0, [2], [⟨0, 1⟩, ⟨0, 2⟩]⟩, ⟨1, 6, 4, [], []⟩], ⟨0, 0⟩⟩ exEnv exState).1.mpool 1 = 0 ∧
    exState.mpool 0 = 1 := by decide +kernel
-- default storage: accepted (storage module 2) sets it; rejected while provisioning an app puts it
-- back to the running config's (0); so does a rejection at Start, and a successful Validate
example : (changeTo ⟨0, [], [⟨0, 5, 0, [2], []⟩], ⟨0, 2⟩⟩ exEnv exState).2 = .ok ∧
    (changeTo ⟨0, [], [⟨0, 5, 0, [2], []⟩], ⟨0, 2⟩⟩ exEnv exState).1.dstor = 2 := by decide
example : exState.cur.map (·.stor) = some 0 ∧
    (changeTo ⟨0, [], [⟨0, 5, 4, [2], []⟩], ⟨0, 1⟩⟩ exEnv exState).2 = .errValidate ∧
    (provisionContext exState.next ⟨0, [], [⟨0, 5, 4, [2], []⟩], ⟨0, 1⟩⟩ exEnv.pp { exState with raw := some ⟨0, [], [⟨0, 5, 4, [2], []⟩], ⟨0, 1⟩⟩ }).2.2 = some .errValidate ∧
    (changeTo ⟨0, [], [⟨0, 5, 4, [2], []⟩], ⟨0, 1⟩⟩ exEnv exState).1.dstor = 0 := by decide +kernel
example : (changeTo ⟨0, [], [⟨0, 5, 5, [2], []⟩], ⟨0, 1⟩⟩ exEnv exState).2 = .errStart ∧
    (changeTo ⟨0, [], [⟨0, 5, 5, [2], []⟩], ⟨0, 1⟩⟩ exEnv exState).1.dstor = 0 ∧
    (validate ⟨0, [], [⟨0, 5, 0, [2], []⟩], ⟨0, 2⟩⟩ exEnv exState).2 = .ok ∧
    (validate ⟨0, [], [⟨0, 5, 0, [2], []⟩], ⟨0, 2⟩⟩ exEnv exState).1.dstor = 0 := by decide +kernel
example : (changeTo ⟨2, [], [], ⟨0, 1⟩⟩ exEnv exState).2 = .errIndex := by decide
-- the HTTP app's Start fails AFTER both of its listeners were bound (certificate management cannot
-- be started, fault 6): rejected, and nothing of it is left
example : (changeTo ⟨0, [], [⟨3, 9, 6, [2, 4], []⟩], ⟨0, 0⟩⟩ ⟨true, false, 0, [], [3], [3]⟩ exState).2 = .errStart ∧
    answers (changeTo ⟨0, [], [⟨3, 9, 6, [2, 4], []⟩], ⟨0, 0⟩⟩ ⟨true, false, 0, [], [3], [3]⟩ exState).1 = answers exState ∧
    (bindAll 1 ⟨3, 9, 6, [2, 4], []⟩ [] [2, 4] exState).2 = true := by decide +kernel
-- default logger: in exState the running config (operation 0) owns it; an accepted attempt takes
-- it; an attempt rejected at Start (exNew), one rejected while provisioning an app, one answered
-- before anything runs and a successful Validate leave it with the running config
example : exState.dlogger = 1 ∧ exState.next = 1 ∧
    (changeTo ⟨0, [], [⟨0, 5, 0, [2], []⟩], ⟨0, 0⟩⟩ exEnv exState).1.dlogger = 2 ∧
    ((changeTo exNew exEnv exState).2.accepted = false ∧ (changeTo exNew exEnv exState).1.dlogger = 1) ∧
    ((changeTo ⟨0, [], [⟨0, 5, 3, [2], []⟩], ⟨0, 0⟩⟩ exEnv exState).2 = .errProvision ∧
      (changeTo ⟨0, [], [⟨0, 5, 3, [2], []⟩], ⟨0, 0⟩⟩ exEnv exState).1.dlogger = 1) ∧
    (changeTo ⟨1, [], [], ⟨0, 0⟩⟩ exEnv exState).1.dlogger = 1 ∧
    ((validate ⟨0, [], [⟨0, 5, 0, [2], []⟩], ⟨0, 2⟩⟩ exEnv exState).2 = .ok ∧
      (validate ⟨0, [], [⟨0, 5, 0, [2], []⟩], ⟨0, 2⟩⟩ exEnv exState).1.dlogger = 1) := by decide +kernel
example : (changeTo exOld ⟨false, false, 0, [], [], []⟩ exState).2 = .same := by decide
-- the HTTP app's Start fails at its SECOND listener (address 4 held by somebody else, address 2
-- bound first): rejected, and nothing of it is left
example : (changeTo ⟨0, [], [⟨3, 9, 0, [2, 4], []⟩], ⟨0, 0⟩⟩ ⟨true, false, 0, [4], [3], [3]⟩ exState).2 = .errStart ∧
    answers (changeTo ⟨0, [], [⟨3, 9, 0, [2, 4], []⟩], ⟨0, 0⟩⟩ ⟨true, false, 0, [4], [3], [3]⟩ exState).1 = answers exState := by decide +kernel
example : Inv exState (some exOld) := by
  have := inv_step inv_init (.load exOld ⟨true, false, 0, [], [0, 3], [0, 3]⟩)
  exact this

/-! ### unix sockets: the permission bits are not part of the socket's identity -/

/-- the three spellings of the unix socket (no bits, `|0600`, `|0660`) name ONE socket; every TCP
    address is its own -/
theorem sockId_ignores_permission_bits :
    sockId 8 = sockId 9 ∧ sockId 9 = sockId 10 ∧ (∀ t, t < 8 → sockId t = t) ∧
    (∀ t, 8 ≤ t → sockId t = 8) := by
  refine ⟨rfl, rfl, fun t h => by simp [sockId, h], fun t h => ?_⟩
  have : ¬ t < 8 := Nat.not_lt.mpr h
  simp [sockId, this]

/-- The clause seeded mutant C01-unix-socket-key-includes-permission-bits breaks: after a
    rejected attempt — whatever it
    listens on, in particular the running configuration's unix socket under ANY permission-bit
    spelling, and however late it is rejected (after it bound that socket) — exactly the same
    servers are reachable on exactly the same sockets, and the socket file keeps the permission
    bits of the running configuration. -/
theorem rejected_keeps_every_socket_reachable (s : State) (c : Cfg) (e : Env)
    (hw : s.raw = s.rawJSON) (hs : ∀ k ∈ s.socks, k.cid < s.next)
    (hr : (changeTo c e s).2.accepted = false) :
    reach (changeTo c e s).1 = reach s ∧ fileMode (changeTo c e s).1 = fileMode s := by
  have h := (rejected_changes_nothing s c e hw hs hr).2.2.2.2
  unfold reach fileMode
  rw [h]
  exact ⟨rfl, rfl⟩

/-- For EVERY history: who is reachable on which socket is
    exactly what the spec's running configuration says, the unix socket counted once under all its
    spellings. -/
theorem history_reachable (ops : List Op) :
    (reach (runBoth State.init none ops).1).Perm (Spec.cfgReach (runBoth State.init none ops).2) := by
  have h := (history_atomic ops).2.1
  have := h.map (fun p : Nat × Nat => (sockId p.1, p.2))
  unfold reach Spec.cfgReach
  unfold answers at this
  rw [List.map_map] at this
  exact this

-- non-vacuity: the HTTP app serves the unix socket spelled `|0600` (token 9) and TCP address 0; a
-- load naming it `|0660` (token 10) binds it, then fails at its second listener (address 1 is held
-- by somebody else): rejected, the same server is reachable on the socket, the file mode stays
-- 0600; an accepted load naming it without bits (token 8) takes it over, mode 0200
example :
    let s0 := (step State.init (.load ⟨0, [], [⟨3, 1, 0, [9, 0], []⟩], ⟨0, 0⟩⟩ ⟨true, false, 0, [], [3], [3]⟩)).1
    let bad : Cfg := ⟨0, [], [⟨3, 2, 0, [10, 1], []⟩], ⟨0, 0⟩⟩
    let eb : Env := ⟨true, false, 0, [1], [3], [3]⟩
    reach s0 = [(8, 1), (0, 1)] ∧ fileMode s0 = some 0o600 ∧
    (changeTo bad eb s0).2 = .errStart ∧
    (bindAll 1 ⟨3, 2, 0, [10, 1], []⟩ [1] [10] s0).2 = true ∧
    reach (changeTo bad eb s0).1 = [(8, 1), (0, 1)] ∧ fileMode (changeTo bad eb s0).1 = some 0o600 ∧
    reach (changeTo ⟨0, [], [⟨3, 3, 0, [8, 2], []⟩], ⟨0, 0⟩⟩ ⟨true, false, 0, [], [3], [3]⟩ s0).1 = [(8, 3), (2, 3)] ∧
    fileMode (changeTo ⟨0, [], [⟨3, 3, 0, [8, 2], []⟩], ⟨0, 0⟩⟩ ⟨true, false, 0, [], [3], [3]⟩ s0).1 = some 0o200 := by
  decide +kernel

/-- One operation of any kind moves the process default
    logger exactly as the spec says — to the operation's own default log iff it installed a
    configuration (answer `ok` to a load / PATCH / DELETE), not at all otherwise — and the
    operation counter advances by one -/
theorem step_default_logger (s : State) (op : Op) :
    (step s op).1.dlogger = Spec.logger s.dlogger s.next op (step s op).2 ∧
    (step s op).1.next = s.next + 1 := by
  obtain ⟨hn, k | ⟨c, ctx, e, hok, hi, _, ins⟩ | ⟨rfl, hok, _, st⟩⟩ := step_outcome s op
  · exact ⟨by rw [Spec.logger, if_neg k.notInst]; exact k.dlogger, hn⟩
  · exact ⟨by rw [Spec.logger, if_pos ⟨hi, hok⟩]; exact ins.dlogger, hn⟩
  · exact ⟨st.dlogger, hn⟩

/-- For EVERY history of operations, with every fault
    and every order at every step: the process default logger (caddy.Log()) is the default log of
    the operation that installed the last accepted configuration — the initial one if no
    configuration was ever accepted. (This is what the correspondence oracle checks on the real
    code after every operation.) -/
theorem history_default_logger (ops : List Op) :
    (runOps State.init ops).dlogger
      = Spec.loggerAfter 0 0 (ops.zip ((trace State.init ops).map (·.1))) := by
  have gen : ∀ (ops : List Op) (s : State), (runOps s ops).dlogger
      = Spec.loggerAfter s.dlogger s.next (ops.zip ((trace s ops).map (·.1))) := by
    intro ops
    induction ops with
    | nil => intro s; rfl
    | cons o os ih =>
      intro s
      obtain ⟨h1, h2⟩ := step_default_logger s o
      show (runOps (step s o).1 os).dlogger
        = Spec.loggerAfter (Spec.logger s.dlogger s.next o (step s o).2) (s.next + 1)
            (os.zip ((trace (step s o).1 os).map (·.1)))
      rw [ih (step s o).1, h1, h2]
  exact gen ops State.init

/-- In every reachable state, one operation of any kind
    moves certmagic.Default.Storage exactly as the spec says — an installed configuration's own
    storage; the running configuration's (caddy's DefaultStorage if none) after a request that
    reached run() without being accepted and after every dry run; untouched otherwise — and the
    current context keeps carrying the running configuration's storage -/
theorem step_default_storage {s : State} {r : Option Cfg} (h : Inv s r)
    (hst : storOf s.cur = Spec.storKey r) (op : Op) :
    (step s op).1.dstor = Spec.storage s.dstor r op (step s op).2 ∧
    storOf (step s op).1.cur = Spec.storKey (Spec.step r op (step s op).2.accepted) := by
  have hr := h.raw
  subst hr
  obtain ⟨hn, k | ⟨c, ctx, e, hok, hi, rp, ins⟩ | ⟨rfl, hok, rp, st⟩⟩ := step_outcome s op
  · rw [(h.kept k (by omega)).2, k.cur, Spec.storage, if_neg k.notInst, ← hst]
    exact ⟨k.dstor, rfl⟩
  · have ha := rp.att c rfl
    rw [hok, Spec.step_attempted hi ha, Spec.storage, if_pos ⟨hi, rfl⟩, ha, rp.cur]
    exact ⟨ins.dstor, ins.stor⟩
  · rw [rp.cur]; exact ⟨st.dstor, rfl⟩

/-- For EVERY history of operations, with every fault
    and every order at every step: certmagic.Default.Storage is what the spec computes from the
    operations and their answers alone — the storage of the last installed configuration, put back
    to the running configuration's (caddy's DefaultStorage once nothing runs) by every request that
    reached run() without being accepted and by every dry run. (Checked by the oracle likewise.) -/
theorem history_default_storage (ops : List Op) :
    (runOps State.init ops).dstor
      = Spec.storageAfter 0 none (ops.zip ((trace State.init ops).map (·.1))) := by
  have gen : ∀ (ops : List Op) (s : State) (r : Option Cfg), Inv s r → storOf s.cur = Spec.storKey r →
      (runOps s ops).dstor = Spec.storageAfter s.dstor r (ops.zip ((trace s ops).map (·.1))) := by
    intro ops
    induction ops with
    | nil => intro s r _ _; rfl
    | cons o os ih =>
      intro s r h hst
      obtain ⟨h1, h2⟩ := step_default_storage h hst o
      show (runOps (step s o).1 os).dstor
        = Spec.storageAfter (Spec.storage s.dstor r o (step s o).2) (Spec.step r o (step s o).2.accepted)
            (os.zip ((trace (step s o).1 os).map (·.1)))
      rw [ih (step s o).1 _ (inv_step h o) h2, h1]
  exact gen ops State.init none inv_init rfl

-- non-vacuity: load A (ok, operation 0), a load rejected at Start (1), a successful dry run (2), a malformed
-- request (3), load B (ok, 4), "unchanged" (5), Stop (6): the logger is operation 4's
example : let ops : List Op := [.load exOld ⟨true, false, 0, [], [0, 3], [0, 3]⟩, .load exNew exEnv,
      .validate exNew exEnv, .junk, .load ⟨0, [], [⟨0, 5, 0, [2], []⟩], ⟨0, 0⟩⟩ exEnv,
      .load ⟨0, [], [⟨0, 5, 0, [2], []⟩], ⟨0, 0⟩⟩ ⟨false, false, 0, [], [0], [0]⟩, .stop]
    (trace State.init ops).map (·.1) = [.ok, .errStart, .ok, .errBody, .ok, .same, .ok] ∧
    (runOps State.init ops).dlogger = 5 ∧
    (runOps State.init (ops.take 4)).dlogger = 1 := by decide +kernel

-- non-vacuity (storage): load A (storage 0), a load asking for storage 1 rejected at Start (back to
-- 0), load B with storage 2 (ok: 2), a dry run asking for storage 1 (back to 2), Stop (still 2),
-- then a load asking for storage 1 rejected while provisioning (nothing runs: caddy's default, 0)
example : let ops : List Op := [.load exOld ⟨true, false, 0, [], [0, 3], [0, 3]⟩,
      .load { exNew with stor := ⟨0, 1⟩ } exEnv,
      .load ⟨0, [], [⟨0, 5, 0, [2], []⟩], ⟨0, 2⟩⟩ exEnv,
      .validate ⟨0, [], [⟨0, 5, 0, [2], []⟩], ⟨0, 1⟩⟩ exEnv, .stop,
      .load ⟨0, [], [⟨0, 5, 3, [2], []⟩], ⟨0, 1⟩⟩ exEnv]
    (trace State.init ops).map (·.1) = [.ok, .errStart, .ok, .ok, .ok, .errProvision] ∧
    (trace State.init ops).map (·.2.dstor) = [0, 0, 2, 2, 2, 0] ∧
    Spec.storageAfter 0 none (ops.zip ((trace State.init ops).map (·.1))) = 0 ∧
    Spec.storageAfter 0 none ((ops.take 5).zip ((trace State.init (ops.take 5)).map (·.1))) = 2 := by decide +kernel

end CaddyModel.C01
