/-
C01 — two facts about the answer of one attempt (`unchanged_is_noop`, `accepted_is_ok_or_same`), then the invariant of histories: the server is exactly what the spec says is running. It is kept by an
operation that leaves what runs alone and re-established by one that replaces it (`Outcome.lean`).
-/
import CaddyModel.C01.Outcome

namespace CaddyModel.C01
open CaddyModel.Lifecycle

/-- an attempt answered "unchanged" really is the running configuration, and nothing moves -/
theorem unchanged_is_noop (s : State) (c : Cfg) (e : Env) (h : (changeTo c e s).2 = .same) :
    s.rawJSON = some c ∧ (changeTo c e s).1 = { s with raw := some c } := by
  obtain ⟨_, ⟨h0, h'⟩ | ⟨hr, _⟩ | ⟨_, hok, _⟩⟩ := changeTo_outcome (op := .load c e) e s rfl rfl
  · rw [h']; exact ⟨h0, rfl⟩
  · rw [h] at hr; cases hr
  · rw [h] at hok; cases hok

theorem accepted_is_ok_or_same (s : State) (c : Cfg) (e : Env)
    (h : (changeTo c e s).2.accepted = true) : (changeTo c e s).2 = .ok ∨ (changeTo c e s).2 = .same := by
  -- (a fact about `Res.accepted`: it holds of every answer)
  match (changeTo c e s).2, h with
  | .ok, _ => exact Or.inl rfl
  | .same, _ => exact Or.inr rfl

/-- (`sockCid` below gives the attempt numbered `s.next` the premise of `Untouched.socks`; `ctx.cid < s.next` lets
    `closeOld` tell the old sockets from the new) -/
def RunInv (s : State) : Option Cfg → Prop
  | none => s.cur = none ∧ s.socks = []
  | some c => ∃ ctx, s.cur = some ctx ∧ ctx.apps = c.apps ∧ ctx.cid < s.next ∧
      (∀ k ∈ s.socks, k.cid = ctx.cid ∧ k.app ∈ c.apps.map (·.name)) ∧
      (answers s).Perm (Spec.cfgAnswers (some c))

structure Inv (s : State) (r : Option Cfg) : Prop where
  raw : s.raw = r
  rawJSON : s.rawJSON = r
  sockCid : ∀ k ∈ s.socks, k.cid < s.next
  run : RunInv s r

theorem inv_init : Inv State.init none := ⟨rfl, rfl, by simp [State.init], ⟨rfl, rfl⟩⟩

theorem closeOld_inv {s : State} {r : Option Cfg} (h : Inv s r) (new : List Sock)
    (hn : ∀ k ∈ new, k.cid = s.next) : closeOld s.cur (s.socks ++ new) = new := by
  cases r with
  | none =>
    obtain ⟨h1, h2⟩ := h.run
    rw [h1, h2]; rfl
  | some c =>
    obtain ⟨ctx, h1, h2, h3, h4, _⟩ := h.run
    rw [h1]
    unfold closeOld
    dsimp only
    rw [List.filter_append, List.filter_eq_nil_iff.mpr, List.filter_eq_self.mpr, List.nil_append]
    · intro k hk
      have : k.cid ≠ ctx.cid := by rw [hn k hk]; exact Nat.ne_of_gt h3
      simp [this]
    · intro k hk
      obtain ⟨hc, ha⟩ := h4 k hk
      rw [← h2] at ha
      obtain ⟨a, ha1, ha2⟩ := List.mem_map.mp ha
      have : ctx.apps.any (fun a => a.name == k.app) = true := List.any_eq_true.mpr ⟨a, ha1, by simp [ha2]⟩
      simp [hc, this]

theorem answers_new (cid : Nat) (l : List App) :
    (l.flatMap (appSocks cid)).map (fun k => (k.addr, k.tag)) = l.flatMap Spec.appAnswers := by
  induction l with
  | nil => rfl
  | cons a l ih =>
    simp only [List.flatMap_cons, List.map_append, ih]
    congr 1
    simp [appSocks, Spec.appAnswers]

theorem Inv.kept {op : Op} {res : Res} {s s' : State} {r : Option Cfg} (h : Inv s r) (k : Kept op res s s')
    (hn : s.next ≤ s'.next) : Inv s' r ∧ Spec.step r op res.accepted = r := by
  have hw : s.raw = s.rawJSON := h.raw.trans h.rawJSON.symm
  have h4 : s'.socks = s.socks := k.socks fun x hx => Nat.ne_of_lt (h.sockCid x hx)
  refine ⟨⟨(k.raw.elim id fun e => e.trans hw.symm).trans h.raw, k.rawJSON.trans h.rawJSON, fun x hx => ?_, ?_⟩,
    h.raw ▸ k.spec hw⟩
  · rw [h4] at hx; exact Nat.lt_of_lt_of_le (h.sockCid x hx) hn
  · cases r with
    | none => exact ⟨k.cur.trans h.run.1, h4.trans h.run.2⟩
    | some c0 =>
      obtain ⟨ctx, r1, r2, r3, r4, r5⟩ := h.run
      refine ⟨ctx, k.cur.trans r1, r2, Nat.lt_of_lt_of_le r3 hn, fun x hx => r4 x (h4 ▸ hx), ?_⟩
      unfold answers; rw [h4]; exact r5

theorem inv_step {s : State} {r : Option Cfg} (h : Inv s r) (op : Op) :
    Inv (step s op).1 (Spec.step r op (step s op).2.accepted) := by
  obtain ⟨hn, k | ⟨c, ctx, e, hok, hi, rp, ins⟩ | ⟨rfl, hok, rp, st⟩⟩ := step_outcome s op
  · obtain ⟨h1, h2⟩ := h.kept k (by omega)
    rw [h2]; exact h1
  · rw [hok, Spec.step_attempted hi (h.raw ▸ rp.att c rfl)]
    have hnew : ∀ k ∈ (order e.ps c.apps).flatMap (appSocks s.next), k.cid = s.next ∧ k.app ∈ c.apps.map (·.name) :=
      fun k hk => by
        obtain ⟨_, rfl, hX⟩ := own_flatMap s.next [] (order e.ps c.apps)
        obtain ⟨hc, ha⟩ := hX k (by simpa using hk)
        exact ⟨hc, ((order_perm e.ps c.apps).map _).mem_iff.mp ha⟩
    have h7 := ins.socks
    rw [closeOld_inv h _ fun k hk => (hnew k hk).1] at h7
    refine ⟨rp.raw, rp.rawJSON, fun k hk => ?_, ctx, rp.cur, ins.apps, by rw [ins.cid, hn]; omega, fun k hk => ?_, ?_⟩
    · rw [(hnew k (h7 ▸ hk)).1, hn]; omega
    · rw [ins.cid]; exact hnew k (h7 ▸ hk)
    · unfold answers
      rw [h7, answers_new]
      exact (order_perm e.ps c.apps).flatMap_right _
  · have hs : (step s .stop).1.socks = [] := st.socks.trans (by simpa using closeOld_inv h [] (by simp))
    exact ⟨rp.raw, rp.rawJSON, (fun k hk => by rw [hs] at hk; cases hk), ⟨rp.cur, hs⟩⟩

theorem inv_runBoth : ∀ (ops : List Op) (s : State) (r : Option Cfg), Inv s r →
    Inv (runBoth s r ops).1 (runBoth s r ops).2
  | [], _, _, h => h
  | o :: os, s, r, h => by
    unfold runBoth
    exact inv_runBoth os _ _ (inv_step h o)

end CaddyModel.C01
