/-
Lifecycle — executable model of caddy's configuration life cycle, shared by C01 and C03.
Core Lean only; structural recursion only.

Transliterates (file:function of /repo, as the code is NOW, i.e. after the `fix:` commits
554c7ed (changeConfig always restores) and dd15951 (run cancels the context on Start /
post-start failure)):

  caddy.go   changeConfig → unsyncedDecodeAndRun → run → provisionContext → (ctx.App per app)
             → start loop (+ failure handler) → finishSettingUp → swap → unsyncedStop;
             Validate; Stop
  context.go NewContext / wrappedCancel (cleanupFuncs of the PARENT value, then Cleanup of every
             entry of moduleInstances), OnCancel (appends to whatever copy it is called on),
             LoadModuleByID (apps map entry before Provision; immediate Cleanup of a module
             whose Provision / Validate failed; moduleInstances entry only on success)
  logging.go openLogs / openWriter (`writers` usage pool) / closeLogs
  modules/caddyhttp/app.go  Start binds the listeners one by one; on the first error it closes
             the ones it already bound (abortStart; former finding F2, fixed) and returns
  listeners.go / listen_unix.go  every bind is one more socket on the address (SO_REUSEPORT)
             and one more reference in listenerPool; closing drops both.

Abstract configurations: a list of apps (probe apps 0‥2, the real HTTP app = 3), each with a
list of guest modules (probe modules / HTTP handlers), listeners, and fault fields; custom logs
with probe writers. Everything Go leaves to the runtime is an explicit argument: the order in
which the `AppsRaw` map is ranged during provisioning (`pp`), the order in which `cfg.apps` is
ranged by the start loop (`ps`), which addresses cannot be bound (`blocked`), whether the
post-start step fails (`post`).
-/
namespace CaddyModel.Lifecycle

/-! ### configurations -/

/-- a guest module (probe module of a probe app, probe handler of the HTTP app, probe log writer).
    fault: 0 none · 1 unknown module name · 2 undecodable module JSON · 3 Provision fails ·
    4 Validate fails.  `key`: the usage-pool entry the module references from Provision to Cleanup
    (for a log writer: the writer key).
    A guest with `key ≥ 4` (only inside the HTTP app) is the REAL `reverse_proxy` handler with one
    upstream; `key` is its entry in reverseproxy's `hosts` pool. Its faults: 2 undecodable · 3
    Provision fails before the upstreams are set up · 4 Provision fails after that. -/
structure Mod where
  fault : Nat
  key : Nat
deriving DecidableEq, Repr

/-- an app. name 0‥2 = probe apps, 3 = the HTTP app. `tag` = what it answers on its listeners.
    fault: 0 none · 1 unknown app module · 2 undecodable app JSON · 3 own Provision fails (after
    its guest modules were loaded) · 4 own Validate fails · 5 Start fails before binding ·
    6 (HTTP app only) Start fails AFTER every listener is bound and served: certificate management
    (automaticHTTPSPhase2) cannot be started. -/
structure App where
  name : Nat
  tag : Nat
  fault : Nat
  listen : List Nat
  mods : List Mod
deriving DecidableEq, Repr

/-- top: 0 none · 1 unknown top-level field (strict decode fails) · 2 `"@id": true` (indexing
    fails) · 3 a valid `"@id"` (harmless). -/
structure Cfg where
  top : Nat
  logs : List Mod
  apps : List App
  /-- the `storage` module: `key` 0 = none configured (caddy.DefaultStorage), 1‥3 = a probe storage
      module with that identity; `fault` as for a guest module -/
  stor : Mod := ⟨0, 0⟩
deriving DecidableEq, Repr

def App.isHttp (a : App) : Bool := a.name == 3

/-! ### run-time things -/

/-- a module instance. `seq` is its identity: the number of the `modInfo.New()` call that created
    it (what a pointer is in Go) — unique by construction. The rest is a label, which is what the
    probes print: (context number, app name, position: 0 = the app itself, j+1 = j-th guest).
    Pseudo apps: 100 = log writers, 101 = the config loader loaded by finishSettingUp. -/
structure Inst where
  seq : Nat
  cid : Nat
  app : Nat
  idx : Nat
deriving DecidableEq, Repr

inductive Ev
  | prov (i : Inst)       -- Provision entered
  | valid (i : Inst)      -- Validate entered
  | clean (i : Inst)      -- Cleanup called
  | start (cid name : Nat)      -- Start of app `name` of context `cid` entered
  | started (cid name : Nat)    -- … returned nil
  | startFail (cid name : Nat)  -- … returned an error
  | stop (cid name : Nat)       -- Stop called
  | cbReg (cid : Nat)     -- OnCancel(closeLogs) called for context cid
  | cbRun (cid : Nat)     -- that callback invoked
  | wopen (k : Nat)       -- log writer k opened (writers pool 0 → 1)
  | wclose (k : Nat)      -- log writer k closed (writers pool 1 → 0)
deriving DecidableEq, Repr

/-- one bound socket: address, the tag it answers with, owning context and app -/
structure Sock where
  addr : Nat
  tag : Nat
  cid : Nat
  app : Nat
deriving DecidableEq, Repr

/-- Listen tokens and the sockets they name. Tokens 0‥7 are TCP addresses, each its own socket.
    Tokens 8, 9, 10 are ONE unix socket path written without permission bits, with `|0600` and
    with `|0660`: the bits say how the socket FILE is chmod'ed, they are not part of the socket's
    identity — NetworkAddress.listen (listeners.go) splits them off (SplitUnixSocketPermissionsBits)
    BEFORE it computes the key under which the socket is tracked in listenerPool / unixSockets,
    so a config that names a socket another config has open, under whatever spelling, shares it
    (reuseUnixSocket) instead of unlinking it. -/
def sockId (t : Nat) : Nat := if t < 8 then t else 8

/-- an entry of `ctx.moduleInstances` (only CleanerUppers matter) with the pool key it holds -/
structure Live where
  inst : Inst
  key : Option Nat
  quiet : Bool        -- a real (non-probe) module: its Cleanup is not a probe event
deriving DecidableEq, Repr

def Mod.isRp (m : Mod) : Bool := decide (4 ≤ m.key)

/-- a context: its number, `cfg.apps`, `moduleInstances`, the writer keys of its Logging, and the
    `cleanupFuncs` slice that its cancel function ranges over (entries = "closeLogs") -/
structure Ctx where
  cid : Nat
  apps : List App
  live : List Live
  wkeys : List Nat
  cbs : List Nat
  stor : Nat := 0     -- cfg.storage (0 = caddy.DefaultStorage)
deriving DecidableEq, Repr

structure State where
  raw : Option Cfg        -- rawCfg["config"]: what GET /config/ returns
  rawJSON : Option Cfg    -- rawCfgJSON: the last configuration that was accepted
  cur : Option Ctx        -- currentCtx
  socks : List Sock       -- every socket caddy has open (listenerPool count of a = #socks on a)
  mpool : Nat → Nat       -- usage pool referenced by guest modules (Provision +1, Cleanup −1)
  writers : Nat → Nat     -- logging.go `writers` usage pool
  events : List Ev        -- module events (Provision / Validate / Cleanup, writers, callbacks)
  aevents : List Ev       -- app events (Start / Stop), kept apart: different identity, different proofs
  next : Nat              -- number of operations so far = number of the next context
  nseq : Nat              -- number of module instances created so far
  dstor : Nat := 0        -- certmagic.Default.Storage (process-global; 0 = caddy.DefaultStorage)
  dlogger : Nat := 0      -- whose default log is the process-wide default logger (caddy.Log()):
                          -- context number + 1; 0 = the logger the process started with

def State.init : State :=
  { raw := none, rawJSON := none, cur := none, socks := [], mpool := fun _ => 0,
    writers := fun _ => 0, events := [], aevents := [], next := 0, nseq := 0 }

/-- per-attempt environment -/
structure Env where
  force : Bool          -- forceReload
  post : Bool           -- the post-start step (finishSettingUp) fails
  adm : Nat             -- admin endpoint: 0 disabled · 1 enabled (private unix socket) · 2 enabled and
                        -- provisioning the admin routers (an `admin.api` module) fails
  blocked : List Nat    -- addresses somebody else holds without SO_REUSEPORT
  pp : List Nat         -- app names in the order provisionContext ranges AppsRaw
  ps : List Nat         -- app names in the order the start loop ranges cfg.apps
deriving DecidableEq, Repr

inductive Res
  | ok | same
  | errBody | errPath | errIndex | errDecode
  | errUnknown | errModDecode | errProvision | errValidate
  | errStart | errPost | errAdmin
deriving DecidableEq, Repr

def Res.accepted : Res → Bool
  | .ok => true
  | .same => true
  | _ => false

/-! ### small helpers -/

def incr (f : Nat → Nat) (k : Nat) : Nat → Nat := fun x => if x = k then f x + 1 else f x
/-- UsagePool.Delete: absent key is a no-op -/
def decr (f : Nat → Nat) (k : Nat) : Nat → Nat := fun x => if x = k then f x - 1 else f x

def ev (s : State) (es : List Ev) : State := { s with events := s.events ++ es }

def evA (s : State) (es : List Ev) : State := { s with aevents := s.aevents ++ es }

/-- `modInfo.New()`: one more module instance exists -/
def alloc (s : State) : State := { s with nseq := s.nseq + 1 }

def takeApp (n : Nat) : List App → Option (App × List App)
  | [] => none
  | a :: rest =>
    if a.name = n then some (a, rest)
    else match takeApp n rest with
      | some (b, rest') => some (b, a :: rest')
      | none => none

/-- the order in which a Go map with these apps is ranged, as dictated by the name list `π`
    (names not in the map are skipped, apps not named come last): always a permutation -/
def order : List Nat → List App → List App
  | [], rest => rest
  | n :: ns, rest =>
    match takeApp n rest with
    | some (a, rest') => a :: order ns rest'
    | none => order ns rest

/-! ### LoadModuleByID -/

/-- failure classes of LoadModuleByID by fault number -/
def faultRes : Nat → Res
  | 1 => .errUnknown
  | 2 => .errModDecode
  | 3 => .errProvision
  | 4 => .errValidate
  | _ => .errProvision

/-- LoadModuleByID of a guest module, from `modInfo.New()` on; `i` is the new instance -/
def loadModAt (i : Inst) (m : Mod) (s : State) (live : List Live) : State × List Live × Option Res :=
  if m.isRp then
    -- reverseproxy.Handler: Provision takes one `hosts` reference per upstream (provisionUpstream,
    -- reverseproxy.go:351) if it gets that far; since fix d6561d4 Cleanup (called by
    -- LoadModuleByID when Provision failed) releases only the upstreams whose Host was set, so
    -- an EARLY failure (fault 3) releases nothing; a late one (fault 4) gives back what it took.
    if m.fault = 3 then (s, live, some .errProvision)
    else if m.fault = 4 then ({ s with mpool := decr (incr s.mpool m.key) m.key }, live, some .errModDecode)
    else ({ s with mpool := incr s.mpool m.key }, live ++ [⟨i, some m.key, true⟩], none)
  else if m.fault = 3 then
    -- Provision took its reference and failed: immediate Cleanup, not recorded in moduleInstances
    (ev { s with mpool := decr (incr s.mpool m.key) m.key } [.prov i, .clean i], live, some .errProvision)
  else if m.fault = 4 then
    (ev { s with mpool := decr (incr s.mpool m.key) m.key } [.prov i, .valid i, .clean i], live, some .errValidate)
  else
    (ev { s with mpool := incr s.mpool m.key } [.prov i, .valid i], live ++ [⟨i, some m.key, false⟩], none)

/-- LoadModuleByID of a guest module holding pool entry `key` (context.go:355-449) -/
def loadMod (cid app idx : Nat) (m : Mod) (s : State) (live : List Live) : State × List Live × Option Res :=
  if m.fault = 1 ∨ m.fault = 2 then (s, live, some (faultRes m.fault))
  else loadModAt ⟨s.nseq, cid, app, idx⟩ m (alloc s) live

/-- ctx.LoadModule on a `[]json.RawMessage` field: in order, stop at the first error -/
def loadMods (cid app : Nat) : Nat → List Mod → State → List Live → State × List Live × Option Res
  | _, [], s, live => (s, live, none)
  | idx, m :: ms, s, live =>
    match loadMod cid app idx m s live with
    | (s', live', none) => loadMods cid app (idx + 1) ms s' live'
    | (s', live', some r) => (s', live', some r)

def loadProbeAppAt (i : Inst) (a : App) (s : State) (live : List Live) : State × List Live × Option Res :=
  match loadMods i.cid a.name 1 a.mods (ev s [.prov i]) live with
  | (s', live', some r) => (ev s' [.clean i], live', some r)
  | (s', live', none) =>
    if a.fault = 3 then (ev s' [.clean i], live', some .errProvision)
    else if a.fault = 4 then (ev s' [.valid i, .clean i], live', some .errValidate)
    else (ev s' [.valid i], live' ++ [⟨i, none, false⟩], none)

/-- ctx.App(name) → LoadModuleByID(name, raw) for one app.
    Probe app: Provision loads the guest modules, then may fail itself; then Validate.
    HTTP app: Provision loads the handlers (the app itself is not a CleanerUpper and is not a
    probe, so it produces no events); Validate rejects a repeated listener address. -/
def loadApp (cid : Nat) (a : App) (s : State) (live : List Live) : State × List Live × Option Res :=
  -- fault 7 (HTTP app only): the `listen_protocols` entry of its first listener enables h2c without
  -- h1. App.Provision checks every LISTENER's protocol list (C01/ListenProtocols.lean) and refuses
  -- before it provisions a single route — nothing of the app exists yet, as with a decode error.
  if a.fault = 1 ∨ a.fault = 2 ∨ a.fault = 7 then (s, live, some (faultRes a.fault))
  else if a.isHttp then
    match loadMods cid a.name 1 a.mods s live with
    | (s', live', some r) => (s', live', some r)
    | (s', live', none) =>
      if a.listen.Nodup then (s', live', none) else (s', live', some .errValidate)
  else loadProbeAppAt ⟨s.nseq, cid, a.name, 0⟩ a (alloc s) live

/-- provisionContext's loop over AppsRaw (caddy.go:574-581) -/
def loadApps (cid : Nat) : List App → State → List Live → State × List Live × Option Res
  | [], s, live => (s, live, none)
  | a :: rest, s, live =>
    match loadApp cid a s live with
    | (s', live', none) => loadApps cid rest s' live'
    | (s', live', some r) => (s', live', some r)

/-! ### logging -/

/-- `ctx.OnCancel(f)` as openLogs calls it: `ctx` is a by-value copy of the context, so the
    append lands in the copy; the slice the cancel function ranges over is unchanged (finding F4) -/
def onCancelOnCopy (parentCbs : List Nat) (_f : Nat) : List Nat := parentCbs

/-- logging.openWriter: writers.LoadOrNew(key) -/
def openWriter (k : Nat) (s : State) : State :=
  if s.writers k = 0 then ev { s with writers := incr s.writers k } [.wopen k]
  else { s with writers := incr s.writers k }

/-- CustomLog.provision for one custom log with a probe writer module: load the module, then
    open its writer -/
def openLogAt (i : Inst) (m : Mod) (s : State) (live : List Live) (wk : List Nat) :
    State × List Live × List Nat × Option Res :=
  if m.fault = 3 then (ev s [.prov i, .clean i], live, wk, some .errProvision)
  else if m.fault = 4 then (ev s [.prov i, .valid i, .clean i], live, wk, some .errValidate)
  else (openWriter m.key (ev s [.prov i, .valid i]), live ++ [⟨i, none, false⟩], wk ++ [m.key], none)

def openLog (cid idx : Nat) (m : Mod) (s : State) (live : List Live) (wk : List Nat) :
    State × List Live × List Nat × Option Res :=
  if m.fault = 1 ∨ m.fault = 2 then (s, live, wk, some (faultRes m.fault))
  else openLogAt ⟨s.nseq, cid, 100, idx⟩ m (alloc s) live wk

def openLogsFrom (cid : Nat) : Nat → List Mod → State → List Live → List Nat →
    State × List Live × List Nat × Option Res
  | _, [], s, live, wk => (s, live, wk, none)
  | idx, m :: ms, s, live, wk =>
    match openLog cid idx m s live wk with
    | (s', live', wk', none) => openLogsFrom cid (idx + 1) ms s' live' wk'
    | (s', live', wk', some r) => (s', live', wk', some r)

/-- Logging.openLogs: register closeLogs (on a copy), set up the default log (stderr writer, key 0)
    and make it the process-wide default logger (setupNewDefault — before anything else of the
    configuration is provisioned), then the custom logs -/
def openLogs (cid : Nat) (logs : List Mod) (s : State) : State × List Live × List Nat × Option Res :=
  openLogsFrom cid 0 logs { openWriter 0 (ev s [.cbReg cid]) with dlogger := cid + 1 } [] [0]

/-- Logging.closeLogs: writers.Delete for every key this Logging opened -/
def closeLogs : List Nat → State → State
  | [], s => s
  | k :: ks, s =>
    if s.writers k = 1 then closeLogs ks (ev { s with writers := decr s.writers k } [.wclose k])
    else closeLogs ks { s with writers := decr s.writers k }

/-! ### storage -/

/-- LoadModuleByID of the storage module (pseudo app 102), from `New()` on -/
def loadStorAt (i : Inst) (m : Mod) (s : State) (live : List Live) : State × List Live × Option Res :=
  if m.fault = 3 then (ev s [.prov i, .clean i], live, some .errProvision)
  else if m.fault = 4 then (ev s [.prov i, .valid i, .clean i], live, some .errValidate)
  else (ev s [.prov i, .valid i], live ++ [⟨i, none, false⟩], none)

/-- provisionContext's storage step (caddy.go:549-571): load the storage module if one is
    configured, then make the config's storage CertMagic's default storage -/
def setStorage (cid : Nat) (m : Mod) (s : State) (live : List Live) : State × List Live × Option Res :=
  if m.key = 0 then ({ s with dstor := 0 }, live, none)
  else if m.fault = 1 ∨ m.fault = 2 then (s, live, some (faultRes m.fault))
  else
    match loadStorAt ⟨s.nseq, cid, 102, 0⟩ m (alloc s) live with
    | (s', live', none) => ({ s' with dstor := m.key }, live', none)
    | (s', live', some r) => (s', live', some r)

/-- the rollback of the process-wide defaults, wherever a configuration that was provisioned turns
    out not to be used: restoreDefaultStorage (caddy.go, since fix e4caa40) — the storage of the
    configuration that is running, or caddy's DefaultStorage if none is — and
    Logging.restoreDefaultLogger (logging.go) — the default logger that was in place before this
    configuration's logging was set up (`prev`). -/
def restoreStorage (prev : Nat) (s : State) : State :=
  match s.cur with
  | some ctx => { s with dstor := ctx.stor, dlogger := prev }
  | none => { s with dstor := 0, dlogger := prev }

/-- the rollback BEFORE the default-logger fix: the storage only -/
def restoreStorageL (s : State) : State :=
  match s.cur with
  | some ctx => { s with dstor := ctx.stor }
  | none => { s with dstor := 0 }

/-- what the rollback did BEFORE fix e4caa40: only in provisionContext's own deferred function, and
    only if some configuration was current -/
def restoreStorageOld (s : State) : State :=
  match s.cur with
  | some ctx => { s with dstor := ctx.stor }
  | none => s

/-! ### cancel -/

/-- the Cleanup of one loaded module: releases its pool reference (if it holds one) -/
def cleanupOne (l : Live) (s : State) : State :=
  match l.key with
  | some k => ev { s with mpool := decr s.mpool k } (if l.quiet then [] else [.clean l.inst])
  | none => ev s (if l.quiet then [] else [.clean l.inst])

def cleanupAll : List Live → State → State
  | [], s => s
  | l :: ls, s => cleanupAll ls (cleanupOne l s)

/-- the cancel function made by NewContext (context.go:66-83): the registered callbacks, then
    Cleanup of every loaded module -/
def cancel (cid : Nat) (cbs : List Nat) (wkeys : List Nat) (live : List Live) (s : State) : State :=
  cleanupAll live (if cbs.isEmpty then s else closeLogs wkeys (ev s [.cbRun cid]))

/-! ### Start / Stop -/

/-- a bind fails iff somebody else holds the address without SO_REUSEPORT, which is impossible
    while caddy itself has a socket on it -/
def isBlocked (blocked : List Nat) (socks : List Sock) (a : Nat) : Bool :=
  blocked.contains a && !(socks.any (fun k => k.addr == a))

/-- bind the listeners one by one; stop at the first failure, leaving the earlier ones bound -/
def bindAll (cid : Nat) (a : App) (blocked : List Nat) : List Nat → State → State × Bool
  | [], s => (s, true)
  | ad :: rest, s =>
    if isBlocked blocked s.socks ad then (s, false)
    else bindAll cid a blocked rest { s with socks := s.socks ++ [⟨ad, a.tag, cid, a.name⟩] }

/-- close every socket app `name` of context `cid` holds -/
def closeApp (cid name : Nat) (s : State) : State :=
  { s with socks := s.socks.filter (fun k => !(k.cid == cid && k.app == name)) }

/-- App.Start. Both kinds of app release what they bound before reporting a failure: the probe
    apps by construction, the HTTP app (modules/caddyhttp/app.go) since the fix that made Start
    call abortStart — it closes the servers it has started, and with them every listener it has
    bound so far. (`startAppOld` below is the HTTP app's Start before that fix.) -/
def startApp (cid : Nat) (blocked : List Nat) (a : App) (s : State) : State × Bool :=
  if a.isHttp then
    -- start(): bind and serve every listener, then automaticHTTPSPhase2 (certificate management;
    -- fault 6 = it fails, with every listener already up); Start aborts on ANY error of start()
    match bindAll cid a blocked a.listen s with
    | (s', true) => if a.fault = 6 then (closeApp cid a.name s', false) else (s', true)
    | (s', false) => (closeApp cid a.name s', false)
  else if a.fault = 5 then (evA s [.start cid a.name, .startFail cid a.name], false)
  else
    match bindAll cid a blocked a.listen (evA s [.start cid a.name]) with
    | (s', true) => (evA s' [.started cid a.name], true)
    | (s', false) => (evA (closeApp cid a.name s') [.startFail cid a.name], false)

/-- the HTTP app's Start BEFORE the fix: it returned the bind error of its k-th listener without
    closing listeners 1‥k-1, which stayed bound and serving (former finding F2). Kept for the
    non-vacuity theorem `load_atomic_old_code_fails`. -/
def startAppOld (cid : Nat) (blocked : List Nat) (a : App) (s : State) : State × Bool :=
  if a.isHttp then bindAll cid a blocked a.listen s else startApp cid blocked a s

def stopApp (cid : Nat) (a : App) (s : State) : State :=
  if a.isHttp then closeApp cid a.name s
  else evA (closeApp cid a.name s) [.stop cid a.name]

def stopApps (cid : Nat) : List App → State → State
  | [], s => s
  | a :: rest, s => stopApps cid rest (stopApp cid a s)

/-- the start loop of run (caddy.go:435-454): on the first failing Start, Stop the apps that had
    started (not the failing one) -/
def startApps (cid : Nat) (blocked : List Nat) : List App → List App → State → State × Bool
  | _, [], s => (s, true)
  | started, a :: rest, s =>
    match startApp cid blocked a s with
    | (s', true) => startApps cid blocked (started ++ [a]) rest s'
    | (s', false) => (stopApps cid started s', false)

/-- unsyncedStop (caddy.go:725-743) -/
def unsyncedStop (c : Option Ctx) (s : State) : State :=
  match c with
  | none => s
  | some ctx => cancel ctx.cid ctx.cbs ctx.wkeys ctx.live (stopApps ctx.cid ctx.apps s)

/-! ### run -/

/-- provisionContext (caddy.go:486-583). NewContext is called with a parent whose cleanupFuncs
    is empty; openLogs registers closeLogs on a copy. On error the deferred function cancels. -/
def provisionContext (cid : Nat) (c : Cfg) (pp : List Nat) (s : State) : State × Option Ctx × Option Res :=
  match openLogs cid c.logs s with
  | (s1, live1, wk, some r) => (restoreStorage s.dlogger (cancel cid (onCancelOnCopy [] 0) wk live1 s1), none, some r)
  | (s1, live1, wk, none) =>
    match setStorage cid c.stor s1 live1 with
    | (s1', live1', some r) => (restoreStorage s.dlogger (cancel cid (onCancelOnCopy [] 0) wk live1' s1'), none, some r)
    | (s1', live1', none) =>
    match loadApps cid (order pp c.apps) s1' live1' with
    | (s2, live2, some r) => (restoreStorage s.dlogger (cancel cid (onCancelOnCopy [] 0) wk live2 s2), none, some r)
    | (s2, live2, none) => (s2, some ⟨cid, c.apps, live2, wk, onCancelOnCopy [] 0, s2.dstor⟩, none)

/-- finishSettingUp: load the config loader module (pseudo app 101) -/
def finishSettingUpAt (i : Inst) (ctx : Ctx) (post : Bool) (s : State) : State × Ctx × Bool :=
  if post then (ev s [.prov i, .clean i], ctx, false)
  else (ev s [.prov i], { ctx with live := ctx.live ++ [⟨i, none, false⟩] }, true)

def finishSettingUp (ctx : Ctx) (post : Bool) (s : State) : State × Ctx × Bool :=
  finishSettingUpAt ⟨s.nseq, ctx.cid, 101, 0⟩ ctx post (alloc s)

/-- run(newCfg, start = true) (caddy.go:414-479) -/
def run (cid : Nat) (c : Cfg) (e : Env) (s : State) : State × Option Ctx × Res :=
  match provisionContext cid c e.pp s with
  | (s1, _, some r) => (s1, none, r)
  | (s1, none, none) => (s1, none, .errProvision)   -- unreachable
  | (s1, some ctx, none) =>
    -- ctx.cfg.Admin.provisionAdminRouters(ctx) (caddy.go:427-432): on error cancel, nothing started
    if e.adm = 2 then (restoreStorage s.dlogger (cancel cid ctx.cbs ctx.wkeys ctx.live s1), none, .errAdmin) else
    match startApps cid e.blocked [] (order e.ps ctx.apps) s1 with
    | (s2, false) => (restoreStorage s.dlogger (cancel cid ctx.cbs ctx.wkeys ctx.live s2), none, .errStart)
    | (s2, true) =>
      match finishSettingUp ctx e.post s2 with
      | (s3, ctx', false) => (restoreStorage s.dlogger (unsyncedStop (some ctx') s3), none, .errPost)
      | (s3, ctx', true) => (s3, some ctx', .ok)

/-! #### the same BEFORE fix e4caa40 (kept for the non-vacuity theorem `default_storage_old_code_fails`):
only provisionContext's deferred function restored the default storage, and only if a
configuration was current; run's later failure paths and Validate did not -/

def provisionContextOld (cid : Nat) (c : Cfg) (pp : List Nat) (s : State) : State × Option Ctx × Option Res :=
  match openLogs cid c.logs s with
  | (s1, live1, wk, some r) => (restoreStorageOld (cancel cid (onCancelOnCopy [] 0) wk live1 s1), none, some r)
  | (s1, live1, wk, none) =>
    match setStorage cid c.stor s1 live1 with
    | (s1', live1', some r) => (restoreStorageOld (cancel cid (onCancelOnCopy [] 0) wk live1' s1'), none, some r)
    | (s1', live1', none) =>
    match loadApps cid (order pp c.apps) s1' live1' with
    | (s2, live2, some r) => (restoreStorageOld (cancel cid (onCancelOnCopy [] 0) wk live2 s2), none, some r)
    | (s2, live2, none) => (s2, some ⟨cid, c.apps, live2, wk, onCancelOnCopy [] 0, s2.dstor⟩, none)

def runOld (cid : Nat) (c : Cfg) (e : Env) (s : State) : State × Option Ctx × Res :=
  match provisionContextOld cid c e.pp s with
  | (s1, _, some r) => (s1, none, r)
  | (s1, none, none) => (s1, none, .errProvision)
  | (s1, some ctx, none) =>
    if e.adm = 2 then (cancel cid ctx.cbs ctx.wkeys ctx.live s1, none, .errAdmin) else
    match startApps cid e.blocked [] (order e.ps ctx.apps) s1 with
    | (s2, false) => (cancel cid ctx.cbs ctx.wkeys ctx.live s2, none, .errStart)
    | (s2, true) =>
      match finishSettingUp ctx e.post s2 with
      | (s3, ctx', false) => (unsyncedStop (some ctx') s3, none, .errPost)
      | (s3, ctx', true) => (s3, some ctx', .ok)

def validateOld (c : Cfg) (e : Env) (s : State) : State × Res :=
  match provisionContextOld s.next c e.pp s with
  | (s1, _, some r) => (s1, r)
  | (s1, none, none) => (s1, .errProvision)
  | (s1, some ctx, none) => (cancel ctx.cid ctx.cbs ctx.wkeys ctx.live s1, .ok)

/-! #### the same BEFORE the default-logger fix (kept for `default_logger_old_code_fails`): the
rollbacks put the default storage back but not the default logger -/

def provisionContextL (cid : Nat) (c : Cfg) (pp : List Nat) (s : State) : State × Option Ctx × Option Res :=
  match openLogs cid c.logs s with
  | (s1, live1, wk, some r) => (restoreStorageL (cancel cid (onCancelOnCopy [] 0) wk live1 s1), none, some r)
  | (s1, live1, wk, none) =>
    match setStorage cid c.stor s1 live1 with
    | (s1', live1', some r) => (restoreStorageL (cancel cid (onCancelOnCopy [] 0) wk live1' s1'), none, some r)
    | (s1', live1', none) =>
    match loadApps cid (order pp c.apps) s1' live1' with
    | (s2, live2, some r) => (restoreStorageL (cancel cid (onCancelOnCopy [] 0) wk live2 s2), none, some r)
    | (s2, live2, none) => (s2, some ⟨cid, c.apps, live2, wk, onCancelOnCopy [] 0, s2.dstor⟩, none)

def runL (cid : Nat) (c : Cfg) (e : Env) (s : State) : State × Option Ctx × Res :=
  match provisionContextL cid c e.pp s with
  | (s1, _, some r) => (s1, none, r)
  | (s1, none, none) => (s1, none, .errProvision)
  | (s1, some ctx, none) =>
    if e.adm = 2 then (restoreStorageL (cancel cid ctx.cbs ctx.wkeys ctx.live s1), none, .errAdmin) else
    match startApps cid e.blocked [] (order e.ps ctx.apps) s1 with
    | (s2, false) => (restoreStorageL (cancel cid ctx.cbs ctx.wkeys ctx.live s2), none, .errStart)
    | (s2, true) =>
      match finishSettingUp ctx e.post s2 with
      | (s3, ctx', false) => (restoreStorageL (unsyncedStop (some ctx') s3), none, .errPost)
      | (s3, ctx', true) => (s3, some ctx', .ok)

def validateL (c : Cfg) (e : Env) (s : State) : State × Res :=
  match provisionContextL s.next c e.pp s with
  | (s1, _, some r) => (s1, r)
  | (s1, none, none) => (s1, .errProvision)
  | (s1, some ctx, none) => (restoreStorageL (cancel ctx.cid ctx.cbs ctx.wkeys ctx.live s1), .ok)

/-- unsyncedDecodeAndRun (caddy.go:325-398) -/
def decodeAndRun (cid : Nat) (c : Cfg) (e : Env) (s : State) : State × Res :=
  if c.top = 1 then (s, .errDecode)
  else
    match run cid c e s with
    | (s1, some ctx, .ok) => (unsyncedStop s.cur { s1 with cur := some ctx }, .ok)
    | (s1, _, r) => (s1, r)

/-- the tail of changeConfig once the raw tree has been mutated to `c` (caddy.go:208-268) -/
def changeTo (c : Cfg) (e : Env) (s : State) : State × Res :=
  if !e.force && s.rawJSON = some c then ({ s with raw := some c }, .same)
  else if c.top = 2 then ({ s with raw := s.rawJSON }, .errIndex)
  else
    match decodeAndRun s.next c e { s with raw := some c } with
    | (s1, .ok) => ({ s1 with rawJSON := some c }, .ok)
    | (s1, r) => ({ s1 with raw := s.rawJSON }, r)

/-! ### operations -/

def replaceApp (a : App) : List App → Option (List App)
  | [] => none
  | b :: rest =>
    if b.name = a.name then some (a :: rest)
    else match replaceApp a rest with
      | some r => some (b :: r)
      | none => none

def removeApp (n : Nat) : List App → Option (List App)
  | [] => none
  | b :: rest =>
    if b.name = n then some rest
    else match removeApp n rest with
      | some r => some (b :: r)
      | none => none

inductive Op
  | load (c : Cfg) (e : Env)       -- POST /config/ (or caddy.Load when e.force)
  | patch (a : App) (e : Env)      -- PATCH /config/apps/<name>
  | del (n : Nat) (e : Env)        -- DELETE /config/apps/<name>
  | junk                           -- POST /config/ with a body that is not JSON
  | validate (c : Cfg) (e : Env)   -- caddy.Validate
  | stop                           -- caddy.Stop
deriving DecidableEq, Repr

/-- caddy.Validate: run(cfg, start = false), cancel on success and put the default storage back;
    the raw tree is not involved -/
def validate (c : Cfg) (e : Env) (s : State) : State × Res :=
  match provisionContext s.next c e.pp s with
  | (s1, _, some r) => (s1, r)
  | (s1, none, none) => (s1, .errProvision)
  | (s1, some ctx, none) => (restoreStorage s.dlogger (cancel ctx.cid ctx.cbs ctx.wkeys ctx.live s1), .ok)

def bump (p : State × Res) : State × Res := ({ p.1 with next := p.1.next + 1 }, p.2)

def step (s : State) : Op → State × Res
  | .load c e => bump (changeTo c e s)
  | .patch a e =>
    match s.raw with
    | none => bump (s, .errPath)
    | some c =>
      match replaceApp a c.apps with
      | none => bump (s, .errPath)
      | some apps => bump (changeTo { c with apps := apps } e s)
  | .del n e =>
    match s.raw with
    | none => bump (s, .errPath)
    | some c =>
      match removeApp n c.apps with
      | none => bump (s, .errPath)
      | some apps => bump (changeTo { c with apps := apps } e s)
  | .junk => bump (s, .errBody)
  | .validate c e => bump (validate c e s)
  | .stop => bump ({ unsyncedStop s.cur s with cur := none, raw := none, rawJSON := none }, .ok)

def runOps : State → List Op → State
  | s, [] => s
  | s, o :: os => runOps (step s o).1 os

/-- the results and states after every operation (what the driver prints) -/
def trace : State → List Op → List (Res × State)
  | _, [] => []
  | s, o :: os => ((step s o).2, (step s o).1) :: trace (step s o).1 os

end CaddyModel.Lifecycle
