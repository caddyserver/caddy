/-
C01 — the HTTP app's per-listener protocols (`listen_protocols`), the glue between Provision and
start() in modules/caddyhttp/app.go.

start() BINDS a listener when  h1 ∨ (h2 ∧ tls) ∨ h2c  holds for the listener's protocol list, but
hands it to http.Server.Serve only when  h1  holds; abortStart and Stop release exactly the
listeners that were passed to Serve (http.Server.Shutdown / Close). A listener that is bound and not
served is therefore never closed — on any exit path. What makes that impossible is Provision: it
checks EVERY LISTENER's own list (`check l.flags`) and refuses "h2 or h2c without h1". Checking the
server-level list once per listener instead (seeded mutant C01-h1less-listener-bound-never-served:
`provisionServerFlags`) lets such a listener through.

In the shared model (Lifecycle.lean) this is: an HTTP app with fault 7 — first `listen_protocols`
entry `["h2c"]` — is refused in loadApp before anything of it exists, so `bindAll` / `closeApp`
(bind every listener of the list, close every socket of the app) is exact.
-/
namespace CaddyModel.C01.LP

/-- a protocol list, as the three flags app.go derives from it -/
structure Flags where
  h1 : Bool
  h2 : Bool
  h2c : Bool
deriving DecidableEq, Repr

/-- Provision's check of ONE protocol list: no HTTP/2 (h2 or h2c) without HTTP/1.1 -/
def check (f : Flags) : Bool := f.h1 || !(f.h2 || f.h2c)

/-- a listener: its effective protocol list and whether TLS is used on it -/
structure Ln where
  flags : Flags
  tls : Bool
deriving DecidableEq, Repr

/-- App.Provision, the part about protocols: the server's list, then every listener's own list -/
def provision (srv : Flags) (lns : List Ln) : Bool := check srv && lns.all (fun l => check l.flags)

/-- the same with the per-listener check reading the SERVER's flags (the seeded mutant) -/
def provisionServerFlags (srv : Flags) (lns : List Ln) : Bool := check srv && lns.all (fun _ => check srv)

/-- start(): the condition that guards Listen … -/
def binds (l : Ln) : Bool := l.flags.h1 || (l.flags.h2 && l.tls) || l.flags.h2c
/-- … and the one that guards Serve -/
def serves (l : Ln) : Bool := l.flags.h1

/-- what a run of start() over the listeners leaves: `bound` and `served`, stopping at the first
    listener that cannot be bound (`fails`); the result says whether start() succeeded -/
def start (fails : Ln → Bool) : List Ln → List Ln × List Ln × Bool
  | [] => ([], [], true)
  | l :: rest =>
    if binds l then
      if fails l then ([], [], false)
      else
        let r := start fails rest
        (l :: r.1, (if serves l then l :: r.2.1 else r.2.1), r.2.2)
    else start fails rest

/-- abortStart / Stop: the listeners passed to Serve are closed; what stays bound -/
def leftBound (bound served : List Ln) : List Ln := bound.filter (fun l => !served.contains l)

/-- the call-site contract: given Provision's per-listener check, the guard of Listen implies the
    guard of Serve -/
theorem check_binds_serves (l : Ln) (h : check l.flags = true) (hb : binds l = true) : serves l = true := by
  -- without h1 the check forces h2 = h2c = false, and then nothing is bound
  unfold check at h; unfold binds at hb; unfold serves
  cases h1 : l.flags.h1
  · rw [h1] at h hb
    simp at h
    simp [h.1, h.2] at hb
  · rfl

theorem start_bound_eq_served (fails : Ln → Bool) (lns : List Ln) (h : lns.all (fun l => check l.flags) = true) :
    (start fails lns).1 = (start fails lns).2.1 := by
  fun_induction start fails lns
  · rfl
  · rfl
  · rename_i l rest hb hf r ih
    simp only [List.all_cons, Bool.and_eq_true] at h
    rw [if_pos (check_binds_serves l h.1 hb), ih h.2]
  · rename_i ih
    simp only [List.all_cons, Bool.and_eq_true] at h
    exact ih h.2

/-- Whatever Provision accepts — for every server
    list, every list of listeners, every position at which a bind fails — after start() (successful
    or aborted) followed by the release of the served listeners (abortStart / Stop) NO listener is
    left bound: bound ⊆ served ∪ closed on every exit path. -/
theorem bound_is_served_or_closed (srv : Flags) (lns : List Ln) (fails : Ln → Bool)
    (hp : provision srv lns = true) :
    leftBound (start fails lns).1 (start fails lns).2.1 = [] := by
  unfold provision at hp
  simp only [Bool.and_eq_true] at hp
  rw [start_bound_eq_served fails lns hp.2]
  unfold leftBound
  rw [List.filter_eq_nil_iff]
  intro l hl
  simp [hl]

/-- the negation for the check that reads the server's flags: server `["h1"]`, first listener
    `["h2c"]`, second listener cannot be bound — Provision lets it through, start() binds the first
    listener, never serves it, aborts, and it stays bound; the per-listener check refuses it -/
theorem server_level_check_leaks :
    let srv : Flags := ⟨true, false, false⟩
    let a : Ln := ⟨⟨false, false, true⟩, false⟩
    let b : Ln := ⟨⟨true, false, false⟩, false⟩
    provisionServerFlags srv [a, b] = true ∧ provision srv [a, b] = false ∧
    (start (fun l => l == b) [a, b]).2.2 = false ∧
    leftBound (start (fun l => l == b) [a, b]).1 (start (fun l => l == b) [a, b]).2.1 = [a] ∧
    -- (and when every bind succeeds the config is accepted, and Stop leaves the same socket behind)
    (start (fun _ => false) [a, b]).2.2 = true ∧
    leftBound (start (fun _ => false) [a, b]).1 (start (fun _ => false) [a, b]).2.1 = [a] := by decide

-- non-vacuity: lists Provision accepts, with a bind that fails in the middle
example : provision ⟨true, true, false⟩ [⟨⟨true, false, true⟩, false⟩, ⟨⟨true, true, false⟩, true⟩] = true ∧
    (start (fun l => l.tls) [⟨⟨true, false, true⟩, false⟩, ⟨⟨true, true, false⟩, true⟩]).2.2 = false := by decide

end CaddyModel.C01.LP
