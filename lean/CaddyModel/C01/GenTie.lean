/-
C01 — regenerated tie (tools/extract → Gen/ProvisionErr.lean, rebuilt from /repo on every run).
`provisionContext` undoes its own work in a deferred closure that runs only when the FUNCTION-LEVEL
variable `err` is non-nil. The model (`Lifecycle.provisionContext`) rolls back on every error outcome;
that is the code only if every error-reporting `return` of the function leaves that variable non-nil.
A shadowing `if _, err := …; err != nil { return ctx, err }` (seeded/C01-provision-rollback-shadowed-err)
breaks exactly this fact, statically.
The second theorem ties `StdApps.lean` to the source in the same way: the order of the calls it transliterates
(Gen/StdAppsOrder.lean).
-/
import CaddyModel.Gen.ProvisionErr
import CaddyModel.Gen.StdAppsOrder

namespace CaddyModel.C01

/-- every error-reporting return of caddy.go:provisionContext is seen by its deferred rollback -/
theorem provision_rollback_sees_every_error :
    Gen.provisionErrFactsFound = true ∧
    Gen.provisionRollbackReadsFunctionErr = true ∧
    Gen.provisionErrorReturns.all (· == "covered") = true ∧
    Gen.provisionErrorReturns.length ≥ 3 := by decide

/-- the ORDER facts StdApps.lean is built on, regenerated from caddy.go and modules/caddytls/tls.go on every run
    as event sequences of the CALL-INLINED bodies (tools/extract/c01stdapps.go: calls into unexported functions /
    methods / closures of the package are replaced by the callee's events, so extract-function and inline-function
    rewrites leave every list as it is; moving, dropping or adding an event does not):
    `load` — provisioning, admin routers (failure: cancel, defaults back), the start loop with the stop of the started
    siblings (failure: cancel, defaults back), "started" AFTER the start loop's failure exit and BEFORE
    finishSettingUp, whose failure ends in unsyncedStop's events and defaults back; `endOuts` — "stopping", then the
    apps' Stop, then the modules' Cleanup; `stopW` — caddy.Stop cleans up BEFORE it empties currentCtx, and TLS.Cleanup
    takes whatever tls app caddy.ActiveContext() has for its successor UNLESS that is itself (`nextTLS.(*TLS) != t`,
    /repo 985d095; dropping the check again changes this string and brings back `Std.stop`, the old code of
    cert_cache_function_of_running_old_code_fails); `validate` — run, cancel, defaults back; `cacheAdd` / `tlsCleanup` —
    every certificate that is cached is remembered in t.loaded unconditionally (self-tests
    C01-tls-untagged-certificates-not-tracked and C01-started-event-before-start-loop-check each change one list) -/
theorem std_apps_order_matches_source :
    Gen.runPhaseOrder = ["provisionContext", "provisionAdminRouters", "cancelFunc", "restoreDefaultStorage", "restoreDefaultLogger",
      "app.Start", "app.Stop", "cancelFunc", "restoreDefaultStorage", "restoreDefaultLogger",
      "emitEvent:started", "finishSettingUp",
      "emitEvent:stopping", "app.Stop", "cancelFunc", "restoreDefaultStorage", "restoreDefaultLogger"] ∧
    Gen.unsyncedStopOrder = ["emitEvent:stopping", "app.Stop", "cancelFunc"] ∧
    Gen.stopOrder = ["emitEvent:stopping", "app.Stop", "cancelFunc", "currentCtx=Context{}"] ∧
    Gen.validateOrder = ["run", "cancelFunc", "restoreDefaultStorage", "restoreDefaultLogger"] ∧
    Gen.tlsCleanupSuccessorLookup = "caddy.ActiveContext().AppIfConfigured(\"tls\")" ∧
    Gen.tlsCleanupSuccessorCond = "err==nil&&nextTLS!=nil&&nextTLS.(*TLS)!=t" ∧
    Gen.tlsProvisionCacheBlock = ["assign:err<-magic.CacheUnmanagedTLSCertificate", "if:err!=nil", "assign:t.loaded[hash]<-\"\""] :=
  ⟨rfl, rfl, rfl, rfl, rfl, rfl, rfl⟩

end CaddyModel.C01
