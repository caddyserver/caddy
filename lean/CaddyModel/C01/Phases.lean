/-
Lifecycle — what each function of the model does, said once per function; the theorems of C01
(all-or-nothing) and C03 (released exactly once) are read off these.

Provisioning functions (`Prov`) leave `Frame`'s fields alone, every error they report is a rejection,
what they add to the guest pool is what they add to `moduleInstances`, and the Provision / Cleanup
balance moves with `moduleInstances`; cancel gives all of that back. Start and Stop move only sockets
and app events. So provisionContext, run and Validate end in one of two ways: the configuration is
`Provisioned`, or everything is `RolledBack`.
-/
import CaddyModel.C01.Frame
import CaddyModel.C01.Model
import CaddyModel.C03.Balance

namespace CaddyModel.C01
open CaddyModel.Lifecycle CaddyModel.C03

/-- `G` in `bal`: the instances alive elsewhere — those of the running context, and a probe app's own instance
    while its guests are loaded (`loadProbeApp_prov`) -/
structure Prov (s s' : State) (live live' : List Live) (o : Option Res) : Prop where
  frame : Frame s s'
  err : ∀ r, o = some r → r.accepted = false
  pool : ∀ k, s'.mpool k + (keys live).count k = s.mpool k + (keys live').count k
  bal : ∀ G, SB s (G ++ nq live) → SB s' (G ++ nq live')

theorem Prov.rfl' (s : State) (live : List Live) : Prov s s live live none :=
  ⟨Frame.rfl' s, (fun _ h => nomatch h), fun _ => rfl, fun _ h => h⟩

theorem Prov.trans {a b c : State} {l1 l2 l3 : List Live} {o : Option Res} (h1 : Prov a b l1 l2 none)
    (h2 : Prov b c l2 l3 o) : Prov a c l1 l3 o :=
  ⟨h1.frame.trans h2.frame, h2.err, fun k => by have := h1.pool k; have := h2.pool k; omega,
   fun G h => h2.bal G (h1.bal G h)⟩

theorem Prov.fails {s s' : State} {live live' : List Live} (h : Prov s s' live live' none) {r : Res}
    (hr : r.accepted = false) : Prov s s' live live' (some r) :=
  ⟨h.frame, (fun _ e => by cases e; exact hr), h.pool, h.bal⟩

theorem Prov.bal0 {s s' : State} {live : List Live} {o : Option Res} (h : Prov s s' [] live o) (G : List Inst)
    (hG : SB s G) : SB s' (G ++ nq live) := h.bal G (by simpa [nq] using hG)

theorem Prov.skip {s s' : State} {live : List Live} {o : Option Res} (hf : Frame s s')
    (hn : s.nseq ≤ s'.nseq) (hm : s'.mpool = s.mpool)
    (hev : ∃ es, s'.events = s.events ++ es ∧ ∀ e ∈ es, evInst e = none)
    (he : ∀ r, o = some r → r.accepted = false) : Prov s s' live live o := by
  refine ⟨hf, he, fun k => by rw [hm], fun G h => ?_⟩
  obtain ⟨es, h1, h2⟩ := hev
  unfold SB
  rw [h1]
  exact (Bal.other h es h2).mono hn

/-- LoadModuleByID of a module whose Provision or Validate fails: Cleanup on the spot, no entry -/
theorem Prov.failed {s s' : State} {live : List Live} {r : Res} (i : Inst) (hi : i.seq = s.nseq)
    (hf : Frame s s') (hn : s'.nseq = s.nseq + 1) (hm : s'.mpool = s.mpool)
    (hev : s'.events = s.events ++ [.prov i, .clean i] ∨ s'.events = s.events ++ [.prov i, .valid i, .clean i])
    (he : r.accepted = false) : Prov s s' live live (some r) := by
  refine ⟨hf, (fun _ h => by cases h; exact he), fun k => by rw [hm], fun G h => ?_⟩
  unfold SB
  rw [hn]
  rcases hev with e | e <;> rw [e]
  · exact Bal.prov_clean h i hi
  · exact Bal.prov_valid_clean h i hi

/-- LoadModuleByID of a probe module that succeeds: one more entry, holding `k` -/
theorem Prov.loaded {s s' : State} {live : List Live} (i : Inst) (k : Option Nat) (hi : i.seq = s.nseq)
    (hf : Frame s s') (hn : s'.nseq = s.nseq + 1)
    (hm : ∀ x, s'.mpool x + (keys live).count x = s.mpool x + (keys (live ++ [⟨i, k, false⟩])).count x)
    (hev : s'.events = s.events ++ [.prov i, .valid i]) :
    Prov s s' live (live ++ [⟨i, k, false⟩]) none := by
  refine ⟨hf, (fun _ h => nomatch h), hm, fun G h => ?_⟩
  unfold SB
  rw [hn, hev, nq_append_probe, ← List.append_assoc]
  exact (Bal.prov_valid h i hi).perm (List.perm_append_singleton _ _).symm

theorem frame_mod (s : State) (m w : Nat → Nat) (es : List Ev) (n : Nat) :
    Frame s { s with mpool := m, writers := w, events := es, nseq := n } := ⟨rfl, rfl, rfl, rfl, rfl, rfl, rfl, rfl⟩

theorem frame_ev (s : State) (es : List Ev) : Frame s (ev s es) := frame_mod s _ _ _ _

theorem frame_alloc (s : State) : Frame s (alloc s) := frame_mod s _ _ _ _

theorem frame_alloc_ev (s : State) (es : List Ev) : Frame s (ev (alloc s) es) := (frame_alloc s).trans (frame_ev _ _)

theorem frame_mpool (s : State) (f : Nat → Nat) : Frame s { s with mpool := f } := frame_mod s _ _ _ _

theorem frame_writers (s : State) (f : Nat → Nat) : Frame s { s with writers := f } := frame_mod s _ _ _ _

theorem faultRes_err (f : Nat) : (faultRes f).accepted = false := by
  unfold faultRes; split <;> rfl

theorem incr_count (f : Nat → Nat) (k x : Nat) (l : List Nat) :
    incr f k x + l.count x = f x + (l ++ [k]).count x := by
  unfold incr
  by_cases h : x = k
  · simp [h, List.count_append]; omega
  · simp [h, Ne.symm h, List.count_append]

abbrev ProvR (s : State) (live : List Live) (r : State × List Live × Option Res) : Prop :=
  Prov s r.1 live r.2.1 r.2.2

theorem loadMod_prov (cid app idx : Nat) (m : Mod) (s : State) (live : List Live) :
    ProvR s live (loadMod cid app idx m s live) := by
  fun_cases loadMod cid app idx m s live
  · exact (Prov.rfl' s live).fails (faultRes_err _)
  have fr : ∀ f, Frame s { alloc s with mpool := f } := fun f => (frame_alloc s).trans (frame_mpool _ f)
  fun_cases loadModAt ⟨s.nseq, cid, app, idx⟩ m (alloc s) live
  -- the real reverse_proxy handler: fails early, fails late, succeeds (no probe events)
  · exact Prov.skip (frame_alloc s) (Nat.le_succ _) rfl ⟨[], by simp [alloc], by simp⟩ fun _ h => by cases h; rfl
  · exact Prov.skip (fr _) (Nat.le_succ _) (decr_incr _ _) ⟨[], by simp [alloc], by simp⟩ fun _ h => by cases h; rfl
  · refine ⟨fr _, (fun _ h => nomatch h), fun k => ?_, fun G h => ?_⟩
    · rw [keys_append_some]; exact incr_count _ _ _ _
    · rw [nq_append_quiet]; exact Bal.mono h (Nat.le_succ _)
  -- a probe module: Provision fails, Validate fails, succeeds
  · exact Prov.failed _ rfl ((fr _).trans (frame_ev _ _)) rfl (decr_incr _ _) (Or.inl rfl) rfl
  · exact Prov.failed _ rfl ((fr _).trans (frame_ev _ _)) rfl (decr_incr _ _) (Or.inr rfl) rfl
  · exact Prov.loaded _ _ rfl ((fr _).trans (frame_ev _ _)) rfl
      (fun x => by rw [keys_append_some]; exact incr_count _ _ _ _) rfl

theorem loadMods_prov (cid app idx : Nat) (ms : List Mod) (s : State) (live : List Live) :
    ProvR s live (loadMods cid app idx ms s live) := by
  fun_induction loadMods cid app idx ms s live
  · exact Prov.rfl' _ _
  · rename_i idx m _ s live _ _ x ih
    have h := loadMod_prov cid app idx m s live
    rw [x] at h
    exact h.trans ih
  · rename_i idx m _ s live _ _ _ x
    have h := loadMod_prov cid app idx m s live
    rwa [x] at h

/-- a probe app: its own instance is provisioned first and stays alive while its guests are loaded;
    then it fails (Cleanup on the spot) or is validated and recorded -/
theorem loadProbeApp_prov (cid : Nat) (a : App) (s : State) (live : List Live) :
    ProvR s live (loadProbeAppAt ⟨s.nseq, cid, a.name, 0⟩ a (alloc s) live) := by
  have h := loadMods_prov cid a.name 1 a.mods (ev (alloc s) [.prov ⟨s.nseq, cid, a.name, 0⟩]) live
  have close : ∀ {s' live' o} es r, r.accepted = false →
      Prov (ev (alloc s) [.prov ⟨s.nseq, cid, a.name, 0⟩]) s' live live' o →
      (∀ G, SB s' (⟨s.nseq, cid, a.name, 0⟩ :: (G ++ nq live')) → SB (ev s' es) (G ++ nq live')) →
      Prov s (ev s' es) live live' (some r) := fun es r hr h hc =>
    ⟨((frame_alloc_ev s _).trans h.frame).trans (frame_ev _ _), (fun _ e => by cases e; exact hr),
      h.pool, fun G hG => hc G (h.bal (_ :: G) (Bal.prov hG _ rfl))⟩
  fun_cases loadProbeAppAt ⟨s.nseq, cid, a.name, 0⟩ a (alloc s) live
  · rename_i x; rw [x] at h
    exact close _ _ (h.err _ rfl) h fun G hG => Bal.clean hG
  · rename_i x _; rw [x] at h
    exact close _ _ rfl h fun G hG => Bal.clean hG
  · rename_i x _ _; rw [x] at h
    exact close _ _ rfl h fun G hG => Bal.valid_clean hG
  · rename_i x _ _; rw [x] at h
    refine ⟨((frame_alloc_ev s _).trans h.frame).trans (frame_ev _ _), (fun _ e => nomatch e),
      fun k => by rw [keys_append_none]; exact h.pool k, fun G hG => ?_⟩
    have := h.bal (_ :: G) (Bal.prov hG _ rfl)
    rw [nq_append_probe, ← List.append_assoc]
    exact (Bal.valid this _ (this.lfresh _ List.mem_cons_self)).perm (List.perm_append_singleton _ _).symm

theorem loadApp_prov (cid : Nat) (a : App) (s : State) (live : List Live) :
    ProvR s live (loadApp cid a s live) := by
  have h := loadMods_prov cid a.name 1 a.mods s live
  fun_cases loadApp cid a s live
  · exact (Prov.rfl' s live).fails (faultRes_err _)
  · rename_i x; rwa [x] at h
  · rename_i x _; rwa [x] at h
  · rename_i x _; rw [x] at h; exact h.fails rfl
  · exact loadProbeApp_prov cid a s live

theorem loadApps_prov (cid : Nat) (as : List App) (s : State) (live : List Live) :
    ProvR s live (loadApps cid as s live) := by
  fun_induction loadApps cid as s live
  · exact Prov.rfl' _ _
  · rename_i a _ s live _ _ x ih
    have h := loadApp_prov cid a s live
    rw [x] at h
    exact h.trans ih
  · rename_i a _ s live _ _ _ x
    have h := loadApp_prov cid a s live
    rwa [x] at h

theorem openWriter_prov (k : Nat) (s : State) (live : List Live) : Prov s (openWriter k s) live live none := by
  fun_cases openWriter k s
  · exact Prov.skip ((frame_writers _ _).trans (frame_ev _ _)) (Nat.le_refl _) rfl ⟨[.wopen k], rfl, by simp [evInst]⟩
      fun _ e => nomatch e
  · exact Prov.skip (frame_writers _ _) (Nat.le_refl _) rfl ⟨[], by simp, by simp⟩ fun _ e => nomatch e

abbrev ProvR4 (s : State) (live : List Live) (r : State × List Live × List Nat × Option Res) : Prop :=
  Prov s r.1 live r.2.1 r.2.2.2

theorem openLog_prov (cid idx : Nat) (m : Mod) (s : State) (live : List Live) (wk : List Nat) :
    ProvR4 s live (openLog cid idx m s live wk) := by
  fun_cases openLog cid idx m s live wk
  · exact (Prov.rfl' s live).fails (faultRes_err _)
  fun_cases openLogAt ⟨s.nseq, cid, 100, idx⟩ m (alloc s) live wk
  · exact Prov.failed _ rfl (frame_alloc_ev s _) rfl rfl (Or.inl rfl) rfl
  · exact Prov.failed _ rfl (frame_alloc_ev s _) rfl rfl (Or.inr rfl) rfl
  · exact (Prov.loaded _ none rfl (frame_alloc_ev s _) rfl (fun x => by rw [keys_append_none]; rfl) rfl).trans (openWriter_prov _ _ _)

theorem openLogsFrom_prov (cid idx : Nat) (ms : List Mod) (s : State) (live : List Live) (wk : List Nat) :
    ProvR4 s live (openLogsFrom cid idx ms s live wk) := by
  fun_induction openLogsFrom cid idx ms s live wk
  · exact Prov.rfl' _ _
  · rename_i idx m _ s live wk _ _ _ x ih
    have h := openLog_prov cid idx m s live wk
    rw [x] at h
    exact h.trans ih
  · rename_i idx m _ s live wk _ _ _ _ x
    have h := openLog_prov cid idx m s live wk
    rwa [x] at h

/-- openLogs makes this context's default log the process default logger before anything else; seen
    from the state in which that has happened, it is a provisioning step like the others -/
theorem openLogs_prov (cid : Nat) (logs : List Mod) (s : State) :
    ProvR4 { s with dlogger := cid + 1 } [] (openLogs cid logs s) := by
  have h0 : Prov { s with dlogger := cid + 1 } { openWriter 0 (ev s [.cbReg cid]) with dlogger := cid + 1 } [] [] none :=
    have h := (Prov.skip (live := []) (o := none) (frame_ev s [.cbReg cid]) (Nat.le_refl _) rfl ⟨_, rfl, by simp [evInst]⟩
      fun _ e => nomatch e).trans (openWriter_prov 0 _ [])
    ⟨⟨h.frame.raw, h.frame.rawJSON, h.frame.cur, h.frame.next, h.frame.socks, h.frame.aevents, h.frame.dstor, rfl⟩,
      h.err, h.pool, h.bal⟩
  exact h0.trans (openLogsFrom_prov cid 0 logs _ [] [0])

theorem Prov.set_dstor {a b : State} {l l' : List Live} {o : Option Res} (h : Prov a b l l' o) (d : Nat) :
    Prov { a with dstor := d } { b with dstor := d } l l' o :=
  ⟨⟨h.frame.raw, h.frame.rawJSON, h.frame.cur, h.frame.next, h.frame.socks, h.frame.aevents, rfl, h.frame.dlogger⟩,
    h.err, h.pool, h.bal⟩

/-- setStorage sets the default storage on success only; seen from the state that already has the value it
    ends with, it is a provisioning step like the others (as `openLogs_prov` for the default logger) -/
theorem setStorage_prov (cid : Nat) (m : Mod) (s : State) (live : List Live) :
    ProvR { s with dstor := (setStorage cid m s live).1.dstor } live (setStorage cid m s live) ∧
    ((setStorage cid m s live).2.2 = none → (setStorage cid m s live).1.dstor = m.key) := by
  have h : ProvR s live (loadStorAt ⟨s.nseq, cid, 102, 0⟩ m (alloc s) live) := by
    fun_cases loadStorAt ⟨s.nseq, cid, 102, 0⟩ m (alloc s) live
    · exact Prov.failed _ rfl (frame_alloc_ev s _) rfl rfl (Or.inl rfl) rfl
    · exact Prov.failed _ rfl (frame_alloc_ev s _) rfl rfl (Or.inr rfl) rfl
    · exact Prov.loaded _ none rfl (frame_alloc_ev s _) rfl (fun x => by rw [keys_append_none]; rfl) rfl
  fun_cases setStorage cid m s live
  · rename_i hk; exact ⟨Prov.rfl' _ _, fun _ => hk.symm⟩
  · exact ⟨(Prov.rfl' s live).fails (faultRes_err _), fun e => nomatch e⟩
  · rename_i x; rw [x] at h; exact ⟨h.set_dstor m.key, fun _ => rfl⟩
  · rename_i s' _ _ x
    rw [x] at h
    refine ⟨?_, fun e => nomatch e⟩
    show Prov { s with dstor := s'.dstor } s' live _ _
    rw [h.frame.dstor]; exact h

theorem closeLogs_eq (ks : List Nat) (s : State) : ∃ w es,
    closeLogs ks s = { s with writers := w, events := s.events ++ es } ∧ ∀ e ∈ es, evInst e = none := by
  fun_induction closeLogs ks s
  · rename_i s; exact ⟨s.writers, [], by simp, by simp⟩
  · rename_i k _ s _ ih
    obtain ⟨w, es, h1, h2⟩ := ih
    exact ⟨w, .wclose k :: es, by rw [h1]; simp [ev], by simpa [evInst] using h2⟩
  · rename_i ih
    obtain ⟨w, es, h1, h2⟩ := ih
    exact ⟨w, es, by rw [h1], h2⟩

theorem closeLogs_frame (ks : List Nat) (s : State) : Frame s (closeLogs ks s) := by
  obtain ⟨w, es, h, _⟩ := closeLogs_eq ks s
  rw [h]; exact frame_mod s _ _ _ _

theorem cleanupOne_eq (l : Live) (s : State) :
    cleanupOne l s = { s with mpool := fun x => s.mpool x - l.key.toList.count x,
                              events := s.events ++ if l.quiet then [] else [.clean l.inst] } := by
  fun_cases cleanupOne l s
  · rename_i k hk
    rw [hk]
    show ({ s with mpool := decr s.mpool k, events := _ } : State) = _
    congr 1
    funext x
    unfold decr
    by_cases h : x = k
    · simp [h]
    · simp [h, Ne.symm h]
  · rename_i hk; rw [hk]; simp [ev]

theorem cleanupAll_eq (ls : List Live) (s : State) :
    cleanupAll ls s = { s with mpool := fun x => s.mpool x - (keys ls).count x,
                               events := s.events ++ (nq ls).map .clean } := by
  fun_induction cleanupAll ls s
  · simp [keys, nq]
  · rename_i l ls s ih
    rw [ih, cleanupOne_eq, keys_cons, nq_cons]
    congr 1
    · funext x; simp only [List.count_append]; omega
    · cases l.quiet <;> simp

theorem cleanupAll_spec (ls : List Live) (s : State) :
    Frame s (cleanupAll ls s) ∧ (cleanupAll ls s).writers = s.writers ∧
    (∀ k, (cleanupAll ls s).mpool k = s.mpool k - (keys ls).count k) ∧
    ∀ G, SB s (G ++ nq ls) → SB (cleanupAll ls s) G := by
  rw [cleanupAll_eq]
  exact ⟨frame_mod s _ _ _ _, rfl, fun _ => rfl, fun G h => Bal.cleans _ h⟩

theorem cancel_frame (cid : Nat) (cbs wk : List Nat) (live : List Live) (s : State) :
    Frame s (cancel cid cbs wk live s) := by
  unfold cancel
  by_cases h : cbs.isEmpty = true
  · rw [if_pos h]; exact (cleanupAll_spec _ _).1
  · rw [if_neg h]; exact ((frame_ev _ _).trans (closeLogs_frame _ _)).trans (cleanupAll_spec _ _).1

theorem cancel_nil (cid : Nat) (wk : List Nat) (live : List Live) (s : State) :
    cancel cid [] wk live s = cleanupAll live s := rfl

def mkSock (cid : Nat) (a : App) (ad : Nat) : Sock := ⟨ad, a.tag, cid, a.name⟩

theorem bindAll_eq (cid : Nat) (a : App) (blocked l : List Nat) (s : State) :
    ∃ pre, (bindAll cid a blocked l s).1 = { s with socks := s.socks ++ pre.map (mkSock cid a) } ∧
      ((bindAll cid a blocked l s).2 = true → pre = l) := by
  fun_induction bindAll cid a blocked l s
  · exact ⟨[], by simp, fun _ => rfl⟩
  · exact ⟨[], by simp, by simp⟩
  · rename_i ad rest s _ ih
    obtain ⟨pre, h1, h2⟩ := ih
    exact ⟨ad :: pre, by rw [h1]; simp [mkSock], fun h => by rw [h2 h]⟩

/-- `l` is `base` followed by sockets of context `cid` that belong to apps among `names`. `base` is a variable
    so that a Start which fails, and the Stop of the apps that had started, read as "gives back exactly what
    was added": with `names = []` the list is `base` again, in place (`Own.nil`, `Own.stopped`) -/
def Own (cid : Nat) (base : List Sock) (names : List Nat) (l : List Sock) : Prop :=
  ∃ X, l = base ++ X ∧ ∀ k ∈ X, k.cid = cid ∧ k.app ∈ names

theorem Own.mono {cid : Nat} {base l : List Sock} {n1 n2 : List Nat}
    (h : Own cid base n1 l) (hs : ∀ n ∈ n1, n ∈ n2) : Own cid base n2 l := by
  obtain ⟨X, h1, h2⟩ := h
  exact ⟨X, h1, fun k hk => ⟨(h2 k hk).1, hs _ (h2 k hk).2⟩⟩

theorem Own.nil {cid : Nat} {base l : List Sock} (h : Own cid base [] l) : l = base := by
  obtain ⟨X, h1, h2⟩ := h
  cases X with
  | nil => simpa using h1
  | cons k _ => exact absurd (h2 k List.mem_cons_self).2 (by simp)

theorem Own.bind {cid : Nat} {base l : List Sock} {names : List Nat} (h : Own cid base names l) (a : App)
    (pre : List Nat) : Own cid base (a.name :: names) (l ++ pre.map (mkSock cid a)) := by
  obtain ⟨X, h1, h2⟩ := h
  refine ⟨X ++ pre.map (mkSock cid a), by rw [h1, List.append_assoc], fun k hk => ?_⟩
  rcases List.mem_append.mp hk with hk | hk
  · exact ⟨(h2 k hk).1, List.mem_cons_of_mem _ (h2 k hk).2⟩
  · obtain ⟨ad, _, rfl⟩ := List.mem_map.mp hk
    exact ⟨rfl, List.mem_cons_self⟩

theorem Own.close {cid : Nat} {base l : List Sock} {names : List Nat} (p : Nat → Bool)
    (hb : ∀ k ∈ base, k.cid ≠ cid) (h : Own cid base names l) :
    Own cid base (names.filter fun n => !p n) (l.filter fun k => !(k.cid == cid && p k.app)) := by
  obtain ⟨X, h1, h2⟩ := h
  refine ⟨X.filter fun k => !(k.cid == cid && p k.app), ?_, fun k hk => ?_⟩
  · rw [h1, List.filter_append]
    congr 1
    exact List.filter_eq_self.mpr fun k hk => by simp [hb k hk]
  · obtain ⟨hk1, hk2⟩ := List.mem_filter.mp hk
    have hc := (h2 k hk1).1
    refine ⟨hc, List.mem_filter.mpr ⟨(h2 k hk1).2, ?_⟩⟩
    simpa [hc] using hk2

/-- what App.Start may have done to `s`; a Start that fails leaves nothing of its own -/
def Started (cid : Nat) (a : App) (s : State) (r : State × Bool) : Prop :=
  ∃ sk es, r.1 = { s with socks := sk, aevents := s.aevents ++ es } ∧
    (r.2 = true → sk = s.socks ++ appSocks cid a ∧
      es = if a.isHttp then [] else [.start cid a.name, .started cid a.name]) ∧
    (r.2 = false → (∀ e ∈ es, ∀ c n, e ≠ .started c n ∧ e ≠ .stop c n) ∧
      ∀ base names, (∀ k ∈ base, k.cid ≠ cid) → Own cid base names s.socks → Own cid base names sk)

theorem startApp_spec (cid : Nat) (blocked : List Nat) (a : App) (s : State) :
    Started cid a s (startApp cid blocked a s) := by
  have fail : ∀ (pre : List Nat) es, (∀ e ∈ es, ∀ c n, e ≠ .started c n ∧ e ≠ .stop c n) → Started cid a s
      (closeApp cid a.name { s with socks := s.socks ++ pre.map (mkSock cid a), aevents := s.aevents ++ es }, false) :=
    fun pre es hes => ⟨_, es, rfl, (by intro e; cases e), fun _ => ⟨hes, fun base names hb h =>
      ((h.bind a pre).close (· == a.name) hb).mono fun n hn => by
        simp only [List.mem_filter, List.mem_cons, Bool.not_eq_true', beq_eq_false_iff_ne] at hn
        exact hn.1.resolve_left hn.2⟩⟩
  obtain ⟨pre, h1, h2⟩ := bindAll_eq cid a blocked a.listen s
  obtain ⟨pre', h1', h2'⟩ := bindAll_eq cid a blocked a.listen (evA s [.start cid a.name])
  fun_cases startApp cid blocked a s
  · rename_i x _; rw [x] at h1; subst h1
    simpa using fail pre [] (by simp)
  · rename_i hh _ x _; rw [x] at h1 h2; subst h1
    exact ⟨s.socks ++ pre.map (mkSock cid a), [], by simp, fun _ => ⟨by rw [h2 rfl]; rfl, by rw [if_pos hh]⟩,
      (by intro e; cases e)⟩
  · rename_i x; rw [x] at h1; subst h1
    simpa using fail pre [] (by simp)
  · exact ⟨s.socks, [.start cid a.name, .startFail cid a.name], rfl, (by intro e; cases e),
      fun _ => ⟨by simp, fun _ _ _ h => h⟩⟩
  · rename_i hh _ _ x; rw [x] at h1' h2'; subst h1'
    exact ⟨s.socks ++ pre'.map (mkSock cid a), [.start cid a.name, .started cid a.name], by simp [evA],
      fun _ => ⟨by rw [h2' rfl]; rfl, by rw [if_neg hh]⟩, (by intro e; cases e)⟩
  · rename_i x; rw [x] at h1'; subst h1'
    simpa [evA, closeApp] using fail pre' [.start cid a.name, .startFail cid a.name] (by simp)

theorem stopApps_eq (cid : Nat) (as : List App) (s : State) :
    stopApps cid as s = { s with
      socks := s.socks.filter fun k => !(k.cid == cid && as.any fun a => a.name == k.app),
      aevents := s.aevents ++ (probeApps cid as).map fun p => .stop p.1 p.2 } := by
  fun_induction stopApps cid as s
  · rename_i s
    have : s.socks.filter (fun k => !(k.cid == cid && ([] : List App).any fun a => a.name == k.app)) = s.socks :=
      List.filter_eq_self.mpr fun k _ => by simp
    rw [this]; simp [probeApps]
  · rename_i a as s ih
    rw [ih, probeApps_cons]
    have hp : ∀ k : Sock, (!(k.cid == cid && as.any fun a => a.name == k.app) && !(k.cid == cid && k.app == a.name))
        = !(k.cid == cid && (a :: as).any fun a => a.name == k.app) := by
      intro k
      rw [List.any_cons, show (a.name == k.app) = (k.app == a.name) from BEq.comm]
      cases (k.cid == cid) <;> cases (k.app == a.name) <;> cases (as.any fun a => a.name == k.app) <;> rfl
    unfold stopApp closeApp evA
    cases a.isHttp <;>
      simp only [List.filter_filter, hp, if_true, if_false, Bool.false_eq_true, List.nil_append,
        List.map_append, List.map_cons, List.map_nil, List.append_assoc]

theorem Own.stopped {cid : Nat} {base l : List Sock} {names : List Nat} {as : List App}
    (hb : ∀ k ∈ base, k.cid ≠ cid) (h : Own cid base names l) (hs : ∀ n ∈ names, n ∈ as.map (·.name)) :
    (l.filter fun k => !(k.cid == cid && as.any fun a => a.name == k.app)) = base := by
  refine ((h.close (fun n => as.any fun a => a.name == n) hb).mono fun n hn => ?_).nil
  obtain ⟨hn1, hn2⟩ := List.mem_filter.mp hn
  obtain ⟨a, ha, rfl⟩ := List.mem_map.mp (hs n hn1)
  simp at hn2
  exact absurd rfl (hn2 a ha)

/-- the start loop (caddy.go:446-466), for every position in it (`started`: the apps before this one, all
    started): on success every listener of `rest` is bound behind `s.socks`; on failure nothing of this context is
    left on top of `base`; and the Start / Stop balance, with `A` the apps running in other contexts, ends on the
    apps of this one or on `A` again — stated for the next context (`BalS.bump`), the names attempted being of no
    use after the loop -/
theorem startApps_spec (cid : Nat) (blocked : List Nat) (started rest : List App) (s : State) :
    ∃ sk es, (startApps cid blocked started rest s).1 = { s with socks := sk, aevents := s.aevents ++ es } ∧
      ((startApps cid blocked started rest s).2 = true → sk = s.socks ++ rest.flatMap (appSocks cid)) ∧
      ((startApps cid blocked started rest s).2 = false → ∀ base, (∀ k ∈ base, k.cid ≠ cid) →
        Own cid base (started.map (·.name)) s.socks → sk = base) ∧
      ∀ A, BalS s.aevents (A ++ probeApps cid started) cid (started.map (·.name)) →
        ((started ++ rest).map (·.name)).Nodup →
        BalS (s.aevents ++ es)
          (if (startApps cid blocked started rest s).2 = true then A ++ probeApps cid (started ++ rest) else A) (cid + 1) [] := by
  fun_induction startApps cid blocked started rest s
  · rename_i s
    exact ⟨s.socks, [], by simp, fun _ => by simp, (by intro e; cases e), fun A h _ => by simpa using h.bump⟩
  · rename_i started a rest s s' x ih
    obtain ⟨sk1, es1, e1, ok1, _⟩ := startApp_spec cid blocked a s
    rw [x] at e1 ok1
    simp only at e1
    subst e1
    obtain ⟨rfl, rfl⟩ := ok1 rfl
    obtain ⟨sk, es, e2, ok2, fail2, bal2⟩ := ih
    refine ⟨sk, (if a.isHttp then [] else [.start cid a.name, .started cid a.name]) ++ es,
      by rw [e2]; simp, fun h => by rw [ok2 h]; simp, fun h base hb ho => fail2 h base hb ?_, fun A h hn => ?_⟩
    · exact (ho.bind a a.listen).mono fun n hn => by simpa [or_comm] using hn
    · have hnF : a.name ∉ started.map (·.name) := fun hx => by
        rw [List.map_append, List.map_cons] at hn
        exact (List.nodup_append.mp hn).2.2 _ hx _ List.mem_cons_self rfl
      have hsub : ∀ x ∈ started.map (·.name), x ∈ (started ++ [a]).map (·.name) := fun x hx => by
        rw [List.map_append]; exact List.mem_append_left _ hx
      have h' : BalS (s.aevents ++ if a.isHttp then [] else [.start cid a.name, .started cid a.name])
          (A ++ probeApps cid (started ++ [a])) cid ((started ++ [a]).map (·.name)) := by
        rw [probeApps_append, probeApps_cons]
        cases hh : a.isHttp
        · have := ((h.other [.start cid a.name] (by simp)).started a.name hnF).perm
            (List.perm_append_singleton _ _).symm
          simpa [probeApps, List.append_assoc] using this.monoF fun x hx =>
            (List.mem_cons.mp hx).elim (fun e => by simp [e]) (hsub x)
        · simpa [probeApps] using h.monoF hsub
      simpa [List.append_assoc] using bal2 A h' (by simpa using hn)
  · rename_i started a rest s s' x
    obtain ⟨sk1, es1, e1, _, fail1⟩ := startApp_spec cid blocked a s
    rw [x] at e1 fail1
    simp only at e1
    subst e1
    rw [stopApps_eq]
    refine ⟨_, es1 ++ (probeApps cid started).map fun p => .stop p.1 p.2, by simp, (by intro e; cases e),
      fun _ base hb ho => ((fail1 rfl).2 base _ hb ho).stopped hb fun n hn => hn,
      fun A h _ => ?_⟩
    have := BalS.stops (probeApps cid started) (A := A) ((h.other es1 (fail1 rfl).1).perm List.perm_append_comm)
    simpa [List.append_assoc] using this.bump

/-- the storage of the configuration that is current; caddy's DefaultStorage (0) if none is -/
def storOf : Option Ctx → Nat
  | some ctx => ctx.stor
  | none => 0

theorem restoreStorage_eq (p : Nat) (s : State) :
    restoreStorage p s = { s with dstor := storOf s.cur, dlogger := p } := by
  unfold restoreStorage storOf; cases s.cur <;> rfl

/-- the state side of "what runs is left alone" by an attempt that made context number `cid`: the running
    context, its sockets (no socket carries the number `cid`), the guest pool, the default logger and both
    balances (`wf`: the app names of what was tried are distinct, which the Start / Stop balance needs; a
    variable, since provisioning and Validate start nothing and `Kept` puts `AttWF s.raw op` here) -/
structure Untouched (wf : Prop) (cid : Nat) (s s' : State) : Prop where
  rawJSON : s'.rawJSON = s.rawJSON
  cur : s'.cur = s.cur
  socks : (∀ k ∈ s.socks, k.cid ≠ cid) → s'.socks = s.socks
  mpool : s'.mpool = s.mpool
  dlogger : s'.dlogger = s.dlogger
  bal : ∀ G, SB s G → SB s' G
  balS : wf → ∀ A, BalS s.aevents A cid [] → BalS s'.aevents A (cid + 1) []

theorem Untouched.set_raw (wf : Prop) (cid : Nat) (s : State) (r : Option Cfg) : Untouched wf cid s { s with raw := r } :=
  ⟨rfl, rfl, fun _ => rfl, rfl, rfl, fun _ h => h, fun _ _ hA => hA.bump⟩

/-- … by a run that failed: also the raw tree, the counter, and the default storage put back -/
structure RolledBack (wf : Prop) (cid : Nat) (s s' : State) : Prop extends Untouched wf cid s s' where
  raw : s'.raw = s.raw
  next : s'.next = s.next
  dstor : s'.dstor = storOf s.cur

structure Provisioned (cid : Nat) (c : Cfg) (s s' : State) (ctx : Ctx) : Prop where
  cidEq : ctx.cid = cid
  appsEq : ctx.apps = c.apps
  cbs : ctx.cbs = []
  stor : ctx.stor = c.stor.key
  mpool : ∀ k, s'.mpool k = s.mpool k + (keys ctx.live).count k
  dstor : s'.dstor = c.stor.key
  dlogger : s'.dlogger = cid + 1
  bal : ∀ G, SB s G → SB s' (G ++ nq ctx.live)

/-- cancel and restore: the rollback of every failure exit. `t`: the state in which it starts, with `L`
    loaded; Start / Stop may have moved sockets and app events between `s` and `t`. (`cid'`: cancel's context
    number plays no role when the callback list is empty; Validate passes `ctx.cid`, run passes `cid`) -/
theorem rolledBack_of {wf : Prop} {cid : Nat} {s t : State} {L : List Live} (f : Frame4 s t)
    (hm : ∀ k, t.mpool k = s.mpool k + (keys L).count k) (hb : ∀ G, SB s G → SB t (G ++ nq L))
    (hs : (∀ k ∈ s.socks, k.cid ≠ cid) → t.socks = s.socks)
    (ha : wf → ∀ A, BalS s.aevents A cid [] → BalS t.aevents A (cid + 1) []) (cid' : Nat) (wk : List Nat) :
    RolledBack wf cid s (restoreStorage s.dlogger (cancel cid' [] wk L t)) := by
  rw [restoreStorage_eq, cancel_nil, cleanupAll_eq]
  exact ⟨⟨f.rawJSON, f.cur, hs, funext fun k => by show t.mpool k - _ = _; rw [hm k]; exact Nat.add_sub_cancel .., rfl,
    fun G h => Bal.cleans _ (hb G h), ha⟩, f.raw, f.next, congrArg storOf f.cur⟩

/-- … when only provisioning has happened -/
theorem rolledBack_of_frame {wf : Prop} {cid : Nat} {s t : State} {L : List Live} (f : FrameX s t)
    (hm : ∀ k, t.mpool k = s.mpool k + (keys L).count k) (hb : ∀ G, SB s G → SB t (G ++ nq L)) (cid' : Nat)
    (wk : List Nat) : RolledBack wf cid s (restoreStorage s.dlogger (cancel cid' [] wk L t)) :=
  rolledBack_of f.to4 hm hb (fun _ => f.socks) (fun _ A hA => by rw [f.aevents]; exact hA.bump) cid' wk

/-- provisionContext (caddy.go:502-598) rolls back on every error outcome (the premise tied to the
    source by `provision_rollback_sees_every_error`) -/
theorem provisionContext_cases (wf : Prop) (cid : Nat) (c : Cfg) (pp : List Nat) (s : State) :
    (∃ s' r, provisionContext cid c pp s = (s', none, some r) ∧ r.accepted = false ∧ RolledBack wf cid s s') ∨
    (∃ s' ctx, provisionContext cid c pp s = (s', some ctx, none) ∧ FrameX s s' ∧ Provisioned cid c s s' ctx) := by
  -- `sk`: the state reached when the error `r` was reported, with `live` loaded so far
  have back : ∀ {sk : State} {live : List Live} {o : Option Res} {wk : List Nat} {r : Res},
      Prov { s with dlogger := cid + 1, dstor := sk.dstor } sk [] live o → r.accepted = false →
      ∃ s' r', (restoreStorage s.dlogger (cancel cid (onCancelOnCopy [] 0) wk live sk),
        (none : Option Ctx), some r) = (s', none, some r') ∧ r'.accepted = false ∧ RolledBack wf cid s s' :=
    fun P hr => ⟨_, _, rfl, hr, rolledBack_of_frame (s := s)
      P.frame.toX (fun k => by simpa [keys] using P.pool k) P.bal0 cid _⟩
  have P1 := openLogs_prov cid c.logs s
  fun_cases provisionContext cid c pp s
  · rename_i x1; rw [x1] at P1
    exact Or.inl (back (P1.set_dstor _) (P1.err _ rfl))
  · rename_i s1 live1 wk x1 s2 live2 r x2
    obtain ⟨P2, _⟩ := setStorage_prov cid c.stor s1 live1
    rw [x1] at P1; rw [x2] at P2
    exact Or.inl (back ((P1.set_dstor _).trans P2) (P2.err _ rfl))
  · rename_i s1 live1 wk x1 s2 live2 x2 s3 live3 r x3
    obtain ⟨P2, _⟩ := setStorage_prov cid c.stor s1 live1
    have P3 := loadApps_prov cid (order pp c.apps) s2 live2
    rw [x1] at P1; rw [x2] at P2; rw [x3] at P3
    have P := ((P1.set_dstor _).trans P2).trans P3
    exact Or.inl (back (by rw [show s3.dstor = s2.dstor from P3.frame.dstor]; exact P) (P3.err _ rfl))
  · rename_i s1 live1 wk x1 s2 live2 x2 s3 live3 x3
    obtain ⟨P2, hd⟩ := setStorage_prov cid c.stor s1 live1
    have P3 := loadApps_prov cid (order pp c.apps) s2 live2
    rw [x1] at P1; rw [x2] at P2 hd; rw [x3] at P3
    have P := ((P1.set_dstor _).trans P2).trans P3
    have hd3 : s3.dstor = c.stor.key := P3.frame.dstor.trans (hd rfl)
    exact Or.inr ⟨_, _, rfl, P.frame.toX (s := s), rfl, rfl, rfl, hd3, fun k => by simpa [keys] using P.pool k, hd3, P.frame.dlogger,
      fun G h => P.bal0 G h⟩

theorem finishSettingUp_spec (ctx : Ctx) (post : Bool) (s : State) :
    Prov s (finishSettingUp ctx post s).1 ctx.live (finishSettingUp ctx post s).2.1.live none ∧
    (finishSettingUp ctx post s).2.1 = { ctx with live := (finishSettingUp ctx post s).2.1.live } ∧
    (finishSettingUp ctx post s).2.2 = !post := by
  unfold finishSettingUp finishSettingUpAt
  cases post with
  | true =>
    have h := Prov.failed (live := ctx.live) (r := .errPost) ⟨s.nseq, ctx.cid, 101, 0⟩ rfl (frame_alloc_ev s _) rfl rfl (Or.inl rfl) rfl
    exact ⟨⟨h.frame, (fun _ e => nomatch e), h.pool, h.bal⟩, rfl, rfl⟩
  | false =>
    refine ⟨⟨frame_alloc_ev s _, (fun _ e => nomatch e), fun k => by simp [keys_append_none, ev, alloc], fun G h => ?_⟩, rfl, rfl⟩
    simp only [Bool.false_eq_true, if_false, nq_append_probe, ← List.append_assoc]
    exact (Bal.prov h ⟨s.nseq, ctx.cid, 101, 0⟩ rfl).perm (List.perm_append_singleton _ _).symm

/-- what stopping the old context does to the socket list -/
def closeOld (old : Option Ctx) (l : List Sock) : List Sock :=
  match old with
  | none => l
  | some o => l.filter (fun k => !(k.cid == o.cid && o.apps.any (fun a => a.name == k.app)))

/-- unsyncedStop (caddy.go:740-758), for every callback list: what the Stop phase does to sockets and app events;
    the cancel phase touches none of the fields named here -/
theorem unsyncedStop_some (ctx : Ctx) (s : State) :
    unsyncedStop (some ctx) s = cancel ctx.cid ctx.cbs ctx.wkeys ctx.live { s with
      socks := closeOld (some ctx) s.socks,
      aevents := s.aevents ++ (probeApps ctx.cid ctx.apps).map fun p => .stop p.1 p.2 } := by
  show cancel _ _ _ _ (stopApps ctx.cid ctx.apps s) = _
  rw [stopApps_eq]; rfl

theorem unsyncedStop_spec (old : Option Ctx) (s : State) :
    Frame4 s (unsyncedStop old s) ∧ (unsyncedStop old s).socks = closeOld old s.socks ∧
    (unsyncedStop old s).dstor = s.dstor ∧ (unsyncedStop old s).dlogger = s.dlogger ∧
    (unsyncedStop old s).aevents = s.aevents ++ (probeOpt old).map fun p => .stop p.1 p.2 := by
  cases old with
  | none => exact ⟨Frame4.rfl' s, rfl, rfl, rfl, by simp [unsyncedStop, probeOpt]⟩
  | some ctx =>
    rw [unsyncedStop_some]
    have f := cancel_frame ctx.cid ctx.cbs ctx.wkeys ctx.live
    exact ⟨⟨(f _).raw, (f _).rawJSON, (f _).cur, (f _).next⟩, (f _).socks, (f _).dstor, (f _).dlogger, (f _).aevents⟩

theorem unsyncedStop_released (old : Option Ctx) (s : State) (hc : ∀ ctx, old = some ctx → ctx.cbs = []) :
    (∀ k, (unsyncedStop old s).mpool k = s.mpool k - (keysOpt old).count k) ∧
    ∀ X, SB s (X ++ nqOpt old) → SB (unsyncedStop old s) X := by
  cases old with
  | none => exact ⟨fun k => by simp [unsyncedStop, keysOpt], fun X h => by simpa [unsyncedStop, nqOpt] using h⟩
  | some ctx =>
    rw [unsyncedStop_some, hc ctx rfl, cancel_nil]
    exact ⟨(cleanupAll_spec _ _).2.2.1, fun X h => (cleanupAll_spec _ _).2.2.2 X h⟩

theorem takeApp_perm (n : Nat) (l : List App) : ∀ (a : App) (rest : List App),
    takeApp n l = some (a, rest) → l.Perm (a :: rest) := by
  fun_induction takeApp n l
  · intro _ _ h; cases h
  · intro _ _ h; cases h; exact List.Perm.refl _
  · rename_i b _ _ _ _ hr ih
    intro _ _ h; cases h
    exact ((ih _ _ hr).cons b).trans (List.Perm.swap _ _ _)
  · intro _ _ h; cases h

theorem order_perm (π : List Nat) (l : List App) : (order π l).Perm l := by
  fun_induction order π l
  · exact List.Perm.refl _
  · rename_i hr ih
    exact (ih.cons _).trans (takeApp_perm _ _ _ _ hr).symm
  · rename_i ih; exact ih

theorem own_flatMap (cid : Nat) (base : List Sock) (l : List App) :
    Own cid base (l.map (·.name)) (base ++ l.flatMap (appSocks cid)) := by
  refine ⟨_, rfl, fun k hk => ?_⟩
  obtain ⟨a, ha, hka⟩ := List.mem_flatMap.mp hk
  obtain ⟨ad, _, rfl⟩ := List.mem_map.mp hka
  exact ⟨rfl, List.mem_map.mpr ⟨a, ha, rfl⟩⟩

/-- run(newCfg, start = true) (caddy.go:424-495): the configuration is installed or, wherever it failed
    (provisioning, admin routers, Start, post-start), rolled back without a trace -/
theorem run_cases (cid : Nat) (c : Cfg) (e : Env) (s : State) :
    (∃ s' r, run cid c e s = (s', none, r) ∧ r.accepted = false ∧
      RolledBack (c.apps.map (·.name)).Nodup cid s s') ∨
    (∃ s' ctx, run cid c e s = (s', some ctx, .ok) ∧ Frame4 s s' ∧ Provisioned cid c s s' ctx ∧
      s'.socks = s.socks ++ (order e.ps c.apps).flatMap (appSocks cid) ∧
      ((c.apps.map (·.name)).Nodup → ∀ A, BalS s.aevents A cid [] →
        BalS s'.aevents (A ++ probeApps cid c.apps) (cid + 1) [])) := by
  unfold run
  rcases provisionContext_cases _ cid c e.pp s with ⟨s1, r, h, hr, rb⟩ | ⟨s1, ctx, h, f, pv⟩
  · rw [h]
    exact Or.inl ⟨s1, r, rfl, hr, rb⟩
  rw [h]
  dsimp only
  rw [pv.cbs]
  by_cases hadm : e.adm = 2
  · rw [if_pos hadm]
    exact Or.inl ⟨_, _, rfl, rfl, rolledBack_of_frame f pv.mpool pv.bal cid ctx.wkeys⟩
  rw [if_neg hadm, pv.appsEq]
  have hperm := order_perm e.ps c.apps
  obtain ⟨sk, es, e2, ok2, fail2, bal2⟩ := startApps_spec cid e.blocked [] (order e.ps c.apps) s1
  have bal2 : (c.apps.map (·.name)).Nodup → ∀ A, BalS s.aevents A cid [] → BalS (s1.aevents ++ es)
      (if (startApps cid e.blocked [] (order e.ps c.apps) s1).2 = true then A ++ probeApps cid c.apps else A) (cid + 1) [] := by
    intro hn A hA
    have hF := bal2 A (by rw [f.aevents]; simpa [probeApps] using hA)
      (by simpa using (hperm.map _).nodup_iff.mpr hn)
    by_cases hb : (startApps cid e.blocked [] (order e.ps c.apps) s1).2 = true
    · rw [if_pos hb] at hF ⊢
      exact hF.perm ((probeApps_perm cid (by simpa using hperm)).append_left A)
    · rw [if_neg hb] at hF ⊢; exact hF
  generalize startApps cid e.blocked [] (order e.ps c.apps) s1 = r2 at e2 ok2 fail2 bal2
  obtain ⟨s2, b⟩ := r2
  simp only at e2 ok2 fail2 bal2
  subst e2
  cases b with
  | false =>
    exact Or.inl ⟨_, _, rfl, rfl, rolledBack_of (t := { s1 with socks := sk, aevents := s1.aevents ++ es })
      ⟨f.raw, f.rawJSON, f.cur, f.next⟩ pv.mpool pv.bal
      (fun hb => fail2 rfl s.socks hb ⟨[], by simp [f.socks], fun _ hk => nomatch hk⟩)
      (fun hn A hA => by simpa using bal2 hn A hA) cid ctx.wkeys⟩
  | true =>
    dsimp only
    have hs2 : sk = s.socks ++ (order e.ps c.apps).flatMap (appSocks cid) := by rw [ok2 rfl, f.socks]
    obtain ⟨P3, hctx, hb3⟩ := finishSettingUp_spec ctx e.post { s1 with socks := sk, aevents := s1.aevents ++ es }
    generalize finishSettingUp ctx e.post { s1 with socks := sk, aevents := s1.aevents ++ es } = r3 at P3 hctx hb3
    obtain ⟨s3, ctx', b3⟩ := r3
    simp only at P3 hctx hb3
    have hm3 : ∀ k, s3.mpool k = s.mpool k + (keys ctx'.live).count k := fun k => by
      have h1 : s3.mpool k + (keys ctx.live).count k = s1.mpool k + (keys ctx'.live).count k := P3.pool k
      have := pv.mpool k; omega
    have hbal3 : ∀ G, SB s G → SB s3 (G ++ nq ctx'.live) := fun G h => P3.bal G (pv.bal G h)
    have f3 : Frame4 s s3 := ⟨P3.frame.raw.trans f.raw, P3.frame.rawJSON.trans f.rawJSON, P3.frame.cur.trans f.cur,
      P3.frame.next.trans f.next⟩
    have hsock3 : s3.socks = s.socks ++ (order e.ps c.apps).flatMap (appSocks cid) := P3.frame.socks.trans hs2
    have hae3 : (c.apps.map (·.name)).Nodup → ∀ A, BalS s.aevents A cid [] →
        BalS s3.aevents (A ++ probeApps cid c.apps) (cid + 1) [] :=
      fun hn A hA => by rw [show s3.aevents = _ from P3.frame.aevents]; simpa using bal2 hn A hA
    have hcid : ctx'.cid = cid := by rw [hctx]; exact pv.cidEq
    have happs : ctx'.apps = c.apps := by rw [hctx]; exact pv.appsEq
    have hcbs : ctx'.cbs = [] := by rw [hctx]; exact pv.cbs
    cases b3 with
    | true =>
      dsimp only
      refine Or.inr ⟨s3, ctx', rfl, f3, ⟨hcid, happs, hcbs, ?_, hm3, P3.frame.dstor.trans pv.dstor,
        P3.frame.dlogger.trans pv.dlogger, hbal3⟩, hsock3, hae3⟩
      rw [hctx]; exact pv.stor
    | false =>
      dsimp only
      rw [unsyncedStop_some, closeOld, hcbs, hcid, happs]
      refine Or.inl ⟨_, _, rfl, rfl, rolledBack_of (s := s) (t := { s3 with
          socks := s3.socks.filter fun k => !(k.cid == cid && c.apps.any fun a => a.name == k.app),
          aevents := s3.aevents ++ (probeApps cid c.apps).map fun p => .stop p.1 p.2 })
        ⟨f3.raw, f3.rawJSON, f3.cur, f3.next⟩ hm3 hbal3 (fun hb => ?_) (fun hn A hA => ?_) cid ctx'.wkeys⟩
      · show (s3.socks.filter _) = _
        rw [hsock3]
        exact (own_flatMap cid s.socks _).stopped hb fun n hn => (hperm.map (·.name)).mem_iff.mp hn
      · exact BalS.stops _ ((hae3 hn A hA).perm List.perm_append_comm)

theorem validate_spec (wf : Prop) (c : Cfg) (e : Env) (s : State) :
    RolledBack wf s.next s (validate c e s).1 := by
  unfold validate
  rcases provisionContext_cases wf s.next c e.pp s with ⟨s1, r, h, _, rb⟩ | ⟨s1, ctx, h, f, pv⟩
  · rw [h]; exact rb
  · rw [h]
    dsimp only
    rw [pv.cbs]
    exact rolledBack_of_frame f pv.mpool pv.bal ctx.cid ctx.wkeys

end CaddyModel.C01
