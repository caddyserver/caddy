/-
C01 / C03 — the standard apps on the load path, over whole histories: nobody but the configuration an
operation creates and the configuration running at that moment is ever provisioned, cleaned up or told
anything — a configuration that has ended (rejected, validated, replaced, stopped) is never heard of again.
-/
import CaddyModel.C01.StdProps

namespace CaddyModel.C01.Std

/-- `o` concerns the configuration created by this operation (`cid`) or the one running before it -/
def Addressed (s : St) (cid : Nat) (o : Out) : Prop :=
  cidOf o = cid ∨ ∃ c, s.running = some (cidOf o, c)

theorem endOuts_addressed (s : St) (cid j : Nat) (c : SCfg) (h : s.running = some (j, c)) :
    ∀ o ∈ endOuts j c, Addressed s cid o := by
  intro o ho
  simp only [endOuts, List.mem_append] at ho
  rcases ho with (h1 | h1) <;> (rw [mem_optOut h1]; exact Or.inr ⟨c, h⟩)

theorem step_outs_addressed (s : St) (cid : Nat) (x : Step) : ∀ o ∈ (step s cid x).2.2, Addressed s cid o := by
  cases x with
  | load c =>
    by_cases hf : c.fault = 0
    · intro o ho
      simp only [step, load] at ho
      rw [if_pos hf] at ho
      simp only [List.mem_append] at ho
      rcases ho with ((h1 | h1) | h1)
      · simp only [provOuts] at h1; rw [mem_optOut h1]; exact Or.inl rfl
      · rw [mem_optOut h1]; exact Or.inl rfl
      · cases hr : s.running with
        | none => rw [hr] at h1; cases h1
        | some p =>
          obtain ⟨j, oc⟩ := p
          rw [hr] at h1
          exact endOuts_addressed s cid j oc hr o h1
    · intro o ho
      exact Or.inl (rejected_touches_only_its_own_handler s cid c hf o ho)
  | validate c =>
    intro o ho
    simp only [step, validate, provOuts, List.mem_append] at ho
    rcases ho with (h1 | h1) <;> (rw [mem_optOut h1]; exact Or.inl rfl)
  | stop =>
    intro o ho
    simp only [step, stopW] at ho
    cases hr : s.running with
    | none => rw [hr] at ho; cases ho
    | some p =>
      obtain ⟨j, oc⟩ := p
      rw [hr] at ho
      exact endOuts_addressed s cid j oc hr o ho

/-- every operation of a history addresses only its own configuration and the one running before it -/
def WellAddressed (s : St) (cid : Nat) : List Step → Prop
  | [] => True
  | x :: xs => (∀ o ∈ (step s cid x).2.2, Addressed s cid o) ∧ WellAddressed (step s cid x).1 (cid + 1) xs

/-- C01 / C03, for EVERY history, state and numbering: an ended configuration is never heard of again -/
theorem history_well_addressed (steps : List Step) : ∀ (s : St) (cid : Nat), WellAddressed s cid steps := by
  induction steps with
  | nil => intro _ _; trivial
  | cons x xs ih => intro s cid; exact ⟨step_outs_addressed s cid x, ih _ _⟩

example : (trace St.init 0 [.load ⟨3, 0, none⟩, .load ⟨3, 6, none⟩, .load ⟨3, 0, none⟩, .stop]).map (·.2.2) =
    [[.hprov 0, .started 0], [.hprov 1, .started 1, .stopping 1, .hclean 1],
     [.hprov 2, .started 2, .stopping 0, .hclean 0], [.stopping 2, .hclean 2]] := by decide +kernel

/-- the context number of the running configuration is always older than the next one to be created, so
    "its own configuration" and "the one running before" are never confused -/
theorem running_is_older (steps : List Step) : ∀ (s : St) (cid : Nat),
    (∀ j c, s.running = some (j, c) → j < cid) →
    ∀ j c, (run s cid steps).running = some (j, c) → j < cid + steps.length := by
  induction steps with
  | nil => intro s cid h j c hr; exact h j c hr
  | cons x xs ih =>
    intro s cid h j c hr
    have hs : ∀ j c, (step s cid x).1.running = some (j, c) → j < cid + 1 := by
      intro j' c' hr'
      cases x with
      | load cc =>
        by_cases hf : cc.fault = 0
        · rw [show (step s cid (.load cc)).1.running = _ from load_accepted_running hf] at hr'
          cases hr'; omega
        · rw [show (step s cid (.load cc)).1 = _ from load_rejected_state hf] at hr'
          exact Nat.lt_succ_of_lt (h j' c' hr')
      | validate cc => exact Nat.lt_succ_of_lt (h j' c' hr')
      | stop => rw [show (step s cid .stop).1.running = _ from stopW_running s] at hr'; cases hr'
    have := ih (step s cid x).1 (cid + 1) hs j c hr
    simp only [List.length_cons]; omega

example : (run St.init 0 [.load ⟨3, 0, none⟩, .load ⟨3, 6, none⟩, .load ⟨3, 0, some [1]⟩]).running = some (2, ⟨3, 0, some [1]⟩) := by decide

end CaddyModel.C01.Std
