/-
Lifecycle — which fields of the state a phase leaves alone. Provisioning and cancel touch only the
module side (`mpool`, `writers`, `events`, `nseq`): `Frame`; openLogs / setStorage / the rollback
also move the process-wide defaults: `FrameX`; a whole run, which also binds and closes sockets,
keeps `Frame4`.
-/
import CaddyModel.C01.Lifecycle

namespace CaddyModel.C01
open CaddyModel.Lifecycle

structure Frame (s s' : State) : Prop where
  raw : s'.raw = s.raw
  rawJSON : s'.rawJSON = s.rawJSON
  cur : s'.cur = s.cur
  next : s'.next = s.next
  socks : s'.socks = s.socks
  aevents : s'.aevents = s.aevents
  dstor : s'.dstor = s.dstor
  dlogger : s'.dlogger = s.dlogger

theorem Frame.rfl' (s : State) : Frame s s := ⟨rfl, rfl, rfl, rfl, rfl, rfl, rfl, rfl⟩

theorem Frame.trans {a b c : State} (h1 : Frame a b) (h2 : Frame b c) : Frame a c :=
  ⟨h2.raw.trans h1.raw, h2.rawJSON.trans h1.rawJSON, h2.cur.trans h1.cur, h2.next.trans h1.next,
   h2.socks.trans h1.socks, h2.aevents.trans h1.aevents, h2.dstor.trans h1.dstor,
   h2.dlogger.trans h1.dlogger⟩

structure FrameX (s s' : State) : Prop where
  raw : s'.raw = s.raw
  rawJSON : s'.rawJSON = s.rawJSON
  cur : s'.cur = s.cur
  next : s'.next = s.next
  socks : s'.socks = s.socks
  aevents : s'.aevents = s.aevents

structure Frame4 (s s' : State) : Prop where
  raw : s'.raw = s.raw
  rawJSON : s'.rawJSON = s.rawJSON
  cur : s'.cur = s.cur
  next : s'.next = s.next

theorem Frame.toX {s s' : State} {l d : Nat} (h : Frame { s with dlogger := l, dstor := d } s') : FrameX s s' :=
  ⟨h.raw, h.rawJSON, h.cur, h.next, h.socks, h.aevents⟩

theorem Frame4.rfl' (s : State) : Frame4 s s := ⟨rfl, rfl, rfl, rfl⟩

theorem FrameX.to4 {s s' : State} (h : FrameX s s') : Frame4 s s' := ⟨h.raw, h.rawJSON, h.cur, h.next⟩

end CaddyModel.C01
