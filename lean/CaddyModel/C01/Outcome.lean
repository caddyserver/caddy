/-
Lifecycle — what an operation can do, said once in terms of the fields of the state: it leaves what runs
alone (`Kept`: unchanged, answered before run, rolled back, malformed, Validate) or it ends what runs and
puts something in its place (`Replaced`: the configuration it was asked to install, or nothing for Stop).
The invariants of C01 (`Inv`) and C03 (`Inv3`, `Inv4`, `Inv5`) are each kept by these two relations: their
preservation lemmas (`Inv.kept`, `inv35_kept`, `inv35_replaced`, `inv4_step`) mention no function of the model
below `step` (`inv4_step` needs besides that PATCH / DELETE keep app names distinct: `attempted_names`);
`inv_step` adds the sockets of an install and of Stop, read off `Installed` / `Stopped`.
-/
import CaddyModel.C01.Phases
import CaddyModel.C01.Spec

namespace CaddyModel.C01
open CaddyModel.Lifecycle CaddyModel.C03

theorem ne_ok_of_rejected {r : Res} (h : r.accepted = false) : r ≠ .ok := fun e => by rw [e] at h; cases h

theorem Spec.step_attempted {r : Option Cfg} {op : Op} {c : Cfg} (hi : Spec.installs op = true)
    (ha : Spec.attempted r op = some c) (b : Bool) : Spec.step r op b = bif b then some c else r := by
  cases op <;> first | (cases b <;> simp [Spec.step, ha]; done) | cases hi

theorem Spec.step_noop {r : Option Cfg} {op : Op}
    (h : op = .junk ∨ Spec.installs op = true ∧ Spec.attempted r op = none) : Spec.step r op false = r := by
  rcases h with rfl | ⟨hi, _⟩
  · rfl
  · cases op <;> first | rfl | cases hi

theorem Spec.reachedRun_attempted {r : Option Cfg} {op : Op} {c : Cfg} (hi : Spec.installs op = true)
    (ha : Spec.attempted r op = some c) (res : Res) :
    Spec.reachedRun r op res = (!res.accepted && c.top != 1 && c.top != 2) := by
  unfold Spec.reachedRun
  cases op <;> first | cases hi; done | simp [ha, hi]

theorem Spec.reachedRun_noop {r : Option Cfg} {op : Op}
    (h : op = .junk ∨ Spec.installs op = true ∧ Spec.attempted r op = none) (res : Res) :
    Spec.reachedRun r op res = false := by
  unfold Spec.reachedRun
  rcases h with rfl | ⟨hi, ha⟩
  · rfl
  · cases op <;> first | cases hi; done | simp [ha]

def AttWF (r : Option Cfg) (op : Op) : Prop := ∀ c, Spec.attempted r op = some c → (c.apps.map (·.name)).Nodup

/-- `op`, answered `res`, has taken `s` to `s'` and left what runs alone; the raw tree is what it was or has
    been put back from the last accepted configuration, the default storage has been put back iff run() was
    reached, and the spec, told `res`, keeps its running configuration -/
structure Kept (op : Op) (res : Res) (s s' : State) : Prop extends Untouched (AttWF s.raw op) s.next s s' where
  raw : s'.raw = s.raw ∨ s'.raw = s.rawJSON
  dstor : s'.dstor = if Spec.reachedRun s.raw op res = true then storOf s.cur else s.dstor
  notInst : ¬(Spec.installs op = true ∧ res = .ok)
  spec : s.raw = s.rawJSON → Spec.step s.raw op res.accepted = s.raw

/-- `op` has ended what ran in `s` and put `new` (running `newc`; nothing, for Stop) in its place: the old
    context's references and instances are given back (its callback list being empty), its apps stopped -/
structure Replaced (op : Op) (newc : Option Cfg) (new : Option Ctx) (s s' : State) : Prop where
  raw : s'.raw = newc
  rawJSON : s'.rawJSON = newc
  cur : s'.cur = new
  cbs : ∀ ctx, new = some ctx → ctx.cbs = []
  att : ∀ c, newc = some c → Spec.attempted s.raw op = some c
  released : (∀ old, s.cur = some old → old.cbs = []) →
    (∀ k, s'.mpool k = s.mpool k + (keysOpt new).count k - (keysOpt s.cur).count k) ∧
    ∀ X, SB s (X ++ nqOpt s.cur) → SB s' (X ++ nqOpt new)
  balS : AttWF s.raw op → BalS s.aevents (probeOpt s.cur) s.next [] → BalS s'.aevents (probeOpt new) (s.next + 1) []

/-- what C01 says of an accepted attempt beyond `Replaced` -/
structure Installed (c : Cfg) (ctx : Ctx) (e : Env) (s s' : State) : Prop where
  top : c.top ≠ 1 ∧ c.top ≠ 2
  cid : ctx.cid = s.next
  apps : ctx.apps = c.apps
  stor : ctx.stor = c.stor.key
  socks : s'.socks = closeOld s.cur (s.socks ++ (order e.ps c.apps).flatMap (appSocks s.next))
  dlogger : s'.dlogger = s.next + 1
  dstor : s'.dstor = c.stor.key

/-- what C01 says of Stop beyond `Replaced` -/
structure Stopped (s s' : State) : Prop where
  socks : s'.socks = closeOld s.cur s.socks
  dlogger : s'.dlogger = s.dlogger
  dstor : s'.dstor = s.dstor

/-- one attempt, the tail of changeConfig for an operation `op` that tries to install `c`: unchanged;
    refused (before run: `"@id"` of the wrong type, unknown top-level field; or by run, which has rolled
    back) and the raw tree put back; or installed, and then the old context is stopped -/
theorem changeTo_outcome {op : Op} {c : Cfg} (e : Env) (s : State) (hi : Spec.installs op = true)
    (ha : Spec.attempted s.raw op = some c) :
    (changeTo c e s).1.next = s.next ∧
    ((s.rawJSON = some c ∧ changeTo c e s = ({ s with raw := some c }, .same)) ∨
     ((changeTo c e s).2.accepted = false ∧ Kept op (changeTo c e s).2 s (changeTo c e s).1) ∨
     ∃ ctx, (changeTo c e s).2 = .ok ∧ Replaced op (some c) (some ctx) s (changeTo c e s).1 ∧
       Installed c ctx e s (changeTo c e s).1) := by
  have hwf : AttWF s.raw op → (c.apps.map (·.name)).Nodup := fun h => h c ha
  have hrr := Spec.reachedRun_attempted hi ha
  have hsp := Spec.step_attempted hi ha
  have refused : ∀ {r : Res} {s' : State}, r.accepted = false → Untouched (AttWF s.raw op) s.next s s' →
      s'.raw = s.rawJSON → (s'.dstor = if c.top = 1 ∨ c.top = 2 then s.dstor else storOf s.cur) → Kept op r s s' :=
    fun {r} _ hr u hraw hd => ⟨u, Or.inr hraw,
      by rw [hd, hrr, hr]; by_cases h1 : c.top = 1 <;> by_cases h2 : c.top = 2 <;> simp [h1, h2],
      (fun h => ne_ok_of_rejected hr h.2), fun _ => by rw [hsp, hr]; rfl⟩
  unfold changeTo
  by_cases h1 : (!e.force && decide (s.rawJSON = some c)) = true
  · rw [if_pos h1]; exact ⟨rfl, Or.inl ⟨by simp at h1; exact h1.2, rfl⟩⟩
  rw [if_neg h1]
  by_cases h2 : c.top = 2
  · rw [if_pos h2]
    exact ⟨rfl, Or.inr (Or.inl ⟨rfl, refused rfl (Untouched.set_raw _ _ s _) rfl (by rw [if_pos (Or.inr h2)])⟩)⟩
  rw [if_neg h2]
  unfold decodeAndRun
  by_cases h3 : c.top = 1
  · rw [if_pos h3]
    exact ⟨rfl, Or.inr (Or.inl ⟨rfl, refused rfl (Untouched.set_raw _ _ s _) rfl (by rw [if_pos (Or.inl h3)])⟩)⟩
  rw [if_neg h3]
  rcases run_cases s.next c e { s with raw := some c } with ⟨s1, r, hrun, hr, rb⟩ | ⟨s1, ctx, hrun, f, pv, hs, hb⟩
  · rw [hrun]
    dsimp only
    split
    · rename_i heq; cases heq; cases hr
    · rename_i heq
      cases heq
      exact ⟨rb.next, Or.inr (Or.inl ⟨hr, refused hr
        ⟨rb.rawJSON, rb.cur, rb.socks, rb.mpool, rb.dlogger, rb.bal, fun hw => rb.balS (hwf hw)⟩ rfl
        (by rw [if_neg fun h => h.elim h3 h2]; exact rb.dstor)⟩)⟩
  · rw [hrun]
    dsimp only
    obtain ⟨fs, hsock, hd, hl, hae⟩ := unsyncedStop_spec s.cur { s1 with cur := some ctx }
    refine ⟨fs.next.trans f.next, Or.inr (Or.inr ⟨ctx, rfl, ⟨fs.raw.trans f.raw, rfl, fs.cur,
      fun _ hx => by cases hx; exact pv.cbs, fun _ hx => by cases hx; exact ha, fun hcbs => ?_, fun hw hA => ?_⟩,
      ⟨⟨h3, h2⟩, pv.cidEq, pv.appsEq, pv.stor, hsock.trans (by rw [← hs]), hl.trans pv.dlogger, hd.trans pv.dstor⟩⟩)⟩
    · obtain ⟨m, b⟩ := unsyncedStop_released s.cur { s1 with cur := some ctx } hcbs
      exact ⟨fun k => by rw [show _ = _ from m k, show _ = _ from pv.mpool k]; rfl, fun X hX => b _ ((pv.bal _ hX).perm
        (by rw [List.append_assoc, List.append_assoc]; exact List.perm_append_comm.append_left X))⟩
    · show BalS (unsyncedStop _ _).aevents (probeApps ctx.cid ctx.apps) (s.next + 1) []
      rw [hae, pv.cidEq, pv.appsEq]
      exact BalS.stops _ (hb (hwf hw) _ hA)

theorem Kept.unchanged {op : Op} {c : Cfg} {s : State} (hi : Spec.installs op = true)
    (ha : Spec.attempted s.raw op = some c) (h0 : s.rawJSON = some c) : Kept op .same s { s with raw := some c } :=
  ⟨Untouched.set_raw _ _ s _, Or.inr h0.symm, by rw [Spec.reachedRun_attempted hi ha]; rfl, (fun h => nomatch h.2),
    fun hw => by rw [Spec.step_attempted hi ha]; exact h0.symm.trans hw.symm⟩

/-- (stated for an arbitrary pair, so that `bump` of an operation never unfolds the operation) -/
theorem Kept.bump {op : Op} {s : State} {p : State × Res} (h : Kept op p.2 s p.1) : Kept op (bump p).2 s (bump p).1 :=
  ⟨⟨h.rawJSON, h.cur, h.socks, h.mpool, h.dlogger, h.bal, h.balS⟩, h.raw, h.dstor, h.notInst, h.spec⟩

theorem Replaced.bump {op : Op} {newc : Option Cfg} {new : Option Ctx} {s : State} {p : State × Res}
    (h : Replaced op newc new s p.1) : Replaced op newc new s (bump p).1 :=
  ⟨h.raw, h.rawJSON, h.cur, h.cbs, h.att, h.released, h.balS⟩

theorem step_cases (s : State) (op : Op) :
    (∃ c e, Spec.installs op = true ∧ Spec.attempted s.raw op = some c ∧ step s op = bump (changeTo c e s)) ∨
    (∃ r, r.accepted = false ∧ (op = .junk ∨ Spec.installs op = true ∧ Spec.attempted s.raw op = none) ∧
      step s op = bump (s, r)) ∨
    (∃ c e, op = .validate c e ∧ step s op = bump (validate c e s)) ∨
    (op = .stop ∧
      step s op = bump ({ unsyncedStop s.cur s with cur := none, raw := none, rawJSON := none }, .ok)) := by
  cases op with
  | load c e => exact Or.inl ⟨c, e, rfl, rfl, rfl⟩
  | patch a e =>
    unfold step Spec.attempted
    cases s.raw with
    | none => exact Or.inr (Or.inl ⟨_, rfl, Or.inr ⟨rfl, rfl⟩, rfl⟩)
    | some c0 =>
      dsimp only
      cases replaceApp a c0.apps with
      | none => exact Or.inr (Or.inl ⟨_, rfl, Or.inr ⟨rfl, rfl⟩, rfl⟩)
      | some apps => exact Or.inl ⟨_, e, rfl, rfl, rfl⟩
  | del n e =>
    unfold step Spec.attempted
    cases s.raw with
    | none => exact Or.inr (Or.inl ⟨_, rfl, Or.inr ⟨rfl, rfl⟩, rfl⟩)
    | some c0 =>
      dsimp only
      cases removeApp n c0.apps with
      | none => exact Or.inr (Or.inl ⟨_, rfl, Or.inr ⟨rfl, rfl⟩, rfl⟩)
      | some apps => exact Or.inl ⟨_, e, rfl, rfl, rfl⟩
  | junk => exact Or.inr (Or.inl ⟨_, rfl, Or.inl rfl, rfl⟩)
  | validate c e => exact Or.inr (Or.inr (Or.inl ⟨c, e, rfl, rfl⟩))
  | stop => exact Or.inr (Or.inr (Or.inr ⟨rfl, rfl⟩))

theorem step_outcome (s : State) (op : Op) :
    (step s op).1.next = s.next + 1 ∧
    (Kept op (step s op).2 s (step s op).1 ∨
     (∃ c ctx e, (step s op).2 = .ok ∧ Spec.installs op = true ∧ Replaced op (some c) (some ctx) s (step s op).1 ∧
       Installed c ctx e s (step s op).1) ∨
     (op = .stop ∧ (step s op).2 = .ok ∧ Replaced op none none s (step s op).1 ∧ Stopped s (step s op).1)) := by
  rcases step_cases s op with ⟨c, e, hi, ha, hst⟩ | ⟨res, hr, hop, hst⟩ | ⟨c, e, rfl, hst⟩ | ⟨rfl, hst⟩
  · rw [hst]
    obtain ⟨hn, ⟨h0, h⟩ | ⟨_, k⟩ | ⟨ctx, hok, hr, hin⟩⟩ := changeTo_outcome e s hi ha
    · rw [h]; exact ⟨rfl, Or.inl (Kept.unchanged hi ha h0).bump⟩
    · exact ⟨congrArg (· + 1) hn, Or.inl k.bump⟩
    · exact ⟨congrArg (· + 1) hn, Or.inr (Or.inl ⟨c, ctx, e, hok, hi, hr.bump,
        ⟨hin.top, hin.cid, hin.apps, hin.stor, hin.socks, hin.dlogger, hin.dstor⟩⟩)⟩
  · rw [hst]
    have k : Kept op res s s := ⟨Untouched.set_raw _ _ s s.raw, Or.inl rfl, by rw [Spec.reachedRun_noop hop]; rfl,
      (fun h => ne_ok_of_rejected hr h.2), fun _ => by rw [hr]; exact Spec.step_noop hop⟩
    exact ⟨rfl, Or.inl (Kept.bump (p := (s, res)) k)⟩
  · rw [hst]
    have rb := validate_spec (AttWF s.raw (.validate c e)) c e s
    have k : Kept (.validate c e) (validate c e s).2 s (validate c e s).1 :=
      ⟨rb.toUntouched, Or.inl rb.raw, rb.dstor, (fun h => nomatch h.1), fun _ => rfl⟩
    exact ⟨congrArg (· + 1) rb.next, Or.inl k.bump⟩
  · rw [hst]
    obtain ⟨f, hsock, hd, hl, hae⟩ := unsyncedStop_spec s.cur s
    have r : Replaced .stop none none s
        ({ unsyncedStop s.cur s with cur := none, raw := none, rawJSON := none }, Res.ok).1 := by
      refine ⟨rfl, rfl, rfl, (fun _ h => nomatch h), (fun _ h => nomatch h), fun hcbs => ?_, fun _ hA => ?_⟩
      · obtain ⟨m, b⟩ := unsyncedStop_released s.cur s hcbs
        exact ⟨fun k => (m k).trans (by simp [keysOpt]),
          fun X hX => by rw [show X ++ nqOpt none = X from List.append_nil X]; exact b X hX⟩
      · show BalS (unsyncedStop s.cur s).aevents [] (s.next + 1) []
        rw [hae]
        exact BalS.stops _ (by simpa using hA.bump)
    exact ⟨congrArg (· + 1) f.next, Or.inr (Or.inr ⟨rfl, rfl, r.bump, ⟨hsock, hl, hd⟩⟩)⟩

theorem step_kept_or_replaced (s : State) (op : Op) :
    Kept op (step s op).2 s (step s op).1 ∨ ∃ newc new, Replaced op newc new s (step s op).1 := by
  rcases (step_outcome s op).2 with k | ⟨_, _, _, _, _, r, _⟩ | ⟨_, _, r, _⟩
  · exact Or.inl k
  · exact Or.inr ⟨_, _, r⟩
  · exact Or.inr ⟨_, _, r⟩

/-- an attempt that is not answered `ok` (seen as the load it is the tail of) -/
theorem changeTo_kept (s : State) (c : Cfg) (e : Env) (hr : (changeTo c e s).2 ≠ .ok) :
    (changeTo c e s).1.next = s.next ∧ Kept (.load c e) (changeTo c e s).2 s (changeTo c e s).1 := by
  obtain ⟨hn, ⟨h0, h⟩ | ⟨_, k⟩ | ⟨_, hok, _⟩⟩ := changeTo_outcome (op := .load c e) e s rfl rfl
  · rw [h]; exact ⟨rfl, Kept.unchanged rfl rfl h0⟩
  · exact ⟨hn, k⟩
  · exact absurd hok hr

theorem changeTo_installed {s : State} {c : Cfg} {e : Env} (h : (changeTo c e s).2 = .ok) :
    (changeTo c e s).1.next = s.next ∧ ∃ ctx, Replaced (.load c e) (some c) (some ctx) s (changeTo c e s).1 ∧
      Installed c ctx e s (changeTo c e s).1 := by
  obtain ⟨hn, ⟨_, h'⟩ | ⟨hr, _⟩ | ⟨ctx, _, r⟩⟩ := changeTo_outcome (op := .load c e) e s rfl rfl
  · rw [h'] at h; cases h
  · rw [h] at hr; cases hr
  · exact ⟨hn, ctx, r⟩

end CaddyModel.C01
