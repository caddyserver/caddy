/-
C01 — non-vacuity of three repairs: the code before each of them breaks the statement that holds of the code as
it is.

Finding F2: BEFORE the fix the HTTP app's Start returned the bind error of its k-th listener without closing
listeners 1‥k-1 (`startAppOld` in Lifecycle.lean), and run stops only the *other* apps: config 1
(HTTP app, tag 1, address 0) runs; config 2 (HTTP app, tag 2, listeners on addresses 2 then 1) is
submitted while somebody else holds address 1; the attempt is rejected, the config read back is
config 1 — and address 2 answered with tag 2. With the code as it is now the same history leaves
nothing (regression case in corpus/C01; `load_atomic` holds):
  L=0~-~3,1,0,0,-=1,0,0,-,3,3 L=0~-~3,2,0,2.1,-=1,0,0,1,3,3
-/
import CaddyModel.C01.Phases

namespace CaddyModel.C01
open CaddyModel.Lifecycle

def w1 : Cfg := ⟨0, [], [⟨3, 1, 0, [0], []⟩], ⟨0, 0⟩⟩
def w2 : Cfg := ⟨0, [], [⟨3, 2, 0, [2, 1], []⟩], ⟨0, 0⟩⟩
def wEnv1 : Env := ⟨true, false, 0, [], [3], [3]⟩
def wEnv2 : Env := ⟨true, false, 0, [1], [3], [3]⟩
def wState : State := (step State.init (.load w1 wEnv1)).1

/-- with the OLD Start the all-or-nothing statement fails: the old Start of config 2's HTTP app,
    run in the state where config 1 runs, reports failure and leaves a socket on address 2
    answering with tag 2 — the new Start, in the same state, reports failure and leaves nothing;
    and the whole attempt, with the code as it is now, is rejected without a trace. -/
theorem load_atomic_old_code_fails :
    (startAppOld 1 wEnv2.blocked ⟨3, 2, 0, [2, 1], []⟩ wState).2 = false ∧
    answers (startAppOld 1 wEnv2.blocked ⟨3, 2, 0, [2, 1], []⟩ wState).1 = [(0, 1), (2, 2)] ∧
    (startApp 1 wEnv2.blocked ⟨3, 2, 0, [2, 1], []⟩ wState).2 = false ∧
    answers (startApp 1 wEnv2.blocked ⟨3, 2, 0, [2, 1], []⟩ wState).1 = [(0, 1)] ∧
    (changeTo w2 wEnv2 wState).2 = .errStart ∧ obs (changeTo w2 wEnv2 wState).1 = obs wState := by decide +kernel

/-! ### the process-wide default storage (certmagic.Default.Storage) — finding F21

BEFORE fix e4caa40 only provisionContext's own deferred rollback put the default storage back, and
only `if currentCtx.cfg != nil`; the later failure paths of run() and Validate() did not. The old
code is kept in Lifecycle.lean (`restoreStorageOld`, `provisionContextOld`, `runOld`,
`validateOld`); with the code as it is now `default_storage_after_rejected` and
`default_storage_after_validate` hold. The witness lines are regression cases in corpus/C01. -/

/-- probe app 0 and storage module 1; the app's Provision fails -/
def wSt1 : Cfg := ⟨0, [], [⟨0, 1, 3, [], []⟩], ⟨0, 1⟩⟩
/-- a healthy config without a storage module -/
def wSt0 : Cfg := ⟨0, [], [⟨0, 1, 0, [], []⟩], ⟨0, 0⟩⟩
/-- storage module 1, the app fails in Start -/
def wSt2 : Cfg := ⟨0, [], [⟨0, 2, 5, [], []⟩], ⟨0, 1⟩⟩
/-- storage module 2, healthy (to be validated) -/
def wSt3 : Cfg := ⟨0, [], [⟨0, 3, 0, [], []⟩], ⟨0, 2⟩⟩
def wEnvS : Env := ⟨true, false, 0, [], [0], [0]⟩
/-- the state in which wSt0 runs -/
def wRun0 : State := runOps State.init [.load wSt0 wEnvS]

/-- the OLD code left the default storage at a configuration that is not running, three ways —
    and the code as it is now does not: (a) the very first load rejected while provisioning an app
    (old: storage 1; now: caddy's default 0); (b) over a running config (storage 0), a load
    rejected at Start (old: 1; now: 0); (c) over the same, a successful Validate (old: 2; now 0). -/
theorem default_storage_old_code_fails :
    ((runOld 0 wSt1 wEnvS State.init).2.2 = .errProvision ∧ (runOld 0 wSt1 wEnvS State.init).1.dstor = 1 ∧
      (run 0 wSt1 wEnvS State.init).1.dstor = 0) ∧
    (storOf wRun0.cur = 0 ∧ (runOld wRun0.next wSt2 wEnvS wRun0).2.2 = .errStart ∧
      (runOld wRun0.next wSt2 wEnvS wRun0).1.dstor = 1 ∧ (run wRun0.next wSt2 wEnvS wRun0).1.dstor = 0) ∧
    ((validateOld wSt3 wEnvS wRun0).2 = .ok ∧ (validateOld wSt3 wEnvS wRun0).1.dstor = 2 ∧
      (validate wSt3 wEnvS wRun0).1.dstor = 0) := by decide +kernel

/-! ### the process-wide default logger (caddy.Log()) — the code before the restoreDefaultLogger fix

openLogs (setupNewDefault) makes the new configuration's default log the process default logger
before anything else is provisioned; before the fix nothing undid that when the configuration was
not used (`runL`, `validateL`: the rollbacks put the default storage back but not the logger). -/

/-- `default_logger_after_rejected` / `default_logger_after_validate` fail for the code before the
    fix and hold for the code as it is now: over a running configuration (which owns the default
    logger: 1), (a) a load rejected while provisioning an app and (b) a successful Validate left
    caddy.Log() at the default log of a configuration that is not running (old: 2; now: 1) -/
theorem default_logger_old_code_fails :
    wRun0.dlogger = 1 ∧ wRun0.rawJSON = some wSt0 ∧
    ((runL wRun0.next wSt1 wEnvS wRun0).2.2 = .errProvision ∧ (runL wRun0.next wSt1 wEnvS wRun0).1.dlogger = 2 ∧
      (run wRun0.next wSt1 wEnvS wRun0).2.2 = .errProvision ∧ (run wRun0.next wSt1 wEnvS wRun0).1.dlogger = 1) ∧
    ((validateL wSt3 wEnvS wRun0).2 = .ok ∧ (validateL wSt3 wEnvS wRun0).1.dlogger = 2 ∧
      (validate wSt3 wEnvS wRun0).2 = .ok ∧ (validate wSt3 wEnvS wRun0).1.dlogger = 1) := by decide +kernel

end CaddyModel.C01
