import CaddyModel.C01.Props
open CaddyModel.C01
#print axioms rejected_changes_nothing
#print axioms load_atomic
#print axioms accepted_installs
#print axioms unchanged_is_noop
#print axioms accepted_is_ok_or_same
#print axioms rejected_leaves_no_module
#print axioms reachable_invariants
#print axioms accepted_sets_default_storage
#print axioms default_storage_untouched_before_run
#print axioms default_storage_after_rejected
#print axioms default_storage_after_validate
#print axioms accepted_sets_default_logger
#print axioms default_logger_untouched_before_run
#print axioms default_logger_after_rejected
#print axioms default_logger_after_validate
#print axioms step_default_logger
#print axioms history_default_logger
#print axioms step_default_storage
#print axioms history_default_storage
#print axioms sockId_ignores_permission_bits
#print axioms rejected_keeps_every_socket_reachable
#print axioms history_reachable
#print axioms history_atomic
#print axioms step_atomic
#print axioms stop_leaves_nothing
#print axioms load_atomic_old_code_fails
#print axioms default_storage_old_code_fails
#print axioms default_logger_old_code_fails
#print axioms provision_rollback_sees_every_error
#print axioms CaddyModel.C01.LP.check_binds_serves
#print axioms CaddyModel.C01.LP.bound_is_served_or_closed
#print axioms CaddyModel.C01.LP.server_level_check_leaks
#print axioms CaddyModel.C01.Std.rejected_keeps_cert_cache
#print axioms CaddyModel.C01.Std.validate_keeps_cert_cache
#print axioms CaddyModel.C01.Std.accepted_cert_cache
#print axioms CaddyModel.C01.Std.rejected_touches_only_its_own_handler
#print axioms CaddyModel.C01.Std.rejected_before_started_delivers_nothing
#print axioms CaddyModel.C01.Std.stopped_configs_certificate_served_by_next_old_code_fails
#print axioms CaddyModel.C01.Std.cert_cache_function_of_running
#print axioms std_apps_order_matches_source
#print axioms CaddyModel.C01.Std.history_well_addressed
#print axioms CaddyModel.C01.Std.running_is_older
