/-
C02 — one socket record and the table of them: who listens (`Sock.gens`) under `bindSock` / `closeSock`,
the counters against the list of open listeners (`SockOk`), nothing left behind (`SockClean`), and a table
updated at one address (`setSock`). Serves `socks` and `asocks` alike.
-/
import CaddyModel.C02.Model

namespace CaddyModel.C02

/-! Who listens on a socket, as the list of generations `Sock.gens`: `bindSock` appends, `closeSock` erases,
with no hypothesis. The kind of a handle matters for `pool` only, so ownership is argued on this list with the
library's lemmas about `++` and `erase`; `forall_hs_setSock_bind` carries over the fields of `Inv` that speak of handles. -/

theorem Sock.holds_iff_mem {k : Sock} {g : Gen} : k.holds g = true ↔ g ∈ k.gens := by
  simp only [Sock.holds, Sock.gens, List.any_eq_true, List.mem_map, beq_iff_eq]

theorem mem_gens_iff {k : Sock} {g : Gen} : g ∈ k.gens ↔ ∃ h, h ∈ k.hs ∧ h.gen = g := List.mem_map

theorem mem_gens {k : Sock} {h : Handle} (hm : h ∈ k.hs) : h.gen ∈ k.gens := List.mem_map_of_mem hm

theorem Sock.length_pos_of_holds {k : Sock} {g : Gen} (h : k.holds g = true) : 1 ≤ k.hs.length := by
  obtain ⟨x, hx, _⟩ := mem_gens_iff.mp (Sock.holds_iff_mem.mp h)
  exact List.length_pos_of_mem hx

theorem gens_bindSock (a : Addr) (k : Sock) (g : Gen) : (bindSock a k g).gens = k.gens ++ [g] := by
  unfold bindSock bindUnix bindTcp Sock.gens
  cases a.unix
  · exact List.map_append
  · cases k.umap <;> exact List.map_append

theorem erase_find?_eq_eraseP (p : Handle → Bool) (l : List Handle) :
    (match l.find? p with
      | none => l
      | some h => l.erase h) = l.eraseP p := by
  cases hf : l.find? p with
  | none => exact (List.eraseP_of_forall_not (List.find?_eq_none.mp hf)).symm
  | some h0 =>
    -- `l = as ++ h0 :: bs` with nothing in `as` satisfying `p`, so `h0` is not in `as` either: both sides are `as ++ bs`
    obtain ⟨hp, as, bs, rfl, has⟩ := List.find?_eq_some_iff_append.mp hf
    have hn : ∀ a, a ∈ as → ¬p a = true := fun a ha => by simpa using has a ha
    show (as ++ h0 :: bs).erase h0 = _
    rw [List.eraseP_append_right _ hn, List.eraseP_cons_of_pos hp,
      List.erase_append_right _ fun hm => hn h0 hm hp, List.erase_cons_head]

theorem closeSock_hs (a : Addr) (k : Sock) (g : Gen) :
    (closeSock a k g).hs = k.hs.eraseP (fun h => h.gen == g) := by
  rw [← erase_find?_eq_eraseP]
  unfold closeSock
  cases k.hs.find? (fun h => h.gen == g) with
  | none => rfl
  | some h0 =>
    unfold closeUnix closeTcp
    cases a.unix
    · rfl
    · by_cases hle : k.ucnt ≤ 1
      · simp only [if_true, if_pos hle]
      · simp only [if_true, if_neg hle]

theorem gens_closeSock (a : Addr) (k : Sock) (g : Gen) : (closeSock a k g).gens = k.gens.erase g := by
  rw [Sock.gens, closeSock_hs, Sock.gens, List.erase_eq_eraseP', List.eraseP_map]
  rfl

theorem nodup_gens_bind {a : Addr} {k : Sock} {g : Gen} (hnd : k.gens.Nodup) (hnh : k.holds g = false) :
    (bindSock a k g).gens.Nodup := by
  rw [gens_bindSock]
  refine List.nodup_append.mpr ⟨hnd, List.nodup_cons.mpr ⟨List.not_mem_nil, List.nodup_nil⟩, fun x hx y hy e => ?_⟩
  rw [List.mem_singleton.mp hy] at e
  exact Bool.false_ne_true (hnh ▸ Sock.holds_iff_mem.mpr (e ▸ hx))

theorem nodup_gens_close {a : Addr} {k : Sock} {g : Gen} (hnd : k.gens.Nodup) : (closeSock a k g).gens.Nodup :=
  gens_closeSock a k g ▸ hnd.erase g

structure SockOk (a : Addr) (k : Sock) : Prop where
  tcpPool : a.unix = false → k.pool = k.hs.length
  ucnt : a.unix = true → k.ucnt = k.hs.length
  umapNone : a.unix = true → (k.umap = none ↔ k.hs = [])
  fileHeld : a.unix = true → k.hs ≠ [] → k.file = true

theorem SockOk.empty (a : Addr) : SockOk a Sock.empty :=
  ⟨fun _ => rfl, fun _ => rfl, fun _ => ⟨fun _ => rfl, fun _ => rfl⟩, fun _ h => absurd rfl h⟩

theorem SockOk.bind {a : Addr} {k : Sock} (h : SockOk a k) (g : Gen) : SockOk a (bindSock a k g) := by
  unfold bindSock
  cases hu : a.unix
  · simp only [Bool.false_eq_true, if_false]
    have ff : a.unix = true → False := by simp [hu]
    refine ⟨fun _ => ?_, fun h' => (ff h').elim, fun h' => (ff h').elim, fun h' => (ff h').elim⟩
    have := h.tcpPool hu
    simp [bindTcp]; omega
  · simp only [if_true]
    have tt : a.unix = false → False := by simp [hu]
    unfold bindUnix
    cases hm : k.umap with
    | none =>
      have he : k.hs = [] := (h.umapNone hu).mp hm
      refine ⟨fun h' => (tt h').elim, fun _ => ?_, fun _ => ?_, fun _ _ => rfl⟩
      · simp [he]
      · simp
    | some g0 =>
      have hne : k.hs ≠ [] := fun e => by have := (h.umapNone hu).mpr e; simp [hm] at this
      refine ⟨fun h' => (tt h').elim, fun _ => ?_, fun _ => ?_, fun _ _ => ?_⟩
      · have := h.ucnt hu
        simp; omega
      · simp
      · exact h.fileHeld hu hne

theorem SockOk.close {a : Addr} {k : Sock} (h : SockOk a k) (g : Gen) : SockOk a (closeSock a k g) := by
  unfold closeSock
  cases hf : k.hs.find? (fun h => h.gen == g) with
  | none => exact h
  | some h0 =>
    have hm : h0 ∈ k.hs := List.mem_of_find?_eq_some hf
    have hlen : (k.hs.erase h0).length = k.hs.length - 1 := List.length_erase_of_mem hm
    have hne0 : k.hs ≠ [] := List.ne_nil_of_mem hm
    cases hu : a.unix with
    | false =>
      have ff {p : Prop} (h' : a.unix = true) : p := by rw [hu] at h'; cases h'
      show SockOk a (closeTcp k h0)
      exact ⟨fun _ => by rw [closeTcp, hlen, ← h.tcpPool hu], ff, ff, ff⟩
    | true =>
      have tt {p : Prop} (h' : a.unix = false) : p := by rw [hu] at h'; cases h'
      have hc := h.ucnt hu
      show SockOk a (closeUnix k h0)
      unfold closeUnix
      by_cases hle : k.ucnt ≤ 1
      · -- the last listener: the socket is forgotten
        have he : k.hs.erase h0 = [] :=
          List.eq_nil_of_length_eq_zero (by rw [hlen, ← hc]; exact Nat.sub_eq_zero_of_le hle)
        rw [if_pos hle]
        exact ⟨tt, fun _ => by rw [he]; rfl, fun _ => ⟨fun _ => he, fun _ => rfl⟩, fun _ hx => absurd he hx⟩
      · have hne : k.hs.erase h0 ≠ [] := fun e =>
          hle (hc ▸ Nat.le_of_sub_eq_zero (hlen ▸ congrArg List.length e))
        rw [if_neg hle]
        exact ⟨tt, fun _ => by rw [hlen, ← hc],
          fun _ => ⟨fun e => absurd ((h.umapNone hu).mp e) hne0, fun e => absurd e hne⟩,
          fun _ _ => h.fileHeld hu hne0⟩

theorem SockOk.gc {a : Addr} {k : Sock} (h : SockOk a k) : SockOk a { k with leaks := 0 } :=
  ⟨h.tcpPool, h.ucnt, h.umapNone, h.fileHeld⟩

structure SockClean (a : Addr) (k : Sock) : Prop where
  fileGone : a.unix = true → k.hs = [] → k.file = false
  noLeak : k.leaks = 0

theorem SockClean.empty (a : Addr) : SockClean a Sock.empty := ⟨fun _ _ => rfl, rfl⟩

theorem SockClean.bind {a : Addr} {k : Sock} (h : SockClean a k) (g : Gen) : SockClean a (bindSock a k g) := by
  refine ⟨fun _ he => ?_, ?_⟩
  · have := gens_bindSock a k g
    rw [Sock.gens, he] at this
    exact absurd this.symm (List.append_ne_nil_of_right_ne_nil _ (List.cons_ne_nil _ _))
  · unfold bindSock bindUnix bindTcp
    cases a.unix
    · exact h.noLeak
    · cases k.umap
      · rfl
      · exact h.noLeak

theorem SockClean.close {a : Addr} {k : Sock} (hok : SockOk a k) (h : SockClean a k) (g : Gen) :
    SockClean a (closeSock a k g) := by
  unfold closeSock
  cases hf : k.hs.find? (fun h => h.gen == g) with
  | none => exact h
  | some h0 =>
    have hlen : (k.hs.erase h0).length = k.hs.length - 1 :=
      List.length_erase_of_mem (List.mem_of_find?_eq_some hf)
    cases hu : a.unix with
    | false => exact ⟨fun h' => (by rw [hu] at h'; cases h'), h.noLeak⟩
    | true =>
      show SockClean a (closeUnix k h0)
      unfold closeUnix
      by_cases hle : k.ucnt ≤ 1
      · rw [if_pos hle]; exact ⟨fun _ _ => rfl, h.noLeak⟩
      · rw [if_neg hle]
        exact ⟨fun _ he => absurd (hok.ucnt hu ▸ Nat.le_of_sub_eq_zero (hlen ▸ congrArg List.length he)) hle,
          h.noLeak⟩

theorem setSock_forall {P : Addr → Sock → Prop} {f : Addr → Sock} {a : Addr} {k : Sock}
    (hf : ∀ b, P b (f b)) (hk : P a k) (b : Addr) : P b (setSock f a k b) := by
  unfold setSock
  split
  · next e => exact e ▸ hk
  · exact hf b

theorem mem_gens_setSock_bind {f : Addr → Sock} {a b : Addr} {g g' : Gen} :
    g' ∈ (setSock f a (bindSock a (f a) g) b).gens ↔ g' ∈ (f b).gens ∨ (b = a ∧ g' = g) := by
  unfold setSock
  split
  · next e => subst e; simp only [gens_bindSock, List.mem_append, List.mem_singleton, true_and]
  · next hne => simp only [hne, false_and, or_false]

theorem forall_hs_setSock_bind {f : Addr → Sock} {a b : Addr} {g : Gen} {P : Gen → Prop}
    (h : ∀ x, x ∈ (f b).hs → P x.gen) (hg : P g) (x : Handle)
    (hx : x ∈ (setSock f a (bindSock a (f a) g) b).hs) : P x.gen := by
  rcases mem_gens_setSock_bind.mp (mem_gens hx) with hm | ⟨_, e⟩
  · obtain ⟨y, hy, e⟩ := mem_gens_iff.mp hm
    exact e ▸ h y hy
  · exact e ▸ hg

/-- `→` needs no hypothesis; `←` does: a second listener of `g` would survive the close -/
theorem mem_gens_setSock_close {f : Addr → Sock} {a b : Addr} {g g' : Gen} (hnd : (f a).gens.Nodup) :
    g' ∈ (setSock f a (closeSock a (f a) g) b).gens ↔ g' ∈ (f b).gens ∧ ¬(b = a ∧ g' = g) := by
  unfold setSock
  split
  · next e => subst e; simp only [gens_closeSock, hnd.mem_erase_iff, true_and, and_comm, ne_eq]
  · next hne => simp only [hne, false_and, not_false_eq_true, and_true]

theorem mem_of_mem_setSock_close {f : Addr → Sock} {a b : Addr} {g : Gen} {h : Handle}
    (hm : h ∈ (setSock f a (closeSock a (f a) g) b).hs) : h ∈ (f b).hs :=
  setSock_forall (P := fun b k => h ∈ k.hs → h ∈ (f b).hs) (fun _ => id)
    (fun hm => List.mem_of_mem_eraseP (closeSock_hs a (f a) g ▸ hm)) b hm

theorem holds_setSock_bind {f : Addr → Sock} {a b : Addr} {g g' : Gen} :
    (setSock f a (bindSock a (f a) g) b).holds g' = true ↔ (f b).holds g' = true ∨ (b = a ∧ g' = g) := by
  simp only [Sock.holds_iff_mem, mem_gens_setSock_bind]

theorem holds_setSock_close {f : Addr → Sock} {a b : Addr} {g g' : Gen} (hnd : (f a).gens.Nodup) :
    (setSock f a (closeSock a (f a) g) b).holds g' = true ↔ (f b).holds g' = true ∧ ¬(b = a ∧ g' = g) := by
  simp only [Sock.holds_iff_mem, mem_gens_setSock_close hnd]

theorem eq_singleton_of_nodup {α : Type} {l : List α} {g : α} (hnd : l.Nodup) (hall : ∀ x, x ∈ l → x = g)
    (hm : g ∈ l) : l = [g] := by
  have e : l = List.replicate l.length g := List.eq_replicate_iff.mpr ⟨rfl, hall⟩
  have hpos := List.length_pos_of_mem hm
  rw [e, List.nodup_replicate] at hnd
  rw [e, show l.length = 1 by omega]
  rfl

end CaddyModel.C02
