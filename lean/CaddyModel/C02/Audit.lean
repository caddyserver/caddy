import CaddyModel.C02.Props
import CaddyModel.C02.Listen
import CaddyModel.C02.Quic
open CaddyModel.C02
#print axioms current_config_holds_its_addresses
#print axioms retained_never_unbound
#print axioms retained_never_unbound_every_prefix
#print axioms retained_usage_count_positive
#print axioms pool_counts_holders
#print axioms served_by_old_or_new
#print axioms one_reload_alive_old_or_new
#print axioms connect_current_address_answered
#print axioms after_drain_only_new
#print axioms dropped_address_has_no_listener
#print axioms dropped_address_closed
#print axioms reload_meets_spec
#print axioms reload_state_meets_spec
#print axioms unix_unlink_only_at_zero
#print axioms held_unix_socket_has_file
#print axioms unix_socket_file_iff_held
#print axioms connect_never_hangs
#print axioms inflight_completed_by_acceptor
#print axioms accepted_by_a_holder
#print axioms reload_is_a_run
#print axioms reload_never_unbinds_retained
#print axioms reload_sequence_is_a_run
#print axioms admin_listener_never_unbound
#print axioms admin_retained_never_unbound
#print axioms admin_served_by_current_or_replaced
#print axioms admin_after_drain
#print axioms admin_not_rolled_back
#print axioms admin_reorder_breaks_it
#print axioms reorder_breaks_it
#print axioms dropped_address_closed_old_code_fails
#print axioms served_by_old_or_new_old_code_fails
#print axioms bookKey_ignores_permission_bits
#print axioms bookKey_is_bare_path
#print axioms usageKey_eq_bookKey_of_not_unix
#print axioms parseAddr_size_pos
#print axioms usageKey_vs_bookKey_with_permission_bits
#print axioms usage_key_expression_matches_source
#print axioms active_is_oldest_open
#print axioms quic_after_drain_only_new
#print axioms quic_refs
#print axioms latest_config_does_not_win
#print axioms retained_tcp_usage_at_least_two_at_stop
#print axioms closing_tcp_usage_is_one_at_stop
#print axioms shutdown_delay_decision_exact_for_tcp
#print axioms retained_unix_usage_is_one_at_stop
#print axioms possible_active_is_open
#print axioms possible_active_after_drain
#print axioms range_socket_key_eq_single
#print axioms inflight_completed_by_acceptor_with_live_context
#print axioms request_context_from_config_context_fails
#print axioms request_context_parents_match_source
#print axioms dropped_abstract_socket_is_refused
#print axioms dropped_abstract_socket_kept_open_fails
#print axioms plain_spelling_of_not_unix
#print axioms repeatKey_eq_bookKey_of_plain_spelling
#print axioms accepted_config_has_one_listener_per_socket_partial
#print axioms repeated_check_misses_permission_bits
#print axioms bindsStream_without_tls_iff_h1
#print axioms h3_only_entry_binds_no_stream_listener
#print axioms normLnProtos_without_placeholder
#print axioms empty_listen_protocols_entry_is_null
#print axioms listen_guard_matches_source
#print axioms repeated_listen_key_matches_source
