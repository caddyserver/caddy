/-
C02 — the HTTP app's part of the code's reload (`reloadSteps`: every close issued synchronously, callbacks in
every slot; the step list has no `adminReplace` and no `cancelCtx`, which touch neither `socks` nor the config
slots) is a run of the transition system, for every config, every running config and every schedule `π`.
This is what makes the `Reach`-quantified theorems of `Props.lean` speak about "every prefix of
`reload old new π`" and, by iteration, about every sequence of reloads.
-/
import CaddyModel.C02.Lemmas

namespace CaddyModel.C02

/-- `c` is being loaded on top of `s0`; exactly the addresses in `B` are bound so far. `cur` and `mono` are what
    the stop phase takes over: the config to stop is `s0.cur` and still has its listeners open. -/
structure LoadSt (s0 : State) (c : Cfg) (B : List Addr) (s : State) : Prop where
  reach : Reach s
  next : s.next = some c
  loading : s.loading = true
  cur : s.cur = s0.cur
  zombies : s.zombies = s0.zombies
  heldIn : ∀ a, a ∈ B → s.holds a c.gen = true
  notHeld : ∀ a, a ∉ B → s.holds a c.gen = false
  mono : ∀ a g, s0.holds a g = true → s.holds a g = true

theorem LoadSt.cbStart {s0 s : State} {c : Cfg} {B : List Addr} (h : LoadSt s0 c B s) :
    ∃ s', step? s (.cb .start c.gen) = some s' ∧ LoadSt s0 c B s' := by
  have he : enabled s (.cb .start c.gen) = true := by simp [enabled, h.loading, genOf, h.next]
  have hs : step? s (.cb .start c.gen) = some (eff s (.cb .start c.gen)) := step?_eq he
  refine ⟨_, hs, ⟨h.reach.step _ hs, h.next, ?_, h.cur, h.zombies, h.heldIn, h.notHeld, h.mono⟩⟩
  simp [eff, State.loading]

theorem LoadSt.cbProvision {s0 s : State} {c : Cfg} {B : List Addr} (h : LoadSt s0 c B s) (hp : s.phase = .prov) :
    step? s (.cb .provision c.gen) = some s :=
  step?_eq (by simp [enabled, hp, genOf, h.next])

theorem LoadSt.bind {s0 s : State} {c : Cfg} {B : List Addr} (h : LoadSt s0 c B s) {a : Addr}
    (ha : a ∈ c.addrs) (hb : a ∉ B) : ∃ s', step? s (.bind a) = some s' ∧ LoadSt s0 c (a :: B) s' := by
  have he : enabled s (.bind a) = true := bindable_iff.mpr ⟨c, h.next, h.loading, ha, h.notHeld a hb⟩
  have hs : step? s (.bind a) = some (eff s (.bind a)) := step?_eq he
  refine ⟨_, hs, h.reach.step _ hs, h.next, rfl, h.cur, h.zombies, ?_, ?_, ?_⟩
  · intro b hb'
    rcases List.mem_cons.mp hb' with e | e
    · exact (holds_eff_bind h.next).mpr (.inr ⟨e, rfl⟩)
    · exact (holds_eff_bind h.next).mpr (.inl (h.heldIn b e))
  · intro b hb'
    rw [← Bool.not_eq_true, holds_eff_bind h.next]
    rintro (hh | ⟨e, _⟩)
    · rw [h.notHeld b fun e => hb' (List.mem_cons_of_mem _ e)] at hh; cases hh
    · exact hb' (e ▸ List.mem_cons_self)
  · intro b g hg; exact (holds_eff_bind h.next).mpr (.inl (h.mono b g hg))

theorem LoadSt.binds {s0 : State} {c : Cfg} : ∀ (as : List Addr) {B : List Addr} {s : State}, LoadSt s0 c B s →
    (∀ a, a ∈ as → a ∈ c.addrs) → (∀ a, a ∈ as → a ∉ B) → as.Nodup →
    ∃ s', run s (as.map .bind) = some s' ∧ LoadSt s0 c (as.reverse ++ B) s' :=
  run_map_accum fun h ha hb => h.bind ha hb

/-- `o` is being stopped; exactly the addresses in `C` have been closed so far -/
structure StopSt (o : Cfg) (C : List Addr) (s : State) : Prop where
  reach : Reach s
  retiring : s.retiring = some o
  phase : s.phase = .stopping
  held : ∀ a, a ∈ o.addrs → a ∉ C → s.holds a o.gen = true
  closed : ∀ a, a ∈ C → s.holds a o.gen = false

theorem StopSt.cb {o : Cfg} {C : List Addr} {s : State} (h : StopSt o C s) {k : CbKind}
    (hk : k = .stopping ∨ k = .stop ∨ k = .cleanup) : step? s (.cb k o.gen) = some s := by
  have hr : isRetiring s o.gen = true := isRetiring_iff.mpr ⟨o, h.retiring, rfl⟩
  rcases hk with rfl | rfl | rfl <;> simp [step?, enabled, eff, h.phase, hr]

theorem StopSt.close {o : Cfg} {C : List Addr} {s : State} (h : StopSt o C s) {a : Addr}
    (ha : a ∈ o.addrs) (hc : a ∉ C) :
    step? s (.close o.gen a) = some (eff s (.close o.gen a)) ∧ StopSt o (a :: C) (eff s (.close o.gen a)) := by
  have he : enabled s (.close o.gen a) = true := enabled_close.mpr ⟨⟨o, h.retiring, rfl⟩, h.held a ha hc⟩
  have hs : step? s (.close o.gen a) = some (eff s (.close o.gen a)) := step?_eq he
  have hnd := h.reach.inv.nodup a
  refine ⟨hs, h.reach.step _ hs, h.retiring, h.phase, ?_, ?_⟩
  · intro b hb hb'
    exact (holds_eff_close hnd).mpr ⟨h.held b hb fun e => hb' (List.mem_cons_of_mem _ e), fun e => hb' (e.1 ▸ List.mem_cons_self)⟩
  · intro b hb
    rw [← Bool.not_eq_true, holds_eff_close hnd]
    rintro ⟨hh, hne⟩
    rcases List.mem_cons.mp hb with e | e
    · exact hne ⟨e, rfl⟩
    · rw [h.closed b e] at hh; cases hh

theorem StopSt.closes {o : Cfg} : ∀ (as : List Addr) {C : List Addr} {s : State}, StopSt o C s →
    (∀ a, a ∈ as → a ∈ o.addrs) → (∀ a, a ∈ as → a ∉ C) → as.Nodup →
    ∃ s', run s (as.map (.close o.gen)) = some s' ∧ StopSt o (as.reverse ++ C) s' :=
  run_map_accum fun h ha hc => ⟨_, h.close ha hc⟩

theorem stopSteps_run {s : State} (hr : Reach s) (hph : s.phase = .stopping) (π : Sched)
    (hheld : ∀ o, s.retiring = some o → ∀ a, a ∈ o.addrs → s.holds a o.gen = true) :
    ∃ s', run s (stopSteps s.retiring π) = some s' ∧
      (Reach s' ∧ s'.phase = .stopping ∧ s'.drained = true ∧ s'.cur = s.cur) := by
  cases hro : s.retiring with
  | none => exact ⟨s, rfl, hr, hph, drained_iff.mpr (fun r h => nomatch hro.symm.trans h), rfl⟩
  | some o =>
    have h0 : StopSt o [] s := ⟨hr, hro, hph, fun a ha _ => hheld o hro a ha, fun a ha => nomatch ha⟩
    -- `StopSt` does not say that a close leaves `cur` alone: carried beside it
    obtain ⟨s', hcl, hst, hc⟩ := run_map_accum (P := fun C s' => StopSt o C s' ∧ s'.cur = s.cur) (ok := (· ∈ o.addrs))
      (fun hp ha hc => ⟨_, (hp.1.close ha hc).1, (hp.1.close ha hc).2, hp.2⟩) o.addrs ⟨h0, rfl⟩ (fun _ h => h)
      (fun _ _ h => nomatch h) (hr.addrsNodup (.inr (.inr hro)))
    refine ⟨s', ?_, hst.reach, hst.phase, ?_, hc⟩
    · -- the callbacks before the closes leave `s` as it is, those after them `s'`
      simp only [stopSteps, run_append, run_single (h0.cb (.inl rfl)), run_replicate_self (h0.cb (.inr (.inl rfl))), hcl,
        run_replicate_self (hst.cb (.inr (.inl rfl))), run_replicate_self (hst.cb (.inr (.inr rfl))), Option.bind_some]
    · refine drained_iff.mpr fun r h a ha => ?_
      cases hst.retiring.symm.trans h
      exact hst.closed a (by simpa using ha)

theorem reloadSteps_run {s0 : State} (h0 : Reach s0) (hph : s0.phase = .idle) (hd : s0.drained = true)
    (new : Cfg) (hf : s0.fresh ≤ new.gen) (hnd : new.addrs.Nodup) (π : Sched) :
    ∃ s, run s0 (reloadSteps new s0.cur π) = some s ∧
      (Reach s ∧ s.phase = .idle ∧ s.drained = true ∧ s.cur = some new) := by
  have hi0 := h0.inv
  have hs1 : step? s0 (.begin new) = some (eff s0 (.begin new)) := step?_eq (enabled_begin.mpr ⟨hph, hd, hf, hnd⟩)
  have L1 : LoadSt s0 new [] (eff s0 (.begin new)) := by
    refine ⟨h0.step _ hs1, rfl, rfl, rfl, rfl, (fun a h => nomatch h), fun a _ => ?_, fun a g h => h⟩
    -- no listener of the new generation yet: every generation so far is below `fresh`
    exact Bool.eq_false_iff.mpr fun hh => absurd (hi0.holds_lt hh) (Nat.not_lt.mpr hf)
  have r2 := run_replicate_self (L1.cbProvision rfl) π.prov
  obtain ⟨s3, r3, L3⟩ := run_replicate (fun _ hp => LoadSt.cbStart hp) π.startBefore _ L1
  obtain ⟨s4, r4, L4⟩ := L3.binds new.addrs (fun _ h => h) (fun _ _ h => nomatch h) hnd
  obtain ⟨s5, r5, L5⟩ := run_replicate (fun _ hp => LoadSt.cbStart hp) π.startAfter s4 L4
  have hab : ∀ a, a ∈ new.addrs → s5.holds a new.gen = true := fun a ha => L5.heldIn a (by simpa using ha)
  have hs6 : step? s5 (.cb .started new.gen) = some s5 := step?_eq (by simp [enabled, L5.next, L5.loading, allBound_iff.mpr hab])
  have hs7 : step? s5 .swap = some (eff s5 .swap) := step?_eq (enabled_swap.mpr ⟨new, L5.next, L5.loading, hab⟩)
  have r67 : run s5 [.cb .started new.gen, .swap] = some (eff s5 .swap) := by simp [run, hs6, hs7]
  have hret : (eff s5 .swap).retiring = s0.cur := L5.cur
  obtain ⟨s8, r8, hr8, hp8, hd8, hc8⟩ := stopSteps_run ((L5.reach.step _ hs6).step _ hs7) rfl π fun o ho a ha =>
    L5.mono a o.gen (hi0.curHolds o (hret ▸ ho) a ha)
  rw [hret] at r8
  have hs9 : step? s8 .ret = some (eff s8 .ret) := step?_eq (enabled_ret.mpr hp8)
  refine ⟨_, ?_, hr8.step _ hs9, rfl, hd8, hc8.trans L5.next⟩
  simp only [reloadSteps, run_append, run_single hs1, r2, r3, r4, r5, r67, r8, run_single hs9, Option.bind_some]

theorem reloadSteps_head (new : Cfg) (old : Option Cfg) (π : Sched) :
    reloadSteps new old π = .begin new :: (reloadSteps new old π).drop 1 := rfl

theorem oneReload_reloadSteps_tail (new : Cfg) (old : Option Cfg) (π : Sched) :
    oneReload ((reloadSteps new old π).drop 1) = true := by
  rw [oneReload_eq_all]
  cases old <;>
    simp [reloadSteps, stopSteps, List.all_append, List.all_map, List.all_replicate, oneReload, Function.comp_def]

/-- a history of reloads: each config is loaded on top of the previous one -/
def reloadSeq : Option Cfg → List (Cfg × Sched) → List Step
  | _, [] => []
  | old, (c, π) :: rest => reloadSteps c old π ++ reloadSeq (some c) rest

def okSeq : Nat → List (Cfg × Sched) → Prop
  | _, [] => True
  | n, (c, _) :: rest => n ≤ c.gen ∧ c.addrs.Nodup ∧ okSeq (c.gen + 1) rest

theorem reloadSeq_run : ∀ (cfgs : List (Cfg × Sched)) {s0 : State}, Reach s0 → s0.phase = .idle →
    s0.drained = true → okSeq s0.fresh cfgs →
    ∃ s, run s0 (reloadSeq s0.cur cfgs) = some s ∧ (Reach s ∧ s.phase = .idle ∧ s.drained = true)
  | [], s0, h0, hp, hd, _ => ⟨s0, rfl, h0, hp, hd⟩
  | (c, π) :: rest, s0, h0, hp, hd, hok => by
    obtain ⟨hf, hnd, hok'⟩ := hok
    obtain ⟨s1, h1, hr1, hp1, hd1, hc1⟩ := reloadSteps_run h0 hp hd c hf hnd π
    have hfresh1 : s1.fresh = c.gen + 1 := by
      rw [reloadSteps_head] at h1
      obtain ⟨-, h1⟩ := run_cons h1
      exact run_fresh _ (oneReload_reloadSteps_tail c s0.cur π) h1
    obtain ⟨s2, h2, hfin⟩ := reloadSeq_run rest hr1 hp1 hd1 (hfresh1 ▸ hok')
    refine ⟨s2, ?_, hfin⟩
    simp only [reloadSeq]
    rw [run_append, h1]
    simp only [Option.bind_some]
    rw [← hc1]; exact h2

theorem keeps_reloadSteps {a : Addr} {new : Cfg} (ha : a ∈ new.addrs) (old : Option Cfg) (π : Sched) :
    keeps a (reloadSteps new old π) = true := by
  rw [reloadSteps_head, keeps_cons, keeps_of_oneReload a (oneReload_reloadSteps_tail new old π)]
  simpa [keeps] using ha

end CaddyModel.C02
