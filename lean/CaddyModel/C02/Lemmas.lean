/-
C02 — the invariant of the lifecycle machine and what every reachable state has from it: `Inv` (ownership and
ordering of config generations, counters = listener lists) with one preservation lemma for each step that writes a
slot or a socket and `Inv.frame` for the others, joined in `Inv.step` (all but `Inv.bindStale`: that step is never
enabled), `Reach.inv`, `Reach.clean`; then the facts the property theorems read: who may listen (`Reach.owner`, `Reach.owner_settled`),
who does (`Reach.cur_serves`), what a connect yields (`Reach.connect_eq`).
-/
import CaddyModel.C02.Run

namespace CaddyModel.C02

def State.owns (s : State) (g : Gen) : Prop :=
  genOf s.cur = some g ∨ genOf s.next = some g ∨ genOf s.retiring = some g ∨ g ∈ s.zombies

/-- The generation bounds (`curLt`, `nextLt`, `hLt`) are there so that `begin`, which takes a generation
    `≥ fresh`, finds no listener of the new config; `curNeNext` / `curNeRet` so that a bind by the new config and a
    close of the retiring one never touch the running config's listeners; `nextRet` because `begin` asks for
    `drained` and clears `retiring`; `owner` + `memb*` say whose every open listener is, `curHolds` who must have one. -/
structure Inv (s : State) : Prop where
  curHolds : ∀ c, s.cur = some c → ∀ a, a ∈ c.addrs → s.holds a c.gen = true
  curLt : ∀ c, s.cur = some c → c.gen < s.fresh
  nextLt : ∀ c, s.next = some c → c.gen < s.fresh
  hLt : ∀ a h, h ∈ (s.socks a).hs → h.gen < s.fresh
  curNeNext : ∀ c n, s.cur = some c → s.next = some n → c.gen ≠ n.gen
  curNeRet : ∀ c r, s.cur = some c → s.retiring = some r → c.gen ≠ r.gen
  nextRet : ∀ n, s.next = some n → s.retiring = none
  idleNext : s.phase = .idle → s.next = none
  stoppingNext : s.phase = .stopping → s.next = none
  owner : ∀ a h, h ∈ (s.socks a).hs → s.owns h.gen
  membCur : ∀ c a, s.cur = some c → s.holds a c.gen = true → a ∈ c.addrs
  membNext : ∀ c a, s.next = some c → s.holds a c.gen = true → a ∈ c.addrs
  membRet : ∀ c a, s.retiring = some c → s.holds a c.gen = true → a ∈ c.addrs
  nodup : ∀ a, ((s.socks a).hs.map Handle.gen).Nodup
  books : ∀ a, SockOk a (s.socks a)

theorem Inv.init : Inv init := by
  constructor
  case idleNext | stoppingNext => intro _; rfl
  case nodup => exact fun _ => List.nodup_nil
  case books => exact SockOk.empty
  case curHolds | curLt | nextLt | nextRet => intro _ h; cases h
  all_goals intro _ _ h; cases h

theorem Inv.holds_lt {s : State} (hi : Inv s) {a : Addr} {g : Gen} (h : s.holds a g = true) : g < s.fresh := by
  obtain ⟨x, hx, rfl⟩ := mem_gens_iff.mp (State.holds_iff.mp h)
  exact hi.hLt a x hx

/-- a handle owned only by a drained retiring config cannot exist -/
theorem Inv.owns_after_drop {s : State} (hi : Inv s) (hd : s.drained = true) (hn : s.next = none)
    {a : Addr} {h : Handle} (hm : h ∈ (s.socks a).hs) :
    genOf s.cur = some h.gen ∨ h.gen ∈ s.zombies := by
  rcases hi.owner a h hm with ho | ho | ho | ho
  · exact Or.inl ho
  · simp [hn, genOf] at ho
  · obtain ⟨r, hr, e⟩ := Option.map_eq_some_iff.mp ho
    have h1 : s.holds a r.gen = true := e ▸ State.holds_iff.mpr (mem_gens hm)
    have h2 := drained_iff.mp hd r hr a (hi.membRet r a hr h1)
    rw [h1] at h2; cases h2
  · exact Or.inr ho

theorem Inv.begin {s : State} (hi : Inv s) {c : Cfg} (he : enabled s (.begin c) = true) : Inv (eff s (.begin c)) := by
  obtain ⟨hph, hd, hf, _⟩ := enabled_begin.mp he
  have hn := hi.idleNext hph
  have hlt : ∀ {n}, n < s.fresh → n < c.gen := fun h => Nat.lt_of_lt_of_le h hf
  simp only [eff]
  refine ⟨hi.curHolds, ?curLt, ?nextLt, ?hLt, ?curNeNext, ?curNeRet, ?nextRet, ?idleNext, ?stoppingNext, ?owner,
    hi.membCur, ?membNext, ?membRet, hi.nodup, hi.books⟩ <;> dsimp only
  case curNeRet | idleNext | stoppingNext | membRet => intros; contradiction
  case nextRet => intro _ _; rfl
  case curLt => intro c0 h0; exact Nat.lt_succ_of_lt (hlt (hi.curLt c0 h0))
  case nextLt => intro c' h'; cases h'; exact Nat.lt_succ_self _
  case hLt => intro a h hm; exact Nat.lt_succ_of_lt (hlt (hi.hLt a h hm))
  case curNeNext => intro c0 n h0 h'; cases h'; exact Nat.ne_of_lt (hlt (hi.curLt c0 h0))
  case owner =>
    intro a h hm
    rcases hi.owns_after_drop hd hn hm with ho | ho
    · exact .inl ho
    · exact .inr (.inr (.inr ho))
  case membNext =>
    intro c' a h' hh; cases h'
    exact absurd (hlt (hi.holds_lt hh)) (Nat.lt_irrefl _)

theorem Inv.bind {s : State} (hi : Inv s) {a : Addr} (hb : bindable s a = true) : Inv (eff s (.bind a)) := by
  obtain ⟨c, hc, _, hac, hnh⟩ := bindable_iff.mp hb
  have hholds := fun b g => holds_eff_bind hc (a := a) (b := b) (g := g)
  simp only [eff, nextGen_eq hc] at hholds ⊢
  refine ⟨?curHolds, hi.curLt, hi.nextLt, ?hLt, hi.curNeNext, hi.curNeRet, hi.nextRet, ?idleNext, ?stoppingNext, ?owner,
    ?membCur, ?membNext, ?membRet, ?nodup, ?books⟩ <;> dsimp only
  case idleNext | stoppingNext => intros; contradiction
  case curHolds => intro c0 h0 b hb0; exact (hholds b _).mpr (.inl (hi.curHolds c0 h0 b hb0))
  -- who listens on `b` now listened before, or is the new config
  case hLt => intro b; exact forall_hs_setSock_bind (P := (· < s.fresh)) (hi.hLt b) (hi.nextLt c hc)
  case owner =>
    intro b
    exact forall_hs_setSock_bind (P := s.owns) (hi.owner b) (.inr (.inl (by rw [hc]; rfl)))
  case membCur =>
    intro c0 b h0 hh
    rcases (hholds b _).mp hh with hh | ⟨_, e⟩
    · exact hi.membCur c0 b h0 hh
    · exact absurd e (hi.curNeNext c0 c h0 hc)
  case membNext =>
    intro c' b h' hh
    rw [hc] at h'; cases h'
    rcases (hholds b _).mp hh with hh | ⟨e, _⟩
    · exact hi.membNext c b hc hh
    · exact e ▸ hac
  case membRet => intro r b hr; rw [hi.nextRet c hc] at hr; cases hr
  case nodup =>
    exact setSock_forall (P := fun _ k => k.gens.Nodup) hi.nodup (nodup_gens_bind (hi.nodup a) hnh)
  case books => exact setSock_forall hi.books ((hi.books a).bind c.gen)

theorem Inv.bindStale {s : State} (hi : Inv s) {a : Addr} (hb : bindable s a = true) : Inv (eff s (.bindStale a)) := by
  obtain ⟨c, hc, _⟩ := bindable_iff.mp hb
  simp only [eff, nextGen_eq hc]
  refine ⟨hi.curHolds, hi.curLt, ?nextLt, hi.hLt, ?curNeNext, ?curNeRet, ?nextRet, ?idleNext, ?stoppingNext, ?owner,
    hi.membCur, ?membNext, ?membRet, hi.nodup, hi.books⟩ <;> dsimp only
  case nextLt | curNeNext | curNeRet | nextRet | idleNext | membNext | membRet => intros; contradiction
  case stoppingNext => intro _; rfl
  case owner =>
    intro b h hm
    rcases hi.owner b h hm with ho | ho | ho | ho
    · exact .inl ho
    · refine .inr (.inr (.inr ?_))
      simp [genOf, hc] at ho; simp [ho]
    · rw [hi.nextRet c hc] at ho; cases ho
    · exact .inr (.inr (.inr (List.mem_cons_of_mem _ ho)))

theorem Inv.swap {s : State} (hi : Inv s) (he : enabled s .swap = true) : Inv (eff s .swap) := by
  obtain ⟨c, hc, _, hab⟩ := enabled_swap.mp he
  simp only [eff, hc]
  refine ⟨?curHolds, ?curLt, ?nextLt, hi.hLt, ?curNeNext, ?curNeRet, ?nextRet, ?idleNext, ?stoppingNext, ?owner,
    ?membCur, ?membNext, hi.membCur, hi.nodup, hi.books⟩ <;> dsimp only
  case nextLt | curNeNext | nextRet | idleNext | membNext => intros; contradiction
  case stoppingNext => intro _; rfl
  case curHolds => intro c' h' a ha; cases h'; exact hab a ha
  case curLt => intro c' h'; cases h'; exact hi.nextLt c hc
  case curNeRet => intro c' r h' hr; cases h'; exact (hi.curNeNext r c hr hc).symm
  case membCur => intro c' b h' hh; cases h'; exact hi.membNext c b hc hh
  case owner =>
    intro b h hm
    rcases hi.owner b h hm with ho | ho | ho | ho
    · exact .inr (.inr (.inl ho))
    · exact .inl (by simpa [hc] using ho)
    · rw [hi.nextRet c hc] at ho; cases ho
    · exact .inr (.inr (.inr ho))

theorem Inv.reject {s : State} (hi : Inv s) (he : enabled s .reject = true) : Inv (eff s .reject) := by
  obtain ⟨_, c, hc⟩ := enabled_reject.mp he
  simp only [eff, hc]
  refine ⟨hi.curHolds, hi.curLt, ?nextLt, hi.hLt, ?curNeNext, ?curNeRet, ?nextRet, ?idleNext, ?stoppingNext, ?owner,
    hi.membCur, ?membNext, ?membRet, hi.nodup, hi.books⟩ <;> dsimp only
  case nextLt | curNeNext | nextRet | idleNext | membNext => intros; contradiction
  case stoppingNext => intro _; rfl
  case curNeRet => intro c' r h' hr; cases hr; exact hi.curNeNext c' c h' hc
  case membRet => intro c' b h' hh; cases h'; exact hi.membNext c b hc hh
  case owner =>
    intro b h hm
    rcases hi.owner b h hm with ho | ho | ho | ho
    · exact .inl ho
    · exact .inr (.inr (.inl (by simpa [hc] using ho)))
    · rw [hi.nextRet c hc] at ho; cases ho
    · exact .inr (.inr (.inr ho))

theorem Inv.close {s : State} (hi : Inv s) {r : Cfg} (hr : s.retiring = some r) {g : Gen} (hrg : r.gen = g) (a : Addr) :
    Inv (eff s (.close g a)) := by
  simp only [eff]
  refine ⟨?curHolds, hi.curLt, hi.nextLt, ?hLt, hi.curNeNext, hi.curNeRet, hi.nextRet, hi.idleNext, hi.stoppingNext,
    ?owner, ?membCur, ?membNext, ?membRet, ?nodup, ?books⟩ <;> dsimp only
  case curHolds =>
    intro c0 h0 b hb0
    exact (holds_eff_close (hi.nodup a)).mpr ⟨hi.curHolds c0 h0 b hb0, fun e => hi.curNeRet c0 r h0 hr (e.2.trans hrg.symm)⟩
  case hLt => intro b h hm; exact hi.hLt b h (mem_of_mem_setSock_close hm)
  case owner => intro b h hm; exact hi.owner b h (mem_of_mem_setSock_close hm)
  case membCur => intro c0 b h0 hh; exact hi.membCur c0 b h0 ((holds_eff_close (hi.nodup a)).mp hh).1
  case membNext => intro c0 b h0 hh; exact hi.membNext c0 b h0 ((holds_eff_close (hi.nodup a)).mp hh).1
  case membRet => intro c0 b h0 hh; exact hi.membRet c0 b h0 ((holds_eff_close (hi.nodup a)).mp hh).1
  case nodup =>
    exact setSock_forall (P := fun _ k => k.gens.Nodup) hi.nodup (nodup_gens_close (hi.nodup a))
  case books => exact setSock_forall hi.books ((hi.books a).close g)

theorem Inv.stopAll {s : State} (hi : Inv s) (he : enabled s .stopAll = true) : Inv (eff s .stopAll) := by
  obtain ⟨hph, hd⟩ := enabled_stopAll.mp he
  have hn := hi.idleNext hph
  simp only [eff]
  refine ⟨?curHolds, ?curLt, hi.nextLt, hi.hLt, ?curNeNext, ?curNeRet, ?nextRet, ?idleNext, ?stoppingNext, ?owner,
    ?membCur, hi.membNext, hi.membCur, hi.nodup, hi.books⟩ <;> dsimp only
  case curHolds | curLt | curNeNext | curNeRet | idleNext | membCur => intros; contradiction
  case nextRet => intro n h'; rw [hn] at h'; cases h'
  case stoppingNext => intro _; exact hn
  case owner =>
    intro b h hm
    rcases hi.owns_after_drop hd hn hm with ho | ho
    · exact .inr (.inr (.inl ho))
    · exact .inr (.inr (.inr ho))

theorem Inv.frame {s s' : State} (hi : Inv s)
    (hcur : s'.cur = s.cur) (hnext : s'.next = s.next) (hret : s'.retiring = s.retiring)
    (hz : s'.zombies = s.zombies) (hf : s'.fresh = s.fresh)
    (hhs : ∀ a, (s'.socks a).hs = (s.socks a).hs)
    (hidle : s'.phase = .idle → s'.next = none) (hstop : s'.phase = .stopping → s'.next = none)
    (hb : ∀ a, SockOk a (s'.socks a)) : Inv s' := by
  have hh : ∀ a g, s'.holds a g = s.holds a g := by
    intro a g; simp [State.holds, Sock.holds, hhs a]
  refine ⟨?curHolds, ?curLt, ?nextLt, ?hLt, ?curNeNext, ?curNeRet, ?nextRet, hidle, hstop, ?owner,
    ?membCur, ?membNext, ?membRet, ?nodup, hb⟩
  case curHolds => intro c h a ha; rw [hh]; exact hi.curHolds c (hcur ▸ h) a ha
  case curLt => intro c h; rw [hf]; exact hi.curLt c (hcur ▸ h)
  case nextLt => intro c h; rw [hf]; exact hi.nextLt c (hnext ▸ h)
  case hLt => intro a h hm; rw [hf]; exact hi.hLt a h (hhs a ▸ hm)
  case curNeNext => intro c n h1 h2; exact hi.curNeNext c n (hcur ▸ h1) (hnext ▸ h2)
  case curNeRet => intro c r h1 h2; exact hi.curNeRet c r (hcur ▸ h1) (hret ▸ h2)
  case nextRet => intro n h; rw [hret]; exact hi.nextRet n (hnext ▸ h)
  case owner =>
    intro a h hm
    have := hi.owner a h (hhs a ▸ hm)
    unfold State.owns at this ⊢
    rw [hcur, hnext, hret, hz]; exact this
  case membCur => intro c a h hx; rw [hh] at hx; exact hi.membCur c a (hcur ▸ h) hx
  case membNext => intro c a h hx; rw [hh] at hx; exact hi.membNext c a (hnext ▸ h) hx
  case membRet => intro c a h hx; rw [hh] at hx; exact hi.membRet c a (hret ▸ h) hx
  case nodup => intro a; rw [hhs a]; exact hi.nodup a

theorem Inv.step {s s' : State} {st : Step} (hi : Inv s) (h : step? s st = some s') : Inv s' := by
  obtain ⟨he, rfl⟩ := step?_some h
  fun_cases eff s st
  case case1 c => exact hi.begin he
  case case2 g =>  -- cb start
    exact hi.frame rfl rfl rfl rfl rfl (fun _ => rfl) (fun h' => by cases h') (fun h' => by cases h') hi.books
  case case3 k g _ => exact hi  -- the other callbacks
  case case4 a => exact hi.bind he
  case case5 a => cases he  -- bindStale
  case case6 => exact hi.swap he
  case case7 => exact hi.reject he
  case case8 g a =>  -- close
    obtain ⟨⟨r, hr, hrg⟩, _⟩ := enabled_close.mp he
    exact hi.close hr hrg a
  case case9 =>  -- ret
    exact hi.frame rfl rfl rfl rfl rfl (fun _ => rfl) (fun _ => hi.stoppingNext (enabled_ret.mp he)) (fun h' => by cases h')
      hi.books
  case case10 => exact hi.stopAll he
  case case11 a =>  -- gc
    exact hi.frame rfl rfl rfl rfl rfl
      (setSock_forall (P := fun b k => k.hs = (s.socks b).hs) (fun _ => rfl) rfl) hi.idleNext hi.stoppingNext
      (setSock_forall hi.books (hi.books a).gc)
  -- the client steps, the admin endpoint and the context cancellation touch nothing `Inv` speaks of
  all_goals exact hi.frame rfl rfl rfl rfl rfl (fun _ => rfl) hi.idleNext hi.stoppingNext hi.books

theorem Reach.inv {s : State} (h : Reach s) : Inv s := by
  induction h with
  | init => exact Inv.init
  | step st _ hs ih => exact ih.step hs

theorem Reach.clean {s : State} (h : Reach s) : ∀ a, SockClean a (s.socks a) := by
  induction h with
  | init => exact SockClean.empty
  | step st hr hs ih =>
    obtain ⟨-, rfl⟩ := step?_some hs
    fun_cases eff _ st
    case case4 a => exact setSock_forall ih ((ih a).bind _)  -- bind
    case case8 g a => exact setSock_forall ih ((ih a).close (hr.inv.books a) g)  -- close
    case case11 a => exact setSock_forall ih ⟨(ih a).fileGone, rfl⟩  -- gc
    all_goals exact ih

theorem Reach.noZombies {s : State} (h : Reach s) : s.zombies = [] := by
  induction h with
  | init => rfl
  | step st _ hs ih =>
    obtain ⟨he, rfl⟩ := step?_some hs
    fun_cases eff _ st
    case case5 a => cases he  -- bindStale
    all_goals exact ih

/-- by the guard of `begin` -/
theorem Reach.addrsNodup {s : State} (h : Reach s) {c : Cfg}
    (hc : s.cur = some c ∨ s.next = some c ∨ s.retiring = some c) : c.addrs.Nodup := by
  induction h generalizing c with
  | init => rcases hc with hc | hc | hc <;> cases hc
  | step st _ hs ih =>
    rcases slot_of_step hs hc with hc | ⟨_, hnd⟩
    · exact ih hc
    · exact hnd

theorem Reach.connect_eq {s : State} (h : Reach s) (a : Addr) :
    connect s a = if (s.socks a).hs ≠ [] then (s.socks a).gens.map Conn.answered
      else if a.unix && !a.abstract then [.noent] else [.refused] := by
  unfold connect
  by_cases hne : (s.socks a).hs ≠ []
  · rw [if_pos hne, if_pos hne]
  · rw [if_neg hne, if_neg hne]
    cases hu : a.unix
    · rfl
    · rw [(h.clean a).fileGone hu (Decidable.not_not.mp hne)]
      cases a.abstract <;> rfl

theorem Reach.owner {s : State} (h : Reach s) {a : Addr} {g : Gen} (hg : g ∈ servers s a) :
    ∃ c, (s.cur = some c ∨ s.next = some c ∨ s.retiring = some c) ∧ c.gen = g ∧ a ∈ c.addrs := by
  have hi := h.inv
  have hh : s.holds a g = true := State.holds_iff.mpr hg
  obtain ⟨x, hx, rfl⟩ := mem_gens_iff.mp hg
  rcases hi.owner a x hx with ho | ho | ho | ho
  · obtain ⟨c, hc, e⟩ := Option.map_eq_some_iff.mp ho
    exact ⟨c, .inl hc, e, hi.membCur c a hc (e ▸ hh)⟩
  · obtain ⟨c, hc, e⟩ := Option.map_eq_some_iff.mp ho
    exact ⟨c, .inr (.inl hc), e, hi.membNext c a hc (e ▸ hh)⟩
  · obtain ⟨c, hc, e⟩ := Option.map_eq_some_iff.mp ho
    exact ⟨c, .inr (.inr hc), e, hi.membRet c a hc (e ▸ hh)⟩
  · rw [h.noZombies] at ho; cases ho

theorem Reach.owner_settled {s : State} (h : Reach s) (hs : settled s) {a : Addr} {g : Gen}
    (hg : g ∈ servers s a) : ∃ c, s.cur = some c ∧ c.gen = g ∧ a ∈ c.addrs := by
  obtain ⟨c, hc | hc | hc, e, ha⟩ := h.owner hg
  · exact ⟨c, hc, e, ha⟩
  · rw [h.inv.idleNext hs.1] at hc; cases hc
  · have hh := State.holds_iff.mpr hg
    rw [← e, drained_iff.mp hs.2 c hc a ha] at hh; cases hh

theorem Reach.cur_serves {s : State} (h : Reach s) {c : Cfg} (hc : s.cur = some c) {a : Addr} (ha : a ∈ c.addrs) :
    c.gen ∈ servers s a :=
  State.holds_iff.mp (h.inv.curHolds c hc a ha)

theorem Reach.hs_nil_of_dropped {s : State} (h : Reach s) (hs : settled s)
    {a : Addr} (ha : ∀ c, s.cur = some c → a ∉ c.addrs) : (s.socks a).hs = [] :=
  List.eq_nil_iff_forall_not_mem.mpr fun x hx => by
    obtain ⟨c, hc, _, hac⟩ := h.owner_settled hs (mem_gens hx)
    exact ha c hc hac

theorem Reach.ctxKept {s : State} (h : Reach s) : s.ctxLost = [] := by
  induction h with
  | init => rfl
  | step st _ hs ih =>
    obtain ⟨-, rfl⟩ := step?_some hs
    fun_cases eff _ st
    case case16 g => simpa [lostByCancel] using ih  -- cancelCtx
    all_goals exact ih

end CaddyModel.C02
