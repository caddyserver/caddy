/-
C02 — the admin endpoint as a second client of the listener bookkeeping: the invariant `AInv` of
`adminReplace` / `adminClose` (new listener first, old server shut down afterwards, asynchronously); the run
condition `keepsAdmin` (`keepsAdmin_run`).
-/
import CaddyModel.C02.Run

namespace CaddyModel.C02

structure AInv (s : State) : Prop where
  holds : ∀ g a, s.adm = some (g, a) → g ∈ (s.asocks a).gens
  -- so that `adminClose g a`, which closes the listener of generation `g`, never hits the running server's
  retOlder : ∀ g a, (g, a) ∈ s.admRetired → ∀ g' a', s.adm = some (g', a') → g < g'
  owner : ∀ a g, g ∈ (s.asocks a).gens → s.adm = some (g, a) ∨ (g, a) ∈ s.admRetired
  nodup : ∀ a, (s.asocks a).gens.Nodup
  books : ∀ a, SockOk a (s.asocks a)
  clean : ∀ a, SockClean a (s.asocks a)

theorem AInv.init : AInv init := by
  refine ⟨?_, ?_, ?_, fun _ => List.nodup_nil, SockOk.empty, SockClean.empty⟩
  all_goals intro _ _ h; cases h

theorem admGenOk_lt {s : State} {g : Gen} (h : admGenOk s g = true) {p : Gen × Addr}
    (hp : p ∈ s.adm.toList ++ s.admRetired) : p.1 < g := by
  unfold admGenOk at h
  rw [Bool.and_eq_true, List.all_eq_true] at h
  rcases List.mem_append.mp hp with hp | hp
  · rw [Option.mem_toList.mp hp] at h
    exact of_decide_eq_true h.1
  · exact of_decide_eq_true (h.2 p hp)

theorem AInv.of_eq {s s' : State} (hi : AInv s) (h1 : s'.asocks = s.asocks) (h2 : s'.adm = s.adm)
    (h3 : s'.admRetired = s.admRetired) : AInv s' :=
  ⟨by rw [h1, h2]; exact hi.holds, by rw [h2, h3]; exact hi.retOlder, by rw [h1, h2, h3]; exact hi.owner,
    by rw [h1]; exact hi.nodup, by rw [h1]; exact hi.books, by rw [h1]; exact hi.clean⟩

/-- whoever has a listener open is, once the running server is retired, among the retired ones -/
theorem AInv.owner_retired {s : State} (hi : AInv s) {b : Addr} {g : Gen} (hm : g ∈ (s.asocks b).gens) :
    (g, b) ∈ s.adm.toList ++ s.admRetired := by
  rcases hi.owner b g hm with ho | ho
  · exact List.mem_append_left _ (Option.mem_toList.mpr ho)
  · exact List.mem_append_right _ ho

theorem AInv.replaceSome {s : State} (hi : AInv s) {g : Gen} {a : Addr}
    (hok : admGenOk s g = true) (hnh : (s.asocks a).holds g = false) :
    AInv (eff s (.adminReplace g (some a))) := by
  simp only [eff, asocksAfter, admAfter]
  refine ⟨?holds, ?retOlder, ?owner, ?nodup, ?books, ?clean⟩ <;> dsimp only
  case holds => intro g' a' h'; cases h'; exact mem_gens_setSock_bind.mpr (.inr ⟨rfl, rfl⟩)
  case retOlder => intro g1 a1 hm g' a' h'; cases h'; exact admGenOk_lt hok hm
  case owner =>
    intro b g' hm
    rcases mem_gens_setSock_bind.mp hm with hm | ⟨rfl, rfl⟩
    · exact .inr (hi.owner_retired hm)
    · exact .inl rfl
  case nodup => exact setSock_forall (P := fun _ k => k.gens.Nodup) hi.nodup (nodup_gens_bind (hi.nodup a) hnh)
  case books => exact setSock_forall hi.books ((hi.books a).bind g)
  case clean => exact setSock_forall hi.clean ((hi.clean a).bind g)

theorem AInv.replaceNone {s : State} (hi : AInv s) {g : Gen} : AInv (eff s (.adminReplace g none)) := by
  simp only [eff, asocksAfter, admAfter]
  refine ⟨?holds, ?retOlder, fun b g' hm => .inr (hi.owner_retired hm), hi.nodup, hi.books, hi.clean⟩ <;> dsimp only
  case holds | retOlder => intros; contradiction

theorem AInv.close {s : State} (hi : AInv s) {g : Gen} {a : Addr} (hm : (g, a) ∈ s.admRetired) :
    AInv (eff s (.adminClose g a)) := by
  simp only [eff]
  have hg : ∀ {b g'}, g' ∈ (setSock s.asocks a (closeSock a (s.asocks a) g) b).gens ↔
      g' ∈ (s.asocks b).gens ∧ ¬(b = a ∧ g' = g) := mem_gens_setSock_close (hi.nodup a)
  refine ⟨?holds, ?retOlder, ?owner, ?nodup, ?books, ?clean⟩ <;> dsimp only
  case holds =>
    intro g' a' h'
    exact hg.mpr ⟨hi.holds g' a' h', fun e => Nat.ne_of_gt (hi.retOlder g a hm g' a' h') e.2⟩
  case retOlder => intro g1 a1 h1 g' a' h'; exact hi.retOlder g1 a1 (List.mem_of_mem_erase h1) g' a' h'
  case owner =>
    intro b g' hmem
    obtain ⟨hm', hne⟩ := hg.mp hmem
    exact (hi.owner b g' hm').imp_right fun ho =>
      (List.mem_erase_of_ne fun e => hne (by cases e; exact ⟨rfl, rfl⟩)).mpr ho
  case nodup => exact setSock_forall (P := fun _ k => k.gens.Nodup) hi.nodup (nodup_gens_close (hi.nodup a))
  case books => exact setSock_forall hi.books ((hi.books a).close g)
  case clean => exact setSock_forall hi.clean ((hi.clean a).close (hi.books a) g)

theorem AInv.step {s s' : State} {st : Step} (hi : AInv s) (h : step? s st = some s') : AInv s' := by
  obtain ⟨he, rfl⟩ := step?_some h
  fun_cases eff s st
  case case14 g a =>  -- adminReplace
    simp only [enabled, Bool.and_eq_true] at he
    cases a with
    | none => exact hi.replaceNone
    | some a => exact hi.replaceSome he.1.2 (by simpa using he.2)
  case case15 g a => exact hi.close (by simpa [enabled] using he)  -- adminClose
  -- no other step touches the admin endpoint: not a rejected load, not caddy.Stop
  all_goals exact hi.of_eq rfl rfl rfl

theorem Reach.ainv {s : State} (h : Reach s) : AInv s := by
  induction h with
  | init => exact AInv.init
  | step st _ hs ih => exact ih.step hs

/-- every admin server this run starts listens on `a` (and none is disabled) -/
def keepsAdmin (a : Addr) : List Step → Bool
  | [] => true
  | .adminReplace _ b :: rest => b == some a && keepsAdmin a rest
  | _ :: rest => keepsAdmin a rest

theorem keepsAdmin_cons (a : Addr) (st : Step) (rest : List Step) :
    keepsAdmin a (st :: rest) = (keepsAdmin a [st] && keepsAdmin a rest) := by
  cases st with
  | adminReplace g b => simp only [keepsAdmin, Bool.and_true]
  | _ => rfl

theorem keepsAdmin_run {a : Addr} (steps : List Step) {s s' : State} (hq : ∃ g, s.adm = some (g, a))
    (hk : keepsAdmin a steps = true) (hr : run s steps = some s') : ∃ g, s'.adm = some (g, a) := by
  refine run_invariant (Q := fun s => ∃ g, s.adm = some (g, a)) (ok := fun st => keepsAdmin a [st]) ?_ steps hq
    ((eq_all_of_cons rfl (keepsAdmin_cons a) steps).symm.trans hk) hr
  intro s s' st hq hk hs
  obtain ⟨-, rfl⟩ := step?_some hs
  fun_cases eff s st
  case case14 g b =>  -- adminReplace
    simp only [keepsAdmin, Bool.and_true, beq_iff_eq] at hk
    exact ⟨g, by rw [hk]; rfl⟩
  all_goals exact hq

end CaddyModel.C02
