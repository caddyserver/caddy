/-
C02 — runs of the machine (`step?`, `run` of Model.lean) without any invariant: `Reach`, the induction for a state predicate
under a per-step test (`run_invariant`), building a run piece by piece; who listens, read on the state, and what a
bind / a close does to it (`holds_eff_bind`, `holds_eff_close`); what a guard says; what a step does to the three config slots (`step_slots`); the conditions on runs (`keeps`, `oneReload`)
as `List.all` of a test per step, with what they keep along a run (`KeepInv.run`, `run_fresh`); conservation of
requests (`tokens_run`).

The proofs that go through every step do so by `fun_cases eff s st`, whose cases are numbered by the arms of
`eff` (Model.lean) in their order: 1 begin, 2 cb start, 3 the other callbacks, 4 bind, 5 bindStale, 6 swap,
7 reject, 8 close, 9 ret, 10 stopAll, 11 gc, 12 accept, 13 complete, 14 adminReplace, 15 adminClose,
16 cancelCtx. A new arm renumbers those after it; each site names the step (trailing comment, or the lemma it calls).
-/
import CaddyModel.C02.Sock
import CaddyModel.C02.Spec

namespace CaddyModel.C02

theorem step?_some {s s' : State} {st : Step} (h : step? s st = some s') : enabled s st = true ∧ s' = eff s st :=
  (Option.ite_none_right_eq_some.mp h).imp_right fun e => (Option.some.inj e).symm

theorem step?_eq {s : State} {st : Step} (he : enabled s st = true) : step? s st = some (eff s st) :=
  if_pos he

inductive Reach : State → Prop where
  | init : Reach init
  | step {s s' : State} (st : Step) : Reach s → step? s st = some s' → Reach s'

/-- The conditions on runs (`keeps`, `oneReload`, `keepsAdmin`) are such
    tests `ok`: `keeps_eq_all`, `oneReload_eq_all`. -/
theorem run_invariant {Q : State → Prop} {ok : Step → Bool}
    (hstep : ∀ {s s' : State} {st : Step}, Q s → ok st = true → step? s st = some s' → Q s')
    (steps : List Step) {s s' : State} (hq : Q s) (ha : steps.all ok = true) (hr : run s steps = some s') :
    Q s' := by
  fun_induction run s steps
  case case1 s => cases hr; exact hq
  case case2 s st rest s1 hs1 ih =>
    rw [List.all_cons, Bool.and_eq_true] at ha
    exact ih (hstep hq ha.1 hs1) ha.2 hr
  case case3 => cases hr

theorem Reach.run {s s' : State} (h : Reach s) (steps : List Step) (hr : run s steps = some s') :
    Reach s' :=
  run_invariant (ok := fun _ => true) (fun hq _ hs => Reach.step _ hq hs) steps h
    (List.all_eq_true.mpr fun _ _ => rfl) hr

theorem run_cons {s s' : State} {st : Step} {rest : List Step} (h : run s (st :: rest) = some s') :
    enabled s st = true ∧ run (eff s st) rest = some s' := by
  by_cases he : enabled s st = true
  · rw [run, step?_eq he] at h; exact ⟨he, h⟩
  · rw [run, step?, if_neg he] at h; cases h

theorem run_append (s : State) (xs ys : List Step) :
    run s (xs ++ ys) = (run s xs).bind (fun s' => run s' ys) := by
  induction xs generalizing s with
  | nil => rfl
  | cons x xs ih =>
    simp only [List.cons_append, run]
    cases step? s x with
    | none => rfl
    | some s1 => exact ih s1

theorem run_prefix {s s' : State} {xs ys : List Step} (h : run s (xs ++ ys) = some s') :
    ∃ s1, run s xs = some s1 ∧ run s1 ys = some s' := by
  rw [run_append] at h
  exact Option.bind_eq_some_iff.mp h

theorem run_single {s s' : State} {st : Step} (h : step? s st = some s') : run s [st] = some s' := by
  simp [run, h]

theorem run_replicate_self {s : State} {st : Step} (h : step? s st = some s) :
    ∀ n, run s (List.replicate n st) = some s
  | 0 => rfl
  | n + 1 => by rw [List.replicate_succ, run, h]; exact run_replicate_self h n

theorem run_replicate {P : State → Prop} {st : Step}
    (hstep : ∀ s, P s → ∃ s', step? s st = some s' ∧ P s') :
    ∀ (n : Nat) (s : State), P s → ∃ s', run s (List.replicate n st) = some s' ∧ P s'
  | 0, s, hp => ⟨s, rfl, hp⟩
  | n + 1, s, hp => by
    obtain ⟨s1, h1, hp1⟩ := hstep s hp
    obtain ⟨s2, h2, hp2⟩ := run_replicate hstep n s1 hp1
    exact ⟨s2, by simp [List.replicate_succ, run, h1, h2], hp2⟩

/-- `P B` says which addresses are done -/
theorem run_map_accum {P : List Addr → State → Prop} {f : Addr → Step} {ok : Addr → Prop}
    (hstep : ∀ {B : List Addr} {s : State} {a : Addr}, P B s → ok a → a ∉ B →
      ∃ s', step? s (f a) = some s' ∧ P (a :: B) s') :
    ∀ (as : List Addr) {B : List Addr} {s : State}, P B s → (∀ a, a ∈ as → ok a) → (∀ a, a ∈ as → a ∉ B) →
      as.Nodup → ∃ s', run s (as.map f) = some s' ∧ P (as.reverse ++ B) s'
  | [], B, s, h, _, _, _ => ⟨s, rfl, by simpa using h⟩
  | a :: rest, B, s, h, hin, hnb, hnd => by
    rw [List.nodup_cons] at hnd
    obtain ⟨s1, h1, hl1⟩ := hstep h (hin a List.mem_cons_self) (hnb a List.mem_cons_self)
    obtain ⟨s2, h2, hl2⟩ := run_map_accum hstep rest hl1 (fun b hb => hin b (List.mem_cons_of_mem _ hb))
      (fun b hb hm => by
        rcases List.mem_cons.mp hm with e | e
        · exact hnd.1 (e ▸ hb)
        · exact hnb b (List.mem_cons_of_mem _ hb) e) hnd.2
    refine ⟨s2, by simp [run, h1, h2], ?_⟩
    simpa [List.reverse_cons, List.append_assoc] using hl2

/-! Who listens on `a`: `State.holds`, `State.holders` and `servers` all read the list `(s.socks a).hs`. -/

theorem State.holds_iff {s : State} {a : Addr} {g : Gen} : s.holds a g = true ↔ g ∈ servers s a :=
  Sock.holds_iff_mem

theorem State.holders_pos {s : State} {a : Addr} : 1 ≤ s.holders a ↔ (s.socks a).hs ≠ [] := List.length_pos_iff

theorem State.holders_eq_zero {s : State} {a : Addr} : s.holders a = 0 ↔ (s.socks a).hs = [] :=
  List.length_eq_zero_iff

theorem nextGen_eq {s : State} {c : Cfg} (h : s.next = some c) : nextGen s = c.gen := by
  rw [nextGen, h]

theorem holds_eff_bind {s : State} {c : Cfg} (hc : s.next = some c) {a b : Addr} {g : Gen} :
    (eff s (.bind a)).holds b g = true ↔ s.holds b g = true ∨ (b = a ∧ g = c.gen) :=
  nextGen_eq hc ▸ holds_setSock_bind

theorem holds_eff_close {s : State} {a b : Addr} {g g' : Gen} (hnd : (s.socks a).gens.Nodup) :
    (eff s (.close g a)).holds b g' = true ↔ s.holds b g' = true ∧ ¬(b = a ∧ g' = g) :=
  holds_setSock_close hnd

/-! The guards as propositions. The invariants read them left to right, the proofs that a step list is a run
(Reload.lean) right to left. -/

theorem drained_iff {s : State} :
    s.drained = true ↔ ∀ r, s.retiring = some r → ∀ a, a ∈ r.addrs → s.holds a r.gen = false := by
  unfold State.drained
  cases s.retiring with
  | none => simp only [reduceCtorEq, false_imp_iff, implies_true]
  | some r => simp only [List.all_eq_true, Bool.not_eq_true', Option.some.injEq, forall_eq']

theorem isRetiring_iff {s : State} {g : Gen} : isRetiring s g = true ↔ ∃ r, s.retiring = some r ∧ r.gen = g := by
  simp only [isRetiring, genOf, beq_iff_eq, Option.map_eq_some_iff]

theorem allBound_iff {s : State} {c : Cfg} : allBound s c = true ↔ ∀ a, a ∈ c.addrs → s.holds a c.gen = true := by
  simp only [allBound, List.all_eq_true]

theorem bindable_iff {s : State} {a : Addr} : bindable s a = true ↔
    ∃ c, s.next = some c ∧ s.loading = true ∧ a ∈ c.addrs ∧ s.holds a c.gen = false := by
  unfold bindable
  cases s.next with
  | none => simp only [Bool.false_eq_true, reduceCtorEq, false_and, exists_false]
  | some c =>
    simp only [Bool.and_eq_true, Bool.not_eq_true', List.contains_iff_mem, Option.some.injEq, exists_eq_left', and_assoc]

theorem enabled_begin {s : State} {c : Cfg} : enabled s (.begin c) = true ↔
    s.phase = .idle ∧ s.drained = true ∧ s.fresh ≤ c.gen ∧ c.addrs.Nodup := by
  simp only [enabled, Bool.and_eq_true, decide_eq_true_eq, and_assoc]

theorem enabled_swap {s : State} : enabled s .swap = true ↔
    ∃ c, s.next = some c ∧ s.loading = true ∧ ∀ a, a ∈ c.addrs → s.holds a c.gen = true := by
  unfold enabled
  cases s.next with
  | none => simp only [Bool.false_eq_true, reduceCtorEq, false_and, exists_false]
  | some c => simp only [Bool.and_eq_true, allBound_iff, Option.some.injEq, exists_eq_left']

theorem enabled_reject {s : State} : enabled s .reject = true ↔ s.loading = true ∧ ∃ c, s.next = some c := by
  simp only [enabled, Bool.and_eq_true, Option.isSome_iff_exists]

theorem enabled_close {s : State} {g : Gen} {a : Addr} : enabled s (.close g a) = true ↔
    (∃ r, s.retiring = some r ∧ r.gen = g) ∧ s.holds a g = true := by
  simp only [enabled, Bool.and_eq_true, isRetiring_iff]

theorem enabled_ret {s : State} : enabled s .ret = true ↔ s.phase = .stopping := by
  simp only [enabled, decide_eq_true_eq]

theorem enabled_stopAll {s : State} : enabled s .stopAll = true ↔ s.phase = .idle ∧ s.drained = true := by
  simp only [enabled, Bool.and_eq_true, decide_eq_true_eq]

theorem step_slots {s s' : State} {st : Step} (h : step? s st = some s') :
    (s'.cur = s.cur ∧ s'.next = s.next ∧ s'.retiring = s.retiring) ∨
    (∃ c, st = .begin c ∧ c.addrs.Nodup ∧ s'.cur = s.cur ∧ s'.next = some c ∧ s'.retiring = none) ∨
    (st = .swap ∧ (∃ c, s.next = some c) ∧ s'.cur = s.next ∧ s'.next = none ∧ s'.retiring = s.cur) ∨
    (st = .reject ∧ s'.cur = s.cur ∧ s'.next = none ∧ s'.retiring = s.next) ∨
    (st = .stopAll ∧ s'.cur = none ∧ s'.next = s.next ∧ s'.retiring = s.cur) := by
  obtain ⟨he, rfl⟩ := step?_some h
  fun_cases eff s st
  case case1 c =>  -- begin
    exact .inr (.inl ⟨c, rfl, (enabled_begin.mp he).2.2.2, rfl, rfl, rfl⟩)
  case case5 a => cases he  -- bindStale
  case case6 =>  -- swap
    obtain ⟨c, hc, _⟩ := enabled_swap.mp he
    exact .inr (.inr (.inl ⟨rfl, ⟨c, hc⟩, rfl, rfl, rfl⟩))
  case case7 => exact .inr (.inr (.inr (.inl ⟨rfl, rfl, rfl, rfl⟩)))  -- reject
  case case10 => exact .inr (.inr (.inr (.inr ⟨rfl, rfl, rfl, rfl⟩)))  -- stopAll
  all_goals exact .inl ⟨rfl, rfl, rfl⟩

theorem slot_of_step {s s' : State} {st : Step} (h : step? s st = some s') {c : Cfg}
    (hc : s'.cur = some c ∨ s'.next = some c ∨ s'.retiring = some c) :
    (s.cur = some c ∨ s.next = some c ∨ s.retiring = some c) ∨ (st = .begin c ∧ c.addrs.Nodup) := by
  rcases step_slots h with ⟨e1, e2, e3⟩ | ⟨c', rfl, hnd, e1, e2, e3⟩ | ⟨_, _, e1, e2, e3⟩ | ⟨_, e1, e2, e3⟩ |
      ⟨_, e1, e2, e3⟩ <;> rw [e1, e2, e3] at hc
  · exact .inl hc
  · rcases hc with hc | hc | hc
    · exact .inl (.inl hc)
    · cases hc; exact .inr ⟨rfl, hnd⟩
    · cases hc
  · rcases hc with hc | hc | hc
    · exact .inl (.inr (.inl hc))
    · cases hc
    · exact .inl (.inl hc)
  · rcases hc with hc | hc | hc
    · exact .inl (.inl hc)
    · cases hc
    · exact .inl (.inr (.inl hc))
  · rcases hc with hc | hc | hc
    · cases hc
    · exact .inl (.inr (.inl hc))
    · exact .inl (.inl hc)

theorem alive_iff {s : State} {g : Gen} :
    alive s g ↔ ∃ c, (s.cur = some c ∨ s.next = some c ∨ s.retiring = some c) ∧ c.gen = g := by
  simp only [alive, genOf, Option.map_eq_some_iff, or_and_right, exists_or]

theorem eq_all_of_cons {f : List Step → Bool} (hnil : f [] = true)
    (hcons : ∀ st rest, f (st :: rest) = (f [st] && f rest)) : ∀ steps, f steps = steps.all fun st => f [st]
  | [] => hnil
  | st :: rest => by rw [hcons, List.all_cons, eq_all_of_cons hnil hcons rest]

def KeepInv (a : Addr) (s : State) : Prop :=
  (∃ c, s.cur = some c ∧ a ∈ c.addrs) ∧ (∀ n, s.next = some n → a ∈ n.addrs)

theorem keeps_cons (a : Addr) (st : Step) (rest : List Step) :
    keeps a (st :: rest) = (keeps a [st] && keeps a rest) := by
  cases st with
  | begin c => simp only [keeps, Bool.and_true]
  | _ => rfl

theorem keeps_eq_all (a : Addr) : ∀ steps, keeps a steps = steps.all fun st => keeps a [st] :=
  eq_all_of_cons rfl (keeps_cons a)

theorem keeps_append (a : Addr) (xs ys : List Step) : keeps a (xs ++ ys) = (keeps a xs && keeps a ys) := by
  rw [keeps_eq_all a (xs ++ ys), keeps_eq_all a xs, keeps_eq_all a ys, List.all_append]

theorem keeps_append_left (a : Addr) (xs ys : List Step) (h : keeps a (xs ++ ys) = true) : keeps a xs = true := by
  rw [keeps_append, Bool.and_eq_true] at h
  exact h.1

theorem KeepInv.step {a : Addr} {s s' : State} {st : Step} (hq : KeepInv a s) (hk : keeps a [st] = true)
    (h : step? s st = some s') : KeepInv a s' := by
  obtain ⟨⟨c, hc, hac⟩, hn⟩ := hq
  unfold KeepInv
  rcases step_slots h with ⟨e1, e2, _⟩ | ⟨c', rfl, _, e1, e2, _⟩ | ⟨_, ⟨n, hs⟩, e1, e2, _⟩ | ⟨_, e1, e2, _⟩ | ⟨rfl, _⟩
  · rw [e1, e2]; exact ⟨⟨c, hc, hac⟩, hn⟩
  · rw [e1, e2]
    refine ⟨⟨c, hc, hac⟩, fun n h' => ?_⟩
    cases h'
    simpa [keeps] using hk
  · rw [e1, e2]; exact ⟨⟨n, hs, hn n hs⟩, fun m h' => by cases h'⟩
  · rw [e1, e2]; exact ⟨⟨c, hc, hac⟩, fun m h' => by cases h'⟩
  · cases hk

theorem KeepInv.run {a : Addr} (steps : List Step) {s s' : State} (hq : KeepInv a s)
    (hk : keeps a steps = true) (hr : run s steps = some s') : KeepInv a s' :=
  run_invariant KeepInv.step steps hq ((keeps_eq_all a steps).symm.trans hk) hr

/-- no second Load, no caddy.Stop -/
def oneReload : List Step → Bool
  | [] => true
  | .begin _ :: _ => false
  | .stopAll :: _ => false
  | _ :: rest => oneReload rest

theorem oneReload_cons (st : Step) (rest : List Step) : oneReload (st :: rest) = (oneReload [st] && oneReload rest) := by
  cases st <;> rfl

theorem oneReload_eq_all : ∀ steps, oneReload steps = steps.all fun st => oneReload [st] :=
  eq_all_of_cons rfl oneReload_cons

theorem alive_of_step {s s' : State} {st : Step} {g : Gen} (hg : alive s' g) (ho : oneReload [st] = true)
    (h : step? s st = some s') : alive s g := by
  obtain ⟨c, hc, rfl⟩ := alive_iff.mp hg
  rcases slot_of_step h hc with hc | ⟨rfl, _⟩
  · exact alive_iff.mpr ⟨c, hc, rfl⟩
  · cases ho

theorem eff_fresh {s : State} {st : Step} (h : oneReload [st] = true) : (eff s st).fresh = s.fresh := by
  fun_cases eff s st
  case case1 c => cases h  -- begin
  all_goals rfl

theorem run_fresh (steps : List Step) {s s' : State} (ho : oneReload steps = true) (hr : run s steps = some s') :
    s'.fresh = s.fresh :=
  run_invariant (Q := fun s' => s'.fresh = s.fresh)
    (fun hq ho hs => by obtain ⟨_, rfl⟩ := step?_some hs; rw [eff_fresh ho, hq])
    steps rfl ((oneReload_eq_all steps).symm.trans ho) hr

theorem keeps_of_oneReload (a : Addr) {steps : List Step} (h : oneReload steps = true) : keeps a steps = true := by
  rw [oneReload_eq_all, List.all_eq_true] at h
  rw [keeps_eq_all, List.all_eq_true]
  intro st hst
  have := h st hst
  cases st with
  | begin c => cases this
  | stopAll => cases this
  | _ => rfl

theorem acceptedOf_cons (st : Step) (rest : List Step) : acceptedOf (st :: rest) = acceptedOf [st] ++ acceptedOf rest := by
  cases st <;> rfl

theorem tokens_step {s : State} {st : Step} (he : enabled s st = true) :
    ((eff s st).done ++ (eff s st).inflight).Perm (acceptedOf [st] ++ (s.done ++ s.inflight)) := by
  fun_cases eff s st
  case case12 t g a => exact List.perm_middle  -- accept
  case case13 t g =>  -- complete
    have hin : (t, g) ∈ s.inflight := by simpa [enabled] using he
    exact List.perm_middle.symm.trans ((List.perm_cons_erase hin).symm.append_left _)
  all_goals exact .refl _

/-- conservation, with multiplicity: none is lost, none is completed twice, whatever lifecycle steps
    happen in between; `complete` records the accepting config, so each is completed by its acceptor -/
theorem tokens_run (steps : List Step) {s s' : State} (hr : run s steps = some s') :
    (s'.done ++ s'.inflight).Perm (acceptedOf steps ++ (s.done ++ s.inflight)) := by
  fun_induction run s steps
  case case1 s => cases hr; exact .refl _
  case case2 s st rest s1 hs1 ih =>
    obtain ⟨he, rfl⟩ := step?_some hs1
    rw [acceptedOf_cons, List.append_assoc]
    exact (ih hr).trans (((tokens_step he).append_left _).trans (List.perm_append_comm_assoc _ _ _))
  case case3 => cases hr

end CaddyModel.C02
