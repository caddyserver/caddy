/-
C02 — the two clauses of the property that the code violated before it was repaired. For each: the
history, what the machine of `Model.lean` (the code as it is now) does with it, and what the same
machine with the OLD effects did — the `…_old_code_fails` theorems, which show that the full-strength
theorems of `Props.lean` are not vacuous. The protocol lines of the histories are replayed on the
implementation on every run (corpus/C02/regress.txt). Two hypothetical variants follow, with what each
would break: skipping the last close's cleanup for abstract unix sockets, and deriving request contexts
from the config's context.
-/
import CaddyModel.C02.Model

namespace CaddyModel.C02

def wU0 : Addr := ⟨true, 0⟩
def wT0 : Addr := ⟨false, 0⟩
def wSched : Sched := ⟨1, 0, 0, 0, 0, 1⟩

/-- the facts about a state that the refutations below need (a record, so that equality is decided
    by one derived instance) -/
structure Facts where
  zombies : List Gen
  phase : Phase
  drained : Bool
  curAddrs : Option (List Addr)
  cur : Option Gen
  next : Option Gen
  retiring : Option Gen
  t0 : List Conn
  u0 : List Conn
  u0file : Bool
deriving DecidableEq

def factsOf (s : State) : Facts :=
  ⟨s.zombies, s.phase, s.drained, s.cur.map Cfg.addrs, genOf s.cur, genOf s.next, genOf s.retiring,
   connect s wT0, connect s wU0, (s.socks wU0).file⟩

/-! ### a dropped unix socket, before and after the repair of `unixListener.Close` -/

/-- load `[u0]`, then load a config without listeners (`C02 seq 0 0 u0;- - -`, corpus/C02/regress.txt) -/
def wDropSteps : List Step :=
  reloadSteps ⟨0, [wU0]⟩ none wSched ++ reloadSteps ⟨1, []⟩ (some ⟨0, [wU0]⟩) wSched

/-- the code as it is now: the socket is gone -/
theorem wDrop_facts : (run init wDropSteps).map factsOf
    = some ⟨[], .idle, true, some [], some 1, none, some 0, [.refused], [.noent], false⟩ := by decide +kernel

/-- `unixListener.Close` at count 0 before the repair: it called `File()` to learn the path — which
    duplicates the descriptor (never closed again: the socket stays in LISTEN) and whose `Name()` is
    `"unix:<path>->"`, so the unlink failed and the file stayed -/
def closeUnixOld (k : Sock) (h : Handle) : Sock :=
  if k.ucnt ≤ 1 then
    { pool := poolAfterClose k h, ucnt := 0, umap := none, file := k.file, leaks := k.leaks + 1, hs := k.hs.erase h }
  else closeUnix k h

def closeSockOld (a : Addr) (k : Sock) (g : Gen) : Sock :=
  match k.hs.find? (fun h => h.gen == g) with
  | none => k
  | some h => if a.unix then closeUnixOld k h else closeTcp k h

/-- `reuseUnixSocket` before the repair: the `unixSockets` entry was replaced by the newest duplicate -/
def bindUnixOld (k : Sock) (g : Gen) : Sock :=
  match k.umap with
  | some _ => { k with ucnt := k.ucnt + 1, umap := some g, leaks := k.leaks + 1, hs := k.hs ++ [⟨g, .dup⟩] }
  | none => bindUnix k g

def bindSockOld (a : Addr) (k : Sock) (g : Gen) : Sock :=
  if a.unix then bindUnixOld k g else bindTcp k g

/-- … so it could point at a listener that is already closed -/
def staleOld (k : Sock) : Bool :=
  match k.umap with
  | some g => !k.holds g
  | none => false

def enabledOld (s : State) : Step → Bool
  | .bind a => bindable s a && !(a.unix && staleOld (s.socks a))
  | .bindStale a => bindable s a && a.unix && staleOld (s.socks a)
  | st => enabled s st

def effOld (s : State) : Step → State
  | .close g a => { s with socks := setSock s.socks a (closeSockOld a (s.socks a) g) }
  | .bind a => { s with socks := setSock s.socks a (bindSockOld a (s.socks a) (nextGen s)), phase := .start }
  | st => eff s st

def runOld (s : State) : List Step → Option State
  | [] => some s
  | st :: rest => if enabledOld s st then runOld (effOld s st) rest else none

/-- **Non-vacuity of `dropped_address_closed`: the old code violated it.**  The same history on the
    machine with the old close: settled, nothing rejected, the new config does not list u0 — and a
    connection to u0 is accepted by the kernel and never served, the file is still there. -/
theorem dropped_address_closed_old_code_fails : (runOld init wDropSteps).map factsOf
    = some ⟨[], .idle, true, some [], some 1, none, some 0, [.refused], [.hangs], true⟩ := by decide +kernel

/-! ### a reload rejected after it had started, before and after the repair of `reuseUnixSocket` -/

/-- load `[u0]`; a load of `[u0]` that is rejected after its apps started (it reused the socket; in the
    old code `unixSockets` then pointed at its listener, which is the one closed when the rejected
    config is stopped); then a load of `[t0, u0]` (`C02 seq 0 0 u0;!u0;t0,u0 - -`, corpus/C02/regress.txt) -/
def wRejectedSteps : List Step :=
  reloadSteps ⟨0, [wU0]⟩ none wSched ++
  [.begin ⟨1, [wU0]⟩, .bind wU0, .cb .started 1, .reject, .cb .stopping 1, .close 1 wU0, .cb .cleanup 1, .ret]

/-- the code as it is now: the third load is an ordinary reload -/
theorem wRejected_facts :
    (run init (wRejectedSteps ++ reloadSteps ⟨2, [wT0, wU0]⟩ (some ⟨0, [wU0]⟩) wSched)).map factsOf
    = some ⟨[], .idle, true, some [wT0, wU0], some 2, none, some 0, [.answered 2], [.answered 2], true⟩ := by decide +kernel

/-- the old machine: t0 is bound, the reuse of u0 fails, the HTTP app's Start fails and nobody closes t0 -/
def wStaleSteps : List Step :=
  wRejectedSteps ++ [.begin ⟨2, [wT0, wU0]⟩, .bind wT0, .bindStale wU0, .cb .cleanup 2, .ret]

/-- **Non-vacuity of `served_by_old_or_new`, `after_drain_only_new`, `dropped_address_has_no_listener`:
    the old code violated them.**  After the history above on the old machine: settled, config 0 is
    running (it lists u0 only), config 2 was rejected — and config 2 answers on t0, for ever
    (`zombies = [2]`): answered by a config that is neither old nor new, on an address the running
    config does not listen on. -/
theorem served_by_old_or_new_old_code_fails : (runOld init wStaleSteps).map factsOf
    = some ⟨[2], .idle, true, some [wU0], some 0, none, none, [.answered 2], [.answered 0], true⟩ := by decide +kernel

/-- the stale entry itself: in the old machine's state before the third load, `reuseUnixSocket` would
    duplicate a closed listener; the same history cannot even be written for the new machine, where the
    failing `Listen` is never enabled -/
example : ((runOld init wRejectedSteps).map fun s => (staleOld (s.socks wU0), (s.socks wU0).umap, (s.socks wU0).gens))
    = some (true, some 1, [0]) := by decide +kernel
example : (run init wStaleSteps).isNone = true := by decide +kernel

/-! ### abstract unix sockets: what skipping the last close's cleanup for them would do -/

def wA0 : Addr := ⟨true, 30⟩

/-- `unlinkUnixSocket` returning early for abstract names (before it closes the descriptor caddy keeps and
    deletes the `unixSockets` entry): the last close leaves the entry, the kept descriptor — and with it
    the kernel name — in place -/
def closeUnixKeepAbstract (a : Addr) (k : Sock) (h : Handle) : Sock :=
  if a.abstract && decide (k.ucnt ≤ 1) then
    { pool := poolAfterClose k h, ucnt := 0, umap := k.umap, file := k.file, leaks := k.leaks + 1, hs := k.hs.erase h }
  else closeUnix k h

def closeSockKeepAbstract (a : Addr) (k : Sock) (g : Gen) : Sock :=
  match k.hs.find? (fun h => h.gen == g) with
  | none => k
  | some h => if a.unix then closeUnixKeepAbstract a k h else closeTcp k h

def effKeepAbstract (s : State) : Step → State
  | .close g a => { s with socks := setSock s.socks a (closeSockKeepAbstract a (s.socks a) g) }
  | st => eff s st

def runKeepAbstract (s : State) : List Step → Option State
  | [] => some s
  | st :: rest => if enabled s st then runKeepAbstract (effKeepAbstract s st) rest else none

/-- load `[a0]`, then a config without listeners (`C02 seq 0 0 a0;- - -`) -/
def wAbsSteps : List Step :=
  reloadSteps ⟨0, [wA0]⟩ none wSched ++ reloadSteps ⟨1, []⟩ (some ⟨0, [wA0]⟩) wSched

/-- **Non-vacuity of `dropped_abstract_socket_is_refused`.**  The code's machine: refused, entry gone.
    With the early return: the name stays bound for the life of the process, a connect is accepted by the
    kernel and never served, the table entry (counter 0) stays for a later config to "reuse". -/
theorem dropped_abstract_socket_kept_open_fails :
    ((run init wAbsSteps).map fun s => (connect s wA0, (s.socks wA0).umap, (s.socks wA0).ucnt)) = some ([.refused], none, 0) ∧
    ((runKeepAbstract init wAbsSteps).map fun s => (connect s wA0, (s.socks wA0).umap, (s.socks wA0).ucnt))
      = some ([.hangs], some 0, 0) := by decide +kernel

/-! ### request contexts: what deriving them from the config's context would do -/

/-- the machine with request contexts descending from the config's context (`BaseContext` returning the
    server's `ctx`): cancelling the config cancels its in-flight requests -/
def effCfgCtx (s : State) : Step → State
  | .cancelCtx g => { s with cancelled := g :: s.cancelled, ctxLost := lostByCancel true s g ++ s.ctxLost }
  | st => eff s st

def runCfgCtx (s : State) : List Step → Option State
  | [] => some s
  | st :: rest => if enabled s st then runCfgCtx (effCfgCtx s st) rest else none

/-- a request accepted by config 0, a reload to config 1, config 0's context cancelled after its apps were
    stopped, the request answered afterwards -/
def wCtxSteps : List Step :=
  reloadSteps ⟨0, [wT0]⟩ none wSched ++
  [.accept 7 0 wT0, .begin ⟨1, [wT0]⟩, .bind wT0, .cb .started 1, .swap, .cb .stopping 0, .close 0 wT0, .cancelCtx 0,
   .cb .cleanup 0, .ret, .complete 7 0]

/-- **Non-vacuity of `inflight_completed_by_acceptor_with_live_context`.**  Same history: the code's
    machine keeps the request's context; with contexts derived from the config's context the request
    loses it at the reload (reverse_proxy then abandons the upstream request, the client gets an empty
    answer) although the connection is never cut. -/
theorem request_context_from_config_context_fails :
    ((run init wCtxSteps).map fun s => (s.ctxLost, s.done)) = some ([], [(7, 0)]) ∧
    ((runCfgCtx init wCtxSteps).map fun s => (s.ctxLost, s.done)) = some ([(7, 0)], [(7, 0)]) := by decide +kernel

end CaddyModel.C02
