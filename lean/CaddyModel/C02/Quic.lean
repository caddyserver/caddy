/-
C02 — the shared QUIC listener (`NetworkAddress.ListenQUIC`, `sharedQuicListener`, `sharedQUICState`,
`fakeCloseQuicListener`; listeners.go:425-635), as the code is.

HTTP/3 listeners of consecutive configs do not bind a socket each. The first `ListenQUIC` on an address
constructs one `sharedQuicListener` (booking the udp socket once, under the udp key) and every `ListenQUIC`
takes one reference on it in `listenerPool` under the quic key; `Close` on a `fakeCloseQuicListener` cancels
its context, removes its tls.Config from `sharedQUICState.tlsConfs` and drops its reference; the last
reference destructs the listener and the socket. Which config's tls.Config answers a handshake is
`activeTlsConf`: set by the constructor, NOT changed by later `addState`s, replaced by "another" entry of the
map only when the active one is cancelled. (The comment in ListenQUIC says the latest config is returned;
the code returns the OLDEST open one — `active_is_oldest_open`. Either is "the old or the new config".)
"Another" is the first key Go's map iteration yields: with more than one left (the oldest of three open
listeners is closed) it is the runtime's choice. The deterministic model (`QState`, lines satisfying `qOk`)
takes the oldest; the general model (`QPoss`) carries the SET of configs that may be active and is what
the driver runs: `possible_active_is_open` is what holds in general.
-/
namespace CaddyModel.C02

structure QState where
  opened : List Nat     -- generations whose listener is open, in order of ListenQUIC (= keys of tlsConfs)
  active : Option Nat   -- activeTlsConf
deriving DecidableEq, Repr

def QState.init : QState := ⟨[], none⟩

/-- references on the quic key / on the udp key -/
def QState.quicRefs (s : QState) : Nat := s.opened.length
def QState.udpRefs (s : QState) : Nat := if s.opened.isEmpty then 0 else 1

/-- `ListenQUIC` with the tls.Config of generation `g` -/
def qListen (s : QState) (g : Nat) : QState :=
  if s.opened.isEmpty then ⟨[g], some g⟩ else ⟨s.opened ++ [g], s.active⟩

/-- `fakeCloseQuicListener.Close` of generation `g` -/
def qClose (s : QState) (g : Nat) : QState :=
  ⟨s.opened.erase g, if s.active = some g then (s.opened.erase g).head? else s.active⟩

inductive QOp where
  | listen (g : Nat)
  | close (g : Nat)
  | dial
deriving DecidableEq, Repr

/-- what a handshake from a fresh client is answered with -/
def qDial (s : QState) : Option Nat := if s.opened.isEmpty then none else s.active

def qStep (s : QState) : QOp → QState
  | .listen g => qListen s g
  | .close g => qClose s g
  | .dial => s

/-- the lines on which the deterministic `QState` mirrors the code: fresh generations, at most three listeners
    open, only open listeners are closed, and never the oldest of three (Go's map order would pick its successor);
    the harness's lines are the wider `qpOk` -/
def qOk (s : QState) (used : List Nat) : List QOp → Bool
  | [] => true
  | .listen g :: rest => !used.contains g && s.opened.length < 3 && qOk (qListen s g) (g :: used) rest
  | .close g :: rest =>
    s.opened.contains g && !(s.opened.head? == some g && s.opened.length ≥ 3) && qOk (qClose s g) used rest
  | .dial :: rest => qOk s used rest

def qRun (s : QState) : List QOp → QState
  | [] => s
  | op :: rest => qRun (qStep s op) rest

structure QInv (s : QState) (used : List Nat) : Prop where
  oldest : s.active = s.opened.head? ∨ s.opened = []
  nodup : s.opened.Nodup
  sub : ∀ g, g ∈ s.opened → g ∈ used

theorem qListen_opened (s : QState) (g : Nat) : (qListen s g).opened = s.opened ++ [g] := by
  unfold qListen
  cases hl : s.opened <;> rfl

theorem active_of_cons {s : QState} (h : s.active = s.opened.head? ∨ s.opened = []) {x : Nat} {t : List Nat}
    (hl : s.opened = x :: t) : s.active = some x := by
  rcases h with ho | ho <;> rw [hl] at ho
  · exact ho
  · cases ho

/-- neither fresh generations nor the harness's restrictions (`qOk`) are needed for this -/
theorem qStep_oldest {s : QState} (h : s.active = s.opened.head? ∨ s.opened = []) :
    ∀ op : QOp, (qStep s op).active = (qStep s op).opened.head? ∨ (qStep s op).opened = []
  | .dial => h
  | .listen g => by
    simp only [qStep, qListen]
    cases hl : s.opened with
    | nil => exact .inl rfl
    | cons x t => exact .inl (active_of_cons h hl)
  | .close g => by
    simp only [qStep, qClose]
    cases hl : s.opened with
    | nil => exact .inr rfl
    | cons x t =>
      have ho := active_of_cons h hl
      by_cases hx : x = g
      · exact .inl (by rw [ho, hx]; exact if_pos rfl)
      · -- the active config is the oldest one, which is not the one closed
        have hne : s.active ≠ some g := by rw [ho]; exact fun e => hx (Option.some.inj e)
        rw [if_neg hne, List.erase_cons_tail (by simpa using hx)]
        exact .inl ho

theorem qRun_oldest : ∀ (ops : List QOp) {s : QState}, (s.active = s.opened.head? ∨ s.opened = []) →
    (qRun s ops).active = (qRun s ops).opened.head? ∨ (qRun s ops).opened = []
  | [], _, h => h
  | op :: rest, _, h => qRun_oldest rest (qStep_oldest h op)

/-- on the harness's lines (fresh generations) the open listeners are moreover pairwise different -/
theorem QInv.step {s : QState} {used : List Nat} (h : QInv s used) :
    ∀ (op : QOp) (rest : List QOp), qOk s used (op :: rest) = true →
      ∃ used', QInv (qStep s op) used' ∧ qOk (qStep s op) used' rest = true
  | .dial, rest, hk => ⟨used, h, hk⟩
  | .listen g, rest, hk => by
    simp only [qOk, Bool.and_eq_true, Bool.not_eq_true', List.contains_eq_mem, decide_eq_false_iff_not] at hk
    have hng : g ∉ s.opened := fun hm => hk.1.1 (h.sub g hm)
    refine ⟨g :: used, ⟨qStep_oldest h.oldest _, ?_, ?_⟩, hk.2⟩
    · show (qListen s g).opened.Nodup
      rw [qListen_opened, List.nodup_append]
      exact ⟨h.nodup, by simp, fun a ha b hb => by rw [List.mem_singleton.mp hb]; exact fun e => hng (e ▸ ha)⟩
    · intro x hx
      rw [show (qStep s (.listen g)).opened = s.opened ++ [g] from qListen_opened s g] at hx
      rcases List.mem_append.mp hx with hx | hx
      · exact List.mem_cons_of_mem _ (h.sub x hx)
      · exact List.mem_cons.mpr (.inl (List.mem_singleton.mp hx))
  | .close g, rest, hk => by
    simp only [qOk, Bool.and_eq_true] at hk
    exact ⟨used, ⟨qStep_oldest h.oldest _, h.nodup.erase g, fun x hx => h.sub x (List.mem_of_mem_erase hx)⟩, hk.2⟩

theorem QInv.run : ∀ (ops : List QOp) {s : QState} {used : List Nat}, QInv s used → qOk s used ops = true →
    ∃ used', QInv (qRun s ops) used'
  | [], s, used, h, _ => ⟨used, h⟩
  | op :: rest, s, used, h, hk => by
    obtain ⟨used', h', hk'⟩ := h.step op rest hk
    exact QInv.run rest h' hk'

theorem QInv.init : QInv QState.init [] := ⟨.inr rfl, List.nodup_nil, fun _ hg => nomatch hg⟩

/-! ### what the property needs of the shared QUIC listener -/

set_option linter.unusedVariables false in
/-- **A handshake is answered by the oldest config whose listener is open** — in particular by one that
    is open: the old or the new config, never a closed one, and always someone while any is open. -/
theorem active_is_oldest_open (ops : List QOp) (hk : qOk QState.init [] ops = true) :
    qDial (qRun QState.init ops) = (qRun QState.init ops).opened.head? := by
  -- holds after any operations (`qRun_oldest`); `hk` confines the statement to the lines on which `QState` mirrors the code
  unfold qDial
  cases hl : (qRun QState.init ops).opened with
  | nil => rfl
  | cons x t => exact active_of_cons (qRun_oldest ops (s := QState.init) (.inr rfl)) hl

/-- **after the drain only the new config answers**: when one listener is left it is the active one -/
theorem quic_after_drain_only_new (ops : List QOp) (hk : qOk QState.init [] ops = true) (g : Nat)
    (h1 : (qRun QState.init ops).opened = [g]) : qDial (qRun QState.init ops) = some g := by
  rw [active_is_oldest_open ops hk, h1]; rfl

/-- the socket is bound exactly as long as a listener is open; one reference per open listener -/
theorem quic_refs (s : QState) : s.quicRefs = s.opened.length ∧ (s.udpRefs = 1 ↔ s.opened ≠ []) := by
  refine ⟨rfl, ?_⟩
  unfold QState.udpRefs
  cases s.opened <;> simp

/-- (as the code is) while both are open, the OLD config's tls.Config answers, not the latest one -/
theorem latest_config_does_not_win :
    qDial (qRun QState.init [.listen 0, .listen 1]) = some 0 ∧
    qDial (qRun QState.init [.listen 0, .listen 1, .close 0]) = some 1 ∧
    qDial (qRun QState.init [.listen 0, .listen 1, .close 1]) = some 0 := by decide

example : qOk QState.init [] [.listen 0, .listen 1, .listen 2, .dial, .close 1, .dial, .close 0, .dial, .close 2] = true := by decide
example : qOk QState.init [] [.listen 0, .listen 1, .listen 2, .close 0] = false := by decide

/-! ### in general: the set of configs that may be active -/

structure QPoss where
  opened : List Nat
  poss : List Nat     -- the configs `activeTlsConf` may be, over all choices of Go's map iteration
deriving DecidableEq, Repr

def QPoss.init : QPoss := ⟨[], []⟩

def qpListen (s : QPoss) (g : Nat) : QPoss :=
  if s.opened.isEmpty then ⟨[g], [g]⟩ else ⟨s.opened ++ [g], s.poss⟩

/-- if the closed config may be the active one, any of the remaining ones may become active -/
def qpClose (s : QPoss) (g : Nat) : QPoss :=
  ⟨s.opened.erase g, s.poss.filter (fun a => a != g) ++ (if s.poss.contains g then s.opened.erase g else [])⟩

def qpStep (s : QPoss) : QOp → QPoss
  | .listen g => qpListen s g
  | .close g => qpClose s g
  | .dial => s

/-- fresh generations, at most three listeners open, only open listeners are closed — in any order -/
def qpOk (s : QPoss) (used : List Nat) : List QOp → Bool
  | [] => true
  | .listen g :: rest => !used.contains g && s.opened.length < 3 && qpOk (qpListen s g) (g :: used) rest
  | .close g :: rest => s.opened.contains g && qpOk (qpClose s g) used rest
  | .dial :: rest => qpOk s used rest

def qpRun (s : QPoss) : List QOp → QPoss
  | [] => s
  | op :: rest => qpRun (qpStep s op) rest

structure QPInv (s : QPoss) : Prop where
  sub : ∀ a, a ∈ s.poss → a ∈ s.opened
  some : s.opened ≠ [] → s.poss ≠ []

theorem QPInv.step {s : QPoss} (h : QPInv s) : ∀ op : QOp, QPInv (qpStep s op)
  | .dial => h
  | .listen g => by
    simp only [qpStep, qpListen]
    split
    · exact ⟨fun _ ha => ha, fun _ => List.cons_ne_nil _ _⟩
    · next hne =>
      have hne' : s.opened ≠ [] := fun e => hne (by rw [e]; rfl)
      exact ⟨fun a ha => List.mem_append_left _ (h.sub a ha), fun _ => h.some hne'⟩
  | .close g => by
    simp only [qpStep, qpClose]
    refine ⟨fun a ha => ?_, fun hrest => ?_⟩
    · rcases List.mem_append.mp ha with ha | ha
      · have hm := List.mem_filter.mp ha
        exact (List.mem_erase_of_ne (by simpa using hm.2)).mpr (h.sub a hm.1)
      · split at ha
        · exact ha
        · cases ha
    · -- some `a` may be active; if it is the one closed, any of the remaining ones may become active
      have hop : s.opened ≠ [] := fun e => hrest (by rw [e]; rfl)
      obtain ⟨a, ha⟩ := List.exists_mem_of_ne_nil _ (h.some hop)
      by_cases hag : a = g
      · have : s.poss.contains g = true := by simpa [hag] using ha
        rw [this, if_pos rfl]
        exact fun e => hrest (List.append_eq_nil_iff.mp e).2
      · intro e
        have : a ∈ s.poss.filter (fun x => x != g) := List.mem_filter.mpr ⟨ha, by simpa using hag⟩
        rw [(List.append_eq_nil_iff.mp e).1] at this
        cases this

theorem QPInv.run : ∀ (ops : List QOp) {s : QPoss}, QPInv s → QPInv (qpRun s ops)
  | [], _, h => h
  | op :: rest, _, h => QPInv.run rest (h.step op)

theorem QPInv.init : QPInv QPoss.init := ⟨fun _ h => h, fun h => absurd rfl h⟩

set_option linter.unusedVariables false in
/-- **Whatever Go's map iteration picks — also when the oldest of three open listeners is closed — a
    handshake is answered by a config whose listener is open, and by some config as long as any listener
    is open.**  (Which one is not determined then: it need be neither the oldest nor the latest.) -/
theorem possible_active_is_open (ops : List QOp) (hk : qpOk QPoss.init [] ops = true) :
    (∀ a, a ∈ (qpRun QPoss.init ops).poss → a ∈ (qpRun QPoss.init ops).opened) ∧
    ((qpRun QPoss.init ops).opened ≠ [] → (qpRun QPoss.init ops).poss ≠ []) := by
  -- `QPInv` holds after any operations; `hk` confines the statement to the lines the harness generates
  exact ⟨(QPInv.run ops QPInv.init).sub, (QPInv.run ops QPInv.init).some⟩

/-- … and once a single listener is left it is the one that answers, whatever was picked before -/
theorem possible_active_after_drain (ops : List QOp) (hk : qpOk QPoss.init [] ops = true) (g : Nat)
    (h1 : (qpRun QPoss.init ops).opened = [g]) : ∀ a, a ∈ (qpRun QPoss.init ops).poss → a = g := by
  intro a ha
  have := (possible_active_is_open ops hk).1 a ha
  rw [h1] at this
  simpa using this

-- closing the oldest of three: either of the two others may answer; closing one of them settles it
example : (qpRun QPoss.init [.listen 0, .listen 1, .listen 2, .close 0]).poss = [1, 2] := by decide
example : (qpRun QPoss.init [.listen 0, .listen 1, .listen 2, .close 0, .close 1]).poss = [2, 2] := by decide
example : qpOk QPoss.init [] [.listen 0, .listen 1, .listen 2, .close 0, .dial, .close 1, .dial] = true := by decide

end CaddyModel.C02
