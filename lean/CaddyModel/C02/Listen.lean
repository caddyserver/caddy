/-
C02 — what the HTTP app does with its `listen` entries before a listener exists:

  * `(*App).Provision` (modules/caddyhttp/app.go:224-292): the server's protocol set (default h1 h2 h3),
    the normalisation of `listen_protocols` (a `""` stands for the server's protocols; an entry that comes
    out empty is stored as nil and falls back to the server's protocols in `start`), the three rejections
    (h2 / h2c without h1 on the server, count mismatch, h2 / h2c without h1 on an entry);
  * `(*App).Validate` (413-433): "each server must use distinct listener addresses" — the key it compares,
    `JoinNetworkAddress(network, host, FormatUint(start+i))`, next to the key `listen` books the socket
    under (`NetAddr.bookKey`, Key.lean);
  * `(*App).start` (518-547): the guard under which an entry is turned into a stream listener at all
    (`h1ok || h2ok && useTLS || h2cok`): an entry whose protocols are h3 only is never bound on tcp;
  * `JoinNetworkAddress` / `NetworkAddress.String` / `port` (listeners.go:281-296, 413-424).

The `val` op of the driver runs `validateApp` (and with it `bindsStream`, through `boundKeys`) against the real
`caddy.Validate` / `caddy.Load`; the `seq` histories have no protocol suffixes. The guard and the key expression
are regenerated source facts (`Gen.httpListenGuards`, `Gen.httpRepeatedListenKey`).
-/
import CaddyModel.C02.Key
import CaddyModel.Gen.Glue

namespace CaddyModel.C02

/-- `net.JoinHostPort` on strings -/
def joinHostPortS (host port : String) : String :=
  if host.contains ':' then "[" ++ host ++ "]:" ++ port else host ++ ":" ++ port

/-- `JoinNetworkAddress(network, host, port)` -/
def joinNetworkAddress (network host port : String) : String :=
  (if network.isEmpty then "" else network ++ "/") ++
    (if (!host.isEmpty && port.isEmpty) || isUnixNet network || isFdNet network then host
     else if !port.isEmpty then joinHostPortS host port else "")

/-- `na.port()` -/
def NetAddr.portStr (na : NetAddr) : String :=
  if na.startPort == na.endPort then toString na.startPort else toString na.startPort ++ "-" ++ toString na.endPort

/-- `na.String()`: the default network is left out -/
def NetAddr.str (na : NetAddr) : String :=
  joinNetworkAddress (if na.network == "tcp" && (!na.host.isEmpty || !na.portStr.isEmpty) then "" else na.network)
    na.host na.portStr

/-- the key `Validate` stores a socket of a listen entry under. At this call site the port is
    `strconv.FormatUint(…)`, never empty, so the two `port == ""` tests of `JoinNetworkAddress` are dead
    (the driver checks on every `val` line that this closed form and `joinNetworkAddress` agree). -/
def NetAddr.repeatKey (na : NetAddr) (off : Nat) : String :=
  (if na.network.isEmpty then "" else na.network ++ "/") ++
    (if isUnixNet na.network || isFdNet na.network then na.host else C02.joinHostPort na.host (na.startPort + off))

def NetAddr.repeatKeyJoined (na : NetAddr) (off : Nat) : String :=
  joinNetworkAddress na.network na.host (toString (na.startPort + off))

/-- "cannot enable HTTP/2 or H2C without enabling HTTP/1.1" -/
def h2WithoutH1 (ps : List String) : Bool := !ps.contains "h1" && (ps.contains "h2" || ps.contains "h2c")

/-- one non-null `listen_protocols` entry after Provision: the named protocols in their order, then — if
    a `""` was among them — the server's protocols that were not named, in the server's order -/
def normLnProtos (srv ln : List String) : List String :=
  if ln.contains "" then ln.filter (fun p => p != "") ++ srv.filter (fun p => !(ln.filter (fun p => p != "")).contains p)
  else ln.filter (fun p => p != "")

/-- the protocols `start` uses for the entry: an entry that came out empty was stored as nil -/
def effProtos (srv : List String) : Option (List String) → List String
  | none => srv
  | some ln => if (normLnProtos srv ln).isEmpty then srv else normLnProtos srv ln

/-- `start`: is a stream listener created for a socket of the entry? -/
def bindsStream (ps : List String) (useTLS : Bool) : Bool :=
  ps.contains "h1" || (ps.contains "h2" && useTLS) || ps.contains "h2c"

/-- the guard in the notation of the regenerated fact `Gen.httpListenGuards` -/
def listenGuardSite : List String :=
  ["if h1ok||h2ok&&useTLS||h2cok",
   "h1ok := present protocolsUnique[\"h1\"]",
   "h2ok := present protocolsUnique[\"h2\"]",
   "useTLS := len(srv.TLSConnPolicies)>0&&int(listenAddr.StartPort+portOffset)!=app.httpPort()",
   "h2cok := present protocolsUnique[\"h2c\"]"]

/-- the repeated-address key in the notation of `Gen.httpRepeatedListenKey` -/
def repeatKeySite : List String :=
  ["addr := caddy.JoinNetworkAddress(listenAddr.Network,listenAddr.Host,strconv.FormatUint(uint64(listenAddr.StartPort+i),10)) | range app.Servers; range srv.Listen; for i<listenAddr.PortRangeSize()",
   "lookup lnAddrs[addr] | range app.Servers; range srv.Listen; for i<listenAddr.PortRangeSize()",
   "store lnAddrs[addr] | range app.Servers; range srv.Listen; for i<listenAddr.PortRangeSize()"]

structure SrvSpec where
  listen : List NetAddr
  protos : List String                           -- `protocols` as written ([] = not configured)
  lnProtos : Option (List (Option (List String)))  -- `listen_protocols`: absent | entries (null | list)
deriving Repr

def SrvSpec.srvProtos (s : SrvSpec) : List String := if s.protos.isEmpty then ["h1", "h2", "h3"] else s.protos

def lnRejected (srv : List String) : Option (List String) → Bool
  | none => false
  | some ln => h2WithoutH1 (normLnProtos srv ln)

/-- Provision of one server: the protocols of every listen entry; `none` = the config is rejected -/
def provisionSrv (s : SrvSpec) : Option (List (List String)) :=
  if h2WithoutH1 s.srvProtos then none else
  match s.lnProtos with
  | none => some (s.listen.map fun _ => s.srvProtos)
  | some lps =>
    if lps.length != s.listen.length then none
    else if lps.any (lnRejected s.srvProtos) then none
    else some (lps.map (effProtos s.srvProtos))

def entrySockets (na : NetAddr) : List (NetAddr × Nat) := (List.range na.size).map fun i => (na, i)

def SrvSpec.sockets (s : SrvSpec) : List (NetAddr × Nat) := s.listen.flatMap entrySockets

/-- Validate: some key is claimed twice (whichever order Go's map iteration visits the servers in) -/
def repeated (ss : List SrvSpec) : Bool :=
  !decide ((ss.flatMap SrvSpec.sockets).map fun p => p.1.repeatKey p.2).Nodup

/-- the booking keys of the stream listeners `start` creates for one server (no TLS policies) -/
def boundKeys (s : SrvSpec) (eff : List (List String)) : List String :=
  (s.listen.zip eff).flatMap fun p => if bindsStream p.2 false then (entrySockets p.1).map fun q => q.1.bookKey q.2 else []

inductive Verdict3 where
  | protoRejected
  | repeatedAddr
  | ok (bound : List String)
deriving Repr, DecidableEq

def collectBound : List SrvSpec → List String
  | [] => []
  | s :: rest =>
    match provisionSrv s with
    | some eff => boundKeys s eff ++ collectBound rest
    | none => collectBound rest

def validateApp (ss : List SrvSpec) : Verdict3 :=
  if ss.any (fun s => (provisionSrv s).isNone) then .protoRejected
  else if repeated ss then .repeatedAddr
  else .ok (collectBound ss)

/-- The key `Validate` compares is the key the listener is
    booked under whenever the bind address is the address as written (every tcp / udp / fd address; a unix
    socket written without permission bits). -/
theorem repeatKey_eq_bookKey_of_plain_spelling (na : NetAddr) (off : Nat) (hne : na.network.isEmpty = false)
    (hplain : na.bindAddress off = na.joinHostPort off) : na.repeatKey off = na.bookKey off := by
  simp [NetAddr.repeatKey, NetAddr.bookKey, listenerKey, hplain, hne, NetAddr.joinHostPort, String.append_assoc]

example : (NetAddr.mk "tcp" "127.0.0.1" 8080 8082).repeatKey 1 = (NetAddr.mk "tcp" "127.0.0.1" 8080 8082).bookKey 1 :=
  repeatKey_eq_bookKey_of_plain_spelling _ _ (by decide) (plain_spelling_of_not_unix _ _ (by decide))

/-- (the assumption "one listener per (config,
    socket)" of the lifecycle machine, as a theorem)  A config `Validate` accepts — no repeated key — books
    pairwise different pool keys for its sockets, PROVIDED every address is written plainly. Full
    statement (without `hplain`) is false: `repeated_check_misses_permission_bits`. (For the servers `ss` of a
    config, `socks` is `ss.flatMap SrvSpec.sockets` and `h` is `repeated ss = false` unfolded.) -/
theorem accepted_config_has_one_listener_per_socket_partial (socks : List (NetAddr × Nat))
    (hne : ∀ p ∈ socks, p.1.network.isEmpty = false)
    (hplain : ∀ p ∈ socks, p.1.bindAddress p.2 = p.1.joinHostPort p.2)
    (h : (socks.map fun p => p.1.repeatKey p.2).Nodup) : (socks.map fun p => p.1.bookKey p.2).Nodup := by
  have e : (socks.map fun p => p.1.repeatKey p.2) = (socks.map fun p => p.1.bookKey p.2) :=
    List.map_congr_left fun p hp => repeatKey_eq_bookKey_of_plain_spelling p.1 p.2 (hne p hp) (hplain p hp)
  rw [← e]; exact h

example : ∀ p ∈ [(NetAddr.mk "tcp" "h" 80 81, 0), (NetAddr.mk "udp" "h" 80 81, 1)],
    p.1.network.isEmpty = false ∧ p.1.bindAddress p.2 = p.1.joinHostPort p.2 := by
  intro p hp
  simp only [List.mem_cons, List.not_mem_nil, or_false] at hp
  rcases hp with rfl | rfl
  · exact ⟨by decide, plain_spelling_of_not_unix _ _ (by decide)⟩
  · exact ⟨by decide, plain_spelling_of_not_unix _ _ (by decide)⟩

/-- (`…_full_fails` of the clause above, as the code is.)  Two
    spellings of one unix socket that differ in their permission bits have different `Validate` keys and
    the same booking key: a config whose servers both list the socket is accepted, and the second `Listen`
    takes the first one's socket over (`reuseUnixSocket`): one socket, two servers of ONE config accepting
    on it. Not a clause of C02 (the address is served, by the running config); reported. The `val` op shows
    it on the real code (counter 2 on one `unixSockets` entry). -/
theorem repeated_check_misses_permission_bits (nw h1 h2 p : String) (m1 m2 : Nat) (hu : isUnixNet nw = true)
    (e1 : splitPerm h1 = some (p, m1)) (e2 : splitPerm h2 = some (p, m2)) (hd : h1 ≠ h2) :
    (NetAddr.mk nw h1 0 0).repeatKey 0 ≠ (NetAddr.mk nw h2 0 0).repeatKey 0 ∧
    (NetAddr.mk nw h1 0 0).bookKey 0 = (NetAddr.mk nw h2 0 0).bookKey 0 := by
  refine ⟨?_, bookKey_ignores_permission_bits nw p h1 h2 m1 m2 hu e1 e2 0 0⟩
  intro h
  apply hd
  simpa [NetAddr.repeatKey, hu] using h

/-- For a protocol set Provision accepted and a server without TLS
    policies, a socket of the entry is bound exactly when h1 is among the protocols. -/
theorem bindsStream_without_tls_iff_h1 (ps : List String) (h : h2WithoutH1 ps = false) :
    bindsStream ps false = ps.contains "h1" := by
  unfold h2WithoutH1 at h
  unfold bindsStream
  cases h1 : ps.contains "h1"
  · -- without h1, Provision let neither h2 nor h2c pass
    rw [h1, Bool.not_false, Bool.true_and, Bool.or_eq_false_iff] at h
    rw [h.1, h.2]; rfl
  · rfl

example : h2WithoutH1 ["h1", "h3"] = false ∧ bindsStream ["h1", "h3"] false = true := by decide

/-- A listen entry whose protocols are h3 only is not bound on
    its stream socket, with or without TLS: a retained listen address whose definition changes to h3 only
    is, for the listener bookkeeping, a dropped address (and is closed after the drain:
    `dropped_address_closed`). -/
theorem h3_only_entry_binds_no_stream_listener (tls : Bool) : bindsStream ["h3"] tls = false := by
  cases tls <;> decide

/-- a `listen_protocols` entry without the placeholder `""` is kept as written -/
theorem normLnProtos_without_placeholder (srv ln : List String) (h : ln.contains "" = false) :
    normLnProtos srv ln = ln := by
  have hm : "" ∉ ln := by simpa using h
  simp only [normLnProtos, h]
  simp only [Bool.false_eq_true, if_false]
  apply List.filter_eq_self.mpr
  intro a ha
  simp only [bne_iff_ne, ne_eq]
  intro e; exact hm (e ▸ ha)

example : normLnProtos ["h1", "h2", "h3"] ["h3", ""] = ["h3", "h1", "h2"] := by decide

/-- (as the code is) an empty `listen_protocols` entry `[]` is stored as nil and behaves like `null`: the
    entry gets the server's protocols -/
theorem empty_listen_protocols_entry_is_null (srv : List String) : effProtos srv (some []) = effProtos srv none := by
  simp [effProtos, normLnProtos]

/-- The only `if` around a `.Listen(` call in `(*App).start` and the
    definitions of its operands, regenerated from /repo on every run. -/
theorem listen_guard_matches_source : Gen.httpListenGuards = listenGuardSite := rfl

/-- The key expression of `Validate`'s map of claimed addresses, its
    lookup and its store with their enclosing loops, regenerated from /repo on every run. -/
theorem repeated_listen_key_matches_source : Gen.httpRepeatedListenKey = repeatKeySite := rfl

end CaddyModel.C02
