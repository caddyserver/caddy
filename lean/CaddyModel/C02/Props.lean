/-
C02 — property theorems.

Statement: while one configuration is replaced by another that keeps a listener address (TCP or unix
socket), that address never stops being served: at every step of the reload a new connection to it is
accepted and answered by either the old or the new configuration, and requests already in flight when
the reload began are completed by the configuration that accepted them.  After the reload has returned
and the old configuration has drained, only the new configuration answers, and an address that the new
configuration dropped is closed.

The theorems about a state quantify over `Reach` — every state of every run of the transition system of
`Model.lean` — and those about a run take it from `init`, from a reachable state or (`one_reload_alive_old_or_new`) from any state: every sequence of loads
(accepted or rejected, identical, modified, listener-set-changing), every number and position of lifecycle
callbacks around the binds and closes (= every app order), every interleaving of the asynchronous listener
closes with the remaining callbacks and with client steps.
Since a prefix of a run is a run (`run_prefix`), "for every reachable state" is "at every lifecycle step".

For two clauses (a dropped unix socket is closed; a config rejected after start does not keep answering)
the code before its repair failed: `Witness.lean` shows on the machine with the old effects that the
theorems here are not vacuous (`…_old_code_fails`).
-/
import CaddyModel.C02.Reload
import CaddyModel.C02.Admin
import CaddyModel.C02.Key
import CaddyModel.Gen.Glue
import CaddyModel.C02.Witness  -- cited in the comments only; Audit.lean and `CaddyModel.lean` reach Witness.lean through this module

namespace CaddyModel.C02

/-! ### never unbound -/

/-- **The running config holds every one of its addresses — in every reachable state.**  New listeners
    are bound before the swap, only configs that are no longer current are ever closed. -/
theorem current_config_holds_its_addresses {s : State} (h : Reach s) {c : Cfg} (hc : s.cur = some c)
    {a : Addr} (ha : a ∈ c.addrs) : s.holds a c.gen = true ∧ 1 ≤ s.holders a := by
  have hh := h.inv.curHolds c hc a ha
  exact ⟨hh, Sock.length_pos_of_holds hh⟩

/-- Start anywhere reachable with a running config that listens on `a`;
    run any steps — any number of reloads, accepted or rejected, in any schedule — in which every config
    loaded keeps `a`.  Then at the end (hence, by `retained_never_unbound_every_prefix`, after every
    prefix) at least one listener is open on `a`: holders ≥ 1. -/
theorem retained_never_unbound {s0 s : State} (h0 : Reach s0) {a : Addr} (hq : KeepInv a s0)
    (steps : List Step) (hk : keeps a steps = true) (hr : run s0 steps = some s) : 1 ≤ s.holders a := by
  obtain ⟨⟨c, hc, hac⟩, _⟩ := KeepInv.run steps hq hk hr
  exact (current_config_holds_its_addresses (h0.run steps hr) hc hac).2

/-- the same at every lifecycle step inside the run (`suf` and its run say only that `pre` is a prefix of a run
    that goes on to `s`) -/
theorem retained_never_unbound_every_prefix {s0 s : State} (h0 : Reach s0) {a : Addr} (hq : KeepInv a s0)
    (steps pre suf : List Step) (hs : steps = pre ++ suf) (hk : keeps a steps = true)
    (s1 : State) (h1 : run s0 pre = some s1) (_ : run s1 suf = some s) : 1 ≤ s1.holders a :=
  retained_never_unbound h0 hq pre (keeps_append_left a pre suf (hs ▸ hk)) h1

/-- … and in the counters the code keeps: `listenerPool` for tcp, the `unixSockets` counter for unix
    sockets, never reach zero for an address of the running config; the socket file exists. -/
theorem retained_usage_count_positive {s : State} (h : Reach s) {c : Cfg} (hc : s.cur = some c)
    {a : Addr} (ha : a ∈ c.addrs) :
    (a.unix = false → 1 ≤ (s.socks a).pool) ∧ (a.unix = true → 1 ≤ (s.socks a).ucnt ∧ (s.socks a).file = true) := by
  have hpos : 1 ≤ (s.socks a).hs.length := (current_config_holds_its_addresses h hc ha).2
  have hb := h.inv.books a
  exact ⟨fun hu => hb.tcpPool hu ▸ hpos,
    fun hu => ⟨hb.ucnt hu ▸ hpos, hb.fileHeld hu (State.holders_pos.mp hpos)⟩⟩

theorem pool_counts_holders {s : State} (h : Reach s) (a : Addr) :
    (a.unix = false → (s.socks a).pool = s.holders a) ∧ (a.unix = true → (s.socks a).ucnt = s.holders a) :=
  ⟨(h.inv.books a).tcpPool, (h.inv.books a).ucnt⟩

/-! ### who answers -/

/-- Whoever answers a connection is the running config, the one being started
    or the one being stopped — in every reachable state. (Before the repair of `reuseUnixSocket` a config
    rejected after start could be left half-started and answer for ever:
    `served_by_old_or_new_old_code_fails` (Witness.lean).) -/
theorem served_by_old_or_new {s : State} (h : Reach s) {a : Addr} {g : Gen}
    (hg : g ∈ servers s a) : alive s g := by
  obtain ⟨c, hc, e, _⟩ := h.owner hg
  exact alive_iff.mpr ⟨c, hc, e⟩

/-- **… and during one reload these are the old and the new config.**  From a state where `old` runs
    and nothing is being loaded or stopped, `begin new` followed by any steps of that one load. -/
theorem one_reload_alive_old_or_new {s0 s : State} {old new : Cfg} (hc : s0.cur = some old)
    (steps : List Step) (ho : oneReload steps = true) (hr : run s0 (.begin new :: steps) = some s)
    {g : Gen} (hg : alive s g) : g = old.gen ∨ g = new.gen := by
  obtain ⟨-, hr⟩ := run_cons hr
  -- no later step brings a config to life: `g` is alive right after the `begin`
  have hg' := run_invariant (Q := fun s => alive s g → alive (eff s0 (.begin new)) g)
    (fun hq ho hs hg => hq (alive_of_step hg ho hs)) steps id ((oneReload_eq_all steps).symm.trans ho) hr hg
  simp only [alive, eff, genOf, hc, Option.map_some, Option.map_none, Option.some.injEq] at hg'
  rcases hg' with e | e | e
  · exact .inl e.symm
  · exact .inr e.symm
  · cases e

/-- **served_by_old_or_new**, client's view: a connection to an address the running config listens on
    is always answered (never refused, never missing, never hanging), and by a config that is alive. -/
theorem connect_current_address_answered {s : State} (h : Reach s) {c : Cfg}
    (hc : s.cur = some c) {a : Addr} (ha : a ∈ c.addrs) :
    connect s a ≠ [] ∧ ∀ o, o ∈ connect s a → ∃ g, o = .answered g ∧ alive s g := by
  have hne := State.holders_pos.mp (current_config_holds_its_addresses h hc ha).2
  rw [h.connect_eq, if_pos hne]
  refine ⟨fun e => hne (List.map_eq_nil_iff.mp (List.map_eq_nil_iff.mp e)), fun o ho => ?_⟩
  obtain ⟨g, hg, rfl⟩ := List.mem_map.mp ho
  exact ⟨g, rfl, served_by_old_or_new h hg⟩

/-! ### after the drain -/

/-- Once the load has returned and the replaced config has
    drained, the running config is the only one that answers on its addresses. -/
theorem after_drain_only_new {s : State} (h : Reach s) (hs : settled s)
    {c : Cfg} (hc : s.cur = some c) {a : Addr} (ha : a ∈ c.addrs) : servers s a = [c.gen] :=
  eq_singleton_of_nodup (h.inv.nodup a) (fun g hg => by
    obtain ⟨c', hc', e, _⟩ := h.owner_settled hs hg
    rw [hc] at hc'; cases hc'; exact e.symm) (h.cur_serves hc ha)

/-- **dropped: nobody answers.**  After the drain no listener is left on an address the running config
    does not listen on (in particular one the new config dropped). -/
theorem dropped_address_has_no_listener {s : State} (h : Reach s) (hs : settled s)
    {a : Addr} (ha : ∀ c, s.cur = some c → a ∉ c.addrs) : servers s a = [] ∧ s.holders a = 0 := by
  have hnil := h.hs_nil_of_dropped hs ha
  exact ⟨List.map_eq_nil_iff.mpr hnil, State.holders_eq_zero.mpr hnil⟩

/-- A dropped address is closed as soon as the replaced config has drained:
    a tcp address and an abstract unix socket refuse connections, a unix socket's file is gone. (Before the repair of
    `unixListener.Close` the unix half failed: `dropped_address_closed_old_code_fails` (Witness.lean).) -/
theorem dropped_address_closed {s : State} (h : Reach s) (hs : settled s)
    {a : Addr} (ha : ∀ c, s.cur = some c → a ∉ c.addrs) : closed s a := by
  unfold closed
  rw [h.connect_eq, if_neg (not_not_intro (h.hs_nil_of_dropped hs ha))]
  split
  · exact .inr rfl
  · exact .inl rfl

/-- **… for every address kind, abstract unix sockets included**: a dropped abstract socket (no file to
    tell by) refuses connections — its last close closes the descriptor caddy kept and forgets the socket,
    so the kernel name is unbound; it does not go on accepting connections nobody serves.
    (`dropped_abstract_socket_kept_open_fails` (Witness.lean): with an early return for abstract names it does.) -/
theorem dropped_abstract_socket_is_refused {s : State} (h : Reach s) (hs : settled s)
    {a : Addr} (hab : a.abstract = true) (ha : ∀ c, s.cur = some c → a ∉ c.addrs) :
    connect s a = [.refused] ∧ (s.socks a).umap = none ∧ (s.socks a).ucnt = 0 := by
  have hnil := h.hs_nil_of_dropped hs ha
  have hu : a.unix = true := by
    unfold Addr.abstract at hab; simp only [Bool.and_eq_true] at hab; exact hab.1
  refine ⟨?_, ((h.inv.books a).umapNone hu).mpr hnil, by rw [(h.inv.books a).ucnt hu, hnil]; rfl⟩
  rw [h.connect_eq, if_neg (not_not_intro hnil), hab, hu]
  rfl

/-- a connection never hangs on a socket nobody serves: no descriptor is leaked -/
theorem connect_never_hangs {s : State} (h : Reach s) (a : Addr) : Conn.hangs ∉ connect s a := by
  rw [h.connect_eq]
  split
  · simp
  · split <;> simp

/-- the whole clause as a spec of one reload, for the drained state it ends in -/
theorem reload_state_meets_spec {s : State} (h : Reach s) (hs : settled s)
    {new : Cfg} (hc : s.cur = some new) : reloadSpec new s := by
  refine ⟨fun a ha => after_drain_only_new h hs hc ha, fun a ha => ?_⟩
  apply dropped_address_closed h hs
  intro c hc'; rw [hc] at hc'; cases hc'; exact ha

/-! ### the unix socket file -/

/-- The unlink before a fresh bind is enabled only when no listener is
    open on that socket … -/
theorem unix_unlink_only_at_zero {s : State} (h : Reach s) {st : Step} {a : Addr}
    (hu : unlinks s st a) : s.holders a = 0 := by
  obtain ⟨_, hux, hm⟩ := hu
  exact State.holders_eq_zero.mpr (((h.inv.books a).umapNone hux).mp hm)

/-- … and in every reachable state the socket file exists exactly as long as a listener is open on the
    socket: no close but the last one removes it, and the last one does. -/
theorem unix_socket_file_iff_held {s : State} (h : Reach s) {a : Addr} (hu : a.unix = true) :
    (s.socks a).file = true ↔ 1 ≤ s.holders a := by
  refine ⟨fun hf => State.holders_pos.mpr fun hl => ?_, fun hh => (h.inv.books a).fileHeld hu (State.holders_pos.mp hh)⟩
  rw [(h.clean a).fileGone hu hl] at hf; cases hf

theorem held_unix_socket_has_file {s : State} (h : Reach s) {a : Addr} (hu : a.unix = true)
    (hh : 1 ≤ s.holders a) : (s.socks a).file = true :=
  (unix_socket_file_iff_held h hu).mpr hh

/-! ### in-flight requests -/

/-- In every run from the initial state: a completed request was
    accepted, and it was completed by the very config that accepted it; and no accepted request is ever
    lost — it is completed or still in flight — whatever reloads, stops and cleanups happen meanwhile. -/
theorem inflight_completed_by_acceptor (steps : List Step) {s : State} (hr : run init steps = some s) :
    (∀ t g, (t, g) ∈ s.done → (t, g) ∈ acceptedOf steps) ∧
    (∀ t g, (t, g) ∈ acceptedOf steps → (t, g) ∈ s.done ∨ (t, g) ∈ s.inflight) := by
  have hm : ∀ p, p ∈ s.done ++ s.inflight ↔ p ∈ acceptedOf steps := fun p => by
    simpa [init] using (tokens_run steps hr).mem_iff (a := p)
  exact ⟨fun t g hd => (hm _).mp (List.mem_append_left _ hd), fun t g ha => List.mem_append.mp ((hm _).mpr ha)⟩

/-- **In-flight requests keep their context across the reload.**  In every run from the initial state —
    every history of reloads, with the context of each replaced config cancelled right after its apps
    were stopped (`cancelCtx`, while requests may still be in flight) — every accepted request is
    completed by the config that accepted it or is still in flight, and none of them has had its own
    context cancelled under it: a request's context descends from the server's base context, not from
    the config's. (`request_context_from_config_context_fails` (Witness.lean): with the other parent it does.) -/
theorem inflight_completed_by_acceptor_with_live_context (steps : List Step) {s : State}
    (hr : run init steps = some s) :
    (∀ t g, (t, g) ∈ s.done → (t, g) ∈ acceptedOf steps) ∧
    (∀ t g, (t, g) ∈ acceptedOf steps → (t, g) ∈ s.done ∨ (t, g) ∈ s.inflight) ∧
    s.ctxLost = [] :=
  ⟨(inflight_completed_by_acceptor steps hr).1, (inflight_completed_by_acceptor steps hr).2,
   (Reach.init.run steps hr).ctxKept⟩

/-- what the model's "a request's context descends from the server's base context" rests on: no
    http.Server of the HTTP app has a `BaseContext` (so the base is `context.Background()`), and every
    `ConnContext` only wraps the context it is given (a value added in `(*App).start`, the registered
    conn-context functions chained in `configureServer`) — none returns a context of its own, such as
    the server's / config's `ctx`. In the notation of the regenerated fact `Gen.httpServerContextFields`. -/
def requestContextParents : List String :=
  ["app.go ConnContext: func returning context.WithValue(ctx,ConnCtxKey,c)",
   "server.go server.ConnContext = func returning f(baseConnContextFunc(ctx,c),c)",
   "server.go server.ConnContext = f"]

/-- `Gen.httpServerContextFields` is regenerated from /repo on every run; a `BaseContext`, or a
    `ConnContext` returning something else, breaks this obligation (second line of defence behind the
    in-flight probes, which produce the failing input). -/
theorem request_context_parents_match_source : Gen.httpServerContextFields = requestContextParents := rfl

theorem accepted_by_a_holder {s : State} {t : Nat} {g : Gen} {a : Addr}
    (he : enabled s (.accept t g a) = true) : g ∈ servers s a :=
  State.holds_iff.mp he

/-! ### the code's own reload, and sequences of them -/

/-- **`reload old new π` is a run of the machine, for every config pair and every schedule**, and it
    ends settled with the new config running: the theorems above therefore speak about every prefix
    of the step list the code executes. -/
theorem reload_is_a_run {s0 : State} (h0 : Reach s0) (hs : settled s0)
    (new : Cfg) (hf : s0.fresh ≤ new.gen) (hnd : new.addrs.Nodup) (π : Sched) :
    ∃ s, run s0 (reloadSteps new s0.cur π) = some s ∧ Reach s ∧ settled s ∧ s.cur = some new := by
  obtain ⟨s, h1, hr1, hp1, hd1, hc1⟩ := reloadSteps_run h0 hs.1 hs.2 new hf hnd π
  exact ⟨s, h1, hr1, ⟨hp1, hd1⟩, hc1⟩

/-- **retained_never_unbound, in the form of the design: ∀ prefix of (reload old new π), holders a ≥ 1**
    for every address both configs listen on — for all configs, all schedules π. -/
theorem reload_never_unbinds_retained {s0 : State} (h0 : Reach s0) (hs : settled s0) {old : Cfg}
    (hc : s0.cur = some old) (new : Cfg) (π : Sched) {a : Addr} (hao : a ∈ old.addrs) (han : a ∈ new.addrs)
    (pre suf : List Step) (hsplit : reloadSteps new (some old) π = pre ++ suf)
    (s1 : State) (h1 : run s0 pre = some s1) : 1 ≤ s1.holders a := by
  have hq : KeepInv a s0 := ⟨⟨old, hc, hao⟩, fun n hn => by rw [h0.inv.idleNext hs.1] at hn; cases hn⟩
  have hk : keeps a pre = true := keeps_append_left a pre suf (hsplit ▸ keeps_reloadSteps han (some old) π)
  exact retained_never_unbound h0 hq pre hk h1

/-- **the reload meets its spec**: after `reload old new π` (any π) exactly the new config answers on
    its addresses and every other address is closed. -/
theorem reload_meets_spec {s0 : State} (h0 : Reach s0) (hs : settled s0)
    (new : Cfg) (hf : s0.fresh ≤ new.gen) (hnd : new.addrs.Nodup) (π : Sched) :
    ∃ s, run s0 (reloadSteps new s0.cur π) = some s ∧ reloadSpec new s := by
  obtain ⟨s, h1, hr1, hs1, hc1⟩ := reload_is_a_run h0 hs new hf hnd π
  exact ⟨s, h1, reload_state_meets_spec hr1 hs1 hc1⟩

/-- **every sequence of reloads** (any configs with increasing generations and duplicate-free address
    lists, any schedule for each reload) is a run from the initial state and ends settled. -/
theorem reload_sequence_is_a_run (cfgs : List (Cfg × Sched)) (hok : okSeq 0 cfgs) :
    ∃ s, run init (reloadSeq none cfgs) = some s ∧ Reach s ∧ settled s := by
  obtain ⟨s, h1, hr, hp, hd⟩ := reloadSeq_run cfgs (s0 := init) Reach.init rfl rfl hok
  exact ⟨s, h1, hr, ⟨hp, hd⟩⟩

def exT0 : Addr := ⟨false, 0⟩
def exU0 : Addr := ⟨true, 0⟩
def exOld : Cfg := ⟨0, [exT0, exU0]⟩
def exNew : Cfg := ⟨1, [exU0, exT0]⟩
def exSched : Sched := ⟨3, 1, 1, 1, 1, 4⟩

/-! ### the admin endpoint: a second client of the same bookkeeping -/

/-- **The running admin server has its listener open — in every reachable state**: the new admin listener
    is bound before the server it replaces is shut down; rejected loads and caddy.Stop do not touch it. -/
theorem admin_listener_never_unbound {s : State} (h : Reach s) {g : Gen} {a : Addr}
    (ha : s.adm = some (g, a)) : (s.asocks a).holds g = true ∧ 1 ≤ (s.asocks a).hs.length := by
  have hh := Sock.holds_iff_mem.mpr (h.ainv.holds g a ha)
  exact ⟨hh, Sock.length_pos_of_holds hh⟩

/-- **A retained admin address is never unbound**: over any run (any number of loads, accepted or
    rejected, caddy.Stop included) in which every admin server that is started listens on `a`, a
    listener is open on `a` in the end — hence after every prefix. -/
theorem admin_retained_never_unbound {s0 s : State} (h0 : Reach s0) {a : Addr} (hq : ∃ g, s0.adm = some (g, a))
    (steps : List Step) (hk : keepsAdmin a steps = true) (hr : run s0 steps = some s) :
    1 ≤ (s.asocks a).hs.length := by
  obtain ⟨g, hg⟩ := keepsAdmin_run steps hq hk hr
  exact (admin_listener_never_unbound (h0.run steps hr) hg).2

/-- whoever answers on an admin address is the running admin server or one that was replaced and whose
    listener is not closed yet -/
theorem admin_served_by_current_or_replaced {s : State} (h : Reach s) {a : Addr} {g : Gen}
    (hg : g ∈ (s.asocks a).gens) : s.adm = some (g, a) ∨ (g, a) ∈ s.admRetired :=
  h.ainv.owner a g hg

/-- once the replaced admin servers have shut down, only the running one answers, on its address only -/
theorem admin_after_drain {s : State} (h : Reach s) (hd : s.admRetired = []) :
    (∀ g a, s.adm = some (g, a) → (s.asocks a).gens = [g]) ∧
    (∀ b, (∀ g, s.adm ≠ some (g, b)) → (s.asocks b).hs = []) := by
  have hi := h.ainv
  have hall : ∀ b g, g ∈ (s.asocks b).gens → s.adm = some (g, b) := fun b g hg =>
    (hi.owner b g hg).resolve_right (by rw [hd]; exact List.not_mem_nil)
  refine ⟨fun g a ha => eq_singleton_of_nodup (hi.nodup a) (fun g' hg' => ?_) (hi.holds g a ha), fun b hb => ?_⟩
  · have := hall a g' hg'
    rw [ha] at this; cases this; rfl
  · exact List.eq_nil_iff_forall_not_mem.mpr fun x hx => hb x.gen (hall b x.gen (mem_gens hx))

/-- (as the code is) a rejected load and caddy.Stop leave the admin endpoint that the load started in place -/
theorem admin_not_rolled_back (s : State) :
    (eff s .reject).adm = s.adm ∧ (eff s .stopAll).adm = s.adm ∧
    (eff s .reject).asocks = s.asocks ∧ (eff s .stopAll).asocks = s.asocks := ⟨rfl, rfl, rfl, rfl⟩

def exM0 : Addr := ⟨false, 10⟩

/-- a load of config 1 on top of config 0, both with the admin endpoint on m0, the old admin server's
    listener closed late -/
def exAdminReload : List Step :=
  [.begin ⟨0, [exT0]⟩, .adminReplace 0 (some exM0), .bind exT0, .swap, .ret,
   .begin ⟨1, [exT0]⟩, .adminReplace 1 (some exM0), .cb .provision 1, .bind exT0, .cb .started 1, .swap, .close 0 exT0, .ret,
   .adminClose 0 exM0]

/-- Shutting the old admin server down before the new listener is bound
    leaves the admin address without a listener; the machine refuses that order (the old server is
    not retired before the new one is started). -/
theorem admin_reorder_breaks_it :
    ((run init (exAdminReload.take 6)).map fun s =>
        ((runUnguarded s [.adminClose 0 exM0]).asocks exM0).hs.length) = some 0 ∧
    ((run init (exAdminReload.take 6)).bind fun s => run s [.adminClose 0 exM0, .adminReplace 1 (some exM0)]) = none ∧
    ((run init exAdminReload).map fun s => ((s.asocks exM0).gens, (s.asocks exM0).pool, s.admRetired)) = some ([1], 1, []) := by
  decide +kernel

/-! ### the usage count the HTTP app's Stop reads (shutdown_delay decision) -/

/-- **At the moment the replaced config is stopped, a tcp address the new config keeps has a usage count
    of at least 2** (the old listener is still open, the new one was bound before the swap): the test
    `ListenerUsage < 2` of `(*App).Stop` does not fire for it — shutdown_delay is not enforced because
    of a listener that stays. -/
theorem retained_tcp_usage_at_least_two_at_stop {s : State} (h : Reach s) {o c : Cfg}
    (hr : s.retiring = some o) (hc : s.cur = some c) {a : Addr} (hu : a.unix = false)
    (hao : s.holds a o.gen = true) (hac : a ∈ c.addrs) : 2 ≤ (s.socks a).pool := by
  have hi := h.inv
  rw [(hi.books a).tcpPool hu, ← List.length_map (f := Handle.gen)]
  -- the old and the new config each have a listener open, and they are two
  refine List.Nodup.length_le_of_subset (l₁ := [o.gen, c.gen]) (by simpa using (hi.curNeRet c o hc hr).symm) fun g hg => ?_
  rcases List.mem_cons.mp hg with rfl | hg
  · exact State.holds_iff.mp hao
  · exact List.mem_singleton.mp hg ▸ h.cur_serves hc hac

/-- … and a tcp address the new config drops has a usage count of exactly 1: the test fires exactly for
    the listeners that are about to close. -/
theorem closing_tcp_usage_is_one_at_stop {s : State} (h : Reach s) {o : Cfg}
    (hr : s.retiring = some o) (hn : s.next = none) {a : Addr} (hu : a.unix = false)
    (hao : s.holds a o.gen = true) (hna : ∀ c, s.cur = some c → a ∉ c.addrs) : (s.socks a).pool = 1 := by
  have hi := h.inv
  rw [(hi.books a).tcpPool hu]
  -- whoever listens is in a slot and lists `a`: that leaves the retiring config
  have := eq_singleton_of_nodup (hi.nodup a) (fun g hg => by
    obtain ⟨c, hc | hc | hc, e, hac⟩ := h.owner hg
    · exact absurd hac (hna c hc)
    · rw [hn] at hc; cases hc
    · rw [hr] at hc; cases hc; exact e.symm) (State.holds_iff.mp hao)
  simpa using congrArg List.length this

/-- **For tcp the decision is exact**: at stop time, `ListenerUsage < 2` for an address of the replaced
    config iff the new config does not keep it. -/
theorem shutdown_delay_decision_exact_for_tcp {s : State} (h : Reach s) {o c : Cfg}
    (hr : s.retiring = some o) (hc : s.cur = some c) (hn : s.next = none) {a : Addr} (hu : a.unix = false)
    (hao : s.holds a o.gen = true) : (s.socks a).pool < 2 ↔ a ∉ c.addrs := by
  constructor
  · intro hlt hac
    have := retained_tcp_usage_at_least_two_at_stop h hr hc hu hao hac
    omega
  · intro hna
    have := closing_tcp_usage_is_one_at_stop h hr hn hu hao (fun c' hc' => by rw [hc] at hc'; cases hc'; exact hna)
    omega

/-- (as the code is) a retained unix socket has a usage count of 1 at stop time — taking the socket over
    does not touch `listenerPool` — so `shutdown_delay` is enforced although the listener stays.
    Observed on the implementation (block field `sd`); not a clause of C02: the address keeps being
    served, by the old config during the delay. -/
theorem retained_unix_usage_is_one_at_stop :
    ((run init ([.begin ⟨0, [exU0]⟩, .bind exU0, .swap, .ret, .begin ⟨1, [exU0]⟩, .bind exU0, .cb .started 1, .swap])).map
      fun s => ((s.socks exU0).pool, (s.socks exU0).ucnt, s.holders exU0, genOf s.retiring)) = some (1, 2, 2, some 0) := by
  decide

-- the hypotheses of the three tcp theorems above, met right after the swap of a reload that keeps t0 and drops u0
example : ((run init (reloadSteps exOld none (.mk 2 0 1 0 0 0) ++
      [.begin ⟨1, [exT0]⟩, .bind exT0, .cb .started 1, .swap])).map
    fun s => (genOf s.retiring, genOf s.cur, genOf s.next)) = some (some 0, some 1, none) := by decide +kernel
example : ((run init (reloadSteps exOld none (.mk 2 0 1 0 0 0) ++
      [.begin ⟨1, [exT0]⟩, .bind exT0, .cb .started 1, .swap])).map
    fun s => (s.holds exT0 0, (s.socks exT0).pool, s.holds exU0 0, (s.socks exU0).pool)) = some (true, 2, true, 1) := by decide +kernel

/-! ### the consumer of the usage count, tied to the source -/

/-- `(*App).Stop` contains exactly one `caddy.ListenerUsage`
    call, with exactly the arguments and enclosing loops that `NetAddr.usageKey` models and that the
    harness's `key` op evaluates on the real code (`exp[0].Network, exp[0].JoinHostPort(0)` of
    `na.Expand()`): regenerated from /repo on every run, so a changed or additional call site breaks
    this obligation instead of silently drifting away from the model. -/
theorem usage_key_expression_matches_source : Gen.listenerUsageCalls = [usageCallSite] := rfl

/-! ### the order matters -/

def exRunning : Option State := run init (reloadSteps exOld none (.mk 2 0 1 0 0 0))

/-- The same effects in the order "stop the old config, then start the new one"
    (the mutation the property names) pass through a state in which a retained address has NO holder —
    and the transition system refuses that order. -/
theorem reorder_breaks_it :
    -- old closes first: t0 is unbound although both configs listen on it
    (exRunning.map fun s => (runUnguarded s ([.begin exNew] ++ [exT0, exU0].map (.close 0))).holders exT0) = some 0 ∧
    (exRunning.map fun s => (runUnguarded s ([.begin exNew] ++ [exT0, exU0].map (.close 0))).holders exU0) = some 0 ∧
    -- the code's order never gets there: the reordered step list is not a run
    (exRunning.bind fun s => run s (reorderedSteps exNew 0 [exT0, exU0])) = none ∧
    -- while the code's own order is one, and keeps a holder throughout
    (exRunning.bind fun s => (run s (reloadSteps exNew (some exOld) exSched)).map fun s' => (s'.holders exT0, s'.holders exU0))
      = some (1, 1) := by
  decide +kernel

/-! ### non-vacuity: the hypotheses are met by concrete non-trivial runs (kernel-evaluated) -/

/-- a two-reload history with a retained tcp and a retained unix address, callbacks in every slot -/
def exHistory : List Step :=
  reloadSteps exOld none (.mk 2 0 1 0 0 0) ++ reloadSteps exNew (some exOld) exSched

-- it is a run and ends settled with the new config running: the hypotheses of
-- `after_drain_only_new`, `dropped_address_has_no_listener`, `reload_state_meets_spec`
example : ((run init exHistory).map fun s => (s.phase, s.drained, s.zombies)) = some (.idle, true, []) := by decide +kernel
example : ((run init exHistory).map fun s => (genOf s.cur, servers s exT0, servers s exU0)) = some (some 1, [1], [1]) := by decide +kernel

-- in the middle of the second reload (after the binds, before the swap) both configs answer:
-- the hypotheses of `served_by_old_or_new` / `connect_current_address_answered` with two alive configs
example : ((run init (reloadSteps exOld none (.mk 2 0 1 0 0 0) ++ [.begin exNew, .cb .provision 1, .bind exU0, .bind exT0])).map
    fun s => (connect s exT0, connect s exU0, (s.socks exT0).pool, (s.socks exU0).pool, (s.socks exU0).ucnt))
    = some ([.answered 0, .answered 1], [.answered 0, .answered 1], 2, 1, 2) := by decide +kernel

-- `keeps` / `KeepInv`: every config of the second reload keeps t0
example : keeps exT0 (reloadSteps exNew (some exOld) exSched) = true := keeps_reloadSteps (by decide) _ _
example : oneReload ((reloadSteps exNew (some exOld) exSched).drop 1) = true := oneReload_reloadSteps_tail _ _ _

-- an asynchronous close: the old listeners are closed only after the load has returned
example : ((run init (reloadSteps exOld none (.mk 2 0 1 0 0 0) ++
      [.begin exNew, .bind exT0, .bind exU0, .cb .started 1, .swap, .cb .stopping 0, .cb .cleanup 0, .ret,
       .close 0 exU0, .close 0 exT0])).map fun s => (s.drained, servers s exT0, (s.socks exU0).pool, (s.socks exU0).ucnt))
    = some (true, [1], 0, 1) := by decide +kernel

-- a rejected reload: the old config keeps answering, alone again after the rejected one is closed
example : ((run init (reloadSteps exOld none (.mk 2 0 1 0 0 0) ++
      [.begin exNew, .bind exT0, .bind exU0, .cb .started 1, .reject, .cb .stopping 1, .close 1 exT0, .close 1 exU0, .ret])).map
    fun s => (genOf s.cur, servers s exT0, servers s exU0))
    = some (some 0, [0], [0]) := by decide +kernel

-- in-flight: accepted by the old config before the reload, completed by it after the old listeners closed
example : ((run init (reloadSteps exOld none (.mk 2 0 1 0 0 0) ++ [.accept 7 0 exT0] ++
      reloadSteps exNew (some exOld) exSched ++ [.complete 7 0])).map fun s => (s.inflight, s.done))
    = some ([], [(7, 0)]) := by decide +kernel
-- the old config's context is cancelled while the request is in flight: the request keeps its context
example : ((run init (reloadSteps exOld none (.mk 2 0 1 0 0 0) ++ [.accept 7 0 exT0,
      .begin exNew, .bind exU0, .bind exT0, .cb .started 1, .swap, .cb .stopping 0, .close 0 exT0, .close 0 exU0,
      .cancelCtx 0, .cb .cleanup 0, .ret, .complete 7 0])).map fun s => (s.cancelled, s.ctxLost, s.done))
    = some ([0], [], [(7, 0)]) := by decide +kernel
-- … and it cannot be completed by the other config
example : (run init (reloadSteps exOld none (.mk 2 0 1 0 0 0) ++ [.accept 7 0 exT0] ++
      reloadSteps exNew (some exOld) exSched ++ [.complete 7 1])).isNone = true := by decide +kernel

-- hypotheses of `reload_is_a_run` / `reload_meets_spec` / `reload_never_unbinds_retained`: a reachable
-- settled state with a running config, a fresh generation for the next config
example : ((run init exHistory).map fun s => (s.fresh, genOf s.cur)) = some (2, some 1) := by decide +kernel
-- a strict prefix of the second reload (`begin`, 3 Provision, 1 Start, 2 binds): after both binds, before the swap,
-- holders = 2 on both addresses
example : ((run init (reloadSteps exOld none (.mk 2 0 1 0 0 0) ++ (reloadSteps exNew (some exOld) exSched).take 7)).map
    fun s => (s.holders exT0, s.holders exU0, genOf s.cur)) = some (2, 2, some 0) := by decide +kernel

-- `okSeq` / `reloadSeq`: a three-config history with a listener-set change
example : okSeq 0 [(exOld, exSched), (exNew, exSched), (⟨5, [exT0]⟩, exSched)] := by
  simp [okSeq, exOld, exNew, exT0, exU0]
example : ((run init (reloadSeq none [(exOld, exSched), (exNew, exSched), (⟨5, [exT0]⟩, exSched)])).map
    fun s => (servers s exT0, servers s exU0, connect s exU0)) = some ([5], [], [.noent]) := by decide +kernel

-- admin: in the middle of the second load both admin servers have their listener open on m0
example : ((run init (exAdminReload.take 8)).map fun s => ((s.asocks exM0).gens, (s.asocks exM0).pool, s.adm, s.admRetired))
    = some ([0, 1], 2, some (1, exM0), [(0, exM0)]) := by decide +kernel
example : keepsAdmin exM0 exAdminReload = true := by decide
-- a rejected load that moves the admin endpoint: the move stays (admin_not_rolled_back)
example : ((run init ([.begin ⟨0, [exT0]⟩, .adminReplace 0 (some exM0), .bind exT0, .swap, .ret,
      .begin ⟨1, [exT0]⟩, .adminReplace 1 none, .bind exT0, .reject, .close 1 exT0, .ret, .adminClose 0 exM0])).map
    fun s => (genOf s.cur, s.adm, (s.asocks exM0).hs.length)) = some (some 0, none, 0) := by decide +kernel

-- `unlinks`: the fresh bind of a unix socket is the unlinking step, and nobody holds it then
example : unlinks init (.bind exU0) exU0 := ⟨rfl, rfl, rfl⟩

end CaddyModel.C02
