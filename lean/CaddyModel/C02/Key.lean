/-
C02 — the glue between a listen address as written in a config and the key under which its listener is
booked: `ParseNetworkAddressWithDefaults` after `SplitNetworkAddress` (listeners.go:322-372),
`internal.SplitUnixSocketPermissionsBits`, `PortRangeSize` / `Expand` / `At` / `JoinHostPort`, the `address`
and `lnKey` of `NetworkAddress.listen` (listeners.go:150-183), the key of `ListenQUIC` (434) and the key the
consumers of `ListenerUsage` derive (modules/caddyhttp/app.go: `addr.JoinHostPort(0)` of `na.Expand()`).
`SplitNetworkAddress` / `net.SplitHostPort` are the byte-level model of C13 (`C13/Listen.lean`,
`splitNetworkAddress`): the driver runs it on the address and checks it against what the real
`SplitNetworkAddress` returned.
-/
namespace CaddyModel.C02

structure NetAddr where
  network : String
  host : String
  startPort : Nat
  endPort : Nat
deriving DecidableEq, Repr

def isUnixNet (n : String) : Bool := n.startsWith "unix"
def isFdNet (n : String) : Bool := n.startsWith "fd"

/-- `strconv.ParseUint(s, base, bits)` for base 8 / 10: digits only, non-empty, below `2^bits` -/
def parseUintChars (base limit : Nat) : List Char → Nat → Option Nat
  | [], acc => some acc
  | c :: rest, acc =>
    if '0' ≤ c ∧ c.toNat < 48 + base then
      (if acc * base + (c.toNat - 48) < limit then parseUintChars base limit rest (acc * base + (c.toNat - 48)) else none)
    else none

def parseUint (base limit : Nat) (s : String) : Option Nat :=
  if s.isEmpty then none else parseUintChars base limit s.toList 0

/-- `internal.SplitUnixSocketPermissionsBits`: (path, mode); `none` = error. Default mode 0200; the
    owner needs the write bit. (Modes ≥ 2^19 would render type letters in `FileMode.String()`: the
    harness does not generate them.) -/
def splitPerm (host : String) : Option (String × Nat) :=
  match host.splitOn "|" with
  | [p] => some (p, 0o200)
  | p :: rest =>
    match parseUint 8 (2 ^ 32) ("|".intercalate rest) with
    | some m => if m / 128 % 2 == 1 then some (p, m) else none
    | none => none
  | [] => none

/-- the port part: `""` → default, `a` or `a-b` with 16-bit decimals, `b ≥ a` -/
def parsePorts (port : String) (dflt : Nat) : Option (Nat × Nat) :=
  if port.isEmpty then some (dflt, dflt) else
  match port.splitOn "-" with
  | [a] => (parseUint 10 65536 a).map fun x => (x, x)
  | a :: rest =>
    match parseUint 10 65536 a, parseUint 10 65536 ("-".intercalate rest) with
    | some x, some y => if y < x then none else some (x, y)
    | _, _ => none
  | [] => none

/-- `ParseNetworkAddressWithDefaults` once the network is known -/
def parseAddrNw (nw host port : String) : Option NetAddr :=
  if isUnixNet nw then
    match splitPerm host with
    | some _ => some ⟨nw, host, 0, 0⟩
    | none => none
  else if isFdNet nw then some ⟨nw, host, 0, 0⟩
  else
    match parsePorts port 0 with
    | some p => some ⟨nw, host, p.1, p.2⟩
    | none => none

/-- `ParseNetworkAddressWithDefaults(addr, "tcp", 0)` given what `SplitNetworkAddress` returned -/
def parseAddr (network host port : String) : Option NetAddr :=
  parseAddrNw (if network.isEmpty then "tcp" else network) host port

def NetAddr.size (na : NetAddr) : Nat := if na.endPort < na.startPort then 0 else na.endPort - na.startPort + 1

/-- `net.JoinHostPort` -/
def joinHostPort (host : String) (port : Nat) : String :=
  if host.contains ':' then "[" ++ host ++ "]:" ++ toString port
  else host ++ ":" ++ toString port

/-- `na.JoinHostPort(offset)` -/
def NetAddr.joinHostPort (na : NetAddr) (off : Nat) : String :=
  if isUnixNet na.network || isFdNet na.network then na.host else C02.joinHostPort na.host (na.startPort + off)

/-- the `address` that `listen` binds (and `reuseUnixSocket` looks up): a unix socket's path without its
    permission bits -/
def NetAddr.bindAddress (na : NetAddr) (off : Nat) : String :=
  if isUnixNet na.network then
    match splitPerm na.host with
    | some (p, _) => p
    | none => na.host
  else na.joinHostPort off

def listenerKey (network addr : String) : String := network ++ "/" ++ addr

/-- the key `listen` books the listener under -/
def NetAddr.bookKey (na : NetAddr) (off : Nat) : String := listenerKey na.network (na.bindAddress off)

/-- the key the HTTP app's Stop asks `ListenerUsage` about for this socket (`na.Expand()`, `JoinHostPort(0)`) -/
def NetAddr.usageKey (na : NetAddr) (off : Nat) : String := listenerKey na.network (na.joinHostPort off)

/-- the call site `usageKey` transliterates, in the notation of the regenerated fact
    `Gen.listenerUsageCalls` (arguments | enclosing range loops): the HTTP app's Stop asks about every
    socket of every address of every server, `na.Expand()` turning a port range into single-port
    addresses, whose `JoinHostPort(0)` is `na.JoinHostPort(off)` of the range.
    `usage_key_expression_matches_source` (Props.lean) ties it to the source; the harness's `key` op
    (harness/internal/c02/key.go) evaluates the same expression on the real `NetworkAddress`. -/
def usageCallSite : String :=
  "addr.Network, addr.JoinHostPort(0) | server in app.Servers; na in server.addresses; addr in na.Expand()"

/-- the key of the shared QUIC listener -/
def NetAddr.quicKey (na : NetAddr) (off : Nat) : String := listenerKey ("quic" ++ na.network) (na.joinHostPort off)

/-- `parseAdminListenAddr`: exactly one socket -/
def adminAddrOk (na : NetAddr) : Bool := na.size == 1

/-! ### what the property needs of this glue -/

/-- the booking key of a unix socket is network and bare path: the key `reuseUnixSocket(network, address)` looks up -/
theorem bookKey_is_bare_path (nw h p : String) (m : Nat) (hu : isUnixNet nw = true) (e : splitPerm h = some (p, m))
    (off : Nat) : (NetAddr.mk nw h 0 0).bookKey off = nw ++ "/" ++ p := by
  simp [NetAddr.bookKey, NetAddr.bindAddress, listenerKey, hu, e]

/-- **… so it does not depend on how the permission bits are written** — the
    listener of `unix//p|0660` and of `unix//p|0620` (or of `unix//p`) is one pool entry, so a reload that
    only changes the bits takes the socket over instead of unlinking it. -/
theorem bookKey_ignores_permission_bits (nw p : String) (h1 h2 : String) (m1 m2 : Nat) (hu : isUnixNet nw = true)
    (e1 : splitPerm h1 = some (p, m1)) (e2 : splitPerm h2 = some (p, m2)) (off1 off2 : Nat) :
    (NetAddr.mk nw h1 0 0).bookKey off1 = (NetAddr.mk nw h2 0 0).bookKey off2 := by
  rw [bookKey_is_bare_path nw h1 p m1 hu e1, bookKey_is_bare_path nw h2 p m2 hu e2]

/-- for everything but a unix socket the address `listen` binds is the address as written -/
theorem plain_spelling_of_not_unix (na : NetAddr) (off : Nat) (h : isUnixNet na.network = false) :
    na.bindAddress off = na.joinHostPort off := by
  simp [NetAddr.bindAddress, h]

/-- … so the consumers of `ListenerUsage` derive the booking key -/
theorem usageKey_eq_bookKey_of_not_unix (na : NetAddr) (h : isUnixNet na.network = false) (off : Nat) :
    na.usageKey off = na.bookKey off :=
  congrArg (listenerKey na.network) (plain_spelling_of_not_unix na off h).symm

/-- **A socket of a port range and the same port written as an address of its own share the booking key**
    (and the usage and QUIC keys): a reload from `h:8080-8081` to `h:8080` keeps that listener, one from
    `h:8080` to the range adds one. This is why the lifecycle machine can work on sockets: the harness
    writes p0, p1 as the range `r0` or singly, the keys are the same. -/
theorem range_socket_key_eq_single (nw h : String) (sp ep off : Nat) :
    (NetAddr.mk nw h sp ep).bookKey off = (NetAddr.mk nw h (sp + off) (sp + off)).bookKey 0 ∧
    (NetAddr.mk nw h sp ep).usageKey off = (NetAddr.mk nw h (sp + off) (sp + off)).usageKey 0 ∧
    (NetAddr.mk nw h sp ep).quicKey off = (NetAddr.mk nw h (sp + off) (sp + off)).quicKey 0 := by
  simp [NetAddr.bookKey, NetAddr.usageKey, NetAddr.quicKey, NetAddr.bindAddress, NetAddr.joinHostPort]

/-- `PortRangeSize` of a range that is not inverted (an inverted one has size 0 by definition) -/
theorem size_eq (na : NetAddr) (h : na.startPort ≤ na.endPort) : na.size = na.endPort - na.startPort + 1 := by
  simp [NetAddr.size, Nat.not_lt.mpr h]

theorem parsePorts_le (port : String) (d : Nat) (p : Nat × Nat) (hp : parsePorts port d = some p) : p.1 ≤ p.2 := by
  revert hp
  fun_cases parsePorts port d
  case case1 => rintro ⟨⟩; exact Nat.le_refl _  -- the default
  case case2 a _ =>  -- a single port
    cases parseUint 10 65536 a with
    | none => exact fun h => nomatch h
    | some x => rintro ⟨⟩; exact Nat.le_refl _
  case case4 hle => rintro ⟨⟩; exact Nat.le_of_not_lt hle  -- a range that is not inverted
  all_goals exact fun h => nomatch h

/-- a parsed address never has an inverted range, so it has at least one socket -/
theorem parseAddr_size_pos (nw host port : String) (na : NetAddr) (h : parseAddrNw nw host port = some na) :
    1 ≤ na.size := by
  revert h
  fun_cases parseAddrNw nw host port
  case case1 | case3 => rintro ⟨⟩; exact Nat.le_refl 1  -- unix, fd: one socket
  case case4 p hp =>
    rintro ⟨⟩
    rw [size_eq _ (parsePorts_le port 0 p hp)]
    exact Nat.le_add_left 1 _
  all_goals exact fun h => nomatch h

/-! ### non-vacuity and the known mismatch -/

example : (NetAddr.mk "tcp" "127.0.0.1" 8080 8082).size = 3 := by decide
example : (NetAddr.mk "tcp" "127.0.0.1" 9 8).size = 0 := by decide
-- (string-level instances — `unix//p|0660`, `[::1]:443`, `90-80` … — are exercised through the driver's
-- `key` op against the real functions: `String.splitOn` does not reduce in the kernel)

/-- (as the code is) for a unix socket written with permission bits the consumers of `ListenerUsage` ask
    about `network/host` with the bits, while the listener is booked under `network/path`: whenever the
    host differs from its path the lookup finds nothing and `shutdown_delay` is enforced although the
    listener stays through the reload. Not a clause of C02 (the address keeps being served); reported. -/
theorem usageKey_vs_bookKey_with_permission_bits (nw h p : String) (m : Nat) (hu : isUnixNet nw = true)
    (e : splitPerm h = some (p, m)) (off : Nat) :
    (NetAddr.mk nw h 0 0).usageKey off = nw ++ "/" ++ h ∧ (NetAddr.mk nw h 0 0).bookKey off = nw ++ "/" ++ p := by
  exact ⟨by simp [NetAddr.usageKey, NetAddr.joinHostPort, listenerKey, hu], bookKey_is_bare_path nw h p m hu e off⟩

end CaddyModel.C02
